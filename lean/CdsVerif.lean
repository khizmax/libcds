-- root of the library: every module, so that `lake build CdsVerif` checks all proofs
import CdsVerif.Algo.Basket.Inv
import CdsVerif.Algo.Basket.Lin
import CdsVerif.Algo.Basket.Model
import CdsVerif.Algo.Basket.StepDeq
import CdsVerif.Algo.Basket.StepEnq
import CdsVerif.Algo.Basket.StepFree
import CdsVerif.Algo.Basket.Steps
import CdsVerif.Algo.Basket.Thread
import CdsVerif.Algo.Bits.Lemmas
import CdsVerif.Algo.Counter.Lemmas
import CdsVerif.Algo.Counter.Model
import CdsVerif.Algo.Cuckoo.Lemmas
import CdsVerif.Algo.Cuckoo.Model
import CdsVerif.Algo.Cuckoo.Ops
import CdsVerif.Algo.Cuckoo.StripedSeq
import CdsVerif.Algo.DHP.Facts
import CdsVerif.Algo.DHP.Inv
import CdsVerif.Algo.DHP.Model
import CdsVerif.Algo.DHP.Replay
import CdsVerif.Algo.Elim.Chain
import CdsVerif.Algo.Elim.Inv
import CdsVerif.Algo.Elim.Lin
import CdsVerif.Algo.Elim.Model
import CdsVerif.Algo.Elim.Protocol
import CdsVerif.Algo.FC.Batch
import CdsVerif.Algo.FC.Kernel
import CdsVerif.Algo.FC.KernelG
import CdsVerif.Algo.FC.KernelGLin
import CdsVerif.Algo.FC.KernelInv
import CdsVerif.Algo.FC.KernelR
import CdsVerif.Algo.FC.KernelRInv
import CdsVerif.Algo.FC.KernelRReach
import CdsVerif.Algo.FC.KernelRStep
import CdsVerif.Algo.FC.KernelRThread
import CdsVerif.Algo.FC.Log
import CdsVerif.Algo.FC.Objects
import CdsVerif.Algo.FC.Thread
import CdsVerif.Algo.Feldman.Facts
import CdsVerif.Algo.Feldman.HarnessCfg
import CdsVerif.Algo.Feldman.Inv
import CdsVerif.Algo.Feldman.Lemmas
import CdsVerif.Algo.Feldman.Lin
import CdsVerif.Algo.Feldman.Log
import CdsVerif.Algo.Feldman.Model
import CdsVerif.Algo.Feldman.Reach
import CdsVerif.Algo.Feldman.Refine
import CdsVerif.Algo.Feldman.StepA
import CdsVerif.Algo.Feldman.StepB
import CdsVerif.Algo.Feldman.StepC
import CdsVerif.Algo.Feldman.StepD
import CdsVerif.Algo.FreeList.Inv
import CdsVerif.Algo.FreeList.Lin
import CdsVerif.Algo.FreeList.Model
import CdsVerif.Algo.HP.Common
import CdsVerif.Algo.HP.Protocol
import CdsVerif.Algo.HP.ProtocolInv
import CdsVerif.Algo.HP.Replay
import CdsVerif.Algo.HP.Scan
import CdsVerif.Algo.HP.ScanLemmas
import CdsVerif.Algo.Iterable.Inv
import CdsVerif.Algo.Iterable.Iter
import CdsVerif.Algo.Iterable.Model
import CdsVerif.Algo.Iterable.Run
import CdsVerif.Algo.Iterable.Sorted
import CdsVerif.Algo.Iterable.Step
import CdsVerif.Algo.Iterable.Step2
import CdsVerif.Algo.Iterable.Step3
import CdsVerif.Algo.Lazy.Hist
import CdsVerif.Algo.Lazy.Inv
import CdsVerif.Algo.Lazy.Lin
import CdsVerif.Algo.Lazy.Model
import CdsVerif.Algo.Lazy.Reach
import CdsVerif.Algo.Lazy.Snap
import CdsVerif.Algo.Lazy.StepWrite
import CdsVerif.Algo.Lazy.Steps
import CdsVerif.Algo.Lazy.Thread
import CdsVerif.Algo.LockArray.Model
import CdsVerif.Algo.MSPQ.All
import CdsVerif.Algo.MSPQ.Cons
import CdsVerif.Algo.MSPQ.Effect
import CdsVerif.Algo.MSPQ.Facts
import CdsVerif.Algo.MSPQ.G
import CdsVerif.Algo.MSPQ.GStep
import CdsVerif.Algo.MSPQ.Inv
import CdsVerif.Algo.MSPQ.Model
import CdsVerif.Algo.MSPQ.NoOverlap
import CdsVerif.Algo.MSPQ.Run
import CdsVerif.Algo.MSPQ.Shape
import CdsVerif.Algo.MSPQ.ShapeStep
import CdsVerif.Algo.MSPQ.Slot
import CdsVerif.Algo.MSPQ.Steps
import CdsVerif.Algo.MSQueue.Common
import CdsVerif.Algo.MSQueue.Inv
import CdsVerif.Algo.MSQueue.Lin
import CdsVerif.Algo.MSQueue.Model
import CdsVerif.Algo.Michael.Effect
import CdsVerif.Algo.Michael.Inv
import CdsVerif.Algo.Michael.Lemmas
import CdsVerif.Algo.Michael.Lin
import CdsVerif.Algo.Michael.Model
import CdsVerif.Algo.Michael.Reach
import CdsVerif.Algo.Michael.Snap
import CdsVerif.Algo.Michael.StepCas
import CdsVerif.Algo.Michael.StepSearch
import CdsVerif.Algo.Michael.Thread
import CdsVerif.Algo.Moir.Inv
import CdsVerif.Algo.Moir.Lin
import CdsVerif.Algo.Moir.Model
import CdsVerif.Algo.Optimistic.Inv
import CdsVerif.Algo.Optimistic.Lin
import CdsVerif.Algo.Optimistic.Model
import CdsVerif.Algo.Optimistic.Steps
import CdsVerif.Algo.Optimistic.Thread
import CdsVerif.Algo.Pool.Inv
import CdsVerif.Algo.Pool.Model
import CdsVerif.Algo.Pool.Step
import CdsVerif.Algo.PoolMonitor.Inv
import CdsVerif.Algo.PoolMonitor.Model
import CdsVerif.Algo.PoolMonitor.Replay
import CdsVerif.Algo.QueueLin.Chain
import CdsVerif.Algo.QueueLin.Ghost
import CdsVerif.Algo.QueueLin.GhostP
import CdsVerif.Algo.QueueLin.History
import CdsVerif.Algo.RCU.Inv
import CdsVerif.Algo.RCU.Model
import CdsVerif.Algo.RWQueue.Inv
import CdsVerif.Algo.RWQueue.Lin
import CdsVerif.Algo.RWQueue.Model
import CdsVerif.Algo.ReentrantSpin.Inv
import CdsVerif.Algo.ReentrantSpin.Model
import CdsVerif.Algo.Ring.Inv
import CdsVerif.Algo.Ring.Lin
import CdsVerif.Algo.Ring.Model
import CdsVerif.Algo.Ring.Void
import CdsVerif.Algo.Segmented.Final
import CdsVerif.Algo.Segmented.Inv
import CdsVerif.Algo.Segmented.InvAll
import CdsVerif.Algo.Segmented.Kinds
import CdsVerif.Algo.Segmented.Model
import CdsVerif.Algo.Segmented.StepCt
import CdsVerif.Algo.Segmented.StepDeq
import CdsVerif.Algo.Segmented.StepEnq
import CdsVerif.Algo.Segmented.StepRh
import CdsVerif.Algo.SkipList.Abs
import CdsVerif.Algo.SkipList.Eff
import CdsVerif.Algo.SkipList.Frozen
import CdsVerif.Algo.SkipList.Inv
import CdsVerif.Algo.SkipList.Level0
import CdsVerif.Algo.SkipList.Lin
import CdsVerif.Algo.SkipList.Model
import CdsVerif.Algo.SkipList.Reach
import CdsVerif.Algo.SkipList.Snap
import CdsVerif.Algo.SkipList.StepBase
import CdsVerif.Algo.SkipList.StepCas
import CdsVerif.Algo.SkipList.StepMisc
import CdsVerif.Algo.SkipList.StepTrav
import CdsVerif.Algo.SkipList.Upd
import CdsVerif.Algo.SkipList.UpperKey
import CdsVerif.Algo.SkipList.UpperSnap
import CdsVerif.Algo.Spin.Model
import CdsVerif.Algo.SplitList.Cfg64
import CdsVerif.Algo.SplitList.Count
import CdsVerif.Algo.SplitList.Inv
import CdsVerif.Algo.SplitList.Lemmas
import CdsVerif.Algo.SplitList.Lin
import CdsVerif.Algo.SplitList.Model
import CdsVerif.Algo.SplitList.Mono
import CdsVerif.Algo.SplitList.Publish
import CdsVerif.Algo.SplitList.Reach
import CdsVerif.Algo.SplitList.Search
import CdsVerif.Algo.SplitList.Snap
import CdsVerif.Algo.SplitList.StepCas
import CdsVerif.Algo.SplitList.StepCount
import CdsVerif.Algo.SplitList.StepInit
import CdsVerif.Algo.SplitList.StepSearch
import CdsVerif.Algo.SplitList.Thread
import CdsVerif.Algo.SplitOrder.Lemmas
import CdsVerif.Algo.Splitter.Lemmas
import CdsVerif.Algo.Splitter.Model
import CdsVerif.Algo.Striped.Inv
import CdsVerif.Algo.Striped.Lemmas
import CdsVerif.Algo.Striped.Lin
import CdsVerif.Algo.Striped.Log
import CdsVerif.Algo.Striped.Model
import CdsVerif.Algo.Striped.Reach
import CdsVerif.Algo.Striped.Replay
import CdsVerif.Algo.Striped.StepA
import CdsVerif.Algo.Striped.StepZ
import CdsVerif.Algo.Striped.Thread
import CdsVerif.Algo.TaggedFreeList.Inv
import CdsVerif.Algo.TaggedFreeList.Lin
import CdsVerif.Algo.TaggedFreeList.Model
import CdsVerif.Algo.Treiber.Inv
import CdsVerif.Algo.Treiber.Lin
import CdsVerif.Algo.Treiber.Model
import CdsVerif.Algo.VoidRing.Inv
import CdsVerif.Algo.VoidRing.Model
import CdsVerif.Algo.VoidRing.Trans
import CdsVerif.Algo.Vyukov.Inv
import CdsVerif.Algo.Vyukov.Lin
import CdsVerif.Algo.Vyukov.Model
import CdsVerif.Base.GhostLog
import CdsVerif.Base.LPLin
import CdsVerif.Base.Lin
import CdsVerif.Base.Locality
import CdsVerif.Base.LocalityMap
import CdsVerif.Base.Machine
import CdsVerif.Base.SeqHistory
import CdsVerif.Base.Snapshot
import CdsVerif.Base.Spec
import CdsVerif.Driver.CuckooEval
import CdsVerif.Driver.FCBatch
import CdsVerif.Driver.LinCheck
import CdsVerif.Driver.Replay
import CdsVerif.Driver.SeqEval
import CdsVerif.Driver.Snapshot
import CdsVerif.Gen.BitReversal
import CdsVerif.Gen.BitopGeneric
import CdsVerif.Gen.Dispatch
import CdsVerif.Gen.Feldman
import CdsVerif.Gen.RingBuffer
import CdsVerif.Gen.SplitOrder
import CdsVerif.Gen.Splitter
import CdsVerif.Props.C01
import CdsVerif.Props.C01Protocol
import CdsVerif.Props.C02
import CdsVerif.Props.C02DHP
import CdsVerif.Props.C03
import CdsVerif.Props.C04
import CdsVerif.Props.C05
import CdsVerif.Props.C06
import CdsVerif.Props.C06Basket
import CdsVerif.Props.C06MSQueue
import CdsVerif.Props.C06Moir
import CdsVerif.Props.C06Optimistic
import CdsVerif.Props.C06RWQueue
import CdsVerif.Props.C07
import CdsVerif.Props.C07Vyukov
import CdsVerif.Props.C08
import CdsVerif.Props.C08Segmented
import CdsVerif.Props.C09
import CdsVerif.Props.C09Elim
import CdsVerif.Props.C09Treiber
import CdsVerif.Props.C10
import CdsVerif.Props.C10FCLin
import CdsVerif.Props.C11
import CdsVerif.Props.C11MSPQ
import CdsVerif.Props.C12
import CdsVerif.Props.C12RingLin
import CdsVerif.Props.C12VoidRing
import CdsVerif.Props.C13
import CdsVerif.Props.C13Lazy
import CdsVerif.Props.C13Michael
import CdsVerif.Props.C14
import CdsVerif.Props.C14Feldman
import CdsVerif.Props.C14SplitList
import CdsVerif.Props.C15
import CdsVerif.Props.C15SkipList
import CdsVerif.Props.C15SkipListUpper
import CdsVerif.Props.C16
import CdsVerif.Props.C16Striped
import CdsVerif.Props.C17
import CdsVerif.Props.C17Cuckoo
import CdsVerif.Props.C18
import CdsVerif.Props.C18Reach
import CdsVerif.Props.C19
import CdsVerif.Props.C19Iterable
import CdsVerif.Props.C20
import CdsVerif.Props.C20Seq
import CdsVerif.Props.C20Seq2
import CdsVerif.Props.C21
import CdsVerif.Props.C21FreeLists
import CdsVerif.Props.C21FreeListsLin
import CdsVerif.Props.C22
import CdsVerif.Props.C22LockArray
import CdsVerif.Props.C22Monitors
import CdsVerif.Props.C22PoolReplay
import CdsVerif.Props.C23
import CdsVerif.Props.C23Batch
import CdsVerif.Props.C23Kernel
import CdsVerif.Props.C23KernelR
import CdsVerif.Props.C24
import CdsVerif.Props.C24Pool
import CdsVerif.Props.C25
import CdsVerif.Props.C25Splitters
import CdsVerif.Props.C26
import CdsVerif.Props.C27
import CdsVerif.Props.C28
