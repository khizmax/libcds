/-
  Structural invariant of the RWQueue (two-lock queue) model, lock discipline and refinement of the abstract queue.

  * `Chain s.next (some s.head) l` : following `next` from `m_Head.ptr` visits exactly the nodes `l` (the first one
    is the current dummy) and then null; `absQueue s` : the values of the nodes strictly after `m_Head.ptr`.
  * Lock discipline: the threads between a successful `try_lock` and the unlocking store of `m_Tail.lock`
    (`holdsT`) are at most one, and then the lock word is set; likewise `m_Head.lock` (`holdsH`).
  * `m_Tail.ptr` is the last node of the chain whenever the tail lock is free or its holder has not linked its node
    yet; between the linking store and the unlock (`enqUnlock n`) the last node is the holder's node `n` and
    `m_Tail.ptr` is stale — it may even have LEFT the chain: a dequeuer can remove the old dummy (the stale
    `m_Tail.ptr`) as soon as the node is linked.  Only the lock holder reads `m_Tail.ptr`, so this is harmless.
  * Linearization points.  `enqueue`: the store `m_Tail.ptr->m_pNext = p`.  Empty `dequeue`: the load of
    `m_Head.ptr->m_pNext` that reads null (the result is definitive: the dequeuer holds the head lock, nobody else
    can move `m_Head.ptr`; an enqueuer may link a node before the dequeuer has unlocked, which is why the
    linearization point is the load and not the unlock).  Non-empty `dequeue`: the step that moves `m_Head.ptr`
    (executed with the unlocking store, see `Model.lean`).
-/
import CdsVerif.Algo.RWQueue.Model
import CdsVerif.Algo.QueueLin.Chain
import CdsVerif.Algo.QueueLin.History
namespace CdsVerif.Algo.RWQueue
open CdsVerif.Machine CdsVerif.Spec CdsVerif.Lin CdsVerif.Algo.QueueLin

def absNodes (s : St) : List Nat := walk s.next s.cnt (some s.head)
def absQueue (s : St) : List Int := (absNodes s).tail.map s.val

/-- The node an enqueuer still owns privately (before the linking store). -/
def enqNode : PC → Option Nat
  | .enqLock n => some n
  | .enqSpin n => some n
  | .enqLink n => some n
  | _ => none

/-- The thread is inside the critical section of `m_Tail.lock`. -/
def holdsT : PC → Bool
  | .enqLink _ => true
  | .enqUnlock _ => true
  | _ => false

/-- The thread is inside the critical section of `m_Head.lock`. -/
def holdsH : PC → Bool
  | .deqRead => true
  | .deqUnlock _ => true
  | _ => false

/-! ### The structural invariant, thread by thread

  The invariant has clauses about the shared memory alone (`MInv`), about the memory and the program counter of ONE
  thread (`TInv`), and about the program counters of TWO threads (`Excl`).  The program counter enters `TInv` through
  classifying functions only, so that the clauses of two program counters with the same classification are the same
  propositions up to computation. -/

/-- The shared memory of a state: everything but the program counters. -/
structure Mem where
  head : Nat
  tail : Nat
  hlock : Bool
  tlock : Bool
  next : Nat → Option Nat
  val : Nat → Int
  cnt : Nat

def St.mem (s : St) : Mem := ⟨s.head, s.tail, s.hlock, s.tlock, s.next, s.val, s.cnt⟩

structure MInv (m : Mem) (l : List Nat) : Prop where
  chain : Chain m.next (some m.head) l
  nodup : l.Nodup
  alloc : ∀ a, a ∈ l → a < m.cnt
  unalloc : ∀ a, m.cnt ≤ a → m.next a = none
  tailfree : m.tlock = false → m.tail ∈ l ∧ m.next m.tail = none

/-- The tail lock is held and the node is not linked yet. -/
def atLink : PC → Bool
  | .enqLink _ => true
  | _ => false

/-- The node that the holder of the tail lock has linked. -/
def linked : PC → Option Nat
  | .enqUnlock n => some n
  | _ => none

/-- The successor of `m_Head.ptr` read by the holder of the head lock. -/
def deqNext : PC → Option Nat
  | .deqUnlock x => x
  | _ => none

theorem holdsT_of_atLink {pc : PC} (h : atLink pc = true) : holdsT pc = true := by
  cases pc <;> first | rfl | cases h

theorem holdsT_of_linked {pc : PC} {n : Nat} (h : linked pc = some n) : holdsT pc = true := by
  cases pc <;> first | rfl | cases h

theorem holdsH_of_deqNext {pc : PC} {x : Nat} (h : deqNext pc = some x) : holdsH pc = true := by
  cases pc <;> first | rfl | cases h

/-- What the invariant says about a thread at program counter `pc`. -/
structure TInv (m : Mem) (l : List Nat) (pc : PC) : Prop where
  priv : ∀ n, enqNode pc = some n → n < m.cnt ∧ m.next n = none ∧ n ∉ l
  tlocked : holdsT pc = true → m.tlock = true
  hlocked : holdsH pc = true → m.hlock = true
  taillink : atLink pc = true → m.tail ∈ l ∧ m.next m.tail = none
  tailu : ∀ n, linked pc = some n → n ∈ l ∧ m.next n = none
  dq : ∀ x, deqNext pc = some x → m.next m.head = some x

/-- Two threads at `p` and `q` do not own the same private node and are not inside the same critical section. -/
structure Excl (p q : PC) : Prop where
  own : ∀ n, enqNode p = some n → enqNode q ≠ some n
  tt : holdsT p = true → holdsT q = true → False
  hh : holdsH p = true → holdsH q = true → False

structure SInvL (s : St) (l : List Nat) : Prop where
  mem : MInv s.mem l
  thread : ∀ t, TInv s.mem l (s.pc t)
  excl : ∀ t u, t ≠ u → Excl (s.pc t) (s.pc u)

def SInv (s : St) : Prop := ∃ l, SInvL s l

theorem SInvL.chain {s : St} {l : List Nat} (h : SInvL s l) : Chain s.next (some s.head) l := h.mem.chain
theorem SInvL.nodup {s : St} {l : List Nat} (h : SInvL s l) : l.Nodup := h.mem.nodup
theorem SInvL.tailfree {s : St} {l : List Nat} (h : SInvL s l) :
    s.tlock = false → s.tail ∈ l ∧ s.next s.tail = none := h.mem.tailfree
theorem SInvL.tlocked {s : St} {l : List Nat} (h : SInvL s l) (t : Tid) : holdsT (s.pc t) = true → s.tlock = true :=
  (h.thread t).tlocked
theorem SInvL.hlocked {s : St} {l : List Nat} (h : SInvL s l) (t : Tid) : holdsH (s.pc t) = true → s.hlock = true :=
  (h.thread t).hlocked
theorem SInvL.tmutex {s : St} {l : List Nat} (h : SInvL s l) (t1 t2 : Tid) :
    holdsT (s.pc t1) = true → holdsT (s.pc t2) = true → t1 = t2 :=
  fun e1 e2 => Classical.byContradiction fun hne => (h.excl t1 t2 hne).tt e1 e2
theorem SInvL.hmutex {s : St} {l : List Nat} (h : SInvL s l) (t1 t2 : Tid) :
    holdsH (s.pc t1) = true → holdsH (s.pc t2) = true → t1 = t2 :=
  fun e1 e2 => Classical.byContradiction fun hne => (h.excl t1 t2 hne).hh e1 e2

theorem SInvL.absNodes_eq {s : St} {l : List Nat} (h : SInvL s l) : absNodes s = l :=
  walk_of_chain h.chain (length_le_of_nodup_lt h.nodup h.mem.alloc)

theorem SInvL.absQueue_eq {s : St} {l : List Nat} (h : SInvL s l) : absQueue s = l.tail.map s.val := by
  simp [absQueue, h.absNodes_eq]

theorem SInvL.head_cons {s : St} {l : List Nat} (h : SInvL s l) : ∃ r, l = s.head :: r := by
  have hc := h.chain
  cases l with
  | nil => simp [Chain] at hc
  | cons a r => simp only [Chain, Option.some.injEq] at hc; exact ⟨r, by rw [hc.1]⟩

theorem TInv.idle {m : Mem} {l : List Nat} : TInv m l .idle :=
  ⟨nofun, nofun, nofun, nofun, nofun, nofun⟩

theorem sinv_init : SInvL init [dummy] where
  mem := ⟨⟨rfl, rfl⟩, List.pairwise_singleton _ _, fun _ ha => List.mem_singleton.mp ha ▸ Nat.zero_lt_one,
    fun _ _ => rfl, fun _ => ⟨List.mem_singleton.mpr rfl, rfl⟩⟩
  thread := fun _ => .idle
  excl := fun _ _ _ => ⟨nofun, nofun, nofun⟩

/-! ### One step of one thread -/

theorem Excl.symm {p q : PC} (h : Excl p q) : Excl q p :=
  ⟨fun n hq hp => h.own n hp hq, fun hq hp => h.tt hp hq, fun hq hp => h.hh hp hq⟩

/-- Exclusion is inherited by a program counter that owns and holds no more. -/
theorem Excl.mono {p p' q : PC} (h : Excl p q) (hown : ∀ n, enqNode p' = some n → enqNode p = some n)
    (ht : holdsT p' = true → holdsT p = true) (hh : holdsH p' = true → holdsH p = true) : Excl p' q :=
  ⟨fun n e => h.own n (hown n e), fun e => h.tt (ht e), fun e => h.hh (hh e)⟩

/-- The rule for one step of thread `t` to the program counter `q`. -/
theorem SInvL.frame {s s' : St} {l l' : List Nat} {t : Tid} {q : PC} (h : SInvL s l)
    (hpc : s'.pc = upd s.pc t q)
    (hM : MInv s'.mem l')
    (hT : TInv s'.mem l' q)
    (hO : ∀ u, u ≠ t → TInv s'.mem l' (s.pc u))
    (hE : ∀ u, u ≠ t → Excl q (s.pc u)) : SInvL s' l' :=
  ⟨hM, hpc ▸ forall_upd hT hO, fun _ _ huv => hpc ▸ pairs_upd @Excl.symm h.excl hE huv⟩

/-- Exclusion of thread `t`, at `p`, against another thread. -/
theorem SInvL.excl_at {s : St} {l : List Nat} {t u : Tid} {p : PC} (h : SInvL s l) (hpc : s.pc t = p)
    (hu : u ≠ t) : Excl p (s.pc u) :=
  hpc ▸ h.excl _ _ (Ne.symm hu)

/-- A step that only moves the program counter of `t` from `p` to a `q` that owns and holds no more. -/
theorem SInvL.move {s : St} {l : List Nat} {t : Tid} {p q : PC} (h : SInvL s l) (hpc : s.pc t = p)
    (hT : TInv s.mem l q) (hown : ∀ n, enqNode q = some n → enqNode p = some n)
    (ht : holdsT q = true → holdsT p = true) (hh : holdsH q = true → holdsH p = true) :
    SInvL { s with pc := upd s.pc t q } l :=
  h.frame (s' := { s with pc := upd s.pc t q }) rfl h.mem hT (fun u _ => h.thread u)
    (fun _ hu => (h.excl_at hpc hu).mono hown ht hh)

theorem TInv.done {m : Mem} {l : List Nat} (r : GRet) : TInv m l (.done r) :=
  ⟨nofun, nofun, nofun, nofun, nofun, nofun⟩

/-- A thread that is finished excludes nobody. -/
theorem Excl.done (r : GRet) (q : PC) : Excl (.done r) q :=
  ⟨nofun, nofun, nofun⟩

/-! ### The tail lock -/

/-- While the tail lock is free no thread is inside its critical section. -/
theorem SInvL.tfree {s : St} {l : List Nat} (h : SInvL s l) (hf : s.tlock = false) (u : Tid) :
    holdsT (s.pc u) = true → False :=
  fun e => Bool.false_ne_true (hf.symm.trans (h.tlocked u e))

/-- The holder of the tail lock links its private node `n` behind the last node. -/
theorem TInv.link {m : Mem} {l : List Nat} {q : PC} (h : TInv m l q) {n : Nat} (hal : m.tail ∈ l)
    (htn : m.next m.tail = none) (hq : enqNode q ≠ some n) (hT : holdsT q = true → False) :
    TInv ⟨m.head, m.tail, m.hlock, m.tlock, upd m.next m.tail (some n), m.val, m.cnt⟩ (l ++ [n]) q where
  priv := fun k e => by
    obtain ⟨h1, h2, h3⟩ := h.priv k e
    have hk : k ≠ m.tail := fun ek => h3 (ek ▸ hal)
    refine ⟨h1, (upd_other _ _ _ _ hk).trans h2, fun hm => ?_⟩
    exact (List.mem_append.mp hm).elim h3 (fun hm' => hq (List.mem_singleton.mp hm' ▸ e))
  tlocked := h.tlocked
  hlocked := h.hlocked
  taillink := fun e => (hT (holdsT_of_atLink e)).elim
  tailu := fun k e => (hT (holdsT_of_linked e)).elim
  dq := fun x e => by
    have hne : m.head ≠ m.tail := fun eh => by
      have := h.dq x e
      rw [eh, htn] at this
      cases this
    exact (upd_other _ _ _ _ hne).trans (h.dq x e)

/-- The holder of the tail lock releases it, having set `m_Tail.ptr`. -/
theorem TInv.unlockT {m : Mem} {l : List Nat} {q : PC} (h : TInv m l q) (hT : holdsT q = true → False)
    {tl : Nat} : TInv ⟨m.head, tl, m.hlock, false, m.next, m.val, m.cnt⟩ l q :=
  { h with
    tlocked := fun e => (hT e).elim
    taillink := fun e => (hT (holdsT_of_atLink e)).elim }

/-! ### The head lock -/

theorem SInvL.hfree {s : St} {l : List Nat} (h : SInvL s l) (hf : s.hlock = false) (u : Tid) :
    holdsH (s.pc u) = true → False :=
  fun e => Bool.false_ne_true (hf.symm.trans (h.hlocked u e))

/-- The holder of the head lock releases it, having set `m_Head.ptr` to `hd`; the chain `l'` from `hd` is the old
    chain or the old chain without its first node, and still contains the last node. -/
theorem TInv.unlockH {m : Mem} {l l' : List Nat} {q : PC} (h : TInv m l q) (hH : holdsH q = true → False)
    {hd : Nat} (hsub : ∀ a, a ∈ l' → a ∈ l) (hlast : ∀ a, a ∈ l → m.next a = none → a ∈ l') :
    TInv ⟨hd, m.tail, false, m.tlock, m.next, m.val, m.cnt⟩ l' q where
  priv := fun k e => ⟨(h.priv k e).1, (h.priv k e).2.1, fun hm => (h.priv k e).2.2 (hsub k hm)⟩
  tlocked := h.tlocked
  hlocked := fun e => (hH e).elim
  taillink := fun e => ⟨hlast _ (h.taillink e).1 (h.taillink e).2, (h.taillink e).2⟩
  tailu := fun k e => ⟨hlast _ (h.tailu k e).1 (h.tailu k e).2, (h.tailu k e).2⟩
  dq := fun _ e => (hH (holdsH_of_deqNext e)).elim

/-- Thread `t`, inside the critical section of the head lock, releases the lock and sets `m_Head.ptr` to `hd`. -/
theorem SInvL.unlockH {s : St} {l l' : List Nat} {t : Tid} {p : PC} {hd : Nat} {r : GRet} (h : SInvL s l)
    (hpc : s.pc t = p) (hp : holdsH p = true) (hch : Chain s.next (some hd) l') (hsl : l'.Sublist l)
    (hlast : ∀ a, a ∈ l → s.next a = none → a ∈ l') :
    SInvL { s with head := hd, hlock := false, pc := upd s.pc t (.done r) } l' :=
  h.frame (s' := { s with head := hd, hlock := false, pc := upd s.pc t (.done r) }) rfl
    { chain := hch
      nodup := hsl.nodup h.nodup
      alloc := fun a ha => h.mem.alloc a (hsl.subset ha)
      unalloc := h.mem.unalloc
      tailfree := fun e => ⟨hlast _ (h.tailfree e).1 (h.tailfree e).2, (h.tailfree e).2⟩ }
    (.done r)
    (fun u hu => (h.thread u).unlockH ((h.excl_at hpc hu).hh hp) (fun _ ha => hsl.subset ha) hlast)
    (fun _ _ => .done r _)

/-! ### Linearization-point bookkeeping on program counters -/

/-- The result of a thread that has passed its linearization point (always for good). -/
def postRet : PC → Option GRet
  | .enqUnlock _ => some [1]
  | .deqUnlock none => some [0]
  | .done r => some r
  | _ => none

/-- The operation a thread is executing, while it has not passed its linearization point. -/
def opOf (val : Nat → Int) : PC → Option GOp
  | .enqLock n => some ⟨"enq", [val n]⟩
  | .enqSpin n => some ⟨"enq", [val n]⟩
  | .enqLink n => some ⟨"enq", [val n]⟩
  | .deqLock => some ⟨"deq", []⟩
  | .deqSpin => some ⟨"deq", []⟩
  | .deqRead => some ⟨"deq", []⟩
  | .deqUnlock (some _) => some ⟨"deq", []⟩
  | _ => none

structure StepEff (s : St) (t : Tid) (s' : St) (l l' : List Nat) : Prop where
  frame : ∀ t2, t2 ≠ t → s'.pc t2 = s.pc t2
  val : s'.val = s.val
  cnt : s'.cnt = s.cnt
  lp : postRet (s.pc t) = none → ∀ r, postRet (s'.pc t) = some r →
        ∃ op, opOf s.val (s.pc t) = some op ∧ fifo.next (l.tail.map s.val) op r = some (l'.tail.map s.val)
  nolp : (postRet (s.pc t) ≠ none ∨ postRet (s'.pc t) = none) → l' = l
  keep : ∀ r, postRet (s.pc t) = some r → postRet (s'.pc t) = some r
  op : postRet (s'.pc t) = none → opOf s'.val (s'.pc t) = opOf s.val (s.pc t)
  emp : postRet (s.pc t) = none → postRet (s'.pc t) = some [0] →
        s.pc t = .deqRead ∧ s.next s.head = none ∧ l = [s.head]

/-- A step of `t` from `p` to `q` with the same linearization status. -/
theorem StepEff.quiet {s s' : St} {t : Tid} {p q : PC} {l : List Nat} (hpc : s.pc t = p)
    (hpc' : s'.pc = upd s.pc t q) (hval : s'.val = s.val) (hcnt : s'.cnt = s.cnt)
    (hpost : postRet q = postRet p) (hop : postRet q = none → opOf s.val q = opOf s.val p) :
    StepEff s t s' l l := by
  have hq : s'.pc t = q := by rw [hpc']; exact upd_same _ _ _
  have hsame : postRet (s'.pc t) = postRet (s.pc t) := by rw [hq, hpc, hpost]
  exact {
    frame := fun u hu => by rw [hpc']; exact upd_other _ _ _ _ hu
    val := hval
    cnt := hcnt
    lp := fun h0 r h1 => by rw [hsame, h0] at h1; cases h1
    nolp := fun _ => rfl
    keep := fun r h0 => hsame.trans h0
    op := fun h0 => by rw [hq, hval, hpc]; exact hop (hq ▸ h0)
    emp := fun h0 h1 => by rw [hsame, h0] at h1; cases h1 }

/-- A step of `t` from `p` to `q` that is the linearization point of `op` with result `r`. -/
theorem StepEff.linearize {s s' : St} {t : Tid} {p q : PC} {l l' : List Nat} {op : GOp} {r : GRet}
    (hpc : s.pc t = p) (hpc' : s'.pc = upd s.pc t q) (hval : s'.val = s.val) (hcnt : s'.cnt = s.cnt)
    (hp : postRet p = none) (hq : postRet q = some r) (hop : opOf s.val p = some op)
    (hfifo : fifo.next (l.tail.map s.val) op r = some (l'.tail.map s.val))
    (hemp : r = [0] → p = .deqRead ∧ s.next s.head = none ∧ l = [s.head]) : StepEff s t s' l l' := by
  have hq' : s'.pc t = q := by rw [hpc']; exact upd_same _ _ _
  have hr : ∀ r', postRet (s'.pc t) = some r' → r' = r := fun r' e =>
    Option.some.inj (e.symm.trans (hq' ▸ hq))
  exact {
    frame := fun u hu => by rw [hpc']; exact upd_other _ _ _ _ hu
    val := hval
    cnt := hcnt
    lp := fun _ r' h1 => ⟨op, hpc ▸ hop, hr r' h1 ▸ hfifo⟩
    nolp := fun h0 => by
      rw [hpc, hq', hp, hq] at h0
      exact h0.elim (fun e => absurd rfl e) nofun
    keep := fun r' h0 => by rw [hpc, hp] at h0; cases h0
    op := fun h0 => by rw [hq', hq] at h0; cases h0
    emp := fun _ h1 => hpc ▸ hemp (hr _ h1).symm }

/-- A step that only moves the program counter of `t` and keeps its linearization status. -/
theorem SInvL.quiet_move {s : St} {l : List Nat} {t : Tid} {p q : PC} (h : SInvL s l) (hpc : s.pc t = p)
    (hT : TInv s.mem l q) (hown : ∀ n, enqNode q = some n → enqNode p = some n)
    (ht : holdsT q = true → holdsT p = true) (hh : holdsH q = true → holdsH p = true)
    (hpost : postRet q = postRet p) (hop : postRet q = none → opOf s.val q = opOf s.val p) :
    ∃ l', SInvL { s with pc := upd s.pc t q } l' ∧ StepEff s t { s with pc := upd s.pc t q } l l' :=
  ⟨l, h.move hpc hT hown ht hh, .quiet hpc rfl rfl rfl hpost hop⟩

/-! ### Preservation: steps -/

theorem sinvl_step {s s' : St} {t : Tid} {ev : Ev} {l : List Nat}
    (h : SInvL s l) (hs : step s t = some (s', ev)) : ∃ l', SInvL s' l' ∧ StepEff s t s' l l' := by
  have hT := h.thread t
  cases hpc : s.pc t with
    (rw [hpc] at hT
     simp only [step, hpc] at hs)
  | idle | done r => cases hs
  | enqLock n =>
    split at hs
    next heq =>
      obtain ⟨rfl, -⟩ := Prod.mk.inj (Option.some.inj hs)
      exact h.quiet_move hpc { hT with } (fun _ e => e) nofun nofun rfl (fun _ => rfl)
    next hne =>
      obtain ⟨rfl, -⟩ := Prod.mk.inj (Option.some.inj hs)
      have hfree : s.tlock = false := Bool.eq_false_iff.mpr hne
      exact ⟨l,
        h.frame (s' := { s with tlock := true, pc := upd s.pc t (.enqLink n) }) rfl
          { h.mem with tailfree := nofun }
          { hT with tlocked := fun _ => rfl, taillink := fun _ => h.tailfree hfree }
          (fun u _ => { h.thread u with tlocked := fun _ => rfl })
          (fun u hu => ⟨(h.excl_at hpc hu).own, fun _ => h.tfree hfree u, nofun⟩),
        .quiet hpc rfl rfl rfl rfl (fun _ => rfl)⟩
  | enqSpin n =>
    split at hs
    all_goals
      obtain ⟨rfl, -⟩ := Prod.mk.inj (Option.some.inj hs)
      exact h.quiet_move hpc { hT with } (fun _ e => e) nofun nofun rfl (fun _ => rfl)
  | enqLink n =>
    obtain ⟨rfl, -⟩ := Prod.mk.inj (Option.some.inj hs)
    obtain ⟨hnc, hnn, hnl⟩ := hT.priv n rfl
    obtain ⟨hal, htn⟩ : s.tail ∈ l ∧ s.next s.tail = none := hT.taillink rfl
    have hlk : s.tlock = true := hT.tlocked rfl
    have hna : n ≠ s.tail := fun e => hnl (e ▸ hal)
    have hM : MInv ⟨s.head, s.tail, s.hlock, s.tlock, upd s.next s.tail (some n), s.val, s.cnt⟩ (l ++ [n]) := {
      chain := Chain.snoc hnn h.chain hal htn hnl
      nodup := List.nodup_append.mpr
        ⟨h.nodup, List.pairwise_singleton _ n, fun x hx y hy e => hnl (List.mem_singleton.mp hy ▸ e ▸ hx)⟩
      alloc := fun a ha => (List.mem_append.mp ha).elim (fun ha' => h.mem.alloc a ha')
        (fun ha' => List.mem_singleton.mp ha' ▸ hnc)
      unalloc := fun a ha => by
        have hne : a ≠ s.tail := fun e => Nat.lt_irrefl _ (Nat.lt_of_lt_of_le (e ▸ h.mem.alloc s.tail hal) ha)
        exact (upd_other _ _ _ _ hne).trans (h.mem.unalloc a ha)
      tailfree := fun e => absurd (hlk.symm.trans e) nofun }
    obtain ⟨r0, hr0⟩ := h.head_cons
    have hlp : fifo.next (l.tail.map s.val) ⟨"enq", [s.val n]⟩ [1] = some ((l ++ [n]).tail.map s.val) := by
      rw [hr0]; simp [fifo_enq]
    exact ⟨l ++ [n],
      h.frame (s' := { s with next := upd s.next s.tail (some n), pc := upd s.pc t (.enqUnlock n) }) rfl hM
        { priv := nofun
          tlocked := fun _ => hlk
          hlocked := nofun
          taillink := nofun
          tailu := fun k e => by
            cases e
            exact ⟨List.mem_append_right _ (List.mem_singleton.mpr rfl), (upd_other _ _ _ _ hna).trans hnn⟩
          dq := nofun }
        (fun u hu => (h.thread u).link hal htn ((h.excl_at hpc hu).own n rfl) ((h.excl_at hpc hu).tt rfl))
        (fun u hu => ⟨nofun, (h.excl_at hpc hu).tt, nofun⟩),
      .linearize hpc rfl rfl rfl rfl rfl rfl hlp (fun e => by simp at e)⟩
  | enqUnlock n =>
    obtain ⟨rfl, -⟩ := Prod.mk.inj (Option.some.inj hs)
    exact ⟨l,
      h.frame (s' := { s with tail := n, tlock := false, pc := upd s.pc t (.done [1]) }) rfl
        { h.mem with tailfree := fun _ => hT.tailu n rfl }
        (.done _)
        (fun u hu => (h.thread u).unlockT ((h.excl_at hpc hu).tt rfl))
        (fun u _ => .done _ _),
      .quiet hpc rfl rfl rfl rfl nofun⟩
  | deqLock =>
    split at hs
    next heq =>
      obtain ⟨rfl, -⟩ := Prod.mk.inj (Option.some.inj hs)
      exact h.quiet_move hpc { hT with } nofun nofun nofun rfl (fun _ => rfl)
    next hne =>
      obtain ⟨rfl, -⟩ := Prod.mk.inj (Option.some.inj hs)
      have hfree : s.hlock = false := Bool.eq_false_iff.mpr hne
      exact ⟨l,
        h.frame (s' := { s with hlock := true, pc := upd s.pc t .deqRead }) rfl
          { h.mem with }
          { hT with hlocked := fun _ => rfl }
          (fun u _ => { h.thread u with hlocked := fun _ => rfl })
          (fun u _ => ⟨nofun, nofun, fun _ => h.hfree hfree u⟩),
        .quiet hpc rfl rfl rfl rfl (fun _ => rfl)⟩
  | deqSpin =>
    split at hs
    all_goals
      obtain ⟨rfl, -⟩ := Prod.mk.inj (Option.some.inj hs)
      exact h.quiet_move hpc { hT with } nofun nofun nofun rfl (fun _ => rfl)
  | deqRead =>
    obtain ⟨rfl, -⟩ := Prod.mk.inj (Option.some.inj hs)
    have hmove := h.move (q := .deqUnlock (s.next s.head)) hpc { hT with dq := fun x e => e } nofun nofun (fun _ => rfl)
    cases hnx : s.next s.head with
    | none =>
      -- the queue is empty at this instant
      rw [hnx] at hmove
      obtain ⟨r0, hr0⟩ := h.head_cons
      have hl1 : l = [s.head] := by
        have hch := h.chain
        rw [hr0] at hch
        have hnil : r0 = [] := Chain.none_nil (hnx ▸ hch.2 : Chain s.next none r0)
        rw [hr0, hnil]
      exact ⟨l, hmove,
        .linearize hpc rfl rfl rfl rfl rfl rfl (hl1 ▸ fifo_deq_none) (fun _ => ⟨rfl, hnx, hl1⟩)⟩
    | some x =>
      rw [hnx] at hmove
      exact ⟨l, hmove, .quiet hpc rfl rfl rfl rfl (fun _ => rfl)⟩
  | deqUnlock x =>
    cases x with
    | none =>
      obtain ⟨rfl, -⟩ := Prod.mk.inj (Option.some.inj hs)
      exact ⟨l, h.unlockH hpc rfl h.chain (List.Sublist.refl l) (fun _ ha _ => ha), .quiet hpc rfl rfl rfl rfl nofun⟩
    | some x =>
      have hax : s.next s.head = some x := hT.dq x rfl
      obtain ⟨rfl, -⟩ := Prod.mk.inj (Option.some.inj hs)
      obtain ⟨r0, hr0⟩ := h.head_cons
      have hch : Chain s.next (some x) r0 := by
        have := h.chain
        rw [hr0] at this
        exact hax ▸ this.2
      -- the chain from the old dummy goes on with `x`, the new dummy
      obtain ⟨r1, hr1⟩ : ∃ r1, r0 = x :: r1 := by
        cases r0 with
        | nil => cases hch
        | cons b r1 => exact ⟨r1, by rw [Option.some.inj hch.1]⟩
      have hlp : fifo.next (l.tail.map s.val) ⟨"deq", []⟩ [1, s.val x] = some (r0.tail.map s.val) := by
        rw [hr0, hr1]; exact fifo_deq_some _ _
      exact ⟨r0,
        h.unlockH hpc rfl hch (hr0 ▸ List.sublist_cons_self _ _)
          (fun a ha hn => by
            rw [hr0] at ha
            exact (List.mem_cons.mp ha).resolve_left (fun e => by rw [e, hax] at hn; cases hn)),
        .linearize hpc rfl rfl rfl rfl rfl rfl hlp (fun e => by simp at e)⟩

/-! ### Preservation: invocation and return -/

structure InvokeEff (s : St) (t : Tid) (op : GOp) (s' : St) (l : List Nat) : Prop where
  frame : ∀ t2, t2 ≠ t → s'.pc t2 = s.pc t2
  ops : ∀ t2, t2 ≠ t → opOf s'.val (s.pc t2) = opOf s.val (s.pc t2)
  was : s.pc t = .idle
  now : opOf s'.val (s'.pc t) = some op ∧ postRet (s'.pc t) = none
  abs : l.tail.map s'.val = l.tail.map s.val

/-- `opOf` reads the value of the thread's private node only. -/
theorem opOf_congr {val val' : Nat → Int} {pc : PC} (hv : ∀ n, enqNode pc = some n → val' n = val n) :
    opOf val' pc = opOf val pc := by
  cases pc with
  | enqLock n | enqSpin n | enqLink n => exact congrArg (fun x => some (GOp.mk "enq" [x])) (hv n rfl)
  | deqUnlock x => cases x <;> rfl
  | _ => rfl

theorem sinvl_invoke {s s' : St} {t : Tid} {op : GOp} {l : List Nat}
    (h : SInvL s l) (hs : invoke s t op = some s') : SInvL s' l ∧ InvokeEff s t op s' l := by
  obtain ⟨name, args⟩ := op
  unfold invoke at hs
  split at hs
  next v hpc hname hargs =>
    obtain rfl := Option.some.inj hs
    dsimp only at hname hargs
    subst hname hargs
    -- the value of the fresh node `s.cnt` is written; no thread owns it and it is not in the chain
    have hold : ∀ a, a < s.cnt → upd s.val s.cnt v a = s.val a := fun a ha => upd_other _ _ _ _ (Nat.ne_of_lt ha)
    exact ⟨
      h.frame (s' := { s with val := upd s.val s.cnt v, cnt := s.cnt + 1, pc := upd s.pc t (.enqLock s.cnt) }) rfl
        { h.mem with
          alloc := fun a ha => Nat.lt_succ_of_lt (h.mem.alloc a ha)
          unalloc := fun a ha => h.mem.unalloc a (Nat.le_of_succ_le ha) }
        { priv := fun n e => by
            cases e
            exact ⟨Nat.lt_succ_self _, h.mem.unalloc _ (Nat.le_refl _), fun hm => Nat.lt_irrefl _ (h.mem.alloc _ hm)⟩
          tlocked := nofun
          hlocked := nofun
          taillink := nofun
          tailu := nofun
          dq := nofun }
        (fun u _ =>
          { h.thread u with
            priv := fun n e => ⟨Nat.lt_succ_of_lt ((h.thread u).priv n e).1, ((h.thread u).priv n e).2⟩ })
        (fun u _ => ⟨fun n e e' => by cases e; exact Nat.lt_irrefl _ ((h.thread u).priv _ e').1, nofun, nofun⟩),
      { frame := fun u hu => upd_other _ _ _ _ hu
        ops := fun u _ => opOf_congr (fun n e => hold n ((h.thread u).priv n e).1)
        was := hpc
        now := by simp [upd, opOf, postRet]
        abs := List.map_congr_left fun a ha => hold a (h.mem.alloc a (List.mem_of_mem_tail ha)) }⟩
  next hpc hname hargs =>
    obtain rfl := Option.some.inj hs
    dsimp only at hname hargs
    subst hname hargs
    exact ⟨h.move hpc ⟨nofun, nofun, nofun, nofun, nofun, nofun⟩ nofun nofun nofun,
      { frame := fun u hu => upd_other _ _ _ _ hu
        ops := fun _ _ => rfl
        was := hpc
        now := by simp [upd, opOf, postRet]
        abs := rfl }⟩
  next => cases hs

theorem sinvl_result {s s' : St} {t : Tid} {r : GRet} {l : List Nat}
    (h : SInvL s l) (hs : result s t = some (s', r)) :
    SInvL s' l ∧ s.pc t = .done r ∧ s'.pc t = .idle ∧ (∀ t2, t2 ≠ t → s'.pc t2 = s.pc t2) ∧ s'.val = s.val := by
  unfold result at hs
  split at hs
  next r' hpc =>
    obtain ⟨rfl, rfl⟩ := Prod.mk.inj (Option.some.inj hs)
    exact ⟨h.move hpc .idle nofun nofun nofun, hpc, upd_same _ _ _,
      fun u hu => upd_other _ _ _ _ hu, rfl⟩
  next => cases hs

end CdsVerif.Algo.RWQueue
