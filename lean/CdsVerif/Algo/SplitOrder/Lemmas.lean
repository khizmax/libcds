/-
Split-ordered list key arithmetic (property C27), over an ABSTRACT 64-bit bit
reversal `rev` (hypothesis `hrev : ∀ x, rev x = x.reverse`) and an ABSTRACT
"index of most significant set bit" `msbnz` (hypothesis
`hmsb : ∀ b, b ≠ 0 → (msbnz b).toNat = Nat.log2 b.toNat`).

Nothing here mentions the generated code; `CdsVerif.Props.C27` instantiates these
lemmas with the generated `swar64` / `lookup64` / `muldiv_op64` / `msb64nz`.
-/
namespace CdsVerif.Algo.SplitOrder

/-! ## Bit-level facts about `BitVec.reverse` at width 64 -/

theorem rev_bit (x : BitVec 64) (i : Nat) (h : i < 64) :
    x.reverse.getLsbD i = x.getLsbD (63 - i) := by
  rw [BitVec.getLsbD_reverse, BitVec.getMsbD_eq_getLsbD]; simp [h]

theorem rev_injective {x y : BitVec 64} (h : x.reverse = y.reverse) : x = y := by
  have := congrArg BitVec.reverse h
  simpa using this

theorem one_shl_toNat (j : Nat) (hj : j < 64) : (1#64 <<< j).toNat = 2 ^ j := by
  rw [← BitVec.twoPow_eq, BitVec.toNat_twoPow_of_lt hj]

theorem one_shl_bit (j i : Nat) (hj : j < 64) : (1#64 <<< j).getLsbD i = decide (j = i) := by
  rw [← BitVec.twoPow_eq, BitVec.getLsbD_twoPow]; simp [hj]

/-- clearing a set bit `j` subtracts `2^j` -/
theorem toNat_clear_bit (x : BitVec 64) (j : Nat) (hj : j < 64) (hx : x.getLsbD j = true) :
    (x &&& ~~~(1#64 <<< j)).toNat + 2 ^ j = x.toNat := by
  have hdis : (x &&& ~~~(1#64 <<< j)) &&& (1#64 <<< j) = 0#64 := by
    apply BitVec.eq_of_getLsbD_eq; intro i hi
    simp only [BitVec.getLsbD_and, BitVec.getLsbD_not, one_shl_bit j i hj, BitVec.getLsbD_zero]
    by_cases h : j = i <;> simp [h]
  have hsum : (x &&& ~~~(1#64 <<< j)) + (1#64 <<< j) = x := by
    rw [BitVec.add_eq_or_of_and_eq_zero _ _ hdis]
    apply BitVec.eq_of_getLsbD_eq; intro i hi
    simp only [BitVec.getLsbD_or, BitVec.getLsbD_and, BitVec.getLsbD_not, one_shl_bit j i hj]
    by_cases h : j = i
    · subst h; simp [hx]
    · simp [h, hi]
  have := BitVec.toNat_add_of_and_eq_zero hdis
  rw [hsum, one_shl_toNat j hj] at this
  omega

/-- reversal commutes with clearing a bit (bit `j` goes to bit `63 - j`) -/
theorem rev_clear_bit (x : BitVec 64) (j : Nat) (hj : j < 64) :
    (x &&& ~~~(1#64 <<< j)).reverse = x.reverse &&& ~~~(1#64 <<< (63 - j)) := by
  apply BitVec.eq_of_getLsbD_eq; intro i hi
  rw [rev_bit _ _ hi]
  simp only [BitVec.getLsbD_and, BitVec.getLsbD_not, one_shl_bit j _ hj,
    one_shl_bit (63 - j) i (by omega), rev_bit _ _ hi]
  have : (j = 63 - i) ↔ (63 - j = i) := by omega
  have h63 : 63 - i < 64 := by omega
  simp [this, h63, hi]

theorem rev_toNat_clear_bit (x : BitVec 64) (j : Nat) (hj : j < 64) (hx : x.getLsbD j = true) :
    (x &&& ~~~(1#64 <<< j)).reverse.toNat + 2 ^ (63 - j) = x.reverse.toNat := by
  rw [rev_clear_bit x j hj]
  apply toNat_clear_bit _ _ (by omega)
  rw [rev_bit _ _ (by omega)]
  rw [show 63 - (63 - j) = j by omega]; exact hx

/-- low-`k`-bit mask -/
theorem mask_toNat (h : BitVec 64) (k : Nat) (hk : k < 64) :
    (h &&& ((1#64 <<< k) - 1#64)).toNat = h.toNat % 2 ^ k := by
  have h1 : ((1#64 <<< k) - 1#64).toNat = 2 ^ k - 1 := by
    rw [BitVec.toNat_sub_of_le, one_shl_toNat k hk]; rfl
    rw [BitVec.le_def, one_shl_toNat k hk]
    have := Nat.two_pow_pos k
    simp; omega
  rw [BitVec.toNat_and, h1, Nat.and_two_pow_sub_one_eq_mod]

/-- Reversing the low `k` bits of `h` gives the top `k` bits of `reverse h`, the rest zero. -/
theorem rev_mod (h b : BitVec 64) (k : Nat) (hk : k ≤ 64) (hb : b.toNat = h.toNat % 2 ^ k) :
    b.reverse.toNat = h.reverse.toNat / 2 ^ (64 - k) * 2 ^ (64 - k) := by
  have hbit : ∀ i, b.getLsbD i = (decide (i < k) && h.getLsbD i) := by
    intro i
    rw [← BitVec.testBit_toNat, hb, Nat.testBit_mod_two_pow, BitVec.testBit_toNat]
  have heq : b.reverse = (h.reverse >>> (64 - k)) <<< (64 - k) := by
    apply BitVec.eq_of_getLsbD_eq; intro i hi
    rw [rev_bit _ _ hi, hbit]
    simp only [BitVec.getLsbD_shiftLeft, BitVec.getLsbD_ushiftRight]
    by_cases hik : i < 64 - k
    · have : ¬ (63 - i < k) := by omega
      simp [hik, this]
    · have h1 : 63 - i < k := by omega
      have h2 : 64 - k + (i - (64 - k)) = i := by omega
      simp only [hik, h1, hi, h2, decide_true, decide_false, Bool.not_false, Bool.true_and]
      rw [rev_bit _ _ hi]
  rw [heq, BitVec.toNat_shiftLeft, BitVec.toNat_ushiftRight, Nat.shiftRight_eq_div_pow,
    Nat.shiftLeft_eq]
  apply Nat.mod_eq_of_lt
  have := Nat.div_mul_le_self h.reverse.toNat (2 ^ (64 - k))
  have := h.reverse.isLt
  omega

/-- For a bucket number `b < 2^k`, `reverse b` is a multiple of `2^(64-k)`. -/
theorem rev_lt (b : BitVec 64) (k : Nat) (hk : k ≤ 64) (hb : b.toNat < 2 ^ k) :
    b.reverse.toNat = b.reverse.toNat / 2 ^ (64 - k) * 2 ^ (64 - k) :=
  rev_mod b b k hk (Nat.mod_eq_of_lt hb).symm

/-- setting bit 0 -/
theorem or_one_toNat (x : BitVec 64) : (x ||| 1#64).toNat = 2 * (x.toNat / 2) + 1 := by
  have h1 : x ||| 1#64 = ((x >>> 1) <<< 1) + 1#64 := by
    rw [BitVec.add_eq_or_of_and_eq_zero]
    · apply BitVec.eq_of_getLsbD_eq; intro i hi
      simp only [BitVec.getLsbD_or, BitVec.getLsbD_one, BitVec.getLsbD_shiftLeft,
        BitVec.getLsbD_ushiftRight]
      by_cases h : i = 0
      · simp [h]
      · have : 1 + (i - 1) = i := by omega
        have : ¬ i < 1 := by omega
        simp [*]
    · apply BitVec.eq_of_getLsbD_eq; intro i hi
      simp only [BitVec.getLsbD_and, BitVec.getLsbD_one, BitVec.getLsbD_shiftLeft,
        BitVec.getLsbD_zero]
      by_cases h : i = 0 <;> simp [h]
  rw [h1]
  bv_omega

/-- clearing bit 0 -/
theorem and_not_one_toNat (x : BitVec 64) : (x &&& ~~~(1#64)).toNat = 2 * (x.toNat / 2) := by
  have h1 : x &&& ~~~(1#64) = ((x >>> 1) <<< 1) := by
    apply BitVec.eq_of_getLsbD_eq; intro i hi
    simp only [BitVec.getLsbD_and, BitVec.getLsbD_not, BitVec.getLsbD_one,
      BitVec.getLsbD_shiftLeft, BitVec.getLsbD_ushiftRight]
    by_cases h : i = 0
    · simp [h]
    · have : 1 + (i - 1) = i := by omega
      have : ¬ i < 1 := by omega
      simp [*]
  rw [h1]
  bv_omega

/-! ## Pure `Nat` arithmetic on blocks of size `M = 2 * M'` -/

theorem pow_block (k : Nat) (hk : k ≤ 63) : 2 ^ (64 - k) = 2 * 2 ^ (63 - k) := by
  rw [show 64 - k = (63 - k) + 1 by omega, Nat.pow_succ, Nat.mul_comm]

/-- `R` lies in block `q`; a multiple `q' * M` above `q * M` is above `R ||| 1`. -/
theorem nat_contig (R M' q q' : Nat) (h2 : R < (q + 1) * (2 * M'))
    (hlt : q * (2 * M') < q' * (2 * M')) : 2 * (R / 2) + 1 < q' * (2 * M') := by
  have hq : q < q' := Nat.lt_of_mul_lt_mul_right hlt
  have hle : (q + 1) * (2 * M') ≤ q' * (2 * M') := Nat.mul_le_mul_right _ hq
  have e : (q + 1) * (2 * M') = 2 * ((q + 1) * M') := by rw [Nat.mul_left_comm]
  omega

/-- the half-way point of block `q` is strictly inside the block -/
theorem nat_between (M' q q' : Nat) (hM : 0 < M')
    (hlt : q * (2 * M') < q' * (2 * M')) :
    q * (2 * M') < q * (2 * M') + M' ∧ q * (2 * M') + M' < q' * (2 * M') := by
  have hq : q < q' := Nat.lt_of_mul_lt_mul_right hlt
  have hle : (q + 1) * (2 * M') ≤ q' * (2 * M') := Nat.mul_le_mul_right _ hq
  rw [Nat.add_mul] at hle
  omega

/-! ## The split-order key functions over an abstract reversal / msb -/

/-- `split_list::regular_hash` : reversed hash with the least significant bit set -/
def regularKey (rev : BitVec 64 → BitVec 64) (h : BitVec 64) : BitVec 64 := rev h ||| 1#64
/-- `split_list::dummy_hash` : reversed bucket number with the least significant bit cleared -/
def dummyKey (rev : BitVec 64 → BitVec 64) (b : BitVec 64) : BitVec 64 := rev b &&& ~~~(1#64)
/-- `SplitListSet::parent_bucket` : clear the most significant set bit -/
def parentOf (msbnz : BitVec 64 → BitVec 32) (b : BitVec 64) : BitVec 64 :=
  b &&& ~~~(1#64 <<< ((msbnz b).toNat % 64))
/-- `SplitListSet::bucket_no` for a table of `2^k` buckets -/
def bucketOf (k h : BitVec 64) : BitVec 64 := h &&& ((1#64 <<< (k.toNat % 64)) - 1#64)

theorem bucketOf_spec (k h : BitVec 64) (hk : k.toNat ≤ 63) :
    (bucketOf k h).toNat = h.toNat % 2 ^ k.toNat := by
  rw [bucketOf, Nat.mod_eq_of_lt (by omega), mask_toNat h _ (by omega)]

theorem bucketOf_lt (k h : BitVec 64) (hk : k.toNat ≤ 63) :
    (bucketOf k h).toNat < 2 ^ k.toNat := by
  rw [bucketOf_spec k h hk]; exact Nat.mod_lt _ (Nat.two_pow_pos _)

theorem lt_two_pow_63 {k n : Nat} (hk : k ≤ 63) (hn : n < 2 ^ k) : n < 2 ^ 63 :=
  Nat.lt_of_lt_of_le hn (Nat.pow_le_pow_right (by omega) hk)

/-- doubling the table: the bucket of `h` either stays `b` or becomes `b + 2^k` -/
theorem bucketOf_succ (k h : BitVec 64) (hk : k.toNat ≤ 62) :
    (bucketOf (k + 1#64) h = bucketOf k h ∨
      (bucketOf (k + 1#64) h).toNat = (bucketOf k h).toNat + 2 ^ k.toNat) := by
  have hk1 : (k + 1#64).toNat = k.toNat + 1 := by bv_omega
  have h1 := bucketOf_spec (k + 1#64) h (by omega)
  have h0 := bucketOf_spec k h (by omega)
  rw [hk1, Nat.pow_succ, Nat.mod_mul] at h1
  rcases Nat.mod_two_eq_zero_or_one (h.toNat / 2 ^ k.toNat) with e | e
  · left; apply BitVec.eq_of_toNat_eq; rw [h1, h0, e]; simp
  · right; rw [h1, h0, e]; simp

theorem toNat_ne_zero {b : BitVec 64} (hb : b ≠ 0) : b.toNat ≠ 0 :=
  fun h => hb (BitVec.eq_of_toNat_eq h)

theorem log2_lt_64 (b : BitVec 64) (hb : b ≠ 0) : Nat.log2 b.toNat < 64 :=
  (Nat.log2_lt (toNat_ne_zero hb)).2 b.isLt

theorem top_bit_set (b : BitVec 64) (hb : b ≠ 0) : b.getLsbD (Nat.log2 b.toNat) = true := by
  rw [← BitVec.testBit_toNat]; exact Nat.testBit_log2 (toNat_ne_zero hb)

section
variable (rev : BitVec 64 → BitVec 64) (hrev : ∀ x, rev x = x.reverse)
include hrev

theorem regularKey_toNat (h : BitVec 64) :
    (regularKey rev h).toNat = 2 * (h.reverse.toNat / 2) + 1 := by
  rw [regularKey, hrev, or_one_toNat]

theorem dummyKey_toNat (b : BitVec 64) :
    (dummyKey rev b).toNat = 2 * (b.reverse.toNat / 2) := by
  rw [dummyKey, hrev, and_not_one_toNat]

/-- for bucket numbers below `2^63` clearing bit 0 of the reversal is a no-op -/
theorem dummyKey_toNat_of_lt (b : BitVec 64) (hb : b.toNat < 2 ^ 63) :
    (dummyKey rev b).toNat = b.reverse.toNat := by
  rw [dummyKey_toNat rev hrev]
  have := rev_lt b 63 (by omega) hb
  omega

omit hrev in
theorem regular_odd (h : BitVec 64) : (regularKey rev h).getLsbD 0 = true := by
  simp [regularKey]

omit hrev in
theorem dummy_even (b : BitVec 64) : (dummyKey rev b).getLsbD 0 = false := by
  simp [dummyKey]

/-- every regular key of bucket `b = h mod 2^k` sorts after `b`'s dummy -/
theorem dummy_before_regular (k h : BitVec 64) (hk : k.toNat ≤ 63) :
    BitVec.ult (dummyKey rev (bucketOf k h)) (regularKey rev h) = true := by
  have hb := bucketOf_spec k h hk
  have hlt := lt_two_pow_63 hk (bucketOf_lt k h hk)
  rw [BitVec.ult_eq_decide, decide_eq_true_eq, dummyKey_toNat_of_lt rev hrev _ hlt,
    regularKey_toNat rev hrev, rev_mod h _ k.toNat (by omega) hb, pow_block _ hk]
  generalize h.reverse.toNat = R
  generalize 2 ^ (63 - k.toNat) = M'
  have := Nat.div_mul_le_self R (2 * M')
  have e : R / (2 * M') * (2 * M') = 2 * (R / (2 * M') * M') := by rw [Nat.mul_left_comm]
  omega

/-- …and before the dummy of every bucket that follows `b` in split order -/
theorem contiguous (k h b' : BitVec 64) (hk : k.toNat ≤ 63) (hb' : b'.toNat < 2 ^ k.toNat)
    (hlt : BitVec.ult (dummyKey rev (bucketOf k h)) (dummyKey rev b') = true) :
    BitVec.ult (regularKey rev h) (dummyKey rev b') = true := by
  have hb := bucketOf_spec k h hk
  have hblt := lt_two_pow_63 hk (bucketOf_lt k h hk)
  have hb'lt := lt_two_pow_63 hk hb'
  rw [BitVec.ult_eq_decide, decide_eq_true_eq, dummyKey_toNat_of_lt rev hrev _ hblt,
    dummyKey_toNat_of_lt rev hrev _ hb'lt, rev_mod h _ k.toNat (by omega) hb,
    rev_lt b' k.toNat (by omega) hb', pow_block _ hk] at hlt
  rw [BitVec.ult_eq_decide, decide_eq_true_eq, dummyKey_toNat_of_lt rev hrev _ hb'lt,
    regularKey_toNat rev hrev, rev_lt b' k.toNat (by omega) hb', pow_block _ hk]
  refine nat_contig _ _ _ _ ?_ hlt
  have hpos : 0 < 2 * 2 ^ (63 - k.toNat) := by have := Nat.two_pow_pos (63 - k.toNat); omega
  exact Nat.lt_mul_of_div_lt (Nat.lt_succ_self _) hpos

/-- `dummyKey` is injective on bucket numbers `< 2^k`, `k ≤ 63` -/
theorem dummy_injective (k b b' : BitVec 64) (hk : k.toNat ≤ 63) (hb : b.toNat < 2 ^ k.toNat)
    (hb' : b'.toNat < 2 ^ k.toNat) (heq : dummyKey rev b = dummyKey rev b') : b = b' := by
  have h := congrArg BitVec.toNat heq
  rw [dummyKey_toNat_of_lt rev hrev _ (lt_two_pow_63 hk hb),
    dummyKey_toNat_of_lt rev hrev _ (lt_two_pow_63 hk hb')] at h
  exact rev_injective (BitVec.eq_of_toNat_eq h)

end

section
variable (msbnz : BitVec 64 → BitVec 32)
  (hmsb : ∀ b : BitVec 64, b ≠ 0 → (msbnz b).toNat = Nat.log2 b.toNat)
include hmsb

theorem parentOf_eq (b : BitVec 64) (hb : b ≠ 0) :
    parentOf msbnz b = b &&& ~~~(1#64 <<< Nat.log2 b.toNat) := by
  have := log2_lt_64 b hb
  rw [parentOf, hmsb b hb, Nat.mod_eq_of_lt this]

theorem msbnz_lt_64 (b : BitVec 64) (hb : b ≠ 0) : (msbnz b).toNat < 64 := by
  rw [hmsb b hb]; exact log2_lt_64 b hb

/-- `parent_bucket b` is `b` with its most significant set bit removed -/
theorem parentOf_add (b : BitVec 64) (hb : b ≠ 0) :
    (parentOf msbnz b).toNat + 2 ^ Nat.log2 b.toNat = b.toNat := by
  rw [parentOf_eq msbnz hmsb b hb]
  exact toNat_clear_bit b _ (log2_lt_64 b hb) (top_bit_set b hb)

theorem parentOf_spec (b : BitVec 64) (hb : b ≠ 0) :
    (parentOf msbnz b).toNat = b.toNat - 2 ^ Nat.log2 b.toNat ∧
    (parentOf msbnz b).toNat < b.toNat := by
  have := parentOf_add msbnz hmsb b hb
  have := Nat.two_pow_pos (Nat.log2 b.toNat)
  omega

/-- reversal of the parent: remove bit `63 - log2 b` from `reverse b` -/
theorem rev_parentOf_add (b : BitVec 64) (hb : b ≠ 0) :
    (parentOf msbnz b).reverse.toNat + 2 ^ (63 - Nat.log2 b.toNat) = b.reverse.toNat := by
  rw [parentOf_eq msbnz hmsb b hb]
  exact rev_toNat_clear_bit b _ (log2_lt_64 b hb) (top_bit_set b hb)

/-- `parent_bucket (b + 2^k) = b` for `b < 2^k` -/
theorem parentOf_add_two_pow (b : BitVec 64) (k : Nat) (hk : k ≤ 63) (hb : b.toNat < 2 ^ k) :
    (b + (1#64 <<< k)).toNat = b.toNat + 2 ^ k ∧ Nat.log2 (b + (1#64 <<< k)).toNat = k ∧
    parentOf msbnz (b + (1#64 <<< k)) = b := by
  have hp : 2 ^ (k + 1) ≤ 2 ^ 64 := Nat.pow_le_pow_right (by omega) (by omega)
  have hp2 : 2 ^ (k + 1) = 2 * 2 ^ k := by rw [Nat.pow_succ, Nat.mul_comm]
  have hc : (b + (1#64 <<< k)).toNat = b.toNat + 2 ^ k := by
    rw [BitVec.toNat_add, one_shl_toNat k (by omega)]
    apply Nat.mod_eq_of_lt; omega
  have hne : b + (1#64 <<< k) ≠ 0 := by
    intro h; rw [h] at hc; have := Nat.two_pow_pos k; simp at hc; omega
  have hlog : Nat.log2 (b + (1#64 <<< k)).toNat = k := by
    rw [Nat.log2_eq_iff (toNat_ne_zero hne), hc]; omega
  refine ⟨hc, hlog, ?_⟩
  apply BitVec.eq_of_toNat_eq
  have := parentOf_add msbnz hmsb _ hne
  rw [hlog, hc] at this
  omega

variable (rev : BitVec 64 → BitVec 64) (hrev : ∀ x, rev x = x.reverse)
include hrev

/-- a bucket's parent dummy sorts strictly before the bucket's own dummy
    (bucket numbers below `2^63`; see `parent_dummy_collision` for the rest) -/
theorem parent_dummy_before (b : BitVec 64) (hb : b ≠ 0) (hlt : b.toNat < 2 ^ 63) :
    BitVec.ult (dummyKey rev (parentOf msbnz b)) (dummyKey rev b) = true := by
  have hp := (parentOf_spec msbnz hmsb b hb).2
  rw [BitVec.ult_eq_decide, decide_eq_true_eq, dummyKey_toNat_of_lt rev hrev _ hlt,
    dummyKey_toNat_of_lt rev hrev _ (by omega)]
  have := rev_parentOf_add msbnz hmsb b hb
  have := Nat.two_pow_pos (63 - Nat.log2 b.toNat)
  omega

/-- for bucket numbers with bit 63 set the parent's dummy key COINCIDES with the bucket's:
    `dummy_hash` clears exactly the bit that distinguishes them -/
theorem parent_dummy_collision (b : BitVec 64) (hge : 2 ^ 63 ≤ b.toNat) :
    dummyKey rev (parentOf msbnz b) = dummyKey rev b := by
  have hb : b ≠ 0 := by intro h; rw [h] at hge; simp at hge
  have hlog : Nat.log2 b.toNat = 63 := by
    rw [Nat.log2_eq_iff (toNat_ne_zero hb)]; exact ⟨hge, b.isLt⟩
  have hp := parentOf_add msbnz hmsb b hb
  have hr := rev_parentOf_add msbnz hmsb b hb
  rw [hlog] at hp hr
  apply BitVec.eq_of_toNat_eq
  have hplt : (parentOf msbnz b).toNat < 2 ^ 63 := by have := b.isLt; omega
  rw [dummyKey_toNat_of_lt rev hrev _ hplt, dummyKey_toNat rev hrev]
  have := rev_lt _ 63 (by omega) hplt
  omega

/-- the new bucket `b + 2^k` created by doubling the table sorts strictly between `b`'s dummy
    and the dummy of every bucket of the `2^k`-table that follows `b` -/
theorem split_between (k : Nat) (b b' : BitVec 64) (hk : k ≤ 62) (hb : b.toNat < 2 ^ k)
    (hb' : b'.toNat < 2 ^ k)
    (hlt : BitVec.ult (dummyKey rev b) (dummyKey rev b') = true) :
    BitVec.ult (dummyKey rev b) (dummyKey rev (b + (1#64 <<< k))) = true ∧
    BitVec.ult (dummyKey rev (b + (1#64 <<< k))) (dummyKey rev b') = true := by
  obtain ⟨hc, hlog, hpar⟩ := parentOf_add_two_pow msbnz hmsb b k (by omega) hb
  have hne : b + (1#64 <<< k) ≠ 0 := by
    intro h; rw [h] at hc; have := Nat.two_pow_pos k; simp at hc; omega
  have hr := rev_parentOf_add msbnz hmsb _ hne
  rw [hpar, hlog] at hr
  have h63 : (2:Nat) ^ (k + 1) ≤ 2 ^ 63 := Nat.pow_le_pow_right (by omega) (by omega)
  have hp2 : 2 ^ (k + 1) = 2 * 2 ^ k := by rw [Nat.pow_succ, Nat.mul_comm]
  have hclt : (b + (1#64 <<< k)).toNat < 2 ^ 63 := by omega
  have hblt : b.toNat < 2 ^ 63 := by omega
  have hb'lt : b'.toNat < 2 ^ 63 := by omega
  rw [BitVec.ult_eq_decide, decide_eq_true_eq, dummyKey_toNat_of_lt rev hrev _ hblt,
    dummyKey_toNat_of_lt rev hrev _ hb'lt, rev_lt b k (by omega) hb,
    rev_lt b' k (by omega) hb', pow_block _ (by omega)] at hlt
  rw [BitVec.ult_eq_decide, decide_eq_true_eq, BitVec.ult_eq_decide, decide_eq_true_eq,
    dummyKey_toNat_of_lt rev hrev _ hblt, dummyKey_toNat_of_lt rev hrev _ hb'lt,
    dummyKey_toNat_of_lt rev hrev _ hclt, ← hr, rev_lt b k (by omega) hb,
    rev_lt b' k (by omega) hb', pow_block _ (by omega)]
  exact nat_between _ _ _ (Nat.two_pow_pos _) hlt

end

end CdsVerif.Algo.SplitOrder
