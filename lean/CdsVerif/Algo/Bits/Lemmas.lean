/-
Helper lemmas for property C25 (bit manipulation: `cds/algo/bit_reversal.h`,
`cds/algo/bitop.h`, `cds/algo/int_algo.h`).

All statements are about the *generated* definitions in `CdsVerif.Gen.BitReversal`
and `CdsVerif.Gen.BitopGeneric`; nothing here is checked by sampling or bounded
enumeration of 32/64-bit inputs.  (The only enumerations are over the 256 values of a
byte, for the byte-wise table / multiply-divide helpers, and over the 32 bit positions
for the two SWAR variants.)
-/
import CdsVerif.Gen.BitReversal
import CdsVerif.Gen.BitopGeneric

namespace CdsVerif.Algo.Bits

open CdsVerif.Gen.BitReversal CdsVerif.Gen.BitopGeneric

/-! ## Finite case split on a bit index -/

/-- case split of `i < 32` into the 32 literal cases -/
theorem forall_lt_32 {P : Nat → Prop}
    (h : P 0 ∧ P 1 ∧ P 2 ∧ P 3 ∧ P 4 ∧ P 5 ∧ P 6 ∧ P 7 ∧ P 8 ∧ P 9 ∧ P 10 ∧ P 11 ∧ P 12 ∧ P 13 ∧ P 14 ∧ P 15 ∧
      P 16 ∧ P 17 ∧ P 18 ∧ P 19 ∧ P 20 ∧ P 21 ∧ P 22 ∧ P 23 ∧ P 24 ∧ P 25 ∧ P 26 ∧ P 27 ∧ P 28 ∧ P 29 ∧ P 30 ∧ P 31) :
    ∀ i, i < 32 → P i := by
  intro i hi
  have : i = 0 ∨ i = 1 ∨ i = 2 ∨ i = 3 ∨ i = 4 ∨ i = 5 ∨ i = 6 ∨ i = 7 ∨ i = 8 ∨ i = 9 ∨ i = 10 ∨ i = 11 ∨
    i = 12 ∨ i = 13 ∨ i = 14 ∨ i = 15 ∨ i = 16 ∨ i = 17 ∨ i = 18 ∨ i = 19 ∨ i = 20 ∨ i = 21 ∨ i = 22 ∨ i = 23 ∨
    i = 24 ∨ i = 25 ∨ i = 26 ∨ i = 27 ∨ i = 28 ∨ i = 29 ∨ i = 30 ∨ i = 31 := by omega
  rcases this with rfl|rfl|rfl|rfl|rfl|rfl|rfl|rfl|rfl|rfl|rfl|rfl|rfl|rfl|rfl|rfl|rfl|rfl|rfl|rfl|rfl|rfl|rfl|rfl|rfl|rfl|rfl|rfl|rfl|rfl|rfl|rfl <;> simp only [h]

/-! ## Bit reversal -/

/-- `BitVec.reverse` really is the index-mirroring map. -/
theorem reverse_bits {w : Nat} (x : BitVec w) (i : Nat) (h : i < w) :
    x.reverse.getLsbD i = x.getLsbD (w - 1 - i) := by
  rw [BitVec.getLsbD_reverse, BitVec.getMsbD_eq_getLsbD]; simp [h]

theorem reverse_reverse {w : Nat} (x : BitVec w) : x.reverse.reverse = x :=
  BitVec.reverse_reverse_eq

/-- The two SWAR variants are sequences of mask-and-shift steps on concrete 32-bit masks: checked bit by bit. -/
theorem swar32_reverse (x : BitVec 32) : swar32 x = x.reverse := by
  apply BitVec.eq_of_getLsbD_eq
  apply forall_lt_32
  simp [swar32, BitVec.getElem_reverse, BitVec.getMsbD_eq_getLsbD]

theorem rbo32_reverse (x : BitVec 32) : rbo32 x = x.reverse := by
  apply BitVec.eq_of_getLsbD_eq
  apply forall_lt_32
  simp [rbo32, BitVec.getElem_reverse, BitVec.getMsbD_eq_getLsbD]

/-- All other variants cut the word into fields, reverse each field and put it at the mirrored place.
The `n`-bit field of `x` at offset `s`, reversed and placed at offset `t`, where `s + n + t = w`,
is the field of `x.reverse` at offset `t`. -/
theorem getLsbD_reverse_field {w : Nat} (x : BitVec w) (n s t : Nat) (h : s + n + t = w) (i : Nat) :
    ((((x >>> s).setWidth n).reverse.setWidth w) <<< t).getLsbD i =
      (decide (t ≤ i ∧ i < t + n) && x.reverse.getLsbD i) := by
  rw [BitVec.getLsbD_shiftLeft, BitVec.getLsbD_setWidth]
  by_cases hi : t ≤ i ∧ i < t + n
  · have hin : i - t < n := by omega
    have hiw : i < w := by omega
    rw [reverse_bits _ _ hin, BitVec.getLsbD_setWidth, BitVec.getLsbD_ushiftRight, reverse_bits _ _ hiw,
      show s + (n - 1 - (i - t)) = w - 1 - i by omega]
    have h1 : ¬ i < t := by omega
    have h2 : i - t < w := by omega
    have h3 : n - 1 - (i - t) < n := by omega
    simp [hi, hiw, h1, h2, h3]
  · by_cases hit : i < t
    · simp [hit]
      omega
    · rw [BitVec.getLsbD_of_ge _ (i - t) (by omega)]
      simp [hi]

/-- reversing the two 32-bit halves and swapping them reverses a 64-bit word -/
theorem halves64_reverse (x : BitVec 64) :
    ((((x.setWidth 32).reverse.setWidth 64) <<< 32) ||| (((x >>> 32).setWidth 32).reverse.setWidth 64))
      = x.reverse := by
  apply BitVec.eq_of_getLsbD_eq
  intro i hi
  have h0 := getLsbD_reverse_field x 32 0 32 rfl i
  have h1 := getLsbD_reverse_field x 32 32 0 rfl i
  rw [BitVec.ushiftRight_zero] at h0
  rw [BitVec.shiftLeft_zero] at h1
  rw [BitVec.getLsbD_or, h0, h1]
  cases x.reverse.getLsbD i
  · simp
  · simp
    omega

/-- reversing the four bytes and placing them in opposite order reverses a 32-bit word -/
theorem bytes32_reverse (x : BitVec 32) :
    ((((((x >>> 24).setWidth 8).reverse.setWidth 32)
      ||| ((((x >>> 16).setWidth 8).reverse.setWidth 32) <<< 8))
      ||| ((((x >>> 8).setWidth 8).reverse.setWidth 32) <<< 16))
      ||| (((x.setWidth 8).reverse.setWidth 32) <<< 24)) = x.reverse := by
  apply BitVec.eq_of_getLsbD_eq
  intro i hi
  have h0 := getLsbD_reverse_field x 8 24 0 rfl i
  have h1 := getLsbD_reverse_field x 8 16 8 rfl i
  have h2 := getLsbD_reverse_field x 8 8 16 rfl i
  have h3 := getLsbD_reverse_field x 8 0 24 rfl i
  rw [BitVec.shiftLeft_zero] at h0
  rw [BitVec.ushiftRight_zero] at h3
  simp only [BitVec.getLsbD_or, h0, h1, h2, h3]
  cases x.reverse.getLsbD i
  · simp
  · simp
    omega

theorem bytes64_reverse (x : BitVec 64) :
    (((((((((((x >>> 56).setWidth 8)).reverse.setWidth 64)
      ||| (((((x >>> 48).setWidth 8)).reverse.setWidth 64) <<< 8))
      ||| (((((x >>> 40).setWidth 8)).reverse.setWidth 64) <<< 16))
      ||| (((((x >>> 32).setWidth 8)).reverse.setWidth 64) <<< 24))
      ||| (((((x >>> 24).setWidth 8)).reverse.setWidth 64) <<< 32))
      ||| (((((x >>> 16).setWidth 8)).reverse.setWidth 64) <<< 40))
      ||| (((((x >>> 8).setWidth 8)).reverse.setWidth 64) <<< 48))
      ||| ((((x.setWidth 8)).reverse.setWidth 64) <<< 56)) = x.reverse := by
  apply BitVec.eq_of_getLsbD_eq
  intro i hi
  have h0 := getLsbD_reverse_field x 8 56 0 rfl i
  have h1 := getLsbD_reverse_field x 8 48 8 rfl i
  have h2 := getLsbD_reverse_field x 8 40 16 rfl i
  have h3 := getLsbD_reverse_field x 8 32 24 rfl i
  have h4 := getLsbD_reverse_field x 8 24 32 rfl i
  have h5 := getLsbD_reverse_field x 8 16 40 rfl i
  have h6 := getLsbD_reverse_field x 8 8 48 rfl i
  have h7 := getLsbD_reverse_field x 8 0 56 rfl i
  rw [BitVec.shiftLeft_zero] at h0
  rw [BitVec.ushiftRight_zero] at h7
  simp only [BitVec.getLsbD_or, h0, h1, h2, h3, h4, h5, h6, h7]
  cases x.reverse.getLsbD i
  · simp
  · simp
    omega

/-- the 256-entry table of `lookup32` is the list of the reversed bytes (compared by kernel evaluation) -/
theorem lookup_table_eq : lookup32_table = (List.range 256).map (fun i => (BitVec.ofNat 8 i).reverse) := by
  decide +kernel

theorem lookup_table_spec (b : BitVec 8) : lookup32_table.getD b.toNat 0#8 = b.reverse := by
  rw [lookup_table_eq, List.getD_eq_getElem?_getD, List.getElem?_map, List.getElem?_range b.isLt]
  simp

theorem lookup_table_length : lookup32_table.length = 256 := by
  rw [lookup_table_eq, List.length_map, List.length_range]

/-- the multiply/mask byte reversal (all 256 bytes checked by kernel evaluation) -/
theorem muldiv32_byte_spec : ∀ b : BitVec 8, muldiv32_byte b = b.reverse := by decide +kernel

theorem muldiv64_byte_spec : ∀ b : BitVec 8, muldiv64_byte b = b.reverse := by decide +kernel

theorem and255_toNat (y : BitVec 32) : (y &&& 255#32).toNat = (y.setWidth 8).toNat := by
  rw [BitVec.toNat_and, BitVec.toNat_setWidth]
  exact Nat.and_two_pow_sub_one_eq_mod _ 8

theorem lookup_table_and255 (y : BitVec 32) :
    lookup32_table.getD (y &&& 255#32).toNat 0#8 = (y.setWidth 8).reverse := by
  rw [and255_toNat, lookup_table_spec]

theorem or4_opposite_order {w : Nat} (a b c d : BitVec w) :
    ((d ||| c) ||| b) ||| a = ((a ||| b) ||| c) ||| d := by
  ac_rfl

/-- `lookup32` ORs the same four reversed bytes as `bytes32_reverse`, in the opposite order -/
theorem lookup32_reverse (x : BitVec 32) : lookup32 x = x.reverse := by
  unfold lookup32
  simp only [lookup_table_and255]
  exact (or4_opposite_order _ _ _ _).trans (bytes32_reverse x)

theorem muldiv32_32_reverse (x : BitVec 32) : muldiv32_32 x = x.reverse := by
  unfold muldiv32_32; simp only [muldiv32_byte_spec]; exact bytes32_reverse x

theorem muldiv64_32_reverse (x : BitVec 32) : muldiv64_32 x = x.reverse := by
  unfold muldiv64_32; simp only [muldiv64_byte_spec]; exact bytes32_reverse x

theorem muldiv_op32_reverse (x : BitVec 32) : muldiv_op32 x = x.reverse := by
  unfold muldiv_op32; exact muldiv64_32_reverse x

theorem swar64_reverse (x : BitVec 64) : swar64 x = x.reverse := by
  unfold swar64; simp only [swar32_reverse]; exact halves64_reverse x

theorem rbo64_reverse (x : BitVec 64) : rbo64 x = x.reverse := by
  unfold rbo64; simp only [rbo32_reverse]; exact halves64_reverse x

theorem lookup64_reverse (x : BitVec 64) : lookup64 x = x.reverse := by
  unfold lookup64; simp only [lookup32_reverse]; exact halves64_reverse x

theorem muldiv32_64_reverse (x : BitVec 64) : muldiv32_64 x = x.reverse := by
  unfold muldiv32_64; simp only [muldiv32_byte_spec]; exact bytes64_reverse x

theorem muldiv64_64_reverse (x : BitVec 64) : muldiv64_64 x = x.reverse := by
  unfold muldiv64_64; simp only [muldiv64_byte_spec]; exact bytes64_reverse x

theorem muldiv_op64_reverse (x : BitVec 64) : muldiv_op64 x = x.reverse := by
  unfold muldiv_op64; exact muldiv64_64_reverse x

/-! ## Most significant bit -/

/-- `Top v n`: the most significant set bit of `v` is bit `n` -/
def Top (v n : Nat) : Prop := 2^n ≤ v ∧ v < 2^(n+1)

theorem Top.unique {v n m : Nat} (h1 : Top v n) (h2 : Top v m) : n = m := by
  unfold Top at *
  have a : n < m + 1 := (Nat.pow_lt_pow_iff_right (by decide : 1 < 2)).1 (Nat.lt_of_le_of_lt h1.1 h2.2)
  have b : m < n + 1 := (Nat.pow_lt_pow_iff_right (by decide : 1 < 2)).1 (Nat.lt_of_le_of_lt h2.1 h1.2)
  omega

theorem Top.exists {v : Nat} (h : v ≠ 0) : Top v (Nat.log2 v) :=
  ⟨Nat.log2_self_le h, Nat.lt_log2_self⟩

theorem Top.ne_zero {v n : Nat} (h : Top v n) : v ≠ 0 := by
  have := h.1; have := Nat.two_pow_pos n; omega

theorem Top.lt_of_lt {v n k : Nat} (h : Top v n) (hv : v < 2^k) : n < k :=
  (Nat.pow_lt_pow_iff_right (by decide : 1 < 2)).1 (Nat.lt_of_le_of_lt h.1 hv)

theorem Top.le_of_le {v n k : Nat} (h : Top v n) (hv : 2^k ≤ v) : k ≤ n :=
  Nat.le_of_lt_succ ((Nat.pow_lt_pow_iff_right (by decide : 1 < 2)).1 (Nat.lt_of_le_of_lt hv h.2))

theorem Top.lt_iff {v n k : Nat} (h : Top v n) : v < 2^k ↔ n < k :=
  ⟨h.lt_of_lt, fun hk => Nat.lt_of_lt_of_le h.2 (Nat.pow_le_pow_right (by decide) hk)⟩

theorem Top.shl {v n : Nat} (h : Top v n) (k : Nat) : Top (v * 2^k) (n + k) := by
  unfold Top at *
  rw [Nat.pow_add, show n + k + 1 = (n+1) + k by omega, Nat.pow_add]
  exact ⟨Nat.mul_le_mul_right _ h.1, Nat.mul_lt_mul_of_pos_right h.2 (Nat.two_pow_pos k)⟩

theorem Top.shr {v n : Nat} (h : Top v n) (k : Nat) (hk : k ≤ n) : Top (v / 2^k) (n - k) := by
  unfold Top at *
  constructor
  · rw [Nat.le_div_iff_mul_le (Nat.two_pow_pos k), ← Nat.pow_add, show n - k + k = n by omega]; exact h.1
  · rw [Nat.div_lt_iff_lt_mul (Nat.two_pow_pos k), ← Nat.pow_add, show n - k + 1 + k = n + 1 by omega]; exact h.2

theorem bv_ne_zero_toNat {w : Nat} {x : BitVec w} (h : x ≠ 0#w) : x.toNat ≠ 0 := by
  intro c; apply h; apply BitVec.eq_of_toNat_eq; simpa using c

/-- the shape of the zero tests in the generated code -/
theorem not_bne_zero {w : Nat} {a : BitVec w} : (!(a != 0#w)) = true ↔ a = 0#w := by
  simp

/-- the masks of `msb32` (`0xFFFF0000`, `0xFF000000`, ...) are all ones shifted left: the test
`y & mask == 0` says that no bit from `s` upwards is set -/
theorem himask {w : Nat} (y : BitVec w) (s : Nat) :
    (y &&& (BitVec.allOnes w <<< s) = 0#w) ↔ y.toNat < 2^s := by
  constructor
  · intro h
    apply Nat.lt_pow_two_of_testBit
    intro i hi
    rw [BitVec.testBit_toNat]
    by_cases hiw : i < w
    · have := congrArg (fun z => z.getLsbD i) h
      simp only [BitVec.getLsbD_and, BitVec.getLsbD_shiftLeft, BitVec.getLsbD_allOnes, BitVec.getLsbD_zero] at this
      have h1 : ¬ i < s := by omega
      have h2 : i - s < w := by omega
      simpa [hiw, h1, h2] using this
    · exact BitVec.getLsbD_of_ge y i (by omega)
  · intro h
    apply BitVec.eq_of_getLsbD_eq
    intro i hiw
    rw [BitVec.getLsbD_and, BitVec.getLsbD_shiftLeft, BitVec.getLsbD_zero]
    by_cases his : i < s
    · simp [his]
    · have : y.getLsbD i = false :=
        Nat.testBit_lt_two_pow (Nat.lt_of_lt_of_le h (Nat.pow_le_pow_right (by decide) (by omega)))
      simp [this]

theorem Top.and_himask_eq_zero_iff {w : Nat} {y : BitVec w} {n : Nat} (h : Top y.toNat n) (s : Nat) :
    (y &&& (BitVec.allOnes w <<< s) = 0#w) ↔ n < s := by
  rw [himask, h.lt_iff]

/-- one stage of the binary search in `msb32`: if the upper `k` bits (mask `m`) are clear, shift them out -/
def msbStage (k : Nat) (m : BitVec 32) (p : BitVec 32 × BitVec 32) : BitVec 32 × BitVec 32 :=
  if (!((p.1 &&& m) != (0#32))) then (p.1 <<< k, p.2 - BitVec.ofNat 32 k) else p

theorem msbStage_snd (k : Nat) (m : BitVec 32) (p : BitVec 32 × BitVec 32) :
    (msbStage k m p).2 = if (!((p.1 &&& m) != (0#32))) then p.2 - BitVec.ofNat 32 k else p.2 := by
  unfold msbStage; split <;> rfl

/-- `msb32` is five such stages; the last one only adjusts the counter -/
theorem msb32_eq (x : BitVec 32) : msb32 x =
    if (!(x != (0#32))) then 0#32 else
      (msbStage 1 2147483648#32 (msbStage 2 3221225472#32 (msbStage 4 4026531840#32
        (msbStage 8 4278190080#32 (msbStage 16 4294901760#32 (x, 32#32)))))).2 := by
  rw [msbStage_snd]; rfl

/-- Invariant of the search, for an argument whose top bit is `n`: the top bit `n'` of the shifted word
is among the upper `k` positions, and the counter has followed the shifts. -/
def MsbInv (n k : Nat) (p : BitVec 32 × BitVec 32) : Prop :=
  ∃ n', Top p.1.toNat n' ∧ 32 - k ≤ n' ∧ n' < 32 ∧ p.2 + BitVec.ofNat 32 n' = 32#32 + BitVec.ofNat 32 n

theorem msbStage_spec {n : Nat} (k : Nat) {m : BitVec 32} (hm : m = BitVec.allOnes 32 <<< (32 - k))
    (hk : 2 * k ≤ 32) {p : BitVec 32 × BitVec 32} (h : MsbInv n (2 * k) p) : MsbInv n k (msbStage k m p) := by
  obtain ⟨x, r⟩ := p
  obtain ⟨n', ht, hlow, hn32, he⟩ := h
  subst hm
  unfold msbStage
  by_cases hz : x &&& (BitVec.allOnes 32 <<< (32 - k)) = 0#32
  · have hnk : n' < 32 - k := (ht.and_himask_eq_zero_iff _).1 hz
    rw [if_pos (not_bne_zero.2 hz)]
    refine ⟨n' + k, ?_, by omega, by omega, ?_⟩
    · -- the shift loses nothing
      have hmul : x.toNat * 2^k < 2^32 :=
        Nat.lt_of_lt_of_le (ht.shl k).2 (Nat.pow_le_pow_right (by decide) (by omega))
      rw [BitVec.toNat_shiftLeft, Nat.shiftLeft_eq, Nat.mod_eq_of_lt hmul]
      exact ht.shl k
    · simp only at he ⊢
      bv_omega
  · have hnk : 32 - k ≤ n' := Nat.le_of_not_lt (fun c => hz ((ht.and_himask_eq_zero_iff _).2 c))
    rw [if_neg (mt not_bne_zero.1 hz)]
    exact ⟨n', ht, hnk, hn32, he⟩

theorem msb32_top (x : BitVec 32) (n : Nat) (hn : Top x.toNat n) : msb32 x = BitVec.ofNat 32 (n + 1) := by
  have hx : x ≠ 0#32 := fun h => hn.ne_zero (by rw [h]; rfl)
  have h32 : MsbInv n (2 * 16) (x, 32#32) := ⟨n, hn, by omega, hn.lt_of_lt x.isLt, rfl⟩
  have h16 := msbStage_spec 16 (m := 4294901760#32) rfl (by omega) h32
  have h8 := msbStage_spec 8 (m := 4278190080#32) rfl (by omega) h16
  have h4 := msbStage_spec 4 (m := 4026531840#32) rfl (by omega) h8
  have h2 := msbStage_spec 2 (m := 3221225472#32) rfl (by omega) h4
  obtain ⟨n', -, hl, hu, he⟩ := msbStage_spec 1 (m := 2147483648#32) rfl (by omega) h2
  rw [msb32_eq, if_neg (mt not_bne_zero.1 hx)]
  have : n' = 31 := by omega
  subst this
  bv_omega

/-! ## Least significant bit -/

/-- `Low x n`: the least significant set bit of `x` is bit `n` -/
def Low {w : Nat} (x : BitVec w) (n : Nat) : Prop := x.getLsbD n = true ∧ ∀ j, j < n → x.getLsbD j = false

theorem Low.lt {w : Nat} {x : BitVec w} {n : Nat} (h : Low x n) : n < w := by
  apply Classical.byContradiction; intro c
  have := BitVec.getLsbD_of_ge x n (by omega)
  rw [h.1] at this; contradiction

theorem Low.ne_zero {w : Nat} {x : BitVec w} {n : Nat} (h : Low x n) : x ≠ 0#w := by
  intro c
  have := h.1
  rw [c, BitVec.getLsbD_zero] at this
  contradiction

theorem Low.exists_aux {w : Nat} (x : BitVec w) :
    ∀ m, (∃ i, i < m ∧ x.getLsbD i = true) → ∃ n, n < m ∧ Low x n := by
  intro m
  induction m with
  | zero => rintro ⟨i, hi, _⟩; omega
  | succ m ih =>
    rintro ⟨i, hi, hb⟩
    by_cases h : ∃ i, i < m ∧ x.getLsbD i = true
    · obtain ⟨n, hn, hl⟩ := ih h; exact ⟨n, by omega, hl⟩
    · have him : i = m := by
        apply Classical.byContradiction; intro c
        exact h ⟨i, by omega, hb⟩
      subst him
      refine ⟨i, by omega, hb, ?_⟩
      intro j hj
      cases hjb : x.getLsbD j with
      | false => rfl
      | true => exact absurd ⟨j, hj, hjb⟩ h

theorem Low.exists {w : Nat} (x : BitVec w) (hx : x ≠ 0#w) : ∃ n, n < w ∧ Low x n := by
  apply Low.exists_aux x w
  apply Classical.byContradiction; intro c
  apply hx
  apply BitVec.eq_of_getLsbD_eq
  intro i hi
  cases hb : x.getLsbD i with
  | false => simp
  | true => exact absurd ⟨i, hi, hb⟩ c

theorem Low.shr {w : Nat} {x : BitVec w} {n : Nat} (h : Low x n) {k : Nat} (hk : k ≤ n) :
    Low (x >>> k) (n - k) := by
  refine ⟨?_, ?_⟩
  · rw [BitVec.getLsbD_ushiftRight, show k + (n - k) = n by omega]; exact h.1
  · intro j hj; rw [BitVec.getLsbD_ushiftRight]; exact h.2 _ (by omega)

theorem Low.setWidth {w : Nat} {x : BitVec w} {n : Nat} (h : Low x n) {v : Nat} (hv : n < v) :
    Low (x.setWidth v) n := by
  refine ⟨?_, ?_⟩
  · rw [BitVec.getLsbD_setWidth, h.1]; simp [hv]
  · intro j hj; rw [BitVec.getLsbD_setWidth, h.2 _ hj]; simp

/-- the masks of `lsb32` (`0xFFFF`, `0xFF`, ...) are `2^k - 1`: the test `y & mask == 0` says that no bit below `k` is set -/
theorem lomask {w : Nat} (y : BitVec w) (k : Nat) :
    (y &&& BitVec.ofNat w (2^k - 1) = 0#w) ↔ ∀ j, j < k → y.getLsbD j = false := by
  constructor
  · intro h j hj
    have := congrArg (fun z => z.getLsbD j) h
    by_cases hjw : j < w
    · simp only [BitVec.getLsbD_and, BitVec.getLsbD_ofNat, Nat.testBit_two_pow_sub_one] at this
      simpa [hj, hjw] using this
    · exact BitVec.getLsbD_of_ge y j (by omega)
  · intro h
    apply BitVec.eq_of_getLsbD_eq
    intro j hj
    simp only [BitVec.getLsbD_and, BitVec.getLsbD_ofNat, Nat.testBit_two_pow_sub_one]
    by_cases hjk : j < k
    · simp [h j hjk]
    · simp [hjk]

theorem Low.and_lomask_eq_zero_iff {w : Nat} {x : BitVec w} {n : Nat} (h : Low x n) (k : Nat) :
    (x &&& BitVec.ofNat w (2^k - 1) = 0#w) ↔ k ≤ n := by
  rw [lomask]
  constructor
  · intro hz
    apply Classical.byContradiction; intro c
    have := hz n (by omega)
    rw [h.1] at this; contradiction
  · intro hk j hj
    exact h.2 j (by omega)

/-- one stage of the binary search in `lsb32`: if the lower `k` bits (mask `m`) are clear, shift them out -/
def lsbStage (k : Nat) (m : BitVec 32) (p : BitVec 32 × BitVec 32) : BitVec 32 × BitVec 32 :=
  if (!((p.1 &&& m) != (0#32))) then (p.1 >>> k, p.2 + BitVec.ofNat 32 k) else p

theorem lsbStage_snd (k : Nat) (m : BitVec 32) (p : BitVec 32 × BitVec 32) :
    (lsbStage k m p).2 = if (!((p.1 &&& m) != (0#32))) then p.2 + BitVec.ofNat 32 k else p.2 := by
  unfold lsbStage; split <;> rfl

theorem lsb32_eq (x : BitVec 32) : lsb32 x =
    if (!(x != (0#32))) then 0#32 else
      (lsbStage 1 1#32 (lsbStage 2 3#32 (lsbStage 4 15#32 (lsbStage 8 255#32 (lsbStage 16 65535#32 (x, 1#32)))))).2 := by
  rw [lsbStage_snd]; rfl

/-- Invariant of the search, for an argument whose lowest set bit is `n`: the lowest set bit `n'` of the
shifted word is among the lower `k` positions, and the counter has followed the shifts. -/
def LsbInv (n k : Nat) (p : BitVec 32 × BitVec 32) : Prop :=
  ∃ n', Low p.1 n' ∧ n' < k ∧ p.2 + BitVec.ofNat 32 n' = 1#32 + BitVec.ofNat 32 n

theorem lsbStage_spec {n : Nat} (k : Nat) {m : BitVec 32} (hm : m = BitVec.ofNat 32 (2^k - 1))
    {p : BitVec 32 × BitVec 32} (h : LsbInv n (2 * k) p) : LsbInv n k (lsbStage k m p) := by
  obtain ⟨x, r⟩ := p
  obtain ⟨n', hl, hhi, he⟩ := h
  subst hm
  unfold lsbStage
  by_cases hz : x &&& BitVec.ofNat 32 (2^k - 1) = 0#32
  · have hkn : k ≤ n' := (hl.and_lomask_eq_zero_iff k).1 hz
    rw [if_pos (not_bne_zero.2 hz)]
    refine ⟨n' - k, hl.shr hkn, by omega, ?_⟩
    simp only at he ⊢
    bv_omega
  · have hnk : n' < k := Nat.lt_of_not_le (fun c => hz ((hl.and_lomask_eq_zero_iff k).2 c))
    rw [if_neg (mt not_bne_zero.1 hz)]
    exact ⟨n', hl, hnk, he⟩

theorem lsb32_low (x : BitVec 32) (n : Nat) (hn : Low x n) : lsb32 x = BitVec.ofNat 32 (n + 1) := by
  have h32 : LsbInv n (2 * 16) (x, 1#32) := ⟨n, hn, hn.lt, rfl⟩
  have h16 := lsbStage_spec 16 (m := 65535#32) rfl h32
  have h8 := lsbStage_spec 8 (m := 255#32) rfl h16
  have h4 := lsbStage_spec 4 (m := 15#32) rfl h8
  have h2 := lsbStage_spec 2 (m := 3#32) rfl h4
  obtain ⟨n', -, hu, he⟩ := lsbStage_spec 1 (m := 1#32) rfl h2
  rw [lsb32_eq, if_neg (mt not_bne_zero.1 hn.ne_zero)]
  have : n' = 0 := by omega
  subst this
  bv_omega

/-! ## 64-bit msb / lsb, UB flags -/

theorem msb64_top (x : BitVec 64) (n : Nat) (hn : Top x.toNat n) : msb64 x = BitVec.ofNat 32 (n + 1) := by
  have hn64 : n < 64 := hn.lt_of_lt x.isLt
  unfold msb64
  have hh : ((x >>> 32).setWidth 32).toNat = x.toNat / 2^32 := by bv_omega
  have hl : (x.setWidth 32).toNat = x.toNat % 2^32 := by bv_omega
  by_cases h : (x >>> 32).setWidth 32 = 0#32
  · have hc : ((x >>> 32).setWidth 32 != 0#32) = false := by simp [h]
    simp only [hc, Bool.false_eq_true, if_false]
    have : x.toNat / 2^32 = 0 := by rw [← hh, h]; rfl
    apply msb32_top
    rw [hl, Nat.mod_eq_of_lt (by omega)]; exact hn
  · have hc : ((x >>> 32).setWidth 32 != 0#32) = true := by simp [h]
    simp only [hc, if_true]
    have hne : x.toNat / 2^32 ≠ 0 := by
      intro c; apply h; apply BitVec.eq_of_toNat_eq; rw [hh, c]; rfl
    have h32 : 32 ≤ n := hn.le_of_le (by omega)
    have := hn.shr 32 h32
    rw [← hh] at this
    rw [msb32_top _ _ this]
    bv_omega

theorem lsb64_low (x : BitVec 64) (n : Nat) (hn : Low x n) : lsb64 x = BitVec.ofNat 32 (n + 1) := by
  have hn64 : n < 64 := hn.lt
  unfold lsb64
  rw [if_neg (mt not_bne_zero.1 hn.ne_zero)]
  by_cases h : x &&& 4294967295#64 = 0#64
  · have h32 : 32 ≤ n := (hn.and_lomask_eq_zero_iff 32).1 h
    rw [if_neg (by simp [h]), lsb32_low _ _ ((hn.shr h32).setWidth (by omega))]
    bv_omega
  · have h32 : n < 32 := Nat.lt_of_not_le (fun c => h ((hn.and_lomask_eq_zero_iff 32).2 c))
    rw [if_pos (by simp [h])]
    exact lsb32_low _ _ (hn.setWidth h32)

/-- shape of one conditional stage of the generated `_ub` companions: the UB flag is threaded unchanged -/
def ubStage (c : BitVec 32 → Bool) (f g : BitVec 32 → BitVec 32)
    (p : BitVec 32 × BitVec 32 × Bool) : BitVec 32 × BitVec 32 × Bool :=
  if c p.1 then (f p.1, g p.2.1, p.2.2) else p

theorem ubStage_flag (c f g p) : (ubStage c f g p).2.2 = p.2.2 := by
  unfold ubStage; split <;> rfl

theorem msb32_ub_false (x : BitVec 32) : msb32_ub x = false := by
  have : msb32_ub x = if (!(x != (0#32))) then false else
      let p := ubStage (fun y => !((y &&& (3221225472#32)) != (0#32))) (· <<< 2) (· - 2#32)
        (ubStage (fun y => !((y &&& (4026531840#32)) != (0#32))) (· <<< 4) (· - 4#32)
        (ubStage (fun y => !((y &&& (4278190080#32)) != (0#32))) (· <<< 8) (· - 8#32)
        (ubStage (fun y => !((y &&& (4294901760#32)) != (0#32))) (· <<< 16) (· - 16#32) (x, 32#32, false))))
      (if (!((p.1 &&& (2147483648#32)) != (0#32))) then (p.2.1 - 1#32, p.2.2) else (p.2.1, p.2.2)).2 := rfl
  rw [this]
  split
  · rfl
  · simp only []
    split <;> simp only [ubStage_flag]

theorem lsb32_ub_false (x : BitVec 32) : lsb32_ub x = false := by
  have : lsb32_ub x = if (!(x != (0#32))) then false else
      let p := ubStage (fun y => !((y &&& (3#32)) != (0#32))) (· >>> 2) (· + 2#32)
        (ubStage (fun y => !((y &&& (15#32)) != (0#32))) (· >>> 4) (· + 4#32)
        (ubStage (fun y => !((y &&& (255#32)) != (0#32))) (· >>> 8) (· + 8#32)
        (ubStage (fun y => !((y &&& (65535#32)) != (0#32))) (· >>> 16) (· + 16#32) (x, 1#32, false))))
      (if (!((p.1 &&& (1#32)) != (0#32))) then (p.2.1 + 1#32, p.2.2) else (p.2.1, p.2.2)).2 := rfl
  rw [this]
  split
  · rfl
  · simp only []
    split <;> simp only [ubStage_flag]

/-! ## Powers of two, logarithms -/

theorem toNat_sub_one {w : Nat} {x : BitVec w} (h : x ≠ 0#w) : (x - 1#w).toNat = x.toNat - 1 := by
  have hx := bv_ne_zero_toNat h
  have h1 : (1#w).toNat = 1 := Nat.mod_eq_of_lt (by have := x.isLt; omega)
  rw [BitVec.toNat_sub_of_le (BitVec.le_def.2 (by omega)), h1]

/-- the test `x & (x - 1) == 0 && x != 0` of `isPow2_32`, `isPow2_64` and `is_power2` -/
theorem and_sub_one_test_iff {w : Nat} (x : BitVec w) :
    (((x &&& (x - (1#w))) == (0#w)) && (x != (0#w))) = true ↔ ∃ k, k < w ∧ x.toNat = 2^k := by
  have key := @Nat.ne_zero_and_sub_one_eq_zero_iff_isPowerOfTwo x.toNat
  simp only [Bool.and_eq_true, beq_iff_eq, bne_iff_ne, ne_eq]
  constructor
  · rintro ⟨h1, h2⟩
    have h3 := congrArg BitVec.toNat h1
    rw [BitVec.toNat_and, toNat_sub_one h2] at h3
    obtain ⟨k, hk⟩ := key.1 ⟨bv_ne_zero_toNat h2, h3⟩
    refine ⟨k, ?_, hk⟩
    have := x.isLt; rw [hk] at this
    exact (Nat.pow_lt_pow_iff_right (by decide : 1 < 2)).1 this
  · rintro ⟨k, _, hk⟩
    obtain ⟨h2, h3⟩ := key.2 ⟨k, hk⟩
    have hx : x ≠ 0#w := by intro c; apply h2; rw [c]; rfl
    refine ⟨?_, hx⟩
    apply BitVec.eq_of_toNat_eq
    rw [BitVec.toNat_and, toNat_sub_one hx, h3]; rfl

theorem isPow2_32_iff (x : BitVec 32) : isPow2_32 x = true ↔ ∃ k, k < 32 ∧ x.toNat = 2^k :=
  and_sub_one_test_iff x

theorem isPow2_64_iff (x : BitVec 64) : isPow2_64 x = true ↔ ∃ k, k < 64 ∧ x.toNat = 2^k :=
  and_sub_one_test_iff x

theorem is_power2_iff (x : BitVec 64) : is_power2 x = true ↔ ∃ k, k < 64 ∧ x.toNat = 2^k :=
  and_sub_one_test_iff x

theorem msb64_ub_false (x : BitVec 64) : msb64_ub x = false := by
  simp only [msb64_ub, msb32_ub_false]; split <;> rfl

theorem lsb64_ub_false (x : BitVec 64) : lsb64_ub x = false := by
  simp only [lsb64_ub, lsb32_ub_false]; split
  · rfl
  · split <;> rfl

theorem log2floor_ub_false (n : BitVec 64) : log2floor_ub n = false := by
  simp [log2floor_ub, msb64nz_ub, msb64_ub_false]

theorem log2floor_zero : log2floor 0#64 = 0#64 := by decide

theorem log2_toNat_lt {w : Nat} {n : BitVec w} (hn : n ≠ 0#w) : Nat.log2 n.toNat < w :=
  (Top.exists (bv_ne_zero_toNat hn)).lt_of_lt n.isLt

theorem log2floor_toNat (n : BitVec 64) (hn : n ≠ 0#64) : (log2floor n).toNat = Nat.log2 n.toNat := by
  have h64 := log2_toNat_lt hn
  unfold log2floor msb64nz
  have hc : (n != 0#64) = true := by simp [hn]
  simp only [hc, if_true]
  rw [msb64_top n _ (Top.exists (bv_ne_zero_toNat hn))]
  generalize Nat.log2 n.toNat = k at *
  have : BitVec.ofNat 32 (k + 1) - 1#32 = BitVec.ofNat 32 k := by bv_omega
  rw [this]
  have hm : (BitVec.ofNat 32 k).msb = false := by
    rw [BitVec.msb_eq_decide]; simp; omega
  rw [BitVec.signExtend_eq_setWidth_of_msb_false hm]
  simp; omega

theorem one_shl_toNat (k : Nat) (hk : k < 64) : ((1#64) <<< k).toNat = 2^k := by
  rw [BitVec.toNat_shiftLeft, Nat.shiftLeft_eq]
  have : 2^k < 2^64 := (Nat.pow_lt_pow_iff_right (by decide : 1 < 2)).2 hk
  simp; exact this

/-- value of `log2ceil` in terms of `Nat.log2` -/
theorem log2ceil_toNat (n : BitVec 64) (hn : n ≠ 0#64) :
    (log2ceil n).toNat = if 2^(Nat.log2 n.toNat) < n.toNat then Nat.log2 n.toNat + 1 else Nat.log2 n.toNat := by
  have h64 := log2_toNat_lt hn
  have hf := log2floor_toNat n hn
  unfold log2ceil
  simp only [BitVec.ult, hf, Nat.mod_eq_of_lt h64, one_shl_toNat _ h64, decide_eq_true_eq]
  split
  · rw [BitVec.toNat_add, hf]; simp; omega
  · rw [hf]

theorem log2ceil_ub_false (n : BitVec 64) (hn : n ≠ 0#64) : log2ceil_ub n = false := by
  simp [log2ceil_ub, log2floor_ub_false, log2floor_toNat n hn, log2_toNat_lt hn]

theorem log2ceil_zero : log2ceil 0#64 = 0#64 ∧ log2ceil_ub 0#64 = false := by decide

theorem floor2_toNat (n : BitVec 64) (hn : n ≠ 0#64) : (floor2 n).toNat = 2^(Nat.log2 n.toNat) := by
  have h64 := log2_toNat_lt hn
  unfold floor2
  rw [log2floor_toNat n hn, Nat.mod_eq_of_lt h64, one_shl_toNat _ h64]

theorem floor2_ub_false (n : BitVec 64) (hn : n ≠ 0#64) : floor2_ub n = false := by
  simp [floor2_ub, log2floor_ub_false, log2floor_toNat n hn, log2_toNat_lt hn]

theorem log2ceil_le_63 (n : BitVec 64) (hn : n ≠ 0#64) (hle : n.toNat ≤ 2^63) : (log2ceil n).toNat ≤ 63 := by
  rw [log2ceil_toNat n hn]
  split
  · have : 2^(Nat.log2 n.toNat) < 2^63 := by omega
    have := (Nat.pow_lt_pow_iff_right (by decide : 1 < 2)).1 this
    omega
  · have := log2_toNat_lt hn
    omega

theorem log2ceil_beyond (n : BitVec 64) (h : 2^63 < n.toNat) : (log2ceil n).toNat = 64 := by
  have hn : n ≠ 0#64 := by intro c; rw [c] at h; simp at h
  have ht : Top n.toNat 63 := ⟨by omega, n.isLt⟩
  have : Nat.log2 n.toNat = 63 := Top.unique (Top.exists (bv_ne_zero_toNat hn)) ht
  rw [log2ceil_toNat n hn, this, if_pos h]

/-! ## Bit complement -/

theorem one_shl_bit {w : Nat} (k i : Nat) : ((1#w) <<< k).getLsbD i = decide (i < w ∧ i = k) := by
  rw [BitVec.getLsbD_shiftLeft, BitVec.getLsbD_one]
  by_cases h1 : i < w <;> by_cases h2 : i < k <;> by_cases h3 : i = k <;> simp [h1, h2, h3] <;> omega

theorem and_one_shl_ne_zero {w : Nat} (x : BitVec w) (k : Nat) (hk : k < w) :
    (x &&& ((1#w) <<< k) != 0#w) = x.getLsbD k := by
  cases hb : x.getLsbD k with
  | false =>
    have : x &&& ((1#w) <<< k) = 0#w := by
      apply BitVec.eq_of_getLsbD_eq
      intro i hi
      rw [BitVec.getLsbD_and, one_shl_bit]
      by_cases h : i = k
      · subst h; simp [hb]
      · simp [h]
    simp [this]
  | true =>
    have : x &&& ((1#w) <<< k) ≠ 0#w := by
      intro c
      have := congrArg (fun z => z.getLsbD k) c
      simp only [BitVec.getLsbD_and, one_shl_bit, hb] at this
      simp [hk] at this
    simp [this]

theorem xor_one_shl_bit {w : Nat} (x : BitVec w) (k i : Nat) (hi : i < w) :
    (x ^^^ ((1#w) <<< k)).getLsbD i = (if i = k then !(x.getLsbD i) else x.getLsbD i) := by
  rw [BitVec.getLsbD_xor, one_shl_bit]
  by_cases h : i = k
  · subst h; simp [hi]
  · simp [h]

theorem complement32_spec (x b : BitVec 32) (hb : b.toNat < 32) :
    complement32_ub x b = false ∧ (complement32 x b).1 = x.getLsbD b.toNat ∧
    ∀ i, i < 32 → ((complement32 x b).2).getLsbD i = (if i = b.toNat then !(x.getLsbD i) else x.getLsbD i) := by
  refine ⟨?_, ?_, ?_⟩
  · simp [complement32_ub]; omega
  · simp only [complement32, Nat.mod_eq_of_lt hb]
    exact and_one_shl_ne_zero x _ hb
  · simp only [complement32, Nat.mod_eq_of_lt hb]
    exact xor_one_shl_bit x _

theorem complement64_spec (x : BitVec 64) (b : BitVec 32) (hb : b.toNat < 64) :
    complement64_ub x b = false ∧ (complement64 x b).1 = x.getLsbD b.toNat ∧
    ∀ i, i < 64 → ((complement64 x b).2).getLsbD i = (if i = b.toNat then !(x.getLsbD i) else x.getLsbD i) := by
  refine ⟨?_, ?_, ?_⟩
  · simp [complement64_ub]; omega
  · simp only [complement64, Nat.mod_eq_of_lt hb]
    exact and_one_shl_ne_zero x _ hb
  · simp only [complement64, Nat.mod_eq_of_lt hb]
    exact xor_one_shl_bit x _

end CdsVerif.Algo.Bits
