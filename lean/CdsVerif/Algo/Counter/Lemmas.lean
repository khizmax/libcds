/-
  Helper lemmas for property C26 (`cds::bitop::bit_reverse_counter<size_t>`,
  cds/details/bit_reverse_counter.h), about the executable model in
  `CdsVerif.Algo.Counter.Model` and the *generated* primitive
  `CdsVerif.Gen.BitopGeneric.complement64`.

  Everything is proved for all `n` in range by induction; nothing is enumerated.
-/
import CdsVerif.Algo.Counter.Model
namespace CdsVerif.Algo.Counter
open CdsVerif.Gen.BitopGeneric

/-! ## The per-bit primitive `complement64` -/

theorem xor_twoPow_of_clear (x : BitVec 64) (b : Nat) (h : x.getLsbD b = false) :
    x ^^^ BitVec.twoPow 64 b = x + BitVec.twoPow 64 b := by
  rw [BitVec.add_eq_or_of_and_eq_zero]
  · apply BitVec.eq_of_getLsbD_eq; intro i hi
    by_cases hib : b = i
    · subst hib; simp [h]
    · simp [hib]
  · rw [BitVec.and_twoPow]; simp [h]

theorem xor_twoPow_of_set (x : BitVec 64) (b : Nat) (h : x.getLsbD b = true) :
    x ^^^ BitVec.twoPow 64 b = x - BitVec.twoPow 64 b := by
  have h2 : (x ^^^ BitVec.twoPow 64 b).getLsbD b = false := by
    have : b < 64 := by
      by_cases hb : b < 64
      · exact hb
      · rw [BitVec.getLsbD_of_ge _ _ (by omega)] at h; cases h
    simp [h, this]
  have := xor_twoPow_of_clear _ b h2
  rw [BitVec.xor_assoc, BitVec.xor_self, BitVec.xor_zero] at this
  rw [BitVec.eq_sub_iff_add_eq]; exact this.symm

theorem twoPow_ne_zero (b : Nat) (hb : b < 64) : BitVec.twoPow 64 b ≠ 0#64 := by
  intro h
  have := congrArg BitVec.toNat h
  rw [BitVec.toNat_twoPow_of_lt hb] at this
  have := Nat.two_pow_pos b
  simp at *

theorem xor_twoPow_toNat_of_set (x : BitVec 64) (b : Nat) (hb : b < 64) (h : x.getLsbD b = true) :
    (x ^^^ BitVec.twoPow 64 b).toNat = x.toNat - 2 ^ b ∧ 2 ^ b ≤ x.toNat := by
  have hge : 2 ^ b ≤ x.toNat := Nat.ge_two_pow_of_testBit h
  refine ⟨?_, hge⟩
  rw [xor_twoPow_of_set x b h, BitVec.toNat_sub_of_le, BitVec.toNat_twoPow_of_lt hb]
  rw [BitVec.le_def, BitVec.toNat_twoPow_of_lt hb]; exact hge

theorem xor_twoPow_toNat (x : BitVec 64) (b : Nat) (hb : b < 64) :
    (x ^^^ BitVec.twoPow 64 b).toNat =
      if x.getLsbD b then x.toNat - 2 ^ b else x.toNat + 2 ^ b := by
  cases h : x.getLsbD b
  · have h2 : (x ^^^ BitVec.twoPow 64 b).getLsbD b = true := by
      rw [BitVec.getLsbD_xor, h, BitVec.getLsbD_twoPow]; simp [hb]
    have := xor_twoPow_toNat_of_set _ b hb h2
    rw [BitVec.xor_assoc, BitVec.xor_self, BitVec.xor_zero] at this
    simp only [Bool.false_eq_true, if_false]
    omega
  · simp only [if_true]
    exact (xor_twoPow_toNat_of_set x b hb h).1

theorem complement64_fst (x : BitVec 64) (b : Nat) (hb : b < 64) :
    (complement64 x (BitVec.ofNat 32 b)).1 = x.getLsbD b := by
  have e : (BitVec.ofNat 32 b).toNat % 64 = b := by simp; omega
  simp only [complement64, e, ← BitVec.twoPow_eq, BitVec.and_twoPow]
  cases h : x.getLsbD b <;> simp [twoPow_ne_zero b hb]

theorem complement64_snd_toNat (x : BitVec 64) (b : Nat) (hb : b < 64) :
    (complement64 x (BitVec.ofNat 32 b)).2.toNat =
      if x.getLsbD b then x.toNat - 2 ^ b else x.toNat + 2 ^ b := by
  have e : (BitVec.ofNat 32 b).toNat % 64 = b := by simp; omega
  simp only [complement64, e, ← BitVec.twoPow_eq]
  exact xor_twoPow_toNat x b hb

/-! ## Bit reversal of the `k` low bits, on `Nat` -/

/-- reverse the `k` low bits of `j` (bits `≥ k` of the result are 0) -/
def revBits : Nat → Nat → Nat
  | 0, _ => 0
  | k + 1, j => 2 ^ k * (j % 2) + revBits k (j / 2)

theorem revBits_lt (k j : Nat) : revBits k j < 2 ^ k := by
  induction k generalizing j with
  | zero => simp [revBits]
  | succ k ih =>
    have := ih (j / 2)
    have : j % 2 < 2 := Nat.mod_lt _ (by omega)
    rw [revBits, Nat.pow_succ]
    rcases Nat.mod_two_eq_zero_or_one j with h | h <;> rw [h] <;> omega

/-- specification of `revBits`: bit `i` of the result is bit `k-1-i` of the argument -/
theorem testBit_revBits (k j i : Nat) :
    (revBits k j).testBit i = (decide (i < k) && j.testBit (k - 1 - i)) := by
  induction k generalizing j i with
  | zero => simp [revBits]
  | succ k ih =>
    rw [revBits, Nat.testBit_two_pow_mul_add _ (revBits_lt k _)]
    by_cases h : i < k
    · simp only [h, if_true, ih, decide_true, Bool.true_and, show i < k + 1 by omega]
      rw [show k + 1 - 1 - i = (k - 1 - i) + 1 by omega, Nat.testBit_add_one]
    · simp only [h, if_false]
      by_cases h2 : i = k
      · subst h2; simp [Nat.testBit_zero]
      · have : ¬ i < k + 1 := by omega
        simp only [this, decide_false, Bool.false_and]
        apply Nat.testBit_lt_two_pow
        have : j % 2 < 2 := Nat.mod_lt _ (by omega)
        have : 2 ^ 1 ≤ 2 ^ (i - k) := Nat.pow_le_pow_right (by omega) (by omega)
        omega

theorem revBits_zero (k : Nat) : revBits k 0 = 0 := by
  induction k with
  | zero => rfl
  | succ k ih => simp [revBits, ih]

theorem revBits_all_ones (k : Nat) : revBits k (2 ^ k - 1) = 2 ^ k - 1 := by
  induction k with
  | zero => rfl
  | succ k ih =>
    have := Nat.two_pow_pos k
    rw [revBits, show (2 ^ (k+1) - 1) / 2 = 2 ^ k - 1 by rw [Nat.pow_succ]; omega,
      show (2 ^ (k+1) - 1) % 2 = 1 by rw [Nat.pow_succ]; omega, ih, Nat.pow_succ]
    omega

theorem revBits_revBits (k j : Nat) (hj : j < 2 ^ k) : revBits k (revBits k j) = j := by
  apply Nat.eq_of_testBit_eq
  intro i
  rw [testBit_revBits, testBit_revBits]
  by_cases h : i < k
  · have : k - 1 - i < k := by omega
    simp only [h, this, decide_true, Bool.true_and]
    rw [show k - 1 - (k - 1 - i) = i by omega]
  · simp only [h, decide_false, Bool.false_and]
    symm; apply Nat.testBit_lt_two_pow
    have : 2 ^ k ≤ 2 ^ i := Nat.pow_le_pow_right (by omega) (by omega)
    omega

theorem revBits_injective (k a b : Nat) (ha : a < 2 ^ k) (hb : b < 2 ^ k)
    (h : revBits k a = revBits k b) : a = b := by
  rw [← revBits_revBits k a ha, ← revBits_revBits k b hb, h]

/-! ## `flipLoop` is a bit-reversed increment / decrement -/

/-- value of bit `k` of `2^k * m + r` with `r < 2^k` -/
theorem getLsbD_of_decomp (x : BitVec 64) (k m r : Nat) (hx : x.toNat = 2 ^ k * m + r) (hr : r < 2 ^ k) :
    x.getLsbD k = decide (m % 2 = 1) := by
  rw [← BitVec.testBit_toNat, hx, Nat.testBit_two_pow_mul_add _ hr]
  simp [Nat.testBit_zero]

/-- `flipLoop false k` (the loop of `inc`) adds one to the `k` low bits read in reverse order;
    it leaves the loop by `break` unless those bits were all ones, in which case they are all cleared. -/
theorem flipLoop_false (k : Nat) (hk : k ≤ 64) (rev : BitVec 64) (h j : Nat)
    (hrev : rev.toNat = 2 ^ k * h + revBits k j) (hj : j < 2 ^ k) :
    (flipLoop false k rev).1.toNat = (if j + 1 < 2 ^ k then 2 ^ k * h + revBits k (j + 1) else 2 ^ k * h) ∧
    (flipLoop false k rev).2 = decide (j + 1 < 2 ^ k) := by
  induction k generalizing rev h j with
  | zero => simp at hj; subst hj; simp [flipLoop, hrev, revBits]
  | succ k ih =>
    have hk' : k < 64 := by omega
    have hR := revBits_lt k (j / 2)
    have hpow : 2 ^ (k + 1) = 2 * 2 ^ k := by rw [Nat.pow_succ]; omega
    rw [revBits] at hrev
    have hrev' : rev.toNat = 2 ^ k * (2 * h + j % 2) + revBits k (j / 2) := by
      rw [hrev, hpow, Nat.mul_add, Nat.mul_assoc, Nat.mul_left_comm]; omega
    have hbit := getLsbD_of_decomp rev k _ _ hrev' hR
    have h1 := complement64_fst rev k hk'
    have h2 := complement64_snd_toNat rev k hk'
    rw [hbit] at h1 h2
    unfold flipLoop
    simp only [h1]
    rcases Nat.mod_two_eq_zero_or_one j with hj2 | hj2
    · -- bit k clear: set it and break
      have hd : decide ((2 * h + j % 2) % 2 = 1) = false := by rw [hj2]; simp
      rw [hd] at h2 ⊢
      simp only [if_true, Bool.false_eq_true, if_false] at h2 ⊢
      have hlt : j + 1 < 2 ^ (k + 1) := by omega
      simp only [hlt, if_true, decide_true, and_true]
      rw [h2, hrev', revBits, show (j + 1) % 2 = 1 by omega, show (j + 1) / 2 = j / 2 by omega, hj2, hpow,
        Nat.mul_add, Nat.mul_assoc]
      simp only [Nat.mul_left_comm, Nat.mul_zero, Nat.mul_one]; omega
    · -- bit k set: clear it and continue with the lower bits
      have hd : decide ((2 * h + j % 2) % 2 = 1) = true := by rw [hj2]; simp
      rw [hd] at h2 ⊢
      simp only [if_true, Bool.true_eq_false, if_false] at h2 ⊢
      have e2 : 2 ^ (k + 1) * h = 2 ^ k * (2 * h) := by rw [Nat.pow_succ, Nat.mul_assoc]
      have hrev2 : (complement64 rev (BitVec.ofNat 32 k)).2.toNat = 2 ^ k * (2 * h) + revBits k (j / 2) := by
        rw [h2, hrev', hj2, Nat.mul_add (2 ^ k) (2 * h) 1]; omega
      have := ih (by omega) _ (2 * h) (j / 2) hrev2 (by omega)
      rw [this.1, this.2, e2]
      have hiff : (j + 1 < 2 ^ (k + 1)) ↔ (j / 2 + 1 < 2 ^ k) := by omega
      simp only [hiff, and_true]
      split
      · rw [revBits, show (j + 1) % 2 = 0 by omega, show (j + 1) / 2 = j / 2 + 1 by omega]; simp
      · rfl

/-- `flipLoop true k` (the loop of `dec`) subtracts one from the `k` low bits read in reverse order;
    it leaves the loop by `break` unless those bits were all zero, in which case they are all set. -/
theorem flipLoop_true (k : Nat) (hk : k ≤ 64) (rev : BitVec 64) (h j : Nat)
    (hrev : rev.toNat = 2 ^ k * h + revBits k j) (hj : j < 2 ^ k) :
    (flipLoop true k rev).1.toNat =
      (if 1 ≤ j then 2 ^ k * h + revBits k (j - 1) else 2 ^ k * h + (2 ^ k - 1)) ∧
    (flipLoop true k rev).2 = decide (1 ≤ j) := by
  induction k generalizing rev h j with
  | zero => simp at hj; subst hj; simp [flipLoop, hrev, revBits]
  | succ k ih =>
    have hk' : k < 64 := by omega
    have hR := revBits_lt k (j / 2)
    have hpow : 2 ^ (k + 1) = 2 * 2 ^ k := by rw [Nat.pow_succ]; omega
    have e2 : 2 ^ (k + 1) * h = 2 ^ k * (2 * h) := by rw [Nat.pow_succ, Nat.mul_assoc]
    rw [revBits] at hrev
    have hrev' : rev.toNat = 2 ^ k * (2 * h + j % 2) + revBits k (j / 2) := by
      rw [hrev, e2, Nat.mul_add]; omega
    have hbit := getLsbD_of_decomp rev k _ _ hrev' hR
    have h1 := complement64_fst rev k hk'
    have h2 := complement64_snd_toNat rev k hk'
    rw [hbit] at h1 h2
    unfold flipLoop
    simp only [h1]
    rcases Nat.mod_two_eq_zero_or_one j with hj2 | hj2
    · -- bit k clear: set it and continue with the lower bits
      have hd : decide ((2 * h + j % 2) % 2 = 1) = false := by rw [hj2]; simp
      rw [hd] at h2 ⊢
      rw [hj2, Nat.add_zero] at hrev'
      simp only [Bool.false_eq_true, if_false] at h2 ⊢
      have hrev2 : (complement64 rev (BitVec.ofNat 32 k)).2.toNat =
          2 ^ k * (2 * h + 1) + revBits k (j / 2) := by
        rw [h2, hrev', Nat.mul_add (2 ^ k) (2 * h) 1]; omega
      have := ih (by omega) _ (2 * h + 1) (j / 2) hrev2 (by omega)
      rw [this.1, this.2, e2]
      have hiff : (1 ≤ j) ↔ (1 ≤ j / 2) := by omega
      simp only [hiff, and_true]
      split
      · rw [revBits, show (j - 1) % 2 = 1 by omega, show (j - 1) / 2 = j / 2 - 1 by omega,
          Nat.mul_add (2 ^ k) (2 * h) 1]; omega
      · rw [Nat.mul_add (2 ^ k) (2 * h) 1, hpow]; omega
    · -- bit k set: clear it and break
      have hd : decide ((2 * h + j % 2) % 2 = 1) = true := by rw [hj2]; simp
      rw [hd] at h2 ⊢
      simp only [if_true] at h2 ⊢
      have hlt : 1 ≤ j := by omega
      simp only [hlt, if_true, decide_true, and_true]
      rw [h2, hrev', revBits, show (j - 1) % 2 = 0 by omega, show (j - 1) / 2 = j / 2 by omega, hj2, e2,
        Nat.mul_add (2 ^ k) (2 * h) 1]
      omega

/-! ## Closed form of the reachable states -/

/-- closed form of the state after `n` increments -/
def closed (n : Nat) : Ctr :=
  if n = 0 then Ctr.init
  else ⟨BitVec.ofNat 64 n,
        BitVec.ofNat 64 (2 ^ Nat.log2 n + revBits (Nat.log2 n) (n - 2 ^ Nat.log2 n)),
        (Nat.log2 n : Int)⟩

theorem closed_zero : closed 0 = Ctr.init := rfl

theorem closed_pos (n : Nat) (hn : 1 ≤ n) :
    closed n = ⟨BitVec.ofNat 64 n,
        BitVec.ofNat 64 (2 ^ Nat.log2 n + revBits (Nat.log2 n) (n - 2 ^ Nat.log2 n)),
        (Nat.log2 n : Int)⟩ := by
  unfold closed; rw [if_neg (by omega)]

theorem closed_one : closed 1 = ⟨1#64, 1#64, 0⟩ := by
  have : Nat.log2 1 = 0 := (Nat.log2_eq_iff (by omega)).2 (by omega)
  rw [closed_pos 1 (by omega), this]; rfl

theorem Ctr.inc_eq (c : Ctr) :
    c.inc = if (flipLoop false c.highBit.toNat c.reversed).2
      then ((flipLoop false c.highBit.toNat c.reversed).1,
            ⟨c.counter + 1, (flipLoop false c.highBit.toNat c.reversed).1, c.highBit⟩)
      else (c.counter + 1, ⟨c.counter + 1, c.counter + 1, c.highBit + 1⟩) := rfl

theorem Ctr.dec_eq (c : Ctr) :
    c.dec = if (flipLoop true c.highBit.toNat c.reversed).2
      then (c.reversed, ⟨c.counter - 1, (flipLoop true c.highBit.toNat c.reversed).1, c.highBit⟩)
      else (c.reversed, ⟨c.counter - 1, c.counter - 1, c.highBit - 1⟩) := rfl

theorem log2_bounds (n : Nat) (hn : 1 ≤ n) (h64 : n < 2 ^ 64) :
    2 ^ Nat.log2 n ≤ n ∧ n < 2 ^ (Nat.log2 n + 1) ∧ Nat.log2 n < 64 :=
  ⟨Nat.log2_self_le (by omega), Nat.lt_log2_self, (Nat.log2_lt (by omega)).2 h64⟩

theorem ofNat_toNat_of_lt (x : Nat) (h : x < 2 ^ 64) : (BitVec.ofNat 64 x).toNat = x := by
  rw [BitVec.toNat_ofNat]; exact Nat.mod_eq_of_lt h

theorem ofNat_add_one (n : Nat) : BitVec.ofNat 64 n + 1 = BitVec.ofNat 64 (n + 1) := by
  apply BitVec.eq_of_toNat_eq; simp [BitVec.toNat_add, BitVec.toNat_ofNat]

theorem ofNat_succ_sub_one (n : Nat) : BitVec.ofNat 64 (n + 1) - 1 = BitVec.ofNat 64 n := by
  rw [← ofNat_add_one]; exact BitVec.add_sub_cancel _ _

/-- one `inc` from the closed form at `n` yields the closed form at `n+1`, and returns its `reversed` -/
theorem inc_closed (n : Nat) (hn : n + 1 < 2 ^ 64) :
    (closed n).inc = ((closed (n + 1)).reversed, closed (n + 1)) := by
  rcases Nat.eq_zero_or_pos n with rfl | hpos
  · rw [closed_one]; rfl
  · obtain ⟨hlo, hhi, hk⟩ := log2_bounds n hpos (by omega)
    rw [closed_pos n hpos, closed_pos (n + 1) (by omega), Ctr.inc_eq]
    generalize Nat.log2 n = k at *
    have hp : 2 ^ (k + 1) ≤ 2 ^ 64 := Nat.pow_le_pow_right (by omega) (by omega)
    have hpow : 2 ^ (k + 1) = 2 * 2 ^ k := by rw [Nat.pow_succ]; omega
    have hR := revBits_lt k (n - 2 ^ k)
    have hrev : (BitVec.ofNat 64 (2 ^ k + revBits k (n - 2 ^ k))).toNat
        = 2 ^ k * 1 + revBits k (n - 2 ^ k) := by
      rw [ofNat_toNat_of_lt _ (by omega)]; omega
    have := flipLoop_false k (by omega) _ 1 (n - 2 ^ k) hrev (by omega)
    simp only [Int.toNat_natCast, ofNat_add_one]
    rw [this.2]
    by_cases hlt : n - 2 ^ k + 1 < 2 ^ k
    · have hlog : Nat.log2 (n + 1) = k := (Nat.log2_eq_iff (by omega)).2 (by omega)
      have h1 := this.1
      rw [if_pos hlt] at h1
      have : (flipLoop false k (BitVec.ofNat 64 (2 ^ k + revBits k (n - 2 ^ k)))).1
          = BitVec.ofNat 64 (2 ^ k + revBits k (n + 1 - 2 ^ k)) := by
        apply BitVec.eq_of_toNat_eq
        have hR' := revBits_lt k (n + 1 - 2 ^ k)
        rw [h1, ofNat_toNat_of_lt _ (by omega), show n - 2 ^ k + 1 = n + 1 - 2 ^ k by omega]; omega
      simp only [hlt, decide_true, if_true, hlog, this]
    · have hlog : Nat.log2 (n + 1) = k + 1 := (Nat.log2_eq_iff (by omega)).2 (by omega)
      have : n + 1 - 2 ^ (k + 1) = 0 := by omega
      simp only [hlt, decide_false, Bool.false_eq_true, if_false, hlog, this, revBits_zero, Nat.add_zero]
      have : n + 1 = 2 ^ (k + 1) := by omega
      rw [this]; rfl

/-- one `dec` from the closed form at `n+1` yields the closed form at `n`,
    and returns the `reversed` value of the state it started from -/
theorem dec_closed (n : Nat) (hn : n + 1 < 2 ^ 64) :
    (closed (n + 1)).dec = ((closed (n + 1)).reversed, closed n) := by
  rcases Nat.eq_zero_or_pos n with rfl | hpos
  · rw [closed_one]; rfl
  · obtain ⟨hlo, hhi, hk⟩ := log2_bounds (n + 1) (by omega) hn
    rw [closed_pos n hpos, closed_pos (n + 1) (by omega), Ctr.dec_eq]
    generalize Nat.log2 (n + 1) = k at *
    have hp : 2 ^ (k + 1) ≤ 2 ^ 64 := Nat.pow_le_pow_right (by omega) (by omega)
    have hpow : 2 ^ (k + 1) = 2 * 2 ^ k := by rw [Nat.pow_succ]; omega
    have hR := revBits_lt k (n + 1 - 2 ^ k)
    have hrev : (BitVec.ofNat 64 (2 ^ k + revBits k (n + 1 - 2 ^ k))).toNat
        = 2 ^ k * 1 + revBits k (n + 1 - 2 ^ k) := by
      rw [ofNat_toNat_of_lt _ (by omega)]; omega
    have := flipLoop_true k (by omega) _ 1 (n + 1 - 2 ^ k) hrev (by omega)
    simp only [Int.toNat_natCast, ofNat_succ_sub_one]
    rw [this.2]
    by_cases hge : 1 ≤ n + 1 - 2 ^ k
    · have hlog : Nat.log2 n = k := (Nat.log2_eq_iff (by omega)).2 (by omega)
      have h1 := this.1
      rw [if_pos hge] at h1
      have : (flipLoop true k (BitVec.ofNat 64 (2 ^ k + revBits k (n + 1 - 2 ^ k)))).1
          = BitVec.ofNat 64 (2 ^ k + revBits k (n - 2 ^ k)) := by
        apply BitVec.eq_of_toNat_eq
        have hR' := revBits_lt k (n - 2 ^ k)
        rw [h1, ofNat_toNat_of_lt _ (by omega), show n + 1 - 2 ^ k - 1 = n - 2 ^ k by omega]; omega
      simp only [hge, decide_true, if_true, hlog, this]
    · cases k with
      | zero => simp at hlo hhi; omega
      | succ m =>
        have hpm : 2 ^ (m + 1) = 2 * 2 ^ m := by rw [Nat.pow_succ]; omega
        have hlog : Nat.log2 n = m := (Nat.log2_eq_iff (by omega)).2 (by omega)
        have hn' : n - 2 ^ m = 2 ^ m - 1 := by omega
        have : 2 ^ m + (2 ^ m - 1) = n := by omega
        simp only [hge, decide_false, Bool.false_eq_true, if_false, hlog, hn', revBits_all_ones, this]
        congr 2
        omega

/-! ## `incN`, `slot` -/

/-- state after `n` calls of `inc` from `Ctr.init` -/
def incN : Nat → Ctr
  | 0 => Ctr.init
  | n + 1 => (incN n).inc.2

/-- value returned by the `n`-th `inc` (`n ≥ 1`; `slot 0 = 0` is a dummy), as a `Nat` -/
def slot : Nat → Nat
  | 0 => 0
  | n + 1 => (incN n).inc.1.toNat

theorem incN_eq_closed (n : Nat) (hn : n < 2 ^ 64) : incN n = closed n := by
  induction n with
  | zero => rfl
  | succ n ih => rw [incN, ih (by omega), inc_closed n hn]

theorem slot_eq (n : Nat) (h1 : 1 ≤ n) (hn : n < 2 ^ 64) :
    slot n = 2 ^ Nat.log2 n + revBits (Nat.log2 n) (n - 2 ^ Nat.log2 n) := by
  obtain ⟨m, rfl⟩ : ∃ m, n = m + 1 := ⟨n - 1, by omega⟩
  obtain ⟨hlo, hhi, hk⟩ := log2_bounds (m + 1) (by omega) hn
  rw [slot, incN_eq_closed m (by omega), inc_closed m hn, closed_pos (m + 1) (by omega)]
  generalize Nat.log2 (m + 1) = k at *
  have hp : 2 ^ (k + 1) ≤ 2 ^ 64 := Nat.pow_le_pow_right (by omega) (by omega)
  have hpow : 2 ^ (k + 1) = 2 * 2 ^ k := by rw [Nat.pow_succ]; omega
  have hR := revBits_lt k (m + 1 - 2 ^ k)
  exact ofNat_toNat_of_lt _ (by omega)

theorem log2_two_pow_add (k j : Nat) (hj : j < 2 ^ k) : Nat.log2 (2 ^ k + j) = k := by
  have := Nat.two_pow_pos k
  refine (Nat.log2_eq_iff (by omega)).2 ⟨by omega, ?_⟩
  rw [Nat.pow_succ]; omega

theorem log2_slot (n : Nat) (h1 : 1 ≤ n) (hn : n < 2 ^ 64) : Nat.log2 (slot n) = Nat.log2 n := by
  rw [slot_eq n h1 hn]
  exact log2_two_pow_add _ _ (revBits_lt _ _)

/-! ## Runs -/

theorem run_closed (ops : List Bool) (n : Nat)
    (hpre : ∀ p, p <+: ops → p.count false ≤ n + p.count true)
    (hlen : n + ops.length < 2 ^ 64) :
    (Ctr.run (closed n) ops).2 = closed (n + ops.count true - ops.count false) := by
  induction ops generalizing n with
  | nil => simp [Ctr.run]
  | cons op ops ih =>
    cases op with
    | true =>
      have := ih (n + 1) (fun p hp => by
        have := hpre (true :: p) (List.prefix_cons_inj true |>.2 hp)
        simp at this; omega) (by simp at hlen; omega)
      simp only [Ctr.run, if_true, inc_closed n (by simp at hlen; omega)]
      rw [this]; simp; congr 1; omega
    | false =>
      have h0 := hpre [false] (by simp)
      simp at h0
      obtain ⟨m, rfl⟩ : ∃ m, n = m + 1 := ⟨n - 1, by omega⟩
      have := ih m (fun p hp => by
        have := hpre (false :: p) (List.prefix_cons_inj false |>.2 hp)
        simp at this; omega) (by simp at hlen; omega)
      simp only [Ctr.run, Bool.false_eq_true, if_false, dec_closed m (by simp at hlen; omega)]
      rw [this]; simp; congr 1; omega

/-! ## Slots, level by level -/

/-- the slots of level `k` (`n = 2^k + j`, `j < 2^k`) are `2^k + revBits k j` -/
theorem slot_two_pow_add (k j : Nat) (hk : k < 64) (hj : j < 2 ^ k) :
    slot (2 ^ k + j) = 2 ^ k + revBits k j := by
  have := Nat.two_pow_pos k
  have hp : 2 ^ (k + 1) ≤ 2 ^ 64 := Nat.pow_le_pow_right (by omega) (by omega)
  rw [Nat.pow_succ] at hp
  rw [slot_eq _ (by omega) (by omega), log2_two_pow_add k j hj, Nat.add_sub_cancel_left]

/-- decomposition of a positive number into its level and offset -/
theorem level_decomp (n : Nat) (h1 : 1 ≤ n) :
    ∃ j, j < 2 ^ Nat.log2 n ∧ n = 2 ^ Nat.log2 n + j := by
  have hlo := Nat.log2_self_le (n := n) (by omega)
  have hhi := Nat.lt_log2_self (n := n)
  rw [Nat.pow_succ] at hhi
  exact ⟨n - 2 ^ Nat.log2 n, by omega, by omega⟩

/-- every `s ≥ 1` is a slot, produced by an `inc` on the same level -/
theorem exists_slot_eq (s : Nat) (h1 : 1 ≤ s) (hs : s < 2 ^ 64) :
    ∃ n, 1 ≤ n ∧ Nat.log2 n = Nat.log2 s ∧ slot n = s := by
  obtain ⟨t, ht, hst⟩ := level_decomp s h1
  have hk : Nat.log2 s < 64 := (Nat.log2_lt (by omega)).2 hs
  generalize Nat.log2 s = k at *
  have hR := revBits_lt k t
  have := Nat.two_pow_pos k
  refine ⟨2 ^ k + revBits k t, by omega, log2_two_pow_add k _ hR, ?_⟩
  rw [slot_two_pow_add k _ hk hR, revBits_revBits k t ht, hst]

theorem log2_mono {m n : Nat} (h : m ≤ n) : Nat.log2 m ≤ Nat.log2 n := by
  rcases Nat.eq_zero_or_pos m with rfl | hm
  · simp
  · exact (Nat.le_log2 (by omega)).2 (Nat.le_trans (Nat.log2_self_le (by omega)) h)

end CdsVerif.Algo.Counter
