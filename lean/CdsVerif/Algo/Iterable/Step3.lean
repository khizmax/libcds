/-
  Preservation of `SInv`, part 3: the iterator's steps, `invoke`, `result`; `SInv` holds in every reachable state.
-/
import CdsVerif.Algo.Iterable.Step2
namespace CdsVerif.Algo.Iterable
open CdsVerif.Machine CdsVerif.Spec

/-- Another thread keeps its facts when the stepping thread changes its own iterator state. -/
theorem TInv.frame_iter {s : St} {t' : Tid} (h : SInv s) (hpf : Tid → Option Nat) (hvf : Tid → Bool)
    (itf : Tid → Nat) (pcf : Tid → PC) (yf : Tid → List Nat) (cf : Tid → Nat → Bool)
    (h1 : hpf t' = s.hp t') (h2 : hvf t' = s.hv t') (h3 : itf t' = s.itn t') :
    TInv { s with hp := hpf, hv := hvf, itn := itf, pc := pcf, yl := yf, cand := cf } t' (s.pc t') :=
  (h.thr t').frame rfl rfl rfl (Nat.le_refl _) h3 h1 h2 (fun _ _ => rfl) (fun _ _ => rfl)
    (fun _ _ => ⟨rfl, rfl⟩) (fun _ _ => ⟨rfl, rfl⟩) (fun _ _ => ⟨rfl, rfl⟩) (fun _ _ => ⟨rfl, rfl, rfl⟩)
    (fun _ _ => rfl) (fun _ _ h => h) (fun _ h => h) (fun _ _ => rfl)

/-- Thread `t` writes only its own iterator state (hazard slot, validation flag, position, ghost yield list and
    candidates), moving from `X` to `Y`. -/
theorem sinv_iter {s : St} {t : Tid} {X Y : PC} (h : SInv s) (hpc : s.pc t = X) {hpf : Tid → Option Nat}
    {hvf : Tid → Bool} {itf : Tid → Nat} {yf : Tid → List Nat} {cf : Tid → Nat → Bool}
    (h1 : ∀ u, u ≠ t → hpf u = s.hp u) (h2 : ∀ u, u ≠ t → hvf u = s.hv u) (h3 : ∀ u, u ≠ t → itf u = s.itn u)
    (hY : TInv { s with hp := hpf, hv := hvf, itn := itf, pc := upd s.pc t Y, yl := yf, cand := cf } t Y)
    (hholds : ∀ a, holds X a → holds Y a) (hpriv : ∀ n, priv Y = some n → priv X = some n)
    (hpend : ∀ e, pend Y = some e → pend X = some e) :
    SInv { s with hp := hpf, hv := hvf, itn := itf, pc := upd s.pc t Y, yl := yf, cand := cf } :=
  sinv_build_keep h hpc rfl h.ord h.fresh h.elem h.bit (fun a hm => hholds a (hpc ▸ h.own a t hm))
    (fun _ _ _ hm => hm) hY (fun t0 h0 => TInv.frame_iter h _ _ _ _ _ _ (h1 t0 h0) (h2 t0 h0) (h3 t0 h0)) hpriv hpend

theorem step_itLd1 {s : St} {t : Tid} (h : SInv s) (hpc : s.pc t = .itLd1) :
    SInv { s with pc := upd s.pc t (.itHp (s.data (s.itn t))) } :=
  have hT : TInv s t .itLd1 := hpc ▸ h.thr t
  sinv_pc_only h hpc _ { hT with hvok := fun _ _ hu => nomatch hu } (fun _ e => e) (fun _ e => e) (fun _ e => e)

theorem step_itHp {s : St} {t : Tid} {w : DW} (h : SInv s) (hpc : s.pc t = .itHp w) :
    SInv { s with hp := upd s.hp t w.p, hv := upd s.hv t false, pc := upd s.pc t (.itLd2 w) } :=
  have hT : TInv s t (.itHp w) := hpc ▸ h.thr t
  have hv : ¬ upd s.hv t false t = true := fun e => nomatch (upd_same _ _ _).symm.trans e
  sinv_iter h hpc (fun _ hu => upd_other _ _ _ _ hu) (fun _ hu => upd_other _ _ _ _ hu) (fun _ _ => rfl)
    { hT with
      nt := fun hle => nomatch (hT.nt hle).2
      safe := fun _ _ e => absurd e hv
      atn := fun _ _ e => absurd e hv
      ea := nofun
      ld2 := fun w' e => by cases e; exact upd_same _ _ _
      hvok := fun _ _ hu => nomatch hu }
    (fun _ e => e) (fun _ e => e) (fun _ e => e)

theorem step_itLd2_some {s : St} {t : Tid} {w : DW} {e : Nat} (h : SInv s) (hpc : s.pc t = .itLd2 w)
    (hd : s.data (s.itn t) = w) (hw : w.p = some e) :
    SInv { s with hv := upd s.hv t true, yl := upd s.yl t (s.yl t ++ [e]),
                  pc := upd s.pc t (.done [1, (e : Int)]) } :=
  have hT : TInv s t (.itLd2 w) := hpc ▸ h.thr t
  have hp : (s.data (s.itn t)).p = some e := by rw [hd]; exact hw
  -- the guard holds the element just seen in the iterator's node
  have hg : ∀ x, s.hp t = some x → x = e := fun x hx => Option.some.inj (hx.symm.trans ((hT.ld2 w rfl).trans hw))
  sinv_iter h hpc (fun _ _ => rfl) (fun _ hu => upd_other _ _ _ _ hu) (fun _ _ => rfl)
    { hT with
      nt := fun hle => nomatch (hT.nt hle).2
      safe := fun x hx _ => by
        cases hdis : s.disposed x with
        | false => rfl
        | true => exact absurd (h.elem.live _ _ hp) (hg x hx ▸ h.elem.dret x hdis)
      atn := fun x hx _ _ => by rw [hg x hx]; exact h.elem.ehome (s.itn t) e hp
      ea := nofun
      ld2 := nofun
      hvok := fun _ _ _ => upd_same _ _ _ }
    (fun _ e => e) (fun _ e => e) (fun _ e => e)

theorem step_itLd2_none {s : St} {t : Tid} {w : DW} (h : SInv s) (hpc : s.pc t = .itLd2 w) (hw : w.p = none) :
    SInv { s with hv := upd s.hv t true, pc := upd s.pc t .itNext } :=
  have hT : TInv s t (.itLd2 w) := hpc ▸ h.thr t
  have hg : ∀ x, ¬ s.hp t = some x := fun _ hx => nomatch hx.symm.trans ((hT.ld2 w rfl).trans hw)
  sinv_iter h hpc (fun _ _ => rfl) (fun _ hu => upd_other _ _ _ _ hu) (fun _ _ => rfl)
    { hT with
      nt := fun hle => nomatch (hT.nt hle).2
      safe := fun x hx => absurd hx (hg x)
      atn := fun x hx => absurd hx (hg x)
      ea := nofun
      ld2 := nofun
      hvok := fun _ _ _ => upd_same _ _ _ }
    (fun _ e => e) (fun _ e => e) (fun _ e => e)

theorem step_itLd2_retry {s : St} {t : Tid} {w : DW} (h : SInv s) (hpc : s.pc t = .itLd2 w) :
    SInv { s with pc := upd s.pc t (.itHp (s.data (s.itn t))) } :=
  have hT : TInv s t (.itLd2 w) := hpc ▸ h.thr t
  sinv_pc_only h hpc _ { hT with ld2 := nofun } (fun _ e => e) (fun _ e => e) (fun _ e => e)

theorem step_itNext_end {s : St} {t : Tid} (h : SInv s) (hpc : s.pc t = .itNext) :
    SInv { s with pc := upd s.pc t .itClr } :=
  have hT : TInv s t .itNext := hpc ▸ h.thr t
  sinv_pc_only h hpc _ { hT with } (fun _ e => e) (fun _ e => e) (fun _ e => e)

theorem step_itNext_move {s : St} {t : Tid} (h : SInv s) (hpc : s.pc t = .itNext)
    (hne : ¬ s.next (s.itn t) = s.itn t) :
    SInv { s with itn := upd s.itn t (s.next (s.itn t)), pc := upd s.pc t .itLd1 } :=
  have hT : TInv s t .itNext := hpc ▸ h.thr t
  have h2 : s.itn t ≠ 2 := fun e => hne (by rw [e, h.ord.tnx])
  sinv_iter h hpc (fun _ _ => rfl) (fun _ _ => rfl) (fun _ hu => upd_other _ _ _ _ hu)
    { hT with
      ilk := (congrArg s.lk (upd_same _ _ _)).trans (h.ord.ltlk _ _ (h.ord.nx _ hT.ilk h2)).2
      atn := fun _ _ _ hm => nomatch hm }
    (fun _ e => e) (fun _ e => e) (fun _ e => e)

/-- `m_Guard.clear()` at the end of `operator++`, and in the iterator's destructor. -/
theorem step_clear {s : St} {t : Tid} {X : PC} {r : GRet} (h : SInv s) (hpc : s.pc t = X)
    (hX : X = .itClr ∨ X = .relClr) :
    SInv { s with hp := upd s.hp t none, hv := upd s.hv t false, pc := upd s.pc t (.done r) } := by
  have hT : TInv s t X := hpc ▸ h.thr t
  have hg : ∀ x, ¬ upd s.hp t none t = some x := fun x e => nomatch (upd_same _ _ _).symm.trans e
  rcases hX with rfl | rfl <;>
  exact sinv_iter h hpc (fun _ hu => upd_other _ _ _ _ hu) (fun _ hu => upd_other _ _ _ _ hu) (fun _ _ => rfl)
    { hT with
      nt := fun hle => nomatch (hT.nt hle).2
      safe := fun x hx => absurd hx (hg x)
      atn := fun x hx => absurd hx (hg x)
      ea := nofun
      ld2 := nofun
      hvok := fun x hx => absurd hx (hg x) }
    (fun _ e => e) (fun _ e => e) (fun _ e => e)

theorem step_endLd1 {s : St} {t : Tid} (h : SInv s) (hpc : s.pc t = .endLd1) :
    SInv { s with pc := upd s.pc t (.endLd2 (s.data tl)) } :=
  have hT : TInv s t .endLd1 := hpc ▸ h.thr t
  sinv_pc_only h hpc _ { hT with } (fun _ e => e) (fun _ e => e) (fun _ e => e)

theorem step_endLd2 {s : St} {t : Tid} {w : DW} {Y : PC} (h : SInv s) (hpc : s.pc t = .endLd2 w)
    (hY : Y = .endNext ∨ Y = .done [] ∨ ∃ w', Y = .endLd2 w') :
    SInv { s with pc := upd s.pc t Y } := by
  have hT : TInv s t (.endLd2 w) := hpc ▸ h.thr t
  rcases hY with rfl | rfl | ⟨w', rfl⟩ <;>
  exact sinv_pc_only h hpc _ { hT with } (fun _ e => e) (fun _ e => e) (fun _ e => e)

theorem step_endNext {s : St} {t : Tid} (h : SInv s) (hpc : s.pc t = .endNext) :
    SInv { s with pc := upd s.pc t (.done []) } :=
  have hT : TInv s t .endNext := hpc ▸ h.thr t
  sinv_pc_only h hpc _ { hT with } (fun _ e => e) (fun _ e => e) (fun _ e => e)

theorem step_eaCas_fail {s : St} {t : Tid} {e : Nat} (h : SInv s) (hpc : s.pc t = .eaCas e) :
    SInv { s with pc := upd s.pc t (.done [0]) } :=
  have hT : TInv s t (.eaCas e) := hpc ▸ h.thr t
  sinv_pc_only h hpc _ { hT with ea := nofun } (fun _ e => e) (fun _ e => e) (fun _ e => e)

theorem step_eaCas_ok {s : St} {t : Tid} {e : Nat} (h : SInv s) (hpc : s.pc t = .eaCas e)
    (hd : s.data (s.itn t) = ⟨some e, false⟩) :
    SInv { (s.removed t e) with data := upd s.data (s.itn t) ⟨none, false⟩, pc := upd s.pc t (.done [1]) } :=
  have hT : TInv s t (.eaCas e) := hpc ▸ h.thr t
  sinv_remove h hpc hT.ilk hd { hT.toIInv with ea := nofun } (fun _ e => e)

theorem unguarded_iff (s : St) (e : Nat) : unguarded s e = true ↔ ∀ t, t < s.nt → s.hp t ≠ some e := by
  simp [unguarded, List.all_eq_true]

/-- `result`: the operation returns. -/
theorem sinv_result {s s' : St} {t : Tid} {r : GRet} (h : SInv s) (hs : result s t = some (s', r)) : SInv s' := by
  unfold result at hs
  split at hs
  next r' hpc =>
    have hT : TInv s t (.done r') := hpc ▸ h.thr t
    cases hs
    exact sinv_pc_only h hpc _ { hT with nt := fun hle => nomatch (hT.nt hle).2 }
      (fun _ e => e) (fun _ e => e) (fun _ e => e)
  next => cases hs

/-- A new insert / update: the element id is fresh. -/
theorem sinv_invoke_ins {s : St} {t : Tid} {k : Int} {e : Nat} {u al : Bool} (h : SInv s) (hpc : s.pc t = .idle)
    (hnt : t < s.nt) (hu : s.used e = false) :
    SInv { s with key := upd s.key e k, used := upd s.used e true, pc := upd s.pc t (.wHead ⟨k, e, u, al⟩) } := by
  have hT : TInv s t .idle := hpc ▸ h.thr t
  obtain ⟨e1, e2, e3, e4, e5, e6, e7⟩ := h.elem
  have hr : s.retired e = none := by
    cases hh : s.retired e with
    | none => rfl
    | some x => have := e6 e (by rw [hh]; simp); rw [hu] at this; cases this
  have hh : s.home e = none := by
    cases hh : s.home e with
    | none => rfl
    | some x => have := (e5 e x hh).1; rw [hu] at this; cases this
  have hne : ∀ x, s.used x = true → x ≠ e := fun x hx hc => by rw [hc, hu] at hx; cases hx
  have umono : ∀ x, s.used x = true → upd s.used e true x = true := fun x hx =>
    (upd_other _ _ _ _ (hne x hx)).trans hx
  exact sinv_build h (Y := .wHead ⟨k, e, u, al⟩) rfl h.ord h.fresh
    ⟨e1, e2, e3, e4, fun x a hx => ⟨umono x (e5 x a hx).1, (e5 x a hx).2⟩, fun x hx => umono x (e6 x hx), e7⟩ h.bit
    (fun a ha => (show holds .idle a from hpc ▸ h.own a t ha).elim nofun nofun) (fun _ _ _ ha => ha)
    { hT with
      pused := fun x hx => by cases hx; exact ⟨upd_same _ _ _, hr⟩
      phome := fun x a hx hxa => by cases hx; exact nomatch hh.symm.trans hxa
      kjob := fun j hj => by cases hj; exact ⟨upd_same _ _ _, upd_same _ _ _⟩
      nopriv := nofun, kwalk := nofun, kpos := nofun, kupd := nofun
      nt := fun hle => absurd hnt (Nat.not_lt.2 hle) }
    (fun t0 _ => (h.thr t0).frame rfl rfl rfl (Nat.le_refl _) rfl rfl rfl (fun _ _ => rfl) (fun _ _ => rfl)
      (fun _ _ => ⟨rfl, rfl⟩) (fun _ _ => ⟨rfl, rfl⟩) (fun _ _ => ⟨rfl, rfl⟩)
      (fun x hx => ⟨upd_other _ _ _ _ (hne x ((h.thr t0).pused x hx).1), rfl, rfl⟩)
      (fun _ _ => rfl) (fun _ _ hx => hx) umono (fun x hx => upd_other _ _ _ _ (hne x hx)))
    nofun (fun x hx t0 _ hc => by cases hx; exact hne e ((h.thr t0).pused e hc).1 rfl)

/-- `dispose e`: the scan found `e` in no hazard slot. -/
theorem sinv_invoke_dispose {s : St} {t : Tid} {e : Nat} (h : SInv s) (hpc : s.pc t = .idle) (hnt : t < s.nt)
    (hr : s.retired e ≠ none) (hg : unguarded s e = true) :
    SInv { s with disposed := upd s.disposed e true, pc := upd s.pc t (.done []) } := by
  have hT : TInv s t .idle := hpc ▸ h.thr t
  have hug := (unguarded_iff s e).1 hg
  have hnog : ∀ t0 x, s.hp t0 = some x → x ≠ e := fun t0 x hx hc => by
    by_cases hlt : t0 < s.nt
    · exact hug t0 hlt (hc ▸ hx)
    · rw [((h.thr t0).nt (Nat.le_of_not_lt hlt)).1] at hx; cases hx
  obtain ⟨e1, e2, e3, e4, e5, e6, e7⟩ := h.elem
  exact sinv_build_keep h hpc (Y := .done []) rfl h.ord h.fresh
    ⟨e1, e2, e3, e4, e5, e6, fun x hx => by
      by_cases ex : x = e
      · rw [ex]; exact hr
      · exact e7 x ((upd_other _ _ _ _ ex).symm.trans hx)⟩
    h.bit (fun a ha => (show holds .idle a from hpc ▸ h.own a t ha)) (fun _ _ _ ha => ha)
    { hT with
      nt := fun hle => absurd hnt (Nat.not_lt.2 hle)
      safe := fun x hx hv => (upd_other _ _ _ _ (hnog t x hx)).trans (hT.safe x hx hv) }
    (fun t0 _ => (h.thr t0).frame rfl rfl rfl (Nat.le_refl _) rfl rfl rfl (fun _ _ => rfl) (fun _ _ => rfl)
      (fun _ _ => ⟨rfl, rfl⟩) (fun _ _ => ⟨rfl, rfl⟩) (fun _ _ => ⟨rfl, rfl⟩) (fun _ _ => ⟨rfl, rfl, rfl⟩)
      (fun x hx => upd_other _ _ _ _ (hnog t0 x hx)) (fun _ _ hx => hx) (fun _ hx => hx) (fun _ _ => rfl))
    (fun _ e => e) (fun _ e => e)

/-- `find`, `contains`, `erase` start their walk at the head. -/
theorem sinv_invoke_walk {s : St} {t : Tid} {pu : Purp} {k : Int} (h : SInv s) (hpc : s.pc t = .idle)
    (hnt : t < s.nt) (hpu : pu = .erase ∨ pu = .find ∨ pu = .contains) :
    SInv { s with pc := upd s.pc t (.wNext pu k hd none) } := by
  have hT : TInv s t .idle := hpc ▸ h.thr t
  rcases hpu with rfl | rfl | rfl <;>
  exact sinv_pc_only h hpc _
    { hT with
      wprev := fun a e => by cases e; exact ⟨h.ord.hdlk, by decide⟩
      kwalk := nofun
      nt := fun hle => absurd hnt (Nat.not_lt.2 hle) }
    (fun _ e => e) (fun _ e => e) (fun _ e => e)

theorem sinv_invoke {s s' : St} {t : Tid} {op : GOp} (h : SInv s) (hs : invoke s t op = some s') : SInv s' := by
  obtain ⟨name, args⟩ := op
  unfold invoke at hs
  split at hs
  next hnt =>
    have hbusy : ¬ s.nt ≤ t := Nat.not_le.2 hnt
    split at hs
    next k e hpc hname hargs =>
      split at hs
      · cases hs
      · rename_i hu
        cases hs
        exact sinv_invoke_ins h hpc hnt (by simpa using hu)
    next k e allow hpc hname hargs =>
      split at hs
      · cases hs
      · rename_i hu
        cases hs
        exact sinv_invoke_ins h hpc hnt (by simpa using hu)
    next k hpc hname hargs =>
      cases hs
      exact sinv_invoke_walk h hpc hnt (Or.inl rfl)
    next k hpc hname hargs =>
      cases hs
      exact sinv_invoke_walk h hpc hnt (Or.inr (Or.inl rfl))
    next k hpc hname hargs =>
      cases hs
      exact sinv_invoke_walk h hpc hnt (Or.inr (Or.inr rfl))
    next hpc hname hargs =>
      cases hs
      have hT : TInv s t .idle := hpc ▸ h.thr t
      exact sinv_iter h hpc (fun _ _ => rfl) (fun _ _ => rfl) (fun _ hu => upd_other _ _ _ _ hu)
        { hT with
          ilk := (congrArg s.lk (upd_same _ _ _)).trans h.ord.hdlk
          nt := fun hle => absurd hle hbusy
          atn := fun _ _ _ hm => nomatch hm }
        (fun _ e => e) (fun _ e => e) (fun _ e => e)
    next hpc hname hargs =>
      cases hs
      have hT : TInv s t .idle := hpc ▸ h.thr t
      exact sinv_pc_only h hpc _ { hT with nt := fun hle => absurd hle hbusy, atn := fun _ _ _ hm => nomatch hm }
        (fun _ e => e) (fun _ e => e) (fun _ e => e)
    next hpc hname hargs =>
      cases hs
      have hT : TInv s t .idle := hpc ▸ h.thr t
      exact sinv_pc_only h hpc _ { hT with nt := fun hle => absurd hle hbusy }
        (fun _ e => e) (fun _ e => e) (fun _ e => e)
    next hpc hname hargs =>
      split at hs
      next e he =>
        cases hs
        have hT : TInv s t .idle := hpc ▸ h.thr t
        exact sinv_pc_only h hpc _
          { hT with
            nt := fun hle => absurd hle hbusy
            ea := fun x hx => by cases hx; exact ⟨he, hT.hvok e he rfl⟩ }
          (fun _ e => e) (fun _ e => e) (fun _ e => e)
      next => cases hs
    next hpc hname hargs =>
      cases hs
      have hT : TInv s t .idle := hpc ▸ h.thr t
      exact sinv_pc_only h hpc _ { hT with nt := fun hle => absurd hle hbusy }
        (fun _ e => e) (fun _ e => e) (fun _ e => e)
    next e hpc hname hargs =>
      split at hs
      next hg =>
        cases hs
        exact sinv_invoke_dispose h hpc hnt hg.1 hg.2.2
      next => cases hs
    next => cases hs
  next => cases hs

/-- Every atomic step preserves the invariant. -/
theorem sinv_step {s s' : St} {t : Tid} {ev : Ev} (h : SInv s) (hs : step s t = some (s', ev)) : SInv s' := by
  unfold step at hs
  split at hs
  next j hpc =>
    cases hs
    exact step_wHead h hpc
  next pu k prev pv hpc =>
    cases hs
    exact step_wNext h hpc
  next pu k prev pv cur hpc =>
    split at hs
    · rename_i hnx
      cases hs
      have hl := ((h.thr t).wcur prev cur (by rw [hpc]; rfl)).1
      exact sinv_concl h hpc (Or.inl rfl) (fun _ he => by cases he) (fun _ => self_loop_tail h hl hnx)
    · rename_i hne
      cases hs
      exact step_wTail_in h hpc hne
  next pu k prev pv cur hpc =>
    cases hs
    exact step_wLd1 h hpc
  next pu k prev pv cur w hpc =>
    split at hs
    · rename_i hdw
      split at hs
      · rename_i e hwe
        have hue : s.used e = true := by
          have := h.elem.ehome cur e (by rw [hdw]; exact hwe)
          exact (h.elem.hrng e cur this).1
        split at hs
        · rename_i hle
          cases hs
          refine sinv_concl h hpc (Or.inr ⟨w, rfl⟩) ?_ (fun he => by cases he)
          intro e' he'
          cases he'
          exact ⟨hue, hle, by simp⟩
        · rename_i hle
          cases hs
          refine step_wLd2_on h hpc ?_
          intro v hv; cases hv
          exact ⟨hue, by omega⟩
      · cases hs
        exact step_wLd2_on h hpc (fun _ hv => by cases hv)
    · cases hs
      exact step_wLd2_retry h hpc
  next k cur e hpc =>
    split at hs
    · rename_i hd
      cases hs
      exact step_eraseCas_ok h hpc hd
    · cases hs
      exact step_eraseCas_fail h hpc
  next j cur e hpc =>
    split at hs
    · rename_i hd
      cases hs
      exact step_updCas_ok h hpc hd
    · cases hs
      exact step_updCas_fail h hpc
  next j p hpc =>
    split at hs
    · rename_i hd
      cases hs
      exact step_lMarkCur_ok h hpc hd
    · cases hs
      exact step_lMarkCur_fail h hpc
  next j p hpc =>
    split at hs
    · rename_i hd
      cases hs
      exact step_lMarkPrev_ok h hpc hd
    · cases hs
      exact step_lMarkPrev_fail h hpc
  next j p hpc =>
    split at hs
    · rename_i hn
      cases hs
      exact step_lChkNext_ok h hpc hn
    · cases hs
      exact step_lChkNext_fail h hpc
  next j p hpc =>
    split at hs
    · cases hs
      exact step_lReuse h hpc
    · rename_i hd
      exact absurd (lReuse_enabled h hpc) hd
  next j p hpc =>
    cases hs
    exact step_lCtor1 h hpc
  next j p n hpc =>
    cases hs
    exact step_lCtor2 h hpc
  next j p n hpc =>
    cases hs
    exact step_lStNext h hpc
  next j p n hpc =>
    split at hs
    · cases hs
      exact step_lCasNext h hpc
    · rename_i hd
      exact absurd (lCasNext_enabled h hpc) hd
  next j p ok hpc =>
    cases hs
    exact step_lRelPrev h hpc
  next j p ok hpc =>
    cases hs
    exact step_lRelCur h hpc
  next hpc =>
    cases hs
    exact step_itLd1 h hpc
  next w hpc =>
    cases hs
    exact step_itHp h hpc
  next w hpc =>
    split at hs
    · rename_i hd
      split at hs
      · rename_i e hw
        cases hs
        exact step_itLd2_some h hpc hd hw
      · rename_i hw
        cases hs
        exact step_itLd2_none h hpc hw
    · cases hs
      exact step_itLd2_retry h hpc
  next hpc =>
    split at hs
    · cases hs
      exact step_itNext_end h hpc
    · rename_i hne
      cases hs
      exact step_itNext_move h hpc hne
  next hpc =>
    cases hs
    exact step_clear h hpc (Or.inl rfl)
  next hpc =>
    cases hs
    exact step_endLd1 h hpc
  next w hpc =>
    split at hs
    · cases hs
      refine step_endLd2 h hpc ?_
      split
      · left; rfl
      · right; left; rfl
    · cases hs
      exact step_endLd2 h hpc (Or.inr (Or.inr ⟨_, rfl⟩))
  next hpc =>
    split at hs
    · cases hs
      exact step_endNext h hpc
    · cases hs
  next e hpc =>
    split at hs
    · rename_i hd
      cases hs
      exact step_eaCas_ok h hpc hd
    · split at hs
      · cases hs
        exact h
      · cases hs
        exact step_eaCas_fail h hpc
  next hpc =>
    cases hs
    exact step_clear h hpc (Or.inr rfl)
  next => cases hs

theorem sinv_apply {s s' : St} {t : Tid} {a : Act} {o : Obs} (h : SInv s)
    (hs : model.apply s t a = some (s', o)) : SInv s' := by
  rcases Model.apply_cases hs with ⟨op, -, hs1, -⟩ | ⟨e, -, hs1, -⟩ | ⟨r, -, hs1, -⟩
  · exact sinv_invoke h hs1
  · exact sinv_step h hs1
  · exact sinv_result h hs1

/-- The invariant holds in every reachable state, for every number of threads. -/
theorem sinv_reachable (n : Nat) (s : St) (h : model.Reachable (init n) s) : SInv s :=
  model.inv_reachable SInv (init n) (sinv_init n) (fun _ _ _ _ _ hi ha => sinv_apply hi ha) s h

end CdsVerif.Algo.Iterable
