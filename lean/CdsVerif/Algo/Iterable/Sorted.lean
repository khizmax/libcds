/-
  Where sortedness can break.  `SortedKeys s`: the keys of the stored elements strictly increase along the chain.
  It is NOT an invariant of IterableList (Props/C19Iterable.lean, `C19_sorted_keys_not_invariant`).  Proved here:
  * every transition other than the successful re-use CAS of `link_data` (`pPrev->data: null|1 → pVal`) preserves
    `SortedKeys` — in particular the new-node path, `update`'s replacement and all of `erase` / `erase_at` do;
  * the re-use CAS preserves it if, at that instant, no node in front of `pPrev` holds a key `≥` the new key.
  That condition is what `find_prev` is meant to establish; its walk is not atomic, so it does not.
-/
import CdsVerif.Algo.Iterable.Run
namespace CdsVerif.Algo.Iterable
open CdsVerif.Machine CdsVerif.Spec

/-- `SortedKeys` reads the chain order, the pointer parts of the data words and the keys of stored elements. -/
theorem sorted_congr {s s' : St} (h : SortedKeys s)
    (hlt : ∀ a b, s'.lt a b = true → s.lt a b = true)
    (hd : ∀ a e, (s'.data a).p = some e → (s.data a).p = some e)
    (hk : ∀ a e, (s.data a).p = some e → s'.key e = s.key e) : SortedKeys s' := by
  intro a b ea eb hab ha hb
  have ha' := hd a ea ha
  have hb' := hd b eb hb
  rw [hk a ea ha', hk b eb hb']
  exact h a b ea eb (hlt a b hab) ha' hb'

theorem ptr_upd_same {data : Nat → DW} {a : Nat} {w : DW} (hw : w.p = (data a).p) :
    ∀ b e, ((upd data a w) b).p = some e → (data b).p = some e := by
  intro b e hb
  by_cases eb : b = a
  · subst eb; rw [upd_same, hw] at hb; exact hb
  · rw [upd_other _ _ _ _ eb] at hb; exact hb

theorem ptr_upd_none {data : Nat → DW} {a : Nat} {m : Bool} :
    ∀ b e, ((upd data a ⟨none, m⟩) b).p = some e → (data b).p = some e := by
  intro b e hb
  by_cases eb : b = a
  · subst eb; rw [upd_same] at hb; cases hb
  · rw [upd_other _ _ _ _ eb] at hb; exact hb

/-- Linking the new node (the new-node path of `link_data`) keeps the keys sorted. -/
theorem sorted_lCasNext {s : St} {t : Tid} {j : Job} {p : Pos} {n : Nat} (hS : SInv s) (h : SortedKeys s)
    (hpc : s.pc t = .lCasNext j p n) :
    SortedKeys { s with next := upd s.next p.prev n, lk := upd s.lk n true, lt := ltIns s.lt p.prev p.cur n,
                        pc := upd s.pc t (.lRelPrev j p true) } := by
  have hT := hS.thr t
  rw [hpc] at hT
  have hcur := (hT.mcur p rfl).2
  have hprev := (hT.mprev p rfl).2
  have hdn := hT.pdata n j.e rfl
  have hkj := (hT.kjob j rfl).2
  obtain ⟨kpv, kfnd, knone⟩ := hT.kpos j p rfl rfl
  have kct := hT.kctor p rfl
  have hnl := (hT.pcnt n rfl).2.2.1
  obtain ⟨o1,o2,o3,o4,o5,o6,o7,o8,o9,o10,o11,o12,o13,o14⟩ := hS.ord
  have lkne : ∀ b, s.lk b = true → b ≠ n := fun b hb e => by rw [e, hnl] at hb; cases hb
  intro a b ea eb hab ha hb
  dsimp only at hab ha hb ⊢
  by_cases ean : a = n <;> by_cases ebn : b = n
  · subst ean; subst ebn; simp [ltIns] at hab
  · -- a = n: the new element is before b
    subst ean
    rw [hdn] at ha; simp only [Option.some.injEq] at ha; subst ha
    rw [hkj]
    have hab' : b = p.cur ∨ s.lt p.cur b = true := by simpa [ltIns, ebn] using hab
    cases hf : p.found with
    | none =>
      have hc2 := knone hf
      rcases hab' with h1 | h1
      · rw [h1, hcur, hf] at hb; cases hb
      · exfalso
        rw [hc2] at h1
        have hlb := (o6 _ _ h1).2
        by_cases eb2 : b = 2
        · rw [eb2, o7] at h1; cases h1
        · have := o8 _ _ _ h1 (o11 b hlb eb2); rw [o7] at this; cases this
    | some f =>
      have hkf := (kfnd f hf).2
      rcases hab' with h1 | h1
      · rw [h1, hcur, hf] at hb; simp only [Option.some.injEq] at hb; subst hb; exact hkf
      · have := h p.cur b f eb h1 (by rw [hcur, hf]) hb
        omega
  · -- b = n: a is before the new element
    subst ebn
    rw [hdn] at hb; simp only [Option.some.injEq] at hb; subst hb
    rw [hkj]
    have hab' : a = p.prev ∨ s.lt a p.prev = true := by simpa [ltIns, ean] using hab
    cases hv : p.pv with
    | none =>
      have hp1 := kct hv
      rcases hab' with h1 | h1
      · rw [h1, hprev, hv] at ha; cases ha
      · exfalso
        rw [hp1] at h1
        have hla := (o6 _ _ h1).1
        by_cases ea1 : a = 1
        · rw [ea1, o7] at h1; cases h1
        · have := o8 _ _ _ (o10 a hla ea1) h1; rw [o7] at this; cases this
    | some v =>
      have hkv := (kpv v hv).2
      rcases hab' with h1 | h1
      · rw [h1, hprev, hv] at ha; simp only [Option.some.injEq] at ha; subst ha; exact hkv
      · have := h a p.prev ea v h1 ha (by rw [hprev, hv])
        omega
  · rw [ltIns_old ean ebn] at hab
    exact h a b ea eb hab ha hb

/-- `update` replaces an element by one with the same key. -/
theorem sorted_updCas {s : St} {t : Tid} {j : Job} {cur e : Nat} (hS : SInv s) (h : SortedKeys s)
    (hpc : s.pc t = .updCas j cur e) (hd : s.data cur = ⟨some e, false⟩) :
    SortedKeys { (s.removed t e) with data := upd s.data cur ⟨some j.e, false⟩, home := upd s.home j.e (some cur),
                                      pc := upd s.pc t (.done [1, 0, (e : Int)]) } := by
  have hT := hS.thr t
  rw [hpc] at hT
  have hkj := (hT.kjob j rfl).2
  have hke := (hT.kupd j e rfl).2
  have hsame : s.key j.e = s.key e := by rw [hkj, hke]
  intro a b ea eb hab ha hb
  dsimp only [St.removed] at hab ha hb ⊢
  -- translate the elements at `cur` back to `e`
  have tr : ∀ x ex, ((upd s.data cur ⟨some j.e, false⟩) x).p = some ex →
      ∃ ex', (s.data x).p = some ex' ∧ s.key ex = s.key ex' := by
    intro x ex hx
    by_cases exc : x = cur
    · subst exc; rw [upd_same] at hx; simp only [Option.some.injEq] at hx; subst hx
      exact ⟨e, by rw [hd], hsame⟩
    · rw [upd_other _ _ _ _ exc] at hx; exact ⟨ex, hx, rfl⟩
  obtain ⟨ea', ha', hka⟩ := tr a ea ha
  obtain ⟨eb', hb', hkb⟩ := tr b eb hb
  rw [hka, hkb]
  exact h a b ea' eb' hab ha' hb'

/-- The re-use CAS keeps the keys sorted PROVIDED no node in front of `pPrev` holds a key `≥` the new key. -/
theorem sorted_lReuse {s : St} {t : Tid} {j : Job} {p : Pos} (hS : SInv s) (h : SortedKeys s)
    (hpc : s.pc t = .lReuse j p)
    (hfront : ∀ a ea, s.lt a p.prev = true → (s.data a).p = some ea → s.key ea < j.k) :
    SortedKeys { s with data := upd s.data p.prev ⟨some j.e, false⟩, mo := upd s.mo p.prev none,
                        home := upd s.home j.e (some p.prev), pc := upd s.pc t (.lRelCur j p true) } := by
  have hT := hS.thr t
  rw [hpc] at hT
  have hcur := (hT.mcur p rfl).2
  have hkj := (hT.kjob j rfl).2
  obtain ⟨-, kfnd, knone⟩ := hT.kpos j p rfl rfl
  have hadj := hT.adj p rfl
  obtain ⟨hlp, hlc, hltpc⟩ := hT.pos p rfl
  have hpe := lReuse_enabled hS hpc
  obtain ⟨o1,o2,o3,o4,o5,o6,o7,o8,o9,o10,o11,o12,o13,o14⟩ := hS.ord
  have hp2 : p.prev ≠ 2 := fun e => by
    rw [e] at hltpc
    by_cases ec : p.cur = 2
    · rw [ec, o7] at hltpc; cases hltpc
    · have := o8 _ _ _ hltpc (o11 _ hlc ec); rw [o7] at this; cases this
  intro a b ea eb hab ha hb
  dsimp only at hab ha hb ⊢
  by_cases eap : a = p.prev <;> by_cases ebp : b = p.prev
  · subst eap; subst ebp; rw [o7] at hab; cases hab
  · -- the new element is before b: b is `pCur` or behind it
    subst eap
    rw [upd_same] at ha; simp only [Option.some.injEq] at ha; subst ha
    rw [upd_other _ _ _ _ ebp] at hb
    rw [hkj]
    have hlb := (o6 _ _ hab).2
    have hbc : b = p.cur ∨ s.lt p.cur b = true := by
      by_cases ebc : b = p.cur
      · exact Or.inl ebc
      · right
        rcases o9 b p.cur hlb hlc ebc with h1 | h1
        · exact absurd h1 (by intro h2; exact o13 p.prev b hlp hp2 hab (by rw [hadj]; exact h2))
        · exact h1
    cases hf : p.found with
    | none =>
      have hc2 := knone hf
      rcases hbc with h1 | h1
      · rw [h1, hcur, hf] at hb; cases hb
      · exfalso
        rw [hc2] at h1
        by_cases eb2 : b = 2
        · rw [eb2, o7] at h1; cases h1
        · have := o8 _ _ _ h1 (o11 b hlb eb2); rw [o7] at this; cases this
    | some f =>
      have hkf := (kfnd f hf).2
      rcases hbc with h1 | h1
      · rw [h1, hcur, hf] at hb; simp only [Option.some.injEq] at hb; subst hb; exact hkf
      · have := h p.cur b f eb h1 (by rw [hcur, hf]) hb
        omega
  · -- a is in front of `pPrev`: the hypothesis
    subst ebp
    rw [upd_same] at hb; simp only [Option.some.injEq] at hb; subst hb
    rw [upd_other _ _ _ _ eap] at ha
    rw [hkj]
    exact hfront a ea hab ha
  · rw [upd_other _ _ _ _ eap] at ha
    rw [upd_other _ _ _ _ ebp] at hb
    exact h a b ea eb hab ha hb

/-- The node constructor stores into a node that is not linked. -/
theorem sorted_lCtor2 {s : St} {t : Tid} {j : Job} {p : Pos} {n : Nat} (hS : SInv s) (h : SortedKeys s)
    (hpc : s.pc t = .lCtor2 j p n) :
    SortedKeys { s with data := upd s.data n ⟨some j.e, false⟩, home := upd s.home j.e (some n),
                        pc := upd s.pc t (.lStNext j p n) } := by
  have hnl := ((hS.thr t).pcnt n (by rw [hpc]; rfl)).2.2.1
  have lkne : ∀ b, s.lk b = true → b ≠ n := fun b hb e => by rw [e, hnl] at hb; cases hb
  intro a b ea eb hab ha hb
  dsimp only at hab ha hb ⊢
  have hl := hS.ord.ltlk a b hab
  rw [upd_other _ _ _ _ (lkne a hl.1)] at ha
  rw [upd_other _ _ _ _ (lkne b hl.2)] at hb
  exact h a b ea eb hab ha hb

/-- Every step other than the re-use CAS of `link_data` preserves `SortedKeys`. -/
theorem sorted_step {s s' : St} {t : Tid} {ev : Ev} (hS : SInv s) (h : SortedKeys s)
    (hs : step s t = some (s', ev)) (hnr : ∀ j p, s.pc t ≠ .lReuse j p) : SortedKeys s' := by
  unfold step at hs
  split at hs <;> (try split at hs) <;> (try split at hs) <;> (try split at hs) <;>
    first
    | (exfalso; cases hs; done)
    | (exfalso; exact hnr _ _ ‹_›)
    | (cases hs
       exact sorted_congr h (fun _ _ hx => hx) (fun _ _ hx => hx) (fun _ _ _ => rfl))
    | (cases hs
       exact sorted_congr h (fun _ _ hx => hx) ptr_upd_none (fun _ _ _ => rfl))
    | (cases hs
       refine sorted_congr h (fun _ _ hx => hx) (ptr_upd_same ?_) (fun _ _ _ => rfl)
       simp [*]
       done)
    | (cases hs
       exact sorted_updCas hS h ‹_› ‹_›)
    | (cases hs
       exact sorted_lCtor2 hS h ‹_›)
    | (cases hs
       exact sorted_lCasNext hS h ‹_›)
    | (cases hs
       have hpc : s.pc t = _ := ‹_›
       refine sorted_congr h (fun _ _ hx => hx) (ptr_upd_same ?_) (fun _ _ _ => rfl)
       first
       | exact (congrArg DW.p ((hS.thr t).mprev _ (by rw [hpc]; rfl)).2).symm
       | exact (congrArg DW.p ((hS.thr t).mcur _ (by rw [hpc]; rfl)).2).symm)

/-- `invoke` and `result` preserve `SortedKeys` (a new element id is fresh: no stored element changes its key). -/
theorem sorted_invoke {s s' : St} {t : Tid} {op : GOp} (hS : SInv s) (h : SortedKeys s)
    (hs : invoke s t op = some s') : SortedKeys s' := by
  have hused : ∀ a e, (s.data a).p = some e → s.used e = true := fun a e he =>
    (hS.elem.hrng e a (hS.elem.ehome a e he)).1
  obtain ⟨name, args⟩ := op
  unfold invoke at hs
  split at hs <;> (try split at hs) <;> (try split at hs) <;>
    first
    | (exfalso; cases hs; done)
    | (cases hs
       exact sorted_congr h (fun _ _ hx => hx) (fun _ _ hx => hx) (fun _ _ _ => rfl))
    | (cases hs
       rename_i hu
       refine sorted_congr h (fun _ _ hx => hx) (fun _ _ hx => hx) ?_
       intro a e he
       have := hused a e he
       dsimp only
       have hne : e ≠ _ := fun hc => by rw [hc] at this; exact hu this
       exact upd_other _ _ _ _ hne)

theorem sorted_result {s s' : St} {t : Tid} {r : GRet} (h : SortedKeys s)
    (hs : result s t = some (s', r)) : SortedKeys s' := by
  unfold result at hs
  split at hs
  · cases hs
    exact sorted_congr h (fun _ _ hx => hx) (fun _ _ hx => hx) (fun _ _ _ => rfl)
  · cases hs

end CdsVerif.Algo.Iterable
