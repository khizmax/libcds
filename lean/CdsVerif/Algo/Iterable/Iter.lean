/-
  Iteration progress (`CInv`) on top of the structural invariant `SInv`.

  For thread `t`, `cand t` is the set of elements that were in the list (stored in a linked node) when `t` invoked
  `iter_begin` and have not been removed since (a removal clears the flag for every thread).  `yl t` is the sequence
  of elements `t`'s iterator has yielded since `iter_begin` (appended by the validating load that fixes the result).
  An element never changes node (`home` is written once), the chain only grows, and the iterator only moves to the
  successor of its node; hence, for every candidate `e` with home `a`:
      `e` has been yielded exactly once if the iterator has passed `a`  (`a` before `m_pNode`, or `a = m_pNode` and the
      `protect` loop on `a` has finished), and not at all otherwise           (`CInvT.cnt`)
  and the yielded candidates appear in chain order                            (`CInvT.ord`).
-/
import CdsVerif.Algo.Iterable.Step3
namespace CdsVerif.Algo.Iterable
open CdsVerif.Machine CdsVerif.Spec

/-- The iterator has moved to `m_pNode` and its `protect` loop on that node has not finished. -/
def arriving : PC → Bool
  | .itLd1 => true
  | .itHp _ => true
  | .itLd2 _ => true
  | _ => false

/-- The iterator of thread `t` is done with node `a`. -/
def passed (s : St) (t : Tid) (a : Nat) : Bool :=
  s.lt a (s.itn t) || (a == s.itn t && !arriving (s.pc t))

structure CInvT (s : St) (t : Tid) : Prop where
  cin : ∀ e, s.cand t e = true → inList s e = true
  cnt : ∀ e a, s.cand t e = true → s.home e = some a → (s.yl t).count e = (passed s t a).toNat
  ord : (s.yl t).Pairwise (fun e1 e2 => s.cand t e1 = true → s.cand t e2 = true →
          ∀ a1 a2, s.home e1 = some a1 → s.home e2 = some a2 → s.lt a1 a2 = true)

def CInv (s : St) : Prop := ∀ t, CInvT s t

theorem inList_iff (s : St) (e : Nat) :
    inList s e = true ↔ ∃ a, s.home e = some a ∧ s.lk a = true ∧ (s.data a).p = some e := by
  unfold inList
  cases h : s.home e with
  | none => simp
  | some a => simp

theorem cinv_init (n : Nat) : CInv (init n) := by
  intro t
  constructor <;> simp [init]

/-- Thread `t0`'s progress facts survive a step that does not move its iterator, does not yield, removes
    candidates at most, keeps the remaining candidates in the list at their homes, and keeps the chain order of the
    nodes linked so far. -/
theorem CInvT.frame {s s' : St} {t0 : Tid} (h : CInvT s t0) (hlki : s.lk (s.itn t0) = true)
    (hc : ∀ e, s'.cand t0 e = true → s.cand t0 e = true)
    (hyl : s'.yl t0 = s.yl t0) (hitn : s'.itn t0 = s.itn t0)
    (harr : arriving (s'.pc t0) = arriving (s.pc t0))
    (hin : ∀ e, s.cand t0 e = true → s'.cand t0 e = true → inList s' e = true ∧ s'.home e = s.home e)
    (hlt : ∀ a b, s.lk a = true → s.lk b = true → s'.lt a b = s.lt a b) : CInvT s' t0 := by
  obtain ⟨c1, c2, c3⟩ := h
  have hlkh : ∀ e a, s.cand t0 e = true → s.home e = some a → s.lk a = true := by
    intro e a he ha
    obtain ⟨b, hb, hl, -⟩ := (inList_iff s e).1 (c1 e he)
    rw [ha] at hb; cases hb; exact hl
  constructor
  · intro e he; exact (hin e (hc e he) he).1
  · intro e a he ha
    have hce := hc e he
    rw [(hin e hce he).2] at ha
    have hl := hlkh e a hce ha
    have : passed s' t0 a = passed s t0 a := by
      unfold passed; rw [hitn, harr, hlt a _ hl hlki]
    rw [hyl, this]; exact c2 e a hce ha
  · rw [hyl]
    refine c3.imp ?_
    intro e1 e2 hR h1 h2 a1 a2 ha1 ha2
    have hc1 := hc e1 h1
    have hc2 := hc e2 h2
    rw [(hin e1 hc1 h1).2] at ha1
    rw [(hin e2 hc2 h2).2] at ha2
    rw [hlt a1 a2 (hlkh e1 a1 hc1 ha1) (hlkh e2 a2 hc2 ha2)]
    exact hR hc1 hc2 a1 a2 ha1 ha2

theorem arr_upd {pc : Tid → PC} {t : Tid} {Y : PC} (h : arriving Y = arriving (pc t)) :
    ∀ t0, arriving (upd pc t Y t0) = arriving (pc t0) := by
  intro t0
  by_cases e : t0 = t
  · subst e; rw [upd_same]; exact h
  · rw [upd_other _ _ _ _ e]

/-- A step of an updater (or any step that does not touch the iterators' state). -/
theorem cinv_frame_all {s s' : St} (hS : SInv s) (hC : CInv s)
    (hc : ∀ t0 e, s'.cand t0 e = true → s.cand t0 e = true)
    (hyl : s'.yl = s.yl) (hitn : s'.itn = s.itn)
    (harr : ∀ t0, arriving (s'.pc t0) = arriving (s.pc t0))
    (hin : ∀ t0 e, s.cand t0 e = true → s'.cand t0 e = true → inList s' e = true ∧ s'.home e = s.home e)
    (hlt : ∀ a b, s.lk a = true → s.lk b = true → s'.lt a b = s.lt a b) : CInv s' := by
  intro t0
  exact (hC t0).frame (hS.thr t0).ilk (hc t0) (by rw [hyl]) (by rw [hitn]) (harr t0) (hin t0) hlt

theorem cinv_upd {s s' : St} {t : Tid} {Y : PC} (hS : SInv s) (hC : CInv s)
    (hpc : s'.pc = upd s.pc t Y) (harr : arriving Y = arriving (s.pc t))
    (hcand : ∀ t0 e, s'.cand t0 e = true → s.cand t0 e = true)
    (hyl : s'.yl = s.yl) (hitn : s'.itn = s.itn)
    (hin : ∀ t0 e, s.cand t0 e = true → s'.cand t0 e = true → inList s' e = true ∧ s'.home e = s.home e)
    (hlt : ∀ a b, s.lk a = true → s.lk b = true → s'.lt a b = s.lt a b) : CInv s' :=
  cinv_frame_all hS hC hcand hyl hitn (by rw [hpc]; exact arr_upd harr) hin hlt

/-- A candidate stays in the list if its home node keeps its pointer. -/
theorem inList_keep {s s' : St} {e : Nat} (h : inList s e = true) (hh : s'.home e = s.home e)
    (hk : ∀ b, s.home e = some b → s.lk b = true → (s.data b).p = some e →
      s'.lk b = true ∧ (s'.data b).p = some e) : inList s' e = true ∧ s'.home e = s.home e := by
  obtain ⟨b, hb, hl, hd⟩ := (inList_iff s e).1 h
  refine ⟨(inList_iff s' e).2 ⟨b, by rw [hh]; exact hb, hk b hb hl hd⟩, hh⟩

/-- Pure program-counter step. -/
theorem cinv_pc {s : St} {t : Tid} (hS : SInv s) (hC : CInv s) (Y : PC) (harr : arriving Y = arriving (s.pc t)) :
    CInv { s with pc := upd s.pc t Y } :=
  cinv_upd hS hC (t := t) (Y := Y) rfl harr (fun _ _ h => h) rfl rfl
    (fun t0 e he _ => ⟨(hC t0).cin e he, rfl⟩) (fun _ _ _ _ => rfl)

/-- The mark bit of a data word (and its ghost owner) is written. -/
theorem cinv_mark {s : St} {t : Tid} (hS : SInv s) (hC : CInv s) (Y : PC) (a : Nat) (w : DW) (m : Option Tid)
    (harr : arriving Y = arriving (s.pc t)) (hw : w.p = (s.data a).p) :
    CInv { s with data := upd s.data a w, mo := upd s.mo a m, pc := upd s.pc t Y } :=
  cinv_upd hS hC (t := t) (Y := Y) rfl harr (fun _ _ h => h) rfl rfl
    (fun t0 e he _ => inList_keep ((hC t0).cin e he) rfl (fun b _ hl hd => ⟨hl, by
      dsimp only
      by_cases eb : b = a
      · subst eb; rw [upd_same, hw]; exact hd
      · rw [upd_other _ _ _ _ eb]; exact hd⟩)) (fun _ _ _ _ => rfl)

/-- An element is removed from the linked node `a` (replaced by nothing or by a homeless element `e2`). -/
theorem cinv_remove {s : St} {t : Tid} (hS : SInv s) (hC : CInv s) (Y : PC) (a e : Nat) (w : DW)
    (hm' : Nat → Option Nat) (harr : arriving Y = arriving (s.pc t)) (hd : (s.data a).p = some e)
    (hh : ∀ x, s.home x ≠ none → hm' x = s.home x) :
    CInv { (s.removed t e) with data := upd s.data a w, home := hm', pc := upd s.pc t Y } := by
  refine cinv_upd hS hC (t := t) (Y := Y) rfl harr ?_ rfl rfl ?_ (fun _ _ _ _ => rfl)
  · intro t0 x hx; dsimp only [St.removed] at hx
    by_cases ex : x = e
    · simp [ex] at hx
    · simpa [ex] using hx
  · intro t0 x hx hx'
    dsimp only [St.removed] at hx'
    have hxe : x ≠ e := fun ex => by simp [ex] at hx'
    obtain ⟨b, hb, hl, hdb⟩ := (inList_iff s x).1 ((hC t0).cin x hx)
    have hhx : hm' x = s.home x := hh x (by rw [hb]; simp)
    refine inList_keep ((hC t0).cin x hx) hhx (fun b' hb' hl' hd' => ⟨hl', ?_⟩)
    dsimp only
    have : b' ≠ a := fun eb => by
      rw [eb, hd] at hd'; exact hxe (Option.some.inj hd').symm
    rw [upd_other _ _ _ _ this]; exact hd'

/-- A homeless element `e2` is stored into a node `a` that holds no candidate. -/
theorem cinv_store {s : St} {t : Tid} (hS : SInv s) (hC : CInv s) (Y : PC) (a e2 : Nat) (w : DW)
    (mo' : Nat → Option Tid) (harr : arriving Y = arriving (s.pc t))
    (ha : ∀ x, (s.data a).p = some x → s.lk a = false)
    (hh : ∀ b, s.home e2 = some b → s.lk b = false) :
    CInv { s with data := upd s.data a w, mo := mo', home := upd s.home e2 (some a), pc := upd s.pc t Y } := by
  refine cinv_upd hS hC (t := t) (Y := Y) rfl harr (fun _ _ h => h) rfl rfl ?_ (fun _ _ _ _ => rfl)
  intro t0 x hx _
  obtain ⟨b, hb, hl, hdb⟩ := (inList_iff s x).1 ((hC t0).cin x hx)
  have hxe : x ≠ e2 := fun ex => by
    have := hh b (by rw [← ex]; exact hb); rw [hl] at this; cases this
  refine inList_keep ((hC t0).cin x hx) (upd_other _ _ _ _ hxe) (fun b' hb' hl' hd' => ⟨hl', ?_⟩)
  dsimp only
  have : b' ≠ a := fun eb => by
    have := ha x (by rw [← eb]; exact hd'); rw [← eb, hl'] at this; cases this
  rw [upd_other _ _ _ _ this]; exact hd'

/-- Other threads are not affected by a step that changes only thread `t`'s iterator state. -/
theorem CInvT.frame_other {s : St} {t0 : Tid} (hS : SInv s) (h : CInvT s t0)
    (hpf : Tid → Option Nat) (hvf : Tid → Bool) (itf : Tid → Nat) (pcf : Tid → PC) (ylf : Tid → List Nat)
    (cf : Tid → Nat → Bool) (h1 : itf t0 = s.itn t0) (h2 : pcf t0 = s.pc t0) (h3 : ylf t0 = s.yl t0)
    (h4 : cf t0 = s.cand t0) :
    CInvT { s with hp := hpf, hv := hvf, itn := itf, pc := pcf, yl := ylf, cand := cf } t0 := by
  refine h.frame (hS.thr t0).ilk ?_ h3 h1 ?_ ?_ (fun _ _ _ _ => rfl)
  · intro e he; dsimp only at he; rw [h4] at he; exact he
  · dsimp only; rw [h2]
  · intro e he _; exact ⟨h.cin e he, rfl⟩

theorem passed_of_mem {s : St} {t : Tid} (h : CInvT s t) {e a : Nat} (hm : e ∈ s.yl t) (hc : s.cand t e = true)
    (ha : s.home e = some a) : passed s t a = true := by
  have := h.cnt e a hc ha
  cases hp : passed s t a with
  | true => rfl
  | false =>
    rw [hp] at this
    exact absurd hm (List.count_eq_zero.1 this)

theorem cinv_itLd2_some {s : St} {t : Tid} {w : DW} {e0 : Nat} (hS : SInv s) (hC : CInv s)
    (hpc : s.pc t = .itLd2 w) (hd : s.data (s.itn t) = w) (hw : w.p = some e0) :
    CInv { s with hv := upd s.hv t true, yl := upd s.yl t (s.yl t ++ [e0]),
                  pc := upd s.pc t (.done [1, (e0 : Int)]) } := by
  intro t0
  by_cases hne : t0 = t
  · subst hne
    have h := hC t0
    obtain ⟨c1, c2, c3⟩ := h
    have hp0 : (s.data (s.itn t0)).p = some e0 := by rw [hd]; exact hw
    have hh0 := hS.elem.ehome _ _ hp0
    have hirr := hS.ord.irr (s.itn t0)
    constructor
    · intro e he; exact c1 e he
    · intro e a he ha
      dsimp only at he ha ⊢
      rw [upd_same]
      have hcnt := c2 e a he ha
      obtain ⟨b, hb, hl, hdb⟩ := (inList_iff s e).1 (c1 e he)
      rw [ha] at hb; cases hb
      unfold passed at hcnt ⊢
      dsimp only
      rw [upd_same]
      rw [hpc] at hcnt
      simp only [arriving, Bool.not_true, Bool.and_false, Bool.or_false, Bool.not_false, Bool.and_true] at hcnt ⊢
      by_cases ea : a = s.itn t0
      · subst ea
        have : e = e0 := by rw [hp0] at hdb; exact (Option.some.inj hdb).symm
        subst this
        rw [hirr] at hcnt
        simp only [Bool.toNat_false] at hcnt
        simp [List.count_append, hcnt, hirr]
      · have hee : e ≠ e0 := fun ee => by rw [ee, hh0] at ha; exact ea (Option.some.inj ha).symm
        have hbeq : (a == s.itn t0) = false := by simpa using ea
        rw [hbeq, Bool.or_false]
        rw [List.count_append]
        have : List.count e [e0] = 0 := by simp [Ne.symm hee]
        rw [this, Nat.add_zero]; exact hcnt
    · dsimp only; rw [upd_same]
      rw [List.pairwise_append]
      refine ⟨c3, List.pairwise_singleton _ _, ?_⟩
      intro x hx y hy hcx hcy a1 a2 ha1 ha2
      have hy' : y = e0 := by simpa using hy
      subst hy'
      rw [hh0] at ha2; cases ha2
      have := passed_of_mem (hC t0) hx hcx ha1
      unfold passed at this
      rw [hpc] at this
      simpa [arriving] using this
  · exact (hC t0).frame_other hS _ _ _ _ _ _ rfl (upd_other _ _ _ _ hne) (upd_other _ _ _ _ hne) rfl

theorem cinv_itLd2_none {s : St} {t : Tid} {w : DW} (hS : SInv s) (hC : CInv s)
    (hpc : s.pc t = .itLd2 w) (hd : s.data (s.itn t) = w) (hw : w.p = none) :
    CInv { s with hv := upd s.hv t true, pc := upd s.pc t .itNext } := by
  intro t0
  by_cases hne : t0 = t
  · subst hne
    obtain ⟨c1, c2, c3⟩ := hC t0
    have hp0 : (s.data (s.itn t0)).p = none := by rw [hd]; exact hw
    constructor
    · intro e he; exact c1 e he
    · intro e a he ha
      dsimp only at he ha ⊢
      have hcnt := c2 e a he ha
      obtain ⟨b, hb, hl, hdb⟩ := (inList_iff s e).1 (c1 e he)
      rw [ha] at hb; cases hb
      have ea : a ≠ s.itn t0 := fun ea => by rw [ea, hp0] at hdb; cases hdb
      have hbeq : (a == s.itn t0) = false := by simpa using ea
      unfold passed at hcnt ⊢
      dsimp only
      rw [hbeq] at hcnt ⊢
      simpa using hcnt
    · exact c3
  · exact (hC t0).frame_other hS _ _ _ _ _ _ rfl (upd_other _ _ _ _ hne) rfl rfl

theorem cinv_itNext_move {s : St} {t : Tid} (hS : SInv s) (hC : CInv s) (hpc : s.pc t = .itNext)
    (hne : ¬ s.next (s.itn t) = s.itn t) :
    CInv { s with itn := upd s.itn t (s.next (s.itn t)), pc := upd s.pc t .itLd1 } := by
  intro t0
  by_cases hne0 : t0 = t
  · subst hne0
    obtain ⟨c1, c2, c3⟩ := hC t0
    obtain ⟨o1,o2,o3,o4,o5,o6,o7,o8,o9,o10,o11,o12,o13,o14⟩ := hS.ord
    have hlk := (hS.thr t0).ilk
    have h2 : s.itn t0 ≠ 2 := fun e => hne (by rw [e, o14])
    have hnx := o12 _ hlk h2
    constructor
    · intro e he; exact c1 e he
    · intro e a he ha
      dsimp only at he ha ⊢
      have hcnt := c2 e a he ha
      obtain ⟨b, hb, hl, hdb⟩ := (inList_iff s e).1 (c1 e he)
      rw [ha] at hb; cases hb
      rw [hcnt]
      congr 1
      unfold passed
      dsimp only
      rw [upd_same, upd_same, hpc]
      simp only [arriving, Bool.not_true, Bool.and_false, Bool.or_false, Bool.not_false, Bool.and_true]
      by_cases ea : a = s.itn t0
      · subst ea; rw [hnx, o7]; simp
      · have hbeq : (a == s.itn t0) = false := by simpa using ea
        rw [hbeq, Bool.or_false]
        cases h1 : s.lt a (s.itn t0) with
        | true => rw [o8 _ _ _ h1 hnx]
        | false =>
          cases h3 : s.lt a (s.next (s.itn t0)) with
          | false => rfl
          | true =>
            rcases o9 a _ hl hlk ea with h4 | h4
            · rw [h1] at h4; cases h4
            · exact absurd h3 (by intro h5; exact o13 _ _ hlk h2 h4 h5)
    · exact c3
  · exact (hC t0).frame_other hS _ _ _ _ _ _ (upd_other _ _ _ _ hne0) (upd_other _ _ _ _ hne0) rfl rfl

theorem cinv_iter_begin {s : St} {t : Tid} (hS : SInv s) (hC : CInv s) :
    CInv { s with itn := upd s.itn t hd, pc := upd s.pc t .itLd1, yl := upd s.yl t [],
                  cand := upd s.cand t (inList s) } := by
  intro t0
  by_cases hne0 : t0 = t
  · subst hne0
    constructor
    · intro e he; dsimp only at he; rw [upd_same] at he; exact he
    · intro e a he ha
      dsimp only at he ha ⊢
      rw [upd_same] at he ⊢
      obtain ⟨b, hb, hl, hdb⟩ := (inList_iff s e).1 he
      rw [ha] at hb; cases hb
      unfold passed
      dsimp only
      rw [upd_same, upd_same]
      have h1 : s.lt a hd = false := by
        cases h1 : s.lt a hd with
        | false => rfl
        | true =>
          by_cases ea : a = 1
          · rw [ea] at h1; have := hS.ord.irr 1; rw [hd] at h1; rw [h1] at this; cases this
          · have := hS.ord.tr _ _ _ (hS.ord.first a hl ea) h1
            have h0 := hS.ord.irr 1
            rw [hd] at this; rw [this] at h0; cases h0
      simp [h1, arriving]
    · dsimp only; rw [upd_same, upd_same]; exact List.Pairwise.nil
  · exact (hC t0).frame_other hS _ _ _ _ _ _ (upd_other _ _ _ _ hne0) (upd_other _ _ _ _ hne0)
      (upd_other _ _ _ _ hne0) (upd_other _ _ _ _ hne0)

theorem arriving_concl (pu : Purp) (k : Int) (prev : Nat) (pv : Option Nat) (cur : Nat) (fnd : Option Nat)
    (eq : Bool) : arriving (concl pu k prev pv cur fnd eq) = false := by
  rcases concl_cases pu k prev pv cur fnd eq with ⟨r, -, hc⟩ | ⟨e, -, -, hc⟩ | ⟨j, e, -, -, -, hc⟩ | ⟨j, -, -, hc⟩ |
    ⟨j, p, -, -, -, -, hc⟩ | ⟨j, p, -, -, -, hc⟩ | ⟨j, p, -, hc⟩ <;> rw [hc] <;> rfl

/-- Every atomic step preserves the iteration-progress invariant. -/
theorem cinv_step {s s' : St} {t : Tid} {ev : Ev} (hS : SInv s) (hC : CInv s) (hs : step s t = some (s', ev)) :
    CInv s' := by
  unfold step at hs
  split at hs
  next j hpc =>
    cases hs
    exact cinv_pc hS hC _ (by rw [hpc]; rfl)
  next pu k prev pv hpc =>
    cases hs
    exact cinv_pc hS hC _ (by rw [hpc]; rfl)
  next pu k prev pv cur hpc =>
    split at hs
    · cases hs
      exact cinv_pc hS hC _ (by rw [hpc, arriving_concl]; rfl)
    · cases hs
      exact cinv_pc hS hC _ (by rw [hpc]; rfl)
  next pu k prev pv cur hpc =>
    cases hs
    exact cinv_pc hS hC _ (by rw [hpc]; rfl)
  next pu k prev pv cur w hpc =>
    split at hs
    · split at hs
      · split at hs
        · cases hs
          exact cinv_pc hS hC _ (by rw [hpc, arriving_concl]; rfl)
        · cases hs
          exact cinv_pc hS hC _ (by rw [hpc]; rfl)
      · cases hs
        exact cinv_pc hS hC _ (by rw [hpc]; rfl)
    · cases hs
      exact cinv_pc hS hC _ (by rw [hpc]; rfl)
  next k cur e hpc =>
    split at hs
    · rename_i hd
      cases hs
      exact cinv_remove hS hC _ cur e _ s.home (by rw [hpc]; rfl) (by rw [hd]) (fun _ _ => rfl)
    · cases hs
      exact cinv_pc hS hC _ (by rw [hpc]; rfl)
  next j cur e hpc =>
    split at hs
    · rename_i hd
      cases hs
      have hhn := hS.pend_homeless (t := t) (e := j.e) (by rw [hpc]; rfl) (by rw [hpc]; rfl)
      refine cinv_remove hS hC _ cur e _ _ (by rw [hpc]; rfl) (by rw [hd]) ?_
      intro x hx
      have : x ≠ j.e := fun ex => hx (by rw [ex]; exact hhn)
      exact upd_other _ _ _ _ this
    · cases hs
      exact cinv_pc hS hC _ (by rw [hpc]; rfl)
  next j p hpc =>
    split at hs
    · rename_i hd
      cases hs
      exact cinv_mark hS hC _ _ _ _ (by rw [hpc]; rfl) (by rw [hd])
    · cases hs
      exact cinv_pc hS hC _ (by rw [hpc]; rfl)
  next j p hpc =>
    split at hs
    · rename_i hd
      cases hs
      exact cinv_mark hS hC _ _ _ _ (by rw [hpc]; rfl) (by rw [hd])
    · cases hs
      exact cinv_pc hS hC _ (by rw [hpc]; rfl)
  next j p hpc =>
    split at hs
    · cases hs
      refine cinv_pc hS hC _ ?_
      rw [hpc]; split
      · rfl
      · unfold proceed; split <;> rfl
    · cases hs
      exact cinv_pc hS hC _ (by rw [hpc]; rfl)
  next j p hpc =>
    split at hs
    · rename_i hd
      cases hs
      have hhn := hS.pend_homeless (t := t) (e := j.e) (by rw [hpc]; rfl) (by rw [hpc]; rfl)
      refine cinv_store hS hC _ _ _ _ _ (by rw [hpc]; rfl) ?_ ?_
      · intro x hx; rw [hd] at hx; cases hx
      · intro b hb; rw [hhn] at hb; cases hb
    · rename_i hd
      exact absurd (lReuse_enabled hS hpc) hd
  next j p hpc =>
    cases hs
    exact cinv_upd hS hC (t := t) rfl (by rw [hpc]; rfl) (fun _ _ h => h) rfl rfl
      (fun t0 e he _ => ⟨(hC t0).cin e he, rfl⟩) (fun _ _ _ _ => rfl)
  next j p n hpc =>
    cases hs
    have hpn : priv (s.pc t) = some n := by rw [hpc]; rfl
    have hnl := ((hS.thr t).pcnt n hpn).2.2.1
    have := cinv_store hS hC (t := t) (.lStNext j p n) n j.e ⟨some j.e, false⟩ s.mo (by rw [hpc]; rfl)
      (fun _ _ => hnl) (fun b hb => by
        have := (hS.thr t).phome j.e b (by rw [hpc]; rfl) hb
        rw [hpn] at this; cases this; exact hnl)
    exact this
  next j p n hpc =>
    cases hs
    exact cinv_upd hS hC (t := t) rfl (by rw [hpc]; rfl) (fun _ _ h => h) rfl rfl
      (fun t0 e he _ => ⟨(hC t0).cin e he, rfl⟩) (fun _ _ _ _ => rfl)
  next j p n hpc =>
    split at hs
    · cases hs
      have hpn : priv (s.pc t) = some n := by rw [hpc]; rfl
      have hnl := ((hS.thr t).pcnt n hpn).2.2.1
      have lkne : ∀ b, s.lk b = true → b ≠ n := fun b hb e => by rw [e, hnl] at hb; cases hb
      refine cinv_upd hS hC (t := t) rfl (by rw [hpc]; rfl) (fun _ _ h => h) rfl rfl ?_ ?_
      · intro t0 e he _
        refine inList_keep ((hC t0).cin e he) rfl (fun b _ hl hd => ⟨?_, hd⟩)
        dsimp only; rw [upd_other _ _ _ _ (lkne b hl)]; exact hl
      · intro a b ha hb; exact ltIns_old (lkne a ha) (lkne b hb)
    · rename_i hd
      exact absurd (lCasNext_enabled hS hpc) hd
  next j p ok hpc =>
    cases hs
    have := ((hS.thr t).mprev p (by rw [hpc]; rfl)).2
    exact cinv_mark hS hC _ _ _ _ (by rw [hpc]; rfl) (by rw [this])
  next j p ok hpc =>
    cases hs
    have := ((hS.thr t).mcur p (by rw [hpc]; rfl)).2
    refine cinv_mark hS hC _ _ _ _ ?_ (by rw [this])
    rw [hpc]; split <;> rfl
  next hpc =>
    cases hs
    exact cinv_pc hS hC _ (by rw [hpc]; rfl)
  next w hpc =>
    cases hs
    exact cinv_upd hS hC (t := t) rfl (by rw [hpc]; rfl) (fun _ _ h => h) rfl rfl
      (fun t0 e he _ => ⟨(hC t0).cin e he, rfl⟩) (fun _ _ _ _ => rfl)
  next w hpc =>
    split at hs
    · rename_i hd
      split at hs
      · rename_i e hw
        cases hs
        exact cinv_itLd2_some hS hC hpc hd hw
      · rename_i hw
        cases hs
        exact cinv_itLd2_none hS hC hpc hd hw
    · cases hs
      exact cinv_pc hS hC _ (by rw [hpc]; rfl)
  next hpc =>
    split at hs
    · cases hs
      exact cinv_pc hS hC _ (by rw [hpc]; rfl)
    · rename_i hne
      cases hs
      exact cinv_itNext_move hS hC hpc hne
  next hpc =>
    cases hs
    exact cinv_upd hS hC (t := t) rfl (by rw [hpc]; rfl) (fun _ _ h => h) rfl rfl
      (fun t0 e he _ => ⟨(hC t0).cin e he, rfl⟩) (fun _ _ _ _ => rfl)
  next hpc =>
    cases hs
    exact cinv_pc hS hC _ (by rw [hpc]; rfl)
  next w hpc =>
    split at hs
    · cases hs
      refine cinv_pc hS hC _ ?_
      rw [hpc]; split <;> rfl
    · cases hs
      exact cinv_pc hS hC _ (by rw [hpc]; rfl)
  next hpc =>
    split at hs
    · cases hs
      exact cinv_pc hS hC _ (by rw [hpc]; rfl)
    · cases hs
  next e hpc =>
    split at hs
    · rename_i hd
      cases hs
      exact cinv_remove hS hC _ (s.itn t) e _ s.home (by rw [hpc]; rfl) (by rw [hd]) (fun _ _ => rfl)
    · split at hs
      · cases hs
        exact hC
      · cases hs
        exact cinv_pc hS hC _ (by rw [hpc]; rfl)
  next hpc =>
    cases hs
    exact cinv_upd hS hC (t := t) rfl (by rw [hpc]; rfl) (fun _ _ h => h) rfl rfl
      (fun t0 e he _ => ⟨(hC t0).cin e he, rfl⟩) (fun _ _ _ _ => rfl)
  next => cases hs

theorem cinv_result {s s' : St} {t : Tid} {r : GRet} (hS : SInv s) (hC : CInv s)
    (hs : result s t = some (s', r)) : CInv s' := by
  unfold result at hs
  split at hs
  next r' hpc =>
    cases hs
    exact cinv_pc hS hC _ (by rw [hpc]; rfl)
  next => cases hs

theorem cinv_invoke {s s' : St} {t : Tid} {op : GOp} (hS : SInv s) (hC : CInv s)
    (hs : invoke s t op = some s') : CInv s' := by
  obtain ⟨name, args⟩ := op
  unfold invoke at hs
  split at hs
  next hnt =>
    split at hs
    next k e hpc hname hargs =>
      split at hs
      · cases hs
      · cases hs
        exact cinv_upd hS hC (t := t) rfl (by rw [hpc]; rfl) (fun _ _ h => h) rfl rfl
          (fun t0 e he _ => ⟨(hC t0).cin e he, rfl⟩) (fun _ _ _ _ => rfl)
    next k e allow hpc hname hargs =>
      split at hs
      · cases hs
      · cases hs
        exact cinv_upd hS hC (t := t) rfl (by rw [hpc]; rfl) (fun _ _ h => h) rfl rfl
          (fun t0 e he _ => ⟨(hC t0).cin e he, rfl⟩) (fun _ _ _ _ => rfl)
    next k hpc hname hargs =>
      cases hs
      exact cinv_pc hS hC _ (by rw [hpc]; rfl)
    next k hpc hname hargs =>
      cases hs
      exact cinv_pc hS hC _ (by rw [hpc]; rfl)
    next k hpc hname hargs =>
      cases hs
      exact cinv_pc hS hC _ (by rw [hpc]; rfl)
    next hpc hname hargs =>
      cases hs
      exact cinv_iter_begin hS hC
    next hpc hname hargs =>
      cases hs
      exact cinv_pc hS hC _ (by rw [hpc]; rfl)
    next hpc hname hargs =>
      cases hs
      exact cinv_pc hS hC _ (by rw [hpc]; rfl)
    next hpc hname hargs =>
      split at hs
      next e he =>
        cases hs
        exact cinv_pc hS hC _ (by rw [hpc]; rfl)
      next => cases hs
    next hpc hname hargs =>
      cases hs
      exact cinv_pc hS hC _ (by rw [hpc]; rfl)
    next e hpc hname hargs =>
      split at hs
      next hg =>
        cases hs
        exact cinv_upd hS hC (t := t) rfl (by rw [hpc]; rfl) (fun _ _ h => h) rfl rfl
          (fun t0 e he _ => ⟨(hC t0).cin e he, rfl⟩) (fun _ _ _ _ => rfl)
      next => cases hs
    next => cases hs
  next => cases hs

/-- Structural invariant and iteration progress together. -/
def FInv (s : St) : Prop := SInv s ∧ CInv s

theorem finv_apply {s s' : St} {t : Tid} {a : Act} {o : Obs} (h : FInv s)
    (hs : model.apply s t a = some (s', o)) : FInv s' := by
  refine ⟨sinv_apply h.1 hs, ?_⟩
  rcases Model.apply_cases hs with ⟨op, -, hs1, -⟩ | ⟨e, -, hs1, -⟩ | ⟨r, -, hs1, -⟩
  · exact cinv_invoke h.1 h.2 hs1
  · exact cinv_step h.1 h.2 hs1
  · exact cinv_result h.1 h.2 hs1

theorem finv_reachable (n : Nat) (s : St) (h : model.Reachable (init n) s) : FInv s :=
  model.inv_reachable FInv (init n) ⟨sinv_init n, cinv_init n⟩ (fun _ _ _ _ _ hi ha => finv_apply hi ha) s h

end CdsVerif.Algo.Iterable
