/-
  Preservation of `SInv`, part 2: steps that move elements into and out of nodes, and steps that build and link a
  new node.
-/
import CdsVerif.Algo.Iterable.Step
namespace CdsVerif.Algo.Iterable
open CdsVerif.Machine CdsVerif.Spec

/-! ### Elements entering and leaving nodes -/

/-- An element found in a node after its data word was written is the one written, or was in an other node. -/
theorem upd_p_some {data : Nat → DW} {a b x : Nat} {w : DW} (h : (upd data a w b).p = some x) :
    (b = a ∧ w.p = some x) ∨ (b ≠ a ∧ (data b).p = some x) := by
  by_cases e : b = a
  · subst e; rw [upd_same] at h; exact Or.inl ⟨rfl, h⟩
  · rw [upd_other _ _ _ _ e] at h; exact Or.inr ⟨e, h⟩

theorem upd_p_none {data : Nat → DW} {a b : Nat} {w : DW} (hb : (data b).p = none) (hw : b = a → w.p = none) :
    (upd data a w b).p = none := by
  by_cases e : b = a
  · subst e; rw [upd_same]; exact hw rfl
  · rw [upd_other _ _ _ _ e]; exact hb

/-- A pending element is stored into an empty node. -/
theorem elemP_store {data : Nat → DW} {home : Nat → Option Nat} {retired : Nat → Option Tid} {used disposed : Nat → Bool}
    {ncnt : Nat} (h : ElemP data home retired used disposed ncnt) (a e : Nat) (m : Bool)
    (hno : ∀ b, (data b).p ≠ some e) (hu : used e = true)
    (hr : retired e = none) (ha : 3 ≤ a ∧ a < ncnt) :
    ElemP (upd data a ⟨some e, m⟩) (upd home e (some a)) retired used disposed ncnt where
  ehome := fun b x hb => (upd_p_some hb).elim
    (fun hx => by cases hx.2; rw [hx.1]; exact upd_same _ _ _)
    (fun hx => (upd_other _ _ _ _ (fun (hc : x = e) => hno b (hc ▸ hx.2))).trans (h.ehome b x hx.2))
  live := fun b x hb => (upd_p_some hb).elim (fun hx => by cases hx.2; exact hr) (fun hx => h.live b x hx.2)
  hdnil := upd_p_none h.hdnil (fun e1 => by omega)
  tlnil := upd_p_none h.tlnil (fun e1 => by omega)
  hrng := fun x b hx => by
    by_cases ex : x = e
    · rw [ex, upd_same] at hx; cases hx; exact ⟨ex ▸ hu, ha⟩
    · rw [upd_other _ _ _ _ ex] at hx; exact h.hrng x b hx
  rused := h.rused
  dret := h.dret

/-- An element is removed from its node (and retired). -/
theorem elemP_remove {data : Nat → DW} {home : Nat → Option Nat} {retired : Nat → Option Tid} {used disposed : Nat → Bool}
    {ncnt : Nat} (h : ElemP data home retired used disposed ncnt) (a e : Nat) (t : Tid)
    (hin : (data a).p = some e) :
    ElemP (upd data a ⟨none, false⟩) home (upd retired e (some t)) used disposed ncnt where
  ehome := fun b x hb => (upd_p_some hb).elim (fun hx => nomatch hx.2) (fun hx => h.ehome b x hx.2)
  live := fun b x hb => (upd_p_some hb).elim (fun hx => nomatch hx.2) (fun hx =>
    -- `x` is in another node than `e`
    (upd_other _ _ _ _ (fun (hc : x = e) =>
      hx.1 (Option.some.inj ((h.ehome b x hx.2).symm.trans (hc ▸ h.ehome a e hin))))).trans
      (h.live b x hx.2))
  hdnil := upd_p_none h.hdnil (fun _ => rfl)
  tlnil := upd_p_none h.tlnil (fun _ => rfl)
  hrng := h.hrng
  rused := fun x hx => by
    by_cases ex : x = e
    · rw [ex]; exact (h.hrng e a (h.ehome a e hin)).1
    · rw [upd_other _ _ _ _ ex] at hx; exact h.rused x hx
  dret := fun x hx => by
    by_cases ex : x = e
    · rw [ex, upd_same]; nofun
    · rw [upd_other _ _ _ _ ex]; exact h.dret x hx

/-- An element is replaced by a pending element (and retired). -/
theorem elemP_replace {data : Nat → DW} {home : Nat → Option Nat} {retired : Nat → Option Tid} {used disposed : Nat → Bool}
    {ncnt : Nat} (h : ElemP data home retired used disposed ncnt) (a e e2 : Nat) (t : Tid)
    (hin : (data a).p = some e) (hno : ∀ b, (data b).p ≠ some e2) (hu : used e2 = true)
    (hr : retired e2 = none) :
    ElemP (upd data a ⟨some e2, false⟩) (upd home e2 (some a)) (upd retired e (some t)) used disposed ncnt := by
  have hne : e2 ≠ e := fun hc => hno a (hc ▸ hin)
  have ha := h.hrng e a (h.ehome a e hin)
  have h1 := elemP_store (elemP_remove h a e t hin) a e2 false
    (fun b hb => (upd_p_some hb).elim (fun hx => nomatch hx.2) (fun hx => hno b hx.2)) hu
    ((upd_other _ _ _ _ hne).trans hr) ha.2
  rw [show upd (upd data a ⟨none, false⟩) a ⟨some e2, false⟩ = upd data a ⟨some e2, false⟩ from
    funext fun b => by by_cases eb : b = a <;> simp [upd, eb]] at h1
  exact h1

/-- The pending element of a thread has no home yet, unless the thread has a node under construction. -/
theorem SInv.pend_homeless {s : St} (h : SInv s) {t : Tid} {e : Nat} (hp : pend (s.pc t) = some e)
    (hn : priv (s.pc t) = none) : s.home e = none := by
  cases hh : s.home e with
  | none => rfl
  | some a => have h2 := (h.thr t).phome e a hp hh; rw [hn] at h2; cases h2

/-- The pending element of a thread is in no node, except the thread's node under construction. -/
theorem SInv.pend_absent {s : St} (h : SInv s) {t : Tid} {e : Nat} (hp : pend (s.pc t) = some e)
    (hn : priv (s.pc t) = none) : ∀ b, (s.data b).p ≠ some e := by
  intro b hb
  have h1 := h.elem.ehome b e hb
  have h2 := (h.thr t).phome e b hp h1
  rw [hn] at h2; cases h2

theorem lReuse_enabled {s : St} {t : Tid} {j : Job} {p : Pos} (h : SInv s) (hpc : s.pc t = .lReuse j p) :
    s.data p.prev = ⟨none, true⟩ := by
  have hT : TInv s t (.lReuse j p) := hpc ▸ h.thr t
  rw [(hT.mprev p rfl).2, (hT.reuse p rfl).2]

theorem home_upd_mono {home : Nat → Option Nat} {e a : Nat} (hn : home e = none) :
    ∀ x b, home x = some b → upd home e (some a) x = some b := by
  intro x b hx
  have hxe : x ≠ e := fun hc => by rw [hc, hn] at hx; cases hx
  rw [upd_other _ _ _ _ hxe]; exact hx

theorem step_lReuse {s : St} {t : Tid} {j : Job} {p : Pos} (h : SInv s) (hpc : s.pc t = .lReuse j p) :
    SInv { s with data := upd s.data p.prev ⟨some j.e, false⟩, mo := upd s.mo p.prev none,
                  home := upd s.home j.e (some p.prev), pc := upd s.pc t (.lRelCur j p true) } := by
  have hT : TInv s t (.lReuse j p) := hpc ▸ h.thr t
  have hab := h.pend_absent (t := t) (e := j.e) (by rw [hpc]; rfl) (by rw [hpc]; rfl)
  have hhome := home_upd_mono (a := p.prev) (h.pend_homeless (t := t) (e := j.e) (by rw [hpc]; rfl) (by rw [hpc]; rfl))
  have hpos := hT.pos p rfl
  have hmo := (hT.mprev p rfl).1
  have hne : p.cur ≠ p.prev := (h.ord.ne_of_lt hpos.2.2).symm
  have h3 : 3 ≤ p.prev := by
    have h0 : p.prev ≠ 0 := fun e => by have := hpos.1; rw [e, h.ord.nolk] at this; cases this
    have h2 := h.ord.ne_tl_of_lt hpos.2.2
    have := (hT.reuse p rfl).1
    omega
  exact sinv_build_keep h hpc (Y := .lRelCur j p true) rfl h.ord (freshP_data h.fresh _ _ _ (h.ord.lkcnt _ hpos.1))
    (elemP_store h.elem _ _ _ hab (hT.pused _ rfl).1 (hT.pused _ rfl).2 ⟨h3, h.ord.lkcnt _ hpos.1⟩)
    (bit_upd h.bit _ _ _ (by simp))
    (holds_upd (X := .lReuse j p) (fun b hb => hpc ▸ h.own b t hb) nofun
      (fun _ hb e => e.elim Or.inl (fun e2 => absurd (Option.some.inj e2).symm hb)))
    (mo_upd_other (Or.inl rfl))
    { hT with
      adj := nofun, reuse := nofun, mprev := nofun, pcnt := nofun, pctor := nofun, pdata := nofun, pused := nofun
      phome := nofun, nopriv := nofun
      mcur := fun q e => by
        cases e; exact ⟨(upd_other _ _ _ _ hne).trans (hT.mcur p rfl).1, (upd_other _ _ _ _ hne).trans (hT.mcur p rfl).2⟩
      atn := fun e he hv hm => hhome e _ (hT.atn e he hv hm) }
    (fun t0 h0 => TInv.frame_data h h0 _ _ _ _ _ hpos.1 (Or.inr hmo) hhome (fun x hx => upd_other _ _ _ _
      (fun hc => h0 (h.upend t0 t x hx (by rw [hpc, hc]; rfl)))))
    (fun _ e => e) nofun

theorem freshP_data' {ncnt : Nat} {next : Nat → Nat} {data : Nat → DW} {mo : Nat → Option Tid}
    (h : FreshP ncnt next data mo) (a : Nat) (w : DW) (ha : a < ncnt) :
    FreshP ncnt next (upd data a w) mo := by
  constructor
  intro b hb
  have := h.fresh b hb
  have hne : b ≠ a := by omega
  simp only [upd_other _ _ _ _ hne]
  exact this

theorem bit_upd_data {data : Nat → DW} {mo : Nat → Option Tid} (h : ∀ a, (data a).m = true ↔ mo a ≠ none)
    (a : Nat) (w : DW) (hw : w.m = (data a).m) :
    ∀ b, ((upd data a w) b).m = true ↔ mo b ≠ none := by
  intro b
  by_cases e : b = a
  · subst e; simp only [upd_same, hw]; exact h b
  · simp only [upd_other _ _ _ _ e]; exact h b

/-- Another thread keeps its facts when the stepping thread `t` replaces the unmarked content `e` of a linked
    node (by nothing, or by its own pending element `e2`, whose `home` is set). -/
theorem TInv.frame_remove {s : St} {t t' : Tid} (h : SInv s) (a e : Nat) (w : DW)
    (pcf : Tid → PC) (cf : Tid → Nat → Bool) (hm' : Nat → Option Nat)
    (hlk : s.lk a = true) (hd : s.data a = ⟨some e, false⟩)
    (hh1 : ∀ x b, s.home x = some b → hm' x = some b)
    (hh2 : ∀ x, pend (s.pc t') = some x → hm' x = s.home x) :
    TInv { s with data := upd s.data a w, retired := upd s.retired e (some t), home := hm', cand := cf, pc := pcf }
      t' (s.pc t') := by
  have hq := h.thr t'
  have hmo : s.mo a = none := Classical.byContradiction fun hc => by
    have := (h.bit a).2 hc
    rw [hd] at this; cases this
  have hmine : ∀ b, s.mo b = some t' → b ≠ a := fun b hb e => by rw [e, hmo] at hb; cases hb
  have hpriv : ∀ n, priv (s.pc t') = some n → n ≠ a := fun n hn e => by
    have := (hq.pcnt n hn).2.2.1
    rw [e, hlk] at this; cases this
  have hpend : ∀ x, pend (s.pc t') = some x → x ≠ e := fun x hx hc =>
    hpriv a (hq.phome x a hx (hc ▸ h.elem.ehome a e (by rw [hd]))) rfl
  exact hq.frame rfl rfl rfl (Nat.le_refl _) rfl rfl rfl (fun _ _ => rfl) (fun _ _ => rfl)
    (fun p hp => ⟨upd_other _ _ _ _ (hmine _ (hq.mcur p hp).1), rfl⟩)
    (fun p hp => ⟨upd_other _ _ _ _ (hmine _ (hq.mprev p hp).1), rfl⟩)
    (fun n hn => ⟨upd_other _ _ _ _ (hpriv n hn), rfl⟩)
    (fun x hx => ⟨rfl, upd_other _ _ _ _ (hpend x hx), hh2 x hx⟩) (fun _ _ => rfl) hh1 (fun _ h => h) (fun _ _ => rfl)

/-- Thread `t` removes the unmarked element `e` from the linked node `a` and retires it, and returns `r`. -/
theorem sinv_remove {s : St} {t : Tid} {X : PC} {r : GRet} {a e : Nat} (h : SInv s) (hpc : s.pc t = X)
    (hlk : s.lk a = true) (hd : s.data a = ⟨some e, false⟩) (hI : IInv s t (.done r))
    (hX : ∀ b, holds X b → holds (.done r) b) :
    SInv { (s.removed t e) with data := upd s.data a ⟨none, false⟩, pc := upd s.pc t (.done r) } :=
  sinv_build_keep h hpc rfl h.ord (freshP_data' h.fresh _ _ (h.ord.lkcnt _ hlk))
    (elemP_remove h.elem _ _ _ (by rw [hd])) (bit_upd_data h.bit _ _ (by rw [hd]))
    (fun b hb => hX b (hpc ▸ h.own b t hb)) (fun _ _ _ hb => hb) ⟨.at_rest (.inr ⟨r, rfl⟩), { hI with }⟩
    (fun t0 _ => TInv.frame_remove h _ _ _ _ _ _ hlk hd (fun _ _ hx => hx) (fun _ _ => rfl)) nofun nofun

theorem step_eraseCas_ok {s : St} {t : Tid} {k : Int} {cur e : Nat} (h : SInv s) (hpc : s.pc t = .eraseCas k cur e)
    (hd : s.data cur = ⟨some e, false⟩) :
    SInv { (s.removed t e) with data := upd s.data cur ⟨none, false⟩, pc := upd s.pc t (.done [1, (e : Int)]) } :=
  have hT : TInv s t (.eraseCas k cur e) := hpc ▸ h.thr t
  sinv_remove h hpc (hT.cnode cur rfl) hd { hT.toIInv with } (fun _ e => e)

theorem step_eraseCas_fail {s : St} {t : Tid} {k : Int} {cur e : Nat} (h : SInv s) (hpc : s.pc t = .eraseCas k cur e) :
    SInv { s with pc := upd s.pc t (.wNext .erase k hd none) } :=
  have hT : TInv s t (.eraseCas k cur e) := hpc ▸ h.thr t
  sinv_pc_only h hpc _
    { hT with wprev := fun a e => by cases e; exact ⟨h.ord.hdlk, by decide⟩, cnode := nofun, kwalk := nofun }
    (fun _ e => e) (fun _ e => e) (fun _ e => e)

theorem step_updCas_ok {s : St} {t : Tid} {j : Job} {cur e : Nat} (h : SInv s) (hpc : s.pc t = .updCas j cur e)
    (hd : s.data cur = ⟨some e, false⟩) :
    SInv { (s.removed t e) with data := upd s.data cur ⟨some j.e, false⟩, home := upd s.home j.e (some cur),
                                pc := upd s.pc t (.done [1, 0, (e : Int)]) } :=
  have hT : TInv s t (.updCas j cur e) := hpc ▸ h.thr t
  have hab := h.pend_absent (t := t) (e := j.e) (by rw [hpc]; rfl) (by rw [hpc]; rfl)
  have hhome := home_upd_mono (a := cur) (h.pend_homeless (t := t) (e := j.e) (by rw [hpc]; rfl) (by rw [hpc]; rfl))
  have hlk := hT.cnode cur rfl
  sinv_build_keep h hpc rfl h.ord (freshP_data' h.fresh _ _ (h.ord.lkcnt _ hlk))
    (elemP_replace h.elem _ _ _ _ (by rw [hd]) hab (hT.pused _ rfl).1 (hT.pused _ rfl).2)
    (bit_upd_data h.bit _ _ (by rw [hd]))
    (fun b hb => (show holds (.updCas j cur e) b from hpc ▸ h.own b t hb).elim nofun nofun) (fun _ _ _ hb => hb)
    ⟨.at_rest (.inr ⟨_, rfl⟩), { hT.toIInv with atn := fun x hx hv hm => hhome x _ (hT.atn x hx hv hm) }⟩
    (fun t0 h0 => TInv.frame_remove h _ _ _ _ _ _ hlk hd hhome (fun x hx => upd_other _ _ _ _
      (fun hc => h0 (h.upend t0 t x hx (by rw [hpc, hc]; rfl)))))
    nofun nofun

theorem step_updCas_fail {s : St} {t : Tid} {j : Job} {cur e : Nat} (h : SInv s) (hpc : s.pc t = .updCas j cur e) :
    SInv { s with pc := upd s.pc t (.wHead j) } :=
  have hT : TInv s t (.updCas j cur e) := hpc ▸ h.thr t
  sinv_pc_only h hpc _ { hT with cnode := nofun, kupd := nofun } (fun _ e => e) (fun _ e => e) (fun _ e => e)

/-! ### Building and linking a node -/

/-- Writing the `next` word of a node that is not linked does not affect the chain. -/
theorem ordP_next_unlinked {lk : Nat → Bool} {lt : Nat → Nat → Bool} {next : Nat → Nat} {ncnt : Nat}
    (h : OrdP lk lt next ncnt) (n v : Nat) (hn : lk n = false) (ncnt' : Nat) (hc : ncnt ≤ ncnt') :
    OrdP lk lt (upd next n v) ncnt' := by
  obtain ⟨o1,o2,o3,o4,o5,o6,o7,o8,o9,o10,o11,o12,o13,o14⟩ := h
  constructor
  · exact o1
  · exact o2
  · exact o3
  · omega
  · intro a ha; have := o5 a ha; omega
  · exact o6
  · exact o7
  · exact o8
  · exact o9
  · exact o10
  · exact o11
  · intro a ha h2; have : a ≠ n := by grind
    rw [upd_other _ _ _ _ this]; exact o12 a ha h2
  · intro a b ha h2 h3; have : a ≠ n := by grind
    rw [upd_other _ _ _ _ this]; exact o13 a b ha h2 h3
  · have : (2 : Nat) ≠ n := by grind
    rw [upd_other _ _ _ _ this]; exact o14

theorem elemP_cnt {data : Nat → DW} {home : Nat → Option Nat} {retired : Nat → Option Tid} {used disposed : Nat → Bool}
    {ncnt : Nat} (h : ElemP data home retired used disposed ncnt) (ncnt' : Nat) (hc : ncnt ≤ ncnt') :
    ElemP data home retired used disposed ncnt' := by
  obtain ⟨e1, e2, e3, e4, e5, e6, e7⟩ := h
  exact ⟨e1, e2, e3, e4, fun e a ha => by have := e5 e a ha; exact ⟨this.1, this.2.1, by omega⟩, e6, e7⟩

/-- Linking the new node `x` between the adjacent nodes `p` and `c`. -/
theorem ordP_insert {lk : Nat → Bool} {lt : Nat → Nat → Bool} {next : Nat → Nat} {ncnt : Nat}
    (h : OrdP lk lt next ncnt) (p c x : Nat) (hp : lk p = true) (hc : lk c = true) (hpc : next p = c)
    (hp2 : p ≠ 2) (hx : lk x = false) (hxc : x < ncnt) (hx0 : x ≠ 0) (hxn : next x = c) :
    OrdP (upd lk x true) (ltIns lt p c x) (upd next p x) ncnt := by
  obtain ⟨o1,o2,o3,o4,o5,o6,o7,o8,o9,o10,o11,o12,o13,o14⟩ := h
  have hpcl : lt p c = true := by rw [← hpc]; exact o12 p hp hp2
  have hxp : x ≠ p := fun e => by rw [e, hp] at hx; cases hx
  have hxc' : x ≠ c := fun e => by rw [e, hc] at hx; cases hx
  have hx1 : x ≠ 1 := fun e => by rw [e, o1] at hx; cases hx
  have hx2 : x ≠ 2 := fun e => by rw [e, o2] at hx; cases hx
  have hltx : ∀ a, lt a x = false := by
    intro a; cases hh : lt a x with
    | false => rfl
    | true => have := (o6 a x hh).2; rw [hx] at this; cases this
  have L1 : ∀ a b, a ≠ x → b ≠ x → ltIns lt p c x a b = lt a b := by
    intro a b ha hb; simp [ltIns, ha, hb]
  have L2 : ∀ b, b ≠ x → ltIns lt p c x x b = (b == c || lt c b) := by
    intro b hb; simp [ltIns, hb]
  have L3 : ∀ a, a ≠ x → ltIns lt p c x a x = (a == p || lt a p) := by
    intro a ha; simp [ltIns, ha]
  have L4 : ltIns lt p c x x x = false := by simp [ltIns]
  have K1 : ∀ a, a ≠ x → upd lk x true a = lk a := fun a ha => upd_other _ _ _ _ ha
  have K2 : upd lk x true x = true := upd_same _ _ _
  have hlknx : ∀ a, lk a = true → a ≠ 2 → lk (next a) = true := fun a ha h2 => (o6 _ _ (o12 a ha h2)).2
  have hnex : ∀ a, lk a = true → a ≠ x := fun a ha e => by rw [e, hx] at ha; cases ha
  refine ⟨?_, ?_, ?_, o4, ?_, ?_, ?_, ?_, ?_, ?_, ?_, ?_, ?_, ?_⟩
  · rw [K1 1 (Ne.symm hx1)]; exact o1
  · rw [K1 2 (Ne.symm hx2)]; exact o2
  · rw [K1 0 (Ne.symm hx0)]; exact o3
  · intro a ha
    by_cases e : a = x
    · rw [e]; exact hxc
    · rw [K1 a e] at ha; exact o5 a ha
  · intro a b hab
    by_cases ea : a = x <;> by_cases eb : b = x
    · subst ea; subst eb; rw [L4] at hab; cases hab
    · subst ea; rw [L2 b eb] at hab; rw [K2, K1 b eb]
      refine ⟨rfl, ?_⟩
      simp only [Bool.or_eq_true, beq_iff_eq] at hab
      rcases hab with h | h
      · rw [h]; exact hc
      · exact (o6 _ _ h).2
    · subst eb; rw [L3 a ea] at hab; rw [K2, K1 a ea]
      refine ⟨?_, rfl⟩
      simp only [Bool.or_eq_true, beq_iff_eq] at hab
      rcases hab with h | h
      · rw [h]; exact hp
      · exact (o6 _ _ h).1
    · rw [L1 a b ea eb] at hab; rw [K1 a ea, K1 b eb]; exact o6 a b hab
  · intro a
    by_cases ea : a = x
    · subst ea; exact L4
    · rw [L1 a a ea ea]; exact o7 a
  · intro a b d hab hbd
    by_cases ea : a = x <;> by_cases eb : b = x <;> by_cases ed : d = x
    · subst ea; subst eb; rw [L4] at hab; cases hab
    · subst ea; subst eb; rw [L4] at hab; cases hab
    · subst ea; subst ed; rw [L2 b eb] at hab; rw [L3 b eb] at hbd
      simp only [Bool.or_eq_true, beq_iff_eq] at hab hbd
      exfalso; clear L1 L2 L3 L4 K1 K2 o9 o10 o11 o12 o13 o5 hlknx hnex hltx
      grind
    · subst ea; rw [L2 b eb] at hab; rw [L1 b d eb ed] at hbd; rw [L2 d ed]
      simp only [Bool.or_eq_true, beq_iff_eq] at hab ⊢
      clear L1 L2 L3 L4 K1 K2 o9 o10 o11 o12 o13 o5 hlknx hnex hltx
      grind
    · subst eb; subst ed; rw [L4] at hbd; cases hbd
    · subst eb; rw [L3 a ea] at hab; rw [L2 d ed] at hbd; rw [L1 a d ea ed]
      simp only [Bool.or_eq_true, beq_iff_eq] at hab hbd
      clear L1 L2 L3 L4 K1 K2 o9 o10 o11 o12 o13 o5 hlknx hnex hltx
      grind
    · subst ed; rw [L1 a b ea eb] at hab; rw [L3 b eb] at hbd; rw [L3 a ea]
      simp only [Bool.or_eq_true, beq_iff_eq] at hbd ⊢
      clear L1 L2 L3 L4 K1 K2 o9 o10 o11 o12 o13 o5 hlknx hnex hltx
      grind
    · rw [L1 a b ea eb] at hab; rw [L1 b d eb ed] at hbd; rw [L1 a d ea ed]; exact o8 a b d hab hbd
  · intro a b ha hb hab
    by_cases ea : a = x <;> by_cases eb : b = x
    · exact absurd (ea.trans eb.symm) hab
    · subst ea; rw [K1 b eb] at hb; rw [L2 b eb, L3 b eb]
      simp only [Bool.or_eq_true, beq_iff_eq]
      have t1 := o9 b p hb hp
      have t2 := o9 b c hb hc
      have t3 := o13 p b hp hp2
      rw [hpc] at t3
      clear L1 L2 L3 L4 K1 K2 o9 o10 o11 o12 o13 o5 o8 hlknx hnex hltx
      grind
    · subst eb; rw [K1 a ea] at ha; rw [L2 a ea, L3 a ea]
      simp only [Bool.or_eq_true, beq_iff_eq]
      have t1 := o9 a p ha hp
      have t2 := o9 a c ha hc
      have t3 := o13 p a hp hp2
      rw [hpc] at t3
      clear L1 L2 L3 L4 K1 K2 o9 o10 o11 o12 o13 o5 o8 hlknx hnex hltx
      grind
    · rw [K1 a ea] at ha; rw [K1 b eb] at hb; rw [L1 a b ea eb, L1 b a eb ea]; exact o9 a b ha hb hab
  · intro a ha h1
    by_cases ea : a = x
    · subst ea; rw [L3 1 (Ne.symm hx1)]
      simp only [Bool.or_eq_true, beq_iff_eq]
      by_cases ep : p = 1
      · left; exact ep.symm
      · right; exact o10 p hp ep
    · rw [K1 a ea] at ha; rw [L1 1 a (Ne.symm hx1) ea]; exact o10 a ha h1
  · intro a ha h2
    by_cases ea : a = x
    · subst ea; rw [L2 2 (Ne.symm hx2)]
      simp only [Bool.or_eq_true, beq_iff_eq]
      by_cases ec : c = 2
      · left; exact ec.symm
      · right; exact o11 c hc ec
    · rw [K1 a ea] at ha; rw [L1 a 2 ea (Ne.symm hx2)]; exact o11 a ha h2
  · intro a ha h2
    by_cases ea : a = x
    · subst ea; rw [upd_other _ _ _ _ hxp, hxn, L2 c (Ne.symm hxc')]; simp
    · rw [K1 a ea] at ha
      by_cases ep : a = p
      · subst ep; rw [upd_same, L3 a ea]; simp
      · rw [upd_other _ _ _ _ ep, L1 a (next a) ea (hnex _ (hlknx a ha h2))]; exact o12 a ha h2
  · intro a b ha h2 hab hbn
    by_cases ea : a = x
    · subst ea
      rw [upd_other _ _ _ _ hxp, hxn] at hbn
      by_cases eb : b = a
      · subst eb; rw [L4] at hab; cases hab
      · rw [L2 b eb] at hab; rw [L1 b c eb (Ne.symm hxc')] at hbn
        simp only [Bool.or_eq_true, beq_iff_eq] at hab
        clear L1 L2 L3 L4 K1 K2 o9 o10 o11 o12 o13 o5 hlknx hnex hltx
        grind
    · rw [K1 a ea] at ha
      by_cases ep : a = p
      · subst ep; rw [upd_same] at hbn
        by_cases eb : b = x
        · subst eb; rw [L4] at hbn; cases hbn
        · rw [L1 a b ea eb] at hab; rw [L3 b eb] at hbn
          simp only [Bool.or_eq_true, beq_iff_eq] at hbn
          clear L1 L2 L3 L4 K1 K2 o9 o10 o11 o12 o13 o5 hlknx hnex hltx
          grind
      · rw [upd_other _ _ _ _ ep] at hbn
        have hn := hlknx a ha h2
        have hnx := hnex _ hn
        by_cases eb : b = x
        · subst eb; rw [L3 a ea] at hab; rw [L2 (next a) hnx] at hbn
          simp only [Bool.or_eq_true, beq_iff_eq] at hab hbn
          have t1 := o9 (next a) p hn hp
          have t3 := o13 a p ha h2
          clear L1 L2 L3 L4 K1 K2 o9 o10 o11 o12 o13 o5 hlknx hnex hltx
          grind
        · rw [L1 a b ea eb] at hab; rw [L1 b (next a) eb hnx] at hbn; exact o13 a b ha h2 hab hbn
  · have : (2 : Nat) ≠ p := Ne.symm hp2
    rw [upd_other _ _ _ _ this]; exact o14

theorem adjOf_posOf {pc : PC} {q : Pos} (h : adjOf pc = some q) : posOf pc = some q := by
  cases pc <;> simp only [adjOf, reduceCtorEq] at h <;> simpa [posOf] using h

theorem adjOf_ppos {pc : PC} {q : Pos} (h : adjOf pc = some q) : ppos pc = some q := by
  cases pc <;> simp only [adjOf, reduceCtorEq] at h <;> simpa [ppos, posOf] using h

theorem lpos_posOf {pc : PC} {q : Pos} (h : lpos pc = some q) : posOf pc = some q := by
  cases pc <;> simp only [lpos, reduceCtorEq] at h <;> first | exact h | simpa [posOf] using h

theorem ppos_posOf {pc : PC} {q : Pos} (h : ppos pc = some q) : posOf pc = some q := by
  cases pc <;> simp only [ppos, reduceCtorEq] at h <;> first | exact h | simpa [posOf] using h

/-- Writing the `next` word of an allocated node keeps the unallocated nodes blank. -/
theorem freshP_next {ncnt : Nat} {next : Nat → Nat} {data : Nat → DW} {mo : Nat → Option Tid}
    (h : FreshP ncnt next data mo) (a v ncnt' : Nat) (ha : a < ncnt') (hc : ncnt ≤ ncnt') :
    FreshP ncnt' (upd next a v) data mo := by
  constructor
  intro b hb
  have := h.fresh b (Nat.le_trans hc hb)
  rw [upd_other _ _ _ _ (by omega : b ≠ a)]
  exact this

/-- Another thread keeps its facts when the stepping thread writes a word of ITS node under construction `n`
    (and, when it stores its pending element there, sets that element's `home`). -/
theorem TInv.frame_priv {s : St} {t t' : Tid} (h : SInv s) (hne : t' ≠ t) (n : Nat)
    (hn : priv (s.pc t) = some n) (nx : Nat → Nat) (dt : Nat → DW) (hm' : Nat → Option Nat) (pcf : Tid → PC)
    (hnx : ∀ b, b ≠ n → nx b = s.next b) (hdt : ∀ b, b ≠ n → dt b = s.data b)
    (hh1 : ∀ x b, s.home x = some b → hm' x = some b)
    (hh2 : ∀ x, pend (s.pc t') = some x → hm' x = s.home x) :
    TInv { s with next := nx, data := dt, home := hm', pc := pcf } t' (s.pc t') := by
  have hq := h.thr t'
  have hnl := ((h.thr t).pcnt n hn).2.2.1
  have lkne : ∀ b, s.lk b = true → b ≠ n := fun b hb e => by rw [e, hnl] at hb; cases hb
  have pne : ∀ m, priv (s.pc t') = some m → m ≠ n := fun m hm e => hne (h.upriv t' t n (e ▸ hm) hn)
  exact hq.frame rfl rfl rfl (Nat.le_refl _) rfl rfl rfl
    (fun q hp => hnx _ (lkne _ (hq.pos q (adjOf_posOf hp)).1))
    (fun m hm => hnx _ (pne m hm))
    (fun q hp => ⟨hdt _ (lkne _ (hq.pos q (lpos_posOf hp)).2.1), rfl⟩)
    (fun q hp => ⟨hdt _ (lkne _ (hq.pos q (ppos_posOf hp)).1), rfl⟩)
    (fun m hm => ⟨hdt _ (pne m hm), rfl⟩)
    (fun x hx => ⟨rfl, rfl, hh2 x hx⟩) (fun _ _ => rfl) hh1 (fun _ h => h) (fun _ _ => rfl)

theorem step_lCtor2 {s : St} {t : Tid} {j : Job} {p : Pos} {n : Nat} (h : SInv s) (hpc : s.pc t = .lCtor2 j p n) :
    SInv { s with data := upd s.data n ⟨some j.e, false⟩, home := upd s.home j.e (some n),
                  pc := upd s.pc t (.lStNext j p n) } := by
  have hT : TInv s t (.lCtor2 j p n) := hpc ▸ h.thr t
  have hown : ∀ b, s.mo b = some t → holds (.lCtor2 j p n) b := fun b hb => hpc ▸ h.own b t hb
  have hn := hT.pcnt n rfl
  have lkne : ∀ b, s.lk b = true → b ≠ n := fun b hb e => by rw [e, hn.2.2.1] at hb; cases hb
  have hpos := hT.pos p rfl
  have hab : ∀ b, (s.data b).p ≠ some j.e := fun b hb => by
    cases hT.phome j.e b rfl (h.elem.ehome b j.e hb)
    rw [hT.pctor n rfl] at hb; cases hb
  have hm : (s.data n).m = false := by
    cases hh : (s.data n).m with
    | false => rfl
    | true => exact absurd hn.2.2.2 ((h.bit n).1 hh)
  have hhome : ∀ x b, s.home x = some b → upd s.home j.e (some n) x = some b := fun x b hx => by
    by_cases e : x = j.e
    · subst e; rw [upd_same]; exact hT.phome j.e b rfl hx
    · rw [upd_other _ _ _ _ e]; exact hx
  exact sinv_build_keep h hpc (Y := .lStNext j p n) rfl h.ord (freshP_data' h.fresh _ _ hn.2.1)
    (elemP_store h.elem _ _ _ hab (hT.pused _ rfl).1 (hT.pused _ rfl).2 ⟨hn.1, hn.2.1⟩)
    (bit_upd_data h.bit _ _ (by rw [hm])) hown (fun _ _ _ hb => hb)
    { hT with
      mcur := fun q e => by
        cases e; exact ⟨(hT.mcur p rfl).1, (upd_other _ _ _ _ (lkne _ hpos.2.1)).trans (hT.mcur p rfl).2⟩
      mprev := fun q e => by
        cases e; exact ⟨(hT.mprev p rfl).1, (upd_other _ _ _ _ (lkne _ hpos.1)).trans (hT.mprev p rfl).2⟩
      pctor := nofun
      pdata := fun m e he => by cases he; exact upd_same _ _ _
      phome := fun e a he hh => by cases he; exact (upd_same _ _ _).symm.trans hh
      nopriv := fun m e hm he => by cases hm; exact (congrArg DW.p (upd_same _ _ _)).symm.trans he
      atn := fun e he hv hm => hhome e _ (hT.atn e he hv hm) }
    (fun t0 h0 => TInv.frame_priv h h0 n (by rw [hpc]; rfl) _ _ _ _ (fun _ _ => rfl)
      (fun b hb => upd_other _ _ _ _ hb) hhome
      (fun x hx => upd_other _ _ _ _ (fun hc => h0 (h.upend t0 t x hx (by rw [hpc, hc]; rfl)))))
    (fun _ e => e) (fun _ e => e)

theorem step_lStNext {s : St} {t : Tid} {j : Job} {p : Pos} {n : Nat} (h : SInv s) (hpc : s.pc t = .lStNext j p n) :
    SInv { s with next := upd s.next n p.cur, pc := upd s.pc t (.lCasNext j p n) } := by
  have hT : TInv s t (.lStNext j p n) := hpc ▸ h.thr t
  have hown : ∀ b, s.mo b = some t → holds (.lStNext j p n) b := fun b hb => hpc ▸ h.own b t hb
  have hn := hT.pcnt n rfl
  have lkne : ∀ b, s.lk b = true → b ≠ n := fun b hb e => by rw [e, hn.2.2.1] at hb; cases hb
  exact sinv_build_keep h hpc (Y := .lCasNext j p n) rfl
    (ordP_next_unlinked h.ord _ _ hn.2.2.1 _ (Nat.le_refl _)) (freshP_next h.fresh _ _ _ hn.2.1 (Nat.le_refl _))
    h.elem h.bit hown (fun _ _ _ hb => hb)
    { hT with
      adj := fun q e => by cases e; exact (upd_other _ _ _ _ (lkne _ (hT.pos p rfl).1)).trans (hT.adj p rfl)
      pnext := fun m c e => by cases e; exact upd_same _ _ _ }
    (fun t0 h0 => TInv.frame_priv h h0 n (by rw [hpc]; rfl) _ _ _ _ (fun b hb => upd_other _ _ _ _ hb)
      (fun _ _ => rfl) (fun _ _ hx => hx) (fun _ _ => rfl))
    (fun _ e => e) (fun _ e => e)

theorem step_lCtor1 {s : St} {t : Tid} {j : Job} {p : Pos} (h : SInv s) (hpc : s.pc t = .lCtor1 j p) :
    SInv { s with next := upd s.next s.ncnt 0, ncnt := s.ncnt + 1, pc := upd s.pc t (.lCtor2 j p s.ncnt) } := by
  have hT : TInv s t (.lCtor1 j p) := hpc ▸ h.thr t
  have hown : ∀ b, s.mo b = some t → holds (.lCtor1 j p) b := fun b hb => hpc ▸ h.own b t hb
  have hf := h.fresh.fresh s.ncnt (Nat.le_refl _)
  have hnl : s.lk s.ncnt = false := by
    cases hh : s.lk s.ncnt with
    | false => rfl
    | true => exact absurd (h.ord.lkcnt _ hh) (Nat.lt_irrefl _)
  have lkne : ∀ b, s.lk b = true → b ≠ s.ncnt := fun b hb e => by rw [e, hnl] at hb; cases hb
  exact sinv_build h (Y := .lCtor2 j p s.ncnt) rfl (ordP_next_unlinked h.ord _ _ hnl _ (Nat.le_succ _))
    (freshP_next h.fresh _ _ _ (Nat.lt_succ_self _) (Nat.le_succ _)) (elemP_cnt h.elem _ (Nat.le_succ _)) h.bit
    hown (fun _ _ _ hb => hb)
    { hT with
      adj := fun q e => by cases e; exact (upd_other _ _ _ _ (lkne _ (hT.pos p rfl).1)).trans (hT.adj p rfl)
      pnext := nofun
      pcnt := fun n e => by cases e; exact ⟨h.ord.cnt, Nat.lt_succ_self _, hnl, hf.2.2⟩
      pctor := fun n e => by cases e; exact congrArg DW.p hf.2.1
      phome := fun e a he hh => absurd (hT.phome e a he hh) nofun
      nopriv := fun n e hn he => by cases hn; exact absurd ((congrArg DW.p hf.2.1).symm.trans he) nofun }
    (fun t0 _ => (h.thr t0).frame rfl rfl rfl (Nat.le_succ _) rfl rfl rfl
      (fun q hp => upd_other _ _ _ _ (lkne _ ((h.thr t0).pos q (adjOf_posOf hp)).1))
      (fun n hn => upd_other _ _ _ _ (Nat.ne_of_lt ((h.thr t0).pcnt n hn).2.1))
      (fun _ _ => ⟨rfl, rfl⟩) (fun _ _ => ⟨rfl, rfl⟩) (fun _ _ => ⟨rfl, rfl⟩) (fun _ _ => ⟨rfl, rfl, rfl⟩)
      (fun _ _ => rfl) (fun _ _ h => h) (fun _ h => h) (fun _ _ => rfl))
    (fun n hn t0 _ hc => by cases hn; exact Nat.lt_irrefl _ ((h.thr t0).pcnt _ hc).2.1)
    (fun e he t0 h0 hc => h0 (h.upend t0 t e hc (by rw [hpc]; exact he)))

theorem ltIns_old {lt : Nat → Nat → Bool} {p c x a b : Nat} (ha : a ≠ x) (hb : b ≠ x) :
    ltIns lt p c x a b = lt a b := by simp [ltIns, ha, hb]

theorem lCasNext_enabled {s : St} {t : Tid} {j : Job} {p : Pos} {n : Nat} (h : SInv s)
    (hpc : s.pc t = .lCasNext j p n) : s.next p.prev = p.cur :=
  (h.thr t).adj p (by rw [hpc]; rfl)

/-- Another thread keeps its facts when the stepping thread links its node `n` between `pr` and `cu`, whose marks
    it holds. -/
theorem TInv.frame_link {s : St} {t t' : Tid} (h : SInv s) (hne : t' ≠ t) (n pr cu : Nat)
    (hn : priv (s.pc t) = some n) (hlp : s.lk pr = true) (hmo : s.mo pr = some t) (pcf : Tid → PC) :
    TInv { s with next := upd s.next pr n, lk := upd s.lk n true, lt := ltIns s.lt pr cu n, pc := pcf }
      t' (s.pc t') := by
  have hq := h.thr t'
  have hnl := ((h.thr t).pcnt n hn).2.2.1
  have lkne : ∀ b, s.lk b = true → b ≠ n := fun b hb e => by rw [e, hnl] at hb; cases hb
  have lkmono : ∀ b, s.lk b = true → upd s.lk n true b = true := fun b hb =>
    (upd_other _ _ _ _ (lkne b hb)).trans hb
  have ltmono : ∀ a b, s.lt a b = true → ltIns s.lt pr cu n a b = true := fun a b hab =>
    (ltIns_old (lkne a (h.ord.ltlk a b hab).1) (lkne b (h.ord.ltlk a b hab).2)).trans hab
  exact ⟨{ hq.toWInv with
      wprev := fun a ha => ⟨lkmono a (hq.wprev a ha).1, (hq.wprev a ha).2⟩
      wcur := fun a b hab => ⟨lkmono b (hq.wcur a b hab).1, ltmono a b (hq.wcur a b hab).2⟩
      pos := fun q hp => ⟨lkmono _ (hq.pos q hp).1, lkmono _ (hq.pos q hp).2.1, ltmono _ _ (hq.pos q hp).2.2⟩
      -- `t'` does not hold the mark of `pr`
      adj := fun q hp => (upd_other _ _ _ _ (fun (e : q.prev = pr) => hne (Option.some.inj
        ((hq.mprev q (adjOf_ppos hp)).1.symm.trans (e ▸ hmo))))).trans (hq.adj q hp)
      cnode := fun a ha => lkmono a (hq.cnode a ha)
      pcnt := fun m hm =>
        ⟨(hq.pcnt m hm).1, (hq.pcnt m hm).2.1,
          (upd_other _ _ _ _ (fun (e : m = n) => hne (h.upriv t' t n (e ▸ hm) hn))).trans (hq.pcnt m hm).2.2.1,
          (hq.pcnt m hm).2.2.2⟩
      pnext := fun m c hm => (upd_other _ _ _ _ (fun e => by
        have := (hq.pcnt m (readyOf_priv hm)).2.2.1
        rw [e, hlp] at this; cases this)).trans (hq.pnext m c hm) },
    hq.toIInv.frame lkmono rfl rfl rfl rfl (fun _ _ => rfl) (fun _ _ h => h)⟩

theorem step_lCasNext {s : St} {t : Tid} {j : Job} {p : Pos} {n : Nat} (h : SInv s) (hpc : s.pc t = .lCasNext j p n) :
    SInv { s with next := upd s.next p.prev n, lk := upd s.lk n true, lt := ltIns s.lt p.prev p.cur n,
                  pc := upd s.pc t (.lRelPrev j p true) } := by
  have hT : TInv s t (.lCasNext j p n) := hpc ▸ h.thr t
  have hown : ∀ b, s.mo b = some t → holds (.lCasNext j p n) b := fun b hb => hpc ▸ h.own b t hb
  have hn := hT.pcnt n rfl
  have hpos := hT.pos p rfl
  have lkne : ∀ b, s.lk b = true → b ≠ n := fun b hb e => by rw [e, hn.2.2.1] at hb; cases hb
  have lkmono : ∀ b, s.lk b = true → upd s.lk n true b = true := fun b hb =>
    (upd_other _ _ _ _ (lkne b hb)).trans hb
  exact sinv_build_keep h hpc (Y := .lRelPrev j p true) rfl
    (ordP_insert h.ord _ _ _ hpos.1 hpos.2.1 (hT.adj p rfl) (h.ord.ne_tl_of_lt hpos.2.2) hn.2.2.1 hn.2.1 (by omega)
      (hT.pnext n _ rfl))
    (freshP_next h.fresh _ _ _ (h.ord.lkcnt _ hpos.1) (Nat.le_refl _)) h.elem h.bit hown (fun _ _ _ hb => hb)
    { hT with
      wprev := nofun, wcur := nofun, adj := nofun, cnode := nofun, pcnt := nofun, pdata := nofun, pnext := nofun
      pused := nofun, phome := nofun, nopriv := nofun, kctor := nofun
      pos := fun q e => by
        cases e
        exact ⟨lkmono _ hpos.1, lkmono _ hpos.2.1, (ltIns_old (lkne _ hpos.1) (lkne _ hpos.2.1)).trans hpos.2.2⟩
      ilk := lkmono _ hT.ilk }
    (fun t0 h0 => TInv.frame_link h h0 n _ _ (by rw [hpc]; rfl) hpos.1 (hT.mprev p rfl).1 _) nofun nofun

end CdsVerif.Algo.Iterable
