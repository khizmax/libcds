/-
  Inductive invariant of the IterableList machine (`Algo/Iterable/Model.lean`), proved for every interleaving.

  `SInv s` has these groups of clauses.
  * order (`OrdP`): the ghost relation `lt` is a strict total order on the linked nodes (`lk`), the head is its
    least and the tail its greatest element, `next a` is the immediate successor of every linked `a ≠ tail`,
    `tail.next = tail`, every linked node was allocated (`< ncnt`); nodes not yet allocated are blank.
    `lt` only grows: the chain is append-only.
  * marks (`bit`, `own`, `TInv.mcur`, `TInv.mprev`): the mark bit of a data word is set iff the ghost `mo` names the thread that set it; that
    thread is inside `link_data` holding this node as `pos.pCur` or `pos.pPrev`, and while it does the word is
    exactly `pos.pFound|1` resp. `pos.pPrevVal|1`: nobody else can change a marked word.
  * positions (`TInv.wprev` … `TInv.pnext`): the nodes a thread's local variables point to are linked and in chain order; between the
    re-check `pPrev->next == pCur` under both marks and the thread's own CAS on `pPrev->next` the two nodes stay
    adjacent; a node under construction is private (allocated, not linked, referenced by one thread).
  * elements (`ElemP`, `TInv.pused` …, `upend`): an element stored in a node has this node as its `home` (so it is stored in at most one
    node, and never moves: `home` is written once), is not retired; head and tail never hold an element; the
    element of a pending insert/update is owned by exactly one thread, is in no node except that thread's private
    node, and is not retired; disposed ⊆ retired ⊆ used.
  * iterator: `m_pNode` is a linked node; a validated guard (`hv`) holds an element that is not disposed, and
    while the iterator is at rest that element's home is `m_pNode`; outside the window between the hazard store and
    the validating load a non-null guard is validated.
  * keys (`kjob`, `kwalk`, `kpos`, `kctor`, `kupd`): keys of used element ids are immutable, and a thread's
    `insert_position` brackets its key: `key pPrevVal < key < key pFound`, `pFound == null` only for the tail; on the
    new-node path `pPrevVal == null` only for the head; `update` replaces an element of the same key.  (Used for
    `Sorted.lean`: sortedness is preserved by everything except the re-use CAS.)

  Organisation: clauses that do not mention program counters are predicates of the fields they read (`OrdP`,
  `FreshP`, `ElemP`); everything a thread knows at a program counter is the structure `TInv s t pc`, made of what it
  knows about the list (`WInv`) and about its iterator (`IInv`), uniform in `pc` (the program counter enters through
  projection functions only).

  `CInv` (iteration progress, on top of `SInv`): for every element `e` that has been in the list ever since the
  thread's `iter_begin` (`cand`), the number of times `e` was yielded is 1 if the iterator has passed `e`'s node and
  0 otherwise; the yielded candidates are in chain order.
-/
import CdsVerif.Algo.Iterable.Model
namespace CdsVerif.Algo.Iterable
open CdsVerif.Machine CdsVerif.Spec

/-! ### Projections of the program counter -/

/-- The `insert_position` carried by a `find_prev` walk. -/
def Purp.pos : Purp → Option Pos
  | .fprev _ p => some p
  | _ => none

/-- The element of the insert / update a walk belongs to. -/
def Purp.elem : Purp → Option Nat
  | .ins j => some j.e
  | .fprev j _ => some j.e
  | _ => none

theorem Purp.pos_fprev (j : Job) (p : Pos) : (Purp.fprev j p).pos = some p := rfl
theorem Purp.pos_ins (j : Job) : (Purp.ins j).pos = none := rfl
theorem Purp.pos_find : Purp.find.pos = none := rfl
theorem Purp.pos_contains : Purp.contains.pos = none := rfl
theorem Purp.pos_erase : Purp.erase.pos = none := rfl
theorem Purp.elem_fprev (j : Job) (p : Pos) : (Purp.fprev j p).elem = some j.e := rfl
theorem Purp.elem_ins (j : Job) : (Purp.ins j).elem = some j.e := rfl
theorem Purp.elem_find : Purp.find.elem = none := rfl
theorem Purp.elem_contains : Purp.contains.elem = none := rfl
theorem Purp.elem_erase : Purp.erase.elem = none := rfl

/-- The insert / update a walk belongs to. -/
def Purp.job : Purp → Option Job
  | .ins j => some j
  | .fprev j _ => some j
  | _ => none

theorem Purp.job_fprev (j : Job) (p : Pos) : (Purp.fprev j p).job = some j := rfl
theorem Purp.job_ins (j : Job) : (Purp.ins j).job = some j := rfl
theorem Purp.job_find : Purp.find.job = none := rfl
theorem Purp.job_contains : Purp.contains.job = none := rfl
theorem Purp.job_erase : Purp.erase.job = none := rfl

/-- The insert / update a program counter belongs to. -/
def jobOf : PC → Option Job
  | .wHead j => some j
  | .wNext pu _ _ _ => pu.job
  | .wTail pu _ _ _ _ => pu.job
  | .wLd1 pu _ _ _ _ => pu.job
  | .wLd2 pu _ _ _ _ _ => pu.job
  | .updCas j _ _ => some j
  | .lMarkCur j _ => some j
  | .lMarkPrev j _ => some j
  | .lChkNext j _ => some j
  | .lReuse j _ => some j
  | .lCtor1 j _ => some j
  | .lCtor2 j _ _ => some j
  | .lStNext j _ _ => some j
  | .lCasNext j _ _ => some j
  | .lRelPrev j _ _ => some j
  | .lRelCur j _ _ => some j
  | _ => none

/-- The key a walk searches for, and the value it protected in `pPrev`. -/
def walkKV : PC → Option (Int × Option Nat)
  | .wNext _ k _ pv => some (k, pv)
  | .wTail _ k _ pv _ => some (k, pv)
  | .wLd1 _ k _ pv _ => some (k, pv)
  | .wLd2 _ k _ pv _ _ => some (k, pv)
  | _ => none

/-- The `insert_position` of a thread on the new-node path of `link_data`. -/
def ctorOf : PC → Option Pos
  | .lCtor1 _ p => some p
  | .lCtor2 _ p _ => some p
  | .lStNext _ p _ => some p
  | .lCasNext _ p _ => some p
  | _ => none

/-- The `insert_position` a thread holds (from the end of `inserting_search` to the end of `link_data`). -/
def posOf : PC → Option Pos
  | .wNext pu _ _ _ => pu.pos
  | .wTail pu _ _ _ _ => pu.pos
  | .wLd1 pu _ _ _ _ => pu.pos
  | .wLd2 pu _ _ _ _ _ => pu.pos
  | .lMarkCur _ p => some p
  | .lMarkPrev _ p => some p
  | .lChkNext _ p => some p
  | .lReuse _ p => some p
  | .lCtor1 _ p => some p
  | .lCtor2 _ p _ => some p
  | .lStNext _ p _ => some p
  | .lCasNext _ p _ => some p
  | .lRelPrev _ p _ => some p
  | .lRelCur _ p _ => some p
  | _ => none

/-- The thread holds the mark on `pos.pCur->data`. -/
def lpos : PC → Option Pos
  | .lMarkCur _ _ => none
  | pc => posOf pc

/-- The thread holds the mark on `pos.pPrev->data`. -/
def ppos : PC → Option Pos
  | .lMarkCur _ _ => none
  | .lMarkPrev _ _ => none
  | .lRelCur _ _ _ => none
  | pc => posOf pc

/-- `pPrev->next == pCur` has been re-checked under both marks and the thread has not yet linked its node. -/
def adjOf : PC → Option Pos
  | .wNext pu _ _ _ => pu.pos
  | .wTail pu _ _ _ _ => pu.pos
  | .wLd1 pu _ _ _ _ => pu.pos
  | .wLd2 pu _ _ _ _ _ => pu.pos
  | .lReuse _ p => some p
  | .lCtor1 _ p => some p
  | .lCtor2 _ p _ => some p
  | .lStNext _ p _ => some p
  | .lCasNext _ p _ => some p
  | _ => none

/-- The node under construction. -/
def priv : PC → Option Nat
  | .lCtor2 _ _ n => some n
  | .lStNext _ _ n => some n
  | .lCasNext _ _ n => some n
  | _ => none

/-- The element of a pending insert / update: owned by the thread, not yet in the list. -/
def pend : PC → Option Nat
  | .wHead j => some j.e
  | .wNext pu _ _ _ => pu.elem
  | .wTail pu _ _ _ _ => pu.elem
  | .wLd1 pu _ _ _ _ => pu.elem
  | .wLd2 pu _ _ _ _ _ => pu.elem
  | .updCas j _ _ => some j.e
  | .lMarkCur j _ => some j.e
  | .lMarkPrev j _ => some j.e
  | .lChkNext j _ => some j.e
  | .lReuse j _ => some j.e
  | .lCtor1 j _ => some j.e
  | .lCtor2 j _ _ => some j.e
  | .lStNext j _ _ => some j.e
  | .lCasNext j _ _ => some j.e
  | .lRelPrev j _ ok => if ok then none else some j.e
  | .lRelCur j _ ok => if ok then none else some j.e
  | _ => none

/-- The walk's `pPrev`. -/
def wPrev : PC → Option Nat
  | .wNext _ _ prev _ => some prev
  | .wTail _ _ prev _ _ => some prev
  | .wLd1 _ _ prev _ _ => some prev
  | .wLd2 _ _ prev _ _ _ => some prev
  | _ => none

/-- The walk's `( pPrev, pCur )`. -/
def wCur : PC → Option (Nat × Nat)
  | .wTail _ _ prev _ cur => some (prev, cur)
  | .wLd1 _ _ prev _ cur => some (prev, cur)
  | .wLd2 _ _ prev _ cur _ => some (prev, cur)
  | _ => none

/-- `pCur` is known not to be the tail. -/
def wInner : PC → Option Nat
  | .wLd1 _ _ _ _ cur => some cur
  | .wLd2 _ _ _ _ cur _ => some cur
  | _ => none

/-- The node whose data word `erase` / `update` is about to CAS. -/
def casNode : PC → Option Nat
  | .eraseCas _ cur _ => some cur
  | .updCas _ cur _ => some cur
  | _ => none

/-- Inside the iterator's `protect` loop, between the hazard store and the successful validating load. -/
def unval : PC → Bool
  | .itHp _ => true
  | .itLd2 _ => true
  | _ => false

/-- The iterator is walking (inside `begin()` / `operator++`). -/
def moving : PC → Bool
  | .itLd1 => true
  | .itHp _ => true
  | .itLd2 _ => true
  | .itNext => true
  | .itClr => true
  | _ => false

/-! ### The invariant -/

/-- Chain order (reads `lk`, `lt`, `next`, `ncnt` only). -/
structure OrdP (lk : Nat → Bool) (lt : Nat → Nat → Bool) (next : Nat → Nat) (ncnt : Nat) : Prop where
  hdlk : lk 1 = true
  tllk : lk 2 = true
  nolk : lk 0 = false
  cnt : 3 ≤ ncnt
  lkcnt : ∀ a, lk a = true → a < ncnt
  ltlk : ∀ a b, lt a b = true → lk a = true ∧ lk b = true
  irr : ∀ a, lt a a = false
  tr : ∀ a b c, lt a b = true → lt b c = true → lt a c = true
  tot : ∀ a b, lk a = true → lk b = true → a ≠ b → lt a b = true ∨ lt b a = true
  first : ∀ a, lk a = true → a ≠ 1 → lt 1 a = true
  last : ∀ a, lk a = true → a ≠ 2 → lt a 2 = true
  nx : ∀ a, lk a = true → a ≠ 2 → lt a (next a) = true
  adj : ∀ a b, lk a = true → a ≠ 2 → lt a b = true → lt b (next a) = true → False
  tnx : next 2 = 2

/-- Nodes not yet allocated are blank. -/
structure FreshP (ncnt : Nat) (next : Nat → Nat) (data : Nat → DW) (mo : Nat → Option Tid) : Prop where
  fresh : ∀ a, ncnt ≤ a → next a = 0 ∧ data a = ⟨none, false⟩ ∧ mo a = none

/-- Elements (reads `data`, `home`, `retired`, `used`, `disposed`, `ncnt`). -/
structure ElemP (data : Nat → DW) (home : Nat → Option Nat) (retired : Nat → Option Tid) (used disposed : Nat → Bool)
    (ncnt : Nat) : Prop where
  ehome : ∀ a e, (data a).p = some e → home e = some a
  live : ∀ a e, (data a).p = some e → retired e = none
  hdnil : (data 1).p = none
  tlnil : (data 2).p = none
  hrng : ∀ e a, home e = some a → used e = true ∧ 3 ≤ a ∧ a < ncnt
  rused : ∀ e, retired e ≠ none → used e = true
  dret : ∀ e, disposed e = true → retired e ≠ none

/-- The `insert_position` of a thread about to re-use `pPrev`. -/
def reuseOf : PC → Option Pos
  | .lReuse _ p => some p
  | _ => none

/-- The node under construction whose data word has not been stored yet. -/
def blankOf : PC → Option Nat
  | .lCtor2 _ _ n => some n
  | _ => none

/-- The node under construction with the element stored in it. -/
def builtOf : PC → Option (Nat × Nat)
  | .lStNext j _ n => some (n, j.e)
  | .lCasNext j _ n => some (n, j.e)
  | _ => none

/-- The node under construction with the successor stored in it. -/
def readyOf : PC → Option (Nat × Nat)
  | .lCasNext _ p n => some (n, p.cur)
  | _ => none

/-- The job and the element `update` is about to replace. -/
def updOf : PC → Option (Job × Nat)
  | .updCas j _ e => some (j, e)
  | _ => none

/-- The element `erase_at` is about to remove. -/
def eaOf : PC → Option Nat
  | .eaCas e => some e
  | _ => none

/-- The word the validating load of the iterator's `protect` compares with. -/
def ld2Of : PC → Option DW
  | .itLd2 w => some w
  | _ => none

def isIdle : PC → Bool
  | .idle => true
  | _ => false

/-- The thread at `pc` holds the mark of node `a`. -/
def holds (pc : PC) (a : Nat) : Prop :=
  (lpos pc).map (·.cur) = some a ∨ (ppos pc).map (·.prev) = some a

/-- What thread `t` at program counter `pc` knows about the list.  The program counter enters through projection
    functions only, so the clauses of two program counters with the same projections are the same propositions up
    to computation. -/
structure WInv (s : St) (t : Tid) (pc : PC) : Prop where
  wprev : ∀ a, wPrev pc = some a → s.lk a = true ∧ a ≠ 2
  wcur : ∀ a b, wCur pc = some (a, b) → s.lk b = true ∧ s.lt a b = true
  winner : ∀ b, wInner pc = some b → b ≠ 2
  pos : ∀ p, posOf pc = some p → s.lk p.prev = true ∧ s.lk p.cur = true ∧ s.lt p.prev p.cur = true
  adj : ∀ p, adjOf pc = some p → s.next p.prev = p.cur
  reuse : ∀ p, reuseOf pc = some p → p.prev ≠ 1 ∧ p.pv = none
  mcur : ∀ p, lpos pc = some p → s.mo p.cur = some t ∧ s.data p.cur = ⟨p.found, true⟩
  mprev : ∀ p, ppos pc = some p → s.mo p.prev = some t ∧ s.data p.prev = ⟨p.pv, true⟩
  cnode : ∀ a, casNode pc = some a → s.lk a = true
  pcnt : ∀ n, priv pc = some n → 3 ≤ n ∧ n < s.ncnt ∧ s.lk n = false ∧ s.mo n = none
  pctor : ∀ n, blankOf pc = some n → (s.data n).p = none
  pdata : ∀ n e, builtOf pc = some (n, e) → s.data n = ⟨some e, false⟩
  pnext : ∀ n c, readyOf pc = some (n, c) → s.next n = c
  pused : ∀ e, pend pc = some e → s.used e = true ∧ s.retired e = none
  phome : ∀ e a, pend pc = some e → s.home e = some a → priv pc = some a
  nopriv : ∀ n e, priv pc = some n → (s.data n).p = some e → pend pc = some e
  -- keys (immutable once the element id is used): what the walk has established about its position
  kjob : ∀ j, jobOf pc = some j → s.used j.e = true ∧ s.key j.e = j.k
  kwalk : ∀ j k pv, jobOf pc = some j → walkKV pc = some (k, pv) →
    k = j.k ∧ ∀ v, pv = some v → s.used v = true ∧ s.key v < j.k
  kpos : ∀ j p, jobOf pc = some j → posOf pc = some p →
    (∀ v, p.pv = some v → s.used v = true ∧ s.key v < j.k) ∧
    (∀ f, p.found = some f → s.used f = true ∧ j.k < s.key f) ∧ (p.found = none → p.cur = 2)
  kctor : ∀ p, ctorOf pc = some p → p.pv = none → p.prev = 1
  kupd : ∀ j e, updOf pc = some (j, e) → s.used e = true ∧ s.key e = j.k

/-- What holds of the iterator of thread `t` at program counter `pc`. -/
structure IInv (s : St) (t : Tid) (pc : PC) : Prop where
  ilk : s.lk (s.itn t) = true
  nt : s.nt ≤ t → s.hp t = none ∧ isIdle pc = true
  safe : ∀ e, s.hp t = some e → s.hv t = true → s.disposed e = false
  atn : ∀ e, s.hp t = some e → s.hv t = true → moving pc = false → s.home e = some (s.itn t)
  ea : ∀ e, eaOf pc = some e → s.hp t = some e ∧ s.hv t = true
  ld2 : ∀ w, ld2Of pc = some w → s.hp t = w.p
  hvok : ∀ e, s.hp t = some e → unval pc = false → s.hv t = true

/-- What holds for thread `t` at program counter `pc`. -/
structure TInv (s : St) (t : Tid) (pc : PC) : Prop extends WInv s t pc, IInv s t pc

structure SInv (s : St) : Prop where
  ord : OrdP s.lk s.lt s.next s.ncnt
  fresh : FreshP s.ncnt s.next s.data s.mo
  elem : ElemP s.data s.home s.retired s.used s.disposed s.ncnt
  bit : ∀ a, (s.data a).m = true ↔ s.mo a ≠ none
  own : ∀ a t, s.mo a = some t → holds (s.pc t) a
  thr : ∀ t, TInv s t (s.pc t)
  upriv : ∀ t t' n, priv (s.pc t) = some n → priv (s.pc t') = some n → t = t'
  upend : ∀ t t' e, pend (s.pc t) = some e → pend (s.pc t') = some e → t = t'

/-! ### Initial state -/

/-- A thread at rest knows nothing about the list. -/
theorem WInv.at_rest {s : St} {t : Tid} {pc : PC} (h : pc = .idle ∨ ∃ r, pc = .done r) : WInv s t pc := by
  rcases h with rfl | ⟨r, rfl⟩ <;>
  exact ⟨nofun, nofun, nofun, nofun, nofun, nofun, nofun, nofun, nofun, nofun, nofun, nofun, nofun, nofun, nofun,
    nofun, nofun, nofun, nofun, nofun, nofun⟩

theorem tinv_idle_init (n : Nat) (t : Tid) : TInv (init n) t .idle :=
  ⟨.at_rest (.inl rfl), ⟨rfl, fun _ => ⟨rfl, rfl⟩, nofun, nofun, nofun, nofun, nofun⟩⟩

theorem sinv_init (n : Nat) : SInv (init n) := by
  refine ⟨?_, ?_, ?_, ?_, ?_, ?_, ?_, ?_⟩
  · constructor <;> simp [init] <;> grind
  · constructor; simp [init]; omega
  · constructor <;> simp [init]
  · simp [init]
  · simp [init]
  · intro t; exact tinv_idle_init n t
  · simp [init, priv]
  · simp [init, pend]

end CdsVerif.Algo.Iterable
