/-
  Preservation of `SInv` (Algo/Iterable/Inv.lean) by every transition of the IterableList machine.

  Method.  Every clause of `SInv` that does not mention program counters reads a few fields only and is a predicate
  of these fields (`OrdP`, `FreshP`, `ElemP`): a step that does not write them keeps the clause by `exact`.  The facts
  of a thread (`TInv`) are uniform in the program counter.  The stepping thread gets its facts at the new program
  counter from those at the old one as a structure update naming the clauses that change (the others agree up to
  evaluation of the projections).  A thread other than the stepping one keeps its facts by `TInv.frame` (the step
  writes nothing this thread reads — which is where mark ownership and privacy of nodes under construction are
  used) resp. `TInv.frame_link` (the one step that grows the chain).  `sinv_build` puts the parts together;
  `sinv_pc_only` and `sinv_mark` are its instances for a step that writes no memory resp. one mark.
-/
import CdsVerif.Algo.Iterable.Inv
namespace CdsVerif.Algo.Iterable
open CdsVerif.Machine CdsVerif.Spec

theorem blankOf_priv {pc : PC} {n : Nat} (h : blankOf pc = some n) : priv pc = some n := by
  cases pc <;> simp only [blankOf, reduceCtorEq] at h <;> exact h

theorem builtOf_priv {pc : PC} {n e : Nat} (h : builtOf pc = some (n, e)) : priv pc = some n := by
  cases pc <;> simp only [builtOf, reduceCtorEq, Option.some.injEq, Prod.mk.injEq] at h <;> exact congrArg some h.1

theorem readyOf_priv {pc : PC} {n c : Nat} (h : readyOf pc = some (n, c)) : priv pc = some n := by
  cases pc <;> simp only [readyOf, reduceCtorEq, Option.some.injEq, Prod.mk.injEq] at h <;> exact congrArg some h.1

/-- Thread `t'` keeps what it knows about the list when the state changes only in places it does not read. -/
theorem WInv.frame {s s' : St} {t' : Tid} {pc' : PC} (h : WInv s t' pc')
    (hlk : s'.lk = s.lk) (hlt : s'.lt = s.lt) (hcnt : s.ncnt ≤ s'.ncnt)
    (hnext : ∀ p, adjOf pc' = some p → s'.next p.prev = s.next p.prev)
    (hnextp : ∀ n, priv pc' = some n → s'.next n = s.next n)
    (hdc : ∀ p, lpos pc' = some p → s'.data p.cur = s.data p.cur ∧ s'.mo p.cur = s.mo p.cur)
    (hdp : ∀ p, ppos pc' = some p → s'.data p.prev = s.data p.prev ∧ s'.mo p.prev = s.mo p.prev)
    (hdn : ∀ n, priv pc' = some n → s'.data n = s.data n ∧ s'.mo n = s.mo n)
    (hel : ∀ e, pend pc' = some e → s'.used e = s.used e ∧ s'.retired e = s.retired e ∧ s'.home e = s.home e)
    (hused : ∀ e, s.used e = true → s'.used e = true)
    (hkey : ∀ e, s.used e = true → s'.key e = s.key e) : WInv s' t' pc' := by
  have key : ∀ {e : Nat} {k : Int}, s.used e = true ∧ s.key e < k → s'.used e = true ∧ s'.key e < k :=
    fun hx => ⟨hused _ hx.1, by rw [hkey _ hx.1]; exact hx.2⟩
  have key' : ∀ {e : Nat} {k : Int}, s.used e = true ∧ k < s.key e → s'.used e = true ∧ k < s'.key e :=
    fun hx => ⟨hused _ hx.1, by rw [hkey _ hx.1]; exact hx.2⟩
  have keyeq : ∀ {e : Nat} {k : Int}, s.used e = true ∧ s.key e = k → s'.used e = true ∧ s'.key e = k :=
    fun hx => ⟨hused _ hx.1, by rw [hkey _ hx.1]; exact hx.2⟩
  exact {
    wprev := fun a ha => by rw [hlk]; exact h.wprev a ha
    wcur := fun a b hab => by rw [hlk, hlt]; exact h.wcur a b hab
    winner := h.winner
    pos := fun p hp => by rw [hlk, hlt]; exact h.pos p hp
    adj := fun p hp => by rw [hnext p hp]; exact h.adj p hp
    reuse := h.reuse
    mcur := fun p hp => by rw [(hdc p hp).1, (hdc p hp).2]; exact h.mcur p hp
    mprev := fun p hp => by rw [(hdp p hp).1, (hdp p hp).2]; exact h.mprev p hp
    cnode := fun a ha => by rw [hlk]; exact h.cnode a ha
    pcnt := fun n hn => by
      rw [hlk, (hdn n hn).2]
      exact ⟨(h.pcnt n hn).1, Nat.lt_of_lt_of_le (h.pcnt n hn).2.1 hcnt, (h.pcnt n hn).2.2⟩
    pctor := fun n hn => by rw [(hdn n (blankOf_priv hn)).1]; exact h.pctor n hn
    pdata := fun n e hn => by rw [(hdn n (builtOf_priv hn)).1]; exact h.pdata n e hn
    pnext := fun n c hn => by rw [hnextp n (readyOf_priv hn)]; exact h.pnext n c hn
    pused := fun e he => by rw [(hel e he).1, (hel e he).2.1]; exact h.pused e he
    phome := fun e a he => by rw [(hel e he).2.2]; exact h.phome e a he
    nopriv := fun n e hn => by rw [(hdn n hn).1]; exact h.nopriv n e hn
    kjob := fun j hj => keyeq (h.kjob j hj)
    kwalk := fun j k pv hj hw => ⟨(h.kwalk j k pv hj hw).1, fun v hv => key ((h.kwalk j k pv hj hw).2 v hv)⟩
    kpos := fun j p hj hp =>
      ⟨fun v hv => key ((h.kpos j p hj hp).1 v hv), fun f hf => key' ((h.kpos j p hj hp).2.1 f hf),
        (h.kpos j p hj hp).2.2⟩
    kctor := h.kctor
    kupd := fun j e hj => keyeq (h.kupd j e hj) }

/-- The iterator of thread `t'` keeps its facts when the state changes only in places it does not read. -/
theorem IInv.frame {s s' : St} {t' : Tid} {pc' : PC} (h : IInv s t' pc')
    (hlk : ∀ a, s.lk a = true → s'.lk a = true) (hnt : s'.nt = s.nt)
    (hitn : s'.itn t' = s.itn t') (hhp : s'.hp t' = s.hp t') (hhv : s'.hv t' = s.hv t')
    (hdis : ∀ e, s.hp t' = some e → s'.disposed e = s.disposed e)
    (hhome : ∀ e a, s.home e = some a → s'.home e = some a) : IInv s' t' pc' where
  ilk := by rw [hitn]; exact hlk _ h.ilk
  nt := by rw [hnt, hhp]; exact h.nt
  safe := fun e => by rw [hhp, hhv]; exact fun he hv => by rw [hdis e he]; exact h.safe e he hv
  atn := fun e => by rw [hhp, hhv, hitn]; exact fun he hv hm => hhome e _ (h.atn e he hv hm)
  ea := fun e he => by rw [hhp, hhv]; exact h.ea e he
  ld2 := fun w hw => by rw [hhp]; exact h.ld2 w hw
  hvok := fun e => by rw [hhp, hhv]; exact h.hvok e

/-- Thread `t'` keeps its facts when the state changes only in places it does not read. -/
theorem TInv.frame {s s' : St} {t' : Tid} {pc' : PC} (h : TInv s t' pc')
    (hlk : s'.lk = s.lk) (hlt : s'.lt = s.lt) (hnt : s'.nt = s.nt) (hcnt : s.ncnt ≤ s'.ncnt)
    (hitn : s'.itn t' = s.itn t') (hhp : s'.hp t' = s.hp t') (hhv : s'.hv t' = s.hv t')
    (hnext : ∀ p, adjOf pc' = some p → s'.next p.prev = s.next p.prev)
    (hnextp : ∀ n, priv pc' = some n → s'.next n = s.next n)
    (hdc : ∀ p, lpos pc' = some p → s'.data p.cur = s.data p.cur ∧ s'.mo p.cur = s.mo p.cur)
    (hdp : ∀ p, ppos pc' = some p → s'.data p.prev = s.data p.prev ∧ s'.mo p.prev = s.mo p.prev)
    (hdn : ∀ n, priv pc' = some n → s'.data n = s.data n ∧ s'.mo n = s.mo n)
    (hel : ∀ e, pend pc' = some e → s'.used e = s.used e ∧ s'.retired e = s.retired e ∧ s'.home e = s.home e)
    (hdis : ∀ e, s.hp t' = some e → s'.disposed e = s.disposed e)
    (hhome : ∀ e a, s.home e = some a → s'.home e = some a)
    (hused : ∀ e, s.used e = true → s'.used e = true)
    (hkey : ∀ e, s.used e = true → s'.key e = s.key e) :
    TInv s' t' pc' :=
  ⟨h.toWInv.frame hlk hlt hcnt hnext hnextp hdc hdp hdn hel hused hkey,
   h.toIInv.frame (fun a ha => by rw [hlk]; exact ha) hnt hitn hhp hhv hdis hhome⟩

/-- Nothing but program counters changed. -/
theorem TInv.same {s s' : St} {t' : Tid} {pc' : PC} (h : TInv s t' pc')
    (e : s' = { s with pc := s'.pc }) : TInv s' t' pc' := by
  rw [e]
  exact h.frame rfl rfl rfl (Nat.le_refl _) rfl rfl rfl (fun _ _ => rfl) (fun _ _ => rfl)
    (fun _ _ => ⟨rfl, rfl⟩) (fun _ _ => ⟨rfl, rfl⟩) (fun _ _ => ⟨rfl, rfl⟩) (fun _ _ => ⟨rfl, rfl, rfl⟩)
    (fun _ _ => rfl) (fun _ _ h => h) (fun _ h => h) (fun _ _ => rfl)

/-- A per-thread resource (`priv`, `pend`) stays exclusive when the stepping thread keeps what it had. -/
theorem uniq_upd_keep {α : Type} (f : PC → Option α) (pc : Tid → PC) (t : Tid) (Y : PC)
    (hu : ∀ t1 t2 n, f (pc t1) = some n → f (pc t2) = some n → t1 = t2)
    (hY : ∀ n, f Y = some n → f (pc t) = some n) :
    ∀ t1 t2 n, f (upd pc t Y t1) = some n → f (upd pc t Y t2) = some n → t1 = t2 :=
  own_upd hu fun t0 h0 n hn hc => h0 (hu t0 t n hc (hY n hn))

/-- Assemble `SInv` of the successor state of a step of thread `t` to program counter `Y`. -/
theorem sinv_build {s s' : St} {t : Tid} {Y : PC} (h : SInv s) (hpc' : s'.pc = upd s.pc t Y)
    (hord : OrdP s'.lk s'.lt s'.next s'.ncnt) (hfresh : FreshP s'.ncnt s'.next s'.data s'.mo)
    (helem : ElemP s'.data s'.home s'.retired s'.used s'.disposed s'.ncnt)
    (hbit : ∀ a, (s'.data a).m = true ↔ s'.mo a ≠ none)
    (hownY : ∀ a, s'.mo a = some t → holds Y a)
    (hownO : ∀ a t0, t0 ≠ t → s'.mo a = some t0 → s.mo a = some t0)
    (hY : TInv s' t Y)
    (hoth : ∀ t0, t0 ≠ t → TInv s' t0 (s.pc t0))
    (hpriv : ∀ n, priv Y = some n → ∀ t0, t0 ≠ t → priv (s.pc t0) ≠ some n)
    (hpend : ∀ e, pend Y = some e → ∀ t0, t0 ≠ t → pend (s.pc t0) ≠ some e) : SInv s' := by
  refine ⟨hord, hfresh, helem, hbit, fun a t0 hm => ?_, hpc' ▸ forall_upd hY hoth,
    hpc' ▸ own_upd h.upriv fun t0 h0 n hn => hpriv n hn t0 h0,
    hpc' ▸ own_upd h.upend fun t0 h0 e he => hpend e he t0 h0⟩
  exact hpc' ▸ forall_upd (T := fun t0 p => ∀ a, s'.mo a = some t0 → holds p a) hownY
    (fun t0 e a hm => h.own a t0 (hownO a t0 e hm)) t0 a hm

/-- `sinv_build` for a step from `X` after which the thread owns (at most) the private node and pending element it
    owned. -/
theorem sinv_build_keep {s s' : St} {t : Tid} {X Y : PC} (h : SInv s) (hpc : s.pc t = X) (hpc' : s'.pc = upd s.pc t Y)
    (hord : OrdP s'.lk s'.lt s'.next s'.ncnt) (hfresh : FreshP s'.ncnt s'.next s'.data s'.mo)
    (helem : ElemP s'.data s'.home s'.retired s'.used s'.disposed s'.ncnt)
    (hbit : ∀ a, (s'.data a).m = true ↔ s'.mo a ≠ none)
    (hownY : ∀ a, s'.mo a = some t → holds Y a)
    (hownO : ∀ a t0, t0 ≠ t → s'.mo a = some t0 → s.mo a = some t0)
    (hY : TInv s' t Y)
    (hoth : ∀ t0, t0 ≠ t → TInv s' t0 (s.pc t0))
    (hpriv : ∀ n, priv Y = some n → priv X = some n)
    (hpend : ∀ e, pend Y = some e → pend X = some e) : SInv s' :=
  sinv_build h hpc' hord hfresh helem hbit hownY hownO hY hoth
    (fun n hn t0 h0 hc => h0 (h.upriv t0 t n hc (hpc ▸ hpriv n hn)))
    (fun e he t0 h0 hc => h0 (h.upend t0 t e hc (hpc ▸ hpend e he)))

/-- A step that changes nothing but the stepping thread's program counter, from `X` to `Y`. -/
theorem sinv_pc_only {s : St} {t : Tid} {X : PC} (h : SInv s) (hpc : s.pc t = X) (Y : PC)
    (hY : TInv s t Y)
    (hholds : ∀ a, holds X a → holds Y a)
    (hpriv : ∀ n, priv Y = some n → priv X = some n)
    (hpend : ∀ e, pend Y = some e → pend X = some e) :
    SInv { s with pc := upd s.pc t Y } :=
  sinv_build_keep h hpc (s' := { s with pc := upd s.pc t Y }) rfl h.ord h.fresh h.elem h.bit
    (fun a hm => hholds a (hpc ▸ h.own a t hm)) (fun _ _ _ hm => hm) (hY.same rfl)
    (fun t0 _ => (h.thr t0).same rfl) hpriv hpend

/-! ### The walk -/

theorem step_wHead {s : St} {t : Tid} {j : Job} (h : SInv s) (hpc : s.pc t = .wHead j) :
    SInv { s with pc := upd s.pc t (.wNext (.ins j) j.k hd (s.data hd).p) } :=
  have hT : TInv s t (.wHead j) := hpc ▸ h.thr t
  sinv_pc_only h hpc _
    { hT with
      wprev := fun a e => by cases e; exact ⟨h.ord.hdlk, by decide⟩
      kwalk := fun j' k pv ej ew => by
        cases ej; cases ew
        exact ⟨rfl, fun v hv => by rw [show (s.data hd).p = none from h.elem.hdnil] at hv; cases hv⟩ }
    (fun _ e => e) (fun _ e => e) (fun _ e => e)

theorem step_wNext {s : St} {t : Tid} {pu : Purp} {k : Int} {prev : Nat} {pv : Option Nat}
    (h : SInv s) (hpc : s.pc t = .wNext pu k prev pv) :
    SInv { s with pc := upd s.pc t (.wTail pu k prev pv (s.next prev)) } :=
  have hT : TInv s t (.wNext pu k prev pv) := hpc ▸ h.thr t
  have hp := hT.wprev prev rfl
  have hlt := h.ord.nx prev hp.1 hp.2
  sinv_pc_only h hpc _ { hT with wcur := fun a b e => by cases e; exact ⟨(h.ord.ltlk _ _ hlt).2, hlt⟩ }
    (fun _ e => e) (fun _ e => e) (fun _ e => e)

theorem step_wLd1 {s : St} {t : Tid} {pu : Purp} {k : Int} {prev cur : Nat} {pv : Option Nat}
    (h : SInv s) (hpc : s.pc t = .wLd1 pu k prev pv cur) :
    SInv { s with pc := upd s.pc t (.wLd2 pu k prev pv cur (s.data cur)) } :=
  have hT : TInv s t (.wLd1 pu k prev pv cur) := hpc ▸ h.thr t
  sinv_pc_only h hpc _ { hT with } (fun _ e => e) (fun _ e => e) (fun _ e => e)

theorem concl_cases (pu : Purp) (k : Int) (prev : Nat) (pv : Option Nat) (cur : Nat) (fnd : Option Nat) (eq : Bool) :
    (∃ r, pu.pos = none ∧ concl pu k prev pv cur fnd eq = .done r) ∨
    (∃ e, pu = .erase ∧ fnd = some e ∧ concl pu k prev pv cur fnd eq = .eraseCas k cur e) ∨
    (∃ j e, pu = .ins j ∧ fnd = some e ∧ eq = true ∧ concl pu k prev pv cur fnd eq = .updCas j cur e) ∨
    (∃ j, pu = .ins j ∧ (∀ e, fnd = some e → eq = false) ∧
      concl pu k prev pv cur fnd eq = .lMarkCur j ⟨prev, cur, fnd, pv⟩) ∨
    (∃ j p, pu = .fprev j p ∧ prev = p.prev ∧ p.prev ≠ hd ∧ p.pv = none ∧ concl pu k prev pv cur fnd eq = .lReuse j p) ∨
    (∃ j p, pu = .fprev j p ∧ prev = p.prev ∧ (p.pv = none → p.prev = hd) ∧
      concl pu k prev pv cur fnd eq = .lCtor1 j p) ∨
    (∃ j p, pu = .fprev j p ∧ concl pu k prev pv cur fnd eq = .lRelPrev j p false) := by
  cases pu with
  | find => left; cases fnd <;> cases eq <;> simp [concl, Purp.pos]
  | contains => left; cases eq <;> simp [concl, Purp.pos]
  | erase =>
    cases fnd with
    | none => left; simp [concl, Purp.pos]
    | some e => cases eq <;> simp [concl, Purp.pos]
  | ins j =>
    cases fnd with
    | none => simp only [concl]; split <;> simp [Purp.pos]
    | some e =>
      cases eq with
      | false => simp only [concl]; split <;> simp [Purp.pos]
      | true => simp only [concl]; split <;> simp [Purp.pos]
  | fprev j p =>
    simp only [concl, proceed]
    split
    · split
      · right; right; right; right; left; exact ⟨j, p, rfl, ‹_›, (‹_ ∧ _›).1, (‹_ ∧ _›).2, rfl⟩
      · right; right; right; right; right; left
        refine ⟨j, p, rfl, ‹_›, ?_, rfl⟩
        intro hpv
        rename_i hnot
        exact Classical.byContradiction fun hne => hnot ⟨hne, hpv⟩
    · right; right; right; right; right; right; exact ⟨j, p, rfl, rfl⟩

theorem proceed_cases (j : Job) (p : Pos) :
    (p.prev ≠ hd ∧ p.pv = none ∧ proceed j p = .lReuse j p) ∨ ((p.pv = none → p.prev = hd) ∧ proceed j p = .lCtor1 j p) := by
  unfold proceed
  split
  · left; exact ⟨(‹_ ∧ _›).1, (‹_ ∧ _›).2, rfl⟩
  · right
    rename_i hnot
    exact ⟨fun hpv => Classical.byContradiction fun hne => hnot ⟨hne, hpv⟩, rfl⟩

/-- A linked node whose `next` points to itself is the tail. -/
theorem self_loop_tail {s : St} (h : SInv s) {a : Nat} (hl : s.lk a = true) (hn : s.next a = a) : a = 2 := by
  cases Nat.decEq a 2 with
  | isTrue e => exact e
  | isFalse e =>
    have := h.ord.nx a hl e
    rw [hn, h.ord.irr] at this; cases this

/-- Walk reached `( prev, cur )` and concludes: what the walk knows carries over to whatever comes next, which holds no
    more marks and owns no more.  `fnd`/`eq` are what the walk saw in `cur`: nothing (`cur` is the tail), or an element
    whose key is `≥ k`. -/
theorem tinv_concl {s : St} {t : Tid} {pu : Purp} {k : Int} {prev cur : Nat} {pv fnd : Option Nat} {eq : Bool}
    (hT : TInv s t (.wTail pu k prev pv cur))
    (hf : ∀ e, fnd = some e → s.used e = true ∧ k ≤ s.key e ∧ (eq = true ↔ s.key e = k))
    (hn : fnd = none → cur = 2) :
    TInv s t (concl pu k prev pv cur fnd eq) ∧
    (∀ a, holds (.wTail pu k prev pv cur) a → holds (concl pu k prev pv cur fnd eq) a) ∧
    (∀ n, priv (concl pu k prev pv cur fnd eq) = some n → priv (.wTail pu k prev pv cur) = some n) ∧
    (∀ e, pend (concl pu k prev pv cur fnd eq) = some e → pend (.wTail pu k prev pv cur) = some e) := by
  have hlk := hT.wprev prev rfl
  have hcur := hT.wcur prev cur rfl
  rcases concl_cases pu k prev pv cur fnd eq with ⟨r, hpn, hc⟩ | ⟨e, rfl, rfl, hc⟩ | ⟨j, e, rfl, rfl, heq, hc⟩ |
    ⟨j, rfl, hneq, hc⟩ | ⟨j, p, rfl, rfl, hp1, hp2, hc⟩ | ⟨j, p, rfl, rfl, hp1, hc⟩ | ⟨j, p, rfl, hc⟩ <;> rw [hc]
  · refine ⟨⟨.at_rest (.inr ⟨r, rfl⟩), { hT.toIInv with }⟩, fun a ha => ?_, nofun, nofun⟩
    rcases ha with ha | ha
    · rw [show lpos (.wTail pu k prev pv cur) = none from hpn] at ha; cases ha
    · rw [show ppos (.wTail pu k prev pv cur) = none from hpn] at ha; cases ha
  · exact ⟨{ hT with wprev := nofun, wcur := nofun, kwalk := nofun, cnode := fun a e => by cases e; exact hcur.1 },
      fun _ e => e, fun _ e => e, fun _ e => e⟩
  · have hk := hT.kwalk j k pv rfl rfl
    have he := hf e rfl
    exact ⟨{ hT with
        wprev := nofun, wcur := nofun, kwalk := nofun, cnode := fun a e => by cases e; exact hcur.1
        kupd := fun j' e' h => by cases h; exact ⟨he.1, (he.2.2.1 heq).trans hk.1⟩ },
      fun _ e => e, fun _ e => e, fun _ e => e⟩
  · have hk := hT.kwalk j k pv rfl rfl
    refine ⟨{ hT with
        wprev := nofun, wcur := nofun, kwalk := nofun, pos := fun p e => by cases e; exact ⟨hlk.1, hcur⟩
        kpos := fun j' p ej ep => by
          cases ej; cases ep
          refine ⟨hk.2, fun f hff => ?_, hn⟩
          have he := hf f hff
          have hne : s.key f ≠ k := fun hh => by rw [hneq f hff] at he; cases he.2.2.2 hh
          exact ⟨he.1, by have := hk.1; have := he.2.1; omega⟩ },
      fun _ e => e, fun _ e => e, fun _ e => e⟩
  · exact ⟨{ hT with wprev := nofun, wcur := nofun, kwalk := nofun, reuse := fun q e => by cases e; exact ⟨hp1, hp2⟩ },
      fun _ e => e, fun _ e => e, fun _ e => e⟩
  · exact ⟨{ hT with wprev := nofun, wcur := nofun, kwalk := nofun, kctor := fun q e => by cases e; exact hp1 },
      fun _ e => e, fun _ e => e, fun _ e => e⟩
  · exact ⟨{ hT with wprev := nofun, wcur := nofun, kwalk := nofun, adj := nofun },
      fun _ e => e, fun _ e => e, fun _ e => e⟩

theorem sinv_concl {s : St} {t : Tid} {pu : Purp} {k : Int} {prev cur : Nat} {pv fnd : Option Nat} {eq : Bool}
    {X : PC} (h : SInv s) (hpc : s.pc t = X)
    (hX : X = .wTail pu k prev pv cur ∨ ∃ w, X = .wLd2 pu k prev pv cur w)
    (hf : ∀ e, fnd = some e → s.used e = true ∧ k ≤ s.key e ∧ (eq = true ↔ s.key e = k))
    (hn : fnd = none → cur = 2) :
    SInv { s with pc := upd s.pc t (concl pu k prev pv cur fnd eq) } := by
  rcases hX with rfl | ⟨w, rfl⟩
  · obtain ⟨h1, h2, h3, h4⟩ := tinv_concl (hpc ▸ h.thr t) hf hn
    exact sinv_pc_only h hpc _ h1 h2 h3 h4
  · have hT : TInv s t (.wLd2 pu k prev pv cur w) := hpc ▸ h.thr t
    obtain ⟨h1, h2, h3, h4⟩ := tinv_concl { hT with winner := nofun } hf hn
    exact sinv_pc_only h hpc _ h1 h2 h3 h4

theorem step_wTail_in {s : St} {t : Tid} {pu : Purp} {k : Int} {prev cur : Nat} {pv : Option Nat}
    (h : SInv s) (hpc : s.pc t = .wTail pu k prev pv cur) (hne : ¬ s.next cur = cur) :
    SInv { s with pc := upd s.pc t (.wLd1 pu k prev pv cur) } :=
  have hT : TInv s t (.wTail pu k prev pv cur) := hpc ▸ h.thr t
  sinv_pc_only h hpc _ { hT with winner := fun b e => by cases e; exact fun e2 => hne (e2 ▸ h.ord.tnx) }
    (fun _ e => e) (fun _ e => e) (fun _ e => e)

theorem step_wLd2_retry {s : St} {t : Tid} {pu : Purp} {k : Int} {prev cur : Nat} {pv : Option Nat} {w : DW}
    (h : SInv s) (hpc : s.pc t = .wLd2 pu k prev pv cur w) :
    SInv { s with pc := upd s.pc t (.wLd2 pu k prev pv cur (s.data cur)) } :=
  have hT : TInv s t (.wLd2 pu k prev pv cur w) := hpc ▸ h.thr t
  sinv_pc_only h hpc _ { hT with } (fun _ e => e) (fun _ e => e) (fun _ e => e)

theorem step_wLd2_on {s : St} {t : Tid} {pu : Purp} {k : Int} {prev cur : Nat} {pv x : Option Nat} {w : DW}
    (h : SInv s) (hpc : s.pc t = .wLd2 pu k prev pv cur w)
    (hx : ∀ v, x = some v → s.used v = true ∧ s.key v < k) :
    SInv { s with pc := upd s.pc t (.wNext pu k cur x) } :=
  have hT : TInv s t (.wLd2 pu k prev pv cur w) := hpc ▸ h.thr t
  sinv_pc_only h hpc _
    { hT with
      wprev := fun a e => by cases e; exact ⟨(hT.wcur prev cur rfl).1, hT.winner cur rfl⟩
      wcur := nofun
      winner := nofun
      kwalk := fun j k' pv' ej ew => by
        cases ew
        have hk := (hT.kwalk j k pv ej rfl).1
        exact ⟨hk, fun v hv => hk ▸ hx v hv⟩ }
    (fun _ e => e) (fun _ e => e) (fun _ e => e)

/-! ### Writes to a data word -/

theorem freshP_data {ncnt : Nat} {next : Nat → Nat} {data : Nat → DW} {mo : Nat → Option Tid}
    (h : FreshP ncnt next data mo) (a : Nat) (w : DW) (m : Option Tid) (ha : a < ncnt) :
    FreshP ncnt next (upd data a w) (upd mo a m) := by
  constructor
  intro b hb
  have := h.fresh b hb
  have hne : b ≠ a := by omega
  simp only [upd_other _ _ _ _ hne]
  exact this

theorem bit_upd {data : Nat → DW} {mo : Nat → Option Tid} (h : ∀ a, (data a).m = true ↔ mo a ≠ none)
    (a : Nat) (w : DW) (m : Option Tid) (hw : w.m = true ↔ m ≠ none) :
    ∀ b, ((upd data a w) b).m = true ↔ (upd mo a m) b ≠ none := by
  intro b
  by_cases e : b = a
  · subst e; simp only [upd_same]; exact hw
  · simp only [upd_other _ _ _ _ e]; exact h b

/-- Setting or clearing the mark bit (the pointer part is unchanged). -/
theorem elemP_mark {data : Nat → DW} {home : Nat → Option Nat} {retired : Nat → Option Tid} {used disposed : Nat → Bool}
    {ncnt : Nat} (h : ElemP data home retired used disposed ncnt) (a : Nat) (w : DW) (hw : w.p = (data a).p) :
    ElemP (upd data a w) home retired used disposed ncnt := by
  obtain ⟨e1, e2, e3, e4, e5, e6, e7⟩ := h
  constructor
  · intro b e hb; by_cases hba : b = a
    · subst hba; rw [upd_same, hw] at hb; exact e1 b e hb
    · rw [upd_other _ _ _ _ hba] at hb; exact e1 b e hb
  · intro b e hb; by_cases hba : b = a
    · subst hba; rw [upd_same, hw] at hb; exact e2 b e hb
    · rw [upd_other _ _ _ _ hba] at hb; exact e2 b e hb
  · by_cases hba : 1 = a
    · subst hba; rw [upd_same, hw]; exact e3
    · rw [upd_other _ _ _ _ hba]; exact e3
  · by_cases hba : 2 = a
    · subst hba; rw [upd_same, hw]; exact e4
    · rw [upd_other _ _ _ _ hba]; exact e4
  · exact e5
  · exact e6
  · exact e7

theorem OrdP.ne_of_lt {lk : Nat → Bool} {lt : Nat → Nat → Bool} {next : Nat → Nat} {ncnt : Nat}
    (h : OrdP lk lt next ncnt) {a b : Nat} (hab : lt a b = true) : a ≠ b :=
  fun e => by rw [e, h.irr] at hab; cases hab

/-- Nothing comes after the tail. -/
theorem OrdP.ne_tl_of_lt {lk : Nat → Bool} {lt : Nat → Nat → Bool} {next : Nat → Nat} {ncnt : Nat}
    (h : OrdP lk lt next ncnt) {a b : Nat} (hab : lt a b = true) : a ≠ 2 := by
  intro e
  subst e
  by_cases eb : b = 2
  · exact h.ne_of_lt hab eb.symm
  · exact h.ne_of_lt (h.tr _ _ _ hab (h.last b (h.ltlk _ _ hab).2 eb)) rfl

/-- Another thread keeps its facts when the stepping thread `t` writes the data word (and ghost mark owner) of a
    LINKED node `a` whose mark nobody else holds (and, when it stores its pending element there, sets that element's
    `home`). -/
theorem TInv.frame_data {s : St} {t t' : Tid} (h : SInv s) (hne : t' ≠ t) (a : Nat) (w : DW) (m : Option Tid)
    (hm' : Nat → Option Nat) (pcf : Tid → PC) (hlk : s.lk a = true) (hmo : s.mo a = none ∨ s.mo a = some t)
    (hh1 : ∀ x b, s.home x = some b → hm' x = some b) (hh2 : ∀ x, pend (s.pc t') = some x → hm' x = s.home x) :
    TInv { s with data := upd s.data a w, mo := upd s.mo a m, home := hm', pc := pcf } t' (s.pc t') := by
  have hq := h.thr t'
  have hmine : ∀ b, s.mo b = some t' → b ≠ a := fun b hb e => by
    rw [e] at hb
    rcases hmo with h1 | h1 <;> rw [h1] at hb
    · cases hb
    · exact hne (Option.some.inj hb).symm
  have hpriv : ∀ n, priv (s.pc t') = some n → n ≠ a := fun n hn e => by
    have := (hq.pcnt n hn).2.2.1
    rw [e, hlk] at this; cases this
  exact hq.frame rfl rfl rfl (Nat.le_refl _) rfl rfl rfl (fun _ _ => rfl) (fun _ _ => rfl)
    (fun p hp => ⟨upd_other _ _ _ _ (hmine _ (hq.mcur p hp).1), upd_other _ _ _ _ (hmine _ (hq.mcur p hp).1)⟩)
    (fun p hp => ⟨upd_other _ _ _ _ (hmine _ (hq.mprev p hp).1), upd_other _ _ _ _ (hmine _ (hq.mprev p hp).1)⟩)
    (fun n hn => ⟨upd_other _ _ _ _ (hpriv n hn), upd_other _ _ _ _ (hpriv n hn)⟩)
    (fun x hx => ⟨rfl, rfl, hh2 x hx⟩) (fun _ _ => rfl) hh1 (fun _ h => h) (fun _ _ => rfl)

/-- Who holds which mark after thread `t` has written the mark owner of node `b`. -/
theorem holds_upd {mo : Nat → Option Tid} {t : Tid} {X Y : PC} {b : Nat} {m : Option Tid}
    (hown : ∀ a, mo a = some t → holds X a) (hb : m = some t → holds Y b)
    (hmono : ∀ a, a ≠ b → holds X a → holds Y a) : ∀ a, upd mo b m a = some t → holds Y a := by
  intro a ha
  by_cases e : a = b
  · subst e; rw [upd_same] at ha; exact hb ha
  · rw [upd_other _ _ _ _ e] at ha; exact hmono a e (hown a ha)

theorem mo_upd_other {mo : Nat → Option Tid} {t : Tid} {b : Nat} {m : Option Tid} (hm : m = none ∨ m = some t) :
    ∀ a t0, t0 ≠ t → upd mo b m a = some t0 → mo a = some t0 := by
  intro a t0 h0 ha
  by_cases e : a = b
  · subst e; rw [upd_same] at ha
    rcases hm with rfl | rfl
    · cases ha
    · exact absurd (Option.some.inj ha).symm h0
  · rw [upd_other _ _ _ _ e] at ha; exact ha

/-- Thread `t` sets (`m = some t`) or clears (`m = none`) the mark of the linked node `a`, which nobody else holds,
    moving from `X` to `Y`; the pointer part of the data word stays. -/
theorem sinv_mark {s : St} {t : Tid} {X Y : PC} {a : Nat} {w : DW} {m : Option Tid} (h : SInv s) (hpc : s.pc t = X)
    (hlk : s.lk a = true) (hmo : s.mo a = none ∨ s.mo a = some t) (hw : w.p = (s.data a).p)
    (hm : (m = none ∧ w.m = false) ∨ (m = some t ∧ w.m = true))
    (hY : TInv { s with data := upd s.data a w, mo := upd s.mo a m, pc := upd s.pc t Y } t Y)
    (ha : m = some t → holds Y a) (hmono : ∀ b, b ≠ a → holds X b → holds Y b)
    (hpriv : ∀ n, priv Y = some n → priv X = some n) (hpend : ∀ e, pend Y = some e → pend X = some e) :
    SInv { s with data := upd s.data a w, mo := upd s.mo a m, pc := upd s.pc t Y } :=
  sinv_build_keep h hpc rfl h.ord (freshP_data h.fresh _ _ _ (h.ord.lkcnt _ hlk)) (elemP_mark h.elem _ _ hw)
    (bit_upd h.bit _ _ _ (by rcases hm with ⟨rfl, e⟩ | ⟨rfl, e⟩ <;> simp [e]))
    (holds_upd (fun b hb => hpc ▸ h.own b t hb) ha hmono)
    (mo_upd_other (hm.elim (fun x => Or.inl x.1) (fun x => Or.inr x.1)))
    hY (fun t0 h0 => TInv.frame_data h h0 _ _ _ _ _ hlk hmo (fun _ _ e => e) (fun _ _ => rfl)) hpriv hpend

theorem step_lMarkCur_ok {s : St} {t : Tid} {j : Job} {p : Pos} (h : SInv s) (hpc : s.pc t = .lMarkCur j p)
    (hd : s.data p.cur = ⟨p.found, false⟩) :
    SInv { s with data := upd s.data p.cur ⟨p.found, true⟩, mo := upd s.mo p.cur (some t),
                  pc := upd s.pc t (.lMarkPrev j p) } :=
  have hT : TInv s t (.lMarkCur j p) := hpc ▸ h.thr t
  have hmo : s.mo p.cur = none := Classical.byContradiction fun hc => by
    have := (h.bit p.cur).2 hc
    rw [hd] at this; cases this
  sinv_mark h hpc (hT.pos p rfl).2.1 (Or.inl hmo) (by rw [hd]) (Or.inr ⟨rfl, rfl⟩)
    { hT with
      mcur := fun q e => by cases e; exact ⟨upd_same _ _ _, upd_same _ _ _⟩
      mprev := nofun, pcnt := nofun, pctor := nofun, pdata := nofun, nopriv := nofun }
    (fun _ => Or.inl rfl) (fun _ _ e => e.elim nofun nofun) (fun _ e => e) (fun _ e => e)

theorem step_lMarkCur_fail {s : St} {t : Tid} {j : Job} {p : Pos} (h : SInv s) (hpc : s.pc t = .lMarkCur j p) :
    SInv { s with pc := upd s.pc t (.wHead j) } :=
  have hT : TInv s t (.lMarkCur j p) := hpc ▸ h.thr t
  sinv_pc_only h hpc _ { hT with pos := nofun, kpos := nofun } (fun _ e => e) (fun _ e => e) (fun _ e => e)

theorem step_lMarkPrev_ok {s : St} {t : Tid} {j : Job} {p : Pos} (h : SInv s) (hpc : s.pc t = .lMarkPrev j p)
    (hd : s.data p.prev = ⟨p.pv, false⟩) :
    SInv { s with data := upd s.data p.prev ⟨p.pv, true⟩, mo := upd s.mo p.prev (some t),
                  pc := upd s.pc t (.lChkNext j p) } :=
  have hT : TInv s t (.lMarkPrev j p) := hpc ▸ h.thr t
  have hne : p.cur ≠ p.prev := (h.ord.ne_of_lt (hT.pos p rfl).2.2).symm
  have hmo : s.mo p.prev = none := Classical.byContradiction fun hc => by
    have := (h.bit p.prev).2 hc
    rw [hd] at this; cases this
  sinv_mark h hpc (hT.pos p rfl).1 (Or.inl hmo) (by rw [hd]) (Or.inr ⟨rfl, rfl⟩)
    { hT with
      mcur := fun q e => by
        cases e; exact ⟨(upd_other _ _ _ _ hne).trans (hT.mcur p rfl).1, (upd_other _ _ _ _ hne).trans (hT.mcur p rfl).2⟩
      mprev := fun q e => by cases e; exact ⟨upd_same _ _ _, upd_same _ _ _⟩
      pcnt := nofun, pctor := nofun, pdata := nofun, nopriv := nofun }
    (fun _ => Or.inr rfl) (fun _ _ e => e.elim Or.inl nofun) (fun _ e => e) (fun _ e => e)

theorem step_lMarkPrev_fail {s : St} {t : Tid} {j : Job} {p : Pos} (h : SInv s) (hpc : s.pc t = .lMarkPrev j p) :
    SInv { s with pc := upd s.pc t (.lRelCur j p false) } :=
  have hT : TInv s t (.lMarkPrev j p) := hpc ▸ h.thr t
  sinv_pc_only h hpc _ { hT with } (fun _ e => e) (fun _ e => e) (fun _ e => e)

theorem step_lChkNext_ok {s : St} {t : Tid} {j : Job} {p : Pos} (h : SInv s) (hpc : s.pc t = .lChkNext j p)
    (hn : s.next p.prev = p.cur) :
    SInv { s with pc := upd s.pc t (if p.pv = none then .wNext (.fprev j p) j.k hd none else proceed j p) } := by
  have hT : TInv s t (.lChkNext j p) := hpc ▸ h.thr t
  split
  · exact sinv_pc_only h hpc _
      { hT with
        wprev := fun a e => by cases e; exact ⟨h.ord.hdlk, by decide⟩
        adj := fun q e => by cases e; exact hn
        kwalk := fun j' k pv ej ew => by cases ej; cases ew; exact ⟨rfl, nofun⟩ }
      (fun _ e => e) (fun _ e => e) (fun _ e => e)
  · rcases proceed_cases j p with ⟨hp1, hp2, hc⟩ | ⟨hp1, hc⟩ <;> rw [hc]
    · exact sinv_pc_only h hpc _
        { hT with adj := fun q e => by cases e; exact hn, reuse := fun q e => by cases e; exact ⟨hp1, hp2⟩ }
        (fun _ e => e) (fun _ e => e) (fun _ e => e)
    · exact sinv_pc_only h hpc _
        { hT with adj := fun q e => by cases e; exact hn, kctor := fun q e => by cases e; exact hp1 }
        (fun _ e => e) (fun _ e => e) (fun _ e => e)

theorem step_lChkNext_fail {s : St} {t : Tid} {j : Job} {p : Pos} (h : SInv s) (hpc : s.pc t = .lChkNext j p) :
    SInv { s with pc := upd s.pc t (.lRelPrev j p false) } :=
  have hT : TInv s t (.lChkNext j p) := hpc ▸ h.thr t
  sinv_pc_only h hpc _ { hT with } (fun _ e => e) (fun _ e => e) (fun _ e => e)

theorem step_lRelPrev {s : St} {t : Tid} {j : Job} {p : Pos} {ok : Bool} (h : SInv s)
    (hpc : s.pc t = .lRelPrev j p ok) :
    SInv { s with data := upd s.data p.prev ⟨p.pv, false⟩, mo := upd s.mo p.prev none,
                  pc := upd s.pc t (.lRelCur j p ok) } :=
  have hT : TInv s t (.lRelPrev j p ok) := hpc ▸ h.thr t
  have hne : p.cur ≠ p.prev := (h.ord.ne_of_lt (hT.pos p rfl).2.2).symm
  sinv_mark h hpc (hT.pos p rfl).1 (Or.inr (hT.mprev p rfl).1) (by rw [(hT.mprev p rfl).2]) (Or.inl ⟨rfl, rfl⟩)
    { hT with
      mcur := fun q e => by
        cases e; exact ⟨(upd_other _ _ _ _ hne).trans (hT.mcur p rfl).1, (upd_other _ _ _ _ hne).trans (hT.mcur p rfl).2⟩
      mprev := nofun, pcnt := nofun, pctor := nofun, pdata := nofun, nopriv := nofun }
    nofun (fun _ hb e => e.elim Or.inl (fun e2 => absurd (Option.some.inj e2).symm hb)) (fun _ e => e) (fun _ e => e)

theorem step_lRelCur {s : St} {t : Tid} {j : Job} {p : Pos} {ok : Bool} (h : SInv s)
    (hpc : s.pc t = .lRelCur j p ok) :
    SInv { s with data := upd s.data p.cur ⟨p.found, false⟩, mo := upd s.mo p.cur none,
                  pc := upd s.pc t (if ok then .done (okRet j) else .wHead j) } := by
  have hT : TInv s t (.lRelCur j p ok) := hpc ▸ h.thr t
  have hlk := (hT.pos p rfl).2.1
  have hm := hT.mcur p rfl
  have hmono : ∀ Y b, b ≠ p.cur → holds (.lRelCur j p ok) b → lpos Y = none → ppos Y = none → holds Y b :=
    fun Y b hb e _ _ => e.elim (fun e2 => absurd (Option.some.inj e2).symm hb) nofun
  cases ok
  · exact sinv_mark (Y := .wHead j) h hpc hlk (Or.inr hm.1) (by rw [hm.2]) (Or.inl ⟨rfl, rfl⟩)
      { hT with
        pos := nofun, kpos := nofun, mcur := nofun, mprev := nofun, pcnt := nofun, pctor := nofun, pdata := nofun
        nopriv := nofun }
      nofun (fun b hb e => hmono _ b hb e rfl rfl) (fun _ e => e) (fun _ e => e)
  · exact sinv_mark (Y := .done (okRet j)) h hpc hlk (Or.inr hm.1) (by rw [hm.2]) (Or.inl ⟨rfl, rfl⟩)
      ⟨.at_rest (.inr ⟨_, rfl⟩), { hT.toIInv with }⟩
      nofun (fun b hb e => hmono _ b hb e rfl rfl) nofun nofun

/-! ### Tactic shorthands for the obligations of `sinv_pc_only` -/

/-- `priv Y ⊆ priv X`, `pend Y ⊆ pend X` by evaluation. -/
macro "keep" hpc:ident : tactic =>
  `(tactic| (rw [$hpc:ident]; intro x hx; first | exact hx | cases hx))

macro "projs" : tactic =>
  `(tactic| simp only [wPrev, wCur, wInner, posOf, lpos, ppos, adjOf, priv, pend, moving, holds, casNode, unval, jobOf, walkKV, ctorOf, Purp.job_fprev, Purp.job_ins, Purp.job_find,
      Purp.job_contains, Purp.job_erase, Purp.pos_fprev,
      Purp.pos_ins, Purp.pos_find, Purp.pos_contains, Purp.pos_erase, Purp.elem_fprev, Purp.elem_ins, Purp.elem_find,
      Purp.elem_contains, Purp.elem_erase, Option.map_some, Option.map_none, Option.some.injEq, reduceCtorEq, false_implies, implies_true,
      forall_const, Prod.mk.injEq, and_imp, forall_eq', forall_eq, forall_apply_eq_imp_iff, false_or, or_false,
      imp_self, PC.wNext.injEq, PC.wTail.injEq, PC.updCas.injEq] at *)

set_option hygiene false in
/-- Unpack the facts of the stepping thread at its current program counter, and the chain order. -/
macro "unpack" h:ident hpc:ident t:ident : tactic =>
  `(tactic| (have ht := ($h).thr $t; rw [$hpc:ident] at ht;
             obtain ⟨a1,a2,a3,a4,a5,a6,a7,a8,a8',a9,a10,a11,a12,a13,a14,a15,a16,a17,a18,a19,a20,a21,a22,a23,a24,a25,a26,a27⟩ := ht;
             obtain ⟨o1,o2,o3,o4,o5,o6,o7,o8,o9,o10,o11,o12,o13,o14⟩ := ($h).ord;
             have hown := fun a => ($h).own a $t; simp only [$hpc:ident] at hown;
             have ehd := ($h).elem.hdnil; have etl := ($h).elem.tlnil))

set_option hygiene false in
/-- Close a goal about the new program counter: first without the (expensive) order axioms, then with them. -/
macro "tfin" : tactic =>
  `(tactic| first
      | (clear o6 o8 o9 o10 o11 o12 o13; grind [hd, tl, upd])
      | grind [hd, tl, upd])

/-- The four obligations of `sinv_pc_only`, by evaluation of the projections. -/
macro "pconly" h:ident hpc:ident : tactic =>
  `(tactic| (apply sinv_pc_only $h
             · constructor <;> intros <;> projs <;> (try tfin)
             · rw [$hpc:ident]; intros; projs <;> (try grind)
             · rw [$hpc:ident]; intros; projs <;> (try grind)
             · rw [$hpc:ident]; intros; projs <;> (try grind)))

end CdsVerif.Algo.Iterable
