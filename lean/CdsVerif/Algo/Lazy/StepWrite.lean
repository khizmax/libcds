/-
  Preservation of the LazyList invariant, and the effect on the abstract map, for the four stores into `m_pNext` words:
  `link_node` (the store into the new node, and the store into `pPred->m_pNext`: linearization point of `insert` /
  inserting `update`) and `unlink_node` (the marking store: linearization point of `erase` / `extract`, which also
  fixes the answer of every `find` / `contains` that waits at the node; and the store into `pPred->m_pNext`: physical
  removal).  Each proves its effect `StepEff` first; that the other threads do not notice follows from it
  (`SInvL.write`).
-/
import CdsVerif.Algo.Lazy.Thread
namespace CdsVerif.Algo.Lazy
open CdsVerif.Machine CdsVerif.Spec CdsVerif.Lin
open CdsVerif.Algo.Michael (Chain insAfter mem_insAfter pairwise_insAfter LPok)

variable {s s' : St} {t : Tid} {ev : Ev} {L : List Nat}

/-- The effect of a store of `t`, at `p` and going to `q`, into the `m_pNext` word of the unmarked node `a` that it
    holds or owns: what is left to show is what happens to the list and to the abstract map. -/
theorem StepEff.store {L' : List Nat} {p q : PC} {a : Nat} {x : Option Nat} (hpc : s.pc t = p)
    (ha : heldP p = some a ∨ heldC p = some a ∨ insNode p = some a) (hm : s.mark a = false)
    (hlp : lpRet s.mark s.key p = none → ∀ r, lpRet s.mark s.key q = some r →
      ∃ op, opOf p = some op ∧ LPok (Has s.mark s.key s.val L) op r (Has s.mark s.key s.val L'))
    (hnolp : (lpRet s.mark s.key p ≠ none ∨ lpRet s.mark s.key q = none) →
      ∀ k v, Has s.mark s.key s.val L' k v ↔ Has s.mark s.key s.val L k v)
    (hkeep : ∀ r, lpRet s.mark s.key p = some r → lpRet s.mark s.key q = some r)
    (hmono : ∀ b, b ∈ L → b ∈ L' ∨ s.mark b = true)
    (hlinked : ∀ n c, atLink p = some (n, c) → n ∈ L' ∧ s.mark n = false)
    (hunl : ∀ b, b ∈ L → b ∉ L' → s.mark b = true ∧ ∃ o p' nx r, p = .eUn o p' b nx r)
    (hgrow : ∀ b, b ∈ L' → b ∈ L ∨ s.mark b = false)
    (hwout : ∀ b, pcWin p = some b → b ∉ L')
    (hop : opOf q = opOf p := by rfl) (hbusy : opOf p ≠ none := by nofun) :
    StepEff s t { s with next := upd s.next a x, succ := upd s.succ a x, pc := upd s.pc t q } L L' := by
  subst hpc
  exact {
    frame := fun u hu => upd_other _ _ _ _ hu
    key := rfl
    cnt := rfl
    lp := fun h0 r h1 => hlp h0 r (by simpa using h1)
    nolp := fun h0 => hnolp (by simpa using h0)
    keep := fun r h0 => by simpa using hkeep r h0
    help := fun u _ h0 r h1 => by rw [h0] at h1; cases h1
    keepo := fun _ _ _ e => e
    op := fun op e => hop ▸ (by simpa using e)
    busy := ⟨fun e => hbusy (e ▸ rfl), by simpa using fun (e : q = .idle) => hbusy (hop ▸ e ▸ rfl)⟩
    mono := fun b e => e.elim (hmono b) Or.inr
    frz := fun b e => ⟨e, upd_other _ _ _ _ (fun eb => by rw [eb, hm] at e; cases e)⟩
    disc := fun b e => by
      have : b = a := by
        rcases e with e | e | e
        · exact eq_of_upd_ne e
        · exact absurd rfl e
        · exact eq_of_upd_ne e
      rw [this]; exact ha
    vdisc := fun _ e => absurd rfl e
    ldisc := fun _ e => absurd rfl e
    linked := fun _ n _ c e => hlinked n c (by rw [e]; rfl)
    marks := fun b e0 e1 => by rw [e0] at e1; cases e1
    unl := hunl
    grow := hgrow
    wout := hwout }

theorem sinvl_step_iSt {o : OpK} {n p c : Nat}
    (h : SInvL s L) (hpc : s.pc t = .iSt o n p c) (hs : step s t = some (s', ev)) : StepOk s t s' L := by
  have hT := hpc ▸ h.thread t
  have hn : n < s.cnt ∧ n ∉ L ∧ s.mark n = false ∧ _ := hT.priv n rfl
  have hpn : p ≠ n := fun e => hn.2.1 (e ▸ hT.unmP_mem rfl)
  simp only [step, hpc] at hs
  simp at hs; obtain ⟨rfl, -⟩ := hs
  rw [upd_eq_self hn.2.2.1]
  have he : StepEff s t
      { s with next := upd s.next n (some c), succ := upd s.succ n (some c), pc := upd s.pc t (.iLk o n p c) } L L :=
    StepEff.store hpc (Or.inr (Or.inr rfl)) hn.2.2.1 nofun (fun _ _ _ => Iff.rfl) nofun (fun _ e => Or.inl e) nofun
      (fun _ e0 e1 => absurd e0 e1) (fun _ e => Or.inl e) nofun
  exact ⟨L, h.write hpc (upd_same _ _ _) he (fun _ e => Or.inl e)
    (h.mem.store hn.1 hn.2.2.1 (Chain.upd hn.2.1 h.chain) h.sorted h.tailIn h.alloc)
    { hT with
      link := fun _ _ e => by cases e; exact (upd_other _ _ _ _ hpn).trans (hT.link p c rfl)
      nlink := fun _ _ e => by cases e; exact ⟨upd_same _ _ _, upd_same _ _ _⟩
      enx := nofun
      eun := nofun }
    (fun _ e => e) (fun _ e => e) (fun _ e => e), he⟩

theorem sinvl_step_iLk {o : OpK} {n p c : Nat}
    (h : SInvL s L) (hpc : s.pc t = .iLk o n p c) (hs : step s t = some (s', ev)) : StepOk s t s' L := by
  have hT := hpc ▸ h.thread t
  have hn : n < s.cnt ∧ n ∉ L ∧ s.mark n = false ∧ s.key n = okey o ∧ s.val n = oval o := hT.priv n rfl
  have hn0 : n ≠ 0 := fun e => hn.2.1 (e ▸ h.zero_mem)
  have hn1 : n ≠ 1 := fun e => hn.2.1 (e ▸ h.tailIn)
  have hprev : p ≠ 1 ∧ (p ∈ L ∨ s.mark p = true) := hT.lkPrev p rfl
  have hcur : c ≠ 0 ∧ (c ∈ L ∨ s.mark c = true) := hT.lkCur c rfl
  have hkprev : p = 0 ∨ s.key p < okey o := hT.keyPrev p rfl
  have hunp : s.mark p = false := hT.unmP p rfl
  have hpL : p ∈ L := hT.unmP_mem rfl
  have hlink : s.succ p = some c := hT.link p c rfl
  have hgt : c = 1 ∨ okey o < s.key c := hT.gt c rfl
  have hnn : s.next n = some c ∧ s.succ n = some c := hT.nlink n c rfl
  have hmem : ∀ a, a ∈ insAfter p n L ↔ (a ∈ L ∨ a = n) := fun a => mem_insAfter hpL
  have hso : (insAfter p n L).Pairwise (LLt s.key) := by
    refine pairwise_insAfter (nx := s.succ) LLt.trans ⟨hprev.1, hn0, ?_⟩ ?_ h.chain h.sorted hpL
    · exact hkprev.imp id fun e => Or.inr (by rw [hn.2.2.2.1]; exact e)
    · intro c' hc'
      obtain rfl : c = c' := Option.some.inj (hlink.symm.trans hc')
      exact ⟨hn1, hcur.1, Or.inr (hgt.imp id fun e => by rw [hn.2.2.2.1]; exact e)⟩
  have hlpok : LPok (Has s.mark s.key s.val L) (gop o) (linkRet o) (Has s.mark s.key s.val (insAfter p n L)) :=
    LPok.link (h.absent hpL hprev.1 hkprev hlink hgt)
      (fun j w => by rw [has_insert hpL hn0 hn1 hn.2.2.1, hn.2.2.2.1, hn.2.2.2.2]) (hT.lop o rfl)
  simp only [step, hpc] at hs
  simp at hs; obtain ⟨rfl, -⟩ := hs
  rw [upd_eq_self hunp]
  have he : StepEff s t
      { s with next := upd s.next p (some n), succ := upd s.succ p (some n),
               pc := upd s.pc t (.unlC o p c (some (linkRet o))) } L (insAfter p n L) :=
    StepEff.store hpc (Or.inl rfl) hunp (fun _ r e => ⟨gop o, rfl, Option.some.inj e ▸ hlpok⟩)
      (fun e => by rcases e with e | e; exact absurd rfl e; cases e) nofun
      (fun a e => Or.inl ((hmem a).mpr (Or.inl e)))
      (fun _ _ e => by cases e; exact ⟨(hmem n).mpr (Or.inr rfl), hn.2.2.1⟩)
      (fun a e0 e1 => absurd ((hmem a).mpr (Or.inl e0)) e1)
      (fun a e => ((hmem a).mp e).imp id fun (e' : a = n) => e' ▸ hn.2.2.1) nofun
  exact ⟨_, h.write hpc (upd_same _ _ _) he (fun a e => ((hmem a).mp e).imp id fun (e' : a = n) => congrArg some e'.symm)
    (h.mem.store (h.alloc p hpL) hunp (Chain.insAfter (hnn.2.trans hlink.symm) h.chain h.nodup hpL hn.2.1) hso
      ((hmem 1).mpr (Or.inl h.tailIn)) (fun a ha => ((hmem a).mp ha).elim (h.alloc a) fun e => e ▸ hn.1))
    { hT with
      priv := nofun
      lkPrev := fun _ e => Option.some.inj e ▸ ⟨hprev.1, Or.inl ((hmem p).mpr (Or.inl hpL))⟩
      lkCur := fun _ e => Option.some.inj e ▸ ⟨hcur.1, hcur.2.imp (fun e' => (hmem c).mpr (Or.inl e')) id⟩
      unmP := nofun
      unmC := nofun
      link := nofun
      nlink := nofun
      enx := nofun
      eun := nofun
      gt := nofun
      lop := nofun }
    nofun (fun _ e => e) (fun _ e => e), he⟩

theorem sinvl_step_eMk {o : OpK} {p c : Nat} {nx : Option Nat}
    (h : SInvL s L) (hpc : s.pc t = .eMk o p c nx) (hs : step s t = some (s', ev)) : StepOk s t s' L := by
  have hT := hpc ▸ h.thread t
  have hprev : p ≠ 1 ∧ (p ∈ L ∨ s.mark p = true) := hT.lkPrev p rfl
  have hcur : c ≠ 0 ∧ (c ∈ L ∨ s.mark c = true) := hT.lkCur c rfl
  have hunc : s.mark c = false := hT.unmC c rfl
  have hunp : s.mark p = false := hT.unmP p rfl
  have hpL : p ∈ L := hT.unmP_mem rfl
  have hcL : c ∈ L := hT.unmC_mem rfl
  have hpc' : p ≠ c := hT.pneq p c rfl rfl
  have heqk : c ≠ 1 ∧ s.key c = okey o := hT.eqk c rfl
  have hhas := has_mark (mark := s.mark) (val := s.val) h.sorted hcL hcur.1 heqk.1
  have hlpok : LPok (Has s.mark s.key s.val L) (gop o) [1, s.val c] (Has (upd s.mark c true) s.key s.val L) :=
    LPok.mark (v := s.val c) ⟨c, hcL, hcur.1, heqk.1, hunc, heqk.2, rfl⟩ (fun j w => by rw [hhas, heqk.2])
      (hT.eop o rfl)
  simp only [step, hpc] at hs
  simp at hs; obtain ⟨rfl, -⟩ := hs
  suffices he : StepEff s t
      { s with next := upd s.next c (some 0), mark := upd s.mark c true,
               pc := upd s.pc t (.eUn o p c nx [1, s.val c]) } L L from
    ⟨L, h.write hpc (upd_same _ _ _) he (fun _ e => Or.inl e)
      { h.mem with
        unalloc := fun a ha =>
          have hne : a ≠ c := Nat.ne_of_gt (Nat.lt_of_lt_of_le (h.alloc c hcL) ha)
          have hu := h.unalloc a ha
          ⟨(upd_other _ _ _ _ hne).trans hu.1, hu.2.1, (upd_other _ _ _ _ hne).trans hu.2.2.1, hu.2.2.2⟩
        mark0 := (upd_other _ _ _ _ (Ne.symm hcur.1)).trans h.mark0
        mark1 := (upd_other _ _ _ _ (Ne.symm heqk.1)).trans h.mark1
        agree := fun a (ha : upd s.mark c true a = false) => by
          have hne : a ≠ c := fun e => by rw [e, upd_same] at ha; cases ha
          rw [upd_other _ _ _ _ hne] at ha
          exact (upd_other _ _ _ _ hne).trans (h.agree a ha)
        back := fun a (ha : upd s.mark c true a = true) => by
          by_cases e : a = c
          · rw [e]; exact upd_same _ _ _
          · rw [upd_other _ _ _ _ e] at ha
            exact (upd_other _ _ _ _ e).trans (h.back a ha) }
      { hT with
        priv := nofun
        lkPrev := fun _ e => Option.some.inj e ▸ ⟨hprev.1, Or.inl hpL⟩
        lkCur := fun _ e => Option.some.inj e ▸ ⟨hcur.1, Or.inl hcL⟩
        unmP := fun _ e => Option.some.inj e ▸ (upd_other _ _ _ _ hpc').trans hunp
        unmC := nofun
        eqk := nofun
        nlink := nofun
        enx := nofun
        eun := fun _ _ e => by
          cases e
          exact ⟨(h.agree c hunc).symm.trans (hT.enx c nx rfl), upd_same _ _ _, hcL⟩
        eop := nofun }
      nofun (fun _ e => e) (fun _ e => e), he⟩
  have hne : ∀ a, s.mark a = true → a ≠ c := fun a e ea => by rw [ea, hunc] at e; cases e
  exact {
    frame := fun u hu => upd_other _ _ _ _ hu
    key := rfl
    cnt := rfl
    lp := fun _ r e => by
      rw [show St.pc _ t = _ from upd_same _ _ _] at e
      exact ⟨gop o, by rw [hpc]; rfl, Option.some.inj e ▸ hlpok⟩
    nolp := fun e => by
      rw [hpc, show St.pc _ t = _ from upd_same _ _ _] at e
      rcases e with e | e
      · exact absurd rfl e
      · cases e
    keep := fun r e => by rw [hpc] at e; cases e
    -- the marking store answers "absent" for the readers that wait at `c` with its key
    help := fun u _ h0 r h1 => by
      obtain ⟨-, e2, rfl, e4⟩ := help_of_mark h0 h1
      have habs : ∀ w, ¬ Has (upd s.mark c true) s.key s.val L (skey (s.pc u)) w := fun w hw =>
        ((hhas _ w).mp (e2 ▸ hw)).2 rfl
      rcases e4 with e4 | e4
      · exact ⟨_, e4, LPok.absent (o := .fnd _) habs (fun _ _ => Iff.rfl) rfl⟩
      · exact ⟨_, e4, LPok.absent (o := .con _) habs (fun _ _ => Iff.rfl) rfl⟩
    keepo := fun _ _ _ e => keep_of_mark e
    op := fun op e => by rw [show St.pc _ t = _ from upd_same _ _ _] at e; rw [hpc]; exact e
    busy := ⟨by rw [hpc]; nofun, by rw [show St.pc _ t = _ from upd_same _ _ _]; nofun⟩
    mono := fun a e => e.imp id upd_true
    frz := fun a e => ⟨upd_true e, upd_other _ _ _ _ (hne a e)⟩
    disc := fun a e => by
      have : a = c := by
        rcases e with e | e | e
        · exact eq_of_upd_ne e
        · exact eq_of_upd_ne e
        · exact absurd rfl e
      rw [this, hpc]; exact Or.inr (Or.inl rfl)
    vdisc := fun _ e => absurd rfl e
    ldisc := fun _ e => absurd rfl e
    linked := fun _ _ _ _ e => by rw [hpc] at e; cases e
    marks := fun a e0 (e1 : upd s.mark c true a = true) => by
      obtain rfl : a = c := eq_of_upd_ne (show upd s.mark c true a ≠ s.mark a by rw [e1, e0]; exact Bool.noConfusion)
      exact ⟨o, p, nx, hpc, upd_same _ _ _, heqk.2, hcL⟩
    unl := fun _ e0 e1 => absurd e0 e1
    grow := fun _ e => Or.inl e
    wout := fun a e => by rw [hpc] at e; cases e }

theorem sinvl_step_eUn {o : OpK} {p c : Nat} {nx : Option Nat} {r : GRet}
    (h : SInvL s L) (hpc : s.pc t = .eUn o p c nx r) (hs : step s t = some (s', ev)) : StepOk s t s' L := by
  have hT := hpc ▸ h.thread t
  have hnd := h.nodup
  have hprev : p ≠ 1 ∧ (p ∈ L ∨ s.mark p = true) := hT.lkPrev p rfl
  have hcur : c ≠ 0 ∧ (c ∈ L ∨ s.mark c = true) := hT.lkCur c rfl
  have hunp : s.mark p = false := hT.unmP p rfl
  have hpL : p ∈ L := hT.unmP_mem rfl
  have hlink : s.succ p = some c := hT.link p c rfl
  have heun : s.succ c = nx ∧ s.mark c = true ∧ c ∈ L := hT.eun c nx rfl
  have hpc' : p ≠ c := hT.pneq p c rfl rfl
  have hc1 : c ≠ 1 := fun e => by have := heun.2.1; rw [e, h.mark1] at this; cases this
  have hmem : ∀ a, a ∈ L.erase c ↔ (a ≠ c ∧ a ∈ L) := fun a => List.Nodup.mem_erase_iff hnd
  simp only [step, hpc] at hs
  simp at hs; obtain ⟨rfl, -⟩ := hs
  rw [upd_eq_self hunp]
  have he : StepEff s t
      { s with next := upd s.next p nx, succ := upd s.succ p nx, pc := upd s.pc t (.unlC o p c (some r)) }
      L (L.erase c) :=
    StepEff.store hpc (Or.inl rfl) hunp nofun (fun _ => has_erase hnd heun.2.1) (fun _ e => e)
      (fun a e => by
        by_cases ea : a = c
        · exact Or.inr (ea ▸ heun.2.1)
        · exact Or.inl ((hmem a).mpr ⟨ea, e⟩))
      nofun
      (fun a e0 e1 => by
        obtain rfl : a = c := Classical.byContradiction fun ea => e1 ((hmem a).mpr ⟨ea, e0⟩)
        exact ⟨heun.2.1, o, p, nx, r, rfl⟩)
      (fun a e => Or.inl ((hmem a).mp e).2)
      (fun a e hc => ((hmem a).mp hc).1 (Option.some.inj e).symm)
  exact ⟨_, h.write hpc (upd_same _ _ _) he (fun a e => Or.inl ((hmem a).mp e).2)
    (h.mem.store (h.alloc p hpL) hunp (by rw [← heun.1]; exact Chain.unlink hlink h.chain hnd hpL)
      (h.sorted.sublist List.erase_sublist) ((hmem 1).mpr ⟨Ne.symm hc1, h.tailIn⟩)
      (fun a ha => h.alloc a ((hmem a).mp ha).2))
    { hT with
      priv := nofun
      lkPrev := fun _ e => Option.some.inj e ▸ ⟨hprev.1, Or.inl ((hmem p).mpr ⟨hpc', hpL⟩)⟩
      lkCur := fun _ e => Option.some.inj e ▸ ⟨hcur.1, Or.inr heun.2.1⟩
      unmP := nofun
      unmC := nofun
      link := nofun
      nlink := nofun
      enx := nofun
      eun := nofun }
    nofun (fun _ e => e) (fun _ e => e), he⟩

end CdsVerif.Algo.Lazy
