/-
  Structural invariant of the LazyList model and the refinement of the abstract map: definitions and the lemmas shared
  by the step proofs (`Thread.lean`: the invariant split by thread and the rule for one step; `Steps.lean`,
  `StepWrite.lean`: the steps); reachability and its consequences are in `Reach.lean`.

  * `Chain s.succ (some 0) L` : following the LOGICAL successors from the head visits exactly `L = 0 :: nodes ++ [1]`.
    ALL linked nodes are on `L`, marked (logically deleted, not yet unlinked) or not.  For an unmarked node the word in
    memory IS the logical successor (`agree`); a marked node's word is the back-link `( head, 1 )` (`back`).
  * `SInvL s L` : `L` is strictly sorted by key (`LLt`: the head is below and the tail above every node), hence
    duplicate-free, and consists of allocated nodes; the sentinels are never marked; a node an inserter still owns
    (`insNode`) is outside `L`, unmarked, carries the key and payload of the operation and is owned by one thread;
    every node a thread refers to (`pcPrev`, `pcCur`) is on `L` or marked: a node that left `L` is marked;
    the key of `pPred` is smaller than the key searched for (`keyPrev`), the key of `pCur` is not (`keyCur`);
    LOCK DISCIPLINE: a lock is held by at most one thread (`mPP`, `mPC`, `mCC`), its word is then set (`lockedP`,
    `lockedC`); what a thread has established under its locks stays true: `pPred` / `pCur` unmarked (`unmP`, `unmC`),
    `pPred → pCur` (`link`), the saved successor of the node being erased (`enx`, `eun`).
  * The abstract map: `Has mark key val L k v` — some unmarked node on `L` carries `(k, v)`.
  * Linearization points: `lpRet` is the result an operation has fixed; for a `find` / `contains` whose `search` has
    stopped at a node `c` with the key it depends on the MEMORY: nothing is fixed while `c` is unmarked, `[0]` as soon
    as `c` is marked — by another thread's marking store, which linearizes these readers right behind its own erase
    (`StepEff.help`).  `StepEff` states what one step does: at a linearization point the abstract map makes exactly
    the `Spec.map` transition of the operation (`LPok`), otherwise it does not change; a fixed result is kept.
-/
import CdsVerif.Algo.Lazy.Model
import CdsVerif.Algo.Michael.Lemmas
namespace CdsVerif.Algo.Lazy
open CdsVerif.Machine CdsVerif.Spec CdsVerif.Lin
open CdsVerif.Algo.Michael (Chain insAfter mem_insAfter pairwise_insAfter LPok mfind_cons mfind_merase mfind_none_of)

/-! ### Key order on nodes: the head (0) is below, the tail (1) above every node -/

def LLt (key : Nat → Int) (a b : Nat) : Prop := a ≠ 1 ∧ b ≠ 0 ∧ (a = 0 ∨ b = 1 ∨ key a < key b)

theorem LLt.trans {key : Nat → Int} (a b c : Nat) (h1 : LLt key a b) (h2 : LLt key b c) : LLt key a c := by
  unfold LLt at *
  refine ⟨h1.1, h2.2.1, ?_⟩
  rcases h1.2.2 with h | h | h
  · exact Or.inl h
  · exact absurd h h2.1
  · rcases h2.2.2 with h' | h' | h'
    · exact absurd h' h1.2.1
    · exact Or.inr (Or.inl h')
    · exact Or.inr (Or.inr (Int.lt_trans h h'))

theorem LLt.irrefl {key : Nat → Int} (a : Nat) : ¬ LLt key a a := by
  unfold LLt
  rintro ⟨h1, h2, h3 | h3 | h3⟩
  · exact h2 h3
  · exact h1 h3
  · exact Int.lt_irrefl _ h3

theorem lsorted_nodup {key : Nat → Int} {L : List Nat} (h : L.Pairwise (LLt key)) : L.Nodup :=
  List.Pairwise.imp (S := fun a b => a ≠ b)
    (fun {a b} hab (e : a = b) => LLt.irrefl a (by rw [← e] at hab; exact hab)) h

/-- Two inner nodes of a sorted list with the same key are the same node. -/
theorem lsorted_inj {key : Nat → Int} : ∀ {L : List Nat}, L.Pairwise (LLt key) → ∀ a b, a ∈ L → b ∈ L →
    a ≠ 0 → a ≠ 1 → b ≠ 0 → b ≠ 1 → key a = key b → a = b
  | [], _, _, _, ha, _, _, _, _, _, _ => by simp at ha
  | c :: L, h, a, b, ha, hb, ha0, ha1, hb0, hb1, hk => by
    have h' := List.pairwise_cons.mp h
    rcases List.mem_cons.mp ha with e1 | m1 <;> rcases List.mem_cons.mp hb with e2 | m2
    · rw [e1, e2]
    · subst e1
      have := h'.1 b m2
      unfold LLt at this
      rcases this.2.2 with h0 | h0 | h0
      · exact absurd h0 ha0
      · exact absurd h0 hb1
      · omega
    · subst e2
      have := h'.1 a m1
      unfold LLt at this
      rcases this.2.2 with h0 | h0 | h0
      · exact absurd h0 hb0
      · exact absurd h0 ha1
      · omega
    · exact lsorted_inj h'.2 a b m1 m2 ha0 ha1 hb0 hb1 hk

/-! ### What a program counter refers to -/

def onode : OpK → Option Nat
  | .ins n _ _ => some n
  | .upd n _ _ _ _ => some n
  | .era _ => none
  | .ext _ => none
  | .fnd _ => none
  | .con _ => none

def oval : OpK → Int
  | .ins _ _ v => v
  | .upd _ _ v _ _ => v
  | .era _ => 0
  | .ext _ => 0
  | .fnd _ => 0
  | .con _ => 0

/-- The node an inserter still owns privately (before the store that links it). -/
def insNode : PC → Option Nat
  | .idle => none
  | .sLd1 o _ => onode o
  | .sLd2 o _ _ _ => onode o
  | .lkP o _ _ => onode o
  | .spP o _ _ => onode o
  | .lkC o _ _ => onode o
  | .spC o _ _ => onode o
  | .v1 o _ _ => onode o
  | .v2 o _ _ => onode o
  | .v3 o _ _ => onode o
  | .iSt _ n _ _ => some n
  | .iLk _ n _ _ => some n
  | .eLd _ _ _ => none
  | .eMk _ _ _ _ => none
  | .eUn _ _ _ _ _ => none
  | .unlC o _ _ r => match r with | none => onode o | some _ => none
  | .unlP o _ r => match r with | none => onode o | some _ => none
  | .fLk _ _ => none
  | .fSp _ _ => none
  | .fChk _ _ => none
  | .fUnl _ _ _ => none
  | .cChk _ _ => none
  | .done _ => none

/-- `pPred` (during `search`: `pPrev`). -/
def pcPrev : PC → Option Nat
  | .idle => none
  | .sLd1 _ p => some p
  | .sLd2 _ p _ _ => some p
  | .lkP _ p _ => some p
  | .spP _ p _ => some p
  | .lkC _ p _ => some p
  | .spC _ p _ => some p
  | .v1 _ p _ => some p
  | .v2 _ p _ => some p
  | .v3 _ p _ => some p
  | .iSt _ _ p _ => some p
  | .iLk _ _ p _ => some p
  | .eLd _ p _ => some p
  | .eMk _ p _ _ => some p
  | .eUn _ p _ _ _ => some p
  | .unlC _ p _ _ => some p
  | .unlP _ p _ => some p
  | .fLk _ _ => none
  | .fSp _ _ => none
  | .fChk _ _ => none
  | .fUnl _ _ _ => none
  | .cChk _ _ => none
  | .done _ => none

/-- `pCur`. -/
def pcCur : PC → Option Nat
  | .idle => none
  | .sLd1 _ _ => none
  | .sLd2 _ _ _ _ => none
  | .lkP _ _ c => some c
  | .spP _ _ c => some c
  | .lkC _ _ c => some c
  | .spC _ _ c => some c
  | .v1 _ _ c => some c
  | .v2 _ _ c => some c
  | .v3 _ _ c => some c
  | .iSt _ _ _ c => some c
  | .iLk _ _ _ c => some c
  | .eLd _ _ c => some c
  | .eMk _ _ c _ => some c
  | .eUn _ _ c _ _ => some c
  | .unlC _ _ c _ => some c
  | .unlP _ _ _ => none
  | .fLk _ c => some c
  | .fSp _ c => some c
  | .fChk _ c => some c
  | .fUnl _ c _ => some c
  | .cChk _ c => some c
  | .done _ => none

/-- The key the operation is about. -/
def skey : PC → Int
  | .idle => 0
  | .sLd1 o _ => okey o
  | .sLd2 o _ _ _ => okey o
  | .lkP o _ _ => okey o
  | .spP o _ _ => okey o
  | .lkC o _ _ => okey o
  | .spC o _ _ => okey o
  | .v1 o _ _ => okey o
  | .v2 o _ _ => okey o
  | .v3 o _ _ => okey o
  | .iSt o _ _ _ => okey o
  | .iLk o _ _ _ => okey o
  | .eLd o _ _ => okey o
  | .eMk o _ _ _ => okey o
  | .eUn o _ _ _ _ => okey o
  | .unlC o _ _ _ => okey o
  | .unlP o _ _ => okey o
  | .fLk k _ => k
  | .fSp k _ => k
  | .fChk k _ => k
  | .fUnl k _ _ => k
  | .cChk k _ => k
  | .done _ => 0

/-- The payload the operation brings. -/
def sval : PC → Int
  | .idle => 0
  | .sLd1 o _ => oval o
  | .sLd2 o _ _ _ => oval o
  | .lkP o _ _ => oval o
  | .spP o _ _ => oval o
  | .lkC o _ _ => oval o
  | .spC o _ _ => oval o
  | .v1 o _ _ => oval o
  | .v2 o _ _ => oval o
  | .v3 o _ _ => oval o
  | .iSt o _ _ _ => oval o
  | .iLk o _ _ _ => oval o
  | .eLd _ _ _ => 0
  | .eMk _ _ _ _ => 0
  | .eUn _ _ _ _ _ => 0
  | .unlC o _ _ _ => oval o
  | .unlP o _ _ => oval o
  | .fLk _ _ => 0
  | .fSp _ _ => 0
  | .fChk _ _ => 0
  | .fUnl _ _ _ => 0
  | .cChk _ _ => 0
  | .done _ => 0

/-- The node whose lock the thread holds as `pPred->m_Lock`. -/
def heldP : PC → Option Nat
  | .idle => none
  | .sLd1 _ _ => none
  | .sLd2 _ _ _ _ => none
  | .lkP _ _ _ => none
  | .spP _ _ _ => none
  | .lkC _ p _ => some p
  | .spC _ p _ => some p
  | .v1 _ p _ => some p
  | .v2 _ p _ => some p
  | .v3 _ p _ => some p
  | .iSt _ _ p _ => some p
  | .iLk _ _ p _ => some p
  | .eLd _ p _ => some p
  | .eMk _ p _ _ => some p
  | .eUn _ p _ _ _ => some p
  | .unlC _ p _ _ => some p
  | .unlP _ p _ => some p
  | .fLk _ _ => none
  | .fSp _ _ => none
  | .fChk _ _ => none
  | .fUnl _ _ _ => none
  | .cChk _ _ => none
  | .done _ => none

/-- The node whose lock the thread holds as `pCur->m_Lock`. -/
def heldC : PC → Option Nat
  | .idle => none
  | .sLd1 _ _ => none
  | .sLd2 _ _ _ _ => none
  | .lkP _ _ _ => none
  | .spP _ _ _ => none
  | .lkC _ _ _ => none
  | .spC _ _ _ => none
  | .v1 _ _ c => some c
  | .v2 _ _ c => some c
  | .v3 _ _ c => some c
  | .iSt _ _ _ c => some c
  | .iLk _ _ _ c => some c
  | .eLd _ _ c => some c
  | .eMk _ _ c _ => some c
  | .eUn _ _ c _ _ => some c
  | .unlC _ _ c _ => some c
  | .unlP _ _ _ => none
  | .fLk _ _ => none
  | .fSp _ _ => none
  | .fChk _ c => some c
  | .fUnl _ c _ => some c
  | .cChk _ _ => none
  | .done _ => none

/-- `pPred` has been seen unmarked under its lock. -/
def knowUnmP : PC → Option Nat
  | .idle => none
  | .sLd1 _ _ => none
  | .sLd2 _ _ _ _ => none
  | .lkP _ _ _ => none
  | .spP _ _ _ => none
  | .lkC _ _ _ => none
  | .spC _ _ _ => none
  | .v1 _ _ _ => none
  | .v2 _ p _ => some p
  | .v3 _ p _ => some p
  | .iSt _ _ p _ => some p
  | .iLk _ _ p _ => some p
  | .eLd _ p _ => some p
  | .eMk _ p _ _ => some p
  | .eUn _ p _ _ _ => some p
  | .unlC _ _ _ _ => none
  | .unlP _ _ _ => none
  | .fLk _ _ => none
  | .fSp _ _ => none
  | .fChk _ _ => none
  | .fUnl _ _ _ => none
  | .cChk _ _ => none
  | .done _ => none

/-- `pCur` has been seen unmarked under its lock (and the thread has not marked it). -/
def knowUnmC : PC → Option Nat
  | .idle => none
  | .sLd1 _ _ => none
  | .sLd2 _ _ _ _ => none
  | .lkP _ _ _ => none
  | .spP _ _ _ => none
  | .lkC _ _ _ => none
  | .spC _ _ _ => none
  | .v1 _ _ _ => none
  | .v2 _ _ _ => none
  | .v3 _ _ c => some c
  | .iSt _ _ _ c => some c
  | .iLk _ _ _ c => some c
  | .eLd _ _ c => some c
  | .eMk _ _ c _ => some c
  | .eUn _ _ _ _ _ => none
  | .unlC _ _ _ _ => none
  | .unlP _ _ _ => none
  | .fLk _ _ => none
  | .fSp _ _ => none
  | .fChk _ _ => none
  | .fUnl _ _ _ => none
  | .cChk _ _ => none
  | .done _ => none

/-- `pPred->m_pNext == pCur` has been seen under the locks. -/
def knowLink : PC → Option (Nat × Nat)
  | .idle => none
  | .sLd1 _ _ => none
  | .sLd2 _ _ _ _ => none
  | .lkP _ _ _ => none
  | .spP _ _ _ => none
  | .lkC _ _ _ => none
  | .spC _ _ _ => none
  | .v1 _ _ _ => none
  | .v2 _ _ _ => none
  | .v3 _ _ _ => none
  | .iSt _ _ p c => some (p, c)
  | .iLk _ _ p c => some (p, c)
  | .eLd _ p c => some (p, c)
  | .eMk _ p c _ => some (p, c)
  | .eUn _ p c _ _ => some (p, c)
  | .unlC _ _ _ _ => none
  | .unlP _ _ _ => none
  | .fLk _ _ => none
  | .fSp _ _ => none
  | .fChk _ _ => none
  | .fUnl _ _ _ => none
  | .cChk _ _ => none
  | .done _ => none

/-- `pCur` of an inserter that is going to link its node: its key is greater. -/
def pcGt : PC → Option Nat
  | .idle => none
  | .sLd1 _ _ => none
  | .sLd2 _ _ _ _ => none
  | .lkP _ _ _ => none
  | .spP _ _ _ => none
  | .lkC _ _ _ => none
  | .spC _ _ _ => none
  | .v1 _ _ _ => none
  | .v2 _ _ _ => none
  | .v3 _ _ _ => none
  | .iSt _ _ _ c => some c
  | .iLk _ _ _ c => some c
  | .eLd _ _ _ => none
  | .eMk _ _ _ _ => none
  | .eUn _ _ _ _ _ => none
  | .unlC _ _ _ _ => none
  | .unlP _ _ _ => none
  | .fLk _ _ => none
  | .fSp _ _ => none
  | .fChk _ _ => none
  | .fUnl _ _ _ => none
  | .cChk _ _ => none
  | .done _ => none

/-- `pCur` of an eraser that is going to mark it: an inner node with the key. -/
def pcEq : PC → Option Nat
  | .idle => none
  | .sLd1 _ _ => none
  | .sLd2 _ _ _ _ => none
  | .lkP _ _ _ => none
  | .spP _ _ _ => none
  | .lkC _ _ _ => none
  | .spC _ _ _ => none
  | .v1 _ _ _ => none
  | .v2 _ _ _ => none
  | .v3 _ _ _ => none
  | .iSt _ _ _ _ => none
  | .iLk _ _ _ _ => none
  | .eLd _ _ c => some c
  | .eMk _ _ c _ => some c
  | .eUn _ _ _ _ _ => none
  | .unlC _ _ _ _ => none
  | .unlP _ _ _ => none
  | .fLk _ _ => none
  | .fSp _ _ => none
  | .fChk _ _ => none
  | .fUnl _ _ _ => none
  | .cChk _ _ => none
  | .done _ => none

/-- `pCur` of a `find` / `contains` whose `search` has returned: not the tail. -/
def pcNT : PC → Option Nat
  | .idle => none
  | .sLd1 _ _ => none
  | .sLd2 _ _ _ _ => none
  | .lkP _ _ _ => none
  | .spP _ _ _ => none
  | .lkC _ _ _ => none
  | .spC _ _ _ => none
  | .v1 _ _ _ => none
  | .v2 _ _ _ => none
  | .v3 _ _ _ => none
  | .iSt _ _ _ _ => none
  | .iLk _ _ _ _ => none
  | .eLd _ _ _ => none
  | .eMk _ _ _ _ => none
  | .eUn _ _ _ _ _ => none
  | .unlC _ _ _ _ => none
  | .unlP _ _ _ => none
  | .fLk _ c => some c
  | .fSp _ c => some c
  | .fChk _ c => some c
  | .fUnl _ _ _ => none
  | .cChk _ c => some c
  | .done _ => none

/-- The operation of a thread that is going to link its node. -/
def pcLinkOp : PC → Option OpK
  | .idle => none
  | .sLd1 _ _ => none
  | .sLd2 _ _ _ _ => none
  | .lkP _ _ _ => none
  | .spP _ _ _ => none
  | .lkC _ _ _ => none
  | .spC _ _ _ => none
  | .v1 _ _ _ => none
  | .v2 _ _ _ => none
  | .v3 _ _ _ => none
  | .iSt o _ _ _ => some o
  | .iLk o _ _ _ => some o
  | .eLd _ _ _ => none
  | .eMk _ _ _ _ => none
  | .eUn _ _ _ _ _ => none
  | .unlC _ _ _ _ => none
  | .unlP _ _ _ => none
  | .fLk _ _ => none
  | .fSp _ _ => none
  | .fChk _ _ => none
  | .fUnl _ _ _ => none
  | .cChk _ _ => none
  | .done _ => none

/-- The operation of a thread that is going to mark `pCur`. -/
def pcEraOp : PC → Option OpK
  | .idle => none
  | .sLd1 _ _ => none
  | .sLd2 _ _ _ _ => none
  | .lkP _ _ _ => none
  | .spP _ _ _ => none
  | .lkC _ _ _ => none
  | .spC _ _ _ => none
  | .v1 _ _ _ => none
  | .v2 _ _ _ => none
  | .v3 _ _ _ => none
  | .iSt _ _ _ _ => none
  | .iLk _ _ _ _ => none
  | .eLd o _ _ => some o
  | .eMk o _ _ _ => some o
  | .eUn _ _ _ _ _ => none
  | .unlC _ _ _ _ => none
  | .unlP _ _ _ => none
  | .fLk _ _ => none
  | .fSp _ _ => none
  | .fChk _ _ => none
  | .fUnl _ _ _ => none
  | .cChk _ _ => none
  | .done _ => none

/-- The node a thread has marked and not yet unlinked (it is between the two stores of `unlink_node`). -/
def pcWin : PC → Option Nat
  | .idle => none
  | .sLd1 _ _ => none
  | .sLd2 _ _ _ _ => none
  | .lkP _ _ _ => none
  | .spP _ _ _ => none
  | .lkC _ _ _ => none
  | .spC _ _ _ => none
  | .v1 _ _ _ => none
  | .v2 _ _ _ => none
  | .v3 _ _ _ => none
  | .iSt _ _ _ _ => none
  | .iLk _ _ _ _ => none
  | .eLd _ _ _ => none
  | .eMk _ _ _ _ => none
  | .eUn _ _ c _ _ => some c
  | .unlC _ _ _ _ => none
  | .unlP _ _ _ => none
  | .fLk _ _ => none
  | .fSp _ _ => none
  | .fChk _ _ => none
  | .fUnl _ _ _ => none
  | .cChk _ _ => none
  | .done _ => none

/-- Operations that link a node: `insert`, and `update` with `bAllowInsert`. -/
def linkOk : OpK → Bool
  | .ins _ _ _ => true
  | .upd _ _ _ allow _ => decide (allow ≠ 0)
  | .era _ => false
  | .ext _ => false
  | .fnd _ => false
  | .con _ => false

/-- Operations that mark a node: `erase`, `extract`. -/
def eraOk : OpK → Bool
  | .ins _ _ _ => false
  | .upd _ _ _ _ _ => false
  | .era _ => true
  | .ext _ => true
  | .fnd _ => false
  | .con _ => false

theorem knowUnmP_held {pc : PC} {p : Nat} (h : knowUnmP pc = some p) : heldP pc = some p := by
  cases pc <;> simp_all [knowUnmP, heldP]
theorem knowUnmC_held {pc : PC} {c : Nat} (h : knowUnmC pc = some c) : heldC pc = some c := by
  cases pc <;> simp_all [knowUnmC, heldC]
theorem knowLink_held {pc : PC} {p c : Nat} (h : knowLink pc = some (p, c)) : heldP pc = some p := by
  cases pc <;> simp_all [knowLink, heldP]
theorem heldP_prev {pc : PC} {p : Nat} (h : heldP pc = some p) : pcPrev pc = some p := by
  cases pc <;> simp_all [pcPrev, heldP]
theorem heldC_cur {pc : PC} {c : Nat} (h : heldC pc = some c) : pcCur pc = some c := by
  cases pc <;> simp_all [pcCur, heldC]

/-! ### The structural invariant -/

structure SInvL (s : St) (L : List Nat) : Prop where
  chain : Chain s.succ (some 0) L
  sorted : L.Pairwise (LLt s.key)
  tailIn : 1 ∈ L
  cnt2 : 2 ≤ s.cnt
  alloc : ∀ a, a ∈ L → a < s.cnt
  unalloc : ∀ a, s.cnt ≤ a → s.next a = none ∧ s.succ a = none ∧ s.mark a = false ∧ s.lock a = false
  mark0 : s.mark 0 = false
  mark1 : s.mark 1 = false
  agree : ∀ a, s.mark a = false → s.next a = s.succ a
  back : ∀ a, s.mark a = true → s.next a = some 0
  priv : ∀ t n, insNode (s.pc t) = some n →
    n < s.cnt ∧ n ∉ L ∧ s.mark n = false ∧ s.key n = skey (s.pc t) ∧ s.val n = sval (s.pc t)
  own : ∀ t1 t2 n, insNode (s.pc t1) = some n → insNode (s.pc t2) = some n → t1 = t2
  lkPrev : ∀ t a, pcPrev (s.pc t) = some a → a ≠ 1 ∧ (a ∈ L ∨ s.mark a = true)
  lkCur : ∀ t a, pcCur (s.pc t) = some a → a ≠ 0 ∧ (a ∈ L ∨ s.mark a = true)
  keyPrev : ∀ t a, pcPrev (s.pc t) = some a → a = 0 ∨ s.key a < skey (s.pc t)
  keyCur : ∀ t a, pcCur (s.pc t) = some a → a = 1 ∨ skey (s.pc t) ≤ s.key a
  pneq : ∀ t p c, pcPrev (s.pc t) = some p → pcCur (s.pc t) = some c → p ≠ c
  nt : ∀ t c, pcNT (s.pc t) = some c → c ≠ 1
  mPP : ∀ t1 t2 a, heldP (s.pc t1) = some a → heldP (s.pc t2) = some a → t1 = t2
  mPC : ∀ t1 t2 a, heldP (s.pc t1) = some a → heldC (s.pc t2) = some a → t1 = t2
  mCC : ∀ t1 t2 a, heldC (s.pc t1) = some a → heldC (s.pc t2) = some a → t1 = t2
  lockedP : ∀ t a, heldP (s.pc t) = some a → s.lock a = true
  lockedC : ∀ t a, heldC (s.pc t) = some a → s.lock a = true
  unmP : ∀ t p, knowUnmP (s.pc t) = some p → s.mark p = false
  unmC : ∀ t c, knowUnmC (s.pc t) = some c → s.mark c = false
  link : ∀ t p c, knowLink (s.pc t) = some (p, c) → s.succ p = some c
  gt : ∀ t c, pcGt (s.pc t) = some c → c = 1 ∨ skey (s.pc t) < s.key c
  eqk : ∀ t c, pcEq (s.pc t) = some c → c ≠ 1 ∧ s.key c = skey (s.pc t)
  nlink : ∀ t o n p c, s.pc t = .iLk o n p c → s.next n = some c ∧ s.succ n = some c
  enx : ∀ t o p c nx, s.pc t = .eMk o p c nx → s.next c = nx
  eun : ∀ t o p c nx r, s.pc t = .eUn o p c nx r → s.succ c = nx ∧ s.mark c = true ∧ c ∈ L
  lop : ∀ t o, pcLinkOp (s.pc t) = some o → linkOk o = true
  eop : ∀ t o, pcEraOp (s.pc t) = some o → eraOk o = true

def SInv (s : St) : Prop := ∃ L, SInvL s L

theorem sinv_init : SInvL init [0, 1] := by
  constructor <;> simp [init, Chain, LLt, insNode, pcPrev, pcCur, pcNT, heldP, heldC, knowUnmP, knowUnmC, knowLink,
    pcGt, pcEq, pcLinkOp, pcEraOp]
  intro a ha
  have h0 : a ≠ 0 := by omega
  simp [h0]

theorem SInvL.unique {s : St} {L1 L2 : List Nat} (h1 : SInvL s L1) (h2 : SInvL s L2) : L1 = L2 :=
  Chain.functional h1.chain h2.chain

theorem SInvL.head_cons {s : St} {L : List Nat} (h : SInvL s L) : ∃ l, L = 0 :: l := by
  have hc := h.chain
  cases L with
  | nil => simp [Chain] at hc
  | cons a r => simp only [Chain, Option.some.injEq] at hc; exact ⟨r, by rw [hc.1]⟩

theorem SInvL.zero_mem {s : St} {L : List Nat} (h : SInvL s L) : 0 ∈ L := by
  obtain ⟨l, rfl⟩ := h.head_cons; simp

theorem SInvL.nodup {s : St} {L : List Nat} (h : SInvL s L) : L.Nodup := lsorted_nodup h.sorted

/-- The logical successor of a linked node is a linked node other than the head. -/
theorem SInvL.succ_mem {s : St} {L : List Nat} (h : SInvL s L) {a b : Nat} (ha : a ∈ L) (hb : s.succ a = some b) :
    b ≠ 0 ∧ b ∈ L := by
  have h1 := Chain.succ_mem h.chain ha hb
  obtain ⟨l, rfl⟩ := h.head_cons
  simp only [List.tail_cons] at h1
  have := (List.pairwise_cons.mp h.sorted).1 b h1
  exact ⟨this.2.1, List.mem_cons_of_mem _ h1⟩

/-- What an unmarked linked node's word in memory points to. -/
theorem SInvL.next_mem {s : St} {L : List Nat} (h : SInvL s L) {a b : Nat} (ha : a ∈ L) (hm : s.mark a = false)
    (hb : s.next a = some b) : b ≠ 0 ∧ b ∈ L ∧ s.succ a = some b := by
  have e := h.agree a hm
  rw [e] at hb
  exact ⟨(h.succ_mem ha hb).1, (h.succ_mem ha hb).2, hb⟩

theorem SInvL.lt_cnt {s : St} {L : List Nat} (h : SInvL s L) {a : Nat} (ha : a ∈ L ∨ s.mark a = true) : a < s.cnt := by
  rcases ha with ha | ha
  · exact h.alloc a ha
  · apply Classical.byContradiction
    intro hn
    have := (h.unalloc a (by omega)).2.2.1
    rw [this] at ha; simp at ha

/-! ### The abstract map -/

/-- Some unmarked inner node on the chain carries `(k, v)`. -/
def Has (mark : Nat → Bool) (key val : Nat → Int) (L : List Nat) (k v : Int) : Prop :=
  ∃ a, a ∈ L ∧ a ≠ 0 ∧ a ≠ 1 ∧ mark a = false ∧ key a = k ∧ val a = v

/-- No inner node on the chain has key `k`, when `k` lies strictly between the key of a chain node `p` and the key
    of the successor of `p`. -/
theorem SInvL.gap {s : St} {L : List Nat} (h : SInvL s L) {p c : Nat} {k : Int} (hp : p ∈ L) (hp1 : p ≠ 1)
    (hpk : p = 0 ∨ s.key p < k) (hpc : s.succ p = some c) (hck : c = 1 ∨ k < s.key c) :
    ∀ a, a ∈ L → a ≠ 0 → a ≠ 1 → s.key a ≠ k := by
  intro a ha ha0 ha1 hk
  rcases Chain.around h.chain h.sorted hp a ha with e | hlt | ⟨c', hc', e | hlt⟩
  · subst e
    rcases hpk with h0 | h0
    · exact ha0 h0
    · omega
  · unfold LLt at hlt
    rcases hlt.2.2 with h0 | h0 | h0
    · exact ha0 h0
    · exact hp1 h0
    · rcases hpk with h1 | h1
      · exact hlt.2.1 h1
      · omega
  · rw [hpc] at hc'; simp at hc'; subst hc'
    subst e
    rcases hck with h0 | h0
    · exact ha1 h0
    · omega
  · rw [hpc] at hc'; simp at hc'; subst hc'
    unfold LLt at hlt
    rcases hlt.2.2 with h0 | h0 | h0
    · exact (h.succ_mem hp hpc).1 h0
    · exact ha1 h0
    · rcases hck with h1 | h1
      · exact hlt.1 h1
      · omega

theorem SInvL.absent {s : St} {L : List Nat} (h : SInvL s L) {p c : Nat} {k : Int} (hp : p ∈ L) (hp1 : p ≠ 1)
    (hpk : p = 0 ∨ s.key p < k) (hpc : s.succ p = some c) (hck : c = 1 ∨ k < s.key c) :
    ∀ w, ¬ Has s.mark s.key s.val L k w := by
  rintro w ⟨a, ha, ha0, ha1, -, hk, -⟩
  exact h.gap hp hp1 hpk hpc hck a ha ha0 ha1 hk

/-- The key of a marked chain node is absent from the abstract map. -/
theorem SInvL.absent_marked {s : St} {L : List Nat} (h : SInvL s L) {c : Nat} (hc : c ∈ L) (hc0 : c ≠ 0) (hc1 : c ≠ 1)
    (hm : s.mark c = true) : ∀ w, ¬ Has s.mark s.key s.val L (s.key c) w := by
  rintro w ⟨a, ha, ha0, ha1, hma, hk, -⟩
  have := lsorted_inj h.sorted a c ha hc ha0 ha1 hc0 hc1 hk
  subst this
  rw [hm] at hma; simp at hma

/-- Unlinking a marked node does not change the abstract map. -/
theorem has_erase {mark : Nat → Bool} {key val : Nat → Int} {L : List Nat} {c : Nat} (hnd : L.Nodup)
    (hm : mark c = true) (k v : Int) : Has mark key val (L.erase c) k v ↔ Has mark key val L k v := by
  unfold Has
  constructor
  · rintro ⟨a, ha, h⟩
    exact ⟨a, (List.Nodup.mem_erase_iff hnd).mp ha |>.2, h⟩
  · rintro ⟨a, ha, h0, h1, h2, h3⟩
    refine ⟨a, (List.Nodup.mem_erase_iff hnd).mpr ⟨?_, ha⟩, h0, h1, h2, h3⟩
    intro e; rw [e, hm] at h2; simp at h2

/-- Linking an unmarked node adds its pair to the abstract map. -/
theorem has_insert {mark : Nat → Bool} {key val : Nat → Int} {L : List Nat} {p n : Nat} (hp : p ∈ L)
    (hn0 : n ≠ 0) (hn1 : n ≠ 1) (hnm : mark n = false) (j w : Int) :
    Has mark key val (insAfter p n L) j w ↔ (Has mark key val L j w ∨ (j = key n ∧ w = val n)) := by
  unfold Has
  constructor
  · rintro ⟨a, ha, h0, h1, h2, h3, h4⟩
    rcases (mem_insAfter hp).mp ha with hm | e
    · exact Or.inl ⟨a, hm, h0, h1, h2, h3, h4⟩
    · subst e; exact Or.inr ⟨h3.symm, h4.symm⟩
  · rintro (⟨a, ha, h⟩ | ⟨e1, e2⟩)
    · exact ⟨a, (mem_insAfter hp).mpr (Or.inl ha), h⟩
    · exact ⟨n, (mem_insAfter hp).mpr (Or.inr rfl), hn0, hn1, hnm, e1.symm, e2.symm⟩

/-- Marking a chain node removes its key from the abstract map. -/
theorem has_mark {mark : Nat → Bool} {key val : Nat → Int} {L : List Nat} {c : Nat} (hso : L.Pairwise (LLt key))
    (hc : c ∈ L) (hc0 : c ≠ 0) (hc1 : c ≠ 1) (j w : Int) :
    Has (upd mark c true) key val L j w ↔ (Has mark key val L j w ∧ j ≠ key c) := by
  unfold Has
  constructor
  · rintro ⟨a, ha, h0, h1, h2, h3, h4⟩
    have hac : a ≠ c := by intro e; rw [e] at h2; simp [upd] at h2
    rw [upd_other _ _ _ _ hac] at h2
    refine ⟨⟨a, ha, h0, h1, h2, h3, h4⟩, ?_⟩
    intro e
    exact hac (lsorted_inj hso a c ha hc h0 h1 hc0 hc1 (h3.trans e))
  · rintro ⟨⟨a, ha, h0, h1, h2, h3, h4⟩, hne⟩
    have hac : a ≠ c := by intro e; rw [e] at h3; exact hne h3.symm
    exact ⟨a, ha, h0, h1, by rw [upd_other _ _ _ _ hac]; exact h2, h3, h4⟩

/-- Writing the payload of an unmarked chain node replaces the payload of its key in the abstract map. -/
theorem has_setval {mark : Nat → Bool} {key val : Nat → Int} {L : List Nat} {c : Nat} {v : Int}
    (hso : L.Pairwise (LLt key)) (hc : c ∈ L) (hc0 : c ≠ 0) (hc1 : c ≠ 1) (hm : mark c = false) (j w : Int) :
    Has mark key (upd val c v) L j w ↔ ((j = key c ∧ w = v) ∨ (j ≠ key c ∧ Has mark key val L j w)) := by
  unfold Has
  constructor
  · rintro ⟨a, ha, h0, h1, h2, h3, h4⟩
    by_cases e : a = c
    · subst e; simp [upd] at h4; exact Or.inl ⟨h3.symm, h4.symm⟩
    · rw [upd_other _ _ _ _ e] at h4
      refine Or.inr ⟨?_, a, ha, h0, h1, h2, h3, h4⟩
      intro e'
      exact e (lsorted_inj hso a c ha hc h0 h1 hc0 hc1 (h3.trans e'))
  · rintro (⟨e1, e2⟩ | ⟨hne, a, ha, h0, h1, h2, h3, h4⟩)
    · exact ⟨c, hc, hc0, hc1, hm, e1.symm, by simp [upd, e2]⟩
    · have hac : a ≠ c := by intro e; rw [e] at h3; exact hne h3.symm
      exact ⟨a, ha, h0, h1, h2, h3, by rw [upd_other _ _ _ _ hac]; exact h4⟩

/-! ### The sequential specification: the operations of the model -/

def gop : OpK → GOp
  | .ins _ k v => ⟨"insert", [k, v]⟩
  | .upd _ k v allow repl => ⟨if repl then "update" else "upsert_keep", [k, v, allow]⟩
  | .era k => ⟨"erase", [k]⟩
  | .ext k => ⟨"extract", [k]⟩
  | .fnd k => ⟨"find", [k]⟩
  | .con k => ⟨"contains", [k]⟩

/-- Result of an operation that finds its key in the unmarked node `c` and does not change the map. -/
def foundRet (val : Nat → Int) (o : OpK) (c : Nat) : Option GRet :=
  match o with
  | .ins _ _ _ => some [0]
  | .upd _ _ _ _ false => some [1, 0]
  | .upd _ _ _ _ true => none
  | .era _ => none
  | .ext _ => none
  | .fnd _ => some [1, val c]
  | .con _ => some [1]

/-- Result of an operation that finds its key absent and does not change the map. -/
def absentRet (o : OpK) : Option GRet :=
  match o with
  | .ins _ _ _ => none
  | .upd _ _ _ allow _ => if allow = 0 then some [0, 0] else none
  | .era _ => some [0]
  | .ext _ => some [0]
  | .fnd _ => some [0]
  | .con _ => some [0]

theorem LPok.absent {H H' : Int → Int → Prop} {o : OpK} {r : GRet} (h0 : ∀ w, ¬ H (okey o) w)
    (h1 : ∀ j w, H' j w ↔ H j w) (hr : absentRet o = some r) : LPok H (gop o) r H' := by
  intro m hm
  have hn := mfind_none_of hm h0
  refine ⟨m, ?_, fun j w => by rw [h1, hm]⟩
  cases o with
  | ins n k v => simp [absentRet] at hr
  | upd n k v allow repl =>
    simp only [absentRet] at hr
    split at hr
    next ha =>
      simp at hr; subst hr
      cases repl <;> simp [gop, okey, Spec.map, detSpec, mapStep, ha] at hn ⊢ <;> simp [hn]
    next => simp at hr
  | era k => simp [absentRet] at hr; subst hr; simp [gop, okey, Spec.map, detSpec, mapStep] at hn ⊢; simp [hn]
  | ext k => simp [absentRet] at hr; subst hr; simp [gop, okey, Spec.map, detSpec, mapStep] at hn ⊢; simp [hn]
  | fnd k => simp [absentRet] at hr; subst hr; simp [gop, okey, Spec.map, detSpec, mapStep] at hn ⊢; simp [hn]
  | con k => simp [absentRet] at hr; subst hr; simp [gop, okey, Spec.map, detSpec, mapStep] at hn ⊢; simp [hn]

theorem LPok.present {H H' : Int → Int → Prop} {val : Nat → Int} {o : OpK} {c : Nat} {r : GRet}
    (h0 : H (okey o) (val c)) (h1 : ∀ j w, H' j w ↔ H j w) (hr : foundRet val o c = some r) :
    LPok H (gop o) r H' := by
  intro m hm
  have hs := (hm _ _).mpr h0
  refine ⟨m, ?_, fun j w => by rw [h1, hm]⟩
  cases o with
  | ins n k v => simp [foundRet] at hr; subst hr; simp [gop, okey, Spec.map, detSpec, mapStep] at hs ⊢; simp [hs]
  | upd n k v allow repl =>
    cases repl with
    | true => simp [foundRet] at hr
    | false => simp [foundRet] at hr; subst hr; simp [gop, okey, Spec.map, detSpec, mapStep] at hs ⊢; simp [hs]
  | era k => simp [foundRet] at hr
  | ext k => simp [foundRet] at hr
  | fnd k => simp [foundRet] at hr; subst hr; simp [gop, okey, Spec.map, detSpec, mapStep] at hs ⊢; simp [hs]
  | con k => simp [foundRet] at hr; subst hr; simp [gop, okey, Spec.map, detSpec, mapStep] at hs ⊢; simp [hs]

/-- The node of an `insert` / allowed `update` is linked: the pair joins the map. -/
theorem LPok.link {H H' : Int → Int → Prop} {o : OpK} (h0 : ∀ w, ¬ H (okey o) w)
    (h1 : ∀ j w, H' j w ↔ (H j w ∨ (j = okey o ∧ w = oval o)))
    (ho : linkOk o = true) :
    LPok H (gop o) (linkRet o) H' := by
  intro m hm
  have hn := mfind_none_of hm h0
  refine ⟨(okey o, oval o) :: m, ?_, ?_⟩
  · cases o with
    | ins n k v => simp [gop, okey, oval, linkRet, Spec.map, detSpec, mapStep] at hn ⊢; simp [hn]
    | upd n k v allow repl =>
      have ha : allow ≠ 0 := by simpa [linkOk] using ho
      cases repl <;> simp [gop, okey, oval, linkRet, Spec.map, detSpec, mapStep, ha] at hn ⊢ <;> simp [hn]
    | era k => simp [linkOk] at ho
    | ext k => simp [linkOk] at ho
    | fnd k => simp [linkOk] at ho
    | con k => simp [linkOk] at ho
  · intro j w
    rw [mfind_cons, h1, ← hm]
    by_cases e : j = okey o
    · subst e; simp [hn]; exact eq_comm
    · simp [e]

/-- The marking store of `erase` / `extract`. -/
theorem LPok.mark {H H' : Int → Int → Prop} {o : OpK} {v : Int} (h0 : H (okey o) v)
    (h1 : ∀ j w, H' j w ↔ (H j w ∧ j ≠ okey o)) (ho : eraOk o = true) :
    LPok H (gop o) [1, v] H' := by
  intro m hm
  have hs := (hm _ _).mpr h0
  refine ⟨merase m (okey o), ?_, ?_⟩
  · cases o with
    | ins n k v => simp [eraOk] at ho
    | upd n k v allow repl => simp [eraOk] at ho
    | era k => simp [gop, okey, Spec.map, detSpec, mapStep] at hs ⊢; simp [hs]
    | ext k => simp [gop, okey, Spec.map, detSpec, mapStep] at hs ⊢; simp [hs]
    | fnd k => simp [eraOk] at ho
    | con k => simp [eraOk] at ho
  · intro j w
    rw [mfind_merase, h1, ← hm]
    by_cases e : j = okey o
    · subst e; simp
    · simp [e]

/-- `update` of the key-value forms on an existing key: the payload is replaced. -/
theorem LPok.repl {H H' : Int → Int → Prop} {n : Nat} {k v allow v0 : Int} (h0 : H k v0)
    (h1 : ∀ j w, H' j w ↔ ((j = k ∧ w = v) ∨ (j ≠ k ∧ H j w))) :
    LPok H (gop (.upd n k v allow true)) [1, 0] H' := by
  intro m hm
  have hs := (hm _ _).mpr h0
  refine ⟨(k, v) :: merase m k, ?_, ?_⟩
  · simp [gop, Spec.map, detSpec, mapStep, hs]
  · intro j w
    rw [mfind_cons, mfind_merase, h1, ← hm]
    by_cases e : j = k
    · subst e; simp; exact eq_comm
    · simp [e]

theorem LPok.congr_left {H H1 H' : Int → Int → Prop} {op : GOp} {r : GRet} (he : ∀ k v, H k v ↔ H1 k v)
    (h : LPok H1 op r H') : LPok H op r H' := by
  intro m hm
  exact h m (fun k v => (hm k v).trans (he k v))

/-! ### Linearization-point bookkeeping on program counters -/

/-- `find` / `contains` after `search` has stopped at the inner node `c`: with another key the answer is `[0]`
    (fixed at the end of `search`); with the key, nothing is fixed while `c` is unmarked, and `[0]` once it is marked. -/
def wRet (mark : Nat → Bool) (key : Nat → Int) (k : Int) (c : Nat) : Option GRet :=
  if key c = k then (if mark c = true then some [0] else none) else some [0]

/-- The result the thread's operation has fixed. -/
def lpRet (mark : Nat → Bool) (key : Nat → Int) : PC → Option GRet
  | .idle => none
  | .sLd1 _ _ => none
  | .sLd2 _ _ _ _ => none
  | .lkP _ _ _ => none
  | .spP _ _ _ => none
  | .lkC _ _ _ => none
  | .spC _ _ _ => none
  | .v1 _ _ _ => none
  | .v2 _ _ _ => none
  | .v3 _ _ _ => none
  | .iSt _ _ _ _ => none
  | .iLk _ _ _ _ => none
  | .eLd _ _ _ => none
  | .eMk _ _ _ _ => none
  | .eUn _ _ _ _ r => some r
  | .unlC _ _ _ r => r
  | .unlP _ _ r => r
  | .fLk k c => wRet mark key k c
  | .fSp k c => wRet mark key k c
  | .fChk k c => wRet mark key k c
  | .fUnl _ _ r => some r
  | .cChk k c => wRet mark key k c
  | .done r => some r

/-- The operation a thread is executing (while the program counter still tells). -/
def opOf : PC → Option GOp
  | .idle => none
  | .sLd1 o _ => some (gop o)
  | .sLd2 o _ _ _ => some (gop o)
  | .lkP o _ _ => some (gop o)
  | .spP o _ _ => some (gop o)
  | .lkC o _ _ => some (gop o)
  | .spC o _ _ => some (gop o)
  | .v1 o _ _ => some (gop o)
  | .v2 o _ _ => some (gop o)
  | .v3 o _ _ => some (gop o)
  | .iSt o _ _ _ => some (gop o)
  | .iLk o _ _ _ => some (gop o)
  | .eLd o _ _ => some (gop o)
  | .eMk o _ _ _ => some (gop o)
  | .eUn o _ _ _ _ => some (gop o)
  | .unlC o _ _ _ => some (gop o)
  | .unlP o _ _ => some (gop o)
  | .fLk k _ => some (gop (.fnd k))
  | .fSp k _ => some (gop (.fnd k))
  | .fChk k _ => some (gop (.fnd k))
  | .fUnl k _ _ => some (gop (.fnd k))
  | .cChk k _ => some (gop (.con k))
  | .done _ => none

theorem lpRet_congr {mark mark' : Nat → Bool} {key key' : Nat → Int} {pc : PC}
    (hc : ∀ c, pcCur pc = some c → mark' c = mark c ∧ key' c = key c) : lpRet mark' key' pc = lpRet mark key pc := by
  cases pc <;> simp only [lpRet] <;> (have := hc _ (by simp [pcCur]; rfl)) <;> simp [wRet, this]

/-- What one step of `t` does.  `frame` … `busy`: the linearization-point bookkeeping, consumed by `Lin.lean`
    (`lp`: a step that fixes the mover's result is the `Spec.map` transition on the abstract map; `help`: the results it
    fixes for others leave the map alone).  `mono` … `wout`: WHERE the step writes — only words of nodes the mover holds
    locked or owns privately (`disc`, `vdisc`, `ldisc`), marks are set once and only by the eraser (`marks`, `frz`), a
    node leaves the chain only marked (`unl`).  This second group is what lets the other threads' clauses of `SInvL`
    survive the step (`TInv.other` in `Thread.lean`) and what the consequences in `Reach.lean` quote. -/
structure StepEff (s : St) (t : Tid) (s' : St) (L L' : List Nat) : Prop where
  frame : ∀ t2, t2 ≠ t → s'.pc t2 = s.pc t2
  key : s'.key = s.key
  cnt : s'.cnt = s.cnt
  lp : lpRet s.mark s.key (s.pc t) = none → ∀ r, lpRet s'.mark s'.key (s'.pc t) = some r →
        ∃ op, opOf (s.pc t) = some op ∧ LPok (Has s.mark s.key s.val L) op r (Has s'.mark s'.key s'.val L')
  nolp : (lpRet s.mark s.key (s.pc t) ≠ none ∨ lpRet s'.mark s'.key (s'.pc t) = none) →
        ∀ k v, Has s'.mark s'.key s'.val L' k v ↔ Has s.mark s.key s.val L k v
  keep : ∀ r, lpRet s.mark s.key (s.pc t) = some r → lpRet s'.mark s'.key (s'.pc t) = some r
  help : ∀ t2, t2 ≠ t → lpRet s.mark s.key (s.pc t2) = none → ∀ r, lpRet s'.mark s'.key (s.pc t2) = some r →
        ∃ op, opOf (s.pc t2) = some op ∧
          LPok (Has s'.mark s'.key s'.val L') op r (Has s'.mark s'.key s'.val L')
  keepo : ∀ t2, t2 ≠ t → ∀ r, lpRet s.mark s.key (s.pc t2) = some r → lpRet s'.mark s'.key (s.pc t2) = some r
  op : ∀ op, opOf (s'.pc t) = some op → opOf (s.pc t) = some op
  busy : s.pc t ≠ .idle ∧ s'.pc t ≠ .idle
  mono : ∀ a, (a ∈ L ∨ s.mark a = true) → (a ∈ L' ∨ s'.mark a = true)
  frz : ∀ a, s.mark a = true → s'.mark a = true ∧ s'.next a = s.next a
  disc : ∀ a, (s'.next a ≠ s.next a ∨ s'.mark a ≠ s.mark a ∨ s'.succ a ≠ s.succ a) →
    heldP (s.pc t) = some a ∨ heldC (s.pc t) = some a ∨ insNode (s.pc t) = some a
  vdisc : ∀ a, s'.val a ≠ s.val a → heldC (s.pc t) = some a ∧ s.mark a = false ∧ a ∈ L
  ldisc : ∀ a, s'.lock a ≠ s.lock a →
    (s.lock a = false ∧ (heldP (s'.pc t) = some a ∨ heldC (s'.pc t) = some a)) ∨
    (s.lock a = true ∧ (heldP (s.pc t) = some a ∨ heldC (s.pc t) = some a))
  linked : ∀ o n p c, s.pc t = .iLk o n p c → n ∈ L' ∧ s'.mark n = false
  marks : ∀ a, s.mark a = false → s'.mark a = true →
    ∃ o p nx, s.pc t = .eMk o p a nx ∧ s'.pc t = .eUn o p a nx [1, s.val a] ∧ s.key a = okey o ∧ a ∈ L
  unl : ∀ a, a ∈ L → a ∉ L' → s.mark a = true ∧ ∃ o p nx r, s.pc t = .eUn o p a nx r
  grow : ∀ a, a ∈ L' → a ∈ L ∨ s'.mark a = false
  wout : ∀ a, pcWin (s.pc t) = some a → a ∉ L'

/-- The key is absent (it lies in the gap behind the chain node `p`): the operation answers "not there" and the map
    does not change. -/
theorem SInvL.lp_absent {s : St} {L : List Nat} (h : SInvL s L) {p c : Nat} {o : OpK} {r : GRet} (hp : p ∈ L)
    (hp1 : p ≠ 1) (hpk : p = 0 ∨ s.key p < okey o) (hpc : s.succ p = some c) (hck : c = 1 ∨ okey o < s.key c)
    (hr : absentRet o = some r) :
    LPok (Has s.mark s.key s.val L) (gop o) r (Has s.mark s.key s.val L) :=
  LPok.absent (h.absent hp hp1 hpk hpc hck) (fun _ _ => Iff.rfl) hr

/-- The key is absent (the chain node that carries it is marked). -/
theorem SInvL.lp_absent_marked {s : St} {L : List Nat} (h : SInvL s L) {c : Nat} {o : OpK} {r : GRet} (hc : c ∈ L)
    (hc0 : c ≠ 0) (hc1 : c ≠ 1) (hm : s.mark c = true) (hk : s.key c = okey o) (hr : absentRet o = some r) :
    LPok (Has s.mark s.key s.val L) (gop o) r (Has s.mark s.key s.val L) :=
  LPok.absent (hk ▸ h.absent_marked hc hc0 hc1 hm) (fun _ _ => Iff.rfl) hr

/-- The key is present in the unmarked chain node `c`: a failing insert, an `update` that keeps the item, a find, a
    contains. -/
theorem SInvL.lp_present {s : St} {L : List Nat} (_h : SInvL s L) {c : Nat} {o : OpK} {r : GRet} (hc : c ∈ L)
    (hc0 : c ≠ 0) (hc1 : c ≠ 1) (hm : s.mark c = false) (hk : s.key c = okey o) (hr : foundRet s.val o c = some r) :
    LPok (Has s.mark s.key s.val L) (gop o) r (Has s.mark s.key s.val L) :=
  LPok.present (H := Has s.mark s.key s.val L) ⟨c, hc, hc0, hc1, hm, hk, rfl⟩ (fun _ _ => Iff.rfl) hr

/-- Only a marking store makes another thread's operation fix its result: a `find` / `contains` that waits at the
    node with its key. -/
theorem help_of_mark {mark : Nat → Bool} {key : Nat → Int} {pc : PC} {c : Nat} {r : GRet}
    (h1 : lpRet mark key pc = none) (h2 : lpRet (upd mark c true) key pc = some r) :
    pcNT pc = some c ∧ key c = skey pc ∧ r = [0] ∧
      (opOf pc = some (gop (.fnd (skey pc))) ∨ opOf pc = some (gop (.con (skey pc)))) := by
  cases pc <;> simp only [lpRet, wRet] at h1 h2 <;> (try (simp at h2; done)) <;> (try (rw [h1] at h2; simp at h2; done))
  all_goals
    simp only [pcNT, skey, opOf, Option.some.injEq]
    by_cases hk : key ‹Nat› = ‹Int›
    · simp only [hk, if_true] at h1 h2
      by_cases hc : ‹Nat› = c
      · subst hc
        simp [upd] at h2
        simp [hk, h2]
      · rw [upd_other _ _ _ _ hc] at h2
        split at h1 <;> simp_all
    · simp [hk] at h1

/-- A fixed result stays fixed when a node is marked. -/
theorem keep_of_mark {mark : Nat → Bool} {key : Nat → Int} {pc : PC} {c : Nat} {r : GRet}
    (h1 : lpRet mark key pc = some r) : lpRet (upd mark c true) key pc = some r := by
  cases pc <;> simp only [lpRet, wRet] at h1 ⊢ <;> (try exact h1)
  all_goals
    by_cases hk : key ‹Nat› = ‹Int›
    · simp only [hk, if_true] at h1 ⊢
      by_cases hc : ‹Nat› = c
      · subst hc; simp [upd]; split at h1 <;> simp_all
      · rw [upd_other _ _ _ _ hc]; exact h1
    · simpa [hk] using h1

end CdsVerif.Algo.Lazy
