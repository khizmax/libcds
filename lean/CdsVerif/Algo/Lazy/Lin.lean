/-
  Linearizability of the LazyList model (property C13, `cds::intrusive::LazyList<HP>`: insert, update, erase, extract,
  find, contains) with respect to the sequential map `Spec.map`.

  Linearization points.
    * successful `insert`, inserting `update`  : the store `pPred->m_pNext = pNode` of `link_node`, under the locks;
    * successful `erase` / `extract`           : the marking store `pCur->m_pNext = ( pHead, 1 )` of `unlink_node`;
    * failing `insert`, `update` of an existing key, refused `update`, failing `erase` / `extract` : the last load of
      `validate` (`pPred->m_pNext == pCur`): under the two locks `pPred` and `pCur` are unmarked, hence linked, and
      adjacent, so the key is present in `pCur` resp. absent (it lies between the keys of `pPred` and `pCur`);
    * `find` / `contains`, key not found by `search` (`pCur` is the tail or has a greater key) : the validating load of
      `protect( pPrev->m_pNext )` that ends `search`: it reads an unmarked pointer, so `pPrev` is linked, `pCur` is its
      successor, and the key lies in the gap.  (Hindsight: the answer is computed later.)
    * `find` / `contains`, `search` has stopped at a node `c` WITH the key:
        - answer "found": the load `pCur->is_marked()` that reads an unmarked word — `c` is linked and unmarked;
        - answer "not found" (the load reads a marked word): the instant at which `c` was marked, if that happened
          after `search` stopped — i.e. ANOTHER thread's marking store linearizes the reader, directly behind its own
          erase — or the end of `search`, if `c` was marked already (a marked node that is still linked shadows no other
          node with the key: the chain is sorted).  This is the classic LazyList argument for the unlocked `contains`.

  The step lemmas (`StepEff`) show that the abstract map evolves by exactly the `Spec.map` transition of the stepping
  thread's operation at its own linearization point, and that the readers it helps are answered by the abstract map
  after the step, which they leave as it is.  The ghost-log construction of `Base/LPLin.lean` (a step may pass the
  linearization points of several threads) turns this into linearizability of every run, with completion of pending
  operations, and into the statement that every completed operation takes effect at an instant inside its interval
  (`lazy_effect_instant`).  Results are never withdrawn.
-/
import CdsVerif.Algo.Lazy.Reach
import CdsVerif.Algo.Lazy.Hist
import CdsVerif.Base.LPLin
namespace CdsVerif.Algo.Lazy
open CdsVerif.Machine CdsVerif.Spec CdsVerif.Lin CdsVerif.GhostLog
open CdsVerif.Algo.Michael (LPok)

/-! ### The machine as an instance of `Base/LPLin.lean` -/

/-- A specification state represents the machine state if it holds exactly the pairs of the abstract map; every
    result is definitive. -/
def sys : LPLin.Sys St MapSt where
  spec := Spec.map
  model := model
  init := init
  Inv := SInv
  Abs := fun m s => ∀ k v, mfind m k = some v ↔ (k, v) ∈ absMap s
  lpRet := fun s t => lpRet s.mark s.key (s.pc t)
  postRet := fun s t => lpRet s.mark s.key (s.pc t)
  opOf := fun s t => opOf (s.pc t)
  inert := fun _ _ => false

theorem sys_ok : sys.HelpOK where
  inert_ok := nofun
  inv_init := ⟨[0, 1], sinv_init⟩
  abs_init := by
    intro k v
    show mfind Spec.map.init k = some v ↔ (k, v) ∈ absMap init
    rw [← sinv_init.has_iff]
    simp [Spec.map, detSpec, init, Has, mfind]
  lp_init := by intro t; simp [sys, init, lpRet]
  op_init := by intro t; simp [sys, init, opOf]
  lp_post := fun _ _ _ _ h => .inl h
  invoke := by
    intro s t op s' ⟨L, hl⟩ hs
    obtain ⟨hl', he⟩ := sinvl_invoke hl hs
    refine ⟨⟨L, hl'⟩, ⟨?_, ?_⟩, ?_, he.now.1, he.now.2, ?_⟩
    · intro t2 ht; simp only [sys]; rw [he.frame t2 ht, he.lps t2 ht]
    · intro t2 ht; simp only [sys]; rw [he.frame t2 ht]
    · simp [sys, he.was, lpRet]
    · intro m hm k v
      exact ((hm k v).trans (hl.has_iff k v).symm).trans ((he.abs k v).symm.trans (hl'.has_iff k v))
  step := by
    intro s t s' ev ⟨L, hl⟩ hs
    obtain ⟨L', hl', he⟩ := sinvl_step hl hs
    have hfrom : ∀ {m}, sys.Abs m s → ∀ k v, mfind m k = some v ↔ Has s.mark s.key s.val L k v :=
      fun hm k v => (hm k v).trans (hl.has_iff k v).symm
    have hfrom' : ∀ {m}, sys.Abs m s' → ∀ k v, mfind m k = some v ↔ Has s'.mark s'.key s'.val L' k v :=
      fun hm k v => (hm k v).trans (hl'.has_iff k v).symm
    have hto' : ∀ {m}, (∀ k v, mfind m k = some v ↔ Has s'.mark s'.key s'.val L' k v) → sys.Abs m s' :=
      fun hm k v => (hm k v).trans (hl'.has_iff k v)
    refine LPLin.HelpStepOK.of_own ⟨L', hl'⟩ ?_ ?_ (fun r hr => .inl (he.keep r hr)) ?_ ?_ ?_
    · intro h1 r h2
      obtain ⟨op, ho, hok⟩ := he.lp h1 r h2
      exact ⟨op, ho, fun m hm => (hok m (hfrom hm)).imp fun _ hm' => ⟨hm'.1, hto' hm'.2⟩⟩
    · intro hc m hm
      exact hto' fun k v => (hfrom hm k v).trans (he.nolp hc k v).symm
    · intro u hu r hr
      show lpRet s'.mark s'.key (s'.pc u) = some r
      rw [he.frame u hu]; exact he.keepo u hu r hr
    · -- a reader waiting at the node that this step marks: the map after the step answers "not found"
      intro u hu h0 r (hr : lpRet s'.mark s'.key (s'.pc u) = some r)
      rw [he.frame u hu] at hr
      obtain ⟨op, ho, hok⟩ := he.help u hu h0 r hr
      exact ⟨op, ho, fun m hm => (hok m (hfrom' hm)).imp fun _ hm' => ⟨hm'.1, hto' hm'.2⟩⟩
    · intro u op (ho : opOf (s'.pc u) = some op)
      by_cases hu : u = t
      · subst hu; exact he.op op ho
      · rw [he.frame u hu] at ho; exact ho
  result := by
    intro s t s' r ⟨L, hl⟩ hs
    obtain ⟨hl', hdone, hidl, hframe, hkey, hval, hmark, -⟩ := sinvl_result hl hs
    refine ⟨⟨L, hl'⟩, ⟨?_, ?_⟩, ?_, ?_, ?_, ?_⟩
    · intro t2 ht; simp only [sys]; rw [hframe t2 ht, hkey, hmark]
    · intro t2 ht; simp only [sys]; rw [hframe t2 ht]
    · simp [sys, hdone, lpRet]
    · simp [sys, hidl, lpRet]
    · simp [sys, hidl, opOf]
    · intro m hm k v
      have := hl'.has_iff k v
      rw [hkey, hval, hmark] at this
      exact ((hm k v).trans (hl.has_iff k v).symm).trans this

/-! ### Main theorems -/

/-- **Linearizability of LazyList** (Herlihy–Wing, with completion of pending operations).
    For every run of the model, the history of the completed operations, extended by response records `extra` for the
    operations still pending at the end whose result is already fixed (`lpRet`: they have passed their linearization
    point; they get that result and the response time "end of the run"; at most one per thread), is linearizable to
    the sequential map.  All other pending operations are dropped. -/
theorem lazy_linearizable (sched : List (Tid × Act)) (s : St) (os : List (Tid × Obs))
    (h : model.run init sched = some (s, os)) :
    ∃ extra : List (OpRec GOp GRet),
      (∀ e ∈ extra, pendingOf os e.tid = some (e.op, e.inv) ∧ e.res = os.length ∧
          lpRet s.mark s.key (s.pc e.tid) = some e.ret) ∧
      extra.Pairwise (fun a b => a.tid ≠ b.tid) ∧
      Linearizable Spec.map (historyOf os ++ extra) := by
  rw [historyOf_eq, pendingOf_eq]
  exact sys_ok.linearizable sched s os h

/-- If no operation pending at the end of the run has its result fixed (threads may be idle or in the middle of an
    operation that has not taken effect), the history of the completed operations is linearizable as it is. -/
theorem lazy_linearizable_no_effect_pending (sched : List (Tid × Act)) (s : St) (os : List (Tid × Obs))
    (h : model.run init sched = some (s, os)) (hq : ∀ t, lpRet s.mark s.key (s.pc t) = none) :
    Linearizable Spec.map (historyOf os) :=
  historyOf_eq os ▸ sys_ok.linearizable_no_effect_pending sched s os h hq

/-- Runs in which every invoked operation has returned. -/
theorem lazy_linearizable_complete_runs (sched : List (Tid × Act)) (s : St) (os : List (Tid × Obs))
    (h : model.run init sched = some (s, os)) (hq : ∀ t, s.pc t = .idle) :
    Linearizable Spec.map (historyOf os) :=
  lazy_linearizable_no_effect_pending sched s os h (fun t => by simp [hq t, lpRet])

/-- Every history record of a run is well formed (`inv < res`): the executable checker `linCheck` decides
    linearizability of such histories (`Lin.linCheck_iff`). -/
theorem historyOf_wf (os : List (Tid × Obs)) : ∀ r ∈ historyOf os, r.inv ≤ r.res :=
  fun r hr => Nat.le_of_lt (historyOf_sound os r hr).2.2

/-- **Every completed operation takes effect inside its interval.**  For every run and every completed operation
    `r` of its history there is an instant `j` after the call (observation `r.inv`) and not after the return
    (observation `r.res`) such that in the state `s1` reached by the first `j` actions of the run the abstract map
    `absMap s1` answers `r.op` with `r.ret` according to the sequential specification.  For the unlocked `contains` /
    `find` this is the classic LazyList statement: a key reported absent was absent at some instant during the call, a
    key reported present was present. -/
theorem lazy_effect_instant (sched : List (Tid × Act)) (s : St) (os : List (Tid × Obs))
    (h : model.run init sched = some (s, os)) (r : OpRec GOp GRet) (hr : r ∈ historyOf os) :
    ∃ j s1, r.inv < j ∧ j ≤ r.res ∧ model.run init (sched.take j) = some (s1, os.take j) ∧
      ∃ m', Spec.map.next (absMap s1) r.op r.ret = some m' := by
  obtain ⟨j, s1, u, s2, e1, e2, e3, e4, ⟨L, hl⟩, hop, h1, ⟨ev, hs⟩, h2⟩ :=
    sys_ok.lp_hindsight sched s os h r (historyOf_eq os ▸ hr)
  obtain ⟨L', hl', he⟩ := sinvl_step hl hs
  by_cases hu : r.tid = u
  · -- the thread's own linearization point: the state before the step
    subst hu
    obtain ⟨op, ho, hok⟩ := he.lp h1 _ h2
    obtain ⟨m', hm, -⟩ := hok (absMap s1) hl.mfind_absMap
    have : op = r.op := Option.some.inj (ho.symm.trans hop)
    exact ⟨j, s1, e1, Nat.le_of_lt e2, e3, m', this ▸ hm⟩
  · -- helped by the stepping thread: the state after the step
    have h2' : lpRet s2.mark s2.key (s2.pc r.tid) = some r.ret := h2
    rw [he.frame r.tid hu] at h2'
    obtain ⟨op, ho, hok⟩ := he.help r.tid hu h1 _ h2'
    obtain ⟨m', hm, -⟩ := hok (absMap s2) hl'.mfind_absMap
    have : op = r.op := Option.some.inj (ho.symm.trans hop)
    exact ⟨j + 1, s2, Nat.lt_succ_of_lt e1, e2, e4, m', this ▸ hm⟩

theorem answers_absent {m : MapSt} {op : GOp} {k : Int} (h : ∃ m', Spec.map.next m op [0] = some m')
    (hop : op = ⟨"erase", [k]⟩ ∨ op = ⟨"extract", [k]⟩ ∨ op = ⟨"find", [k]⟩ ∨ op = ⟨"contains", [k]⟩) :
    mfind m k = none := by
  obtain ⟨m', hm⟩ := h
  cases hf : mfind m k with
  | none => rfl
  | some v => rcases hop with rfl | rfl | rfl | rfl <;> simp [Spec.map, detSpec, mapStep, hf] at hm

theorem answers_present {m : MapSt} {op : GOp} {r : GRet} {k : Int} (h : ∃ m', Spec.map.next m op r = some m')
    (hop : (∃ v, op = ⟨"insert", [k, v]⟩ ∧ r = [0]) ∨ (∃ v, op = ⟨"find", [k]⟩ ∧ r = [1, v]) ∨
      (op = ⟨"contains", [k]⟩ ∧ r = [1]) ∨ (∃ v, op = ⟨"erase", [k]⟩ ∧ r = [1, v]) ∨
      (∃ v, op = ⟨"extract", [k]⟩ ∧ r = [1, v])) :
    ∃ v, mfind m k = some v ∧ ∀ w, r = [1, w] → w = v := by
  obtain ⟨m', hm⟩ := h
  cases hf : mfind m k with
  | none => rcases hop with ⟨v, rfl, rfl⟩ | ⟨v, rfl, rfl⟩ | ⟨rfl, rfl⟩ | ⟨v, rfl, rfl⟩ | ⟨v, rfl, rfl⟩ <;>
      simp [Spec.map, detSpec, mapStep, hf] at hm
  | some v =>
    refine ⟨v, rfl, ?_⟩
    rcases hop with ⟨v', rfl, rfl⟩ | ⟨v', rfl, rfl⟩ | ⟨rfl, rfl⟩ | ⟨v', rfl, rfl⟩ | ⟨v', rfl, rfl⟩ <;>
      simp [Spec.map, detSpec, mapStep, hf] at hm ⊢
    · exact hm.1
    · exact hm.1
    · exact hm.1

/-- Hindsight for "key absent": a completed `erase k` / `extract k` / `find k` / `contains k` that answered `[0]` has an
    instant inside its interval at which no unmarked linked item carried the key `k`. -/
theorem lazy_absent_hindsight (sched : List (Tid × Act)) (s : St) (os : List (Tid × Obs))
    (h : model.run init sched = some (s, os)) (r : OpRec GOp GRet) (hr : r ∈ historyOf os) (k : Int)
    (hop : r.op = ⟨"erase", [k]⟩ ∨ r.op = ⟨"extract", [k]⟩ ∨ r.op = ⟨"find", [k]⟩ ∨ r.op = ⟨"contains", [k]⟩)
    (hret : r.ret = [0]) :
    ∃ j s1, r.inv < j ∧ j ≤ r.res ∧ model.run init (sched.take j) = some (s1, os.take j) ∧
      ∀ v, (k, v) ∉ absMap s1 := by
  obtain ⟨j, s1, h1, h2, h3, h4⟩ := lazy_effect_instant sched s os h r hr
  refine ⟨j, s1, h1, h2, h3, ?_⟩
  obtain ⟨L, hl⟩ := sinv_reachable s1 ⟨_, _, h3⟩
  intro v hv
  have := (hl.mfind_absMap k v).mpr ((hl.has_iff k v).mpr hv)
  rw [answers_absent (hret ▸ h4) hop] at this
  simp at this

/-- Hindsight for "key present": a completed failing `insert k _`, a successful `find k` (→ `[1, v]`), a successful
    `contains k` or a successful `erase k` / `extract k` (→ `[1, v]`) has an instant inside its interval at which an
    unmarked linked item carried the key `k` (with the payload `v` reported, if one is reported). -/
theorem lazy_present_hindsight (sched : List (Tid × Act)) (s : St) (os : List (Tid × Obs))
    (h : model.run init sched = some (s, os)) (r : OpRec GOp GRet) (hr : r ∈ historyOf os) (k : Int)
    (hop : (∃ v, r.op = ⟨"insert", [k, v]⟩ ∧ r.ret = [0]) ∨ (∃ v, r.op = ⟨"find", [k]⟩ ∧ r.ret = [1, v]) ∨
      (r.op = ⟨"contains", [k]⟩ ∧ r.ret = [1]) ∨ (∃ v, r.op = ⟨"erase", [k]⟩ ∧ r.ret = [1, v]) ∨
      (∃ v, r.op = ⟨"extract", [k]⟩ ∧ r.ret = [1, v])) :
    ∃ j s1 v, r.inv < j ∧ j ≤ r.res ∧ model.run init (sched.take j) = some (s1, os.take j) ∧
      (k, v) ∈ absMap s1 ∧ ∀ w, r.ret = [1, w] → w = v := by
  obtain ⟨j, s1, h1, h2, h3, h4⟩ := lazy_effect_instant sched s os h r hr
  obtain ⟨v, hv1, hv2⟩ := answers_present h4 hop
  obtain ⟨L, hl⟩ := sinv_reachable s1 ⟨_, _, h3⟩
  exact ⟨j, s1, v, h1, h2, h3, (hl.has_iff k v).mp ((hl.mfind_absMap k v).mp hv1), hv2⟩

end CdsVerif.Algo.Lazy
