/-
  The LazyList invariant holds in every reachable state; consequences (structure of the list, no duplicate keys,
  marked nodes are frozen, lock discipline, one marking per node, refinement of the abstract map).
-/
import CdsVerif.Algo.Lazy.Steps
import CdsVerif.Algo.Lazy.StepWrite
namespace CdsVerif.Algo.Lazy
open CdsVerif.Machine CdsVerif.Spec CdsVerif.Lin
open CdsVerif.Algo.Michael (Chain insAfter mem_insAfter LPok walk walk_of_chain length_le_of_nodup_lt mfind_cons)

structure InvokeEff (s : St) (t : Tid) (op : GOp) (s' : St) (L : List Nat) : Prop where
  frame : ∀ t2, t2 ≠ t → s'.pc t2 = s.pc t2
  lps : ∀ t2, t2 ≠ t → lpRet s'.mark s'.key (s.pc t2) = lpRet s.mark s.key (s.pc t2)
  was : s.pc t = .idle
  now : opOf (s'.pc t) = some op ∧ lpRet s'.mark s'.key (s'.pc t) = none
  abs : ∀ k v, Has s'.mark s'.key s'.val L k v ↔ Has s.mark s.key s.val L k v
  mark : s'.mark = s.mark
  next : s'.next = s.next
  succ : s'.succ = s.succ
  lock : s'.lock = s.lock
  oldval : ∀ a, a < s.cnt → s'.val a = s.val a

/-- An idle thread starts an operation that brings no node. -/
theorem SInvL.start {s : St} {L : List Nat} {t : Tid} (h : SInvL s L) (hpc : s.pc t = .idle) (o : OpK)
    (ho : onode o = none) :
    SInvL { s with pc := upd s.pc t (.sLd1 o 0) } L ∧ InvokeEff s t (gop o) { s with pc := upd s.pc t (.sLd1 o 0) } L :=
  ⟨h.move hpc (TInv.search (fun n e => by rw [ho] at e; cases e) ⟨by decide, Or.inl h.zero_mem⟩ (Or.inl rfl))
      (fun n e => by rw [show insNode (.sLd1 o 0) = onode o from rfl, ho] at e; cases e) nofun nofun,
    { frame := fun u hu => upd_other _ _ _ _ hu, lps := fun _ _ => rfl, was := hpc,
      now := by simp [opOf, lpRet], abs := fun _ _ => Iff.rfl, mark := rfl, next := rfl, succ := rfl, lock := rfl,
      oldval := fun _ _ => rfl }⟩

/-- An idle thread starts an operation with a fresh node carrying `(k, v)`. -/
theorem SInvL.start_with {s : St} {L : List Nat} {t : Tid} (h : SInvL s L) (hpc : s.pc t = .idle) (o : OpK)
    (ho : onode o = some s.cnt) :
    SInvL { s with key := upd s.key s.cnt (okey o), val := upd s.val s.cnt (oval o), cnt := s.cnt + 1,
                   pc := upd s.pc t (.sLd1 o 0) } L ∧
      InvokeEff s t (gop o) { s with key := upd s.key s.cnt (okey o), val := upd s.val s.cnt (oval o), cnt := s.cnt + 1,
                                     pc := upd s.pc t (.sLd1 o 0) } L := by
  have hfresh := h.unalloc s.cnt (Nat.le_refl _)
  have old : ∀ a, a ∈ L → upd s.key s.cnt (okey o) a = s.key a := fun a ha =>
    upd_other _ _ _ _ (Nat.ne_of_lt (h.alloc a ha))
  have hhas : ∀ k' v', Has s.mark (upd s.key s.cnt (okey o)) (upd s.val s.cnt (oval o)) L k' v' ↔
      Has s.mark s.key s.val L k' v' := fun k' v' =>
    exists_congr fun a => and_congr_right fun ha => by
      rw [old a ha, upd_other _ _ _ _ (Nat.ne_of_lt (h.alloc a ha))]
  refine ⟨h.frame (t := t) (fun u hu => upd_other _ _ _ _ hu) ?_ ?_ (fun u _ => (h.thread u).alloc (fun a => h.lt_cnt) _ _)
    (fun u hu => ?_), ?_⟩
  · exact { h.mem with
      sorted := h.sorted.imp_of_mem fun {a b} ha hb hab => by
        unfold LLt at hab ⊢
        rw [show Mem.key _ a = _ from old a ha, show Mem.key _ b = _ from old b hb]
        exact hab
      cnt2 := Nat.le_succ_of_le h.cnt2
      alloc := fun a ha => Nat.lt_succ_of_lt (h.alloc a ha)
      unalloc := fun a ha => h.unalloc a (Nat.le_of_succ_le ha) }
  · rw [show St.pc _ t = .sLd1 o 0 from upd_same _ _ _]
    exact TInv.search
      (fun n e => by
        obtain rfl : s.cnt = n := Option.some.inj (ho.symm.trans e)
        exact ⟨Nat.lt_succ_self _, fun hn => Nat.lt_irrefl _ (h.alloc _ hn), hfresh.2.2.1, upd_same _ _ _, upd_same _ _ _⟩)
      ⟨by decide, Or.inl h.zero_mem⟩ (Or.inl rfl)
  · rw [show St.pc _ t = .sLd1 o 0 from upd_same _ _ _]
    exact { own := fun n e e' => by
              obtain rfl : s.cnt = n := Option.some.inj (ho.symm.trans e)
              exact Nat.lt_irrefl _ (h.priv u _ e').1
            pp := nofun, pc := nofun, cp := nofun, cc := nofun }
  · exact {
      frame := fun u hu => upd_other _ _ _ _ hu
      lps := fun u _ => lpRet_congr fun c e =>
        ⟨rfl, upd_other _ _ _ _ (Nat.ne_of_lt (h.lt_cnt (h.lkCur u c e).2))⟩
      was := hpc
      now := by simp [opOf, lpRet]
      abs := hhas
      mark := rfl, next := rfl, succ := rfl, lock := rfl
      oldval := fun a ha => upd_other _ _ _ _ (Nat.ne_of_lt ha) }

theorem sinvl_invoke {s s' : St} {t : Tid} {op : GOp} {L : List Nat}
    (h : SInvL s L) (hs : invoke s t op = some s') : SInvL s' L ∧ InvokeEff s t op s' L := by
  obtain ⟨name, args⟩ := op
  unfold invoke at hs
  split at hs
  next k v hpc hname hargs =>
    simp at hs; subst hs
    dsimp only at hname hargs; subst hname hargs
    exact h.start_with hpc (.ins s.cnt k v) rfl
  next k v allow hpc hname hargs =>
    simp at hs; subst hs
    dsimp only at hname hargs; subst hname hargs
    exact h.start_with hpc (.upd s.cnt k v allow true) rfl
  next k v allow hpc hname hargs =>
    simp at hs; subst hs
    dsimp only at hname hargs; subst hname hargs
    exact h.start_with hpc (.upd s.cnt k v allow false) rfl
  next k hpc hname hargs =>
    simp at hs; subst hs
    dsimp only at hname hargs; subst hname hargs
    exact h.start hpc (.era k) rfl
  next k hpc hname hargs =>
    simp at hs; subst hs
    dsimp only at hname hargs; subst hname hargs
    exact h.start hpc (.ext k) rfl
  next k hpc hname hargs =>
    simp at hs; subst hs
    dsimp only at hname hargs; subst hname hargs
    exact h.start hpc (.fnd k) rfl
  next k hpc hname hargs =>
    simp at hs; subst hs
    dsimp only at hname hargs; subst hname hargs
    exact h.start hpc (.con k) rfl
  next => simp at hs

theorem sinvl_result {s s' : St} {t : Tid} {r : GRet} {L : List Nat}
    (h : SInvL s L) (hs : result s t = some (s', r)) :
    SInvL s' L ∧ s.pc t = .done r ∧ s'.pc t = .idle ∧ (∀ t2, t2 ≠ t → s'.pc t2 = s.pc t2) ∧
      s'.key = s.key ∧ s'.val = s.val ∧ s'.mark = s.mark ∧ s'.next = s.next ∧ s'.succ = s.succ ∧ s'.lock = s.lock := by
  unfold result at hs
  split at hs
  next r' hpc =>
    simp at hs; obtain ⟨rfl, rfl⟩ := hs
    exact ⟨h.move hpc TInv.idle nofun nofun nofun, hpc, upd_same _ _ _, fun t2 h2 => upd_other _ _ _ _ h2,
      rfl, rfl, rfl, rfl, rfl, rfl⟩
  next => simp at hs

theorem sinvl_step {s s' : St} {t : Tid} {ev : Ev} {L : List Nat}
    (h : SInvL s L) (hs : step s t = some (s', ev)) : ∃ L', SInvL s' L' ∧ StepEff s t s' L L' := by
  cases hpc : s.pc t with
  | idle => simp [step, hpc] at hs
  | done r => simp [step, hpc] at hs
  | sLd1 o p => exact sinvl_step_sLd1 h hpc hs
  | sLd2 o p x mk => exact sinvl_step_sLd2 h hpc hs
  | lkP o p c => exact sinvl_step_lkP h hpc hs
  | spP o p c => exact sinvl_step_spP h hpc hs
  | lkC o p c => exact sinvl_step_lkC h hpc hs
  | spC o p c => exact sinvl_step_spC h hpc hs
  | v1 o p c => exact sinvl_step_v1 h hpc hs
  | v2 o p c => exact sinvl_step_v2 h hpc hs
  | v3 o p c => exact sinvl_step_v3 h hpc hs
  | iSt o n p c => exact sinvl_step_iSt h hpc hs
  | iLk o n p c => exact sinvl_step_iLk h hpc hs
  | eLd o p c => exact sinvl_step_eLd h hpc hs
  | eMk o p c nx => exact sinvl_step_eMk h hpc hs
  | eUn o p c nx r => exact sinvl_step_eUn h hpc hs
  | unlC o p c r => exact sinvl_step_unlC h hpc hs
  | unlP o p r => exact sinvl_step_unlP h hpc hs
  | fLk k c => exact sinvl_step_fLk h hpc hs
  | fSp k c => exact sinvl_step_fSp h hpc hs
  | fChk k c => exact sinvl_step_fChk h hpc hs
  | fUnl k c r => exact sinvl_step_fUnl h hpc hs
  | cChk k c => exact sinvl_step_cChk h hpc hs

/-! ### Every action: what happens to marked nodes, linked nodes, locks and payloads -/

structure ApplyEff (s : St) (t : Tid) (s' : St) (L L' : List Nat) : Prop where
  frz : ∀ a, s.mark a = true → s'.mark a = true ∧ s'.next a = s.next a
  mono : ∀ a, (a ∈ L ∨ s.mark a = true) → (a ∈ L' ∨ s'.mark a = true)
  disc : ∀ a, (s'.next a ≠ s.next a ∨ s'.mark a ≠ s.mark a ∨ s'.succ a ≠ s.succ a) →
    heldP (s.pc t) = some a ∨ heldC (s.pc t) = some a ∨ insNode (s.pc t) = some a
  vdisc : ∀ a, a < s.cnt → s'.val a ≠ s.val a → heldC (s.pc t) = some a ∧ s.mark a = false ∧ a ∈ L
  ldisc : ∀ a, s'.lock a ≠ s.lock a →
    (s.lock a = false ∧ (heldP (s'.pc t) = some a ∨ heldC (s'.pc t) = some a)) ∨
    (s.lock a = true ∧ (heldP (s.pc t) = some a ∨ heldC (s.pc t) = some a))
  unl : ∀ a, a ∈ L → a ∉ L' → s.mark a = true

theorem sinvl_apply {s s' : St} {t : Tid} {a : Act} {o : Obs} {L : List Nat} (hl : SInvL s L)
    (hap : model.apply s t a = some (s', o)) : ∃ L', SInvL s' L' ∧ ApplyEff s t s' L L' := by
  rcases Model.apply_cases hap with ⟨op, -, hs1, -⟩ | ⟨e, -, hs1, -⟩ | ⟨r, -, hs1, -⟩
  · obtain ⟨h1, h2⟩ := sinvl_invoke hl hs1
    refine ⟨L, h1, ⟨?_, ?_, ?_, ?_, ?_, ?_⟩⟩
    · intro a ha; rw [h2.mark, h2.next]; exact ⟨ha, rfl⟩
    · intro a ha; rw [h2.mark]; exact ha
    · intro a ha; rw [h2.mark, h2.next, h2.succ] at ha; simp at ha
    · intro a ha hv; exact absurd (h2.oldval a ha) hv
    · intro a ha; rw [h2.lock] at ha; simp at ha
    · intro a ha hn; exact absurd ha hn
  · obtain ⟨L', hl', he⟩ := sinvl_step hl hs1
    exact ⟨L', hl', ⟨he.frz, he.mono, he.disc, fun a _ hv => he.vdisc a hv, he.ldisc, fun a h1 h2 => (he.unl a h1 h2).1⟩⟩
  · obtain ⟨h1, -, -, -, -, h5, h6, h7, h8, h9⟩ := sinvl_result hl hs1
    refine ⟨L, h1, ⟨?_, ?_, ?_, ?_, ?_, ?_⟩⟩
    · intro a ha; rw [h6, h7]; exact ⟨ha, rfl⟩
    · intro a ha; rw [h6]; exact ha
    · intro a ha; rw [h6, h7, h8] at ha; simp at ha
    · intro a _ hv; rw [h5] at hv; simp at hv
    · intro a ha; rw [h9] at ha; simp at ha
    · intro a ha hn; exact absurd ha hn

theorem sinv_apply {s s' : St} {t : Tid} {a : Act} {o : Obs} (h : SInv s)
    (hap : model.apply s t a = some (s', o)) : SInv s' := by
  obtain ⟨L, hl⟩ := h
  obtain ⟨L', hl', -⟩ := sinvl_apply hl hap
  exact ⟨L', hl'⟩

theorem sinv_reachable (s : St) (h : model.Reachable init s) : SInv s :=
  model.inv_reachable SInv init ⟨[0, 1], sinv_init⟩ (fun _ _ _ _ _ hi hap => sinv_apply hi hap) s h

/-! ### The abstract state, computed -/

/-- The logical chain from the head, sentinels included (fuel: the number of nodes ever allocated). -/
def chainOf (s : St) : List Nat := walk s.succ s.cnt (some 0)

/-- All linked items (marked or not), in list order. -/
def absNodes (s : St) : List Nat := (chainOf s).filter (fun a => decide (a ≠ 0 ∧ a ≠ 1))

/-- The abstract map: the `(key, payload)` pairs of the unmarked linked items, in list (= key) order. -/
def absMap (s : St) : List (Int × Int) :=
  ((absNodes s).filter (fun a => !s.mark a)).map (fun a => (s.key a, s.val a))

theorem SInvL.chainOf_eq {s : St} {L : List Nat} (h : SInvL s L) : chainOf s = L :=
  walk_of_chain h.chain (length_le_of_nodup_lt h.nodup (fun a ha => h.alloc a ha))

theorem SInvL.mem_absNodes {s : St} {L : List Nat} (h : SInvL s L) (a : Nat) :
    a ∈ absNodes s ↔ (a ∈ L ∧ a ≠ 0 ∧ a ≠ 1) := by
  simp [absNodes, h.chainOf_eq]

theorem SInvL.absNodes_sorted {s : St} {L : List Nat} (h : SInvL s L) :
    (absNodes s).Pairwise (fun a b => s.key a < s.key b) := by
  have hs : (absNodes s).Pairwise (LLt s.key) := by
    unfold absNodes; rw [h.chainOf_eq]; exact h.sorted.filter _
  refine List.Pairwise.imp_of_mem ?_ hs
  intro a b ha hb hab
  have h1 := (h.mem_absNodes a).mp ha
  have h2 := (h.mem_absNodes b).mp hb
  rcases hab.2.2 with e | e | e
  · exact absurd e h1.2.1
  · exact absurd e h2.2.2
  · exact e

theorem SInvL.has_iff {s : St} {L : List Nat} (h : SInvL s L) (k v : Int) :
    Has s.mark s.key s.val L k v ↔ (k, v) ∈ absMap s := by
  simp only [Has, absMap, List.mem_map, List.mem_filter, Prod.mk.injEq, Bool.not_eq_true', h.mem_absNodes]
  constructor
  · rintro ⟨a, ha, h0, h1, h2, h3, h4⟩
    exact ⟨a, ⟨⟨ha, h0, h1⟩, h2⟩, h3, h4⟩
  · rintro ⟨a, ⟨⟨ha, h0, h1⟩, h2⟩, h3, h4⟩
    exact ⟨a, ha, h0, h1, h2, h3, h4⟩

/-- The keys of the abstract map are strictly increasing: no key is present twice. -/
theorem SInvL.absMap_sorted {s : St} {L : List Nat} (h : SInvL s L) :
    (absMap s).Pairwise (fun p q => p.1 < q.1) := by
  unfold absMap
  rw [List.pairwise_map]
  exact h.absNodes_sorted.filter _

theorem mfind_iff_mem : ∀ {m : MapSt}, m.Pairwise (fun p q => p.1 ≠ q.1) → ∀ k v, mfind m k = some v ↔ (k, v) ∈ m
  | [], _, k, v => by simp [mfind]
  | (k1, v1) :: m, hpw, k, v => by
    have hpw' := List.pairwise_cons.mp hpw
    rw [mfind_cons, List.mem_cons]
    by_cases e : k = k1
    · subst e
      simp only [if_true, Option.some.injEq, Prod.mk.injEq, true_and]
      constructor
      · intro h; exact Or.inl h.symm
      · rintro (h | h)
        · exact h.symm
        · exact absurd rfl (hpw'.1 (k, v) h)
    · simp only [e, if_false, Prod.mk.injEq, false_and, false_or]
      exact mfind_iff_mem hpw'.2 k v

theorem SInvL.mfind_absMap {s : St} {L : List Nat} (h : SInvL s L) (k v : Int) :
    mfind (absMap s) k = some v ↔ Has s.mark s.key s.val L k v := by
  rw [h.has_iff]
  exact mfind_iff_mem (h.absMap_sorted.imp (fun hlt => Int.ne_of_lt hlt)) k v

/-! ### Reachable states -/

/-- In every reachable state: the logical chain `chainOf s` starts at the head, ends at the tail and is finite;
    ALL linked nodes (marked ones included) are strictly sorted by key, hence pairwise different; they are allocated
    nodes; the sentinels are never marked.  The words in memory: an unmarked node's `m_pNext` is its logical successor,
    a marked node's `m_pNext` is the marked back-link to the head. -/
theorem reachable_structure (s : St) (h : model.Reachable init s) :
    Chain s.succ (some 0) (chainOf s) ∧ (∃ l, chainOf s = 0 :: (l ++ [1])) ∧
      (chainOf s).Pairwise (LLt s.key) ∧ (absNodes s).Pairwise (fun a b => s.key a < s.key b) ∧ (chainOf s).Nodup ∧
      (∀ a, a ∈ chainOf s → a < s.cnt) ∧ s.mark 0 = false ∧ s.mark 1 = false ∧
      (∀ a, s.mark a = false → s.next a = s.succ a) ∧ (∀ a, s.mark a = true → s.next a = some 0) := by
  obtain ⟨L, hl⟩ := sinv_reachable s h
  rw [hl.chainOf_eq]
  refine ⟨hl.chain, ?_, hl.sorted, hl.absNodes_sorted, hl.nodup, hl.alloc, hl.mark0, hl.mark1, hl.agree, hl.back⟩
  obtain ⟨l, rfl⟩ := hl.head_cons
  have htl := hl.tailIn
  have hso := List.pairwise_cons.mp hl.sorted
  have h1 : 1 ∈ l := by simpa using htl
  -- the tail is the last element: nothing is above it
  obtain ⟨l1, l2, rfl⟩ := List.append_of_mem h1
  have : l2 = [] := by
    cases l2 with
    | nil => rfl
    | cons b l2 =>
      have := (List.pairwise_append.mp hso.2).2.1
      have := (List.pairwise_cons.mp this).1 b (by simp)
      exact absurd rfl this.1
  subst this
  exact ⟨l1, rfl⟩

/-- No key is present twice: the keys of the abstract map are strictly increasing. -/
theorem reachable_no_duplicate_keys (s : St) (h : model.Reachable init s) :
    (absMap s).Pairwise (fun p q => p.1 < q.1) ∧ ((absMap s).map (·.1)).Nodup := by
  obtain ⟨L, hl⟩ := sinv_reachable s h
  refine ⟨hl.absMap_sorted, ?_⟩
  rw [List.Nodup, List.pairwise_map]
  exact hl.absMap_sorted.imp (fun hlt => Int.ne_of_lt hlt)

/-- A marked (logically deleted) node is frozen: no action changes its word or removes its mark. -/
theorem marked_frozen {s s' : St} {t : Tid} {a : Act} {o : Obs} (h : model.Reachable init s)
    (hap : model.apply s t a = some (s', o)) (x : Nat) (hx : s.mark x = true) :
    s'.mark x = true ∧ s'.next x = s.next x := by
  obtain ⟨L, hl⟩ := sinv_reachable s h
  obtain ⟨L', -, he⟩ := sinvl_apply hl hap
  exact he.frz x hx

/-- Only marked nodes leave the chain, and nothing else ever does: a node that is linked or marked stays linked or
    marked; a node that leaves the chain is marked. -/
theorem linked_or_marked_forever {s s' : St} {t : Tid} {a : Act} {o : Obs} (h : model.Reachable init s)
    (hap : model.apply s t a = some (s', o)) (x : Nat) :
    ((x ∈ chainOf s ∨ s.mark x = true) → (x ∈ chainOf s' ∨ s'.mark x = true)) ∧
    (x ∈ chainOf s → x ∉ chainOf s' → s.mark x = true) := by
  obtain ⟨L, hl⟩ := sinv_reachable s h
  obtain ⟨L', hl', he⟩ := sinvl_apply hl hap
  rw [hl.chainOf_eq, hl'.chainOf_eq]
  exact ⟨he.mono x, he.unl x⟩

/-- The linking store puts the new node on the chain, unmarked. -/
theorem insert_links {s s' : St} {t : Tid} {ev : Ev} (h : model.Reachable init s) (hs : step s t = some (s', ev))
    (o : OpK) (n p c : Nat) (hpc : s.pc t = .iLk o n p c) : n ∈ absNodes s' ∧ s'.mark n = false := by
  obtain ⟨L, hl⟩ := sinv_reachable s h
  obtain ⟨L', hl', he⟩ := sinvl_step hl hs
  have h1 := he.linked o n p c hpc
  have hn := hl.priv t n (by simp [hpc, insNode])
  have hn0 : n ≠ 0 := fun e => hn.2.1 (e ▸ hl.zero_mem)
  have hn1 : n ≠ 1 := fun e => hn.2.1 (e ▸ hl.tailIn)
  exact ⟨(hl'.mem_absNodes n).mpr ⟨h1.1, hn0, hn1⟩, h1.2⟩

/-- A node is marked by exactly one `erase` / `extract`, the one that returns success for it.
    (1) The only step that sets the mark of a node `a` is the marking store of a thread erasing `key a`, applied to
        a linked node under its lock; that thread is then going to return `[1, val a]`.
    (2) No two threads are between their marking store and their unlink store for the same node; and a mark is never
        removed (`marked_frozen`), so no second marking of `a` can ever happen. -/
theorem erase_once {s s' : St} {t : Tid} {ev : Ev} (h : model.Reachable init s) (hs : step s t = some (s', ev)) :
    (∀ a, s.mark a = false → s'.mark a = true →
      ∃ o p nx, s.pc t = .eMk o p a nx ∧ s'.pc t = .eUn o p a nx [1, s.val a] ∧ s.key a = okey o ∧
        a ∈ absNodes s ∧ heldC (s.pc t) = some a ∧ lpRet s'.mark s'.key (s'.pc t) = some [1, s.val a]) ∧
    (∀ t1 t2 o1 p1 a x1 r1 o2 p2 x2 r2, s'.pc t1 = .eUn o1 p1 a x1 r1 → s'.pc t2 = .eUn o2 p2 a x2 r2 → t1 = t2) := by
  obtain ⟨L, hl⟩ := sinv_reachable s h
  obtain ⟨L', hl', he⟩ := sinvl_step hl hs
  constructor
  · intro a h1 h2
    obtain ⟨o, p, nx, e1, e2, e3, e4⟩ := he.marks a h1 h2
    have ha0 : a ≠ 0 := by intro e; rw [e, hl'.mark0] at h2; simp at h2
    have ha1 : a ≠ 1 := by intro e; rw [e, hl'.mark1] at h2; simp at h2
    exact ⟨o, p, nx, e1, e2, e3, (hl.mem_absNodes a).mpr ⟨e4, ha0, ha1⟩, by simp [e1, heldC], by simp [e2, lpRet]⟩
  · intro t1 t2 o1 p1 a x1 r1 o2 p2 x2 r2 e1 e2
    exact hl'.mCC t1 t2 a (by simp [e1, heldC]) (by simp [e2, heldC])

/-- Lock discipline.  In every reachable state (1) a lock is held by at most one thread, and its word is set;
    and for every action of a thread `t`: (2) a `m_pNext` word (pointer or mark; also the ghost successor) changes only
    if `t` holds the lock of that node or the node is `t`'s own, not yet linked node; (3) the payload of an existing
    node changes only if `t` holds its lock as `pCur`, and the node is linked and unmarked; (4) a lock word changes
    only by `t` acquiring the free lock or releasing a lock it holds. -/
theorem lock_discipline (s : St) (h : model.Reachable init s) :
    (∀ t1 t2 a, (heldP (s.pc t1) = some a ∨ heldC (s.pc t1) = some a) →
      (heldP (s.pc t2) = some a ∨ heldC (s.pc t2) = some a) → t1 = t2) ∧
    (∀ t a, (heldP (s.pc t) = some a ∨ heldC (s.pc t) = some a) → s.lock a = true) ∧
    (∀ t p c, heldP (s.pc t) = some p → heldC (s.pc t) = some c → p ≠ c) ∧
    (∀ t a s' o, model.apply s t a = some (s', o) →
      (∀ x, (s'.next x ≠ s.next x ∨ s'.mark x ≠ s.mark x ∨ s'.succ x ≠ s.succ x) →
        heldP (s.pc t) = some x ∨ heldC (s.pc t) = some x ∨ insNode (s.pc t) = some x) ∧
      (∀ x, x < s.cnt → s'.val x ≠ s.val x → heldC (s.pc t) = some x ∧ s.mark x = false ∧ x ∈ chainOf s) ∧
      (∀ x, s'.lock x ≠ s.lock x →
        (s.lock x = false ∧ (heldP (s'.pc t) = some x ∨ heldC (s'.pc t) = some x)) ∨
        (s.lock x = true ∧ (heldP (s.pc t) = some x ∨ heldC (s.pc t) = some x)))) := by
  obtain ⟨L, hl⟩ := sinv_reachable s h
  refine ⟨?_, ?_, ?_, ?_⟩
  · intro t1 t2 a h1 h2
    rcases h1 with h1 | h1 <;> rcases h2 with h2 | h2
    · exact hl.mPP t1 t2 a h1 h2
    · exact hl.mPC t1 t2 a h1 h2
    · exact (hl.mPC t2 t1 a h2 h1).symm
    · exact hl.mCC t1 t2 a h1 h2
  · intro t a h1
    rcases h1 with h1 | h1
    · exact hl.lockedP t a h1
    · exact hl.lockedC t a h1
  · intro t p c h1 h2
    exact hl.pneq t p c (heldP_prev h1) (heldC_cur h2)
  · intro t a s' o hap
    obtain ⟨L', -, he⟩ := sinvl_apply hl hap
    refine ⟨he.disc, ?_, he.ldisc⟩
    intro x hx hv
    obtain ⟨e1, e2, e3⟩ := he.vdisc x hx hv
    exact ⟨e1, e2, by rw [hl.chainOf_eq]; exact e3⟩

/-! ### The window between the marking store and the unlink store -/

/-- Every marked node on the chain has been marked by a thread that has not yet executed its unlink store. -/
def Win (s : St) (L : List Nat) : Prop := ∀ a, a ∈ L → s.mark a = true → ∃ t, pcWin (s.pc t) = some a

theorem pcWin_spec {pc : PC} {a : Nat} (h : pcWin pc = some a) : ∃ o p nx r, pc = .eUn o p a nx r := by
  cases pc <;> simp_all [pcWin]

theorem win_apply {s s' : St} {t : Tid} {a : Act} {o : Obs} {L : List Nat} (hl : SInvL s L) (hw : Win s L)
    (hap : model.apply s t a = some (s', o)) : ∃ L', SInvL s' L' ∧ Win s' L' := by
  rcases Model.apply_cases hap with ⟨op, -, hs1, -⟩ | ⟨e, -, hs1, -⟩ | ⟨r, -, hs1, -⟩
  · obtain ⟨h1, h2⟩ := sinvl_invoke hl hs1
    refine ⟨L, h1, ?_⟩
    intro x hx hm
    rw [h2.mark] at hm
    obtain ⟨t2, ht2⟩ := hw x hx hm
    have hne : t2 ≠ t := by intro e; rw [e, h2.was] at ht2; simp [pcWin] at ht2
    exact ⟨t2, by rw [h2.frame t2 hne]; exact ht2⟩
  · obtain ⟨L', hl', he⟩ := sinvl_step hl hs1
    refine ⟨L', hl', ?_⟩
    intro x hx hm
    have hxL : x ∈ L := by
      rcases he.grow x hx with h | h
      · exact h
      · rw [hm] at h; simp at h
    cases hm0 : s.mark x with
    | true =>
      obtain ⟨t2, ht2⟩ := hw x hxL hm0
      have hne : t2 ≠ t := by intro e; rw [e] at ht2; exact he.wout x ht2 hx
      exact ⟨t2, by rw [he.frame t2 hne]; exact ht2⟩
    | false =>
      obtain ⟨o', p', nx', -, e2, -, -⟩ := he.marks x hm0 hm
      exact ⟨t, by simp [e2, pcWin]⟩
  · obtain ⟨h1, hd, -, hfr, -, -, h6, -, -, -⟩ := sinvl_result hl hs1
    refine ⟨L, h1, ?_⟩
    intro x hx hm
    rw [h6] at hm
    obtain ⟨t2, ht2⟩ := hw x hx hm
    have hne : t2 ≠ t := by intro e; rw [e, hd] at ht2; simp [pcWin] at ht2
    exact ⟨t2, by rw [hfr t2 hne]; exact ht2⟩

theorem swin_reachable (s : St) (h : model.Reachable init s) : ∃ L, SInvL s L ∧ Win s L :=
  model.inv_reachable (fun s => ∃ L, SInvL s L ∧ Win s L) init
    ⟨[0, 1], sinv_init, fun a _ hm => by simp [init] at hm⟩
    (fun _ _ _ _ _ hi hap => by obtain ⟨L, h1, h2⟩ := hi; exact win_apply h1 h2 hap) s h

/-- The words in memory differ from the logical chain only inside an eraser's window: a marked node that is still on
    the chain has been marked by a thread that is between its marking store and its unlink store — it holds the locks
    of the node and of its unmarked predecessor `p`, whose word still points to the node. -/
theorem window (s : St) (h : model.Reachable init s) (a : Nat) (ha : a ∈ chainOf s) (hm : s.mark a = true) :
    ∃ t o p nx r, s.pc t = .eUn o p a nx r ∧ s.next p = some a ∧ s.mark p = false ∧ s.succ a = nx := by
  obtain ⟨L, hl, hw⟩ := swin_reachable s h
  rw [hl.chainOf_eq] at ha
  obtain ⟨t, ht⟩ := hw a ha hm
  obtain ⟨o, p, nx, r, hpc⟩ := pcWin_spec ht
  have h1 := hl.unmP t p (by simp [hpc, knowUnmP])
  have h2 := hl.link t p a (by simp [hpc, knowLink])
  exact ⟨t, o, p, nx, r, hpc, by rw [hl.agree p h1]; exact h2, h1, (hl.eun t o p a nx r hpc).1⟩

/-- Under the two locks, the two `is_marked()` tests of `validate` are implied by its pointer comparison: if
    `pPred->m_pNext` is the unmarked pointer to `pCur`, then `pCur` is unmarked as well.  (So a `validate` without
    these tests behaves the same; such a change is visible in the trace only.) -/
theorem validate_marks_redundant (s : St) (h : model.Reachable init s) (t : Tid) (o : OpK) (p c : Nat)
    (hpc : s.pc t = .v1 o p c) (h1 : s.next p = some c) (h2 : s.mark p = false) : s.mark c = false := by
  obtain ⟨L, hl, hw⟩ := swin_reachable s h
  have hprev := hl.lkPrev t p (by simp [hpc, pcPrev])
  have hpL : p ∈ L := hprev.2.resolve_right (by simp [h2])
  obtain ⟨-, hcL, -⟩ := hl.next_mem hpL h2 h1
  cases hm : s.mark c with
  | false => rfl
  | true =>
    obtain ⟨t2, ht2⟩ := hw c hcL hm
    obtain ⟨o2, p2, nx2, r2, hpc2⟩ := pcWin_spec ht2
    have := hl.mCC t t2 c (by simp [hpc, heldC]) (by simp [hpc2, heldC])
    subst this
    rw [hpc] at hpc2; simp at hpc2

/-- Refinement on `absMap`: in a reachable state, the step at which thread `t` fixes its result `r` is the `Spec.map`
    transition of `t`'s operation with result `r` from the abstract map before the step to (a representation of) the
    abstract map after the step; every other step leaves the abstract map unchanged.  A step that fixes the result of
    ANOTHER thread (the marking store, for the readers waiting at the node) does so with a read-only transition on the
    abstract map after the step. -/
theorem step_refines {s s' : St} {t : Tid} {ev : Ev} (h : model.Reachable init s) (hs : step s t = some (s', ev)) :
    (lpRet s.mark s.key (s.pc t) = none → ∀ r, lpRet s'.mark s'.key (s'.pc t) = some r →
      ∃ op m', opOf (s.pc t) = some op ∧ Spec.map.next (absMap s) op r = some m' ∧
        ∀ k v, mfind m' k = some v ↔ (k, v) ∈ absMap s') ∧
    ((lpRet s.mark s.key (s.pc t) ≠ none ∨ lpRet s'.mark s'.key (s'.pc t) = none) →
      ∀ k v, (k, v) ∈ absMap s' ↔ (k, v) ∈ absMap s) ∧
    (∀ t2, t2 ≠ t → lpRet s.mark s.key (s.pc t2) = none → ∀ r, lpRet s'.mark s'.key (s'.pc t2) = some r →
      ∃ op m', opOf (s.pc t2) = some op ∧ Spec.map.next (absMap s') op r = some m' ∧
        ∀ k v, mfind m' k = some v ↔ (k, v) ∈ absMap s') := by
  obtain ⟨L, hl⟩ := sinv_reachable s h
  obtain ⟨L', hl', he⟩ := sinvl_step hl hs
  refine ⟨?_, ?_, ?_⟩
  · intro h1 r h2
    obtain ⟨op, ho, hok⟩ := he.lp h1 r h2
    obtain ⟨m', hm1, hm2⟩ := hok (absMap s) hl.mfind_absMap
    exact ⟨op, m', ho, hm1, fun k v => (hm2 k v).trans (hl'.has_iff k v)⟩
  · intro hc k v
    rw [← hl'.has_iff, ← hl.has_iff]
    exact he.nolp hc k v
  · intro t2 ht h1 r h2
    rw [he.frame t2 ht] at h2
    obtain ⟨op, ho, hok⟩ := he.help t2 ht h1 r h2
    obtain ⟨m', hm1, hm2⟩ := hok (absMap s') hl'.mfind_absMap
    exact ⟨op, m', ho, hm1, fun k v => (hm2 k v).trans (hl'.has_iff k v)⟩

end CdsVerif.Algo.Lazy
