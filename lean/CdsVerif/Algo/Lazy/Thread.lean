/-
  Thread-modular form of the LazyList invariant.

  `SInvL s L` is a conjunction of three kinds of clauses: about the shared memory alone (`MInv`), about the memory and
  the program counter of ONE thread (`TInv`), and about the program counters of TWO threads (`Excl`: what one thread
  owns or has locked, no other thread owns or has locked).  A step of thread `t` rewrites `s.pc t` only, so after it
    * the other threads' `TInv` has to survive the change of the memory (nothing to prove if the memory is unchanged),
    * `TInv` has to be established for the new program counter of `t`,
    * `Excl` has to be established between the new program counter and the others (inherited if the new one owns and
      holds nothing the old one did not).
  `SInvL.frame` is this rule.  For a step that writes memory the first point is `TInv.other`: the effect `StepEff` of
  the step says that it writes only where `t` holds the lock or owns the node, and `Excl` keeps those nodes apart from
  the ones another thread relies on; so `SInvL.step` / `SInvL.write` ask for the effect, the new `MInv` and the new
  `TInv` of `t` only.  `SInvL.move` / `SInvL.pass` are for the steps that leave the memory alone, `SInvL.acquire` /
  `SInvL.release` for the spin locks.
-/
import CdsVerif.Algo.Lazy.Inv
namespace CdsVerif.Algo.Lazy
open CdsVerif.Machine CdsVerif.Spec CdsVerif.Lin
open CdsVerif.Algo.Michael (Chain LPok)

/-- The shared memory of a state: everything but the program counters. -/
structure Mem where
  next : Nat → Option Nat
  mark : Nat → Bool
  lock : Nat → Bool
  key : Nat → Int
  val : Nat → Int
  cnt : Nat
  succ : Nat → Option Nat

def St.mem (s : St) : Mem := ⟨s.next, s.mark, s.lock, s.key, s.val, s.cnt, s.succ⟩

structure MInv (m : Mem) (L : List Nat) : Prop where
  chain : Chain m.succ (some 0) L
  sorted : L.Pairwise (LLt m.key)
  tailIn : 1 ∈ L
  cnt2 : 2 ≤ m.cnt
  alloc : ∀ a, a ∈ L → a < m.cnt
  unalloc : ∀ a, m.cnt ≤ a → m.next a = none ∧ m.succ a = none ∧ m.mark a = false ∧ m.lock a = false
  mark0 : m.mark 0 = false
  mark1 : m.mark 1 = false
  agree : ∀ a, m.mark a = false → m.next a = m.succ a
  back : ∀ a, m.mark a = true → m.next a = some 0

/-- The private node and the successor it has been given, before the linking store. -/
def atLink : PC → Option (Nat × Nat)
  | .iLk _ n _ c => some (n, c)
  | _ => none

/-- The node about to be marked, with the successor read from it. -/
def atMark : PC → Option (Nat × Option Nat)
  | .eMk _ _ c nx => some (c, nx)
  | _ => none

/-- The marked node about to be unlinked, with its saved successor. -/
def atUnlink : PC → Option (Nat × Option Nat)
  | .eUn _ _ c nx _ => some (c, nx)
  | _ => none

/-- What `SInvL` says about a thread at program counter `pc`.  The program counter enters through classifying
    functions only, so that the clauses of two program counters with the same classification are the same
    propositions up to computation. -/
structure TInv (m : Mem) (L : List Nat) (pc : PC) : Prop where
  priv : ∀ n, insNode pc = some n →
    n < m.cnt ∧ n ∉ L ∧ m.mark n = false ∧ m.key n = skey pc ∧ m.val n = sval pc
  lkPrev : ∀ a, pcPrev pc = some a → a ≠ 1 ∧ (a ∈ L ∨ m.mark a = true)
  lkCur : ∀ a, pcCur pc = some a → a ≠ 0 ∧ (a ∈ L ∨ m.mark a = true)
  keyPrev : ∀ a, pcPrev pc = some a → a = 0 ∨ m.key a < skey pc
  keyCur : ∀ a, pcCur pc = some a → a = 1 ∨ skey pc ≤ m.key a
  pneq : ∀ p c, pcPrev pc = some p → pcCur pc = some c → p ≠ c
  nt : ∀ c, pcNT pc = some c → c ≠ 1
  lockedP : ∀ a, heldP pc = some a → m.lock a = true
  lockedC : ∀ a, heldC pc = some a → m.lock a = true
  unmP : ∀ p, knowUnmP pc = some p → m.mark p = false
  unmC : ∀ c, knowUnmC pc = some c → m.mark c = false
  link : ∀ p c, knowLink pc = some (p, c) → m.succ p = some c
  gt : ∀ c, pcGt pc = some c → c = 1 ∨ skey pc < m.key c
  eqk : ∀ c, pcEq pc = some c → c ≠ 1 ∧ m.key c = skey pc
  nlink : ∀ n c, atLink pc = some (n, c) → m.next n = some c ∧ m.succ n = some c
  enx : ∀ c nx, atMark pc = some (c, nx) → m.next c = nx
  eun : ∀ c nx, atUnlink pc = some (c, nx) → m.succ c = nx ∧ m.mark c = true ∧ c ∈ L
  lop : ∀ o, pcLinkOp pc = some o → linkOk o = true
  eop : ∀ o, pcEraOp pc = some o → eraOk o = true

/-- Two threads at `p` and `q` do not own the same private node and do not hold the same lock. -/
structure Excl (p q : PC) : Prop where
  own : ∀ n, insNode p = some n → insNode q ≠ some n
  pp : ∀ a, heldP p = some a → heldP q ≠ some a
  pc : ∀ a, heldP p = some a → heldC q ≠ some a
  cp : ∀ a, heldC p = some a → heldP q ≠ some a
  cc : ∀ a, heldC p = some a → heldC q ≠ some a

/-! ### Agreement with `SInvL`; the rule for one step -/

variable {m : Mem} {s s' : St} {L L' : List Nat} {t u : Tid} {p q : PC}

theorem SInvL.mem (h : SInvL s L) : MInv s.mem L :=
  ⟨h.chain, h.sorted, h.tailIn, h.cnt2, h.alloc, h.unalloc, h.mark0, h.mark1, h.agree, h.back⟩

theorem SInvL.thread (h : SInvL s L) (t : Tid) : TInv s.mem L (s.pc t) :=
  ⟨h.priv t, h.lkPrev t, h.lkCur t, h.keyPrev t, h.keyCur t, h.pneq t, h.nt t, h.lockedP t, h.lockedC t, h.unmP t,
   h.unmC t, h.link t, h.gt t, h.eqk t,
   fun n c e => by
     cases hp : s.pc t <;> simp only [hp, atLink, Option.some.injEq, Prod.mk.injEq, reduceCtorEq] at e
     exact e.1 ▸ e.2 ▸ h.nlink t _ _ _ _ hp,
   fun c nx e => by
     cases hp : s.pc t <;> simp only [hp, atMark, Option.some.injEq, Prod.mk.injEq, reduceCtorEq] at e
     exact e.1 ▸ e.2 ▸ h.enx t _ _ _ _ hp,
   fun c nx e => by
     cases hp : s.pc t <;> simp only [hp, atUnlink, Option.some.injEq, Prod.mk.injEq, reduceCtorEq] at e
     exact e.1 ▸ e.2 ▸ h.eun t _ _ _ _ _ hp,
   h.lop t, h.eop t⟩

theorem SInvL.excl (h : SInvL s L) (hne : t ≠ u) : Excl (s.pc t) (s.pc u) :=
  ⟨fun n e1 e2 => hne (h.own t u n e1 e2), fun a e1 e2 => hne (h.mPP t u a e1 e2),
   fun a e1 e2 => hne (h.mPC t u a e1 e2), fun a e1 e2 => hne (h.mPC u t a e2 e1).symm,
   fun a e1 e2 => hne (h.mCC t u a e1 e2)⟩

theorem SInvL.of_parts (hM : MInv s.mem L) (hT : ∀ t, TInv s.mem L (s.pc t))
    (hE : ∀ t u, t ≠ u → Excl (s.pc t) (s.pc u)) : SInvL s L where
  chain := hM.chain
  sorted := hM.sorted
  tailIn := hM.tailIn
  cnt2 := hM.cnt2
  alloc := hM.alloc
  unalloc := hM.unalloc
  mark0 := hM.mark0
  mark1 := hM.mark1
  agree := hM.agree
  back := hM.back
  priv := fun t => (hT t).priv
  own := fun t u n e1 e2 => Classical.byContradiction fun hne => (hE t u hne).own n e1 e2
  lkPrev := fun t => (hT t).lkPrev
  lkCur := fun t => (hT t).lkCur
  keyPrev := fun t => (hT t).keyPrev
  keyCur := fun t => (hT t).keyCur
  pneq := fun t => (hT t).pneq
  nt := fun t => (hT t).nt
  mPP := fun t u a e1 e2 => Classical.byContradiction fun hne => (hE t u hne).pp a e1 e2
  mPC := fun t u a e1 e2 => Classical.byContradiction fun hne => (hE t u hne).pc a e1 e2
  mCC := fun t u a e1 e2 => Classical.byContradiction fun hne => (hE t u hne).cc a e1 e2
  lockedP := fun t => (hT t).lockedP
  lockedC := fun t => (hT t).lockedC
  unmP := fun t => (hT t).unmP
  unmC := fun t => (hT t).unmC
  link := fun t => (hT t).link
  gt := fun t => (hT t).gt
  eqk := fun t => (hT t).eqk
  nlink := fun t o n p c e => (hT t).nlink n c (by rw [e]; rfl)
  enx := fun t o p c nx e => (hT t).enx c nx (by rw [e]; rfl)
  eun := fun t o p c nx r e => (hT t).eun c nx (by rw [e]; rfl)
  lop := fun t => (hT t).lop
  eop := fun t => (hT t).eop

theorem Excl.symm (h : Excl p q) : Excl q p :=
  ⟨fun n hq hp => h.own n hp hq, fun a hq hp => h.pp a hp hq, fun a hq hp => h.cp a hp hq,
   fun a hq hp => h.pc a hp hq, fun a hq hp => h.cc a hp hq⟩

/-- Exclusion is inherited by a program counter that owns and holds no more. -/
theorem Excl.mono {p p' q : PC} (h : Excl p q) (hi : ∀ n, insNode p' = some n → insNode p = some n)
    (hp : ∀ a, heldP p' = some a → heldP p = some a) (hc : ∀ a, heldC p' = some a → heldC p = some a) : Excl p' q :=
  ⟨fun n e => h.own n (hi n e), fun a e => h.pp a (hp a e), fun a e => h.pc a (hp a e),
   fun a e => h.cp a (hc a e), fun a e => h.cc a (hc a e)⟩

/-- Exclusion against a program counter `q` that owns what `p` owns and holds what `p` holds, and possibly the lock of
    `a` in addition, which no thread at `r` holds. -/
theorem Excl.extend {p q r : PC} {a : Nat} (h : Excl p r) (hr : heldP r ≠ some a ∧ heldC r ≠ some a)
    (hi : ∀ n, insNode q = some n → insNode p = some n)
    (hp : ∀ b, heldP q = some b → b = a ∨ heldP p = some b)
    (hc : ∀ b, heldC q = some b → b = a ∨ heldC p = some b) : Excl q r where
  own := fun n e => h.own n (hi n e)
  pp := fun b e => (hp b e).elim (fun e' => e' ▸ hr.1) (h.pp b)
  pc := fun b e => (hp b e).elim (fun e' => e' ▸ hr.2) (h.pc b)
  cp := fun b e => (hc b e).elim (fun e' => e' ▸ hr.1) (h.cp b)
  cc := fun b e => (hc b e).elim (fun e' => e' ▸ hr.2) (h.cc b)

/-- The rule for one step of thread `t`. -/
theorem SInvL.frame (h : SInvL s L)
    (hpc : ∀ u, u ≠ t → s'.pc u = s.pc u)
    (hM : MInv s'.mem L')
    (hT : TInv s'.mem L' (s'.pc t))
    (hO : ∀ u, u ≠ t → TInv s'.mem L' (s.pc u))
    (hE : ∀ u, u ≠ t → Excl (s'.pc t) (s.pc u)) : SInvL s' L' :=
  SInvL.of_parts hM (frame_each hpc hT hO) fun _ _ => frame_pairs @Excl.symm hpc (fun _ _ => h.excl) hE

/-! ### What a program counter implies -/

theorem atLink_ins {pc : PC} {n c : Nat} (h : atLink pc = some (n, c)) : insNode pc = some n := by
  cases pc <;> simp_all [atLink, insNode]

theorem atMark_held {pc : PC} {c : Nat} {nx : Option Nat} (h : atMark pc = some (c, nx)) : heldC pc = some c := by
  cases pc <;> simp_all [atMark, heldC]

theorem atUnlink_held {pc : PC} {c : Nat} {nx : Option Nat} (h : atUnlink pc = some (c, nx)) : heldC pc = some c := by
  cases pc <;> simp_all [atUnlink, heldC]

theorem pcGt_cur {pc : PC} {c : Nat} (h : pcGt pc = some c) : pcCur pc = some c := by
  cases pc <;> simp_all [pcGt, pcCur]

theorem pcEq_cur {pc : PC} {c : Nat} (h : pcEq pc = some c) : pcCur pc = some c := by
  cases pc <;> simp_all [pcEq, pcCur]

theorem TInv.done {r : GRet} : TInv m L (.done r) := by
  constructor <;> nofun

theorem TInv.idle : TInv m L .idle := by
  constructor <;> nofun

/-- At the start of `search` a thread refers to `pPrev` only. -/
theorem TInv.search {o : OpK} {p : Nat}
    (hpriv : ∀ n, onode o = some n → n < m.cnt ∧ n ∉ L ∧ m.mark n = false ∧ m.key n = okey o ∧ m.val n = oval o)
    (hp : p ≠ 1 ∧ (p ∈ L ∨ m.mark p = true)) (hk : p = 0 ∨ m.key p < okey o) : TInv m L (.sLd1 o p) :=
  { priv := hpriv, lkPrev := fun _ e => Option.some.inj e ▸ hp, keyPrev := fun _ e => Option.some.inj e ▸ hk,
    lkCur := nofun, keyCur := nofun, pneq := nofun, nt := nofun, lockedP := nofun, lockedC := nofun, unmP := nofun,
    unmC := nofun, link := nofun, gt := nofun, eqk := nofun, nlink := nofun, enx := nofun, eun := nofun,
    lop := nofun, eop := nofun }

theorem TInv.held_mem (h : TInv m L q) {a : Nat}
    (ha : heldP q = some a ∨ heldC q = some a) : a ∈ L ∨ m.mark a = true :=
  ha.elim (fun e => (h.lkPrev a (heldP_prev e)).2) (fun e => (h.lkCur a (heldC_cur e)).2)

/-- A node seen unmarked under its lock is on the list. -/
theorem TInv.unmP_mem (h : TInv m L q) {a : Nat} (e : knowUnmP q = some a) : a ∈ L :=
  (h.lkPrev a (heldP_prev (knowUnmP_held e))).2.resolve_right (by rw [h.unmP a e]; exact Bool.false_ne_true)

theorem TInv.unmC_mem (h : TInv m L q) {a : Nat} (e : knowUnmC q = some a) : a ∈ L :=
  (h.lkCur a (heldC_cur (knowUnmC_held e))).2.resolve_right (by rw [h.unmC a e]; exact Bool.false_ne_true)

theorem TInv.own_not_held (hP : TInv m L p) (hQ : TInv m L q) {a : Nat}
    (hp : insNode p = some a) (hq : heldP q = some a ∨ heldC q = some a) : False := by
  have h1 := hP.priv a hp
  rcases hQ.held_mem hq with h2 | h2
  · exact h1.2.1 h2
  · rw [h1.2.2.1] at h2; cases h2

/-- Nodes one thread holds or owns, no other thread holds or owns. -/
theorem TInv.apart (hP : TInv m L p) (hQ : TInv m L q) (hx : Excl p q) {a : Nat}
    (hp : heldP p = some a ∨ heldC p = some a ∨ insNode p = some a)
    (hq : heldP q = some a ∨ heldC q = some a ∨ insNode q = some a) : False := by
  rcases hp with hp | hp | hp <;> rcases hq with hq | hq | hq
  · exact hx.pp a hp hq
  · exact hx.pc a hp hq
  · exact hQ.own_not_held hP hq (Or.inl hp)
  · exact hx.cp a hp hq
  · exact hx.cc a hp hq
  · exact hQ.own_not_held hP hq (Or.inr hp)
  · exact hP.own_not_held hQ hp (Or.inl hq)
  · exact hP.own_not_held hQ hp (Or.inr hq)
  · exact hx.own a hp hq

/-! ### The effect of a step that writes no `m_pNext` word -/

/-- A reader at the inner node `c` has no answer yet exactly while `c` is unmarked and carries its key. -/
theorem wRet_cases (mark : Nat → Bool) (key : Nat → Int) (k : Int) (c : Nat) :
    (wRet mark key k c = none ∧ mark c = false ∧ key c = k) ∨
    (wRet mark key k c = some [0] ∧ ¬ (mark c = false ∧ key c = k)) := by
  unfold wRet
  by_cases hk : key c = k
  · cases hm : mark c
    · exact Or.inl ⟨by simp [hk], rfl, hk⟩
    · exact Or.inr ⟨by simp [hk], by simp⟩
  · exact Or.inr ⟨by simp [hk], fun e => hk e.2⟩

/-- The effect of a step of `t` from `p` to `q` that writes nothing but its program counter, lock words and payloads. -/
theorem StepEff.quiet {lock' : Nat → Bool} {val' : Nat → Int}
    (hpc : s.pc t = p)
    (hlp : lpRet s.mark s.key p = none → ∀ r, lpRet s.mark s.key q = some r →
      ∃ op, opOf p = some op ∧ LPok (Has s.mark s.key s.val L) op r (Has s.mark s.key val' L))
    (hnolp : (lpRet s.mark s.key p ≠ none ∨ lpRet s.mark s.key q = none) →
      ∀ k v, Has s.mark s.key val' L k v ↔ Has s.mark s.key s.val L k v)
    (hkeep : ∀ r, lpRet s.mark s.key p = some r → lpRet s.mark s.key q = some r)
    (hop : ∀ op, opOf q = some op → opOf p = some op)
    (hlock : ∀ a, lock' a ≠ s.lock a →
      (s.lock a = false ∧ (heldP q = some a ∨ heldC q = some a)) ∨
      (s.lock a = true ∧ (heldP p = some a ∨ heldC p = some a)))
    (hval : ∀ a, val' a ≠ s.val a → heldC p = some a ∧ s.mark a = false ∧ a ∈ L)
    (hbusy : p ≠ .idle ∧ q ≠ .idle := by exact ⟨nofun, nofun⟩)
    (hnl : atLink p = none := by rfl)
    (hw : pcWin p = none := by rfl) :
    StepEff s t { s with pc := upd s.pc t q, lock := lock', val := val' } L L := by
  subst hpc
  exact {
    frame := fun u hu => upd_other _ _ _ _ hu
    key := rfl
    cnt := rfl
    lp := fun h0 r h1 => hlp h0 r (by simpa using h1)
    nolp := fun h0 => hnolp (by simpa using h0)
    keep := fun r h0 => by simpa using hkeep r h0
    help := fun u _ h0 r h1 => by rw [h0] at h1; cases h1
    keepo := fun _ _ _ h0 => h0
    op := fun op h0 => hop op (by simpa using h0)
    busy := ⟨hbusy.1, by simpa using hbusy.2⟩
    mono := fun _ h0 => h0
    frz := fun _ h0 => ⟨h0, rfl⟩
    disc := fun a h0 => by simp at h0
    vdisc := hval
    ldisc := fun a h0 => by simpa using hlock a h0
    linked := fun o n p c h0 => by rw [h0] at hnl; cases hnl
    marks := fun a h0 h1 => by simp [h0] at h1
    unl := fun a h0 h1 => absurd h0 h1
    grow := fun _ h0 => Or.inl h0
    wout := fun a h0 => by rw [hw] at h0; cases h0 }

/-- The effect of a step that writes only the program counter of `t`, which had fixed no result at `p`. -/
theorem StepEff.answer (hpc : s.pc t = p)
    (h0 : lpRet s.mark s.key p = none)
    (hlp : ∀ r, lpRet s.mark s.key q = some r →
      ∃ op, opOf p = some op ∧ LPok (Has s.mark s.key s.val L) op r (Has s.mark s.key s.val L))
    (hop : ∀ op, opOf q = some op → opOf p = some op)
    (hbusy : p ≠ .idle ∧ q ≠ .idle := by exact ⟨nofun, nofun⟩)
    (hnl : atLink p = none := by rfl)
    (hw : pcWin p = none := by rfl) :
    StepEff s t { s with pc := upd s.pc t q } L L :=
  StepEff.quiet hpc (fun _ => hlp) (fun _ _ _ => Iff.rfl) (fun r e => by rw [h0] at e; cases e) hop
    (fun _ e => absurd rfl e) (fun _ e => absurd rfl e) hbusy hnl hw

/-- The effect of a step that writes only the program counter of `t` and lock words, when `q` has fixed the result
    that `p` had fixed, or none. -/
theorem StepEff.silent {lock' : Nat → Bool} (hpc : s.pc t = p)
    (hlp : lpRet s.mark s.key q = lpRet s.mark s.key p)
    (hop : ∀ op, opOf q = some op → opOf p = some op)
    (hlock : ∀ a, lock' a ≠ s.lock a →
      (s.lock a = false ∧ (heldP q = some a ∨ heldC q = some a)) ∨
      (s.lock a = true ∧ (heldP p = some a ∨ heldC p = some a)))
    (hbusy : p ≠ .idle ∧ q ≠ .idle := by exact ⟨nofun, nofun⟩)
    (hnl : atLink p = none := by rfl)
    (hw : pcWin p = none := by rfl) :
    StepEff s t { s with pc := upd s.pc t q, lock := lock' } L L :=
  StepEff.quiet hpc (fun h0 r h1 => by rw [hlp, h0] at h1; cases h1) (fun _ _ _ => Iff.rfl) (fun r h0 => hlp ▸ h0) hop
    hlock (fun _ e => absurd rfl e) hbusy hnl hw

/-! ### The kinds of step -/

/-- What is shown of a step of `t` from `s` to `s'`: the invariant again, for some list, and the effect. -/
abbrev StepOk (s : St) (t : Tid) (s' : St) (L : List Nat) : Prop := ∃ L', SInvL s' L' ∧ StepEff s t s' L L'

/-- A step that only moves the program counter of `t` from `p` to a `q` that owns and holds no more. -/
theorem SInvL.move (h : SInvL s L) (hpc : s.pc t = p)
    (hT : TInv s.mem L q)
    (hi : ∀ n, insNode q = some n → insNode p = some n)
    (hp : ∀ a, heldP q = some a → heldP p = some a)
    (hc : ∀ a, heldC q = some a → heldC p = some a) :
    SInvL { s with pc := upd s.pc t q } L := by
  subst hpc
  exact h.frame (s' := { s with pc := upd s.pc t q }) (fun u hu => upd_other _ _ _ _ hu) h.mem
    (by rw [show ({ s with pc := upd s.pc t q } : St).pc t = q from upd_same _ _ _]; exact hT)
    (fun u _ => h.thread u)
    (fun u hu => by
      rw [show ({ s with pc := upd s.pc t q } : St).pc t = q from upd_same _ _ _]
      exact (h.excl (Ne.symm hu)).mono hi hp hc)

/-- A step of `t` from `p` to a `q` that owns and holds the same, has fixed the same result and executes the same
    operation, and that writes nothing else: only what `q` refers to and knows has to be shown. -/
theorem SInvL.pass (h : SInvL s L) (hpc : s.pc t = p)
    (hT : TInv s.mem L q) (hi : insNode q = insNode p := by rfl) (hp : heldP q = heldP p := by rfl)
    (hc : heldC q = heldC p := by rfl) (hlp : lpRet s.mark s.key q = lpRet s.mark s.key p := by rfl)
    (hop : opOf q = opOf p := by rfl) (hbusy : opOf p ≠ none := by nofun) (hnl : atLink p = none := by rfl)
    (hw : pcWin p = none := by rfl) :
    StepOk s t { s with pc := upd s.pc t q } L :=
  ⟨L, h.move hpc hT (fun _ e => hi ▸ e) (fun _ e => hp ▸ e) (fun _ e => hc ▸ e),
    StepEff.silent hpc hlp (fun _ e => hop ▸ e) (fun _ e => absurd rfl e)
      ⟨fun e => hbusy (e ▸ rfl), fun e => hbusy (hop ▸ e ▸ rfl)⟩ hnl hw⟩

/-- What another thread relies on survives a step of `t`: the step changes only words of nodes that `t` holds or owns
    (`StepEff.disc`, `vdisc`, `ldisc`, `unl`), and no other thread holds or owns those. -/
theorem TInv.other (h : SInvL s L) (he : StepEff s t s' L L') (hu : u ≠ t)
    (hgrow : ∀ a, a ∈ L' → a ∈ L ∨ insNode (s.pc t) = some a) : TInv s'.mem L' (s.pc u) := by
  have hP := h.thread t
  have hQ := h.thread u
  have hx := h.excl (Ne.symm hu)
  have same : ∀ a, heldP (s.pc u) = some a ∨ heldC (s.pc u) = some a ∨ insNode (s.pc u) = some a →
      s'.next a = s.next a ∧ s'.mark a = s.mark a ∧ s'.succ a = s.succ a := fun a ha =>
    have hn := fun hne => hP.apart hQ hx (he.disc a hne) ha
    ⟨Decidable.of_not_not fun e => hn (Or.inl e), Decidable.of_not_not fun e => hn (Or.inr (Or.inl e)),
     Decidable.of_not_not fun e => hn (Or.inr (Or.inr e))⟩
  have locked : ∀ a, heldP (s.pc u) = some a ∨ heldC (s.pc u) = some a → s.lock a = true → s'.lock a = true := by
    intro a ha hl
    apply Classical.byContradiction
    intro hne
    rcases he.ldisc a (by rw [hl]; exact hne) with ⟨hf, -⟩ | ⟨-, ht⟩
    · rw [hl] at hf; cases hf
    · exact hP.apart hQ hx (ht.elim Or.inl (fun e => Or.inr (Or.inl e))) (ha.elim Or.inl (fun e => Or.inr (Or.inl e)))
  have stays : ∀ a, heldC (s.pc u) = some a → a ∈ L → a ∈ L' := by
    intro a ha hL
    apply Classical.byContradiction
    intro hn
    obtain ⟨-, o, p, nx, r, e⟩ := he.unl a hL hn
    exact hx.cc a (by rw [e]; rfl) ha
  have hk : s'.mem.key = s.key := he.key
  exact {
    priv := fun n e => by
      have hp := hQ.priv n e
      refine ⟨?_, fun hn => (hgrow n hn).elim hp.2.1 (fun e' => hx.own n e' e), ?_, ?_, ?_⟩
      · rw [show s'.mem.cnt = s.cnt from he.cnt]; exact hp.1
      · exact (same n (.inr (.inr e))).2.1.trans hp.2.2.1
      · rw [hk]; exact hp.2.2.2.1
      · exact (Decidable.of_not_not fun hne => hp.2.1 (he.vdisc n hne).2.2).trans hp.2.2.2.2
    lkPrev := fun a e => ⟨(hQ.lkPrev a e).1, he.mono a (hQ.lkPrev a e).2⟩
    lkCur := fun a e => ⟨(hQ.lkCur a e).1, he.mono a (hQ.lkCur a e).2⟩
    keyPrev := fun a e => by rw [hk]; exact hQ.keyPrev a e
    keyCur := fun a e => by rw [hk]; exact hQ.keyCur a e
    pneq := hQ.pneq
    nt := hQ.nt
    lockedP := fun a e => locked a (Or.inl e) (hQ.lockedP a e)
    lockedC := fun a e => locked a (Or.inr e) (hQ.lockedC a e)
    unmP := fun a e => (same a (.inl (knowUnmP_held e))).2.1.trans (hQ.unmP a e)
    unmC := fun a e => (same a (.inr (.inl (knowUnmC_held e)))).2.1.trans (hQ.unmC a e)
    link := fun a c e => (same a (.inl (knowLink_held e))).2.2.trans (hQ.link a c e)
    gt := fun a e => by rw [hk]; exact hQ.gt a e
    eqk := fun a e => by rw [hk]; exact hQ.eqk a e
    nlink := fun n c e => by
      have hs := same n (.inr (.inr (atLink_ins e)))
      exact ⟨hs.1.trans (hQ.nlink n c e).1, hs.2.2.trans (hQ.nlink n c e).2⟩
    enx := fun c nx e => (same c (.inr (.inl (atMark_held e)))).1.trans (hQ.enx c nx e)
    eun := fun c nx e => by
      have hs := same c (.inr (.inl (atUnlink_held e)))
      have hq := hQ.eun c nx e
      exact ⟨hs.2.2.trans hq.1, hs.2.1.trans hq.2.1, stays c (atUnlink_held e) hq.2.2⟩
    lop := hQ.lop
    eop := hQ.eop }

/-- The rule for a step of `t` from `p` to `q` with effect `he`. -/
theorem SInvL.step (h : SInvL s L) (hpc : s.pc t = p) (hq : s'.pc t = q) (he : StepEff s t s' L L')
    (hgrow : ∀ a, a ∈ L' → a ∈ L ∨ insNode p = some a) (hM : MInv s'.mem L') (hT : TInv s'.mem L' q)
    (hE : ∀ u, u ≠ t → Excl q (s.pc u)) : SInvL s' L' := by
  subst hpc hq
  exact h.frame he.frame hM hT (fun _ hu => TInv.other h he hu hgrow) hE

/-- The same, where `q` owns and holds no more than `p`. -/
theorem SInvL.write (h : SInvL s L) (hpc : s.pc t = p) (hq : s'.pc t = q) (he : StepEff s t s' L L')
    (hgrow : ∀ a, a ∈ L' → a ∈ L ∨ insNode p = some a) (hM : MInv s'.mem L') (hT : TInv s'.mem L' q)
    (hi : ∀ n, insNode q = some n → insNode p = some n)
    (hp : ∀ a, heldP q = some a → heldP p = some a)
    (hc : ∀ a, heldC q = some a → heldC p = some a) : SInvL s' L' :=
  h.step hpc hq he hgrow hM hT fun _ hu => (hpc ▸ h.excl (Ne.symm hu)).mono hi hp hc

/-- The lock words enter `MInv` only for the unallocated nodes. -/
theorem MInv.with_lock {lock' : Nat → Bool} (h : MInv m L) (hun : ∀ b, m.cnt ≤ b → lock' b = false) :
    MInv ⟨m.next, m.mark, lock', m.key, m.val, m.cnt, m.succ⟩ L :=
  { h with unalloc := fun b hb => ⟨(h.unalloc b hb).1, (h.unalloc b hb).2.1, (h.unalloc b hb).2.2.1, hun b hb⟩ }

/-- Thread `t` at `p` takes the free lock of the node `a` and moves to `q`, which holds `a` and is otherwise like `p`. -/
theorem SInvL.acquire {a : Nat} (h : SInvL s L) (hpc : s.pc t = p)
    (ha : a ∈ L ∨ s.mark a = true) (hfree : s.lock a = false)
    (hT : TInv ⟨s.next, s.mark, upd s.lock a true, s.key, s.val, s.cnt, s.succ⟩ L q)
    (hq : heldP q = some a ∨ heldC q = some a)
    (hp : heldP q = some a ∨ heldP q = heldP p) (hc : heldC q = some a ∨ heldC q = heldC p)
    (hi : insNode q = insNode p := by rfl) (hlp : lpRet s.mark s.key q = lpRet s.mark s.key p := by rfl)
    (hop : opOf q = opOf p := by rfl) (hbusy : opOf p ≠ none := by nofun) (hnl : atLink p = none := by rfl)
    (hw : pcWin p = none := by rfl) :
    StepOk s t { s with lock := upd s.lock a true, pc := upd s.pc t q } L := by
  subst hpc
  have he : StepEff s t { s with lock := upd s.lock a true, pc := upd s.pc t q } L L :=
    StepEff.silent rfl hlp (fun _ e => hop ▸ e) (fun b e => by rw [eq_of_upd_ne e]; exact Or.inl ⟨hfree, hq⟩)
      ⟨fun e => hbusy (e ▸ rfl), fun e => hbusy (hop ▸ e ▸ rfl)⟩ hnl hw
  refine ⟨L, h.step rfl (upd_same _ _ _) he (fun _ e => Or.inl e) (h.mem.with_lock fun b hb => ?_) hT
    (fun u hu => ?_), he⟩
  · exact (upd_other _ _ _ _ (Nat.ne_of_gt (Nat.lt_of_lt_of_le (h.lt_cnt ha) hb))).trans (h.unalloc b hb).2.2.2
  · refine (h.excl (Ne.symm hu)).extend ⟨fun e => ?_, fun e => ?_⟩ (fun _ e => hi ▸ e)
      (fun b e => hp.imp (fun e' => Option.some.inj (e.symm.trans e')) (fun e' => e'.symm.trans e))
      (fun b e => hc.imp (fun e' => Option.some.inj (e.symm.trans e')) (fun e' => e'.symm.trans e))
    · exact Bool.false_ne_true (hfree ▸ (h.thread u).lockedP a e)
    · exact Bool.false_ne_true (hfree ▸ (h.thread u).lockedC a e)

/-- Thread `t` at `p` releases the lock of `a`, which it holds, and moves to a `q` that holds no more. -/
theorem SInvL.release {a : Nat} (h : SInvL s L) (hpc : s.pc t = p)
    (ha : heldP p = some a ∨ heldC p = some a)
    (hT : TInv ⟨s.next, s.mark, upd s.lock a false, s.key, s.val, s.cnt, s.succ⟩ L q)
    (hp : ∀ b, heldP q = some b → heldP p = some b)
    (hc : ∀ b, heldC q = some b → heldC p = some b)
    (hop : ∀ op, opOf q = some op → opOf p = some op) (hq : q ≠ .idle)
    (hi : insNode q = insNode p := by rfl) (hlp : lpRet s.mark s.key q = lpRet s.mark s.key p := by rfl)
    (hbusy : opOf p ≠ none := by nofun) (hnl : atLink p = none := by rfl) (hw : pcWin p = none := by rfl) :
    StepOk s t { s with lock := upd s.lock a false, pc := upd s.pc t q } L := by
  subst hpc
  have he : StepEff s t { s with lock := upd s.lock a false, pc := upd s.pc t q } L L :=
    StepEff.silent rfl hlp hop
      (fun b e => by
        rw [eq_of_upd_ne e]
        exact Or.inr ⟨ha.elim ((h.thread t).lockedP a) ((h.thread t).lockedC a), ha⟩)
      ⟨fun e => hbusy (e ▸ rfl), hq⟩ hnl hw
  refine ⟨L, h.write rfl (upd_same _ _ _) he (fun _ e => Or.inl e) (h.mem.with_lock fun b hb => ?_) hT
    (fun _ e => hi ▸ e) hp hc, he⟩
  by_cases e : b = a
  · rw [e]; exact upd_same _ _ _
  · exact (upd_other _ _ _ _ e).trans (h.unalloc b hb).2.2.2

/-- Storing an unmarked pointer into the word of the allocated, unmarked node `a`, together with the logical successor. -/
theorem MInv.store {a : Nat} {x : Option Nat} (hM : MInv m L) (ha : a < m.cnt)
    (hm : m.mark a = false) (hch : Chain (upd m.succ a x) (some 0) L') (hso : L'.Pairwise (LLt m.key)) (htl : 1 ∈ L')
    (hal : ∀ b, b ∈ L' → b < m.cnt) :
    MInv ⟨upd m.next a x, m.mark, m.lock, m.key, m.val, m.cnt, upd m.succ a x⟩ L' :=
  { chain := hch
    sorted := hso
    tailIn := htl
    cnt2 := hM.cnt2
    alloc := hal
    unalloc := fun b hb =>
      have hne : b ≠ a := Nat.ne_of_gt (Nat.lt_of_lt_of_le ha hb)
      have hu := hM.unalloc b hb
      ⟨(upd_other _ _ _ _ hne).trans hu.1, (upd_other _ _ _ _ hne).trans hu.2.1, hu.2.2⟩
    mark0 := hM.mark0
    mark1 := hM.mark1
    agree := fun b hb => by
      by_cases e : b = a
      · rw [e]; exact (upd_same _ _ _).trans (upd_same _ _ _).symm
      · exact (upd_other _ _ _ _ e).trans ((hM.agree b hb).trans (upd_other _ _ _ _ e).symm)
    back := fun b (hb : m.mark b = true) =>
      (upd_other _ _ _ _ (fun e => by rw [e, hm] at hb; cases hb)).trans (hM.back b hb) }

/-- The nodes a thread refers to are allocated, so it does not see the initialization of a fresh node. -/
theorem TInv.alloc (h : TInv m L q)
    (hlt : ∀ a, a ∈ L ∨ m.mark a = true → a < m.cnt) (k v : Int) :
    TInv ⟨m.next, m.mark, m.lock, upd m.key m.cnt k, upd m.val m.cnt v, m.cnt + 1, m.succ⟩ L q := by
  have prev : ∀ a, pcPrev q = some a → upd m.key m.cnt k a = m.key a := fun a e =>
    upd_other _ _ _ _ (Nat.ne_of_lt (hlt a (h.lkPrev a e).2))
  have cur : ∀ a, pcCur q = some a → upd m.key m.cnt k a = m.key a := fun a e =>
    upd_other _ _ _ _ (Nat.ne_of_lt (hlt a (h.lkCur a e).2))
  exact { h with
    priv := fun n e => by
      have hp := h.priv n e
      have hn : n ≠ m.cnt := Nat.ne_of_lt hp.1
      exact ⟨Nat.lt_succ_of_lt hp.1, hp.2.1, hp.2.2.1, (upd_other _ _ _ _ hn).trans hp.2.2.2.1,
        (upd_other _ _ _ _ hn).trans hp.2.2.2.2⟩
    keyPrev := fun a e => by rw [show Mem.key _ a = _ from prev a e]; exact h.keyPrev a e
    keyCur := fun a e => by rw [show Mem.key _ a = _ from cur a e]; exact h.keyCur a e
    gt := fun a e => by rw [show Mem.key _ a = _ from cur a (pcGt_cur e)]; exact h.gt a e
    eqk := fun a e => by rw [show Mem.key _ a = _ from cur a (pcEq_cur e)]; exact h.eqk a e }

end CdsVerif.Algo.Lazy
