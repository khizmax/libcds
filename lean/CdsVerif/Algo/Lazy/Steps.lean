/-
  Preservation of the LazyList invariant, and the effect on the abstract map, for the steps that write no `m_pNext`
  word: the loads of `search` and `validate`, the decision taken under the locks, the spin locks, the checks of
  `find` / `contains`.  Each is an instance of `SInvL.pass`, `SInvL.move`, `SInvL.acquire` or `SInvL.release` (the payload
  write of `update` under the lock: `SInvL.write`); what the new program counter knows in addition is what the load has
  just read.
-/
import CdsVerif.Algo.Lazy.Thread
namespace CdsVerif.Algo.Lazy
open CdsVerif.Machine CdsVerif.Spec CdsVerif.Lin
open CdsVerif.Algo.Michael (LPok)

variable {s s' : St} {t : Tid} {ev : Ev} {L : List Nat}

theorem sinvl_step_sLd1 {o : OpK} {p : Nat}
    (h : SInvL s L) (hpc : s.pc t = .sLd1 o p) (hs : step s t = some (s', ev)) : StepOk s t s' L := by
  have hT := hpc ▸ h.thread t
  simp only [step, hpc] at hs
  simp at hs; obtain ⟨rfl, -⟩ := hs
  exact h.pass hpc { hT with }

theorem sinvl_step_sLd2 {o : OpK} {p : Nat} {x : Option Nat} {mk : Bool}
    (h : SInvL s L) (hpc : s.pc t = .sLd2 o p x mk) (hs : step s t = some (s', ev)) : StepOk s t s' L := by
  have hT := hpc ▸ h.thread t
  have hprev : p ≠ 1 ∧ (p ∈ L ∨ s.mark p = true) := hT.lkPrev p rfl
  have hkprev : p = 0 ∨ s.key p < okey o := hT.keyPrev p rfl
  -- `search` goes on, or starts again, at `p'`
  have goOn : ∀ p', p' ≠ 1 → (p' ∈ L ∨ s.mark p' = true) → (p' = 0 ∨ s.key p' < okey o) →
      StepOk s t { s with pc := upd s.pc t (.sLd1 o p') } L := fun p' h1 h2 h3 =>
    h.pass hpc
      { hT with
        lkPrev := fun _ e => Option.some.inj e ▸ ⟨h1, h2⟩
        keyPrev := fun _ e => Option.some.inj e ▸ h3
        pneq := nofun }
  have restart := goOn 0 (by decide) (Or.inl h.zero_mem) (Or.inl rfl)
  -- `search` returns `(p, c)`
  have stop : ∀ c, s.mark p = false → s.next p = some c → (c = 1 ∨ okey o ≤ s.key c) →
      StepOk s t { s with pc := upd s.pc t (afterSearch o p c) } L := by
    intro c hm hx hck
    have hpL : p ∈ L := hprev.2.resolve_right (by rw [hm]; exact Bool.false_ne_true)
    obtain ⟨hc0, hcL, hsc⟩ := h.next_mem hpL hm hx
    have hne : p ≠ c := by
      rintro rfl
      rcases hck with e | e
      · exact hprev.1 e
      · rcases hkprev with e' | e'
        · exact hc0 e'
        · omega
    have locks : StepOk s t { s with pc := upd s.pc t (.lkP o p c) } L :=
      h.pass hpc
        { hT with
          lkCur := fun _ e => Option.some.inj e ▸ ⟨hc0, Or.inl hcL⟩
          keyCur := fun _ e => Option.some.inj e ▸ hck
          pneq := fun _ _ e1 e2 => Option.some.inj e1 ▸ Option.some.inj e2 ▸ hne }
    -- a reader stops at the tail: its key is absent
    have tail : c = 1 → absentRet o = some [0] →
        StepOk s t { s with pc := upd s.pc t (.done [0]) } L := fun e ho =>
      ⟨L, h.move hpc TInv.done nofun nofun nofun,
        StepEff.answer hpc rfl
          (fun r er => ⟨gop o, rfl, Option.some.inj er ▸ h.lp_absent hpL hprev.1 hkprev hsc (Or.inl e) ho⟩) nofun⟩
    -- a reader stops at an inner node: its key is absent if the node has another key or is marked
    have inner : ∀ r, c ≠ 1 → wRet s.mark s.key (okey o) c = some r → absentRet o = some [0] →
        LPok (Has s.mark s.key s.val L) (gop o) r (Has s.mark s.key s.val L) := fun r hc1 hr ho => by
      rcases wRet_cases s.mark s.key (okey o) c with ⟨hw, -⟩ | ⟨hw, hm⟩
      · rw [hw] at hr; cases hr
      obtain rfl : [0] = r := Option.some.inj (hw.symm.trans hr)
      by_cases hk : s.key c = okey o
      · exact h.lp_absent_marked hcL hc0 hc1 (eq_true_of_ne_false fun e => hm ⟨e, hk⟩) hk ho
      · exact h.lp_absent hpL hprev.1 hkprev hsc (Or.inr (by have := hck.resolve_left hc1; omega)) ho
    have hR : c ≠ 1 → TInv s.mem L (.fLk (okey o) c) := fun hc1 =>
      { hT with
        priv := nofun
        lkPrev := nofun
        keyPrev := nofun
        lkCur := fun _ e => Option.some.inj e ▸ ⟨hc0, Or.inl hcL⟩
        keyCur := fun _ e => Option.some.inj e ▸ hck
        pneq := nofun
        nt := fun _ e => Option.some.inj e ▸ hc1 }
    cases o with
    | ins n k v => exact locks
    | upd n k v allow repl => exact locks
    | era k => exact locks
    | ext k => exact locks
    | fnd k =>
      by_cases e : c = 1
      · rw [show afterSearch (.fnd k) p c = .done [0] from if_pos e]
        exact tail e rfl
      · rw [show afterSearch (.fnd k) p c = .fLk k c from if_neg e]
        exact ⟨L, h.move hpc (hR e) nofun nofun nofun,
          StepEff.answer hpc rfl (fun r er => ⟨_, rfl, inner r e er rfl⟩) (fun _ e => e)⟩
    | con k =>
      by_cases e : c = 1
      · rw [show afterSearch (.con k) p c = .done [0] from if_pos e]
        exact tail e rfl
      · rw [show afterSearch (.con k) p c = .cChk k c from if_neg e]
        exact ⟨L, h.move hpc (q := .cChk k c) { hR e with } nofun nofun nofun,
          StepEff.answer hpc rfl (fun r er => ⟨_, rfl, inner r e er rfl⟩) (fun _ e => e)⟩
  simp only [step, hpc] at hs
  split at hs
  next heq =>
    simp at hs; obtain ⟨rfl, -⟩ := hs
    obtain ⟨hx, hmk⟩ := heq
    cases x with
    | none => exact goOn p hprev.1 hprev.2 hkprev
    | some c =>
      cases mk with
      | true => exact restart
      | false =>
        simp only [afterLoad, Bool.false_eq_true, if_false]
        split
        next e => exact stop 1 hmk (e ▸ hx) (Or.inl rfl)
        next e1 =>
          split
          next => exact restart
          next =>
            split
            next e3 => exact stop c hmk hx (Or.inr e3)
            next e3 =>
              have hpL : p ∈ L := hprev.2.resolve_right (by rw [hmk]; exact Bool.false_ne_true)
              exact goOn c e1 (Or.inl (h.next_mem hpL hmk hx).2.1) (Or.inr (by omega))
  next hne =>
    simp at hs; obtain ⟨rfl, -⟩ := hs
    exact goOn p hprev.1 hprev.2 hkprev

theorem sinvl_step_lkP {o : OpK} {p c : Nat}
    (h : SInvL s L) (hpc : s.pc t = .lkP o p c) (hs : step s t = some (s', ev)) : StepOk s t s' L := by
  have hT := hpc ▸ h.thread t
  simp only [step, hpc] at hs
  split at hs
  next hl =>
    simp at hs; obtain ⟨rfl, -⟩ := hs
    exact h.pass hpc { hT with }
  next hl =>
    simp at hs; obtain ⟨rfl, -⟩ := hs
    exact h.acquire hpc (q := .lkC o p c) (hT.lkPrev p rfl).2 (eq_false_of_ne_true hl)
      { hT with lockedP := fun _ e => Option.some.inj e ▸ upd_same _ _ _, lockedC := nofun }
      (Or.inl rfl) (Or.inl rfl) (Or.inr rfl)

theorem sinvl_step_spP {o : OpK} {p c : Nat}
    (h : SInvL s L) (hpc : s.pc t = .spP o p c) (hs : step s t = some (s', ev)) : StepOk s t s' L := by
  have hT := hpc ▸ h.thread t
  simp only [step, hpc] at hs
  split at hs
  next hl =>
    simp at hs; obtain ⟨rfl, -⟩ := hs
    exact h.pass hpc hT
  next hl =>
    simp at hs; obtain ⟨rfl, -⟩ := hs
    exact h.pass hpc { hT with }

theorem sinvl_step_lkC {o : OpK} {p c : Nat}
    (h : SInvL s L) (hpc : s.pc t = .lkC o p c) (hs : step s t = some (s', ev)) : StepOk s t s' L := by
  have hT := hpc ▸ h.thread t
  simp only [step, hpc] at hs
  split at hs
  next hl =>
    simp at hs; obtain ⟨rfl, -⟩ := hs
    exact h.pass hpc { hT with }
  next hl =>
    simp at hs; obtain ⟨rfl, -⟩ := hs
    exact h.acquire hpc (q := .v1 o p c) (hT.lkCur c rfl).2 (eq_false_of_ne_true hl)
      { hT with
        lockedP := fun a e => upd_true (hT.lockedP a e)
        lockedC := fun _ e => Option.some.inj e ▸ upd_same _ _ _ }
      (Or.inr rfl) (Or.inr rfl) (Or.inl rfl)

theorem sinvl_step_spC {o : OpK} {p c : Nat}
    (h : SInvL s L) (hpc : s.pc t = .spC o p c) (hs : step s t = some (s', ev)) : StepOk s t s' L := by
  have hT := hpc ▸ h.thread t
  simp only [step, hpc] at hs
  split at hs
  next hl =>
    simp at hs; obtain ⟨rfl, -⟩ := hs
    exact h.pass hpc hT
  next hl =>
    simp at hs; obtain ⟨rfl, -⟩ := hs
    exact h.pass hpc { hT with }

theorem sinvl_step_v1 {o : OpK} {p c : Nat}
    (h : SInvL s L) (hpc : s.pc t = .v1 o p c) (hs : step s t = some (s', ev)) : StepOk s t s' L := by
  have hT := hpc ▸ h.thread t
  simp only [step, hpc] at hs
  split at hs
  next hm =>
    simp at hs; obtain ⟨rfl, -⟩ := hs
    exact h.pass hpc (q := .unlC o p c none) { hT with }
  next hm =>
    simp at hs; obtain ⟨rfl, -⟩ := hs
    exact h.pass hpc { hT with unmP := fun _ e => Option.some.inj e ▸ eq_false_of_ne_true hm }

theorem sinvl_step_v2 {o : OpK} {p c : Nat}
    (h : SInvL s L) (hpc : s.pc t = .v2 o p c) (hs : step s t = some (s', ev)) : StepOk s t s' L := by
  have hT := hpc ▸ h.thread t
  simp only [step, hpc] at hs
  split at hs
  next hm =>
    simp at hs; obtain ⟨rfl, -⟩ := hs
    exact h.pass hpc (q := .unlC o p c none) { hT with unmP := nofun }
  next hm =>
    simp at hs; obtain ⟨rfl, -⟩ := hs
    exact h.pass hpc { hT with unmC := fun _ e => Option.some.inj e ▸ eq_false_of_ne_true hm }

theorem isEq_true {key : Nat → Int} {o : OpK} {c : Nat} : isEq key o c = true ↔ c ≠ 1 ∧ key c = okey o := by
  simp [isEq]

/-- What an operation decides under the locks: an answer (for an operation that does not change the map, when its key
    is found or is absent), the payload write of `update`, going on to link its node, or going on to mark `pCur`. -/
theorem action_cases (key val : Nat → Int) (o : OpK) (p c : Nat) :
    (∃ r, action key o p c = .unlC o p c r ∧ actionVal key val o c = val ∧ ∀ r', r = some r' →
      (isEq key o c = true ∧ foundRet val o c = some r') ∨ (isEq key o c = false ∧ absentRet o = some r')) ∨
    (∃ n k v allow, o = .upd n k v allow true ∧ isEq key o c = true ∧
      action key o p c = .unlC o p c (some [1, 0]) ∧ actionVal key val o c = upd val c v) ∨
    (∃ n, isEq key o c = false ∧ onode o = some n ∧ linkOk o = true ∧
      action key o p c = .iSt o n p c ∧ actionVal key val o c = val) ∨
    (isEq key o c = true ∧ eraOk o = true ∧ onode o = none ∧
      action key o p c = .eLd o p c ∧ actionVal key val o c = val) := by
  cases o with
  | ins n k v =>
    cases e : isEq key (.ins n k v) c
    · exact Or.inr (Or.inr (Or.inl ⟨n, rfl, rfl, rfl, by simp [action, e], rfl⟩))
    · exact Or.inl ⟨some [0], by simp [action, e], rfl, fun r' hr => Or.inl ⟨rfl, hr⟩⟩
  | upd n k v allow repl =>
    cases e : isEq key (.upd n k v allow repl) c
    · by_cases ha : allow = 0
      · subst ha
        exact Or.inl ⟨some [0, 0], by simp [action, e], by simp [actionVal, e],
          fun r' hr => Or.inr ⟨rfl, by simpa [absentRet] using hr⟩⟩
      · exact Or.inr (Or.inr (Or.inl ⟨n, rfl, rfl, by simp [linkOk, ha], by simp [action, e, ha],
          by simp [actionVal, e]⟩))
    · cases repl
      · exact Or.inl ⟨some [1, 0], by simp [action, e], by simp [actionVal],
          fun r' hr => Or.inl ⟨rfl, by simpa [foundRet] using hr⟩⟩
      · exact Or.inr (Or.inl ⟨n, k, v, allow, rfl, rfl, by simp [action, e], by simp [actionVal, e]⟩)
  | era k =>
    cases e : isEq key (.era k) c
    · exact Or.inl ⟨some [0], by simp [action, e], rfl, fun r' hr => Or.inr ⟨rfl, hr⟩⟩
    · exact Or.inr (Or.inr (Or.inr ⟨rfl, rfl, rfl, by simp [action, e], rfl⟩))
  | ext k =>
    cases e : isEq key (.ext k) c
    · exact Or.inl ⟨some [0], by simp [action, e], rfl, fun r' hr => Or.inr ⟨rfl, hr⟩⟩
    · exact Or.inr (Or.inr (Or.inr ⟨rfl, rfl, rfl, by simp [action, e], rfl⟩))
  | fnd k => exact Or.inl ⟨none, rfl, rfl, nofun⟩
  | con k => exact Or.inl ⟨none, rfl, rfl, nofun⟩

theorem isEq_false_gt {key : Nat → Int} {o : OpK} {c : Nat} (he : isEq key o c = false)
    (hk : c = 1 ∨ okey o ≤ key c) : c = 1 ∨ okey o < key c := by
  rcases hk with e1 | e1
  · exact Or.inl e1
  · by_cases e2 : c = 1
    · exact Or.inl e2
    · have : key c ≠ okey o := fun e3 => by rw [isEq_true.mpr ⟨e2, e3⟩] at he; cases he
      exact Or.inr (by omega)

theorem sinvl_step_v3 {o : OpK} {p c : Nat}
    (h : SInvL s L) (hpc : s.pc t = .v3 o p c) (hs : step s t = some (s', ev)) : StepOk s t s' L := by
  have hT := hpc ▸ h.thread t
  have hprev : p ≠ 1 ∧ _ := hT.lkPrev p rfl
  have hcur : c ≠ 0 ∧ _ := hT.lkCur c rfl
  have hunp : s.mark p = false := hT.unmP p rfl
  have hunc : s.mark c = false := hT.unmC c rfl
  have hpL : p ∈ L := hT.unmP_mem rfl
  have hcL : c ∈ L := hT.unmC_mem rfl
  -- an answer `r` (or none: validation failed) is justified: unlock
  have answer : ∀ r : Option GRet,
      (∀ r', r = some r' → LPok (Has s.mark s.key s.val L) (gop o) r' (Has s.mark s.key s.val L)) →
      StepOk s t { s with pc := upd s.pc t (.unlC o p c r) } L := fun r hr =>
    have hi : ∀ n, insNode (.unlC o p c r) = some n → insNode (.v3 o p c) = some n := fun n e => by
      cases r
      · exact e
      · cases e
    ⟨L, h.move hpc { hT with priv := fun n e => hT.priv n (hi n e), unmP := nofun, unmC := nofun } hi
        (fun _ e => e) (fun _ e => e),
      StepEff.answer hpc rfl (fun r' e => ⟨gop o, rfl, hr r' e⟩) (fun _ e => e)⟩
  simp only [step, hpc] at hs
  split at hs
  next hv =>
    simp at hs; obtain ⟨rfl, -⟩ := hs
    have hsc : s.succ p = some c := (h.agree p hunp).symm.trans hv.1
    rcases action_cases s.key s.val o p c with ⟨r, ha, hval, hr⟩ | ⟨n, k, v, allow, ho, he, ha, hval⟩ |
      ⟨n, he, hon, hlo, ha, hval⟩ | ⟨he, heo, hon, ha, hval⟩
    · rw [ha, hval]
      refine answer r (fun r' e => ?_)
      rcases hr r' e with ⟨he, hf⟩ | ⟨he, hf⟩
      · have hk := isEq_true.mp he
        exact h.lp_present hcL hcur.1 hk.1 hunc hk.2 hf
      · exact h.lp_absent hpL hprev.1 (hT.keyPrev p rfl) hsc (isEq_false_gt he (hT.keyCur c rfl)) hf
    · subst ho
      rw [ha, hval]
      have hk : c ≠ 1 ∧ s.key c = k := isEq_true.mp he
      have heff : StepEff s t { s with val := upd s.val c v, pc := upd s.pc t (.unlC _ p c (some [1, 0])) } L L :=
        StepEff.quiet hpc
          (fun _ r e => ⟨_, rfl, Option.some.inj e ▸ LPok.repl (v0 := s.val c) ⟨c, hcL, hcur.1, hk.1, hunc, hk.2, rfl⟩
            (fun j w => by rw [has_setval h.sorted hcL hcur.1 hk.1 hunc, hk.2])⟩)
          (fun e => by simp [lpRet] at e) nofun (fun _ e => e) (fun _ e => absurd rfl e)
          (fun a e => by rw [eq_of_upd_ne e]; exact ⟨rfl, hunc, hcL⟩)
      exact ⟨L, h.write hpc (upd_same _ _ _) heff (fun _ e => Or.inl e) { h.mem with }
        { hT with priv := nofun, unmP := nofun, unmC := nofun } nofun (fun _ e => e) (fun _ e => e), heff⟩
    · rw [ha, hval]
      exact h.pass hpc (q := .iSt o n p c)
        { hT with
          priv := fun n' e => hT.priv n' (hon.trans e)
          link := fun _ _ e => by cases e; exact hsc
          gt := fun _ e => Option.some.inj e ▸ isEq_false_gt he (hT.keyCur c rfl)
          lop := fun _ e => Option.some.inj e ▸ hlo }
        (hi := hon.symm)
    · rw [ha, hval]
      exact h.pass hpc (q := .eLd o p c)
        { hT with
          priv := nofun
          link := fun _ _ e => by cases e; exact hsc
          eqk := fun _ e => Option.some.inj e ▸ isEq_true.mp he
          eop := fun _ e => Option.some.inj e ▸ heo }
        (hi := hon.symm)
  next hv =>
    simp at hs; obtain ⟨rfl, -⟩ := hs
    exact answer none nofun

theorem sinvl_step_eLd {o : OpK} {p c : Nat}
    (h : SInvL s L) (hpc : s.pc t = .eLd o p c) (hs : step s t = some (s', ev)) : StepOk s t s' L := by
  have hT := hpc ▸ h.thread t
  simp only [step, hpc] at hs
  simp at hs; obtain ⟨rfl, -⟩ := hs
  exact h.pass hpc { hT with enx := fun _ _ e => by cases e; rfl }

theorem sinvl_step_unlC {o : OpK} {p c : Nat} {r : Option GRet}
    (h : SInvL s L) (hpc : s.pc t = .unlC o p c r) (hs : step s t = some (s', ev)) : StepOk s t s' L := by
  have hT := hpc ▸ h.thread t
  simp only [step, hpc] at hs
  simp at hs; obtain ⟨rfl, -⟩ := hs
  exact h.release hpc (q := .unlP o p r) (a := c) (Or.inr rfl)
    { hT with
      lkCur := nofun
      keyCur := nofun
      pneq := nofun
      lockedP := fun a e => (upd_other _ _ _ _ (Option.some.inj e ▸ hT.pneq p c rfl rfl)).trans (hT.lockedP a e)
      lockedC := nofun }
    (fun _ e => e) nofun (fun _ e => e) nofun

theorem sinvl_step_unlP {o : OpK} {p : Nat} {r : Option GRet}
    (h : SInvL s L) (hpc : s.pc t = .unlP o p r) (hs : step s t = some (s', ev)) : StepOk s t s' L := by
  have hT := hpc ▸ h.thread t
  simp only [step, hpc] at hs
  simp at hs; obtain ⟨rfl, -⟩ := hs
  cases r with
  | none =>
    exact h.release hpc (q := .sLd1 o 0) (a := p) (Or.inl rfl)
      (TInv.search hT.priv ⟨by decide, Or.inl h.zero_mem⟩ (Or.inl rfl)) nofun nofun (fun _ e => e) nofun
  | some r => exact h.release hpc (q := .done r) (a := p) (Or.inl rfl) TInv.done nofun nofun nofun nofun

theorem sinvl_step_fLk {k : Int} {c : Nat}
    (h : SInvL s L) (hpc : s.pc t = .fLk k c) (hs : step s t = some (s', ev)) : StepOk s t s' L := by
  have hT := hpc ▸ h.thread t
  simp only [step, hpc] at hs
  split at hs
  next hl =>
    simp at hs; obtain ⟨rfl, -⟩ := hs
    exact h.pass hpc { hT with }
  next hl =>
    simp at hs; obtain ⟨rfl, -⟩ := hs
    exact h.acquire hpc (q := .fChk k c) (hT.lkCur c rfl).2 (eq_false_of_ne_true hl)
      { hT with lockedP := nofun, lockedC := fun _ e => Option.some.inj e ▸ upd_same _ _ _ }
      (Or.inr rfl) (Or.inr rfl) (Or.inl rfl)

theorem sinvl_step_fSp {k : Int} {c : Nat}
    (h : SInvL s L) (hpc : s.pc t = .fSp k c) (hs : step s t = some (s', ev)) : StepOk s t s' L := by
  have hT := hpc ▸ h.thread t
  simp only [step, hpc] at hs
  split at hs
  next hl =>
    simp at hs; obtain ⟨rfl, -⟩ := hs
    exact h.pass hpc hT
  next hl =>
    simp at hs; obtain ⟨rfl, -⟩ := hs
    exact h.pass hpc { hT with }

theorem sinvl_step_fChk {k : Int} {c : Nat}
    (h : SInvL s L) (hpc : s.pc t = .fChk k c) (hs : step s t = some (s', ev)) : StepOk s t s' L := by
  have hT := hpc ▸ h.thread t
  have hcur : c ≠ 0 ∧ (c ∈ L ∨ s.mark c = true) := hT.lkCur c rfl
  simp only [step, hpc] at hs
  simp at hs; obtain ⟨rfl, -⟩ := hs
  rcases wRet_cases s.mark s.key k c with ⟨hw, hm⟩ | ⟨hw, hm⟩
  · rw [if_pos hm]
    have hcL : c ∈ L := hcur.2.resolve_right (by rw [hm.1]; exact Bool.false_ne_true)
    exact ⟨L, h.move hpc (q := .fUnl k c [1, s.val c]) { hT with nt := nofun } nofun nofun (fun _ e => e),
      StepEff.answer hpc hw
        (fun r e => ⟨_, rfl, Option.some.inj e ▸ h.lp_present (o := .fnd k) hcL hcur.1 (hT.nt c rfl) hm.1 hm.2 rfl⟩)
        (fun _ e => e)⟩
  · rw [if_neg hm]
    exact ⟨L, h.move hpc (q := .fUnl k c [0]) { hT with nt := nofun } nofun nofun (fun _ e => e),
      StepEff.silent hpc hw.symm (fun _ e => e) (fun _ e => absurd rfl e)⟩

theorem sinvl_step_fUnl {k : Int} {c : Nat} {r : GRet}
    (h : SInvL s L) (hpc : s.pc t = .fUnl k c r) (hs : step s t = some (s', ev)) : StepOk s t s' L := by
  simp only [step, hpc] at hs
  simp at hs; obtain ⟨rfl, -⟩ := hs
  exact h.release hpc (q := .done r) (a := c) (Or.inr rfl) TInv.done nofun nofun nofun nofun

theorem sinvl_step_cChk {k : Int} {c : Nat}
    (h : SInvL s L) (hpc : s.pc t = .cChk k c) (hs : step s t = some (s', ev)) : StepOk s t s' L := by
  have hT := hpc ▸ h.thread t
  have hcur : c ≠ 0 ∧ (c ∈ L ∨ s.mark c = true) := hT.lkCur c rfl
  simp only [step, hpc] at hs
  simp at hs; obtain ⟨rfl, -⟩ := hs
  rcases wRet_cases s.mark s.key k c with ⟨hw, hm⟩ | ⟨hw, hm⟩
  · rw [if_pos hm]
    have hcL : c ∈ L := hcur.2.resolve_right (by rw [hm.1]; exact Bool.false_ne_true)
    exact ⟨L, h.move hpc (q := .done [1]) TInv.done nofun nofun nofun,
      StepEff.answer hpc hw
        (fun r e => ⟨_, rfl, Option.some.inj e ▸ h.lp_present (o := .con k) hcL hcur.1 (hT.nt c rfl) hm.1 hm.2 rfl⟩)
        nofun⟩
  · rw [if_neg hm]
    exact ⟨L, h.move hpc (q := .done [0]) TInv.done nofun nofun nofun,
      StepEff.silent hpc hw.symm nofun (fun _ e => absurd rfl e)⟩

end CdsVerif.Algo.Lazy
