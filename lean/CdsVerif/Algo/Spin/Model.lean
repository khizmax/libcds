/-
  Atomic-step model of `cds::sync::spin_lock` (cds/sync/spinlock.h): test-and-test-and-set.
    try_lock : bCurrent = m_spin.exchange( true ); return !bCurrent;
    lock     : while ( !try_lock()) { while ( m_spin.load()) backoff(); }
    unlock   : m_spin.store( false );
  Any number of locks (indexed by Nat) and threads.  `held` is a ghost field: which
  thread is between a successful acquisition and its release of which lock.
-/
import CdsVerif.Base.Machine
namespace CdsVerif.Algo.Spin
open CdsVerif.Machine CdsVerif.Spec

inductive PC
  | idle
  | lockTry (l : Nat)      -- next: exchange(true) inside lock()
  | lockSpin (l : Nat)     -- next: load in the inner wait loop
  | tryOnce (l : Nat)      -- next: exchange(true) inside try_lock()
  | unlockSt (l : Nat) (r : GRet)     -- next: store(false); then return r
  | done (r : GRet)
deriving DecidableEq, Repr

structure St where
  spin : Nat → Bool
  pc : Tid → PC
  held : Tid → Nat → Bool      -- ghost

def init : St := ⟨fun _ => false, fun _ => .idle, fun _ _ => false⟩

def b2s (b : Bool) : String := if b then "1" else "0"
def locName (l : Nat) : String := s!"L{l}.spin"

/-- Client discipline: `unlock l` is only called by a thread that holds `l`; `unlock_if l` releases
    `l` if the thread holds it and does nothing otherwise.  The first argument of every operation is
    the calling thread (as in the harness histories) and is not used. -/
def invoke (s : St) (t : Tid) (op : GOp) : Option St :=
  match s.pc t, op.name, op.args with
  | .idle, "lock", [_, l] => some { s with pc := upd s.pc t (.lockTry l.toNat) }
  | .idle, "try_lock", [_, l] => some { s with pc := upd s.pc t (.tryOnce l.toNat) }
  | .idle, "unlock", [_, l] => if s.held t l.toNat then some { s with pc := upd s.pc t (.unlockSt l.toNat []) } else none
  | .idle, "unlock_if", [_, l] =>
    if s.held t l.toNat then some { s with pc := upd s.pc t (.unlockSt l.toNat [1]) }
    else some { s with pc := upd s.pc t (.done [0]) }
  | _, _, _ => none

def step (s : St) (t : Tid) : Option (St × Ev) :=
  match s.pc t with
  | .lockTry l =>
    let old := s.spin l
    let ev : Ev := ⟨"xchg", locName l, b2s old, "1"⟩
    if old then some ({ s with spin := upd s.spin l true, pc := upd s.pc t (.lockSpin l) }, ev)
    else some ({ s with spin := upd s.spin l true, pc := upd s.pc t (.done []),
                         held := upd2 s.held t l true }, ev)
  | .lockSpin l =>
    let v := s.spin l
    some ({ s with pc := upd s.pc t (if v then .lockSpin l else .lockTry l) }, ⟨"ld", locName l, b2s v, ""⟩)
  | .tryOnce l =>
    let old := s.spin l
    let ev : Ev := ⟨"xchg", locName l, b2s old, "1"⟩
    if old then some ({ s with spin := upd s.spin l true, pc := upd s.pc t (.done [0]) }, ev)
    else some ({ s with spin := upd s.spin l true, pc := upd s.pc t (.done [1]),
                         held := upd2 s.held t l true }, ev)
  | .unlockSt l r =>
    some ({ s with spin := upd s.spin l false, pc := upd s.pc t (.done r),
                   held := upd2 s.held t l false }, ⟨"st", locName l, "0", ""⟩)
  | _ => none

def result (s : St) (t : Tid) : Option (St × GRet) :=
  match s.pc t with
  | .done r => some ({ s with pc := upd s.pc t .idle }, r)
  | _ => none

def model : Model St := ⟨invoke, step, result⟩

/-! ### Mutual exclusion -/

theorem of_upd_false {f : Nat → Bool} {a b : Nat} (h : upd f a false b = true) : b ≠ a ∧ f b = true := by
  by_cases e : b = a
  · rw [e, upd_same] at h
    cases h
  · rw [upd_other _ _ _ _ e] at h
    exact ⟨e, h⟩

/-- The lock words and the ghost table agree: a free lock is held by nobody, and a lock is held by at most one thread. -/
structure Locks (spin : Nat → Bool) (held : Tid → Nat → Bool) : Prop where
  free : ∀ l t, spin l = false → held t l = false
  excl : ∀ l t1 t2, held t1 l = true → held t2 l = true → t1 = t2

/-- An exchange that finds the word set leaves it set. -/
theorem Locks.set {spin : Nat → Bool} {held : Tid → Nat → Bool} (h : Locks spin held) (l : Nat) :
    Locks (upd spin l true) held where
  free l' t hl' := by
    by_cases e : l' = l
    · rw [e, upd_same] at hl'
      cases hl'
    · rw [upd_other _ _ _ _ e] at hl'
      exact h.free l' t hl'
  excl := h.excl

/-- An exchange that finds the word clear makes the exchanging thread the holder. -/
theorem Locks.acquire {spin : Nat → Bool} {held : Tid → Nat → Bool} (h : Locks spin held) {l : Nat} (t : Tid)
    (hl : spin l = false) : Locks (upd spin l true) (upd2 held t l true) where
  free l' u hl' := by
    have e : l' ≠ l := fun e => by
      rw [e, upd_same] at hl'
      cases hl'
    rw [upd_other _ _ _ _ e] at hl'
    rw [upd2_col_ne _ _ _ _ e]
    exact h.free l' u hl'
  excl l' t1 t2 h1 h2 := by
    by_cases e : l' = l
    · subst e
      have only : ∀ u, upd2 held t l' true u l' = true → u = t := fun u hu => by
        by_cases eu : u = t
        · exact eu
        · rw [upd2_row_ne _ _ _ _ u eu, h.free l' u hl] at hu
          cases hu
      rw [only t1 h1, only t2 h2]
    · rw [upd2_col_ne _ _ _ _ e] at h1 h2
      exact h.excl l' t1 t2 h1 h2

/-- The holder's store of `false` releases the lock. -/
theorem Locks.release {spin : Nat → Bool} {held : Tid → Nat → Bool} (h : Locks spin held) {l : Nat} {t : Tid}
    (hl : held t l = true) : Locks (upd spin l false) (upd2 held t l false) where
  free l' u hl' := by
    by_cases e : l' = l
    · subst e
      by_cases eu : u = t
      · rw [eu, upd2_row_eq, upd_same]
      · rw [upd2_row_ne _ _ _ _ u eu]
        exact Bool.eq_false_iff.mpr fun hu => eu (h.excl l' u t hu hl)
    · rw [upd_other _ _ _ _ e] at hl'
      rw [upd2_col_ne _ _ _ _ e]
      exact h.free l' u hl'
  excl l' t1 t2 h1 h2 := by
    have sub : ∀ u, upd2 held t l false u l' = true → held u l' = true := fun u hu => by
      by_cases eu : u = t
      · rw [eu, upd2_row_eq] at hu
        exact eu ▸ (of_upd_false hu).2
      · rwa [upd2_row_ne _ _ _ _ u eu] at hu
    exact h.excl l' t1 t2 (sub t1 h1) (sub t2 h2)

/-- The invariant: a free lock is held by nobody, a lock is held by at most one thread,
    and a thread about to release a lock holds it. -/
def MutexInv (s : St) : Prop :=
  (∀ l t, s.spin l = false → s.held t l = false) ∧
  (∀ l t1 t2, s.held t1 l = true → s.held t2 l = true → t1 = t2) ∧
  (∀ t l r, s.pc t = .unlockSt l r → s.held t l = true)

theorem inv_init : MutexInv init :=
  ⟨fun _ _ _ => rfl, nofun, nofun⟩

/-- A step of thread `t` to program counter `q` that changes no other thread's row of `held`. -/
theorem MutexInv.update {s : St} {t : Tid} (h : MutexInv s) {spin' : Nat → Bool} {held' : Tid → Nat → Bool} {q : PC}
    (hlocks : Locks spin' held') (hheld : ∀ u, u ≠ t → held' u = s.held u)
    (hq : ∀ l r, q = .unlockSt l r → held' t l = true) : MutexInv ⟨spin', upd s.pc t q, held'⟩ := by
  refine ⟨hlocks.free, hlocks.excl, fun u l r (hu : upd s.pc t q u = .unlockSt l r) => ?_⟩
  show held' u l = true
  by_cases e : u = t
  · subst e
    rw [upd_same] at hu
    exact hq l r hu
  · rw [upd_other _ _ _ _ e] at hu
    rw [hheld u e]
    exact h.2.2 u l r hu

theorem MutexInv.locks {s : St} (h : MutexInv s) : Locks s.spin s.held := ⟨h.1, h.2.1⟩

/-- A step that leaves `held` alone: it touches no lock word, or finds the word set. -/
theorem MutexInv.quiet {s : St} {t : Tid} (h : MutexInv s) {spin' : Nat → Bool} {q : PC} (hlocks : Locks spin' s.held)
    (hq : ∀ l r, q = .unlockSt l r → s.held t l = true) : MutexInv ⟨spin', upd s.pc t q, s.held⟩ :=
  h.update hlocks (fun _ _ => rfl) hq

theorem inv_step (s : St) (t : Tid) (a : Act) (s' : St) (o : Obs)
    (h : MutexInv s) (hap : model.apply s t a = some (s', o)) : MutexInv s' := by
  rcases Model.apply_cases hap with ⟨op, -, hi, -⟩ | ⟨e, -, hs, -⟩ | ⟨r, -, hr, -⟩
  · simp only [model, invoke] at hi
    split at hi
    · cases hi
      exact h.quiet h.locks nofun
    · cases hi
      exact h.quiet h.locks nofun
    · split at hi
      · next hh =>
        cases hi
        exact h.quiet h.locks fun l r e => by cases e; exact hh
      · cases hi
    · split at hi
      · next hh =>
        cases hi
        exact h.quiet h.locks fun l r e => by cases e; exact hh
      · cases hi
        exact h.quiet h.locks nofun
    · cases hi
  · simp only [model] at hs
    cases hpc : s.pc t <;> simp only [step, hpc, reduceCtorEq] at hs
    case lockTry l =>
      split at hs
      · cases hs
        exact h.quiet (h.locks.set l) nofun
      · next hl =>
        cases hs
        exact h.update (h.locks.acquire t (Bool.eq_false_iff.mpr hl)) (upd2_row_ne _ _ _ _) nofun
    case lockSpin l =>
      cases hs
      cases s.spin l <;> exact h.quiet h.locks nofun
    case tryOnce l =>
      split at hs
      · cases hs
        exact h.quiet (h.locks.set l) nofun
      · next hl =>
        cases hs
        exact h.update (h.locks.acquire t (Bool.eq_false_iff.mpr hl)) (upd2_row_ne _ _ _ _) nofun
    case unlockSt l r =>
      cases hs
      exact h.update (h.locks.release (h.2.2 t l r hpc)) (upd2_row_ne _ _ _ _) nofun
  · simp only [model, result] at hr
    split at hr
    · cases hr
      exact h.quiet h.locks nofun
    · cases hr

end CdsVerif.Algo.Spin
