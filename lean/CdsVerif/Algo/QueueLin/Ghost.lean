/-
  Queue linearizability toolkit: from linearization points to linearizability, for ANY machine.

  `QSys σ` packages a machine (`Machine.Model σ`) with its structural invariant `Inv`, its abstract queue `absQ`,
  and the linearization-point bookkeeping of its threads:
    * `lpRet s t = some r`   : thread `t` has passed a linearization point of its current operation, with result `r`
                               (possibly TENTATIVELY when `r = [0]`: an empty dequeue whose result may still be
                               withdrawn, as in the Michael–Scott queue);
    * `postRet s t = some r` : the result `r` is definitive;
    * `opOf s t = some op`   : `t` is executing `op` and its result is not definitive;
    * `EmptyAt s t`          : what holds in the state in which `t` passes the linearization point of an empty dequeue.
  `QSys.OK` lists what has to be proved about the machine, one action at a time (the obligations are exactly the
  per-step facts of `Algo/MSQueue/Inv.lean`: `StepEff`, `InvokeEff`, `sinvl_result`):
    a step that passes a linearization point is the `fifo` transition of the thread's operation on `absQ`, every other
    step leaves `absQ` unchanged, a tentative result can only be withdrawn if it is `[0]`.
  From `QSys.OK` this file derives, as an instance of the ghost-log construction of `Base/LPLin.lean`:
    * `linearizable`                 Herlihy–Wing linearizability with completion of pending operations,
    * `linearizable_no_effect_pending`, `no_invention`, `no_duplication`,
    * `empty_hindsight`              a dequeue that returned "empty" has an instant strictly inside its interval at
                                     which `EmptyAt` held (hence the abstract queue was empty).
-/
import CdsVerif.Algo.QueueLin.History
import CdsVerif.Base.LPLin
namespace CdsVerif.Algo.QueueLin
open CdsVerif.Machine CdsVerif.Spec CdsVerif.Lin

structure QSys (σ : Type) where
  model : Model σ
  init : σ
  Inv : σ → Prop
  absQ : σ → List Int
  lpRet : σ → Tid → Option GRet
  postRet : σ → Tid → Option GRet
  opOf : σ → Tid → Option GOp
  EmptyAt : σ → Tid → Prop

variable {σ : Type}

/-- The bookkeeping of the threads other than `t` is not touched by an action of `t`. -/
structure Frame (Q : QSys σ) (s s' : σ) (t : Tid) : Prop where
  lp : ∀ t2, t2 ≠ t → Q.lpRet s' t2 = Q.lpRet s t2
  op : ∀ t2, t2 ≠ t → Q.opOf s' t2 = Q.opOf s t2

structure InvokeOK (Q : QSys σ) (s : σ) (t : Tid) (op : GOp) (s' : σ) : Prop where
  inv : Q.Inv s'
  frame : Frame Q s s' t
  was : Q.lpRet s t = none
  nowop : Q.opOf s' t = some op
  nowlp : Q.lpRet s' t = none
  abs : Q.absQ s' = Q.absQ s

structure StepOK (Q : QSys σ) (s : σ) (t : Tid) (s' : σ) : Prop where
  inv : Q.Inv s'
  frame : Frame Q s s' t
  /-- passing a linearization point = the `fifo` transition of the operation, with the result fixed there -/
  lp : Q.lpRet s t = none → ∀ r, Q.lpRet s' t = some r →
        ∃ op, Q.opOf s t = some op ∧ fifo.next (Q.absQ s) op r = some (Q.absQ s')
  nolp : (Q.lpRet s t ≠ none ∨ Q.lpRet s' t = none) → Q.absQ s' = Q.absQ s
  /-- only a tentative "empty" can be withdrawn -/
  keep : ∀ r, Q.lpRet s t = some r → Q.lpRet s' t = some r ∨ (r = [0] ∧ Q.lpRet s' t = none)
  op : Q.postRet s' t = none → Q.opOf s' t = Q.opOf s t
  empty : Q.lpRet s t = none → Q.lpRet s' t = some [0] → Q.EmptyAt s t

structure ResultOK (Q : QSys σ) (s : σ) (t : Tid) (r : GRet) (s' : σ) : Prop where
  inv : Q.Inv s'
  frame : Frame Q s s' t
  was : Q.lpRet s t = some r
  nowlp : Q.lpRet s' t = none
  nowop : Q.opOf s' t = none
  abs : Q.absQ s' = Q.absQ s

structure QSys.OK (Q : QSys σ) : Prop where
  inv_init : Q.Inv Q.init
  abs_init : Q.absQ Q.init = []
  lp_init : ∀ t, Q.lpRet Q.init t = none
  op_init : ∀ t, Q.opOf Q.init t = none
  post_lp : ∀ s t r, Q.postRet s t = some r → Q.lpRet s t = some r
  post_op : ∀ s t r, Q.postRet s t = some r → Q.opOf s t = none
  lp_post : ∀ s t r, Q.lpRet s t = some r → r ≠ [0] → Q.postRet s t = some r
  empty_abs : ∀ s t, Q.EmptyAt s t → Q.absQ s = []
  invoke : ∀ s t op s', Q.Inv s → Q.model.invoke s t op = some s' → InvokeOK Q s t op s'
  step : ∀ s t s' ev, Q.Inv s → Q.model.step s t = some (s', ev) → StepOK Q s t s'
  result : ∀ s t s' r, Q.Inv s → Q.model.result s t = some (s', r) → ResultOK Q s t r s'

/-! ### The system as an instance of `Base/LPLin.lean` -/

/-- Specification `fifo`, specification state = abstract queue, results `[0]` inert. -/
@[reducible] def QSys.toLP (Q : QSys σ) : LPLin.Sys σ (List Int) where
  spec := fifo
  model := Q.model
  init := Q.init
  Inv := Q.Inv
  Abs := fun q s => q = Q.absQ s
  lpRet := Q.lpRet
  postRet := Q.postRet
  opOf := Q.opOf
  inert := fun _ r => r == [0]

theorem QSys.OK.toLP {Q : QSys σ} (hQ : Q.OK) : Q.toLP.OK where
  inert_ok := by
    intro op r hr q q' hn
    rw [beq_iff_eq.mp hr] at hn
    exact fifo_ret0 hn
  inv_init := hQ.inv_init
  abs_init := hQ.abs_init.symm
  lp_init := hQ.lp_init
  op_init := hQ.op_init
  post_op := fun s t r _ => hQ.post_op s t r
  lp_post := by
    intro s t r _ hlp
    by_cases hr : r = [0]
    · exact .inr (.of_all fun _ => beq_iff_eq.mpr hr)
    · exact .inl (hQ.lp_post s t r hlp hr)
  invoke := by
    intro s t op s' hI hs
    obtain ⟨hinv, ⟨hflp, hfop⟩, hwas, hnowop, hnowlp, habs⟩ := hQ.invoke s t op s' hI hs
    exact ⟨hinv, ⟨hflp, hfop⟩, hwas, hnowop, hnowlp, fun q hq => hq.trans habs.symm⟩
  step := by
    intro s t s' ev hI hs
    obtain ⟨hinv, ⟨hflp, hfop⟩, hlp, hnolp, hkeep, hop, -⟩ := hQ.step s t s' ev hI hs
    refine ⟨hinv, ⟨hflp, hfop⟩, ?_, fun hc q hq => hq.trans (hnolp hc).symm, ?_, hop⟩
    · intro h1 r h2
      obtain ⟨op, hopo, hnext⟩ := hlp h1 r h2
      exact ⟨op, hopo, fun q hq => ⟨_, hq ▸ hnext, rfl⟩⟩
    · intro r hr
      exact (hkeep r hr).imp id (fun h => ⟨.of_all fun _ => beq_iff_eq.mpr h.1, h.2⟩)
  result := by
    intro s t s' r hI hs
    obtain ⟨hinv, ⟨hflp, hfop⟩, hwas, hnowlp, hnowop, habs⟩ := hQ.result s t s' r hI hs
    exact ⟨hinv, ⟨hflp, hfop⟩, hwas, hnowlp, hnowop, fun q hq => hq.trans habs.symm⟩

/-! ### Main theorems -/

/-- The structural invariant holds in every reachable state. -/
theorem inv_reachable {Q : QSys σ} (hQ : Q.OK) (s : σ) (h : Q.model.Reachable Q.init s) : Q.Inv s :=
  LPLin.inv_reachable hQ.toLP s h

/-- **Linearizability** (Herlihy–Wing, with completion of pending operations).  For every run of the machine, the
    history of the completed operations, extended by response records `extra` for SOME of the operations still
    pending at the end (operations that have passed their linearization point definitively — `postRet` — they get
    the result fixed there and the response time "end of the run"; at most one per thread), is linearizable to the
    sequential FIFO queue.  All other pending operations are dropped (among them the pending empty dequeues). -/
theorem linearizable {Q : QSys σ} (hQ : Q.OK) (sched : List (Tid × Act)) (s : σ) (os : List (Tid × Obs))
    (h : Q.model.run Q.init sched = some (s, os)) :
    ∃ extra : List (OpRec GOp GRet),
      (∀ e ∈ extra, pendingOf os e.tid = some (e.op, e.inv) ∧ e.res = os.length ∧
          Q.postRet s e.tid = some e.ret) ∧
      extra.Pairwise (fun a b => a.tid ≠ b.tid) ∧
      Linearizable fifo (historyOf os ++ extra) := by
  rw [historyOf_eq, pendingOf_eq]
  exact LPLin.linearizable hQ.toLP sched s os h

theorem linearizable_no_effect_pending {Q : QSys σ} (hQ : Q.OK) (sched : List (Tid × Act)) (s : σ)
    (os : List (Tid × Obs)) (h : Q.model.run Q.init sched = some (s, os)) (hq : ∀ t, Q.postRet s t = none) :
    Linearizable fifo (historyOf os) :=
  historyOf_eq os ▸ LPLin.linearizable_no_effect_pending hQ.toLP sched s os h hq

/-- No invention: a value returned by a completed `deq` was the argument of an `enq` invoked before that `deq`
    returned (the `enq` itself may still be pending). -/
theorem no_invention {Q : QSys σ} (hQ : Q.OK) (sched : List (Tid × Act)) (s : σ) (os : List (Tid × Obs))
    (h : Q.model.run Q.init sched = some (s, os)) (r : OpRec GOp GRet) (hr : r ∈ historyOf os)
    (hop : r.op = ⟨"deq", []⟩) (v : Int) (hret : r.ret = [1, v]) :
    ∃ i t', i < r.res ∧ os[i]? = some (t', .call ⟨"enq", [v]⟩) := by
  obtain ⟨extra, hex, -, perm, hperm, hrt, hlegal⟩ := linearizable hQ sched s os h
  have hrp : r ∈ perm := hperm.mem_iff.mpr (List.mem_append_left _ hr)
  obtain ⟨l1, l2, rfl⟩ := List.append_of_mem hrp
  rcases legal_deq_enqueued r l2 v hop hret l1 [] hlegal with h0 | ⟨p, hp1, hpop⟩
  · simp at h0
  · have hle : ¬ r.res < p.inv := (List.pairwise_append.mp hrt).2.2 p hp1 r (by simp)
    have hpcall : os[p.inv]? = some (p.tid, .call p.op) := by
      have hp : p ∈ historyOf os ++ extra := hperm.mem_iff.mp (List.mem_append_left _ hp1)
      rcases List.mem_append.mp hp with hp | hp
      · exact (historyOf_sound os p hp).1
      · exact pendingOf_sound os p.tid p.op p.inv (hex p hp).1
    have hrret := (historyOf_sound os r hr).2.1
    have hne : p.inv ≠ r.res := by
      intro e; rw [e, hrret] at hpcall; simp at hpcall
    exact ⟨p.inv, p.tid, by omega, by rw [hpcall, hpop]⟩

/-- No duplication: with `extra` = the pending operations completed by `linearizable`, for every value `v` the
    completed dequeues that returned `v` are at most as many as the `enq v` operations of the run. -/
theorem no_duplication {Q : QSys σ} (hQ : Q.OK) (sched : List (Tid × Act)) (s : σ) (os : List (Tid × Obs))
    (h : Q.model.run Q.init sched = some (s, os)) :
    ∃ extra : List (OpRec GOp GRet),
      (∀ e ∈ extra, pendingOf os e.tid = some (e.op, e.inv) ∧ e.res = os.length ∧
          Q.postRet s e.tid = some e.ret) ∧
      extra.Pairwise (fun a b => a.tid ≠ b.tid) ∧
      ∀ v, (historyOf os).countP (isDeqOf v) ≤ (historyOf os ++ extra).countP (isEnq v) := by
  obtain ⟨extra, hex, hpw, hlin⟩ := linearizable hQ sched s os h
  refine ⟨extra, hex, hpw, fun v => ?_⟩
  have := linearizable_no_dup hlin v
  rw [List.countP_append] at this
  omega

theorem historyOf_wf (os : List (Tid × Obs)) : ∀ r ∈ historyOf os, r.inv ≤ r.res :=
  fun r hr => Nat.le_of_lt (historyOf_sound os r hr).2.2

/-- **Hindsight for the empty dequeue, on runs.**  If a completed `deq` of a run returned `[0]`, then there is an
    instant `j` strictly between its call (observation `r.inv`) and its return (observation `r.res`) such that in
    the state `s1` reached by the first `j` actions of the run `EmptyAt s1 r.tid` holds and the abstract queue is
    empty. -/
theorem empty_hindsight {Q : QSys σ} (hQ : Q.OK) (sched : List (Tid × Act)) (s : σ) (os : List (Tid × Obs))
    (h : Q.model.run Q.init sched = some (s, os)) (r : OpRec GOp GRet) (hr : r ∈ historyOf os) (hret : r.ret = [0]) :
    ∃ j s1, r.inv < j ∧ j < r.res ∧ Q.model.run Q.init (sched.take j) = some (s1, os.take j) ∧
      Q.EmptyAt s1 r.tid ∧ Q.absQ s1 = [] := by
  obtain ⟨j, s1, e1, e2, e3, hI, -, h1, s2, ev, hs, h2⟩ := LPLin.lp_hindsight hQ.toLP sched s os h r (historyOf_eq os ▸ hr)
  have he := (hQ.step _ _ _ _ hI hs).empty h1 (hret ▸ h2)
  exact ⟨j, s1, e1, e2, e3, he, hQ.empty_abs _ _ he⟩

end CdsVerif.Algo.QueueLin
