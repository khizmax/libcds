/-
  Queue linearizability toolkit: the ghost-log construction of `Base/LPLin.lean` for an ARBITRARY sequential
  specification `spec` on `List Int`, with the abstract state of the machine related to the state of the specification
  UP TO PERMUTATION.  Used for queues whose linearization order is not the order of their linearization points
  (BasketQueue): such a machine still refines the unordered POOL (`poolSpec`: `enq` adds an item, `deq` removes one that
  is present, `deq` answers "empty" only when nothing is present) step by step, which gives — for every run —
  linearizability to the pool: no loss, no duplication, no invention, "empty" only if empty.

  Obligations per action (`QSys.OK`) as in `Ghost.lean`, except that a linearization point has to be a transition of
  `spec` up to permutation (`PEff`), and `spec` must not change its state on a result `[0]` (`ret0`).
-/
import CdsVerif.Algo.QueueLin.History
import CdsVerif.Base.LPLin
namespace CdsVerif.Algo.QueueLinP
open CdsVerif.Machine CdsVerif.Spec CdsVerif.Lin CdsVerif.Algo.QueueLin

abbrev SpecL := CdsVerif.Lin.Spec (List Int) GOp GRet

/-- A transition of `S` up to permutation of the state. -/
def PEff (S : SpecL) (q : List Int) (op : GOp) (r : GRet) (q' : List Int) : Prop :=
  ∀ q0 : List Int, q0.Perm q → ∃ q0', S.next q0 op r = some q0' ∧ q0'.Perm q'

structure QSys (σ : Type) where
  spec : SpecL
  model : Model σ
  init : σ
  Inv : σ → Prop
  absQ : σ → List Int
  lpRet : σ → Tid → Option GRet
  postRet : σ → Tid → Option GRet
  opOf : σ → Tid → Option GOp
  EmptyAt : σ → Tid → Prop

variable {σ : Type}

/-- The bookkeeping of the threads other than `t` is not touched by an action of `t`. -/
structure Frame (Q : QSys σ) (s s' : σ) (t : Tid) : Prop where
  lp : ∀ t2, t2 ≠ t → Q.lpRet s' t2 = Q.lpRet s t2
  op : ∀ t2, t2 ≠ t → Q.opOf s' t2 = Q.opOf s t2

structure InvokeOK (Q : QSys σ) (s : σ) (t : Tid) (op : GOp) (s' : σ) : Prop where
  inv : Q.Inv s'
  frame : Frame Q s s' t
  was : Q.lpRet s t = none
  nowop : Q.opOf s' t = some op
  nowlp : Q.lpRet s' t = none
  abs : Q.absQ s' = Q.absQ s

structure StepOK (Q : QSys σ) (s : σ) (t : Tid) (s' : σ) : Prop where
  inv : Q.Inv s'
  frame : Frame Q s s' t
  /-- passing a linearization point = a transition of `spec` (up to permutation), with the result fixed there -/
  lp : Q.lpRet s t = none → ∀ r, Q.lpRet s' t = some r →
        ∃ op, Q.opOf s t = some op ∧ PEff Q.spec (Q.absQ s) op r (Q.absQ s')
  nolp : (Q.lpRet s t ≠ none ∨ Q.lpRet s' t = none) → Q.absQ s' = Q.absQ s
  /-- only a tentative "empty" can be withdrawn -/
  keep : ∀ r, Q.lpRet s t = some r → Q.lpRet s' t = some r ∨ (r = [0] ∧ Q.lpRet s' t = none)
  op : Q.postRet s' t = none → Q.opOf s' t = Q.opOf s t
  empty : Q.lpRet s t = none → Q.lpRet s' t = some [0] → Q.EmptyAt s t

structure ResultOK (Q : QSys σ) (s : σ) (t : Tid) (r : GRet) (s' : σ) : Prop where
  inv : Q.Inv s'
  frame : Frame Q s s' t
  was : Q.lpRet s t = some r
  nowlp : Q.lpRet s' t = none
  nowop : Q.opOf s' t = none
  abs : Q.absQ s' = Q.absQ s

structure QSys.OK (Q : QSys σ) : Prop where
  ret0 : ∀ q op q', Q.spec.next q op [0] = some q' → q' = q
  spec_init : Q.spec.init = []
  inv_init : Q.Inv Q.init
  abs_init : Q.absQ Q.init = []
  lp_init : ∀ t, Q.lpRet Q.init t = none
  op_init : ∀ t, Q.opOf Q.init t = none
  post_lp : ∀ s t r, Q.postRet s t = some r → Q.lpRet s t = some r
  post_op : ∀ s t r, Q.postRet s t = some r → Q.opOf s t = none
  lp_post : ∀ s t r, Q.lpRet s t = some r → r ≠ [0] → Q.postRet s t = some r
  empty_abs : ∀ s t, Q.EmptyAt s t → Q.absQ s = []
  invoke : ∀ s t op s', Q.Inv s → Q.model.invoke s t op = some s' → InvokeOK Q s t op s'
  step : ∀ s t s' ev, Q.Inv s → Q.model.step s t = some (s', ev) → StepOK Q s t s'
  result : ∀ s t s' r, Q.Inv s → Q.model.result s t = some (s', r) → ResultOK Q s t r s'

/-! ### The system as an instance of `Base/LPLin.lean` -/

/-- Specification state = a permutation of the abstract queue, results `[0]` inert. -/
@[reducible] def QSys.toLP (Q : QSys σ) : LPLin.Sys σ (List Int) where
  spec := Q.spec
  model := Q.model
  init := Q.init
  Inv := Q.Inv
  Abs := fun q s => q.Perm (Q.absQ s)
  lpRet := Q.lpRet
  postRet := Q.postRet
  opOf := Q.opOf
  inert := fun _ r => r == [0]

theorem QSys.OK.toLP {Q : QSys σ} (hQ : Q.OK) : Q.toLP.OK where
  inert_ok := by
    intro op r hr q q' hn
    rw [beq_iff_eq.mp hr] at hn
    exact hQ.ret0 q op q' hn
  inv_init := hQ.inv_init
  abs_init := by
    show Q.spec.init.Perm (Q.absQ Q.init)
    rw [hQ.spec_init, hQ.abs_init]
  lp_init := hQ.lp_init
  op_init := hQ.op_init
  post_op := fun s t r _ => hQ.post_op s t r
  lp_post := by
    intro s t r _ hlp
    by_cases hr : r = [0]
    · exact .inr (.of_all fun _ => beq_iff_eq.mpr hr)
    · exact .inl (hQ.lp_post s t r hlp hr)
  invoke := by
    intro s t op s' hI hs
    obtain ⟨hinv, ⟨hflp, hfop⟩, hwas, hnowop, hnowlp, habs⟩ := hQ.invoke s t op s' hI hs
    exact ⟨hinv, ⟨hflp, hfop⟩, hwas, hnowop, hnowlp, fun q hq => (congrArg q.Perm habs).mpr hq⟩
  step := by
    intro s t s' ev hI hs
    obtain ⟨hinv, ⟨hflp, hfop⟩, hlp, hnolp, hkeep, hop, -⟩ := hQ.step s t s' ev hI hs
    refine ⟨hinv, ⟨hflp, hfop⟩, hlp, fun hc q hq => (congrArg q.Perm (hnolp hc)).mpr hq, ?_, hop⟩
    intro r hr
    exact (hkeep r hr).imp id (fun h => ⟨.of_all fun _ => beq_iff_eq.mpr h.1, h.2⟩)
  result := by
    intro s t s' r hI hs
    obtain ⟨hinv, ⟨hflp, hfop⟩, hwas, hnowlp, hnowop, habs⟩ := hQ.result s t s' r hI hs
    exact ⟨hinv, ⟨hflp, hfop⟩, hwas, hnowlp, hnowop, fun q hq => (congrArg q.Perm habs).mpr hq⟩

/-! ### Main theorems -/

/-- The structural invariant holds in every reachable state. -/
theorem inv_reachable {Q : QSys σ} (hQ : Q.OK) (s : σ) (h : Q.model.Reachable Q.init s) : Q.Inv s :=
  LPLin.inv_reachable hQ.toLP s h

/-- **Linearizability** (Herlihy–Wing, with completion of pending operations).  For every run of the machine, the
    history of the completed operations, extended by response records `extra` for SOME of the operations still
    pending at the end (operations that have passed their linearization point definitively — `postRet` — they get
    the result fixed there and the response time "end of the run"; at most one per thread), is linearizable to
    `Q.spec`.  All other pending operations are dropped (among them the pending empty dequeues). -/
theorem linearizable {Q : QSys σ} (hQ : Q.OK) (sched : List (Tid × Act)) (s : σ) (os : List (Tid × Obs))
    (h : Q.model.run Q.init sched = some (s, os)) :
    ∃ extra : List (OpRec GOp GRet),
      (∀ e ∈ extra, pendingOf os e.tid = some (e.op, e.inv) ∧ e.res = os.length ∧
          Q.postRet s e.tid = some e.ret) ∧
      extra.Pairwise (fun a b => a.tid ≠ b.tid) ∧
      Linearizable Q.spec (historyOf os ++ extra) := by
  rw [historyOf_eq, pendingOf_eq]
  exact LPLin.linearizable hQ.toLP sched s os h

theorem linearizable_no_effect_pending {Q : QSys σ} (hQ : Q.OK) (sched : List (Tid × Act)) (s : σ)
    (os : List (Tid × Obs)) (h : Q.model.run Q.init sched = some (s, os)) (hq : ∀ t, Q.postRet s t = none) :
    Linearizable Q.spec (historyOf os) :=
  historyOf_eq os ▸ LPLin.linearizable_no_effect_pending hQ.toLP sched s os h hq

/-- **Hindsight for the empty dequeue, on runs.**  If a completed `deq` of a run returned `[0]`, then there is an
    instant `j` strictly between its call (observation `r.inv`) and its return (observation `r.res`) such that in
    the state `s1` reached by the first `j` actions of the run `EmptyAt s1 r.tid` holds and the abstract queue is
    empty. -/
theorem empty_hindsight {Q : QSys σ} (hQ : Q.OK) (sched : List (Tid × Act)) (s : σ) (os : List (Tid × Obs))
    (h : Q.model.run Q.init sched = some (s, os)) (r : OpRec GOp GRet) (hr : r ∈ historyOf os) (hret : r.ret = [0]) :
    ∃ j s1, r.inv < j ∧ j < r.res ∧ Q.model.run Q.init (sched.take j) = some (s1, os.take j) ∧
      Q.EmptyAt s1 r.tid ∧ Q.absQ s1 = [] := by
  obtain ⟨j, s1, e1, e2, e3, hI, -, h1, s2, ev, hs, h2⟩ := LPLin.lp_hindsight hQ.toLP sched s os h r (historyOf_eq os ▸ hr)
  have he := (hQ.step _ _ _ _ hI hs).empty h1 (hret ▸ h2)
  exact ⟨j, s1, e1, e2, e3, he, hQ.empty_abs _ _ he⟩

/-! ### The unordered pool -/

/-- The pool: `enq v` adds an item; `deq` removes an item that is present and returns it, or answers `[0]` when
    nothing is present.  (The FIFO queue with the order forgotten.) -/
def poolNext (q : List Int) (op : GOp) (r : GRet) : Option (List Int) :=
  match op.name, op.args, r with
  | "enq", [v], [1] => some (q ++ [v])
  | "deq", [], [0] => if q = [] then some [] else none
  | "deq", [], [1, v] => if v ∈ q then some (q.erase v) else none
  | _, _, _ => none

def poolSpec : SpecL := ⟨[], poolNext⟩

theorem pool_ret0 (q : List Int) (op : GOp) (q' : List Int) (h : poolSpec.next q op [0] = some q') : q' = q := by
  obtain ⟨name, args⟩ := op
  simp only [poolSpec, poolNext] at h
  split at h
  · simp_all
  · split at h <;> simp_all
  · simp_all
  · simp at h

/-- An insertion anywhere is a pool `enq`. -/
theorem peff_enq (v : Int) (X Y : List Int) : PEff poolSpec (X ++ Y) ⟨"enq", [v]⟩ [1] (X ++ v :: Y) := by
  intro q0 hp
  refine ⟨q0 ++ [v], by simp [poolSpec, poolNext], ?_⟩
  have h1 : (q0 ++ [v]).Perm (v :: q0) := List.perm_append_singleton v q0
  have h2 : (X ++ v :: Y).Perm (v :: (X ++ Y)) := List.perm_middle
  exact h1.trans ((List.Perm.cons v hp).trans h2.symm)

/-- A `fifo` dequeue is a pool `deq`. -/
theorem peff_deq (q q' : List Int) (r : GRet) (h : fifo.next q ⟨"deq", []⟩ r = some q') :
    PEff poolSpec q ⟨"deq", []⟩ r q' := by
  intro q0 hp
  simp only [fifo, detSpec, fifoStep] at h
  cases q with
  | nil =>
    simp at h
    obtain ⟨rfl, rfl⟩ := h
    have : q0 = [] := List.Perm.eq_nil hp
    subst this
    exact ⟨[], by simp [poolSpec, poolNext], List.Perm.refl _⟩
  | cons x xs =>
    simp at h
    obtain ⟨rfl, rfl⟩ := h
    have hx : x ∈ q0 := hp.mem_iff.mpr (by simp)
    refine ⟨q0.erase x, by simp [poolSpec, poolNext, hx], ?_⟩
    have := hp.erase x
    simpa using this

/-- `r` is an `enq v`. -/
def isEnq (v : Int) (r : OpRec GOp GRet) : Bool := r.op == ⟨"enq", [v]⟩
/-- `r` is a dequeue that returned `v`. -/
def isDeqOf (v : Int) (r : OpRec GOp GRet) : Bool := r.op == ⟨"deq", []⟩ && r.ret == [1, v]

theorem pool_step_count {st st' : List Int} (o : OpRec GOp GRet) (v : Int)
    (h : poolSpec.next st o.op o.ret = some st') :
    st'.count v + (if isDeqOf v o then 1 else 0) = st.count v + (if isEnq v o then 1 else 0) := by
  obtain ⟨tid, ⟨name, args⟩, ret, inv, res⟩ := o
  simp only [poolSpec, poolNext] at h
  split at h
  next nm ar rt w =>
    simp at h; subst h
    by_cases hw : w = v
    · subst hw; simp [isEnq, isDeqOf]
    · simp [isEnq, isDeqOf, hw]
  next nm ar rt =>
    split at h <;> simp at h
    subst h; simp_all [isEnq, isDeqOf]
  next nm ar rt w =>
    split at h <;> simp at h
    next hw =>
      subst h
      by_cases e : w = v
      · subst e
        have : 0 < st.count w := List.count_pos_iff.mpr hw
        simp [isEnq, isDeqOf, List.count_erase_self]; omega
      · have : (st.erase w).count v = st.count v := List.count_erase_of_ne (Ne.symm e)
        simp [isEnq, isDeqOf, e, this]
  next => simp at h

theorem pool_legal_count (v : Int) : ∀ (l : List (OpRec GOp GRet)) (st : List Int), Legal poolSpec st l →
    l.countP (isDeqOf v) ≤ st.count v + l.countP (isEnq v) := by
  intro l
  induction l with
  | nil => intro st _; simp
  | cons o l ih =>
    intro st h
    obtain ⟨st1, h1, h2⟩ := h
    have := ih st1 h2
    have hc := pool_step_count o v h1
    simp only [List.countP_cons]
    by_cases hd : isDeqOf v o = true <;> by_cases hen : isEnq v o = true <;> simp [hd, hen] at hc ⊢ <;> omega

/-- In a history linearizable to the pool, the dequeues that return `v` are at most as many as the enqueues of `v`. -/
theorem pool_linearizable_no_dup {ops : List (OpRec GOp GRet)} (h : Linearizable poolSpec ops) (v : Int) :
    ops.countP (isDeqOf v) ≤ ops.countP (isEnq v) := by
  obtain ⟨perm, hperm, -, hlegal⟩ := h
  have := pool_legal_count v perm [] hlegal
  rw [hperm.countP_eq, hperm.countP_eq] at this
  simpa using this

end CdsVerif.Algo.QueueLinP
