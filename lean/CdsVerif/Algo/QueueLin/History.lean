/-
  For the queues: the history and the pending operations of a run (`historyOf`, `pendingOf`, equal to those of
  `Base/SeqHistory`), and sequential facts about `Spec.fifo`: what an answer `[0]` means, no invention, no duplication.
-/
import CdsVerif.Base.GhostLog
namespace CdsVerif.Algo.QueueLin
open CdsVerif.Machine CdsVerif.Spec CdsVerif.Lin

theorem fifo_enq (q : List Int) (v : Int) : fifo.next q ⟨"enq", [v]⟩ [1] = some (q ++ [v]) := by
  simp [fifo, detSpec, fifoStep]
theorem fifo_deq_some (q : List Int) (v : Int) : fifo.next (v :: q) ⟨"deq", []⟩ [1, v] = some q := by
  simp [fifo, detSpec, fifoStep]
theorem fifo_deq_none : fifo.next [] ⟨"deq", []⟩ [0] = some [] := by
  simp [fifo, detSpec, fifoStep]

/-! ### The history of a run -/

/-- Per thread: the operation in progress and the index of its `call` observation. -/
abbrev Pend := Tid → Option (GOp × Nat)

/-- Scan the observations (the head has index `i`): every `ret` closes the operation its thread has in progress. -/
def histAux : Nat → Pend → List (Tid × Obs) → List (OpRec GOp GRet)
  | _, _, [] => []
  | i, pend, (t, .call op) :: os => histAux (i + 1) (upd pend t (some (op, i))) os
  | i, pend, (_, .ev _) :: os => histAux (i + 1) pend os
  | i, pend, (t, .ret r) :: os =>
    match pend t with
    | some (op, k) => ⟨t, op, r, k, i⟩ :: histAux (i + 1) (upd pend t none) os
    | none => histAux (i + 1) pend os

/-- The operations still in progress after the observations. -/
def pendAux : Nat → Pend → List (Tid × Obs) → Pend
  | _, pend, [] => pend
  | i, pend, (t, .call op) :: os => pendAux (i + 1) (upd pend t (some (op, i))) os
  | i, pend, (_, .ev _) :: os => pendAux (i + 1) pend os
  | i, pend, (t, .ret _) :: os =>
    match pend t with
    | some _ => pendAux (i + 1) (upd pend t none) os
    | none => pendAux (i + 1) pend os

/-- The complete history of a run: one record per operation that has both its `call` and its `ret` observation,
    `inv` / `res` = the indices of these observations in `os`.  Operations pending at the end are dropped. -/
def historyOf (os : List (Tid × Obs)) : List (OpRec GOp GRet) := histAux 0 (fun _ => none) os

/-- The operations pending at the end of a run: thread ↦ (operation, index of its `call`). -/
def pendingOf (os : List (Tid × Obs)) : Pend := pendAux 0 (fun _ => none) os

theorem historyOf_eq (os : List (Tid × Obs)) : historyOf os = SeqHistory.historyOf os := by
  delta historyOf SeqHistory.historyOf histAux SeqHistory.histAux
  rfl

theorem pendingOf_eq (os : List (Tid × Obs)) : pendingOf os = SeqHistory.pendingOf os := by
  delta pendingOf SeqHistory.pendingOf pendAux SeqHistory.pendAux
  rfl

/-- Every record of `historyOf os` is an operation of `os`: `inv` is the index of its call, `res` the index of its
    return, and the call precedes the return. -/
theorem historyOf_sound (os : List (Tid × Obs)) (r : OpRec GOp GRet) (h : r ∈ historyOf os) :
    os[r.inv]? = some (r.tid, .call r.op) ∧ os[r.res]? = some (r.tid, .ret r.ret) ∧ r.inv < r.res :=
  SeqHistory.historyOf_sound os r (historyOf_eq os ▸ h)

/-- A pending operation of `pendingOf os` is an operation of `os`: its `call` observation is at the recorded index. -/
theorem pendingOf_sound (os : List (Tid × Obs)) (t : Tid) (op : GOp) (k : Nat)
    (h : pendingOf os t = some (op, k)) : os[k]? = some (t, .call op) :=
  SeqHistory.pendingOf_sound os t op k (pendingOf_eq os ▸ h)

/-! ### The answer `[0]` -/

/-- Only an empty dequeue answers `[0]`, and it does not change the queue. -/
theorem fifo_ret0 {q q' : List Int} {op : GOp} (h : fifo.next q op [0] = some q') : q' = q := by
  obtain ⟨name, args⟩ := op
  simp only [fifo, detSpec] at h
  cases hs : fifoStep q ⟨name, args⟩ with
  | none => simp [hs] at h
  | some p =>
    obtain ⟨q1, r1⟩ := p
    simp [hs] at h
    obtain ⟨hr, rfl⟩ := h
    unfold fifoStep at hs
    split at hs
    next v hn ha => simp at hs; rw [← hs.2] at hr; simp at hr
    next hn ha =>
      split at hs
      · simp at hs; exact hs.1
      · simp at hs; rw [← hs.2] at hr; simp at hr
    next => simp at hs

/-- Only an empty dequeue on the empty queue answers `[0]`. -/
theorem fifo_ret0_empty {q q' : List Int} {op : GOp} (h : fifo.next q op [0] = some q') : q = [] := by
  obtain ⟨name, args⟩ := op
  simp only [fifo, detSpec] at h
  cases hs : fifoStep q ⟨name, args⟩ with
  | none => simp [hs] at h
  | some p =>
    obtain ⟨q1, r1⟩ := p
    simp [hs] at h
    obtain ⟨hr, rfl⟩ := h
    unfold fifoStep at hs
    split at hs
    next v hn ha => simp at hs; rw [← hs.2] at hr; simp at hr
    next hn ha =>
      split at hs
      · rfl
      · simp at hs; rw [← hs.2] at hr; simp at hr
    next => simp at hs

/-! ### Sequential facts about `fifo` -/

theorem fifo_next_mem {st st' : List Int} {op : GOp} {r : GRet} {x : Int}
    (h : fifo.next st op r = some st') (hx : x ∈ st') : x ∈ st ∨ op = ⟨"enq", [x]⟩ := by
  obtain ⟨name, args⟩ := op
  simp only [fifo, detSpec] at h
  cases hs : fifoStep st ⟨name, args⟩ with
  | none => simp [hs] at h
  | some p =>
    obtain ⟨st1, r1⟩ := p
    simp [hs] at h
    obtain ⟨-, rfl⟩ := h
    unfold fifoStep at hs
    split at hs
    next v hn ha =>
      simp at hs hn ha; subst hn ha
      rw [← hs.1] at hx
      rcases List.mem_append.mp hx with e | e
      · left; exact e
      · right; simp at e; rw [e]
    next hn ha =>
      split at hs
      · simp at hs; rw [hs.1] at hx; simp at hx
      · simp at hs; rw [← hs.1] at hx; left; exact List.mem_cons_of_mem _ hx
    next => simp at hs

theorem fifo_deq_val {st st' : List Int} {v : Int} (h : fifo.next st ⟨"deq", []⟩ [1, v] = some st') : v ∈ st := by
  simp only [fifo, detSpec, fifoStep] at h
  cases st with
  | nil => simp at h
  | cons x xs => simp at h; simp [h.1]

theorem legal_deq_enqueued (r : OpRec GOp GRet) (l2 : List (OpRec GOp GRet)) (v : Int)
    (hop : r.op = ⟨"deq", []⟩) (hret : r.ret = [1, v]) :
    ∀ (l1 : List (OpRec GOp GRet)) (st : List Int), Legal fifo st (l1 ++ r :: l2) →
      v ∈ st ∨ ∃ p ∈ l1, p.op = ⟨"enq", [v]⟩ := by
  intro l1
  induction l1 with
  | nil =>
    intro st h
    obtain ⟨st1, h1, -⟩ := h
    rw [hop, hret] at h1
    exact Or.inl (fifo_deq_val h1)
  | cons o l1 ih =>
    intro st h
    obtain ⟨st1, h1, h2⟩ := h
    rcases ih st1 h2 with h3 | ⟨p, hp, hpp⟩
    · rcases fifo_next_mem h1 h3 with h4 | h4
      · exact Or.inl h4
      · exact Or.inr ⟨o, by simp, h4⟩
    · exact Or.inr ⟨p, List.mem_cons_of_mem _ hp, hpp⟩

/-- `r` is an `enq v`. -/
def isEnq (v : Int) (r : OpRec GOp GRet) : Bool := r.op == ⟨"enq", [v]⟩
/-- `r` is a dequeue that returned `v`. -/
def isDeqOf (v : Int) (r : OpRec GOp GRet) : Bool := r.op == ⟨"deq", []⟩ && r.ret == [1, v]

/-- One step of the sequential queue: occurrences of `v` in the queue + dequeues of `v` = ... + enqueues of `v`. -/
theorem fifo_step_count {st st' : List Int} (o : OpRec GOp GRet) (v : Int)
    (h : fifo.next st o.op o.ret = some st') :
    st'.count v + (if isDeqOf v o then 1 else 0) = st.count v + (if isEnq v o then 1 else 0) := by
  obtain ⟨tid, ⟨name, args⟩, ret, inv, res⟩ := o
  simp only [fifo, detSpec] at h
  cases hs : fifoStep st ⟨name, args⟩ with
  | none => simp [hs] at h
  | some p =>
    obtain ⟨st1, r1⟩ := p
    simp [hs] at h
    obtain ⟨rfl, rfl⟩ := h
    unfold fifoStep at hs
    split at hs
    next w hn ha =>
      simp at hs hn ha; subst hn ha
      obtain ⟨rfl, rfl⟩ := hs
      by_cases hw : w = v
      · subst hw; simp [isEnq, isDeqOf]
      · simp [isEnq, isDeqOf, hw]
    next hn ha =>
      simp at hn ha; subst hn ha
      split at hs
      · simp at hs; obtain ⟨rfl, rfl⟩ := hs; simp [isEnq, isDeqOf]
      next x xs =>
        simp at hs; obtain ⟨rfl, rfl⟩ := hs
        by_cases hx : x = v
        · subst hx; simp [isEnq, isDeqOf]
        · simp [isEnq, isDeqOf, hx]
    next => simp at hs

theorem legal_count (v : Int) : ∀ (l : List (OpRec GOp GRet)) (st : List Int), Legal fifo st l →
    l.countP (isDeqOf v) ≤ st.count v + l.countP (isEnq v) := by
  intro l
  induction l with
  | nil => intro st _; simp
  | cons o l ih =>
    intro st h
    obtain ⟨st1, h1, h2⟩ := h
    have := ih st1 h2
    have hc := fifo_step_count o v h1
    simp only [List.countP_cons]
    by_cases hd : isDeqOf v o = true <;> by_cases hen : isEnq v o = true <;> simp [hd, hen] at hc ⊢ <;> omega

/-- In a history linearizable to the FIFO queue, the dequeues that return `v` are at most as many as the
    enqueues of `v`. -/
theorem linearizable_no_dup {ops : List (OpRec GOp GRet)} (h : Linearizable fifo ops) (v : Int) :
    ops.countP (isDeqOf v) ≤ ops.countP (isEnq v) := by
  obtain ⟨perm, hperm, -, hlegal⟩ := h
  have := legal_count v perm [] hlegal
  rw [hperm.countP_eq, hperm.countP_eq] at this
  simpa using this

end CdsVerif.Algo.QueueLin
