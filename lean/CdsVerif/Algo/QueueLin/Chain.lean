/-
  Null-terminated singly linked chains in a heap `nx : Nat → Option Nat`: the list of nodes a pointer leads to, and
  what a write to one `next` field does to it.  Shared by the linked queues (C06).
-/
import CdsVerif.Base.Machine
namespace CdsVerif.Algo.QueueLin
open CdsVerif.Machine

/-! ### Chains -/

def Chain (nx : Nat → Option Nat) : Option Nat → List Nat → Prop
  | p, [] => p = none
  | p, a :: l => p = some a ∧ Chain nx (nx a) l

theorem Chain.functional {nx : Nat → Option Nat} : ∀ {p : Option Nat} {l1 l2 : List Nat},
    Chain nx p l1 → Chain nx p l2 → l1 = l2
  | _, [], [], _, _ => rfl
  | _, [], _ :: _, h1, h2 => by simp [Chain] at h1 h2; simp [h1] at h2
  | _, _ :: _, [], h1, h2 => by simp [Chain] at h1 h2; simp [h2] at h1
  | _, a :: l1, b :: l2, h1, h2 => by
    simp only [Chain] at h1 h2
    have hab : a = b := by have := h1.1.symm.trans h2.1; simpa using this
    subst hab
    rw [Chain.functional h1.2 h2.2]

theorem Chain.upd {nx : Nat → Option Nat} {x : Nat} {v : Option Nat} :
    ∀ {p : Option Nat} {l : List Nat}, x ∉ l → Chain nx p l → Chain (upd nx x v) p l
  | _, [], _, h => h
  | _, a :: l, hx, h => by
    simp only [Chain] at h ⊢
    have hax : a ≠ x := fun e => hx (by simp [e])
    refine ⟨h.1, ?_⟩
    rw [upd_other _ _ _ _ hax]
    exact Chain.upd (fun hm => hx (List.mem_cons_of_mem _ hm)) h.2

theorem Chain.none_nil {nx : Nat → Option Nat} {l : List Nat} (h : Chain nx none l) : l = [] := by
  cases l with
  | nil => rfl
  | cons a l => simp [Chain] at h

/-- The successor of a chain node is on the chain, and not at its front. -/
theorem Chain.succ_mem {nx : Nat → Option Nat} {a x : Nat} :
    ∀ {p : Option Nat} {l : List Nat}, Chain nx p l → a ∈ l → nx a = some x → x ∈ l.tail
  | _, [], _, ha, _ => by simp at ha
  | _, b :: l, h, ha, hx => by
    simp only [Chain] at h
    simp only [List.tail_cons]
    rcases List.mem_cons.mp ha with e | hm
    · subst e
      rw [hx] at h
      cases l with
      | nil => simp [Chain] at h
      | cons c l => simp only [Chain, Option.some.injEq] at h; simp [h.2.1]
    · exact List.mem_of_mem_tail (Chain.succ_mem h.2 hm hx)

/-- A chain node with a null link is the last one. -/
theorem Chain.last {nx : Nat → Option Nat} {a : Nat} :
    ∀ {p : Option Nat} {l : List Nat}, Chain nx p l → a ∈ l → nx a = none → ∃ l0, l = l0 ++ [a]
  | _, [], _, ha, _ => by simp at ha
  | _, b :: l, h, ha, hx => by
    simp only [Chain] at h
    by_cases e : a = b
    · subst e
      rw [hx] at h
      rw [Chain.none_nil h.2]
      exact ⟨[], rfl⟩
    · have hm : a ∈ l := by simpa [e] using ha
      obtain ⟨l0, hl0⟩ := Chain.last h.2 hm hx
      exact ⟨b :: l0, by rw [hl0]; rfl⟩

/-- A chain node whose successor has a null link is the second-to-last one. -/
theorem Chain.last2 {nx : Nat → Option Nat} {a x : Nat} :
    ∀ {p : Option Nat} {l : List Nat}, Chain nx p l → a ∈ l → nx a = some x → nx x = none →
      ∃ l0, l = l0 ++ [a, x]
  | _, [], _, ha, _, _ => by simp at ha
  | _, b :: l, h, ha, hx, hxx => by
    simp only [Chain] at h
    by_cases e : a = b
    · subst e
      rw [hx] at h
      cases l with
      | nil => simp [Chain] at h
      | cons c l =>
        simp only [Chain, Option.some.injEq] at h
        obtain ⟨-, rfl, h3⟩ := h
        rw [hxx] at h3
        rw [Chain.none_nil h3]
        exact ⟨[], rfl⟩
    · have hm : a ∈ l := by simpa [e] using ha
      obtain ⟨l0, hl0⟩ := Chain.last2 h.2 hm hx hxx
      exact ⟨b :: l0, by rw [hl0]; rfl⟩

/-- Linking a fresh node behind the last node of a chain. -/
theorem Chain.snoc {nx : Nat → Option Nat} {a n : Nat} (hn : nx n = none) :
    ∀ {p : Option Nat} {l : List Nat}, Chain nx p l → a ∈ l → nx a = none → n ∉ l →
      Chain (Machine.upd nx a (some n)) p (l ++ [n])
  | _, [], _, ha, _, _ => by simp at ha
  | _, b :: l, h, ha, hx, hnl => by
    simp only [Chain] at h
    have hnb : n ≠ b := fun e => hnl (by simp [e])
    by_cases e : a = b
    · subst e
      rw [hx] at h
      rw [Chain.none_nil h.2]
      simp only [List.cons_append, List.nil_append, Chain, upd_same, true_and]
      exact ⟨h.1, by rw [upd_other _ _ _ _ hnb]; exact hn⟩
    · have hm : a ∈ l := by simpa [e] using ha
      simp only [List.cons_append, Chain]
      refine ⟨h.1, ?_⟩
      rw [upd_other _ _ _ _ (fun e' => e e'.symm)]
      exact Chain.snoc hn h.2 hm hx (fun hm' => hnl (List.mem_cons_of_mem _ hm'))

/-- Executable chain walk with fuel. -/
def walk (nx : Nat → Option Nat) : Nat → Option Nat → List Nat
  | 0, _ => []
  | _ + 1, none => []
  | f + 1, some a => a :: walk nx f (nx a)

theorem walk_none (nx : Nat → Option Nat) (f : Nat) : walk nx f none = [] := by cases f <;> rfl

theorem walk_of_chain {nx : Nat → Option Nat} : ∀ {fuel : Nat} {p : Option Nat} {l : List Nat},
    Chain nx p l → l.length ≤ fuel → walk nx fuel p = l
  | 0, _, [], _, _ => rfl
  | 0, _, _ :: _, _, hl => by simp at hl
  | f + 1, _, [], h, _ => by simp only [Chain] at h; subst h; rfl
  | f + 1, _, a :: l, h, hl => by
    simp only [Chain] at h
    obtain ⟨rfl, h2⟩ := h
    simp only [walk]
    rw [walk_of_chain h2 (by simpa using hl)]

theorem length_le_of_nodup_lt {l : List Nat} {n : Nat} (hn : l.Nodup) (hlt : ∀ a ∈ l, a < n) : l.length ≤ n := by
  have := List.Nodup.length_le_of_subset (l₂ := List.range n) hn (fun a ha => List.mem_range.mpr (hlt a ha))
  simpa using this


end CdsVerif.Algo.QueueLin
