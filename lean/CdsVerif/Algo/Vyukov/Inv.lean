/-
  Invariant of the Vyukov bounded MPMC queue model and the refinement of the abstract queue.

  Notation: `D = posDeq`, `E = posEnq`, `cap = 2^k`, `cell p = p mod cap` (`idxOf_eq`: `pos & mask = pos mod cap`).

  * `VInv.ord`, `VInv.bnd` : `D ≤ E ≤ D + cap`.  The positions claimed by producers are exactly `[0, E)`, those
    claimed by consumers exactly `[0, D)` (a position is claimed by the successful CAS `p → p + 1`).
  * In-flight claimers.  A producer between its CAS on `m_posEnqueue` at `p` and its sequence store (`enqSt p`)
    owns position `p`: `D ≤ p < E`, the cell still shows `p` (`eown`), and it is the only such thread (`euniq`).
    A consumer between its CAS on `m_posDequeue` at `p` and its sequence store (`deqSt p v`) owns position `p`:
    `p < D`, `E ≤ p + cap` (the cell has not been claimed again), the cell still shows `p + 1`, its payload is
    still the value `v` the consumer returns (`down`), and it is the only such thread (`duniq`).
  * Sequence numbers (`full`, `free`).  For a position `D ≤ p < E` (claimed by a producer, not by a consumer) the
    cell shows `p + 1` (published) or `p` (the producer's store is pending).  For a position `E ≤ p < D + cap` (the
    next lap, not claimed yet) the cell shows `p` (free for the producer of `p`) or `p - cap + 1` (the consumer of
    the previous lap has claimed `p - cap` and its store is pending).  Every cell is the cell of exactly one
    position of `[D, D + cap)`, so this determines `seq i` for every `i < cap` up to the pending stores.
    In `VInv` "pending" is stated through the sequence value (no safety property needs more); the converse — a
    cell showing `p` with `D ≤ p < E` HAS an in-flight producer `enqSt p`, a cell showing `p - cap + 1` with
    `E ≤ p < D + cap` HAS an in-flight consumer `deqSt (p - cap)` — is the second invariant `VOwn`, so that together
    `seq i` is determined exactly by `posEnq`, `posDeq` and the set of in-flight claimers (`vown_reachable`).
  * Observers (`epos`, `dpos`, `ecas`, `dcas`).  A position read from `m_posEnqueue` (`m_posDequeue`) stays `≤` it;
    a thread that saw `dif == 0` and is about to CAS finds, IF its CAS succeeds, the cell exactly as it saw it.
  * `absQueue s` = the payloads of the cells of the positions `D ≤ p < E`, in order.  An element claimed by a
    producer whose sequence store is pending is already IN the abstract queue (linearization point: the successful
    CAS on `m_posEnqueue`); a consumer that won its CAS has already REMOVED its element (linearization point: the
    successful CAS on `m_posDequeue`).  `deq_claims_published`: the consumer can only win after the producer of the
    same position has published (sequence `p + 1` observed and still there), and the payload it returns is the
    head of the abstract queue.  `no_overwrite`: a producer writes a payload only into a cell that is outside the
    abstract queue and that no other thread holds.
  * Failing operations need NO hindsight.  A producer returns `[0]` at its load of `m_posDequeue` that yields
    `pos - posDeq == cap`; `pos` was read from `m_posEnqueue` earlier, so `pos ≤ E` (`epos`), and `E ≤ D + cap = pos`
    (`bnd`): hence `E = pos` and the abstract queue holds exactly `cap` items AT THE INSTANT OF THAT LOAD, which is
    also the step that fixes the result.  Symmetrically a consumer returns `[0]` at its load of `m_posEnqueue`
    that yields `pos == E`: `pos ≤ D ≤ E = pos`, the queue is empty at that instant (`fail_step`).
  * `step_refines` : a step that passes a linearization point is exactly one `bfifo cap` step on `absQueue` with
    the result the operation returns; every other step leaves `absQueue` unchanged.
-/
import CdsVerif.Algo.Vyukov.Model
namespace CdsVerif.Algo.Vyukov
open CdsVerif.Machine CdsVerif.Spec CdsVerif.Lin

/-! ### Cells -/

/-- The cell of position `p`: `p mod capacity`. -/
def cell (k p : Nat) : Nat := p % capOf k

theorem idxOf_eq (k p : Nat) : idxOf k p = cell k p := by
  unfold idxOf maskOf capOf cell
  exact Nat.and_two_pow_sub_one_eq_mod p k

theorem capOf_pos (k : Nat) : 0 < capOf k := Nat.two_pow_pos k

theorem capOf_ge2 {k : Nat} (h : 1 ≤ k) : 2 ≤ capOf k := by
  unfold capOf
  calc 2 = 2 ^ 1 := rfl
    _ ≤ 2 ^ k := Nat.pow_le_pow_right (by omega) h

theorem maskOf_succ (k : Nat) : maskOf k + 1 = capOf k := by
  have := capOf_pos k
  unfold maskOf; omega

theorem cell_inj {k a b : Nat} (h : cell k a = cell k b) (h1 : a < b + capOf k) (h2 : b < a + capOf k) : a = b := by
  unfold cell at h
  have ha := Nat.div_add_mod a (capOf k)
  have hb := Nat.div_add_mod b (capOf k)
  have hc := capOf_pos k
  generalize capOf k = c at *
  generalize a / c = qa at *
  generalize b / c = qb at *
  rw [h] at ha
  have : qa = qb := by
    rcases Nat.lt_trichotomy qa qb with hlt | heq | hgt
    · have : c * (qa + 1) ≤ c * qb := Nat.mul_le_mul_left c hlt
      rw [Nat.mul_add] at this; omega
    · exact heq
    · have : c * (qb + 1) ≤ c * qa := Nat.mul_le_mul_left c hgt
      rw [Nat.mul_add] at this; omega
  subst this; omega

theorem cell_add (k a : Nat) : cell k (a + capOf k) = cell k a := by
  unfold cell; exact Nat.add_mod_right a (capOf k)


/-! ### The abstract queue -/

/-- The abstract queue: the payloads of the cells of the positions `posDeq ≤ p < posEnq`, oldest first. -/
def absQueue (s : St) : List Int :=
  (List.range' s.posDeq (s.posEnq - s.posDeq)).map (fun p => s.data (cell s.k p))

theorem absQueue_length (s : St) : (absQueue s).length = s.posEnq - s.posDeq := by simp [absQueue]

theorem absQueue_congr {s s' : St} (h1 : s'.k = s.k) (h2 : s'.data = s.data) (h3 : s'.posEnq = s.posEnq)
    (h4 : s'.posDeq = s.posDeq) : absQueue s' = absQueue s := by
  simp only [absQueue, h1, h2, h3, h4]

/-- Claiming position `E` with payload `v` appends `v`. -/
theorem absq_enq (k : Nat) (data : Nat → Int) (D E : Nat) (v : Int) (h1 : D ≤ E) (h2 : E < D + capOf k) :
    (List.range' D (E + 1 - D)).map (fun p => upd data (cell k E) v (cell k p)) =
      (List.range' D (E - D)).map (fun p => data (cell k p)) ++ [v] := by
  have e : E + 1 - D = (E - D) + 1 := by omega
  rw [e, List.range'_concat, List.map_append]
  congr 1
  · apply List.map_congr_left
    intro p hp
    have hp' := List.mem_range'_1.mp hp
    have hne : cell k p ≠ cell k E := fun hc => by
      have := cell_inj hc (by omega) (by omega); omega
    simp [upd, hne]
  · have : D + (E - D) = E := by omega
    simp [this, upd]

/-- Claiming position `D` for a dequeue removes the head. -/
theorem absq_deq (f : Nat → Int) (D E : Nat) (h : D < E) :
    (List.range' D (E - D)).map f = f D :: (List.range' (D + 1) (E - (D + 1))).map f := by
  have e : E - D = (E - (D + 1)) + 1 := by omega
  rw [e, List.range'_succ, List.map_cons]

theorem bfifo_enq_ok (cap : Nat) (q : List Int) (v : Int) (h : q.length < cap) :
    (bfifo cap).next q ⟨"enq", [v]⟩ [1] = some (q ++ [v]) := by
  simp [bfifo, detSpec, bfifoStep, h]
theorem bfifo_enq_full (cap : Nat) (q : List Int) (v : Int) (h : ¬ q.length < cap) :
    (bfifo cap).next q ⟨"enq", [v]⟩ [0] = some q := by
  simp [bfifo, detSpec, bfifoStep, h]
theorem bfifo_deq_some (cap : Nat) (q : List Int) (v : Int) :
    (bfifo cap).next (v :: q) ⟨"deq", []⟩ [1, v] = some q := by
  simp [bfifo, detSpec, bfifoStep]
theorem bfifo_deq_none (cap : Nat) : (bfifo cap).next [] ⟨"deq", []⟩ [0] = some [] := by
  simp [bfifo, detSpec, bfifoStep]

/-! ### The invariant -/

/-- The position held by a producer that has not won its CAS. -/
def enqPosOf : PC → Option Nat
  | .enqSeq _ p => some p
  | .enqCas _ p => some p
  | .enqFull _ p => some p
  | _ => none

/-- The position held by a consumer that has not won its CAS. -/
def deqPosOf : PC → Option Nat
  | .deqSeq p => some p
  | .deqCas p => some p
  | .deqEmpty p => some p
  | _ => none

structure VInv (s : St) : Prop where
  k1 : 1 ≤ s.k
  ord : s.posDeq ≤ s.posEnq
  bnd : s.posEnq ≤ s.posDeq + capOf s.k
  eown : ∀ t p, s.pc t = .enqSt p → s.posDeq ≤ p ∧ p < s.posEnq ∧ s.seq (cell s.k p) = p
  down : ∀ t p v, s.pc t = .deqSt p v →
    p < s.posDeq ∧ s.posEnq ≤ p + capOf s.k ∧ s.seq (cell s.k p) = p + 1 ∧ s.data (cell s.k p) = v
  euniq : ∀ t1 t2 p, s.pc t1 = .enqSt p → s.pc t2 = .enqSt p → t1 = t2
  duniq : ∀ t1 t2 p v1 v2, s.pc t1 = .deqSt p v1 → s.pc t2 = .deqSt p v2 → t1 = t2
  full : ∀ p, s.posDeq ≤ p → p < s.posEnq → s.seq (cell s.k p) = p + 1 ∨ s.seq (cell s.k p) = p
  free : ∀ p, s.posEnq ≤ p → p < s.posDeq + capOf s.k →
    s.seq (cell s.k p) = p ∨ s.seq (cell s.k p) + capOf s.k = p + 1
  epos : ∀ t p, enqPosOf (s.pc t) = some p → p ≤ s.posEnq
  dpos : ∀ t p, deqPosOf (s.pc t) = some p → p ≤ s.posDeq
  ecas : ∀ t v p, s.pc t = .enqCas v p → s.posEnq = p → s.seq (cell s.k p) = p
  dcas : ∀ t p, s.pc t = .deqCas p → s.posDeq = p → s.seq (cell s.k p) = p + 1

theorem vinv_init (k : Nat) (hk : 1 ≤ k) : VInv (init k) := by
  constructor <;> simp [init, enqPosOf, deqPosOf, hk]
  intro p hp
  left; unfold cell; exact Nat.mod_eq_of_lt hp

/-! ### The invariant by memory and by thread

`VInv s` says something about the memory alone (`MInv`: positions and sequence numbers), something about the memory
and the program counter of each single thread (`TInv`), and that no two threads have claimed the same position
(`Excl`).  Only four steps write memory: the two CAS that claim a position (`VInv.claimEnq`, `VInv.claimDeq`) and the
two stores that publish (`vinv_step_enqSt`, `vinv_step_deqSt`).  The stores change the sequence number of ONE cell; all
positions the invariant speaks of lie within `cap` of the claimed position, so they have other cells (`cell_ne`). -/

/-- The shared memory of a state: everything but the program counters. -/
structure Mem where
  k : Nat
  seq : Nat → Nat
  data : Nat → Int
  posEnq : Nat
  posDeq : Nat

abbrev St.mem (s : St) : Mem := ⟨s.k, s.seq, s.data, s.posEnq, s.posDeq⟩

structure MInv (m : Mem) : Prop where
  k1 : 1 ≤ m.k
  ord : m.posDeq ≤ m.posEnq
  bnd : m.posEnq ≤ m.posDeq + capOf m.k
  full : ∀ p, m.posDeq ≤ p → p < m.posEnq → m.seq (cell m.k p) = p + 1 ∨ m.seq (cell m.k p) = p
  free : ∀ p, m.posEnq ≤ p → p < m.posDeq + capOf m.k →
    m.seq (cell m.k p) = p ∨ m.seq (cell m.k p) + capOf m.k = p + 1

/-- The position a producer has claimed and not yet published. -/
def atEnqSt : PC → Option Nat
  | .enqSt p => some p
  | _ => none

/-- The position a consumer has claimed and not yet released, with the value it returns. -/
def atDeqSt : PC → Option (Nat × Int)
  | .deqSt p v => some (p, v)
  | _ => none

def atEnqCas : PC → Option Nat
  | .enqCas _ p => some p
  | _ => none

def atDeqCas : PC → Option Nat
  | .deqCas p => some p
  | _ => none

/-- What `VInv` says about one thread at program counter `pc`. -/
structure TInv (m : Mem) (pc : PC) : Prop where
  eown : ∀ p, atEnqSt pc = some p → m.posDeq ≤ p ∧ p < m.posEnq ∧ m.seq (cell m.k p) = p
  down : ∀ p v, atDeqSt pc = some (p, v) →
    p < m.posDeq ∧ m.posEnq ≤ p + capOf m.k ∧ m.seq (cell m.k p) = p + 1 ∧ m.data (cell m.k p) = v
  epos : ∀ p, enqPosOf pc = some p → p ≤ m.posEnq
  dpos : ∀ p, deqPosOf pc = some p → p ≤ m.posDeq
  ecas : ∀ p, atEnqCas pc = some p → m.posEnq = p → m.seq (cell m.k p) = p
  dcas : ∀ p, atDeqCas pc = some p → m.posDeq = p → m.seq (cell m.k p) = p + 1

/-- Two threads have not claimed the same position. -/
structure Excl (p q : PC) : Prop where
  enq : ∀ x, atEnqSt p = some x → atEnqSt q ≠ some x
  deq : ∀ x v1 v2, atDeqSt p = some (x, v1) → atDeqSt q ≠ some (x, v2)

theorem Excl.symm {p q : PC} (h : Excl p q) : Excl q p :=
  ⟨fun x e1 e2 => h.enq x e2 e1, fun x v1 v2 e1 e2 => h.deq x v2 v1 e2 e1⟩

/-- A program counter that has claimed no position excludes nothing. -/
theorem Excl.of_none {p q : PC} (h1 : atEnqSt p = none) (h2 : atDeqSt p = none) : Excl p q :=
  ⟨fun _ e => (nomatch h1.symm.trans e), fun _ _ _ e => (nomatch h2.symm.trans e)⟩

theorem atEnqSt_iff {pc : PC} {p : Nat} : atEnqSt pc = some p ↔ pc = .enqSt p := by
  cases pc <;> simp [atEnqSt]
theorem atDeqSt_iff {pc : PC} {p : Nat} {v : Int} : atDeqSt pc = some (p, v) ↔ pc = .deqSt p v := by
  cases pc <;> simp [atDeqSt]

section
variable {s : St}

theorem VInv.mem (h : VInv s) : MInv s.mem := ⟨h.k1, h.ord, h.bnd, h.full, h.free⟩

theorem VInv.thread (h : VInv s) (t : Tid) : TInv s.mem (s.pc t) where
  eown := fun p e => h.eown t p (atEnqSt_iff.1 e)
  down := fun p v e => h.down t p v (atDeqSt_iff.1 e)
  epos := h.epos t
  dpos := h.dpos t
  ecas := fun p e => by
    cases hp : s.pc t <;> simp only [hp, atEnqCas, Option.some.injEq, reduceCtorEq] at e
    exact e ▸ h.ecas t _ _ hp
  dcas := fun p e => by
    cases hp : s.pc t <;> simp only [hp, atDeqCas, Option.some.injEq, reduceCtorEq] at e
    exact e ▸ h.dcas t _ hp

theorem VInv.thread_at (h : VInv s) {t : Tid} {pc : PC} (hpc : s.pc t = pc) : TInv s.mem pc :=
  hpc ▸ h.thread t

theorem VInv.excl (h : VInv s) {t u : Tid} (hne : t ≠ u) : Excl (s.pc t) (s.pc u) :=
  ⟨fun x e1 e2 => hne (h.euniq t u x (atEnqSt_iff.1 e1) (atEnqSt_iff.1 e2)),
   fun x v1 v2 e1 e2 => hne (h.duniq t u x v1 v2 (atDeqSt_iff.1 e1) (atDeqSt_iff.1 e2))⟩

theorem VInv.of_parts (hM : MInv s.mem) (hT : ∀ t, TInv s.mem (s.pc t))
    (hE : ∀ t u, t ≠ u → Excl (s.pc t) (s.pc u)) : VInv s where
  k1 := hM.k1
  ord := hM.ord
  bnd := hM.bnd
  eown := fun t p e => (hT t).eown p (atEnqSt_iff.2 e)
  down := fun t p v e => (hT t).down p v (atDeqSt_iff.2 e)
  euniq := fun t u p e1 e2 => Classical.byContradiction fun hne =>
    (hE t u hne).enq p (atEnqSt_iff.2 e1) (atEnqSt_iff.2 e2)
  duniq := fun t u p v1 v2 e1 e2 => Classical.byContradiction fun hne =>
    (hE t u hne).deq p v1 v2 (atDeqSt_iff.2 e1) (atDeqSt_iff.2 e2)
  full := hM.full
  free := hM.free
  epos := fun t => (hT t).epos
  dpos := fun t => (hT t).dpos
  ecas := fun t v p e => (hT t).ecas p (by rw [e]; rfl)
  dcas := fun t p e => (hT t).dcas p (by rw [e]; rfl)

/-- The rule for one step of thread `t`. -/
theorem VInv.frame {s' : St} {t : Tid} (h : VInv s) (hpc : ∀ u, u ≠ t → s'.pc u = s.pc u)
    (hM : MInv s'.mem) (hT : TInv s'.mem (s'.pc t)) (hO : ∀ u, u ≠ t → TInv s'.mem (s.pc u))
    (hE : ∀ u, u ≠ t → Excl (s'.pc t) (s.pc u)) : VInv s' := by
  refine VInv.of_parts hM (fun u => ?_) (fun u v huv => ?_)
  · by_cases hu : u = t
    · rw [hu]; exact hT
    · rw [hpc u hu]; exact hO u hu
  · by_cases hu : u = t
    · have hv : v ≠ t := fun e => huv (hu.trans e.symm)
      rw [hu, hpc v hv]; exact hE v hv
    · rw [hpc u hu]
      by_cases hv : v = t
      · rw [hv]; exact (hE u hu).symm
      · rw [hpc v hv]; exact h.excl huv

end

theorem cell_ne {k a b : Nat} (h : a ≠ b) (h1 : a < b + capOf k) (h2 : b < a + capOf k) : cell k a ≠ cell k b :=
  fun e => h (cell_inj e h1 h2)

theorem enqPosOf_of_atEnqCas {pc : PC} {p : Nat} (e : atEnqCas pc = some p) : enqPosOf pc = some p := by
  cases pc <;> simp_all [atEnqCas, enqPosOf]
theorem deqPosOf_of_atDeqCas {pc : PC} {p : Nat} (e : atDeqCas pc = some p) : deqPosOf pc = some p := by
  cases pc <;> simp_all [atDeqCas, deqPosOf]

/-! ### Linearization-point bookkeeping on program counters -/

/-- The result fixed at the linearization point, for a thread that has passed it. -/
def lpRet : PC → Option GRet
  | .enqSt _ => some [1]
  | .deqSt _ v => some [1, v]
  | .done r => some r
  | _ => none

/-- The operation a thread is executing, while it has not passed its linearization point. -/
def opOf : PC → Option GOp
  | .enqPos v => some ⟨"enq", [v]⟩
  | .enqSeq v _ => some ⟨"enq", [v]⟩
  | .enqCas v _ => some ⟨"enq", [v]⟩
  | .enqFull v _ => some ⟨"enq", [v]⟩
  | .deqPos => some ⟨"deq", []⟩
  | .deqSeq _ => some ⟨"deq", []⟩
  | .deqCas _ => some ⟨"deq", []⟩
  | .deqEmpty _ => some ⟨"deq", []⟩
  | _ => none

structure StepEff (s : St) (t : Tid) (s' : St) : Prop where
  frame : ∀ t2, t2 ≠ t → s'.pc t2 = s.pc t2
  kk : s'.k = s.k
  lp : lpRet (s.pc t) = none → ∀ r, lpRet (s'.pc t) = some r →
        ∃ op, opOf (s.pc t) = some op ∧ (bfifo (capOf s.k)).next (absQueue s) op r = some (absQueue s')
  nolp : (lpRet (s.pc t) ≠ none ∨ lpRet (s'.pc t) = none) → absQueue s' = absQueue s
  keep : ∀ r, lpRet (s.pc t) = some r → lpRet (s'.pc t) = some r
  op : lpRet (s'.pc t) = none → opOf (s'.pc t) = opOf (s.pc t)
  busy : s.pc t ≠ .idle ∧ s'.pc t ≠ .idle

/-- Moving a thread between program counters that own no cell preserves the invariant. -/
theorem vinv_pc {s : St} {t : Tid} {Y : PC} (h : VInv s)
    (hY1 : ∀ p, Y ≠ .enqSt p) (hY2 : ∀ p v, Y ≠ .deqSt p v)
    (hep : ∀ p, enqPosOf Y = some p → p ≤ s.posEnq)
    (hdp : ∀ p, deqPosOf Y = some p → p ≤ s.posDeq)
    (hec : ∀ v p, Y = .enqCas v p → s.posEnq = p → s.seq (cell s.k p) = p)
    (hdc : ∀ p, Y = .deqCas p → s.posDeq = p → s.seq (cell s.k p) = p + 1) :
    VInv { s with pc := upd s.pc t Y } := by
  have hpt : ({ s with pc := upd s.pc t Y } : St).pc t = Y := upd_same _ _ _
  refine h.frame (t := t) (fun u hu => upd_other _ _ _ _ hu) h.mem ?_ (fun u _ => h.thread u) (fun u _ => ?_)
  · rw [hpt]
    exact ⟨fun p e => absurd (atEnqSt_iff.1 e) (hY1 p), fun p v e => absurd (atDeqSt_iff.1 e) (hY2 p v), hep, hdp,
      fun p e => by cases Y <;> simp only [atEnqCas, Option.some.injEq, reduceCtorEq] at e; exact e ▸ hec _ _ rfl,
      fun p e => by cases Y <;> simp only [atDeqCas, Option.some.injEq, reduceCtorEq] at e; exact e ▸ hdc _ rfl⟩
  · rw [hpt]
    exact ⟨fun x e => absurd (atEnqSt_iff.1 e) (hY1 x), fun x v1 _ e => absurd (atDeqSt_iff.1 e) (hY2 x v1)⟩

/-- A step that neither passes a linearization point nor touches positions or payloads. -/
theorem eff_pc {s : St} {t : Tid} {Y : PC} (hb : s.pc t ≠ .idle) (hY : Y ≠ .idle)
    (hl' : lpRet Y = none) (hop : opOf Y = opOf (s.pc t)) (hl : lpRet (s.pc t) = none) :
    StepEff s t { s with pc := upd s.pc t Y } := by
  constructor <;> intros <;> (try dsimp only at *) <;> grind [upd, absQueue_congr]


macro "pc_only" h:ident hpc:ident : tactic =>
  `(tactic| (refine ⟨vinv_pc $h ?_ ?_ ?_ ?_ ?_ ?_, eff_pc ?_ ?_ ?_ ?_ ?_⟩ <;>
      simp [enqPosOf, deqPosOf, lpRet, opOf, $hpc:ident]))

theorem vinv_step_enqPos {s s' : St} {t : Tid} {ev : Ev} {v : Int}
    (h : VInv s) (hpc : s.pc t = .enqPos v) (hs : step s t = some (s', ev)) : VInv s' ∧ StepEff s t s' := by
  simp only [step, hpc] at hs
  simp at hs; obtain ⟨rfl, -⟩ := hs
  pc_only h hpc

theorem vinv_step_enqSeq {s s' : St} {t : Tid} {ev : Ev} {v : Int} {p : Nat}
    (h : VInv s) (hpc : s.pc t = .enqSeq v p) (hs : step s t = some (s', ev)) : VInv s' ∧ StepEff s t s' := by
  have hp := h.epos t p (by simp [hpc, enqPosOf])
  simp only [step, hpc, idxOf_eq] at hs
  split at hs
  next heq =>
    simp at hs; obtain ⟨rfl, -⟩ := hs
    have hseq : s.seq (cell s.k p) = p := by omega
    pc_only h hpc
    · exact hp
    · intro _; exact hseq
  next hne =>
    split at hs
    next hlt =>
      simp at hs; obtain ⟨rfl, -⟩ := hs
      pc_only h hpc
      exact hp
    next hge =>
      simp at hs; obtain ⟨rfl, -⟩ := hs
      pc_only h hpc

section
variable {s s' : St} {t : Tid} {ev : Ev}

/-- If the cell of `posEnq` shows `posEnq`, the queue is not full: the cell of `posDeq + cap` is the cell of `posDeq`,
    which shows `posDeq` or `posDeq + 1`. -/
theorem VInv.enq_room (h : VInv s) (hseq : s.seq (cell s.k s.posEnq) = s.posEnq) :
    s.posEnq < s.posDeq + capOf s.k := by
  have hc2 := capOf_ge2 h.k1
  have hord := h.ord
  have hbnd := h.bnd
  apply Classical.byContradiction; intro hn
  have e : s.posEnq = s.posDeq + capOf s.k := by omega
  have h1 := h.full s.posDeq (Nat.le_refl _) (by omega)
  rw [← cell_add, ← e, hseq] at h1
  omega

/-- A producer claims position `posEnq`, whose cell shows `posEnq`, and writes the payload. -/
theorem VInv.claimEnq {v : Int} (h : VInv s) (hseq : s.seq (cell s.k s.posEnq) = s.posEnq) :
    VInv ⟨s.k, s.seq, upd s.data (cell s.k s.posEnq) v, s.posEnq + 1, s.posDeq, upd s.pc t (.enqSt s.posEnq)⟩ := by
  have hc2 := capOf_ge2 h.k1
  have hord := h.ord
  have hlt := h.enq_room hseq
  have hpt : (⟨s.k, s.seq, upd s.data (cell s.k s.posEnq) v, s.posEnq + 1, s.posDeq,
      upd s.pc t (.enqSt s.posEnq)⟩ : St).pc t = .enqSt s.posEnq := upd_same _ _ _
  refine h.frame (t := t) (fun u hu => upd_other _ _ _ _ hu) ?_ ?_ (fun u hu => ?_) (fun u hu => ?_)
  · exact ⟨h.k1, Nat.le_succ_of_le hord, hlt,
      fun q h1 h2 => by
        by_cases e : q = s.posEnq
        · rw [e]; exact .inr hseq
        · exact h.full q h1 (Nat.lt_of_le_of_ne (Nat.le_of_lt_succ h2) e),
      fun q h1 h2 => h.free q (Nat.le_of_succ_le h1) h2⟩
  · rw [hpt]
    exact ⟨fun x e => by cases e; exact ⟨hord, Nat.lt_succ_self _, hseq⟩, nofun, nofun, nofun, nofun, nofun⟩
  · have hU := h.thread u
    exact { hU with
      eown := fun x e => by
        obtain ⟨a, b, c⟩ := hU.eown x e
        exact ⟨a, Nat.lt_succ_of_lt b, c⟩
      down := fun x w e => by
        obtain ⟨a, b, c, d⟩ := hU.down x w e
        have a' : x < s.posDeq := a
        have b' : s.posEnq ≤ x + capOf s.k := b
        have hne : s.posEnq ≠ x + capOf s.k := fun e' => by
          have c' : s.seq (cell s.k x) = x + 1 := c
          rw [← cell_add, ← e', hseq] at c'; omega
        refine ⟨a, Nat.succ_le_of_lt (Nat.lt_of_le_of_ne b' hne), c, ?_⟩
        show upd s.data (cell s.k s.posEnq) v (cell s.k x) = w
        rw [upd_other _ _ _ _ (cell_ne (by omega) (by omega) (by omega))]; exact d
      epos := fun q e => Nat.le_succ_of_le (hU.epos q e)
      ecas := fun x e e' => by
        have h1 : x ≤ s.posEnq := hU.epos x (enqPosOf_of_atEnqCas e)
        have h2 : s.posEnq + 1 = x := e'
        omega }
  · rw [hpt]
    exact ⟨fun x e e' => by
      cases e
      exact absurd ((h.thread u).eown _ e').2.1 (Nat.lt_irrefl _), nofun⟩

theorem vinv_step_enqCas {v : Int} {p : Nat}
    (h : VInv s) (hpc : s.pc t = .enqCas v p) (hs : step s t = some (s', ev)) : VInv s' ∧ StepEff s t s' := by
  simp only [step, hpc, idxOf_eq] at hs
  split at hs
  next heq =>
    cases hs
    subst heq
    have hseq : s.seq (cell s.k s.posEnq) = s.posEnq := (h.thread_at hpc).ecas _ rfl rfl
    have hlt := h.enq_room hseq
    have hord := h.ord
    have hq : absQueue ⟨s.k, s.seq, upd s.data (cell s.k s.posEnq) v, s.posEnq + 1, s.posDeq,
        upd s.pc t (.enqSt s.posEnq)⟩ = absQueue s ++ [v] :=
      absq_enq s.k s.data s.posDeq s.posEnq v hord hlt
    have hlp := bfifo_enq_ok (capOf s.k) (absQueue s) v (by rw [absQueue_length]; omega)
    have hpt : (⟨s.k, s.seq, upd s.data (cell s.k s.posEnq) v, s.posEnq + 1, s.posDeq,
        upd s.pc t (.enqSt s.posEnq)⟩ : St).pc t = .enqSt s.posEnq := upd_same _ _ _
    refine ⟨h.claimEnq hseq,
      ⟨fun u hu => upd_other _ _ _ _ hu, rfl, fun _ r e => ?_, fun e => ?_, fun r e => ?_, fun e => ?_, ?_⟩⟩
    · rw [hpt] at e; cases e
      exact ⟨⟨"enq", [v]⟩, by rw [hpc]; rfl, hq ▸ hlp⟩
    · rw [hpt, hpc] at e; rcases e with e | e
      · exact absurd rfl e
      · cases e
    · rw [hpc] at e; cases e
    · rw [hpt] at e; cases e
    · rw [hpt, hpc]; exact ⟨nofun, nofun⟩
  next hne =>
    cases hs
    pc_only h hpc

end

theorem vinv_step_enqFull {s s' : St} {t : Tid} {ev : Ev} {v : Int} {p : Nat}
    (h : VInv s) (hpc : s.pc t = .enqFull v p) (hs : step s t = some (s', ev)) : VInv s' ∧ StepEff s t s' := by
  have hp := h.epos t p (by simp [hpc, enqPosOf])
  simp only [step, hpc] at hs
  split at hs
  next heq =>
    simp at hs; obtain ⟨rfl, -⟩ := hs
    refine ⟨vinv_pc h ?_ ?_ ?_ ?_ ?_ ?_, ?_⟩ <;> (try simp [enqPosOf, deqPosOf])
    have hlen := absQueue_length s
    have hb := h.bnd
    have hlp := bfifo_enq_full (capOf s.k) (absQueue s) v (by omega)
    constructor <;> intros <;> (try dsimp only at *) <;> grind [upd, lpRet, opOf, absQueue_congr]
  next hne =>
    simp at hs; obtain ⟨rfl, -⟩ := hs
    pc_only h hpc

section
variable {s s' : St} {t : Tid} {ev : Ev}

/-- The step of a thread that has passed its linearization point and now publishes: positions and payloads stay. -/
theorem eff_publish {seq' : Nat → Nat} {r : GRet} (hl : lpRet (s.pc t) = some r) (hb : s.pc t ≠ .idle) :
    StepEff s t { s with seq := seq', pc := upd s.pc t (.done r) } := by
  have hpt : ({ s with seq := seq', pc := upd s.pc t (.done r) } : St).pc t = .done r := upd_same _ _ _
  refine ⟨fun u hu => upd_other _ _ _ _ hu, rfl, fun e => ?_, fun _ => absQueue_congr rfl rfl rfl rfl, fun r' e => ?_,
    fun e => ?_, hb, ?_⟩
  · rw [hl] at e; cases e
  · rw [hpt]; exact hl.symm.trans e
  · rw [hpt] at e; cases e
  · rw [hpt]; nofun

theorem vinv_step_enqSt {p : Nat}
    (h : VInv s) (hpc : s.pc t = .enqSt p) (hs : step s t = some (s', ev)) : VInv s' ∧ StepEff s t s' := by
  simp only [step, hpc, idxOf_eq] at hs
  cases hs
  have hc2 := capOf_ge2 h.k1
  have hord := h.ord
  have hbnd := h.bnd
  obtain ⟨h1, h2, h3⟩ := h.eown t p hpc
  -- every other position in the window of width `cap` around `p` has another cell
  have hother : ∀ x, x ≠ p → p < x + capOf s.k → x < p + capOf s.k →
      upd s.seq (cell s.k p) (p + 1) (cell s.k x) = s.seq (cell s.k x) :=
    fun x e a b => upd_other _ _ _ _ (cell_ne e b a)
  have hpt : ({ s with seq := upd s.seq (cell s.k p) (p + 1), pc := upd s.pc t (.done [1]) } : St).pc t = .done [1] :=
    upd_same _ _ _
  refine ⟨h.frame (t := t) (fun u hu => upd_other _ _ _ _ hu) ?_ ?_ (fun u hu => ?_) (fun u hu => ?_),
    eff_publish (by rw [hpc]; rfl) (by rw [hpc]; nofun)⟩
  · exact ⟨h.k1, hord, hbnd,
      fun q a b => by
        show upd s.seq (cell s.k p) (p + 1) (cell s.k q) = q + 1 ∨ upd s.seq (cell s.k p) (p + 1) (cell s.k q) = q
        by_cases e : q = p
        · rw [e]; exact .inl (upd_same _ _ _)
        · have a' : s.posDeq ≤ q := a
          have b' : q < s.posEnq := b
          rw [hother q e (by omega) (by omega)]; exact h.full q a b,
      fun q a b => by
        show upd s.seq (cell s.k p) (p + 1) (cell s.k q) = q ∨ upd s.seq (cell s.k p) (p + 1) (cell s.k q) + capOf s.k = q + 1
        have a' : s.posEnq ≤ q := a
        have b' : q < s.posDeq + capOf s.k := b
        rw [hother q (by omega) (by omega) (by omega)]; exact h.free q a b⟩
  · rw [hpt]; exact ⟨nofun, nofun, nofun, nofun, nofun, nofun⟩
  · have hU := h.thread u
    have hx := h.excl (Ne.symm hu)
    rw [hpc] at hx
    exact { hU with
      eown := fun x e => by
        obtain ⟨a, b, c⟩ := hU.eown x e
        have a' : s.posDeq ≤ x := a
        have b' : x < s.posEnq := b
        refine ⟨a, b, ?_⟩
        show upd s.seq (cell s.k p) (p + 1) (cell s.k x) = x
        rw [hother x (fun e' => hx.enq p rfl (e' ▸ e)) (by omega) (by omega)]; exact c
      down := fun x w e => by
        obtain ⟨a, b, c, d⟩ := hU.down x w e
        have a' : x < s.posDeq := a
        have b' : s.posEnq ≤ x + capOf s.k := b
        refine ⟨a, b, ?_, d⟩
        show upd s.seq (cell s.k p) (p + 1) (cell s.k x) = x + 1
        rw [hother x (by omega) (by omega) (by omega)]; exact c
      ecas := fun x e e' => by
        have c : s.seq (cell s.k x) = x := hU.ecas x e e'
        have e'' : s.posEnq = x := e'
        show upd s.seq (cell s.k p) (p + 1) (cell s.k x) = x
        by_cases hxp : x = p + capOf s.k
        · rw [hxp, cell_add, h3] at c; omega
        · rw [hother x (by omega) (by omega) (by omega)]; exact c
      dcas := fun x e e' => by
        have c : s.seq (cell s.k x) = x + 1 := hU.dcas x e e'
        have e'' : s.posDeq = x := e'
        show upd s.seq (cell s.k p) (p + 1) (cell s.k x) = x + 1
        by_cases hxp : x = p
        · rw [hxp, h3] at c; omega
        · rw [hother x hxp (by omega) (by omega)]; exact c }
  · rw [hpt]; exact Excl.of_none rfl rfl

end

theorem vinv_step_deqPos {s s' : St} {t : Tid} {ev : Ev}
    (h : VInv s) (hpc : s.pc t = .deqPos) (hs : step s t = some (s', ev)) : VInv s' ∧ StepEff s t s' := by
  simp only [step, hpc] at hs
  simp at hs; obtain ⟨rfl, -⟩ := hs
  pc_only h hpc

theorem vinv_step_deqSeq {s s' : St} {t : Tid} {ev : Ev} {p : Nat}
    (h : VInv s) (hpc : s.pc t = .deqSeq p) (hs : step s t = some (s', ev)) : VInv s' ∧ StepEff s t s' := by
  have hp := h.dpos t p (by simp [hpc, deqPosOf])
  simp only [step, hpc, idxOf_eq] at hs
  split at hs
  next heq =>
    simp at hs; obtain ⟨rfl, -⟩ := hs
    have hseq : s.seq (cell s.k p) = p + 1 := by omega
    pc_only h hpc
    · exact hp
    · intro _; exact hseq
  next hne =>
    split at hs
    next hlt =>
      simp at hs; obtain ⟨rfl, -⟩ := hs
      pc_only h hpc
      exact hp
    next hge =>
      simp at hs; obtain ⟨rfl, -⟩ := hs
      pc_only h hpc

section
variable {s s' : St} {t : Tid} {ev : Ev}

/-- A consumer claims position `posDeq`, whose cell shows `posDeq + 1`. -/
theorem VInv.claimDeq (h : VInv s) (hseq : s.seq (cell s.k s.posDeq) = s.posDeq + 1) :
    s.posDeq < s.posEnq ∧
    VInv ⟨s.k, s.seq, s.data, s.posEnq, s.posDeq + 1,
      upd s.pc t (.deqSt s.posDeq (s.data (cell s.k s.posDeq)))⟩ := by
  have hc2 := capOf_ge2 h.k1
  have hord := h.ord
  have hbnd := h.bnd
  -- the cell of a position that no producer has claimed shows that position or one of the lap before
  have hlt : s.posDeq < s.posEnq := by
    apply Classical.byContradiction; intro hn
    have h1 := h.free s.posDeq (by omega) (by omega)
    omega
  have hpt : (⟨s.k, s.seq, s.data, s.posEnq, s.posDeq + 1,
      upd s.pc t (.deqSt s.posDeq (s.data (cell s.k s.posDeq)))⟩ : St).pc t
      = .deqSt s.posDeq (s.data (cell s.k s.posDeq)) := upd_same _ _ _
  refine ⟨hlt, h.frame (t := t) (fun u hu => upd_other _ _ _ _ hu) ?_ ?_ (fun u hu => ?_) (fun u hu => ?_)⟩
  · exact ⟨h.k1, hlt, by show s.posEnq ≤ s.posDeq + 1 + capOf s.k; omega,
      fun q a b => h.full q (Nat.le_of_succ_le a) b,
      fun q a b => by
        have b' : q < s.posDeq + 1 + capOf s.k := b
        by_cases e : q = s.posDeq + capOf s.k
        · rw [e, cell_add]; exact .inr (show s.seq (cell s.k s.posDeq) + capOf s.k = _ by rw [hseq]; omega)
        · exact h.free q a (by omega)⟩
  · rw [hpt]
    exact ⟨nofun, fun x w e => by cases e; exact ⟨Nat.lt_succ_self _, hbnd, hseq, rfl⟩, nofun, nofun, nofun, nofun⟩
  · have hU := h.thread u
    exact { hU with
      eown := fun x e => by
        obtain ⟨a, b, c⟩ := hU.eown x e
        have a' : s.posDeq ≤ x := a
        have c' : s.seq (cell s.k x) = x := c
        have : x ≠ s.posDeq := fun e' => by rw [e', hseq] at c'; omega
        exact ⟨by show s.posDeq + 1 ≤ x; omega, b, c⟩
      down := fun x w e => by
        obtain ⟨a, b, c, d⟩ := hU.down x w e
        exact ⟨Nat.lt_succ_of_lt a, b, c, d⟩
      dpos := fun q e => Nat.le_succ_of_le (hU.dpos q e)
      dcas := fun x e e' => by
        have h1 : x ≤ s.posDeq := hU.dpos x (deqPosOf_of_atDeqCas e)
        have h2 : s.posDeq + 1 = x := e'
        omega }
  · rw [hpt]
    exact ⟨nofun, fun x v1 v2 e e' => by
      cases e
      exact absurd ((h.thread u).down _ _ e').1 (Nat.lt_irrefl _)⟩

theorem vinv_step_deqCas {p : Nat}
    (h : VInv s) (hpc : s.pc t = .deqCas p) (hs : step s t = some (s', ev)) : VInv s' ∧ StepEff s t s' := by
  simp only [step, hpc, idxOf_eq] at hs
  split at hs
  next heq =>
    cases hs
    subst heq
    have hseq : s.seq (cell s.k s.posDeq) = s.posDeq + 1 := (h.thread_at hpc).dcas _ rfl rfl
    obtain ⟨hlt, hV⟩ := h.claimDeq (t := t) hseq
    have hq : absQueue s = s.data (cell s.k s.posDeq) :: absQueue ⟨s.k, s.seq, s.data, s.posEnq, s.posDeq + 1,
        upd s.pc t (.deqSt s.posDeq (s.data (cell s.k s.posDeq)))⟩ :=
      absq_deq (fun q => s.data (cell s.k q)) s.posDeq s.posEnq hlt
    have hlp := bfifo_deq_some (capOf s.k)
      (absQueue ⟨s.k, s.seq, s.data, s.posEnq, s.posDeq + 1,
        upd s.pc t (.deqSt s.posDeq (s.data (cell s.k s.posDeq)))⟩) (s.data (cell s.k s.posDeq))
    rw [← hq] at hlp
    have hpt : (⟨s.k, s.seq, s.data, s.posEnq, s.posDeq + 1,
        upd s.pc t (.deqSt s.posDeq (s.data (cell s.k s.posDeq)))⟩ : St).pc t
        = .deqSt s.posDeq (s.data (cell s.k s.posDeq)) := upd_same _ _ _
    refine ⟨hV,
      ⟨fun u hu => upd_other _ _ _ _ hu, rfl, fun _ r e => ?_, fun e => ?_, fun r e => ?_, fun e => ?_, ?_⟩⟩
    · rw [hpt] at e; cases e
      exact ⟨⟨"deq", []⟩, by rw [hpc]; rfl, hlp⟩
    · rw [hpt, hpc] at e; rcases e with e | e
      · exact absurd rfl e
      · cases e
    · rw [hpc] at e; cases e
    · rw [hpt] at e; cases e
    · rw [hpt, hpc]; exact ⟨nofun, nofun⟩
  next hne =>
    cases hs
    pc_only h hpc

end

theorem vinv_step_deqEmpty {s s' : St} {t : Tid} {ev : Ev} {p : Nat}
    (h : VInv s) (hpc : s.pc t = .deqEmpty p) (hs : step s t = some (s', ev)) : VInv s' ∧ StepEff s t s' := by
  have hp := h.dpos t p (by simp [hpc, deqPosOf])
  simp only [step, hpc] at hs
  split at hs
  next heq =>
    simp at hs; obtain ⟨rfl, -⟩ := hs
    refine ⟨vinv_pc h ?_ ?_ ?_ ?_ ?_ ?_, ?_⟩ <;> (try simp [enqPosOf, deqPosOf])
    have hb := h.ord
    have hq : absQueue s = [] := by
      have : s.posEnq - s.posDeq = 0 := by omega
      simp [absQueue, this]
    have hlp := bfifo_deq_none (capOf s.k)
    rw [← hq] at hlp
    constructor <;> intros <;> (try dsimp only at *) <;> grind [upd, lpRet, opOf, absQueue_congr]
  next hne =>
    simp at hs; obtain ⟨rfl, -⟩ := hs
    pc_only h hpc

section
variable {s s' : St} {t : Tid} {ev : Ev}

theorem vinv_step_deqSt {p : Nat} {v : Int}
    (h : VInv s) (hpc : s.pc t = .deqSt p v) (hs : step s t = some (s', ev)) : VInv s' ∧ StepEff s t s' := by
  simp only [step, hpc, idxOf_eq] at hs
  cases hs
  have hc2 := capOf_ge2 h.k1
  have hord := h.ord
  have hbnd := h.bnd
  obtain ⟨h1, h2, h3, -⟩ := h.down t p v hpc
  rw [show p + maskOf s.k + 1 = p + capOf s.k by have := maskOf_succ s.k; omega]
  -- every position in the window of width `cap` around `p`, or around `p + cap`, has another cell
  have hother : ∀ x, x ≠ p → p < x + capOf s.k → x < p + capOf s.k →
      upd s.seq (cell s.k p) (p + capOf s.k) (cell s.k x) = s.seq (cell s.k x) :=
    fun x e a b => upd_other _ _ _ _ (cell_ne e b a)
  have hnext : ∀ x, x ≠ p + capOf s.k → p < x → x < p + capOf s.k + capOf s.k →
      upd s.seq (cell s.k p) (p + capOf s.k) (cell s.k x) = s.seq (cell s.k x) := fun x e a b => by
    rw [← cell_add s.k p]; exact upd_other _ _ _ _ (cell_ne e (by omega) (by omega))
  have hpt : ({ s with seq := upd s.seq (cell s.k p) (p + capOf s.k), pc := upd s.pc t (.done [1, v]) } : St).pc t
      = .done [1, v] := upd_same _ _ _
  refine ⟨h.frame (t := t) (fun u hu => upd_other _ _ _ _ hu) ?_ ?_ (fun u hu => ?_) (fun u hu => ?_),
    eff_publish (by rw [hpc]; rfl) (by rw [hpc]; nofun)⟩
  · exact ⟨h.k1, hord, hbnd,
      fun q a b => by
        show upd s.seq (cell s.k p) (p + capOf s.k) (cell s.k q) = q + 1 ∨
          upd s.seq (cell s.k p) (p + capOf s.k) (cell s.k q) = q
        have a' : s.posDeq ≤ q := a
        have b' : q < s.posEnq := b
        rw [hother q (by omega) (by omega) (by omega)]; exact h.full q a b,
      fun q a b => by
        show upd s.seq (cell s.k p) (p + capOf s.k) (cell s.k q) = q ∨
          upd s.seq (cell s.k p) (p + capOf s.k) (cell s.k q) + capOf s.k = q + 1
        have a' : s.posEnq ≤ q := a
        have b' : q < s.posDeq + capOf s.k := b
        by_cases e : q = p + capOf s.k
        · rw [e, cell_add]; exact .inl (upd_same _ _ _)
        · rw [hnext q e (by omega) (by omega)]; exact h.free q a b⟩
  · rw [hpt]; exact ⟨nofun, nofun, nofun, nofun, nofun, nofun⟩
  · have hU := h.thread u
    have hx := h.excl (Ne.symm hu)
    rw [hpc] at hx
    exact { hU with
      eown := fun x e => by
        obtain ⟨a, b, c⟩ := hU.eown x e
        have a' : s.posDeq ≤ x := a
        have b' : x < s.posEnq := b
        refine ⟨a, b, ?_⟩
        show upd s.seq (cell s.k p) (p + capOf s.k) (cell s.k x) = x
        rw [hother x (by omega) (by omega) (by omega)]; exact c
      down := fun x w e => by
        obtain ⟨a, b, c, d⟩ := hU.down x w e
        have a' : x < s.posDeq := a
        have b' : s.posEnq ≤ x + capOf s.k := b
        refine ⟨a, b, ?_, d⟩
        show upd s.seq (cell s.k p) (p + capOf s.k) (cell s.k x) = x + 1
        rw [hother x (fun e' => hx.deq p v w rfl (e' ▸ e)) (by omega) (by omega)]; exact c
      ecas := fun x e e' => by
        have c : s.seq (cell s.k x) = x := hU.ecas x e e'
        have e'' : s.posEnq = x := e'
        show upd s.seq (cell s.k p) (p + capOf s.k) (cell s.k x) = x
        by_cases hxp : x = p + capOf s.k
        · rw [hxp, cell_add]; exact upd_same _ _ _
        · rw [hother x (by omega) (by omega) (by omega)]; exact c
      dcas := fun x e e' => by
        have c : s.seq (cell s.k x) = x + 1 := hU.dcas x e e'
        have e'' : s.posDeq = x := e'
        show upd s.seq (cell s.k p) (p + capOf s.k) (cell s.k x) = x + 1
        by_cases hxp : x = p + capOf s.k
        · rw [hxp, cell_add, h3] at c; omega
        · rw [hother x (by omega) (by omega) (by omega)]; exact c }
  · rw [hpt]; exact Excl.of_none rfl rfl

end

theorem vinv_step {s s' : St} {t : Tid} {ev : Ev}
    (h : VInv s) (hs : step s t = some (s', ev)) : VInv s' ∧ StepEff s t s' := by
  cases hpc : s.pc t with
  | idle => simp [step, hpc] at hs
  | done r => simp [step, hpc] at hs
  | enqPos v => exact vinv_step_enqPos h hpc hs
  | enqSeq v p => exact vinv_step_enqSeq h hpc hs
  | enqCas v p => exact vinv_step_enqCas h hpc hs
  | enqFull v p => exact vinv_step_enqFull h hpc hs
  | enqSt p => exact vinv_step_enqSt h hpc hs
  | deqPos => exact vinv_step_deqPos h hpc hs
  | deqSeq p => exact vinv_step_deqSeq h hpc hs
  | deqCas p => exact vinv_step_deqCas h hpc hs
  | deqEmpty p => exact vinv_step_deqEmpty h hpc hs
  | deqSt p v => exact vinv_step_deqSt h hpc hs


/-! ### Preservation: invocation and return -/

structure InvokeEff (s : St) (t : Tid) (op : GOp) (s' : St) : Prop where
  frame : ∀ t2, t2 ≠ t → s'.pc t2 = s.pc t2
  kk : s'.k = s.k
  was : s.pc t = .idle
  now : opOf (s'.pc t) = some op ∧ lpRet (s'.pc t) = none
  abs : absQueue s' = absQueue s

theorem vinv_invoke {s s' : St} {t : Tid} {op : GOp}
    (h : VInv s) (hs : invoke s t op = some s') : VInv s' ∧ InvokeEff s t op s' := by
  obtain ⟨name, args⟩ := op
  unfold invoke at hs
  split at hs
  next v hpc hname hargs =>
    simp at hs; subst hs
    dsimp only at hname hargs; subst hname hargs
    refine ⟨vinv_pc h ?_ ?_ ?_ ?_ ?_ ?_, ?_⟩ <;> (try simp [enqPosOf, deqPosOf])
    constructor <;> simp [upd, opOf, lpRet, hpc, absQueue]
    intro t2 ht; simp [ht]
  next hpc hname hargs =>
    simp at hs; subst hs
    dsimp only at hname hargs; subst hname hargs
    refine ⟨vinv_pc h ?_ ?_ ?_ ?_ ?_ ?_, ?_⟩ <;> (try simp [enqPosOf, deqPosOf])
    constructor <;> simp [upd, opOf, lpRet, hpc, absQueue]
    intro t2 ht; simp [ht]
  next => simp at hs

theorem vinv_result {s s' : St} {t : Tid} {r : GRet}
    (h : VInv s) (hs : result s t = some (s', r)) :
    VInv s' ∧ s.pc t = .done r ∧ s'.pc t = .idle ∧ (∀ t2, t2 ≠ t → s'.pc t2 = s.pc t2) ∧ s'.k = s.k ∧
      absQueue s' = absQueue s := by
  unfold result at hs
  split at hs
  next r' hpc =>
    simp at hs; obtain ⟨rfl, rfl⟩ := hs
    refine ⟨vinv_pc h ?_ ?_ ?_ ?_ ?_ ?_, hpc, by simp [upd], fun t2 h2 => by simp [upd, h2], rfl, rfl⟩ <;>
      simp [enqPosOf, deqPosOf]
  next => simp at hs

/-! ### Reachable states -/

theorem vinv_apply {s s' : St} {t : Tid} {a : Act} {o : Obs} (h : VInv s)
    (hap : model.apply s t a = some (s', o)) : VInv s' := by
  rcases Model.apply_cases hap with ⟨op, -, hs1, -⟩ | ⟨e, -, hs1, -⟩ | ⟨r, -, hs1, -⟩
  · exact (vinv_invoke h hs1).1
  · exact (vinv_step h hs1).1
  · exact (vinv_result h hs1).1

theorem vinv_reachable (k : Nat) (hk : 1 ≤ k) (s : St) (h : model.Reachable (init k) s) : VInv s :=
  model.inv_reachable VInv (init k) (vinv_init k hk) (fun _ _ _ _ _ hi hap => vinv_apply hi hap) s h

/-- The capacity parameter never changes. -/
theorem k_apply {s s' : St} {t : Tid} {a : Act} {o : Obs} (hap : model.apply s t a = some (s', o)) : s'.k = s.k := by
  rcases Model.apply_cases hap with ⟨op, -, hs1, -⟩ | ⟨e, -, hs1, -⟩ | ⟨r, -, hs1, -⟩
  · simp only [model] at hs1
    unfold invoke at hs1
    split at hs1 <;> simp at hs1 <;> subst hs1 <;> rfl
  · simp only [model] at hs1
    unfold step at hs1
    split at hs1 <;> (try split at hs1) <;> (try split at hs1) <;> simp at hs1 <;> obtain ⟨rfl, -⟩ := hs1 <;> rfl
  · simp only [model] at hs1
    unfold result at hs1
    split at hs1 <;> simp at hs1 <;> obtain ⟨rfl, -⟩ := hs1 <;> rfl

theorem k_reachable (k : Nat) (s : St) (h : model.Reachable (init k) s) : s.k = k :=
  model.inv_reachable (fun s => s.k = k) (init k) rfl (fun _ _ _ _ _ hi hap => (k_apply hap).trans hi) s h

/-! ### Facts about single steps, for the property theorems -/

/-- Refinement: the step at which thread `t` fixes its result `r` (linearization point) is exactly the `bfifo`
    transition of `t`'s operation with result `r` on the abstract queue; every other step leaves it unchanged. -/
theorem step_refines {s s' : St} {t : Tid} {ev : Ev} (h : VInv s) (hs : step s t = some (s', ev)) :
    (lpRet (s.pc t) = none → ∀ r, lpRet (s'.pc t) = some r →
      ∃ op, opOf (s.pc t) = some op ∧ (bfifo (capOf s.k)).next (absQueue s) op r = some (absQueue s')) ∧
    ((lpRet (s.pc t) ≠ none ∨ lpRet (s'.pc t) = none) → absQueue s' = absQueue s) :=
  ⟨(vinv_step h hs).2.lp, (vinv_step h hs).2.nolp⟩

/-- In state `s1` thread `t` is about to load `m_posDequeue` and to find `pos - posDeq == capacity`: at this very
    instant `m_posEnqueue` is still `pos` and the abstract queue holds exactly `capacity` items. -/
def FullAt (s1 : St) (t : Tid) : Prop :=
  ∃ v p, s1.pc t = .enqFull v p ∧ p = s1.posDeq + capOf s1.k ∧ s1.posEnq = p ∧ (absQueue s1).length = capOf s1.k

/-- In state `s1` thread `t` is about to load `m_posEnqueue` and to find `pos - posEnq == 0`: at this very instant
    `m_posDequeue` is still `pos` and the abstract queue is empty. -/
def EmptyAt (s1 : St) (t : Tid) : Prop :=
  ∃ p, s1.pc t = .deqEmpty p ∧ p = s1.posEnq ∧ s1.posDeq = p ∧ absQueue s1 = []

/-- The only steps that fix the result `[0]`: the `m_posDequeue` load of a producer on a full queue and the
    `m_posEnqueue` load of a consumer on an empty queue — full resp. empty at the instant of that load. -/
theorem fail_step {s s' : St} {t : Tid} {ev : Ev} (h : VInv s) (hs : step s t = some (s', ev))
    (hpre : lpRet (s.pc t) = none) (hpost : lpRet (s'.pc t) = some [0]) :
    (FullAt s t ∧ ev = evLd posDeqLoc s.posDeq) ∨ (EmptyAt s t ∧ ev = evLd posEnqLoc s.posEnq) := by
  cases hpc : s.pc t
  case enqFull v p =>
    left
    have hp := h.epos t p (by simp [hpc, enqPosOf])
    have hb := h.bnd
    simp only [step, hpc] at hs
    split at hs
    next heq =>
      simp at hs; obtain ⟨rfl, rfl⟩ := hs
      exact ⟨⟨v, p, hpc, heq, by omega, by rw [absQueue_length]; omega⟩, rfl⟩
    next hne =>
      simp at hs; obtain ⟨rfl, rfl⟩ := hs
      simp [upd, lpRet] at hpost
  case deqEmpty p =>
    right
    have hp := h.dpos t p (by simp [hpc, deqPosOf])
    have hb := h.ord
    simp only [step, hpc] at hs
    split at hs
    next heq =>
      simp at hs; obtain ⟨rfl, rfl⟩ := hs
      refine ⟨⟨p, hpc, heq, by omega, ?_⟩, rfl⟩
      have : s.posEnq - s.posDeq = 0 := by omega
      simp [absQueue, this]
    next hne =>
      simp at hs; obtain ⟨rfl, rfl⟩ := hs
      simp [upd, lpRet] at hpost
  all_goals
    (simp only [step, hpc] at hs <;> (try split at hs) <;> (try split at hs) <;>
      simp at hs <;> obtain ⟨rfl, rfl⟩ := hs <;> simp_all [upd, lpRet])

/-- The event of a producer's winning CAS on `m_posEnqueue`. -/
theorem enqCas_win_event {s s' : St} {t : Tid} {ev : Ev} {v : Int} {p : Nat} (hpc : s.pc t = .enqCas v p)
    (hs : step s t = some (s', ev)) (hwin : s.posEnq = p) : ev = evCasOk posEnqLoc p (p + 1) := by
  simp only [step, hpc, hwin, if_true] at hs
  simp at hs
  exact hs.2.symm

/-- No overwrite.  The only step that writes a payload is the successful CAS of a producer on `m_posEnqueue`
    (position `p`, cell `p mod capacity`).  At that instant: the cell's sequence number is `p`; the previous item
    of the cell (position `p - capacity`), if any, has been claimed by a consumer (`p < posDeq + capacity`) AND that
    consumer has finished with the cell (no thread is between its CAS on `m_posDequeue` and its sequence store on
    that cell); no other producer holds the cell; and the cell is not the cell of any item of the abstract
    queue. -/
theorem no_overwrite {s s' : St} {t : Tid} {ev : Ev} {v : Int} {p : Nat} (h : VInv s)
    (hpc : s.pc t = .enqCas v p) (hs : step s t = some (s', ev)) (hwin : s.posEnq = p) :
    s'.data = upd s.data (cell s.k p) v ∧ s.seq (cell s.k p) = p ∧ p < s.posDeq + capOf s.k ∧
    (∀ t2 q w, s.pc t2 = .deqSt q w → cell s.k q ≠ cell s.k p) ∧
    (∀ t2 q, s.pc t2 = .enqSt q → cell s.k q ≠ cell s.k p) ∧
    (∀ q, s.posDeq ≤ q → q < s.posEnq → cell s.k q ≠ cell s.k p) := by
  obtain ⟨hk1, hord, hbnd, heown, hdown, heu, hdu, hfull, hfree, hepos, hdpos, hecas, hdcas⟩ := h
  have hc2 := capOf_ge2 hk1
  have hseq : s.seq (cell s.k p) = p := hecas t v p hpc hwin
  have hlt : p < s.posDeq + capOf s.k := by
    apply Classical.byContradiction; intro hn
    have e : p = s.posDeq + capOf s.k := by omega
    have h1 := hfull s.posDeq (Nat.le_refl _) (by omega)
    have h2 := cell_add s.k s.posDeq
    rw [← e] at h2
    rw [← h2, hseq] at h1
    omega
  simp only [step, hpc, idxOf_eq, hwin, if_true] at hs
  simp at hs; obtain ⟨rfl, -⟩ := hs
  refine ⟨rfl, hseq, hlt, ?_, ?_, ?_⟩
  · intro t2 q w hq hc
    obtain ⟨h1, h2, h3, -⟩ := hdown t2 q w hq
    rw [hc, hseq] at h3
    have := cell_inj hc (by omega) (by omega)
    omega
  · intro t2 q hq hc
    obtain ⟨h1, h2, h3⟩ := heown t2 q hq
    have := cell_inj hc (by omega) (by omega)
    omega
  · intro q h1 h2 hc
    have := cell_inj hc (by omega) (by omega)
    omega

/-- The value a consumer returns.  At the successful CAS of a consumer on `m_posDequeue` (position `p`): the
    producer of position `p` has already executed its sequence store (the cell's sequence number is `p + 1`; no
    thread is between its CAS on `m_posEnqueue` for `p` and that store), so the payload has been written; the payload
    of the cell is the head of the abstract queue; and it is the value the consumer will return. -/
theorem deq_claims_published {s s' : St} {t : Tid} {ev : Ev} {p : Nat} (h : VInv s)
    (hpc : s.pc t = .deqCas p) (hs : step s t = some (s', ev)) (hwin : s.posDeq = p) :
    s.seq (cell s.k p) = p + 1 ∧ p < s.posEnq ∧ (∀ t2 q, s.pc t2 = .enqSt q → cell s.k q ≠ cell s.k p) ∧
    absQueue s = s.data (cell s.k p) :: absQueue s' ∧ s'.pc t = .deqSt p (s.data (cell s.k p)) := by
  obtain ⟨hk1, hord, hbnd, heown, hdown, heu, hdu, hfull, hfree, hepos, hdpos, hecas, hdcas⟩ := h
  have hc2 := capOf_ge2 hk1
  have hseq : s.seq (cell s.k p) = p + 1 := hdcas t p hpc hwin
  have hlt : p < s.posEnq := by
    apply Classical.byContradiction; intro hn
    have h1 := hfree p (by omega) (by omega)
    omega
  simp only [step, hpc, idxOf_eq, hwin, if_true] at hs
  simp at hs; obtain ⟨rfl, -⟩ := hs
  refine ⟨hseq, hlt, ?_, ?_, by simp [upd]⟩
  · intro t2 q hq hc
    obtain ⟨h1, h2, h3⟩ := heown t2 q hq
    rw [hc, hseq] at h3
    have := cell_inj hc (by omega) (by omega)
    omega
  · simp only [absQueue, hwin]
    exact absq_deq (fun q => s.data (cell s.k q)) p s.posEnq hlt

/-- Payloads are written only by the successful CAS of a producer on `m_posEnqueue`. -/
theorem data_step {s s' : St} {t : Tid} {ev : Ev} (hs : step s t = some (s', ev)) :
    s'.data = s.data ∨ ∃ v p, s.pc t = .enqCas v p ∧ s.posEnq = p ∧ s'.data = upd s.data (cell s.k p) v := by
  cases hpc : s.pc t
  case enqCas v p =>
    simp only [step, hpc, idxOf_eq] at hs
    split at hs
    next heq => simp at hs; obtain ⟨rfl, -⟩ := hs; exact Or.inr ⟨v, p, rfl, heq, rfl⟩
    next hne => simp at hs; obtain ⟨rfl, -⟩ := hs; exact Or.inl rfl
  all_goals
    (simp only [step, hpc] at hs <;> (try split at hs) <;> (try split at hs) <;>
      simp at hs <;> obtain ⟨rfl, -⟩ := hs <;> exact Or.inl rfl)

/-! ### The in-flight claimers behind the pending sequence values -/

/-- The converse of `VInv.eown` / `VInv.down`: a cell that shows the "store pending" value has its in-flight
    claimer.  With `VInv.full` / `VInv.free` this determines every sequence number exactly from `posEnq`, `posDeq`
    and the set of in-flight claimers: for `posDeq ≤ p < posEnq` the cell shows `p` if a producer is between its CAS at
    `p` and its sequence store, and `p + 1` otherwise; for `posEnq ≤ p < posDeq + cap` it shows `p - cap + 1` if a
    consumer is between its CAS at `p - cap` and its sequence store, and `p` otherwise. -/
structure VOwn (s : St) : Prop where
  eex : ∀ p, s.posDeq ≤ p → p < s.posEnq → s.seq (cell s.k p) = p → ∃ t, s.pc t = .enqSt p
  dex : ∀ p, s.posEnq ≤ p → p < s.posDeq + capOf s.k → s.seq (cell s.k p) + capOf s.k = p + 1 →
    ∃ t q v, s.pc t = .deqSt q v ∧ q + capOf s.k = p

theorem vown_init (k : Nat) (hk : 1 ≤ k) : VOwn (init k) := by
  have hc2 := capOf_ge2 hk
  constructor
  · intro p h1 h2; simp [init] at h2
  · intro p h1 h2 h3
    simp only [init, Nat.zero_add] at h2 h3
    have : cell k p = p := by unfold cell; exact Nat.mod_eq_of_lt h2
    rw [this] at h3; omega

/-- A thread that owns no cell moves; positions and sequence numbers stay. -/
theorem vown_frame {s s' : St} {t : Tid} (ho : VOwn s) (hk : s'.k = s.k) (hseq : s'.seq = s.seq)
    (hE : s'.posEnq = s.posEnq) (hD : s'.posDeq = s.posDeq) (hfr : ∀ t2, t2 ≠ t → s'.pc t2 = s.pc t2)
    (hX1 : ∀ p, s.pc t ≠ .enqSt p) (hX2 : ∀ p v, s.pc t ≠ .deqSt p v) : VOwn s' := by
  constructor
  · intro p h1 h2 h3
    rw [hk, hseq] at h3; rw [hD] at h1; rw [hE] at h2
    obtain ⟨t0, ht0⟩ := ho.eex p h1 h2 h3
    have hne : t0 ≠ t := fun e => hX1 p (e ▸ ht0)
    exact ⟨t0, by rw [hfr t0 hne]; exact ht0⟩
  · intro p h1 h2 h3
    rw [hk, hseq] at h3; rw [hE] at h1; rw [hD, hk] at h2
    obtain ⟨t0, q, v, ht0, hq⟩ := ho.dex p h1 h2 h3
    have hne : t0 ≠ t := fun e => hX2 q v (e ▸ ht0)
    exact ⟨t0, q, v, by rw [hfr t0 hne]; exact ht0, by rw [hk]; exact hq⟩

theorem vown_step {s s' : St} {t : Tid} {ev : Ev} (h : VInv s) (ho : VOwn s) (hs : step s t = some (s', ev)) :
    VOwn s' := by
  have hc2 := capOf_ge2 h.k1
  cases hpc : s.pc t
  case enqCas v p =>
    simp only [step, hpc, idxOf_eq] at hs
    split at hs
    next hwin =>
      simp at hs; obtain ⟨rfl, -⟩ := hs
      constructor
      · intro q h1 h2 h3
        dsimp only at h1 h2 h3 ⊢
        by_cases e : q = p
        · exact ⟨t, by simp [upd, e]⟩
        · obtain ⟨t0, ht0⟩ := ho.eex q h1 (by omega) h3
          have hne : t0 ≠ t := fun e' => by rw [e', hpc] at ht0; simp at ht0
          exact ⟨t0, by simp [upd, hne, ht0]⟩
      · intro q h1 h2 h3
        dsimp only at h1 h2 h3 ⊢
        obtain ⟨t0, q0, v0, ht0, hq0⟩ := ho.dex q (by omega) h2 h3
        have hne : t0 ≠ t := fun e' => by rw [e', hpc] at ht0; simp at ht0
        exact ⟨t0, q0, v0, by simp [upd, hne, ht0], hq0⟩
    next hne =>
      simp at hs; obtain ⟨rfl, -⟩ := hs
      exact vown_frame (t := t) ho rfl rfl rfl rfl (fun t2 h2 => by simp [upd, h2]) (by simp [hpc]) (by simp [hpc])
  case enqSt p =>
    obtain ⟨hp1, hp2, hp3⟩ := h.eown t p hpc
    have hb := h.bnd
    simp only [step, hpc, idxOf_eq] at hs
    simp at hs; obtain ⟨rfl, -⟩ := hs
    constructor
    · intro q h1 h2 h3
      dsimp only at h1 h2 h3 ⊢
      by_cases hc : cell s.k q = cell s.k p
      · have e : q = p := cell_inj hc (by omega) (by omega)
        subst e; simp [upd] at h3
      · simp only [upd, hc, if_false] at h3
        obtain ⟨t0, ht0⟩ := ho.eex q h1 h2 h3
        have hne : t0 ≠ t := fun e' => by
          rw [e', hpc] at ht0; simp at ht0; exact hc (by rw [ht0])
        exact ⟨t0, by simp [upd, hne, ht0]⟩
    · intro q h1 h2 h3
      dsimp only at h1 h2 h3 ⊢
      by_cases hc : cell s.k q = cell s.k p
      · have e : q = p := cell_inj hc (by omega) (by omega)
        omega
      · simp only [upd, hc, if_false] at h3
        obtain ⟨t0, q0, v0, ht0, hq0⟩ := ho.dex q h1 h2 h3
        have hne : t0 ≠ t := fun e' => by rw [e', hpc] at ht0; simp at ht0
        exact ⟨t0, q0, v0, by simp [upd, hne, ht0], hq0⟩
  case deqCas p =>
    simp only [step, hpc, idxOf_eq] at hs
    split at hs
    next hwin =>
      simp at hs; obtain ⟨rfl, -⟩ := hs
      constructor
      · intro q h1 h2 h3
        dsimp only at h1 h2 h3 ⊢
        obtain ⟨t0, ht0⟩ := ho.eex q (by omega) h2 h3
        have hne : t0 ≠ t := fun e' => by rw [e', hpc] at ht0; simp at ht0
        exact ⟨t0, by simp [upd, hne, ht0]⟩
      · intro q h1 h2 h3
        dsimp only at h1 h2 h3 ⊢
        by_cases e : q = p + capOf s.k
        · exact ⟨t, p, s.data (cell s.k p), by simp [upd], e.symm⟩
        · obtain ⟨t0, q0, v0, ht0, hq0⟩ := ho.dex q h1 (by omega) h3
          have hne : t0 ≠ t := fun e' => by rw [e', hpc] at ht0; simp at ht0
          exact ⟨t0, q0, v0, by simp [upd, hne, ht0], hq0⟩
    next hne =>
      simp at hs; obtain ⟨rfl, -⟩ := hs
      exact vown_frame (t := t) ho rfl rfl rfl rfl (fun t2 h2 => by simp [upd, h2]) (by simp [hpc]) (by simp [hpc])
  case deqSt p v =>
    obtain ⟨hp1, hp2, hp3, -⟩ := h.down t p v hpc
    have hb := h.bnd
    have ho' := h.ord
    have hm := maskOf_succ s.k
    simp only [step, hpc, idxOf_eq] at hs
    simp at hs; obtain ⟨rfl, -⟩ := hs
    have e : p + maskOf s.k + 1 = p + capOf s.k := by omega
    rw [e]
    constructor
    · intro q h1 h2 h3
      dsimp only at h1 h2 h3 ⊢
      have hc : cell s.k q ≠ cell s.k p := fun hc => by
        have := cell_inj hc (by omega) (by omega); omega
      simp only [upd, hc, if_false] at h3
      obtain ⟨t0, ht0⟩ := ho.eex q h1 h2 h3
      have hne : t0 ≠ t := fun e' => by rw [e', hpc] at ht0; simp at ht0
      exact ⟨t0, by simp [upd, hne, ht0]⟩
    · intro q h1 h2 h3
      dsimp only at h1 h2 h3 ⊢
      by_cases hc : cell s.k q = cell s.k p
      · have hc' : cell s.k q = cell s.k (p + capOf s.k) := by rw [cell_add]; exact hc
        have e2 : q = p + capOf s.k := cell_inj hc' (by omega) (by omega)
        simp only [upd, hc, if_true] at h3
        omega
      · simp only [upd, hc, if_false] at h3
        obtain ⟨t0, q0, v0, ht0, hq0⟩ := ho.dex q h1 h2 h3
        have hne : t0 ≠ t := fun e' => by
          rw [e', hpc] at ht0; simp at ht0
          apply hc; rw [← hq0, ← ht0.1, cell_add]
        exact ⟨t0, q0, v0, by simp [upd, hne, ht0], hq0⟩
  all_goals
    (simp only [step, hpc] at hs <;> (try split at hs) <;> (try split at hs) <;>
      simp at hs <;> obtain ⟨rfl, -⟩ := hs <;>
      exact vown_frame (t := t) ho rfl rfl rfl rfl (fun t2 h2 => by simp [upd, h2]) (by simp [hpc]) (by simp [hpc]))

theorem vown_apply {s s' : St} {t : Tid} {a : Act} {o : Obs} (h : VInv s) (ho : VOwn s)
    (hap : model.apply s t a = some (s', o)) : VOwn s' := by
  rcases Model.apply_cases hap with ⟨op, -, hs1, -⟩ | ⟨e, -, hs1, -⟩ | ⟨r, -, hs1, -⟩
  · simp only [model] at hs1
    obtain ⟨-, he⟩ := vinv_invoke h hs1
    have hseq : s'.seq = s.seq ∧ s'.posEnq = s.posEnq ∧ s'.posDeq = s.posDeq := by
      unfold invoke at hs1
      split at hs1 <;> simp at hs1 <;> subst hs1 <;> exact ⟨rfl, rfl, rfl⟩
    exact vown_frame (t := t) ho he.kk hseq.1 hseq.2.1 hseq.2.2 he.frame (by simp [he.was]) (by simp [he.was])
  · exact vown_step h ho hs1
  · simp only [model] at hs1
    obtain ⟨-, hdone, -, hframe, hkk, -⟩ := vinv_result h hs1
    have hseq : s'.seq = s.seq ∧ s'.posEnq = s.posEnq ∧ s'.posDeq = s.posDeq := by
      unfold result at hs1
      split at hs1 <;> simp at hs1 <;> obtain ⟨rfl, -⟩ := hs1 <;> exact ⟨rfl, rfl, rfl⟩
    exact vown_frame (t := t) ho hkk hseq.1 hseq.2.1 hseq.2.2 hframe (by simp [hdone]) (by simp [hdone])

theorem vown_reachable (k : Nat) (hk : 1 ≤ k) (s : St) (h : model.Reachable (init k) s) : VInv s ∧ VOwn s :=
  model.inv_reachable (fun s => VInv s ∧ VOwn s) (init k) ⟨vinv_init k hk, vown_init k hk⟩
    (fun _ _ _ _ _ hi hap => ⟨vinv_apply hi.1 hap, vown_apply hi.1 hi.2 hap⟩) s h

end CdsVerif.Algo.Vyukov
