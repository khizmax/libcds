/-
  Linearizability of the Vyukov bounded MPMC queue model (property C07).

  Linearization points (all FIXED — no hindsight is needed, see `Inv.lean`):
    * successful `enq`  : the successful CAS on `m_posEnqueue`;
    * successful `deq`  : the successful CAS on `m_posDequeue`;
    * failed `enq` ([0]): the load of `m_posDequeue` that yields `pos - posDeq == capacity` — at that instant
                          `m_posEnqueue` is still `pos` and exactly `capacity` items are in the abstract queue;
    * failed `deq` ([0]): the load of `m_posEnqueue` that yields `pos == posEnq` — at that instant `m_posDequeue` is
                          still `pos` and the abstract queue is empty.
  In every case the linearization point is the step that fixes the result (`lpRet` becomes `some r` and keeps that
  value until the return).

  `Inv.lean` shows that the abstract queue evolves by exactly the `bfifo (2^k)` transition of the operation at its
  linearization point and is unchanged by every other step (`StepEff`); the ghost-log construction of
  `Base/LPLin.lean` turns this into linearizability of every run, with completion of pending operations, and into
  the statements about failing operations on runs (`vyukov_full_hindsight`, `vyukov_empty_hindsight`): an operation
  that returned `[0]` has an instant strictly between its call and its return at which the abstract queue was full
  resp. empty.
-/
import CdsVerif.Algo.Vyukov.Inv
import CdsVerif.Base.LPLin
namespace CdsVerif.Algo.Vyukov
open CdsVerif.Machine CdsVerif.Spec CdsVerif.Lin

/-! ### The history of a run -/

/-- Per thread: the operation in progress and the index of its `call` observation. -/
abbrev Pend := Tid → Option (GOp × Nat)

/-- Scan the observations (the head has index `i`): every `ret` closes the operation its thread has in progress. -/
def histAux : Nat → Pend → List (Tid × Obs) → List (OpRec GOp GRet)
  | _, _, [] => []
  | i, pend, (t, .call op) :: os => histAux (i + 1) (upd pend t (some (op, i))) os
  | i, pend, (_, .ev _) :: os => histAux (i + 1) pend os
  | i, pend, (t, .ret r) :: os =>
    match pend t with
    | some (op, k) => ⟨t, op, r, k, i⟩ :: histAux (i + 1) (upd pend t none) os
    | none => histAux (i + 1) pend os

/-- The operations still in progress after the observations. -/
def pendAux : Nat → Pend → List (Tid × Obs) → Pend
  | _, pend, [] => pend
  | i, pend, (t, .call op) :: os => pendAux (i + 1) (upd pend t (some (op, i))) os
  | i, pend, (_, .ev _) :: os => pendAux (i + 1) pend os
  | i, pend, (t, .ret _) :: os =>
    match pend t with
    | some _ => pendAux (i + 1) (upd pend t none) os
    | none => pendAux (i + 1) pend os

/-- The complete history of a run: one record per operation that has both its `call` and its `ret` observation,
    `inv` / `res` = the indices of these observations in `os`.  Operations pending at the end are dropped. -/
def historyOf (os : List (Tid × Obs)) : List (OpRec GOp GRet) := histAux 0 (fun _ => none) os

/-- The operations pending at the end of a run: thread ↦ (operation, index of its `call`). -/
def pendingOf (os : List (Tid × Obs)) : Pend := pendAux 0 (fun _ => none) os

theorem historyOf_eq (os : List (Tid × Obs)) : historyOf os = SeqHistory.historyOf os := by
  delta historyOf SeqHistory.historyOf histAux SeqHistory.histAux
  rfl

theorem pendingOf_eq (os : List (Tid × Obs)) : pendingOf os = SeqHistory.pendingOf os := by
  delta pendingOf SeqHistory.pendingOf pendAux SeqHistory.pendAux
  rfl

/-- Every record of `historyOf os` is an operation of `os`: `inv` is the index of its call, `res` the index of its
    return, and the call precedes the return. -/
theorem historyOf_sound (os : List (Tid × Obs)) (r : OpRec GOp GRet) (h : r ∈ historyOf os) :
    os[r.inv]? = some (r.tid, .call r.op) ∧ os[r.res]? = some (r.tid, .ret r.ret) ∧ r.inv < r.res :=
  SeqHistory.historyOf_sound os r (historyOf_eq os ▸ h)

/-- A pending operation of `pendingOf os` is an operation of `os`: its `call` observation is at the recorded index. -/
theorem pendingOf_sound (os : List (Tid × Obs)) (t : Tid) (op : GOp) (k : Nat)
    (h : pendingOf os t = some (op, k)) : os[k]? = some (t, .call op) :=
  SeqHistory.pendingOf_sound os t op k (pendingOf_eq os ▸ h)

/-! ### The machine as an instance of `Base/LPLin.lean` -/

theorem opOf_none_of_lp {pc : PC} {r : GRet} (h : lpRet pc = some r) : opOf pc = none := by
  cases pc <;> simp_all [lpRet, opOf]

/-- Capacity `2^k`: specification state = abstract queue; no linearization is tentative. -/
def sys (k : Nat) : LPLin.Sys St (List Int) where
  spec := bfifo (2 ^ k)
  model := model
  init := init k
  Inv := fun s => VInv s ∧ s.k = k
  Abs := fun a s => a = absQueue s
  lpRet := fun s t => lpRet (s.pc t)
  postRet := fun s t => lpRet (s.pc t)
  opOf := fun s t => opOf (s.pc t)
  inert := fun _ _ => false

theorem sys_ok (k : Nat) (hk : 1 ≤ k) : (sys k).OK where
  inert_ok := by intro op r h; cases h
  inv_init := ⟨vinv_init k hk, rfl⟩
  abs_init := by simp [sys, bfifo, detSpec, init, absQueue]
  lp_init := by intro t; simp [sys, init, lpRet]
  op_init := by intro t; simp [sys, init, opOf]
  post_op := by intro s t r _ h; exact opOf_none_of_lp h
  lp_post := by intro s t r _ h; exact .inl h
  invoke := by
    intro s t op s' ⟨hl, hkk⟩ hs
    obtain ⟨hl', he⟩ := vinv_invoke hl hs
    refine ⟨⟨hl', he.kk.trans hkk⟩, ⟨?_, ?_⟩, ?_, he.now.1, he.now.2, fun a ha => ha.trans he.abs.symm⟩
    · intro t2 ht; simp only [sys]; rw [he.frame t2 ht]
    · intro t2 ht; simp only [sys]; rw [he.frame t2 ht]
    · simp [sys, he.was, lpRet]
  step := by
    intro s t s' ev ⟨hl, hkk⟩ hs
    obtain ⟨hl', he⟩ := vinv_step hl hs
    refine ⟨⟨hl', he.kk.trans hkk⟩, ⟨?_, ?_⟩, ?_, fun hc a ha => ha.trans (he.nolp hc).symm,
      fun r hr => .inl (he.keep r hr), he.op⟩
    · intro t2 ht; simp only [sys]; rw [he.frame t2 ht]
    · intro t2 ht; simp only [sys]; rw [he.frame t2 ht]
    · intro h1 r h2
      obtain ⟨op, hop, hnext⟩ := he.lp h1 r h2
      rw [hkk] at hnext
      exact ⟨op, hop, fun a ha => ⟨_, ha ▸ hnext, rfl⟩⟩
  result := by
    intro s t s' r ⟨hl, hkk⟩ hs
    obtain ⟨hl', hdone, hidl, hframe, hk', habs⟩ := vinv_result hl hs
    refine ⟨⟨hl', hk'.trans hkk⟩, ⟨?_, ?_⟩, ?_, ?_, ?_, fun a ha => ha.trans habs.symm⟩
    · intro t2 ht; simp only [sys]; rw [hframe t2 ht]
    · intro t2 ht; simp only [sys]; rw [hframe t2 ht]
    · simp [sys, hdone, lpRet]
    · simp [sys, hidl, lpRet]
    · simp [sys, hidl, opOf]

/-! ### Main theorems -/

/-- **Linearizability of Vyukov's bounded MPMC queue** (Herlihy–Wing, with completion of pending operations).
    For every capacity `2^k`, `k ≥ 1`, and every run of the model from `init k`, the history of the completed
    operations, extended by response records `extra` for the operations still pending at the end that have passed
    their linearization point (they get the result fixed there and the response time "end of the run"; at most
    one per thread), is linearizable to the sequential bounded FIFO queue of capacity `2^k`.  All other pending
    operations are dropped. -/
theorem vyukov_linearizable (k : Nat) (hk : 1 ≤ k) (sched : List (Tid × Act)) (s : St) (os : List (Tid × Obs))
    (h : model.run (init k) sched = some (s, os)) :
    ∃ extra : List (OpRec GOp GRet),
      (∀ e ∈ extra, pendingOf os e.tid = some (e.op, e.inv) ∧ e.res = os.length ∧
          lpRet (s.pc e.tid) = some e.ret) ∧
      extra.Pairwise (fun a b => a.tid ≠ b.tid) ∧
      Linearizable (bfifo (2 ^ k)) (historyOf os ++ extra) := by
  rw [historyOf_eq, pendingOf_eq]
  exact LPLin.linearizable (sys_ok k hk) sched s os h

/-- If no thread is between its linearization point and its return at the end of the run (threads may be idle or
    in the middle of an operation that has not taken effect), the history of the completed operations is
    linearizable as it is. -/
theorem vyukov_linearizable_no_effect_pending (k : Nat) (hk : 1 ≤ k) (sched : List (Tid × Act)) (s : St)
    (os : List (Tid × Obs)) (h : model.run (init k) sched = some (s, os)) (hq : ∀ t, lpRet (s.pc t) = none) :
    Linearizable (bfifo (2 ^ k)) (historyOf os) :=
  historyOf_eq os ▸ LPLin.linearizable_no_effect_pending (sys_ok k hk) sched s os h hq

/-- Runs in which every invoked operation has returned. -/
theorem vyukov_linearizable_complete_runs (k : Nat) (hk : 1 ≤ k) (sched : List (Tid × Act)) (s : St)
    (os : List (Tid × Obs)) (h : model.run (init k) sched = some (s, os)) (hq : ∀ t, s.pc t = .idle) :
    Linearizable (bfifo (2 ^ k)) (historyOf os) :=
  vyukov_linearizable_no_effect_pending k hk sched s os h (fun t => by simp [hq t, lpRet])

/-- Every history record of a run is well formed (`inv < res`): the executable checker `linCheck` decides
    linearizability of such histories (`Lin.linCheck_iff`). -/
theorem historyOf_wf (os : List (Tid × Obs)) : ∀ r ∈ historyOf os, r.inv ≤ r.res :=
  fun r hr => Nat.le_of_lt (historyOf_sound os r hr).2.2

/-- What the state `s1` (just before the load that fixes the result `[0]`) looks like, depending on the operation. -/
def FailAt (s1 : St) (t : Tid) : Prop := FullAt s1 t ∨ EmptyAt s1 t

/-- **A failing operation saw a full / an empty queue.**  If a completed operation of a run returned `[0]`, there
    is an instant `j` strictly between its call (observation `r.inv`) and its return (observation `r.res`) such
    that in the state `s1` reached by the first `j` actions of the run the calling thread is about to perform the
    load that fixes the result, and at that instant the abstract queue is full (`FullAt`, for `enq`) resp. empty
    (`EmptyAt`, for `deq`). -/
theorem vyukov_fail_instant (k : Nat) (hk : 1 ≤ k) (sched : List (Tid × Act)) (s : St) (os : List (Tid × Obs))
    (h : model.run (init k) sched = some (s, os)) (r : OpRec GOp GRet) (hr : r ∈ historyOf os) (hret : r.ret = [0]) :
    ∃ j s1, r.inv < j ∧ j < r.res ∧ model.run (init k) (sched.take j) = some (s1, os.take j) ∧ s1.k = k ∧
      FailAt s1 r.tid ∧ opOf (s1.pc r.tid) = some r.op := by
  obtain ⟨j, s1, e1, e2, e3, ⟨hl, hkk⟩, hop, h1, s2, ev, hs, h2⟩ :=
    LPLin.lp_hindsight (sys_ok k hk) sched s os h r (historyOf_eq os ▸ hr)
  refine ⟨j, s1, e1, e2, e3, hkk, ?_, hop⟩
  rcases fail_step hl hs h1 (hret ▸ h2) with hf | hf
  · exact Or.inl hf.1
  · exact Or.inr hf.1

/-- A failed `enq`: at some instant inside the call the abstract queue held exactly `2^k` items. -/
theorem vyukov_full_hindsight (k : Nat) (hk : 1 ≤ k) (sched : List (Tid × Act)) (s : St) (os : List (Tid × Obs))
    (h : model.run (init k) sched = some (s, os)) (r : OpRec GOp GRet) (hr : r ∈ historyOf os)
    (v : Int) (hop : r.op = ⟨"enq", [v]⟩) (hret : r.ret = [0]) :
    ∃ j s1, r.inv < j ∧ j < r.res ∧ model.run (init k) (sched.take j) = some (s1, os.take j) ∧
      FullAt s1 r.tid ∧ (absQueue s1).length = 2 ^ k := by
  obtain ⟨j, s1, e1, e2, e3, e4, e5, e6⟩ := vyukov_fail_instant k hk sched s os h r hr hret
  refine ⟨j, s1, e1, e2, e3, ?_⟩
  rcases e5 with hf | ⟨p, hp, -⟩
  · refine ⟨hf, ?_⟩
    obtain ⟨v', p, -, -, -, hlen⟩ := hf
    rw [hlen, e4]; rfl
  · rw [hp, hop] at e6; simp [opOf] at e6

/-- A failed `deq`: at some instant inside the call the abstract queue was empty. -/
theorem vyukov_empty_hindsight (k : Nat) (hk : 1 ≤ k) (sched : List (Tid × Act)) (s : St) (os : List (Tid × Obs))
    (h : model.run (init k) sched = some (s, os)) (r : OpRec GOp GRet) (hr : r ∈ historyOf os)
    (hop : r.op = ⟨"deq", []⟩) (hret : r.ret = [0]) :
    ∃ j s1, r.inv < j ∧ j < r.res ∧ model.run (init k) (sched.take j) = some (s1, os.take j) ∧
      EmptyAt s1 r.tid ∧ absQueue s1 = [] := by
  obtain ⟨j, s1, e1, e2, e3, e4, e5, e6⟩ := vyukov_fail_instant k hk sched s os h r hr hret
  refine ⟨j, s1, e1, e2, e3, ?_⟩
  rcases e5 with ⟨v', p, hp, -⟩ | hf
  · rw [hp, hop] at e6; simp [opOf] at e6
  · refine ⟨hf, ?_⟩
    obtain ⟨p, -, -, -, hq⟩ := hf
    exact hq

end CdsVerif.Algo.Vyukov
