/-
  The inductive invariant of the flat-combining kernel model (`FC/Kernel.lean`) and its preservation by every
  transition.  The property theorems are in `Props/C23Kernel.lean`.

  Reading guide (record id = id of the owning thread):
   * `hold`, `lockFree`      : the spin lock protects the combiner role (every lock-holding thread is `holder`).
   * `noReq`, `someReq`      : `nRequest` is empty exactly outside the window [store of the request, release_record].
   * `respExec`, `opExec`, `atDone`, `atAge`, `le1`, `fin`
                             : the ghost counter `execs`: 0 while the request is pending and nobody is between
                               `fc_apply` and the store of req_Response for it; 1 from `fc_apply` on; never 2.
   * `rel`, `wtUnl`          : a thread reaches `release_record` only with nRequest = req_Response.
   * `unlinked`, `linkAct`   : an ACTIVE record that is not linked is either being linked by its owner (`pubLink`)
                               or being deactivated by the combiner (`ccInact`).
   * `cmb`, `pass`, `post`   : the combiner's own request: it is still pending only during the first pass and before
                               the walk reaches its record, which is then linked and active, hence visited; after the
                               passes it is answered.  (This is the `assert( pRec->op() == req_Response )` of
                               `try_combining`.)
-/
import CdsVerif.Algo.FC.Kernel
import CdsVerif.Algo.FC.Thread
namespace CdsVerif.Algo.FC.Kernel
open CdsVerif.Machine CdsVerif.Spec

structure KInv (cfg : Cfg) (s : St) : Prop where
  bound : ∀ t, s.pc t ≠ .idle → t < cfg.N
  lockFree : s.lock = false → ∀ t, holds (s.pc t) = false
  hold : ∀ t, holds (s.pc t) = true → t = s.holder
  noReq : ∀ t, hasReq (s.pc t) = false → s.req t = .empty
  someReq : ∀ t, hasReq (s.pc t) = true → s.req t = .op ∨ s.req t = .resp
  respExec : ∀ k, s.req k = .resp → s.execs k = 1
  opExec : ∀ k, s.req k = .op → doneIdx (s.pc s.holder) ≠ some k → s.execs k = 0
  atDone : ∀ t c k, s.pc t = .cpDone c k → s.req k = .op ∧ s.execs k = 1
  atAge : ∀ t c k, s.pc t = .cpAge c k → s.req k = .op
  rel : ∀ t, s.pc t = .relSt → s.req t = .resp
  wtUnl : ∀ t, s.pc t = .wtUnlock → s.req t = .resp
  fin : ∀ t, s.pc t = .done → s.execs t = 1
  le1 : ∀ k, s.execs k ≤ 1
  unlinked : ∀ r, s.state r = .active → s.inList r = false →
    isLink (s.pc r) = true ∨ inactIdx (s.pc s.holder) = some r
  linkAct : ∀ t, s.pc t = .pubLink .lock → s.state t = .active
  cmb : ∀ t, s.pc t = .cmbCnt → s.req t = .resp ∨ (s.inList t = true ∧ s.state t = .active)
  pass : ∀ t c k, cpIdx (s.pc t) = some (c, k) →
    s.req t = .resp ∨ (c.pass = 0 ∧ k ≤ t ∧ s.inList t = true ∧ s.state t = .active)
  post : ∀ t, postPass (s.pc t) = true → s.req t = .resp

theorem kinv_init (cfg : Cfg) : KInv cfg init := by
  constructor <;> intros <;> simp_all [init, holds, hasReq, cpIdx, postPass]

theorem passEnd_cases (cfg : Cfg) (c : CS) :
    (∃ c', passEnd cfg c = .cpWalk c' 0 ∧ c'.pass = c.pass + 1) ∨ passEnd cfg c = .ccWalk c.age 0 ∨
      passEnd cfg c = .unlock := by
  by_cases h1 : ((c.done = true ∨ (if c.done then c.emp else c.emp + 1) ≤ (if c.done then c.use + 1 else c.use)) ∧
      c.pass + 1 < cfg.P)
  · refine Or.inl ⟨⟨c.age, c.pass + 1, if c.done then c.emp else c.emp + 1,
      if c.done then c.use + 1 else c.use, false⟩, ?_, rfl⟩
    show (if _ then _ else _) = _
    rw [if_pos h1]
  · by_cases h2 : c.age &&& cfg.cf = 0
    · refine Or.inr (Or.inl ?_)
      show (if _ then _ else _) = _
      rw [if_neg h1, if_pos h2]
    · refine Or.inr (Or.inr ?_)
      show (if _ then _ else _) = _
      rw [if_neg h1, if_neg h2]

theorem doneIdx_of_not_holds (p : PC) : holds p = false → doneIdx p = none := by
  cases p <;> simp [holds, doneIdx]
theorem inactIdx_of_not_holds (p : PC) : holds p = false → inactIdx p = none := by
  cases p <;> simp [holds, inactIdx]

/-! ### Thread-modular form

  A step of thread `t` rewrites `s.pc t` and a little memory.  `KInv cfg s` is split accordingly into `MInv` (the memory
  alone), `TInv` (ONE thread at a program counter, as owner of its record, `OInv`, and as combiner, `CInv`) and `XInv`
  (the two clauses that mention the program counter of the lock holder).  The parts are predicates of the memory words
  they read, and the program counter enters `TInv` through classifying functions and tests `pc == .relSt` only: the
  clauses of two program counters with the same classification are the same propositions up to computation, and a
  structure update `{ hT with … }` names exactly the clauses a step changes. -/

/-- About to run `fc_apply` on record `k`. -/
def ageIdx : PC → Option Nat
  | .cpAge _ k => some k
  | _ => none

theorem doneIdx_iff {p : PC} {k : Nat} : doneIdx p = some k ↔ ∃ c, p = .cpDone c k := by cases p <;> simp [doneIdx]
theorem ageIdx_iff {p : PC} {k : Nat} : ageIdx p = some k ↔ ∃ c, p = .cpAge c k := by cases p <;> simp [ageIdx]

structure MInv (req : Nat → RV) (execs : Nat → Nat) : Prop where
  respExec : ∀ k, req k = .resp → execs k = 1
  le1 : ∀ k, execs k ≤ 1

/-- Thread `t` at `pc` as owner of record `t`. -/
structure OInv (cfg : Cfg) (lock : Bool) (holder : Tid) (req : Nat → RV) (execs : Nat → Nat) (t : Tid) (pc : PC) :
    Prop where
  bound : (pc == .idle) = false → t < cfg.N
  lockFree : lock = false → holds pc = false
  hold : holds pc = true → t = holder
  noReq : hasReq pc = false → req t = .empty
  someReq : hasReq pc = true → req t = .op ∨ req t = .resp
  rel : (pc == .relSt) = true → req t = .resp
  fin : (pc == .done) = true → execs t = 1

/-- Thread `t` at `pc` as combiner. -/
structure CInv (req : Nat → RV) (state : Nat → RS) (inList : Nat → Bool) (execs : Nat → Nat) (t : Tid) (pc : PC) :
    Prop where
  atDone : ∀ k, doneIdx pc = some k → req k = .op ∧ execs k = 1
  atAge : ∀ k, ageIdx pc = some k → req k = .op
  wtUnl : (pc == .wtUnlock) = true → req t = .resp
  linkAct : (pc == .pubLink .lock) = true → state t = .active
  cmb : (pc == .cmbCnt) = true → req t = .resp ∨ (inList t = true ∧ state t = .active)
  pass : ∀ c k, cpIdx pc = some (c, k) →
    req t = .resp ∨ (c.pass = 0 ∧ k ≤ t ∧ inList t = true ∧ state t = .active)
  post : postPass pc = true → req t = .resp

structure TInv (cfg : Cfg) (lock : Bool) (holder : Tid) (req : Nat → RV) (state : Nat → RS) (inList : Nat → Bool)
    (execs : Nat → Nat) (t : Tid) (pc : PC) : Prop
  extends OInv cfg lock holder req execs t pc, CInv req state inList execs t pc

/-- The clauses that mention the program counter of the lock holder. -/
structure XInv (holder : Tid) (req : Nat → RV) (state : Nat → RS) (inList : Nat → Bool) (execs : Nat → Nat)
    (pc : Tid → PC) : Prop where
  opExec : ∀ k, req k = .op → doneIdx (pc holder) ≠ some k → execs k = 0
  unlinked : ∀ r, state r = .active → inList r = false → isLink (pc r) = true ∨ inactIdx (pc holder) = some r

abbrev St.MInv (s : St) : Prop := Kernel.MInv s.req s.execs
abbrev St.TInv (cfg : Cfg) (s : St) (t : Tid) (pc : PC) : Prop :=
  Kernel.TInv cfg s.lock s.holder s.req s.state s.inList s.execs t pc
abbrev St.XInv (s : St) : Prop := Kernel.XInv s.holder s.req s.state s.inList s.execs s.pc

/-- The memory the invariant reads. -/
def St.mem (s : St) := (s.lock, s.holder, s.req, s.state, s.inList, s.execs)

variable {cfg : Cfg} {lock : Bool} {holder : Tid} {req req' : Nat → RV} {state : Nat → RS} {inList : Nat → Bool}
  {execs execs' : Nat → Nat}

/-- What the combiner clauses see of a program counter. -/
def cview (p : PC) := (doneIdx p, ageIdx p, p == .wtUnlock, p == .pubLink .lock, p == .cmbCnt, cpIdx p, postPass p)

/-- The combiner clauses say nothing at a program counter outside `combining`. -/
theorem CInv.vacuous {t : Tid} {p : PC} (h : cview p = cview .idle) : CInv req state inList execs t p := by
  simp only [cview, Prod.mk.injEq] at h
  obtain ⟨h1, h2, h3, h4, h5, h6, h7⟩ := h
  constructor <;> intros <;> simp_all [doneIdx, ageIdx, cpIdx, postPass]

theorem cview_of_not_holds {p : PC} (h : holds p = false) : cview p = cview .idle := by
  cases p with
  | pubLink c => cases c <;> first | rfl | cases h
  | _ => first | rfl | cases h

theorem CInv.of_not_holds {t : Tid} {p : PC} (h : holds p = false) : CInv req state inList execs t p :=
  CInv.vacuous (cview_of_not_holds h)

theorem KInv.mem {s : St} (h : KInv cfg s) : s.MInv := ⟨h.respExec, h.le1⟩

theorem KInv.thread {s : St} (h : KInv cfg s) (t : Tid) : s.TInv cfg t (s.pc t) where
  bound := fun e => h.bound t (beq_eq_false_iff_ne.mp e)
  lockFree := fun e => h.lockFree e t
  hold := h.hold t
  noReq := h.noReq t
  someReq := h.someReq t
  rel := fun e => h.rel t (beq_iff_eq.mp e)
  fin := fun e => h.fin t (beq_iff_eq.mp e)
  atDone := fun k e => (doneIdx_iff.mp e).elim fun c e' => h.atDone t c k e'
  atAge := fun k e => (ageIdx_iff.mp e).elim fun c e' => h.atAge t c k e'
  wtUnl := fun e => h.wtUnl t (beq_iff_eq.mp e)
  linkAct := fun e => h.linkAct t (beq_iff_eq.mp e)
  cmb := fun e => h.cmb t (beq_iff_eq.mp e)
  pass := h.pass t
  post := h.post t

theorem KInv.cross {s : St} (h : KInv cfg s) : s.XInv := ⟨h.opExec, h.unlinked⟩

theorem KInv.of_parts {s : St} (hM : s.MInv) (hT : ∀ t, s.TInv cfg t (s.pc t)) (hX : s.XInv) : KInv cfg s where
  bound := fun t e => (hT t).bound (beq_eq_false_iff_ne.mpr e)
  lockFree := fun e t => (hT t).lockFree e
  hold := fun t => (hT t).hold
  noReq := fun t => (hT t).noReq
  someReq := fun t => (hT t).someReq
  respExec := hM.respExec
  opExec := hX.opExec
  atDone := fun t c k e => (hT t).atDone k (doneIdx_iff.mpr ⟨c, e⟩)
  atAge := fun t c k e => (hT t).atAge k (ageIdx_iff.mpr ⟨c, e⟩)
  rel := fun t e => (hT t).rel (beq_iff_eq.mpr e)
  wtUnl := fun t e => (hT t).wtUnl (beq_iff_eq.mpr e)
  fin := fun t e => (hT t).fin (beq_iff_eq.mpr e)
  le1 := hM.le1
  unlinked := hX.unlinked
  linkAct := fun t e => (hT t).linkAct (beq_iff_eq.mpr e)
  cmb := fun t e => (hT t).cmb (beq_iff_eq.mpr e)
  pass := fun t => (hT t).pass
  post := fun t => (hT t).post

/-- The rule for one step of thread `t`, from program counter `s.pc t` to `q`. -/
theorem KInv.of_step {s s' : St} {t : Tid} {q : PC} (hp : s'.pc = upd s.pc t q) (hM : s'.MInv)
    (hT : s'.TInv cfg t q) (hO : ∀ u, u ≠ t → s'.TInv cfg u (s.pc u)) (hX : s'.XInv) : KInv cfg s' :=
  KInv.of_parts hM (hp ▸ forall_upd hT hO) hX

/-- Thread `t` moves from `p` to `q`.  It stops linking only with its record linked; it leaves the window between
    `fc_apply` and the store of the response only with the response stored, and the window between the unlink and the
    store of `inactive` only with `inactive` stored. -/
theorem XInv.move {pc : Tid → PC} {t : Tid} {p q : PC} (h : XInv holder req state inList execs pc) (hpc : pc t = p)
    (hl : isLink p = true → isLink q = true ∨ (state t = .active → inList t = true))
    (hd : ∀ k, doneIdx p = some k → doneIdx q = some k ∨ req k ≠ .op)
    (hi : ∀ r, inactIdx p = some r → inactIdx q = some r ∨ (state r = .active → inList r = true)) :
    XInv holder req state inList execs (upd pc t q) where
  opExec := fun k hk hne => h.opExec k hk fun e => by
    by_cases hh : holder = t
    · rw [hh, hpc] at e
      rw [hh, upd_same] at hne
      exact (hd k e).elim hne (fun e' => e' hk)
    · rw [upd_other _ _ _ _ hh] at hne
      exact hne e
  unlinked := fun r ha hn => by
    have hout : ∀ {P : Prop}, (state r = .active → inList r = true) → P := fun e' =>
      nomatch hn.symm.trans (e' ha)
    rcases h.unlinked r ha hn with e | e
    · by_cases hr : r = t
      · subst hr
        rw [hpc] at e
        exact (hl e).elim (fun e' => Or.inl (by rw [upd_same]; exact e')) hout
      · exact Or.inl (by rw [upd_other _ _ _ _ hr]; exact e)
    · by_cases hh : holder = t
      · rw [hh, hpc] at e
        exact (hi r e).elim (fun e' => Or.inr (by rw [hh, upd_same]; exact e')) hout
      · exact Or.inr (by rw [upd_other _ _ _ _ hh]; exact e)

/-- What the clauses about the lock holder see of a program counter. -/
def xview (p : PC) := (isLink p, inactIdx p, doneIdx p)

/-- The common case: the new program counter looks to the other threads like the old one. -/
theorem XInv.quiet {pc : Tid → PC} {t : Tid} {p q : PC} (h : XInv holder req state inList execs pc) (hpc : pc t = p)
    (hx : xview q = xview p) : XInv holder req state inList execs (upd pc t q) := by
  simp only [xview, Prod.mk.injEq] at hx
  obtain ⟨e1, e2, e3⟩ := hx
  exact h.move hpc (fun e => Or.inl (e1 ▸ e)) (fun k e => Or.inl (e3 ▸ e)) (fun r e => Or.inl (e2 ▸ e))

/-- Thread `t` moves from `p` to a `q` that looks to the other threads like `p`; the memory the invariant reads stays
    as it is. -/
theorem KInv.quiet {s s' : St} {t : Tid} {p q : PC} (h : KInv cfg s) (hpc : s.pc t = p) (hm : s'.mem = s.mem)
    (hp : s'.pc = upd s.pc t q) (hx : xview q = xview p) (hT : s.TInv cfg t q) : KInv cfg s' := by
  simp only [St.mem, Prod.mk.injEq] at hm
  obtain ⟨e1, e2, e3, e4, e5, e6⟩ := hm
  refine KInv.of_step hp ?_ ?_ (fun u _ => ?_) ?_
  · rw [St.MInv, e3, e6]; exact h.mem
  · rw [St.TInv, e1, e2, e3, e4, e5, e6]; exact hT
  · rw [St.TInv, e1, e2, e3, e4, e5, e6]; exact h.thread u
  · rw [St.XInv, e2, e3, e4, e5, e6, hp]; exact h.cross.quiet hpc hx

/-- While `t` holds the lock no other thread does. -/
theorem KInv.others_idle {s : St} {t u : Tid} (h : KInv cfg s) (ht : holds (s.pc t) = true) (hu : u ≠ t) :
    holds (s.pc u) = false := by
  cases e : holds (s.pc u)
  · rfl
  · exact absurd ((h.hold u e).trans (h.hold t ht).symm) hu

/-- Thread `t` takes the free lock. -/
theorem KInv.acquire {s : St} {t : Tid} {p q : PC} (h : KInv cfg s) (hpc : s.pc t = p) (hfree : s.lock = false)
    (hx : xview q = xview p) (hT : TInv cfg true t s.req s.state s.inList s.execs t q) :
    KInv cfg { s with lock := true, holder := t, pc := upd s.pc t q } := by
  have hidle : ∀ u, holds (s.pc u) = false := h.lockFree hfree
  refine KInv.of_step (q := q) rfl h.mem hT (fun u _ => ?_) ?_ <;> dsimp only [St.TInv, St.XInv]
  · exact { h.thread u with lockFree := nofun, hold := fun e => nomatch (hidle u).symm.trans e }
  · have hX := h.cross.quiet hpc hx
    have hold : ∀ {α : Type} (f : PC → α), f q = f p → f (upd s.pc t q s.holder) = f (s.pc s.holder) := fun f e =>
      upd_view (hpc ▸ e) s.holder
    simp only [xview, Prod.mk.injEq] at hx
    refine { hX with opExec := fun k hk _ => hX.opExec k hk ?_, unlinked := fun r ha hn => ?_ }
    · rw [hold doneIdx hx.2.2, doneIdx_of_not_holds _ (hidle _)]; exact nofun
    · refine (hX.unlinked r ha hn).imp_right fun e => ?_
      rw [hold inactIdx hx.2.1, inactIdx_of_not_holds _ (hidle _)] at e
      cases e

/-- Thread `t`, which holds the lock, gives it back. -/
theorem KInv.release {s : St} {t : Tid} {p q : PC} (h : KInv cfg s) (hpc : s.pc t = p) (hh : holds p = true)
    (hx : xview q = xview p) (hT : TInv cfg false s.holder s.req s.state s.inList s.execs t q) :
    KInv cfg { s with lock := false, pc := upd s.pc t q } := by
  refine KInv.of_step (q := q) rfl h.mem hT (fun u hu => ?_) (h.cross.quiet hpc hx)
  exact { h.thread u with lockFree := fun _ => h.others_idle (hpc ▸ hh) hu }

/-- `TInv` of `u` looks at the request and the ghost counter of `u` and of records with a pending request only. -/
theorem TInv.with_req {u : Tid} {p : PC} (h : TInv cfg lock holder req state inList execs u p)
    (hr : req' u = req u) (he : execs' u = execs u) (hk : ∀ k, req k = .op → req' k = .op ∧ execs' k = execs k) :
    TInv cfg lock holder req' state inList execs' u p :=
  { h with
    noReq := hr ▸ h.noReq
    someReq := hr ▸ h.someReq
    rel := hr ▸ h.rel
    fin := he ▸ h.fin
    atDone := fun k e => ⟨(hk k (h.atDone k e).1).1, (hk k (h.atDone k e).1).2 ▸ (h.atDone k e).2⟩
    atAge := fun k e => (hk k (h.atAge k e)).1
    wtUnl := hr ▸ h.wtUnl
    cmb := hr ▸ h.cmb
    pass := hr ▸ h.pass
    post := hr ▸ h.post }

/-! ### Preservation by the atomic steps, in the order of `Kernel.step`

  A step that only loads is `KInv.quiet` with the clauses the new program counter adds; a step that writes gives the four
  parts of `KInv.of_step`. -/

variable {s s' : St} {t : Tid} {ev : Ev}

theorem step_acqLd (h : KInv cfg s) (hpc : s.pc t = .acqLd)
    (hs : step cfg s t = some (s', ev)) : KInv cfg s' := by
  have hT := hpc ▸ h.thread t
  simp only [step, hpc, Option.some.injEq, Prod.mk.injEq] at hs
  obtain ⟨rfl, -⟩ := hs
  split <;> exact h.quiet hpc rfl rfl rfl { hT with }

theorem step_pubCnt {c : Cont} (h : KInv cfg s) (hpc : s.pc t = .pubCnt c)
    (hs : step cfg s t = some (s', ev)) : KInv cfg s' := by
  have hT := hpc ▸ h.thread t
  simp only [step, hpc, Option.some.injEq, Prod.mk.injEq] at hs
  obtain ⟨rfl, -⟩ := hs
  cases c <;> exact h.quiet hpc rfl rfl rfl { hT with }

theorem step_pubAge {c : Cont} {a : Nat} (h : KInv cfg s) (hpc : s.pc t = .pubAge c a)
    (hs : step cfg s t = some (s', ev)) : KInv cfg s' := by
  have hT := hpc ▸ h.thread t
  simp only [step, hpc, Option.some.injEq, Prod.mk.injEq] at hs
  obtain ⟨rfl, -⟩ := hs
  cases c <;> exact h.quiet hpc rfl rfl rfl { hT with }

/-- The store of `active`: records that were active stay so, and the record of `t` is now being linked. -/
theorem step_pubAct {c : Cont} (h : KInv cfg s) (hpc : s.pc t = .pubAct c)
    (hs : step cfg s t = some (s', ev)) : KInv cfg s' := by
  have hT := hpc ▸ h.thread t
  simp only [step, hpc, Option.some.injEq, Prod.mk.injEq] at hs
  obtain ⟨rfl, -⟩ := hs
  have hact : ∀ r, s.state r = .active → upd s.state t .active r = .active := fun r e => by
    by_cases hr : r = t
    · rw [hr, upd_same]
    · rw [upd_other _ _ _ _ hr]; exact e
  refine KInv.of_step (q := .pubLink c) rfl h.mem ?_ (fun u _ => ?_) ?_ <;> dsimp only [St.TInv, St.XInv]
  · cases c
    · exact ⟨{ hT.toOInv with }, CInv.vacuous rfl⟩
    · exact { hT with linkAct := fun _ => upd_same _ _ _, cmb := nofun, pass := nofun }
    · exact ⟨{ hT.toOInv with }, CInv.vacuous rfl⟩
  · have hU := h.thread u
    exact { hU with
      linkAct := fun e => hact u (hU.linkAct e)
      cmb := fun e => (hU.cmb e).imp_right fun e' => ⟨e'.1, hact u e'.2⟩
      pass := fun c k e => (hU.pass c k e).imp_right fun e' => ⟨e'.1, e'.2.1, e'.2.2.1, hact u e'.2.2.2⟩ }
  · have hX := h.cross.move (q := .pubLink c) hpc nofun nofun nofun
    refine { hX with unlinked := fun r ha hn => ?_ }
    by_cases hr : r = t
    · exact Or.inl (by rw [hr, upd_same]; rfl)
    · exact hX.unlinked r (upd_other s.state t r .active hr ▸ ha) hn
/-- The link: records that were linked stay so, and the record of `t` is linked now. -/
theorem step_pubLink {c : Cont} (h : KInv cfg s) (hpc : s.pc t = .pubLink c)
    (hs : step cfg s t = some (s', ev)) : KInv cfg s' := by
  have hT := hpc ▸ h.thread t
  simp only [step, hpc, Option.some.injEq, Prod.mk.injEq] at hs
  obtain ⟨rfl, -⟩ := hs
  have hlink : ∀ r, s.inList r = true → upd s.inList t true r = true := fun r e => by
    by_cases hr : r = t
    · rw [hr, upd_same]
    · rw [upd_other _ _ _ _ hr]; exact e
  refine KInv.of_step (q := afterPublish c) rfl h.mem ?_ (fun u _ => ?_) ?_ <;> dsimp only [St.TInv, St.XInv]
  · cases c
    · exact ⟨{ hT.toOInv with }, CInv.vacuous rfl⟩
    · exact { hT with linkAct := nofun, cmb := fun _ => Or.inr ⟨upd_same _ _ _, hT.linkAct rfl⟩, pass := nofun }
    · exact ⟨{ hT.toOInv with }, CInv.vacuous rfl⟩
  · have hU := h.thread u
    exact { hU with
      cmb := fun e => (hU.cmb e).imp_right fun e' => ⟨hlink u e'.1, e'.2⟩
      pass := fun c k e => (hU.pass c k e).imp_right fun e' => ⟨e'.1, e'.2.1, hlink u e'.2.2.1, e'.2.2.2⟩ }
  · have hX : XInv s.holder s.req s.state (upd s.inList t true) s.execs s.pc :=
      { h.cross with unlinked := fun r ha hn => h.unlinked r ha (by
          cases e : s.inList r
          · rfl
          · exact nomatch hn.symm.trans (hlink r e)) }
    exact hX.move hpc (fun _ => Or.inr fun _ => upd_same _ _ _) nofun nofun
/-- The store of the request resets the ghost counter of the record. -/
theorem step_reqSt (h : KInv cfg s) (hpc : s.pc t = .reqSt)
    (hs : step cfg s t = some (s', ev)) : KInv cfg s' := by
  have hT := hpc ▸ h.thread t
  simp only [step, hpc, Option.some.injEq, Prod.mk.injEq] at hs
  obtain ⟨rfl, -⟩ := hs
  have hne : ∀ k, s.req k = .op → k ≠ t := fun k hk e => by
    rw [e, hT.noReq rfl] at hk
    cases hk
  refine KInv.of_step (q := .tryLock) rfl ?_ ?_ (fun u hu => ?_) ?_ <;> dsimp only [St.MInv, St.TInv, St.XInv]
  · refine { respExec := fun k hk => ?_, le1 := fun k => ?_ }
    · by_cases e : k = t
      · rw [e, upd_same] at hk; cases hk
      · rw [upd_other _ _ _ _ e] at hk ⊢; exact h.respExec k hk
    · by_cases e : k = t
      · rw [e, upd_same]; exact Nat.zero_le 1
      · rw [upd_other _ _ _ _ e]; exact h.le1 k
  · exact ⟨{ hT.toOInv with noReq := nofun, someReq := fun _ => Or.inl (upd_same _ _ _), rel := nofun, fin := nofun },
      CInv.vacuous rfl⟩
  · exact (h.thread u).with_req (upd_other _ _ _ _ hu) (upd_other _ _ _ _ hu) fun k hk =>
      ⟨(upd_other _ _ _ _ (hne k hk)).trans hk, upd_other _ _ _ _ (hne k hk)⟩
  · have hX := h.cross.quiet (q := .tryLock) hpc rfl
    refine { hX with opExec := fun k hk hd => ?_ }
    by_cases e : k = t
    · rw [e, upd_same]
    · rw [upd_other _ _ _ _ e] at hk ⊢; exact hX.opExec k hk hd
theorem step_tryLock (h : KInv cfg s) (hpc : s.pc t = .tryLock)
    (hs : step cfg s t = some (s', ev)) : KInv cfg s' := by
  have hT := hpc ▸ h.thread t
  simp only [step, hpc, Option.some.injEq, Prod.mk.injEq] at hs
  obtain ⟨rfl, -⟩ := hs
  cases hl : s.lock
  · exact h.acquire hpc hl rfl { hT with lockFree := nofun, hold := fun _ => rfl }
  · exact h.quiet hpc (by simp only [St.mem, hl]; rfl) rfl rfl { hT with }

theorem step_lkRepub (h : KInv cfg s) (hpc : s.pc t = .lkRepub)
    (hs : step cfg s t = some (s', ev)) : KInv cfg s' := by
  have hT := hpc ▸ h.thread t
  simp only [step, hpc, Option.some.injEq, Prod.mk.injEq] at hs
  obtain ⟨rfl, -⟩ := hs
  split
  next ha =>
    -- the record of the lock holder is active and nobody is linking or deactivating it: it is linked
    refine h.quiet hpc rfl rfl rfl { hT with cmb := fun _ => Or.inr ⟨?_, ha⟩ }
    have hh : t = s.holder := hT.hold rfl
    cases hn : s.inList t
    · rcases h.unlinked t ha hn with e | e
      · rw [hpc] at e; cases e
      · rw [← hh, hpc] at e; cases e
    · rfl
  next => exact h.quiet hpc rfl rfl rfl { hT with }

theorem step_cmbCnt (h : KInv cfg s) (hpc : s.pc t = .cmbCnt)
    (hs : step cfg s t = some (s', ev)) : KInv cfg s' := by
  have hT := hpc ▸ h.thread t
  simp only [step, hpc, Option.some.injEq, Prod.mk.injEq] at hs
  obtain ⟨rfl, -⟩ := hs
  exact h.quiet hpc rfl rfl rfl
    { hT with cmb := nofun, pass := of_some_pair ((hT.cmb rfl).imp_right fun e => ⟨rfl, Nat.zero_le t, e.1, e.2⟩) }
/-- The walk passes index `k`: the combiner's own record, linked and active with a pending request, is not skipped;
    beyond the last record the combiner's request has been answered. -/
theorem step_cpWalk {c : CS} {k : Nat} (h : KInv cfg s) (hpc : s.pc t = .cpWalk c k)
    (hs : step cfg s t = some (s', ev)) : KInv cfg s' := by
  have hT := hpc ▸ h.thread t
  simp only [step, hpc] at hs
  split at hs
  next =>
    simp only [Option.some.injEq, Prod.mk.injEq] at hs
    obtain ⟨rfl, -⟩ := hs
    split
    next => exact h.quiet hpc rfl rfl rfl { hT with }
    next hl =>
      exact h.quiet hpc rfl rfl rfl { hT with pass := of_some_pair ((hT.pass c k rfl).imp_right fun e =>
        ⟨e.1, Nat.lt_of_le_of_ne e.2.1 fun ek => hl (ek ▸ e.2.2.1), e.2.2⟩) }
  next hk =>
    simp only [Option.some.injEq, Prod.mk.injEq] at hs
    obtain ⟨rfl, -⟩ := hs
    have hresp : s.req t = .resp :=
      (hT.pass c k rfl).elim id fun e => absurd (Nat.lt_of_le_of_lt e.2.1 (hT.bound rfl)) hk
    rcases passEnd_cases cfg c with ⟨c', he, -⟩ | he | he <;> rw [he]
    · exact h.quiet hpc rfl rfl rfl { hT with pass := of_some_pair (Or.inl hresp) }
    · exact h.quiet hpc rfl rfl rfl { hT with pass := nofun, post := fun _ => hresp }
    · exact h.quiet hpc rfl rfl rfl { hT with pass := nofun, post := fun _ => hresp }

theorem step_cpState {c : CS} {k : Nat} (h : KInv cfg s) (hpc : s.pc t = .cpState c k)
    (hs : step cfg s t = some (s', ev)) : KInv cfg s' := by
  have hT := hpc ▸ h.thread t
  simp only [step, hpc, Option.some.injEq, Prod.mk.injEq] at hs
  obtain ⟨rfl, -⟩ := hs
  split
  next => exact h.quiet hpc rfl rfl rfl { hT with }
  next ha =>
    exact h.quiet hpc rfl rfl rfl { hT with pass := of_some_pair ((hT.pass c k rfl).imp_right fun e =>
      ⟨e.1, Nat.lt_of_le_of_ne e.2.1 fun ek => ha (ek ▸ e.2.2.2), e.2.2⟩) }
theorem step_cpReq {c : CS} {k : Nat} (h : KInv cfg s) (hpc : s.pc t = .cpReq c k)
    (hs : step cfg s t = some (s', ev)) : KInv cfg s' := by
  have hT := hpc ▸ h.thread t
  simp only [step, hpc, Option.some.injEq, Prod.mk.injEq] at hs
  obtain ⟨rfl, -⟩ := hs
  split
  next hr => exact h.quiet hpc rfl rfl rfl { hT with atAge := of_some hr }
  next hr =>
    -- record `k` has no pending request; if it is the combiner's own, that one is answered
    refine h.quiet hpc rfl rfl rfl { hT with pass := of_some_pair ((hT.pass c k rfl).elim Or.inl fun e => ?_) }
    by_cases ek : k = t
    · exact Or.inl ((hT.someReq rfl).resolve_left fun e' => hr (ek ▸ e'))
    · exact Or.inr ⟨e.1, Nat.lt_of_le_of_ne e.2.1 ek, e.2.2⟩
/-- `fc_apply` (attached to the store of `nAge`): the request of record `k` is pending and not yet executed; now it is
    executed once. -/
theorem step_cpAge {c : CS} {k : Nat} (h : KInv cfg s) (hpc : s.pc t = .cpAge c k)
    (hs : step cfg s t = some (s', ev)) : KInv cfg s' := by
  have hT := hpc ▸ h.thread t
  simp only [step, hpc, Option.some.injEq, Prod.mk.injEq] at hs
  obtain ⟨rfl, -⟩ := hs
  have hh : t = s.holder := hT.hold rfl
  have hop : s.req k = .op := hT.atAge k rfl
  have h0 : s.execs k = 0 := h.opExec k hop (by rw [← hh, hpc]; exact nofun)
  refine KInv.of_step (q := .cpDone c k) rfl ?_ ?_ (fun u hu => ?_) ?_ <;> dsimp only [St.MInv, St.TInv, St.XInv]
  · refine { respExec := fun j hj => ?_, le1 := fun j => ?_ }
    · by_cases e : j = k
      · rw [e, hop] at hj; cases hj
      · rw [upd_other _ _ _ _ e]; exact h.respExec j hj
    · by_cases e : j = k
      · rw [e, upd_same, h0]; exact Nat.le_refl 1
      · rw [upd_other _ _ _ _ e]; exact h.le1 j
  · exact { hT with fin := nofun, atDone := of_some ⟨hop, by rw [upd_same, h0]⟩, atAge := nofun }
  · have hU := h.thread u
    refine ⟨{ hU.toOInv with fin := fun e => ?_ }, CInv.of_not_holds (h.others_idle (hpc ▸ rfl) hu)⟩
    have hk : u ≠ k := fun ek => by
      have hr := hU.noReq (by rw [beq_iff_eq.mp e]; rfl)
      rw [ek, hop] at hr
      cases hr
    rw [upd_other _ _ _ _ hk]
    exact hU.fin e
  · have hX := h.cross.move (q := .cpDone c k) hpc nofun nofun nofun
    refine { hX with opExec := fun j hj hd => ?_ }
    have hjk : j ≠ k := fun e => hd (by rw [← hh, upd_same, e]; rfl)
    rw [upd_other _ _ _ _ hjk]
    exact h.opExec j hj (by rw [← hh, hpc]; exact nofun)
/-- The store of the response into record `k`, whose request has been executed once. -/
theorem step_cpDone {c : CS} {k : Nat} (h : KInv cfg s) (hpc : s.pc t = .cpDone c k)
    (hs : step cfg s t = some (s', ev)) : KInv cfg s' := by
  have hT := hpc ▸ h.thread t
  simp only [step, hpc, Option.some.injEq, Prod.mk.injEq] at hs
  obtain ⟨rfl, -⟩ := hs
  have hk := hT.atDone k rfl
  have hreq : ∀ u, upd s.req k .resp u = .resp ∨ upd s.req k .resp u = s.req u := fun u => by
    by_cases e : u = k
    · rw [e, upd_same]; exact Or.inl rfl
    · exact Or.inr (upd_other _ _ _ _ e)
  refine KInv.of_step (q := .cpWalk { c with done := true } (k + 1)) rfl ?_ ?_ (fun u hu => ?_) ?_ <;>
    dsimp only [St.MInv, St.TInv, St.XInv]
  · refine { h.mem with respExec := fun j hj => ?_ }
    by_cases e : j = k
    · rw [e]; exact hk.2
    · rw [upd_other _ _ _ _ e] at hj; exact h.respExec j hj
  · have hpass : upd s.req k .resp t = .resp ∨
        (c.pass = 0 ∧ k + 1 ≤ t ∧ s.inList t = true ∧ s.state t = .active) := by
      by_cases e : k = t
      · rw [e, upd_same]; exact Or.inl rfl
      · rw [upd_other _ _ _ _ (Ne.symm e)]
        exact (hT.pass c k rfl).imp_right fun e' => ⟨e'.1, Nat.lt_of_le_of_ne e'.2.1 e, e'.2.2⟩
    exact { hT with
      noReq := nofun
      someReq := fun _ => (hreq t).elim Or.inr fun e => e ▸ hT.someReq rfl
      rel := nofun
      atDone := nofun
      atAge := nofun
      wtUnl := nofun
      cmb := nofun
      pass := of_some_pair hpass
      post := nofun }
  · have hU := h.thread u
    refine ⟨{ hU.toOInv with
      noReq := fun e => ?_
      someReq := fun e => (hreq u).elim Or.inr fun e' => e' ▸ hU.someReq e
      rel := fun e => (hreq u).elim id fun e' => e' ▸ hU.rel e }, CInv.of_not_holds (h.others_idle (hpc ▸ rfl) hu)⟩
    have huk : u ≠ k := fun ek => by
      have hr := hU.noReq e
      rw [ek, hk.1] at hr
      cases hr
    rw [upd_other _ _ _ _ huk]
    exact hU.noReq e
  · have hX : XInv s.holder (upd s.req k .resp) s.state s.inList s.execs s.pc :=
      { h.cross with
        opExec := fun j hj => h.opExec j ((hreq j).elim (fun e => nomatch e.symm.trans hj) fun e => e ▸ hj) }
    exact hX.move hpc nofun (of_some (Or.inr (by rw [upd_same]; exact nofun))) nofun
theorem step_ccWalk {a : Nat} {k : Nat} (h : KInv cfg s) (hpc : s.pc t = .ccWalk a k)
    (hs : step cfg s t = some (s', ev)) : KInv cfg s' := by
  have hT := hpc ▸ h.thread t
  simp only [step, hpc] at hs
  split at hs <;> simp only [Option.some.injEq, Prod.mk.injEq] at hs <;> obtain ⟨rfl, -⟩ := hs
  · split <;> exact h.quiet hpc rfl rfl rfl { hT with }
  · exact h.quiet hpc rfl rfl rfl { hT with }

theorem step_ccState {a : Nat} {k : Nat} (h : KInv cfg s) (hpc : s.pc t = .ccState a k)
    (hs : step cfg s t = some (s', ev)) : KInv cfg s' := by
  have hT := hpc ▸ h.thread t
  simp only [step, hpc, Option.some.injEq, Prod.mk.injEq] at hs
  obtain ⟨rfl, -⟩ := hs
  split <;> exact h.quiet hpc rfl rfl rfl { hT with }

theorem step_ccAge {a : Nat} {k : Nat} (h : KInv cfg s) (hpc : s.pc t = .ccAge a k)
    (hs : step cfg s t = some (s', ev)) : KInv cfg s' := by
  have hT := hpc ▸ h.thread t
  simp only [step, hpc, Option.some.injEq, Prod.mk.injEq] at hs
  obtain ⟨rfl, -⟩ := hs
  split <;> exact h.quiet hpc rfl rfl rfl { hT with }

/-- The unlink: the combiner is now about to store `inactive` into record `k`. -/
theorem step_ccUnlink {a : Nat} {k : Nat} (h : KInv cfg s) (hpc : s.pc t = .ccUnlink a k)
    (hs : step cfg s t = some (s', ev)) : KInv cfg s' := by
  have hT := hpc ▸ h.thread t
  simp only [step, hpc, Option.some.injEq, Prod.mk.injEq] at hs
  obtain ⟨rfl, -⟩ := hs
  refine KInv.of_step (q := .ccInact a k) rfl h.mem ?_ (fun u hu => ?_) ?_ <;> dsimp only [St.TInv, St.XInv]
  · exact { hT with cmb := nofun, pass := nofun }
  · exact ⟨(h.thread u).toOInv, CInv.of_not_holds (h.others_idle (hpc ▸ rfl) hu)⟩
  · have hX := h.cross.move (q := .ccInact a k) hpc nofun nofun nofun
    refine { hX with unlinked := fun r ha hn => ?_ }
    by_cases e : r = k
    · exact Or.inr (by rw [← hT.hold rfl, upd_same, e]; rfl)
    · exact hX.unlinked r ha (upd_other s.inList k r false e ▸ hn)
/-- The store of `inactive` into the unlinked record `k`. -/
theorem step_ccInact {a : Nat} {k : Nat} (h : KInv cfg s) (hpc : s.pc t = .ccInact a k)
    (hs : step cfg s t = some (s', ev)) : KInv cfg s' := by
  have hT := hpc ▸ h.thread t
  simp only [step, hpc, Option.some.injEq, Prod.mk.injEq] at hs
  obtain ⟨rfl, -⟩ := hs
  have hst : ∀ r, upd s.state k .inactive r = .active → s.state r = .active := fun r hr => by
    by_cases e : r = k
    · rw [e, upd_same] at hr; cases hr
    · exact upd_other s.state k r .inactive e ▸ hr
  refine KInv.of_step (q := .ccWalk a (k + 1)) rfl h.mem ?_ (fun u hu => ?_) ?_ <;> dsimp only [St.TInv, St.XInv]
  · exact { hT with linkAct := nofun, cmb := nofun, pass := nofun }
  · exact ⟨(h.thread u).toOInv, CInv.of_not_holds (h.others_idle (hpc ▸ rfl) hu)⟩
  · have hX : XInv s.holder s.req (upd s.state k .inactive) s.inList s.execs s.pc :=
      { h.cross with unlinked := fun r ha => h.unlinked r (hst r ha) }
    exact hX.move hpc nofun nofun (of_some (Or.inr fun e => nomatch (upd_same s.state k .inactive).symm.trans e))
theorem step_unlock (h : KInv cfg s) (hpc : s.pc t = .unlock)
    (hs : step cfg s t = some (s', ev)) : KInv cfg s' := by
  have hT := hpc ▸ h.thread t
  simp only [step, hpc, Option.some.injEq, Prod.mk.injEq] at hs
  obtain ⟨rfl, -⟩ := hs
  exact h.release hpc rfl rfl
    { hT with lockFree := fun _ => rfl, hold := nofun, rel := fun _ => hT.post rfl, post := nofun }

theorem step_wtReq (h : KInv cfg s) (hpc : s.pc t = .wtReq)
    (hs : step cfg s t = some (s', ev)) : KInv cfg s' := by
  have hT := hpc ▸ h.thread t
  simp only [step, hpc, Option.some.injEq, Prod.mk.injEq] at hs
  obtain ⟨rfl, -⟩ := hs
  split
  next hr => exact h.quiet hpc rfl rfl rfl { hT with rel := fun _ => hr }
  next => exact h.quiet hpc rfl rfl rfl { hT with }

theorem step_wtState (h : KInv cfg s) (hpc : s.pc t = .wtState)
    (hs : step cfg s t = some (s', ev)) : KInv cfg s' := by
  have hT := hpc ▸ h.thread t
  simp only [step, hpc, Option.some.injEq, Prod.mk.injEq] at hs
  obtain ⟨rfl, -⟩ := hs
  split <;> exact h.quiet hpc rfl rfl rfl { hT with }

theorem step_wtLock (h : KInv cfg s) (hpc : s.pc t = .wtLock)
    (hs : step cfg s t = some (s', ev)) : KInv cfg s' := by
  have hT := hpc ▸ h.thread t
  simp only [step, hpc, Option.some.injEq, Prod.mk.injEq] at hs
  obtain ⟨rfl, -⟩ := hs
  cases hl : s.lock
  · exact h.acquire hpc hl rfl { hT with lockFree := nofun, hold := fun _ => rfl }
  · exact h.quiet hpc (by simp only [St.mem, hl]; rfl) rfl rfl { hT with }

theorem step_wtReq2 (h : KInv cfg s) (hpc : s.pc t = .wtReq2)
    (hs : step cfg s t = some (s', ev)) : KInv cfg s' := by
  have hT := hpc ▸ h.thread t
  simp only [step, hpc, Option.some.injEq, Prod.mk.injEq] at hs
  obtain ⟨rfl, -⟩ := hs
  split
  next hr => exact h.quiet hpc rfl rfl rfl { hT with wtUnl := fun _ => hr }
  next => exact h.quiet hpc rfl rfl rfl { hT with }

theorem step_wtUnlock (h : KInv cfg s) (hpc : s.pc t = .wtUnlock)
    (hs : step cfg s t = some (s', ev)) : KInv cfg s' := by
  have hT := hpc ▸ h.thread t
  simp only [step, hpc, Option.some.injEq, Prod.mk.injEq] at hs
  obtain ⟨rfl, -⟩ := hs
  exact h.release hpc rfl rfl
    { hT with lockFree := fun _ => rfl, hold := nofun, rel := fun _ => hT.wtUnl rfl, wtUnl := nofun }
/-- `release_record` clears the request, which has been answered, hence executed once. -/
theorem step_relSt (h : KInv cfg s) (hpc : s.pc t = .relSt)
    (hs : step cfg s t = some (s', ev)) : KInv cfg s' := by
  have hT := hpc ▸ h.thread t
  simp only [step, hpc, Option.some.injEq, Prod.mk.injEq] at hs
  obtain ⟨rfl, -⟩ := hs
  have hresp : s.req t = .resp := hT.rel rfl
  have hne : ∀ k, s.req k = .op → k ≠ t := fun k hk e => by
    rw [e, hresp] at hk
    cases hk
  refine KInv.of_step (q := .done) rfl ?_ ?_ (fun u hu => ?_) ?_ <;> dsimp only [St.MInv, St.TInv, St.XInv]
  · refine { h.mem with respExec := fun k hk => ?_ }
    by_cases e : k = t
    · rw [e, upd_same] at hk; cases hk
    · rw [upd_other _ _ _ _ e] at hk; exact h.respExec k hk
  · exact ⟨{ hT.toOInv with
      noReq := fun _ => upd_same _ _ _
      someReq := nofun
      rel := nofun
      fin := fun _ => h.respExec t hresp }, CInv.vacuous rfl⟩
  · exact (h.thread u).with_req (upd_other _ _ _ _ hu) rfl fun k hk => ⟨(upd_other _ _ _ _ (hne k hk)).trans hk, rfl⟩
  · have hX := h.cross.quiet (q := .done) hpc rfl
    refine { hX with opExec := fun k hk => hX.opExec k ?_ }
    by_cases e : k = t
    · rw [e, upd_same] at hk; cases hk
    · rw [upd_other _ _ _ _ e] at hk; exact hk
/-! ### Preservation by every action -/

theorem kinv_invoke {cfg : Cfg} {s s' : St} {t : Tid} {op : GOp}
    (h : KInv cfg s) (hs : invoke cfg s t op = some s') : KInv cfg s' := by
  have hT := h.thread t
  unfold invoke at hs
  split at hs
  next hpc =>
    rw [hpc] at hT
    split at hs
    next hlt =>
      simp only [Option.some.injEq] at hs
      subst hs
      exact h.quiet hpc rfl rfl rfl { hT with bound := fun _ => hlt }
    next => simp at hs
  next => simp at hs

theorem kinv_result {s s' : St} {cfg : Cfg} {t : Tid} {r : GRet}
    (h : KInv cfg s) (hs : result s t = some (s', r)) : KInv cfg s' := by
  have hT := h.thread t
  unfold result at hs
  split at hs
  next hpc =>
    rw [hpc] at hT
    simp only [Option.some.injEq, Prod.mk.injEq] at hs
    obtain ⟨rfl, -⟩ := hs
    exact h.quiet hpc rfl rfl rfl { hT with bound := nofun, fin := nofun }
  next => simp at hs

theorem kinv_atomic {cfg : Cfg} {s s' : St} {t : Tid} {ev : Ev}
    (h : KInv cfg s) (hs : step cfg s t = some (s', ev)) : KInv cfg s' := by
  cases hpc : s.pc t with
  | idle => simp [step, hpc] at hs
  | done => simp [step, hpc] at hs
  | acqLd  => exact step_acqLd h hpc hs
  | pubCnt c => exact step_pubCnt h hpc hs
  | pubAge c a => exact step_pubAge h hpc hs
  | pubAct c => exact step_pubAct h hpc hs
  | pubLink c => exact step_pubLink h hpc hs
  | reqSt  => exact step_reqSt h hpc hs
  | tryLock  => exact step_tryLock h hpc hs
  | lkRepub  => exact step_lkRepub h hpc hs
  | cmbCnt  => exact step_cmbCnt h hpc hs
  | cpState c k => exact step_cpState h hpc hs
  | cpReq c k => exact step_cpReq h hpc hs
  | cpAge c k => exact step_cpAge h hpc hs
  | cpDone c k => exact step_cpDone h hpc hs
  | ccState a k => exact step_ccState h hpc hs
  | ccAge a k => exact step_ccAge h hpc hs
  | ccUnlink a k => exact step_ccUnlink h hpc hs
  | ccInact a k => exact step_ccInact h hpc hs
  | unlock  => exact step_unlock h hpc hs
  | wtReq  => exact step_wtReq h hpc hs
  | wtState  => exact step_wtState h hpc hs
  | wtLock  => exact step_wtLock h hpc hs
  | wtReq2  => exact step_wtReq2 h hpc hs
  | wtUnlock  => exact step_wtUnlock h hpc hs
  | relSt  => exact step_relSt h hpc hs
  | cpWalk c k => exact step_cpWalk h hpc hs
  | ccWalk a k => exact step_ccWalk h hpc hs

theorem kinv_step (cfg : Cfg) (s : St) (t : Tid) (a : Act) (s' : St) (o : Obs)
    (h : KInv cfg s) (hap : (model cfg).apply s t a = some (s', o)) : KInv cfg s' := by
  rcases Model.apply_cases hap with ⟨op, -, hs, -⟩ | ⟨e, -, hs, -⟩ | ⟨r, -, hs, -⟩
  · exact kinv_invoke (op := op) h hs
  · exact kinv_atomic h hs
  · exact kinv_result h hs

/-- The invariant holds in every reachable state, for every configuration. -/
theorem kinv_reachable (cfg : Cfg) (s : St) (h : (model cfg).Reachable init s) : KInv cfg s :=
  (model cfg).inv_reachable (KInv cfg) init (kinv_init cfg) (kinv_step cfg) s h

end CdsVerif.Algo.FC.Kernel
