/-
  Thread-modular form of `KInvR`.

  A step of thread `t` rewrites `s.pc t` and a little memory.  `KInvR cfg s` is split accordingly into
    * `MInv`  : the clauses about the memory alone;
    * `TInv`  : what the invariant says about ONE thread at a program counter, as owner of its record (`OInv`) and as
                combiner (`CInv`, empty for a thread that is not inside `combining`);
    * `XInv`  : the three clauses that relate two program counters (the record's owner and the combiner).
  The program counter enters `TInv` through classifying functions and tests `pc == .relSt` only, so the clauses of two
  program counters with the same classification are the same propositions up to computation, and a structure update
  `{ hT with … }` names exactly the clauses a step changes.
-/
import CdsVerif.Algo.FC.KernelRInv
import CdsVerif.Algo.FC.Thread
namespace CdsVerif.Algo.FC.KernelR
open CdsVerif.Machine CdsVerif.Spec
open CdsVerif.Algo.FC.Kernel (Cfg RV RS Cont CS)

/-! ### The parts

  They are predicates of the memory words they read, so that after a step the clauses speak of `upd s.state t v r`
  and not of a projection of the new state. -/

structure MInv (req : Nat → RV) (state : Nat → RS) (list : List Nat) (execs : Nat → Nat) : Prop where
  respExec : ∀ k, req k = .resp → execs k = 1
  le1 : ∀ k, execs k ≤ 1
  nodup : list.Nodup
  inact : ∀ r, state r ≠ .active → r ∉ list

/-- Thread `t` at `pc` as owner of record `t`. -/
structure OInv (cfg : Cfg) (lock : Bool) (holder : Tid) (req : Nat → RV) (state : Nat → RS) (list : List Nat)
    (execs : Nat → Nat) (t : Tid) (pc : PC) : Prop where
  bound : (pc == .idle) = false → t < cfg.N
  lockFree : lock = false → holds pc = false
  hold : holds pc = true → t = holder
  noReq : hasReq pc = false → req t = .empty
  someReq : hasReq pc = true → req t = .op ∨ req t = .resp
  rel : (pc == .relSt) = true → req t = .resp
  fin : (pc == .done) = true → execs t = 1
  notIn : inPub pc = true → t ∉ list
  preInact : prePub pc = true → state t ≠ .active
  linkAct : isLink pc = true → state t = .active

/-- Thread `t` at `pc` as combiner. -/
structure CInv (req : Nat → RV) (state : Nat → RS) (list : List Nat) (execs : Nat → Nat) (t : Tid) (pc : PC) :
    Prop where
  atDone : ∀ k, doneIdx pc = some k → req k = .op ∧ execs k = 1
  atApply : ∀ k, applyIdx pc = some k → req k = .op
  wtUnl : (pc == .wtUnlock) = true → req t = .resp
  inactOut : ∀ k, inactIdx pc = some k → k ∉ list ∧ state k = .active
  ccAct : ∀ k, ccIdx pc = some k → state k = .active
  cmb : (pc == .cmbCnt) = true → req t = .resp ∨ (t ∈ list ∧ state t = .active)
  curIn : ∀ c p, cpIdx pc = some (c, p) → ∀ k, p = some k → k ∈ list
  curInN : ∀ c p, cpNextIdx pc = some (c, p) → ∀ k, p = some k → k ∈ list
  pass : ∀ c p, cpIdx pc = some (c, p) →
    req t = .resp ∨ (c.pass = 0 ∧ aheadIncl list p t ∧ state t = .active)
  passN : ∀ c p, cpNextIdx pc = some (c, p) →
    req t = .resp ∨ (c.pass = 0 ∧ aheadStrict list p t ∧ state t = .active)
  post : postPass pc = true → req t = .resp

structure TInv (cfg : Cfg) (lock : Bool) (holder : Tid) (req : Nat → RV) (state : Nat → RS) (list : List Nat)
    (execs : Nat → Nat) (t : Tid) (pc : PC) : Prop
  extends OInv cfg lock holder req state list execs t pc, CInv req state list execs t pc

/-- The clauses that mention the program counters of two threads. -/
structure XInv (holder : Tid) (req : Nat → RV) (state : Nat → RS) (list : List Nat) (execs : Nat → Nat)
    (pc : Tid → PC) : Prop where
  opExec : ∀ k, req k = .op → doneIdx (pc holder) ≠ some k → execs k = 0
  unlinked : ∀ r, state r = .active → r ∉ list → isLink (pc r) = true ∨ inactIdx (pc holder) = some r
  inactPub : ∀ t k, inactIdx (pc t) = some k → inPub (pc k) = false

abbrev St.MInv (s : St) : Prop := KernelR.MInv s.req s.state s.list s.execs
abbrev St.TInv (cfg : Cfg) (s : St) (t : Tid) (pc : PC) : Prop :=
  KernelR.TInv cfg s.lock s.holder s.req s.state s.list s.execs t pc
abbrev St.XInv (s : St) : Prop := KernelR.XInv s.holder s.req s.state s.list s.execs s.pc

/-- The memory the invariant reads. -/
def St.mem (s : St) := (s.lock, s.holder, s.req, s.state, s.list, s.execs)

variable {cfg : Cfg} {lock : Bool} {holder : Tid} {req req' : Nat → RV} {state : Nat → RS} {list : List Nat}
  {execs execs' : Nat → Nat}

/-- What the combiner clauses see of a program counter. -/
def cview (p : PC) :=
  (doneIdx p, applyIdx p, p == .wtUnlock, inactIdx p, ccIdx p, p == .cmbCnt, cpIdx p, cpNextIdx p, postPass p)

/-- The combiner clauses say nothing at a program counter outside `combining`. -/
theorem CInv.vacuous {t : Tid} {p : PC} (h : cview p = cview .idle) : CInv req state list execs t p := by
  simp only [cview, Prod.mk.injEq] at h
  obtain ⟨h1, h2, h3, h4, h5, h6, h7, h8, h9⟩ := h
  constructor <;> intros <;> simp_all [doneIdx, applyIdx, inactIdx, ccIdx, cpIdx, cpNextIdx, postPass]

theorem cview_of_not_holds {p : PC} (h : holds p = false) : cview p = cview .idle := by
  cases p <;> first | rfl | cases h

theorem CInv.of_not_holds {t : Tid} {p : PC} (h : holds p = false) : CInv req state list execs t p :=
  CInv.vacuous (cview_of_not_holds h)

/-! ### `KInvR` and its parts -/

theorem KInvR.mem {s : St} (h : KInvR cfg s) : s.MInv := ⟨h.respExec, h.le1, h.nodup, h.inact⟩

theorem KInvR.thread {s : St} (h : KInvR cfg s) (t : Tid) : s.TInv cfg t (s.pc t) where
  bound := fun e => h.bound t (beq_eq_false_iff_ne.mp e)
  lockFree := fun e => h.lockFree e t
  hold := h.hold t
  noReq := h.noReq t
  someReq := h.someReq t
  rel := fun e => h.rel t (beq_iff_eq.mp e)
  fin := fun e => h.fin t (beq_iff_eq.mp e)
  notIn := h.notIn t
  preInact := h.preInact t
  linkAct := h.linkAct t
  atDone := h.atDone t
  atApply := h.atApply t
  wtUnl := fun e => h.wtUnl t (beq_iff_eq.mp e)
  inactOut := fun k e => ⟨(h.inactOut t k e).1, (h.inactOut t k e).2.1⟩
  ccAct := h.ccAct t
  cmb := fun e => h.cmb t (beq_iff_eq.mp e)
  curIn := fun c _ e k ek => h.curIn t c k (ek ▸ e)
  curInN := fun c _ e k ek => h.curInN t c k (ek ▸ e)
  pass := h.pass t
  passN := h.passN t
  post := h.post t

theorem KInvR.cross {s : St} (h : KInvR cfg s) : s.XInv :=
  ⟨h.opExec, h.unlinked, fun t k e => (h.inactOut t k e).2.2⟩

theorem KInvR.of_parts {s : St} (hM : s.MInv) (hT : ∀ t, s.TInv cfg t (s.pc t)) (hX : s.XInv) :
    KInvR cfg s where
  bound := fun t e => (hT t).bound (beq_eq_false_iff_ne.mpr e)
  lockFree := fun e t => (hT t).lockFree e
  hold := fun t => (hT t).hold
  noReq := fun t => (hT t).noReq
  someReq := fun t => (hT t).someReq
  respExec := hM.respExec
  opExec := hX.opExec
  atDone := fun t => (hT t).atDone
  atApply := fun t => (hT t).atApply
  rel := fun t e => (hT t).rel (beq_iff_eq.mpr e)
  wtUnl := fun t e => (hT t).wtUnl (beq_iff_eq.mpr e)
  fin := fun t e => (hT t).fin (beq_iff_eq.mpr e)
  le1 := hM.le1
  nodup := hM.nodup
  notIn := fun t => (hT t).notIn
  inact := hM.inact
  preInact := fun t => (hT t).preInact
  linkAct := fun t => (hT t).linkAct
  unlinked := hX.unlinked
  inactOut := fun t k e => ⟨((hT t).inactOut k e).1, ((hT t).inactOut k e).2, hX.inactPub t k e⟩
  ccAct := fun t => (hT t).ccAct
  cmb := fun t e => (hT t).cmb (beq_iff_eq.mpr e)
  curIn := fun t c k e => (hT t).curIn c (some k) e k rfl
  curInN := fun t c k e => (hT t).curInN c (some k) e k rfl
  pass := fun t => (hT t).pass
  passN := fun t => (hT t).passN
  post := fun t => (hT t).post

/-- The rule for one step of thread `t`, from program counter `s.pc t` to `q`. -/
theorem KInvR.of_step {s s' : St} {t : Tid} {q : PC} (hp : s'.pc = upd s.pc t q) (hM : s'.MInv)
    (hT : s'.TInv cfg t q) (hO : ∀ u, u ≠ t → s'.TInv cfg u (s.pc u)) (hX : s'.XInv) :
    KInvR cfg s' :=
  KInvR.of_parts hM (hp ▸ forall_upd hT hO) hX

/-! ### Moving one program counter -/

theorem inPub_of_inactIdx {p : PC} {k : Nat} (h : inactIdx p = some k) : inPub p = false := by
  cases p <;> first | rfl | cases h

/-- Thread `t` moves from `p` to `q`.  It stops linking only with its record in the list; it leaves the window between
    `fc_apply` and the store of the response only with the response stored, and the window between the unlink and the
    store of `inactive` only with `inactive` stored; it enters the latter window only for a record whose owner is outside
    `publish()`, and it enters `publish()` only if no one is about to store `inactive` into its record. -/
theorem XInv.move {pc : Tid → PC} {t : Tid} {p q : PC} (h : XInv holder req state list execs pc) (hpc : pc t = p)
    (hl : isLink p = true → isLink q = true ∨ (state t = .active → t ∈ list))
    (hd : ∀ k, doneIdx p = some k → doneIdx q = some k ∨ req k ≠ .op)
    (hi : ∀ r, inactIdx p = some r → inactIdx q = some r ∨ (state r = .active → r ∈ list))
    (hi' : ∀ k, inactIdx q = some k → inactIdx p = some k ∨ inPub (pc k) = false)
    (hp : inPub q = true → inPub p = true ∨ ∀ u, inactIdx (pc u) ≠ some t) :
    XInv holder req state list execs (upd pc t q) where
  opExec := fun k hk hne => h.opExec k hk fun e => by
    by_cases hh : holder = t
    · rw [hh, hpc] at e
      rw [hh, upd_same] at hne
      exact (hd k e).elim hne (fun e' => e' hk)
    · rw [upd_other _ _ _ _ hh] at hne
      exact hne e
  unlinked := fun r ha hn => by
    rcases h.unlinked r ha hn with e | e
    · by_cases hr : r = t
      · subst hr
        rw [hpc] at e
        exact (hl e).elim (fun e' => Or.inl (by rw [upd_same]; exact e')) (fun e' => absurd (e' ha) hn)
      · exact Or.inl (by rw [upd_other _ _ _ _ hr]; exact e)
    · by_cases hh : holder = t
      · rw [hh, hpc] at e
        exact (hi r e).elim (fun e' => Or.inr (by rw [hh, upd_same]; exact e')) (fun e' => absurd (e' ha) hn)
      · exact Or.inr (by rw [upd_other _ _ _ _ hh]; exact e)
  inactPub := fun u k e => by
    by_cases hk : k = t
    · rw [hk, upd_same]
      by_cases hu : u = t
      · rw [hu, upd_same] at e
        exact inPub_of_inactIdx e
      · rw [upd_other _ _ _ _ hu, hk] at e
        cases hq : inPub q
        · rfl
        · rcases hp hq with hp | hp
          · rw [← hpc, h.inactPub u t e] at hp
            cases hp
          · exact absurd e (hp u)
    · rw [upd_other _ _ _ _ hk]
      by_cases hu : u = t
      · rw [hu, upd_same] at e
        exact (hi' k e).elim (fun e' => h.inactPub t k (by rw [hpc]; exact e')) id
      · rw [upd_other _ _ _ _ hu] at e
        exact h.inactPub u k e

/-- What the clauses relating two program counters see of a program counter. -/
def xview (p : PC) := (isLink p, inactIdx p, doneIdx p, inPub p)

/-- The common case: the new program counter looks to the other threads like the old one. -/
theorem XInv.quiet {pc : Tid → PC} {t : Tid} {p q : PC} (h : XInv holder req state list execs pc) (hpc : pc t = p)
    (hx : xview q = xview p) : XInv holder req state list execs (upd pc t q) := by
  simp only [xview, Prod.mk.injEq] at hx
  obtain ⟨e1, e2, e3, e4⟩ := hx
  exact h.move hpc (fun e => Or.inl (e1 ▸ e)) (fun k e => Or.inl (e3 ▸ e)) (fun r e => Or.inl (e2 ▸ e))
    (fun k e => Or.inl (e2 ▸ e)) (fun e => Or.inl (e4 ▸ e))

/-- Thread `t` moves to `q`; the memory the invariant reads stays as it is. -/
theorem KInvR.move {s s' : St} {t : Tid} {q : PC} (h : KInvR cfg s) (hm : s'.mem = s.mem)
    (hp : s'.pc = upd s.pc t q) (hT : s.TInv cfg t q)
    (hX : XInv s.holder s.req s.state s.list s.execs (upd s.pc t q)) : KInvR cfg s' := by
  simp only [St.mem, Prod.mk.injEq] at hm
  obtain ⟨e1, e2, e3, e4, e5, e6⟩ := hm
  refine KInvR.of_step hp ?_ ?_ (fun u _ => ?_) ?_
  · rw [St.MInv, e3, e4, e5, e6]; exact h.mem
  · rw [St.TInv, e1, e2, e3, e4, e5, e6]; exact hT
  · rw [St.TInv, e1, e2, e3, e4, e5, e6]; exact h.thread u
  · rw [St.XInv, e2, e3, e4, e5, e6, hp]; exact hX

theorem KInvR.quiet {s s' : St} {t : Tid} {p q : PC} (h : KInvR cfg s) (hpc : s.pc t = p) (hm : s'.mem = s.mem)
    (hp : s'.pc = upd s.pc t q) (hx : xview q = xview p) (hT : s.TInv cfg t q) : KInvR cfg s' :=
  h.move hm hp hT (h.cross.quiet hpc hx)

/-- Thread `t` finds its record inactive and enters `publish()`. -/
theorem KInvR.publish {s s' : St} {t : Tid} {p : PC} {c : Cont} (h : KInvR cfg s) (hpc : s.pc t = p)
    (hm : s'.mem = s.mem) (hp : s'.pc = upd s.pc t (.pubCnt c)) (hx : xview p = xview .idle)
    (ha : s.state t ≠ .active) (hT : s.TInv cfg t (.pubCnt c)) : KInvR cfg s' := by
  simp only [xview, Prod.mk.injEq] at hx
  obtain ⟨e1, e2, e3, -⟩ := hx
  refine h.move hm hp hT (h.cross.move hpc ?_ ?_ ?_ nofun ?_)
  · rw [e1]; exact nofun
  · rw [e3]; exact nofun
  · rw [e2]; exact nofun
  · exact fun _ => Or.inr fun u e => ha ((h.thread u).inactOut t e).2

/-- While `t` holds the lock no other thread does. -/
theorem KInvR.others_idle {s : St} {t u : Tid} (h : KInvR cfg s) (ht : holds (s.pc t) = true) (hu : u ≠ t) :
    holds (s.pc u) = false := by
  cases e : holds (s.pc u)
  · rfl
  · exact absurd ((h.hold u e).trans (h.hold t ht).symm) hu

/-! ### The lock -/

/-- Thread `t` takes the free lock. -/
theorem KInvR.acquire {s : St} {t : Tid} {p q : PC} (h : KInvR cfg s) (hpc : s.pc t = p) (hfree : s.lock = false)
    (hx : xview q = xview p) (hT : TInv cfg true t s.req s.state s.list s.execs t q) :
    KInvR cfg { s with lock := true, holder := t, pc := upd s.pc t q } := by
  have hidle : ∀ u, holds (s.pc u) = false := h.lockFree hfree
  refine KInvR.of_step (q := q) rfl h.mem hT (fun u _ => ?_) ?_ <;> dsimp only [St.TInv, St.XInv]
  · exact { h.thread u with lockFree := nofun, hold := fun e => nomatch (hidle u).symm.trans e }
  · have hX := h.cross.quiet hpc hx
    have hold : ∀ {α : Type} (f : PC → α), f q = f p → f (upd s.pc t q s.holder) = f (s.pc s.holder) := fun f e =>
      upd_view (hpc ▸ e) s.holder
    simp only [xview, Prod.mk.injEq] at hx
    refine { hX with opExec := fun k hk _ => hX.opExec k hk ?_, unlinked := fun r ha hn => ?_ }
    · rw [hold doneIdx hx.2.2.1, doneIdx_of_not_holds _ (hidle _)]; exact nofun
    · refine (hX.unlinked r ha hn).imp_right fun e => ?_
      rw [hold inactIdx hx.2.1, inactIdx_of_not_holds _ (hidle _)] at e
      cases e

/-- Thread `t`, which holds the lock, gives it back. -/
theorem KInvR.release {s : St} {t : Tid} {p q : PC} (h : KInvR cfg s) (hpc : s.pc t = p) (hh : holds p = true)
    (hx : xview q = xview p) (hT : TInv cfg false s.holder s.req s.state s.list s.execs t q) :
    KInvR cfg { s with lock := false, pc := upd s.pc t q } := by
  refine KInvR.of_step (q := q) rfl h.mem hT (fun u hu => ?_) (h.cross.quiet hpc hx)
  exact { h.thread u with lockFree := fun _ => h.others_idle (hpc ▸ hh) hu }

/-! ### Requests -/

/-- `TInv` of `u` looks at the request and the ghost counter of `u` and of records with a pending request only. -/
theorem TInv.with_req {u : Tid} {p : PC} (h : TInv cfg lock holder req state list execs u p)
    (hr : req' u = req u) (he : execs' u = execs u) (hk : ∀ k, req k = .op → req' k = .op ∧ execs' k = execs k) :
    TInv cfg lock holder req' state list execs' u p :=
  { h with
    noReq := hr ▸ h.noReq
    someReq := hr ▸ h.someReq
    rel := hr ▸ h.rel
    fin := he ▸ h.fin
    atDone := fun k e => ⟨(hk k (h.atDone k e).1).1, (hk k (h.atDone k e).1).2 ▸ (h.atDone k e).2⟩
    atApply := fun k e => (hk k (h.atApply k e)).1
    wtUnl := hr ▸ h.wtUnl
    cmb := hr ▸ h.cmb
    pass := hr ▸ h.pass
    passN := hr ▸ h.passN
    post := hr ▸ h.post }

end CdsVerif.Algo.FC.KernelR
