/-
  Pure models of the batch functions of the flat-combining containers
      cds/container/fcdeque.h, fcqueue.h, fcstack.h, fcpriority_queue.h
  i.e. of the pair  `fc_apply( fc_record* )`  /  `fc_process( itBegin, itEnd )`  that the flat-combining kernel
  (cds/algo/flat_combining/kernel.h) calls while it holds the global lock.

  What the kernel does with them (kernel.h):
    combining( owner )        : up to `nCombinePassCount` times `combining_pass`
    batch_combining( owner )  : `nCombinePassCount` times  owner.fc_process( begin(), end() );  then one `combining_pass`
    combining_pass( owner )   : walk the publication list from `m_pHead`; for every record with
                                nRequest >= req_Operation:  owner.fc_apply( p ); operation_done( *p )
    iterator (begin / ++)     : walks the same list in the same order and skips every record whose
                                nRequest < req_Operation (empty records and records already marked done)
    operation_done( rec )     : rec.nRequest := req_Response   (the record is "marked done")
  `batch_combining` is used only when `traits::enable_elimination` is true (default: false); FCPriorityQueue
  always uses `combine` and has no `fc_process` (it inherits the asserting stub of `flat_combining::container`).

  THE MODEL.  A batch is the list of pending requests in publication-list order.  A request is
  (kind, value pushed); its result slot (`bEmpty`, `*pValPop`) is rendered as the value the public member
  function returns to the caller, in the wire format of `Spec` (`Resp = GRet`):
      push / enqueue : [1]        pop / dequeue : [0] (bEmpty) or [1, v]        clear : []      empty() : [0] / [1]
  A slot is a request together with `none` (still pending) or `some resp` (marked done: `operation_done` was called).

  The loop skeleton of the three `fc_process` functions is the same and is transcribed once (`elimGo`):
      for ( it = itBegin, itPrev = itEnd; it != itEnd; ++it )
          switch ( it->op() ) {
            case <participating kinds>:
                if ( itPrev != itEnd && <collision test for (itPrev, it)> ) { collide(..); itPrev = itEnd; }
                else itPrev = it;
            /* every other kind (op_clear, FCStack's op_empty): no case label, nothing happens, itPrev is KEPT */
          }
  The container-specific parts are `part` (which kinds have a case label / reach the body) and `coll`
  (the collision test and the responses written by `collide` / `collide_move`).
  `fc_process` never touches the underlying container, so the emptiness test `m_Deque.empty()` has the same
  value during all `fc_process` passes of one combiner session: the emptiness of the container when the
  combiner starts.

  Not modelled: requests published by other threads WHILE the combiner walks the list (the batch is fixed),
  statistics, the difference between copy and move of the pushed value (the `_move` kinds are kept as separate kinds
  and proved to behave identically).
-/
import CdsVerif.Base.Spec
namespace CdsVerif.Algo.FC
open CdsVerif.Spec

/-- The response a requester observes (wire format of the history specifications). -/
abbrev Resp := GRet

/-! ### Sequential runs of a specification over a list of (operation, response) pairs -/

/-- Execute the pairs in order; `some s'` iff every response is the one the specification gives. -/
def seqRun {σ Op : Type} (step : σ → Op → Option (σ × Resp)) : σ → List (Op × Resp) → Option σ
  | s, [] => some s
  | s, (op, r) :: l =>
    match step s op with
    | some (s', r') => if r' = r then seqRun step s' l else none
    | none => none

theorem seqRun_append {σ Op : Type} (step : σ → Op → Option (σ × Resp)) :
    ∀ (l1 l2 : List (Op × Resp)) (s : σ),
      seqRun step s (l1 ++ l2) = (seqRun step s l1).bind (fun s' => seqRun step s' l2)
  | [], _, _ => by simp [seqRun]
  | (op, r) :: l1, l2, s => by
    simp only [List.cons_append, seqRun]
    cases h : step s op with
    | none => simp
    | some p =>
      obtain ⟨s', r'⟩ := p
      by_cases hr : r' = r
      · simp [hr, seqRun_append step l1 l2 s']
      · simp [hr]

/-- Two specifications that agree on the operations of a run agree on the run. -/
theorem seqRun_congr {σ Op : Type} (step1 step2 : σ → Op → Option (σ × Resp)) :
    ∀ (l : List (Op × Resp)) (s : σ), (∀ x ∈ l, ∀ s, step1 s x.1 = step2 s x.1) →
      seqRun step1 s l = seqRun step2 s l
  | [], _, _ => rfl
  | (op, r) :: l, s, h => by
    have h1 : step1 s op = step2 s op := h (op, r) (by simp) s
    simp only [seqRun, h1]
    cases step2 s op with
    | none => rfl
    | some p =>
      obtain ⟨s', r'⟩ := p
      by_cases hr : r' = r
      · simp only [hr, if_true]
        exact seqRun_congr step1 step2 l s' (fun x hx => h x (by simp [hx]))
      · simp [hr]

/-- The pairs are a legal sequential run that leaves the state as it was. -/
def Noop {σ Op : Type} (step : σ → Op → Option (σ × Resp)) (d : σ) (l : List (Op × Resp)) : Prop :=
  seqRun step d l = some d

theorem Noop.nil {σ Op : Type} (step : σ → Op → Option (σ × Resp)) (d : σ) : Noop step d [] := rfl

theorem Noop.append {σ Op : Type} {step : σ → Op → Option (σ × Resp)} {d : σ} {l1 l2 : List (Op × Resp)}
    (h1 : Noop step d l1) (h2 : Noop step d l2) : Noop step d (l1 ++ l2) := by
  simp only [Noop] at *
  rw [seqRun_append, h1]; simpa using h2

/-! ### The common loop of `fc_process` -/

theorem zip_fst_snd {α β : Type} : ∀ (l : List (α × β)), (l.map Prod.fst).zip (l.map Prod.snd) = l
  | [] => rfl
  | x :: l => by simp [zip_fst_snd l]

section Generic
variable {σ Req : Type}

/-- A request with its result slot: `none` = pending, `some r` = marked done with response `r`. -/
abbrev Slot (Req : Type) := Req × Option Resp

/-- One walk of `fc_process` over the batch.
    `elimGo prev l` processes `l` with `itPrev = prev` and returns
      * the fate of `prev` (`some r` iff a later request collided with it; `r` = the response written into it),
      * the batch with the new marks,
      * the collided pairs `(itPrev, it)` in the order in which they were collided.
    Slots already marked done are skipped by the kernel iterator (nRequest < req_Operation). -/
def elimGo (part : Req → Bool) (coll : Req → Req → Option (Resp × Resp)) :
    Option Req → List (Slot Req) → Option Resp × List (Slot Req) × List (Req × Req)
  | _, [] => (none, [], [])
  | prev, (r, some a) :: rest =>
    let (f, out, ps) := elimGo part coll prev rest
    (f, (r, some a) :: out, ps)
  | prev, (r, none) :: rest =>
    if part r then
      match prev with
      | none =>
        let (f, out, ps) := elimGo part coll (some r) rest            -- itPrev = it
        (none, (r, f) :: out, ps)
      | some p =>
        match coll p r with
        | some (a, b) =>
          let (_, out, ps) := elimGo part coll none rest              -- collide; itPrev = itEnd
          (some a, (r, some b) :: out, (p, r) :: ps)
        | none =>
          let (f, out, ps) := elimGo part coll (some r) rest          -- itPrev = it
          (none, (r, f) :: out, ps)
    else
      let (f, out, ps) := elimGo part coll prev rest                  -- no case label: itPrev is kept
      (f, (r, none) :: out, ps)

/-- `fc_process( begin(), end() )`. -/
def elimPass (part : Req → Bool) (coll : Req → Req → Option (Resp × Resp)) (sl : List (Slot Req)) : List (Slot Req) :=
  (elimGo part coll none sl).2.1

/-- The pairs `(itPrev, it)` collided by one `fc_process`. -/
def elimPairs (part : Req → Bool) (coll : Req → Req → Option (Resp × Resp)) (sl : List (Slot Req)) : List (Req × Req) :=
  (elimGo part coll none sl).2.2

/-- `for ( nPass = 0; nPass < n; ++nPass ) owner.fc_process( begin(), end() );` -/
def elimPasses (part : Req → Bool) (coll : Req → Req → Option (Resp × Resp)) : Nat → List (Slot Req) → List (Slot Req)
  | 0, sl => sl
  | n + 1, sl => elimPasses part coll n (elimPass part coll sl)

/-- `combining_pass`: `fc_apply` + `operation_done` for every record that is still pending, in list order.
    Returns the final container and the responses of ALL requests of the batch (aligned with the batch). -/
def applyAll (app : σ → Req → σ × Resp) : σ → List (Slot Req) → σ × List Resp
  | s, [] => (s, [])
  | s, (_, some a) :: rest =>
    let (s', out) := applyAll app s rest
    (s', a :: out)
  | s, (r, none) :: rest =>
    let (s1, a) := app s r
    let (s', out) := applyAll app s1 rest
    (s', a :: out)

/-- The requests already marked done, with their responses. -/
def donePairs : List (Slot Req) → List (Req × Resp)
  | [] => []
  | (r, some a) :: l => (r, a) :: donePairs l
  | (_, none) :: l => donePairs l

def fate (prev : Option Req) (f : Option Resp) : List (Req × Resp) :=
  match prev, f with
  | some p, some a => [(p, a)]
  | _, _ => []

theorem donePairs_fresh (rs : List Req) : donePairs (rs.map (fun r => (r, (none : Option Resp)))) = [] := by
  induction rs with
  | nil => rfl
  | cons r rs ih => simpa [donePairs] using ih

private theorem perm_aux {α : Type} {X Y L P P' : List α} (h : X.Perm (Y ++ L)) (hp : P'.Perm P) :
    (P' ++ X).Perm (Y ++ (P ++ L)) :=
  (List.Perm.append hp h).trans (List.perm_append_comm_assoc P Y L)

variable (part : Req → Bool) (coll : Req → Req → Option (Resp × Resp))
variable (step : σ → Req → Option (σ × Resp)) (d0 : σ)

/-- A walk keeps the requests. -/
theorem elimGo_fst : ∀ (l : List (Slot Req)) (prev : Option Req),
    (elimGo part coll prev l).2.1.map Prod.fst = l.map Prod.fst := by
  intro l
  induction l with
  | nil => intro _; rfl
  | cons x rest ih =>
    intro prev
    obtain ⟨r, m⟩ := x
    cases m with
    | some a => simp [elimGo, ih]
    | none =>
      by_cases hpart : part r = true
      · cases prev with
        | none => simp [elimGo, hpart, ih]
        | some p =>
          cases hc : coll p r with
          | some ab => simp [elimGo, hpart, hc, ih]
          | none => simp [elimGo, hpart, hc, ih]
      · simp [elimGo, hpart, ih]

/-- What one walk does: the marks it adds are (a permutation of) a sequence of collided pairs, each of which is a
    legal run from `d0` back to `d0`. -/
theorem elimGo_spec
    (hcoll : ∀ p r a b, part p = true → part r = true → coll p r = some (a, b) →
      Noop step d0 [(p, a), (r, b)] ∨ Noop step d0 [(r, b), (p, a)]) :
    ∀ (l : List (Slot Req)) (prev : Option Req), (∀ p, prev = some p → part p = true) →
      ∃ L, Noop step d0 L ∧
        (fate prev (elimGo part coll prev l).1 ++ donePairs (elimGo part coll prev l).2.1).Perm (donePairs l ++ L) := by
  intro l
  induction l with
  | nil =>
    intro prev _
    refine ⟨[], Noop.nil _ _, ?_⟩
    cases prev <;> simp [elimGo, fate, donePairs]
  | cons x rest ih =>
    intro prev hprev
    obtain ⟨r, m⟩ := x
    -- the branches with `itPrev = it`: the fate of `r` is its own mark, `prev` stays pending
    have advance : part r = true →
        ∃ L, Noop step d0 L ∧
          (donePairs ((r, (elimGo part coll (some r) rest).1) :: (elimGo part coll (some r) rest).2.1)).Perm
            (donePairs rest ++ L) := by
      intro hpart
      obtain ⟨L, hL, hp⟩ := ih (some r) (by intro p hp; cases hp; exact hpart)
      refine ⟨L, hL, ?_⟩
      cases hf : (elimGo part coll (some r) rest).1 with
      | none => simpa [fate, hf, donePairs] using hp
      | some a => simpa [fate, hf, donePairs] using hp
    cases m with
    | some a =>
      obtain ⟨L, hL, hp⟩ := ih prev hprev
      refine ⟨L, hL, ?_⟩
      simp only [elimGo, donePairs]
      exact List.perm_middle.trans (List.Perm.cons _ hp)
    | none =>
      by_cases hpart : part r = true
      · cases prev with
        | none =>
          obtain ⟨L, hL, hp⟩ := advance hpart
          exact ⟨L, hL, by simpa only [elimGo, hpart, if_true, donePairs, fate, List.nil_append] using hp⟩
        | some p =>
          cases hc : coll p r with
          | some ab =>
            obtain ⟨a, b⟩ := ab
            obtain ⟨L, hL, hp⟩ := ih none (by intro p hp; cases hp)
            have hpp := hprev p rfl
            simp only [fate, List.nil_append] at hp
            rcases hcoll p r a b hpp hpart hc with hn | hn
            · refine ⟨[(p, a), (r, b)] ++ L, Noop.append hn hL, ?_⟩
              simp only [elimGo, hpart, if_true, hc, donePairs, fate]
              exact perm_aux (P' := [(p, a), (r, b)]) hp (List.Perm.refl _)
            · refine ⟨[(r, b), (p, a)] ++ L, Noop.append hn hL, ?_⟩
              simp only [elimGo, hpart, if_true, hc, donePairs, fate]
              exact perm_aux (P' := [(p, a), (r, b)]) hp (List.Perm.swap _ _ _)
          | none =>
            obtain ⟨L, hL, hp⟩ := advance hpart
            exact ⟨L, hL, by simpa only [elimGo, hpart, if_true, hc, donePairs, fate, List.nil_append] using hp⟩
      · obtain ⟨L, hL, hp⟩ := ih prev hprev
        refine ⟨L, hL, ?_⟩
        simpa [elimGo, hpart, donePairs] using hp

/-- Every pair recorded by a walk passed the collision test, and both requests have a `case` label. -/
theorem elimGo_pairs :
    ∀ (l : List (Slot Req)) (prev : Option Req), (∀ p, prev = some p → part p = true) →
      ∀ pr ∈ (elimGo part coll prev l).2.2,
        part pr.1 = true ∧ part pr.2 = true ∧ (coll pr.1 pr.2).isSome = true := by
  intro l
  induction l with
  | nil => intro prev _ pr h; simp [elimGo] at h
  | cons x rest ih =>
    intro prev hprev pr h
    obtain ⟨r, m⟩ := x
    cases m with
    | some a => exact ih prev hprev pr (by simpa [elimGo] using h)
    | none =>
      by_cases hpart : part r = true
      · cases prev with
        | none =>
          exact ih (some r) (by intro p hp; cases hp; exact hpart) pr (by simpa [elimGo, hpart] using h)
        | some p =>
          cases hc : coll p r with
          | some ab =>
            obtain ⟨a, b⟩ := ab
            simp only [elimGo, hpart, if_true, hc, List.mem_cons] at h
            rcases h with rfl | h
            · exact ⟨hprev p rfl, hpart, by simp [hc]⟩
            · exact ih none (by intro p hp; cases hp) pr h
          | none =>
            exact ih (some r) (by intro p hp; cases hp; exact hpart) pr (by simpa [elimGo, hpart, hc] using h)
      · exact ih prev hprev pr (by simpa [elimGo, hpart] using h)

/-- The invariant of a combiner session between walks: the marked requests are explained by a run that leaves
    the container as the combiner found it. -/
def DoneOk (sl : List (Slot Req)) : Prop := ∃ L, Noop step d0 L ∧ L.Perm (donePairs sl)

theorem elimPass_fst (sl : List (Slot Req)) : (elimPass part coll sl).map Prod.fst = sl.map Prod.fst :=
  elimGo_fst part coll sl none

theorem elimPasses_fst : ∀ (n : Nat) (sl : List (Slot Req)), (elimPasses part coll n sl).map Prod.fst = sl.map Prod.fst
  | 0, _ => rfl
  | n + 1, sl => (elimPasses_fst n _).trans (elimPass_fst part coll sl)

theorem map_fst_fresh (rs : List Req) : (rs.map (fun r => (r, (none : Option Resp)))).map Prod.fst = rs := by
  rw [List.map_map]
  exact List.map_id rs

theorem elimPass_spec
    (hcoll : ∀ p r a b, part p = true → part r = true → coll p r = some (a, b) →
      Noop step d0 [(p, a), (r, b)] ∨ Noop step d0 [(r, b), (p, a)])
    (sl : List (Slot Req)) (h : DoneOk step d0 sl) : DoneOk step d0 (elimPass part coll sl) := by
  obtain ⟨L, hL, hp⟩ := elimGo_spec part coll step d0 hcoll sl none (by intro p hp; cases hp)
  obtain ⟨L0, hL0, hp0⟩ := h
  refine ⟨L0 ++ L, Noop.append hL0 hL, ?_⟩
  simp only [fate, List.nil_append] at hp
  exact (List.Perm.append_right L hp0).trans hp.symm

theorem elimPasses_spec
    (hcoll : ∀ p r a b, part p = true → part r = true → coll p r = some (a, b) →
      Noop step d0 [(p, a), (r, b)] ∨ Noop step d0 [(r, b), (p, a)]) :
    ∀ (n : Nat) (sl : List (Slot Req)), DoneOk step d0 sl → DoneOk step d0 (elimPasses part coll n sl)
  | 0, _, h => h
  | n + 1, sl, h => elimPasses_spec hcoll n _ (elimPass_spec part coll step d0 hcoll sl h)

/-- `combining_pass` over a partly marked batch: the responses of the whole batch are the marks plus a
    sequential run, in list order, of the requests that were still pending. -/
theorem applyAll_spec (app : σ → Req → σ × Resp) (happ : ∀ s r, step s r = some (app s r)) :
    ∀ (sl : List (Slot Req)) (s : σ),
      (applyAll app s sl).2.length = sl.length ∧
      ∃ A, seqRun step s A = some (applyAll app s sl).1 ∧
        ((sl.map Prod.fst).zip (applyAll app s sl).2).Perm (donePairs sl ++ A)
  | [], s => ⟨rfl, [], rfl, by simp [applyAll, donePairs]⟩
  | (r, some a) :: rest, s => by
    obtain ⟨hl, A, hA, hp⟩ := applyAll_spec app happ rest s
    refine ⟨by simp [applyAll, hl], A, by simpa [applyAll] using hA, ?_⟩
    simpa [applyAll, donePairs] using hp
  | (r, none) :: rest, s => by
    obtain ⟨hl, A, hA, hp⟩ := applyAll_spec app happ rest (app s r).1
    refine ⟨by simp [applyAll, hl], (r, (app s r).2) :: A, ?_, ?_⟩
    · simp only [seqRun, happ, applyAll]
      simpa using hA
    · simp only [applyAll, donePairs, List.map_cons, List.zip_cons_cons]
      exact (List.Perm.cons _ hp).trans List.perm_middle.symm

/-- THE GENERIC BATCH THEOREM.  `n` walks of `fc_process` followed by `combining_pass`, started on container `d0`
    with the batch `rs` (nothing marked): every request gets a response, and the responses are those of running
    SOME permutation of the batch sequentially from `d0`; that run ends in the container the combiner leaves. -/
theorem batch_refines (app : σ → Req → σ × Resp) (happ : ∀ s r, step s r = some (app s r))
    (hcoll : ∀ p r a b, part p = true → part r = true → coll p r = some (a, b) →
      Noop step d0 [(p, a), (r, b)] ∨ Noop step d0 [(r, b), (p, a)])
    (n : Nat) (rs : List Req) :
    let fin := applyAll app d0 (elimPasses part coll n (rs.map (fun r => (r, none))))
    fin.2.length = rs.length ∧
    ∃ perm : List (Req × Resp), perm.Perm (rs.zip fin.2) ∧ seqRun step d0 perm = some fin.1 := by
  intro fin
  have h0 : DoneOk step d0 (rs.map (fun r => (r, (none : Option Resp)))) :=
    ⟨[], Noop.nil _ _, by simp [donePairs_fresh]⟩
  obtain ⟨L, hL, hLp⟩ := elimPasses_spec part coll step d0 hcoll n _ h0
  obtain ⟨hlen, A, hA, hAp⟩ := applyAll_spec step app happ (elimPasses part coll n (rs.map (fun r => (r, none)))) d0
  have hfst : (elimPasses part coll n (rs.map (fun r => (r, (none : Option Resp))))).map Prod.fst = rs :=
    (elimPasses_fst part coll n _).trans (map_fst_fresh rs)
  refine ⟨?_, L ++ A, ?_, ?_⟩
  · have := congrArg List.length hfst
    simp only [List.length_map] at this
    exact hlen.trans this
  · rw [hfst] at hAp
    exact (List.Perm.append_right A hLp).trans hAp.symm
  · rw [seqRun_append, hL]; simpa using hA

/-- `combining_pass` on the marks left by one `fc_process` walk is the session with one walk. -/
theorem applyAll_zip_elimPass (app : σ → Req → σ × Resp) (d : σ) (rs : List Req) :
    applyAll app d (rs.zip ((elimPass part coll (rs.map (fun r => (r, none)))).map Prod.snd)) =
      applyAll app d (elimPasses part coll 1 (rs.map (fun r => (r, none)))) := by
  have h : (elimPass part coll (rs.map (fun r => (r, none)))).map Prod.fst = rs :=
    (elimPass_fst part coll _).trans (map_fst_fresh rs)
  conv => lhs; arg 3; arg 1; rw [← h]
  rw [zip_fst_snd]
  rfl

end Generic

/-! ## FCDeque (cds/container/fcdeque.h) -/

inductive DKind
  | pushFront | pushFrontMove | pushBack | pushBackMove | popFront | popBack | clear
deriving DecidableEq, Repr

/-- `val` = `*pValPush` (meaningful for the push kinds only). -/
structure DReq where
  kind : DKind
  val : Int := 0
deriving DecidableEq, Repr

/-- `FCDeque::fc_apply`.  Front of the list = front of the deque.  The `_move` kinds differ from the copying
    kinds only by `std::move` of the argument. -/
def dequeApply (d : List Int) (r : DReq) : List Int × Resp :=
  match r.kind with
  | .pushFront => (r.val :: d, [1])                 -- m_Deque.push_front( *pValPush )
  | .pushFrontMove => (r.val :: d, [1])
  | .pushBack => (d ++ [r.val], [1])                -- m_Deque.push_back( *pValPush )
  | .pushBackMove => (d ++ [r.val], [1])
  | .popFront =>                                    -- bEmpty = m_Deque.empty(); if ( !bEmpty ) { *pValPop = front(); pop_front(); }
    match d with
    | [] => ([], [0])
    | x :: xs => (xs, [1, x])
  | .popBack =>
    match d.getLast? with
    | none => (d, [0])
    | some x => (d.dropLast, [1, x])
  | .clear => ([], [])                              -- while ( !empty() ) pop_front();

/-- The kinds that have a `case` label in `FCDeque::fc_process` (`op_clear` has none: `itPrev` is kept). -/
def dequePart (r : DReq) : Bool :=
  match r.kind with
  | .clear => false
  | _ => true

/-- The collision tests of `FCDeque::fc_process`, case by case as written, for `itPrev = prev` (≠ itEnd) and
    `it`; `empty` = `m_Deque.empty()`.  Result: the responses written into (`prev`, `it`) by `collide` /
    `collide_move` ( `*recPop.pValPop = *recPush.pValPush; recPop.bEmpty = false;` both `operation_done` ),
    or `none` when the code takes the `itPrev = it` branch. -/
def dequeCollide (empty : Bool) (prev it : DReq) : Option (Resp × Resp) :=
  match it.kind with
  | .pushFront =>
    -- if ( itPrev->op() == op_pop_front || ( m_Deque.empty() && itPrev->op() == op_pop_back )) collide( *it, *itPrev )
    if prev.kind = .popFront ∨ (empty = true ∧ prev.kind = .popBack) then some ([1, it.val], [1]) else none
  | .pushFrontMove =>
    if prev.kind = .popFront ∨ (empty = true ∧ prev.kind = .popBack) then some ([1, it.val], [1]) else none
  | .pushBack =>
    -- if ( itPrev->op() == op_pop_back || ( m_Deque.empty() && itPrev->op() == op_pop_front )) collide( *it, *itPrev )
    if prev.kind = .popBack ∨ (empty = true ∧ prev.kind = .popFront) then some ([1, it.val], [1]) else none
  | .pushBackMove =>
    if prev.kind = .popBack ∨ (empty = true ∧ prev.kind = .popFront) then some ([1, it.val], [1]) else none
  | .popFront =>
    if empty then
      match prev.kind with
      | .pushBack => some ([1], [1, prev.val])          -- collide( *itPrev, *it )
      | .pushBackMove => some ([1], [1, prev.val])      -- collide_move( *itPrev, *it )
      | _ => none                                       -- default: itPrev = it
    else
      match prev.kind with
      | .pushFront => some ([1], [1, prev.val])
      | .pushFrontMove => some ([1], [1, prev.val])
      | _ => none
  | .popBack =>
    if empty then
      match prev.kind with
      | .pushFront => some ([1], [1, prev.val])
      | .pushFrontMove => some ([1], [1, prev.val])
      | _ => none
    else
      match prev.kind with
      | .pushBack => some ([1], [1, prev.val])
      | .pushBackMove => some ([1], [1, prev.val])
      | _ => none
  | .clear => none

/-- `FCDeque::fc_process( begin(), end() )` on deque `d` and batch `rs` (nothing marked yet): the deque is not
    touched; `some resp` = the request was collided and marked done with `resp`, `none` = left for `fc_apply`. -/
def dequeProcess (d : List Int) (rs : List DReq) : List Int × List (Option Resp) :=
  (d, (elimPass dequePart (dequeCollide d.isEmpty) (rs.map (fun r => (r, none)))).map Prod.snd)

/-- The pairs `(itPrev, it)` that `fc_process` collides. -/
def dequeCollisions (d : List Int) (rs : List DReq) : List (DReq × DReq) :=
  elimPairs dequePart (dequeCollide d.isEmpty) (rs.map (fun r => (r, none)))

/-- `combining_pass` after `fc_process`: `fc_apply` on every request not marked, in list order. -/
def dequeFinish (d : List Int) (rs : List DReq) (marks : List (Option Resp)) : List Int × List Resp :=
  applyAll dequeApply d (rs.zip marks)

/-- A whole combiner session on a fixed batch: `n` walks of `fc_process`, then `combining_pass`
    (`n = 0`: the non-eliminating `combine`). -/
def dequeBatch (n : Nat) (d : List Int) (rs : List DReq) : List Int × List Resp :=
  applyAll dequeApply d (elimPasses dequePart (dequeCollide d.isEmpty) n (rs.map (fun r => (r, none))))

def DReq.toGOp (r : DReq) : GOp :=
  match r.kind with
  | .pushFront => ⟨"push_front", [r.val]⟩
  | .pushFrontMove => ⟨"push_front", [r.val]⟩
  | .pushBack => ⟨"push_back", [r.val]⟩
  | .pushBackMove => ⟨"push_back", [r.val]⟩
  | .popFront => ⟨"pop_front", []⟩
  | .popBack => ⟨"pop_back", []⟩
  | .clear => ⟨"clear", []⟩

/-- `Spec.dequeStep` extended with `clear` (which `Spec.dequeStep` does not have). -/
def dequeStepC (d : List Int) (op : GOp) : Option (List Int × GRet) :=
  match op.name, op.args with
  | "clear", [] => some ([], [])
  | _, _ => dequeStep d op

/-- The sequential specification as a function of requests. -/
def dequeSpec (d : List Int) (r : DReq) : Option (List Int × Resp) := dequeStepC d r.toGOp

theorem dequeStepC_eq_dequeStep (d : List Int) (r : DReq) (h : r.kind ≠ .clear) :
    dequeStepC d r.toGOp = dequeStep d r.toGOp := by
  obtain ⟨k, v⟩ := r
  cases k <;> first | exact absurd rfl h | rfl

/-- `fc_apply` is the sequential specification. -/
theorem dequeApply_spec (d : List Int) (r : DReq) : dequeSpec d r = some (dequeApply d r) := by
  obtain ⟨k, v⟩ := r
  cases k
  case popFront => cases d <;> simp [dequeSpec, dequeStepC, dequeStep, DReq.toGOp, dequeApply]
  case popBack =>
    cases h : d.getLast? <;> simp [dequeSpec, dequeStepC, dequeStep, DReq.toGOp, dequeApply, h]
  all_goals simp [dequeSpec, dequeStepC, dequeStep, DReq.toGOp, dequeApply]

theorem getLast?_cons_snoc (x : Int) (xs : List Int) (v : Int) : (x :: (xs ++ [v])).getLast? = some v :=
  List.getLast?_concat (l := x :: xs)

theorem dropLast_cons_snoc (x : Int) (xs : List Int) (v : Int) : (x :: (xs ++ [v])).dropLast = x :: xs :=
  List.dropLast_concat (l₁ := x :: xs)

/-- Every collision of `fc_process` is explained by executing the push and then the pop on the deque the
    combiner found; the deque is as before afterwards. -/
theorem dequeCollide_noop (d : List Int) (p r : DReq) (a b : Resp)
    (h : dequeCollide d.isEmpty p r = some (a, b)) :
    Noop dequeSpec d [(p, a), (r, b)] ∨ Noop dequeSpec d [(r, b), (p, a)] := by
  obtain ⟨pk, pv⟩ := p
  obtain ⟨rk, rv⟩ := r
  cases d with
  | nil =>
    cases rk <;> cases pk <;> simp [dequeCollide] at h <;> obtain ⟨rfl, rfl⟩ := h <;>
      simp [Noop, seqRun, dequeApply_spec, dequeApply]
  | cons x xs =>
    cases rk <;> cases pk <;> simp [dequeCollide] at h <;> obtain ⟨rfl, rfl⟩ := h <;>
      simp [Noop, seqRun, dequeApply_spec, dequeApply, getLast?_cons_snoc, dropLast_cons_snoc]

theorem dequeBatch_one (d : List Int) (rs : List DReq) :
    dequeFinish (dequeProcess d rs).1 rs (dequeProcess d rs).2 = dequeBatch 1 d rs :=
  applyAll_zip_elimPass dequePart (dequeCollide d.isEmpty) dequeApply d rs

/-! ## FCQueue (cds/container/fcqueue.h) -/

inductive QKind
  | enq | enqMove | deq | clear
deriving DecidableEq, Repr

structure QReq where
  kind : QKind
  val : Int := 0
deriving DecidableEq, Repr

/-- `FCQueue::fc_apply`.  Head of the list = front of the queue. -/
def queueApply (q : List Int) (r : QReq) : List Int × Resp :=
  match r.kind with
  | .enq => (q ++ [r.val], [1])
  | .enqMove => (q ++ [r.val], [1])
  | .deq =>
    match q with
    | [] => ([], [0])
    | x :: xs => (xs, [1, x])
  | .clear => ([], [])

/-- `FCQueue::fc_process`:  `case op_enq: case op_enq_move: case op_deq: if ( m_Queue.empty() ) { … }` —
    when the queue is not empty NOTHING happens for any kind (not even `itPrev = it`); `op_clear` has no case. -/
def queuePart (empty : Bool) (r : QReq) : Bool :=
  match r.kind with
  | .enq => empty
  | .enqMove => empty
  | .deq => empty
  | .clear => false

/-- `FCQueue::collide( rec1 = *itPrev, rec2 = *it )`: responses for (`rec1`, `rec2`), or `none` for `return false`. -/
def queueCollide (rec1 rec2 : QReq) : Option (Resp × Resp) :=
  match rec1.kind with
  | .enq => if rec2.kind = .deq then some ([1], [1, rec1.val]) else none
  | .enqMove => if rec2.kind = .deq then some ([1], [1, rec1.val]) else none
  | .deq =>
    match rec2.kind with
    | .enq => some ([1, rec2.val], [1])          -- return collide( rec2, rec1 )
    | .enqMove => some ([1, rec2.val], [1])
    | _ => none
  | .clear => none

def queueProcess (q : List Int) (rs : List QReq) : List Int × List (Option Resp) :=
  (q, (elimPass (queuePart q.isEmpty) queueCollide (rs.map (fun r => (r, none)))).map Prod.snd)

def queueCollisions (q : List Int) (rs : List QReq) : List (QReq × QReq) :=
  elimPairs (queuePart q.isEmpty) queueCollide (rs.map (fun r => (r, none)))

def queueFinish (q : List Int) (rs : List QReq) (marks : List (Option Resp)) : List Int × List Resp :=
  applyAll queueApply q (rs.zip marks)

def queueBatch (n : Nat) (q : List Int) (rs : List QReq) : List Int × List Resp :=
  applyAll queueApply q (elimPasses (queuePart q.isEmpty) queueCollide n (rs.map (fun r => (r, none))))

def QReq.toGOp (r : QReq) : GOp :=
  match r.kind with
  | .enq => ⟨"enq", [r.val]⟩
  | .enqMove => ⟨"enq", [r.val]⟩
  | .deq => ⟨"deq", []⟩
  | .clear => ⟨"clear", []⟩

/-- `Spec.fifoStep` extended with `clear`. -/
def fifoStepC (q : List Int) (op : GOp) : Option (List Int × GRet) :=
  match op.name, op.args with
  | "clear", [] => some ([], [])
  | _, _ => fifoStep q op

def queueSpec (q : List Int) (r : QReq) : Option (List Int × Resp) := fifoStepC q r.toGOp

theorem fifoStepC_eq_fifoStep (q : List Int) (r : QReq) (h : r.kind ≠ .clear) :
    fifoStepC q r.toGOp = fifoStep q r.toGOp := by
  obtain ⟨k, v⟩ := r
  cases k <;> first | exact absurd rfl h | rfl

theorem queueApply_spec (q : List Int) (r : QReq) : queueSpec q r = some (queueApply q r) := by
  obtain ⟨k, v⟩ := r
  cases k
  case deq => cases q <;> simp [queueSpec, fifoStepC, fifoStep, QReq.toGOp, queueApply]
  all_goals simp [queueSpec, fifoStepC, fifoStep, QReq.toGOp, queueApply]

theorem queueCollide_noop (q : List Int) (p r : QReq) (a b : Resp)
    (hp : queuePart q.isEmpty p = true) (h : queueCollide p r = some (a, b)) :
    Noop queueSpec q [(p, a), (r, b)] ∨ Noop queueSpec q [(r, b), (p, a)] := by
  obtain ⟨pk, pv⟩ := p
  obtain ⟨rk, rv⟩ := r
  cases q with
  | nil =>
    cases rk <;> cases pk <;> simp [queueCollide] at h <;> obtain ⟨rfl, rfl⟩ := h <;>
      simp [Noop, seqRun, queueApply_spec, queueApply]
  | cons x xs => cases pk <;> simp [queuePart] at hp

theorem queueBatch_one (q : List Int) (rs : List QReq) :
    queueFinish (queueProcess q rs).1 rs (queueProcess q rs).2 = queueBatch 1 q rs :=
  applyAll_zip_elimPass (queuePart q.isEmpty) queueCollide queueApply q rs

/-! ## FCStack (cds/container/fcstack.h) -/

inductive SKind
  | push | pushMove | pop | clear | empty
deriving DecidableEq, Repr

structure SReq where
  kind : SKind
  val : Int := 0
deriving DecidableEq, Repr

/-- `FCStack::fc_apply`.  Head of the list = top of the stack.  `op_empty`: `bEmpty = m_Stack.empty()`; the public
    `empty()` returns `bEmpty`. -/
def stackApply (s : List Int) (r : SReq) : List Int × Resp :=
  match r.kind with
  | .push => (r.val :: s, [1])
  | .pushMove => (r.val :: s, [1])
  | .pop =>
    match s with
    | [] => ([], [0])
    | x :: xs => (xs, [1, x])
  | .clear => ([], [])
  | .empty => (s, [if s.isEmpty then 1 else 0])

/-- `FCStack::fc_process`: `case op_push: case op_push_move: case op_pop:` — `op_clear` and `op_empty` have no case. -/
def stackPart (r : SReq) : Bool :=
  match r.kind with
  | .push => true
  | .pushMove => true
  | .pop => true
  | _ => false

/-- `FCStack::collide( rec1 = *itPrev, rec2 = *it )`. -/
def stackCollide (rec1 rec2 : SReq) : Option (Resp × Resp) :=
  match rec1.kind with
  | .push => if rec2.kind = .pop then some ([1], [1, rec1.val]) else none
  | .pushMove => if rec2.kind = .pop then some ([1], [1, rec1.val]) else none
  | .pop =>
    match rec2.kind with
    | .push => some ([1, rec2.val], [1])          -- return collide( rec2, rec1 )
    | .pushMove => some ([1, rec2.val], [1])
    | _ => none
  | _ => none

def stackProcess (s : List Int) (rs : List SReq) : List Int × List (Option Resp) :=
  (s, (elimPass stackPart stackCollide (rs.map (fun r => (r, none)))).map Prod.snd)

def stackCollisions (rs : List SReq) : List (SReq × SReq) :=
  elimPairs stackPart stackCollide (rs.map (fun r => (r, none)))

def stackFinish (s : List Int) (rs : List SReq) (marks : List (Option Resp)) : List Int × List Resp :=
  applyAll stackApply s (rs.zip marks)

def stackBatch (n : Nat) (s : List Int) (rs : List SReq) : List Int × List Resp :=
  applyAll stackApply s (elimPasses stackPart stackCollide n (rs.map (fun r => (r, none))))

def SReq.toGOp (r : SReq) : GOp :=
  match r.kind with
  | .push => ⟨"push", [r.val]⟩
  | .pushMove => ⟨"push", [r.val]⟩
  | .pop => ⟨"pop", []⟩
  | .clear => ⟨"clear", []⟩
  | .empty => ⟨"empty", []⟩

/-- `Spec.lifoStep` extended with `clear` and `empty`. -/
def lifoStepC (s : List Int) (op : GOp) : Option (List Int × GRet) :=
  match op.name, op.args with
  | "clear", [] => some ([], [])
  | "empty", [] => some (s, [if s.isEmpty then 1 else 0])
  | _, _ => lifoStep s op

def stackSpec (s : List Int) (r : SReq) : Option (List Int × Resp) := lifoStepC s r.toGOp

theorem lifoStepC_eq_lifoStep (s : List Int) (r : SReq) (h : r.kind ≠ .clear) (h' : r.kind ≠ .empty) :
    lifoStepC s r.toGOp = lifoStep s r.toGOp := by
  obtain ⟨k, v⟩ := r
  cases k <;> first | exact absurd rfl h | exact absurd rfl h' | rfl

theorem stackApply_spec (s : List Int) (r : SReq) : stackSpec s r = some (stackApply s r) := by
  obtain ⟨k, v⟩ := r
  cases k
  case pop => cases s <;> simp [stackSpec, lifoStepC, lifoStep, SReq.toGOp, stackApply]
  all_goals simp [stackSpec, lifoStepC, lifoStep, SReq.toGOp, stackApply]

theorem stackCollide_noop (s : List Int) (p r : SReq) (a b : Resp)
    (h : stackCollide p r = some (a, b)) :
    Noop stackSpec s [(p, a), (r, b)] ∨ Noop stackSpec s [(r, b), (p, a)] := by
  obtain ⟨pk, pv⟩ := p
  obtain ⟨rk, rv⟩ := r
  cases rk <;> cases pk <;> simp [stackCollide] at h <;> obtain ⟨rfl, rfl⟩ := h <;>
    simp [Noop, seqRun, stackApply_spec, stackApply]

theorem stackBatch_one (s : List Int) (rs : List SReq) :
    stackFinish (stackProcess s rs).1 rs (stackProcess s rs).2 = stackBatch 1 s rs :=
  applyAll_zip_elimPass stackPart stackCollide stackApply s rs

/-! ## FCPriorityQueue (cds/container/fcpriority_queue.h)

  No `fc_process` at all: the class defines only `fc_apply`, every member function calls `combine` (never
  `batch_combine`), and the inherited `flat_combining::container::fc_process` is `assert( false )`.
  The underlying `std::priority_queue<T>` (default `std::less`) is modelled as the list of its items;
  `top()` is a maximal item. -/

inductive PKind
  | push | pushMove | pop | clear
deriving DecidableEq, Repr

structure PReq where
  kind : PKind
  val : Int := 0
deriving DecidableEq, Repr

def pqApply (s : List Int) (r : PReq) : List Int × Resp :=
  match r.kind with
  | .push => (r.val :: s, [1])
  | .pushMove => (r.val :: s, [1])
  | .pop =>
    match s.max? with
    | none => (s, [0])                      -- bEmpty = true
    | some m => (s.erase m, [1, m])         -- *pValPop = top(); pop();
  | .clear => ([], [])

/-- `combining_pass` on a batch: `fc_apply` in list order (there is nothing else). -/
def pqBatch : List Int → List PReq → List Int × List Resp
  | s, [] => (s, [])
  | s, r :: rs =>
    let (s1, a) := pqApply s r
    let (s', out) := pqBatch s1 rs
    (s', a :: out)

def PReq.toGOp (r : PReq) : GOp :=
  match r.kind with
  | .push => ⟨"push", [r.val]⟩
  | .pushMove => ⟨"push", [r.val]⟩
  | .pop => ⟨"pop", []⟩
  | .clear => ⟨"clear", []⟩

/-- `Spec.pqNext 0` (unbounded max-priority queue, result-determined) extended with `clear`. -/
def pqNextC (s : List Int) (op : GOp) (r : GRet) : Option (List Int) :=
  match op.name, op.args, r with
  | "clear", [], [] => some []
  | _, _, _ => pqNext 0 s op r

/-- Legal sequential run of a result-determined specification. -/
def relRun {σ Op : Type} (next : σ → Op → Resp → Option σ) : σ → List (Op × Resp) → Option σ
  | s, [] => some s
  | s, (op, r) :: l =>
    match next s op r with
    | some s' => relRun next s' l
    | none => none

theorem pqApply_spec (s : List Int) (r : PReq) :
    pqNextC s r.toGOp (pqApply s r).2 = some (pqApply s r).1 := by
  obtain ⟨k, v⟩ := r
  cases k
  case pop =>
    cases h : s.max? with
    | none =>
      have : s = [] := by simpa using h
      subst this
      simp [pqNextC, pqNext, PReq.toGOp, pqApply]
    | some m =>
      have hm := List.max?_eq_some_iff.mp h
      have hall : ∀ w ∈ s, prioOf w ≤ prioOf m := by
        intro w hw
        have := hm.2 w hw
        simp only [prioOf]; omega
      simp [pqNextC, pqNext, PReq.toGOp, pqApply, h, hm.1]
      exact hall
  all_goals simp [pqNextC, pqNext, PReq.toGOp, pqApply]

/-! ## From "some permutation explains the responses" to linearizability of the batch

  The theorems below ASSUME that the history records of the batch overlap pairwise (no operation of the batch
  returned before another one was invoked); then any order respects real time. -/

section Linearizable
open CdsVerif.Lin

/-- A permutation of the image of a list is the image of a permutation of the list. -/
theorem perm_lift {α β : Type} (f : α → β) : ∀ (L : List β) (l : List α), L.Perm (l.map f) →
    ∃ l' : List α, l'.Perm l ∧ l'.map f = L
  | [], l, h => by
    have : l.map f = [] := List.Perm.eq_nil h.symm
    have : l = [] := by simpa using this
    subst this; exact ⟨[], List.Perm.refl _, rfl⟩
  | b :: L, l, h => by
    have hb : b ∈ l.map f := h.mem_iff.mp (List.mem_cons_self)
    obtain ⟨a, ha, rfl⟩ := List.mem_map.mp hb
    obtain ⟨s, t, rfl⟩ := List.append_of_mem ha
    have h1 : (f a :: L).Perm (f a :: (s ++ t).map f) := by
      refine h.trans ?_
      simp only [List.map_append, List.map_cons]
      exact List.perm_middle
    obtain ⟨l'', hl'', hm⟩ := perm_lift f L (s ++ t) (List.Perm.cons_inv h1)
    exact ⟨a :: l'', (List.Perm.cons a hl'').trans List.perm_middle.symm, by simp [hm]⟩

theorem pairwise_of_forall_mem {α : Type} {R : α → α → Prop} (l : List α) (h : ∀ a ∈ l, ∀ b ∈ l, R a b) : l.Pairwise R :=
  List.pairwise_of_forall_mem_list h

/-- A run of a result-determined specification is a legal run of the history records that carry the same operations
    and results. -/
theorem legal_of_relRun {σ Req : Type} (spec : Spec σ GOp GRet) (toG : Req → GOp) :
    ∀ (l : List (Req × Resp)) (s sF : σ) (ops : List (OpRec GOp GRet)),
      relRun (fun s r a => spec.next s (toG r) a) s l = some sF →
      ops.map (fun o => (o.op, o.ret)) = l.map (fun p => (toG p.1, p.2)) →
      Legal spec s ops
  | [], _, _, ops, _, ho => by
    have : ops = [] := by simpa using ho
    subst this; trivial
  | (r, a) :: l, s, sF, ops, hr, ho => by
    cases ops with
    | nil => simp at ho
    | cons o ops =>
      simp only [List.map_cons, List.cons.injEq, Prod.mk.injEq] at ho
      obtain ⟨⟨ho1, ho2⟩, ho3⟩ := ho
      simp only [relRun] at hr
      cases hst : spec.next s (toG r) a with
      | none => simp [hst] at hr
      | some s' =>
        simp only [hst] at hr
        exact ⟨s', by simp [ho1, ho2, hst], legal_of_relRun spec toG l s' sF ops hr ho3⟩

/-- A run of a deterministic specification is a run of the result-determined specification it gives. -/
theorem seqRun_eq_relRun {σ Req : Type} (i : σ) (stepG : σ → GOp → Option (σ × GRet)) (toG : Req → GOp) :
    ∀ (l : List (Req × Resp)) (s : σ),
      seqRun (fun s r => stepG s (toG r)) s l = relRun (fun s r a => (detSpec i stepG).next s (toG r) a) s l
  | [], _ => rfl
  | (r, a) :: l, s => by
    simp only [seqRun, relRun, detSpec]
    cases stepG s (toG r) with
    | none => rfl
    | some p =>
      obtain ⟨s', r'⟩ := p
      by_cases hra : r' = a
      · subst hra
        simp only [if_true]
        exact seqRun_eq_relRun i stepG toG l s'
      · simp only [if_neg hra, if_neg (Ne.symm hra)]

/-- The same for a sequential run of (request, response) pairs of a deterministic specification. -/
theorem legal_of_seqRun {σ Req : Type} (i : σ) (stepG : σ → GOp → Option (σ × GRet)) (toG : Req → GOp)
    (perm : List (Req × Resp)) (s sF : σ) (ops : List (OpRec GOp GRet))
    (hr : seqRun (fun s r => stepG s (toG r)) s perm = some sF)
    (ho : ops.map (fun o => (o.op, o.ret)) = perm.map (fun p => (toG p.1, p.2))) :
    Legal (detSpec i stepG) s ops :=
  legal_of_relRun (detSpec i stepG) toG perm s sF ops (seqRun_eq_relRun i stepG toG perm s ▸ hr) ho

/-- If the responses of a set of mutually overlapping operations are explained by a sequential run of some
    permutation, the history is linearizable (from the state the run starts in). -/
theorem linearizable_of_perm {σ Req : Type} (i : σ) (stepG : σ → GOp → Option (σ × GRet)) (toG : Req → GOp)
    (s sF : σ) (pairs perm : List (Req × Resp)) (hp : perm.Perm pairs)
    (hrun : seqRun (fun s r => stepG s (toG r)) s perm = some sF)
    (ops : List (OpRec GOp GRet))
    (hops : ops.map (fun o => (o.op, o.ret)) = pairs.map (fun p => (toG p.1, p.2)))
    (hconc : ∀ a ∈ ops, ∀ b ∈ ops, ¬ b.res < a.inv) :
    LinearizableFrom (detSpec i stepG) s ops := by
  have h1 : (perm.map (fun p => (toG p.1, p.2))).Perm (ops.map (fun o => (o.op, o.ret))) := by
    rw [hops]; exact hp.map _
  obtain ⟨ops', hperm, hmap⟩ := perm_lift _ _ _ h1
  refine ⟨ops', hperm, ?_, legal_of_seqRun i stepG toG perm s sF ops' hrun hmap⟩
  exact pairwise_of_forall_mem ops' (fun a ha b hb => hconc a (hperm.mem_iff.mp ha) b (hperm.mem_iff.mp hb))

end Linearizable

/-- "Some permutation of `rs.zip out.2` runs from `d` to `out.1`" asks the step function about the requests of `rs`
    only: it may be exchanged for one that agrees with it on them. -/
theorem refines_congr {σ Req : Type} {step1 step2 : σ → Req → Option (σ × Resp)} {d : σ} {rs : List Req}
    {out : σ × List Resp}
    (h : out.2.length = rs.length ∧
      ∃ perm : List (Req × Resp), perm.Perm (rs.zip out.2) ∧ seqRun step1 d perm = some out.1)
    (hagree : ∀ r ∈ rs, ∀ s, step1 s r = step2 s r) :
    out.2.length = rs.length ∧
      ∃ perm : List (Req × Resp), perm.Perm (rs.zip out.2) ∧ seqRun step2 d perm = some out.1 := by
  obtain ⟨hl, perm, hp, hrun⟩ := h
  refine ⟨hl, perm, hp, ?_⟩
  rw [← hrun]
  exact (seqRun_congr step1 step2 perm d fun x hx s => hagree x.1 (List.of_mem_zip (hp.mem_iff.mp hx)).1 s).symm

/-- `combining_pass` over a batch in which nothing is marked is a sequential run of the batch in list order. -/
theorem applyAll_fresh {σ Req : Type} (step : σ → Req → Option (σ × Resp)) (app : σ → Req → σ × Resp)
    (happ : ∀ s r, step s r = some (app s r)) :
    ∀ (rs : List Req) (s : σ),
      seqRun step s (rs.zip (applyAll app s (rs.map fun r => (r, none))).2) =
        some (applyAll app s (rs.map fun r => (r, none))).1
  | [], _ => rfl
  | r :: rs, s => by
    simp only [List.map_cons, applyAll, List.zip_cons_cons, seqRun, happ, if_true]
    exact applyAll_fresh step app happ rs (app s r).1

/-- A walk of `fc_process` in which no request has a `case` label changes nothing. -/
theorem elimGo_no_part {Req : Type} (part : Req → Bool) (coll : Req → Req → Option (Resp × Resp))
    (hpart : ∀ r, part r = false) :
    ∀ (sl : List (Slot Req)) (prev : Option Req), elimGo part coll prev sl = (none, sl, [])
  | [], _ => rfl
  | (r, some a) :: rest, prev => by simp only [elimGo, elimGo_no_part part coll hpart rest prev]
  | (r, none) :: rest, prev => by
    simp only [elimGo, hpart r, Bool.false_eq_true, if_false, elimGo_no_part part coll hpart rest prev]

/-- FCQueue's `fc_process` looks at a request only when the queue is empty. -/
theorem queuePart_imp_empty {empty : Bool} {r : QReq} (h : queuePart empty r = true) : empty = true := by
  obtain ⟨k, v⟩ := r
  cases k <;> first | exact h | cases h

theorem pqBatch_length : ∀ (rs : List PReq) (s : List Int), (pqBatch s rs).2.length = rs.length
  | [], _ => rfl
  | r :: rs, s => by simp only [pqBatch, List.length_cons, pqBatch_length rs (pqApply s r).1]

/-- `pqBatch` is a legal run, in list order, of every specification of which `pqApply` is a step on the batch. -/
theorem pqBatch_relRun (next : List Int → PReq → Resp → Option (List Int)) :
    ∀ (rs : List PReq) (s : List Int), (∀ r ∈ rs, ∀ s, next s r (pqApply s r).2 = some (pqApply s r).1) →
      relRun next s (rs.zip (pqBatch s rs).2) = some (pqBatch s rs).1
  | [], _, _ => rfl
  | r :: rs, s, h => by
    simp only [pqBatch, List.zip_cons_cons, relRun, h r List.mem_cons_self s]
    exact pqBatch_relRun next rs (pqApply s r).1 fun x hx => h x (List.mem_cons_of_mem r hx)

end CdsVerif.Algo.FC
