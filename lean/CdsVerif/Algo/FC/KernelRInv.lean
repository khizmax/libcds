/-
  The inductive invariant of the refined flat-combining kernel machine (`FC/KernelR.lean`, the machine that replays the
  real traces).  Its preservation: `KernelRThread.lean`, `KernelRStep.lean`, `KernelRReach.lean`.  Property theorems:
  `Props/C23KernelR.lean`.

  Clauses (record id = id of the owning thread; `list` = the publication list after the head, in order):
   * `hold`, `lockFree`      : every thread between a successful try_lock and its unlock is `holder`; none when the lock is free.
   * `noReq`, `someReq`      : nRequest is empty exactly outside [store of the request, release_record].
   * `respExec`, `opExec`, `atDone`, `atApply`, `le1`, `fin`
                             : ghost counter `execs`: 0 while pending and nobody is between fc_apply and the store of
                               req_Response for it, 1 from fc_apply on, never 2; 1 when the operation has finished.
   * `rel`, `wtUnl`          : release_record is reached only with req_Response.
   * `nodup`                 : the list has no duplicates.
   * `notIn`, `inact`, `preInact`, `linkAct`
                             : a record whose owner is inside publish() is not in the list; an inactive record is not in the
                               list; publish() runs on an inactive record until it stores `active`.
   * `unlinked`, `inactOut`, `ccAct`
                             : an ACTIVE record outside the list is being linked by its owner, or the combiner has just
                               unlinked it and is about to store `inactive` (and then its owner is not inside publish()).
   * `cmb`, `curIn`, `curInN`, `pass`, `passN`, `post`
                             : the combiner's own pending request: during the first pass its record is active, in the list and
                               NOT BEHIND the walk's position (`aheadIncl` / `aheadStrict`), hence it is visited; the
                               walk's position is a record of the list; after the passes the request is answered.
-/
import CdsVerif.Algo.FC.KernelR
namespace CdsVerif.Algo.FC.KernelR
open CdsVerif.Machine CdsVerif.Spec
open CdsVerif.Algo.FC.Kernel (Cfg RV RS Cont CS)

/-! ### Classification of program counters -/

/-- Between a successful `try_lock` and the matching `unlock`. -/
def holds : PC → Bool
  | .pubCnt .lock => true
  | .pubAge .lock _ => true
  | .pubAct .lock => true
  | .pubHd .lock => true
  | .pubNx .lock _ => true
  | .pubCas .lock _ => true
  | .lkRepub => true
  | .cmbCnt => true
  | .cpState _ _ => true
  | .cpReq _ _ => true
  | .cpAge _ _ => true
  | .cpExec _ _ => true
  | .cpDone _ _ => true
  | .cpNext _ _ => true
  | .ccHd _ => true
  | .ccState _ _ _ => true
  | .ccAge _ _ _ => true
  | .ccNx _ _ _ => true
  | .ccCas _ _ _ _ => true
  | .ccInact _ _ _ _ => true
  | .ccAdv _ _ => true
  | .c2Hd => true
  | .c2State _ => true
  | .c2Nx _ => true
  | .unlock => true
  | .wtReq2 => true
  | .wtUnlock => true
  | _ => false

/-- The request is stored in the record and `release_record` has not cleared it yet. -/
def hasReq : PC → Bool
  | .idle => false
  | .acqLd => false
  | .pubCnt .acq => false
  | .pubAge .acq _ => false
  | .pubAct .acq => false
  | .pubHd .acq => false
  | .pubNx .acq _ => false
  | .pubCas .acq _ => false
  | .reqSt => false
  | .done => false
  | _ => true

/-- Inside `publish()`. -/
def inPub : PC → Bool
  | .pubCnt _ => true
  | .pubAge _ _ => true
  | .pubAct _ => true
  | .pubHd _ => true
  | .pubNx _ _ => true
  | .pubCas _ _ => true
  | _ => false

/-- Inside `publish()`, before the store of `active`. -/
def prePub : PC → Bool
  | .pubCnt _ => true
  | .pubAge _ _ => true
  | .pubAct _ => true
  | _ => false

/-- Inside `publish()`, after the store of `active`. -/
def isLink : PC → Bool
  | .pubHd _ => true
  | .pubNx _ _ => true
  | .pubCas _ _ => true
  | _ => false

/-- Inside `combining_pass`, at position `p`, which is still to be treated. -/
def cpIdx : PC → Option (CS × Cur)
  | .cpState c p => some (c, p)
  | .cpReq c k => some (c, some k)
  | .cpAge c k => some (c, some k)
  | .cpExec c k => some (c, some k)
  | .cpDone c k => some (c, some k)
  | _ => none

/-- Inside `combining_pass`, about to leave position `p`. -/
def cpNextIdx : PC → Option (CS × Cur)
  | .cpNext c p => some (c, p)
  | _ => none

def doneIdx : PC → Option Nat
  | .cpDone _ k => some k
  | _ => none

/-- About to run / running `fc_apply` on record `k`. -/
def applyIdx : PC → Option Nat
  | .cpAge _ k => some k
  | .cpExec _ k => some k
  | _ => none

def inactIdx : PC → Option Nat
  | .ccInact _ _ k _ => some k
  | _ => none

/-- `compact_list` has read `active` from record `k` and has not unlinked it yet. -/
def ccIdx : PC → Option Nat
  | .ccAge _ _ k => some k
  | .ccNx _ _ k => some k
  | .ccCas _ _ k _ => some k
  | _ => none

/-- The combining passes are over. -/
def postPass : PC → Bool
  | .ccHd _ => true
  | .ccState _ _ _ => true
  | .ccAge _ _ _ => true
  | .ccNx _ _ _ => true
  | .ccCas _ _ _ _ => true
  | .ccInact _ _ _ _ => true
  | .ccAdv _ _ => true
  | .c2Hd => true
  | .c2State _ => true
  | .c2Nx _ => true
  | .unlock => true
  | _ => false

/-- Record `t` is at position `p` or further down the list. -/
def aheadIncl (l : List Nat) (p : Cur) (t : Nat) : Prop :=
  match p with
  | none => t ∈ l
  | some k => t = k ∨ t ∈ after l k

/-- Record `t` is strictly further down the list than position `p`. -/
def aheadStrict (l : List Nat) (p : Cur) (t : Nat) : Prop :=
  match p with
  | none => t ∈ l
  | some k => t ∈ after l k

/-! ### The list -/

theorem mem_after {l : List Nat} {k x : Nat} : x ∈ after l k → x ∈ l := by
  induction l with
  | nil => simp [after]
  | cons y l ih =>
    simp only [after]
    split
    · intro h; exact List.mem_cons_of_mem _ h
    · intro h; exact List.mem_cons_of_mem _ (ih h)

theorem head?_mem {l : List Nat} {k : Nat} (h : l.head? = some k) : k ∈ l := by
  cases l with
  | nil => simp at h
  | cons x l => simp at h; simp [h]

theorem succOf_mem {l : List Nat} {p : Cur} {k : Nat} (h : succOf l p = some k) : k ∈ l := by
  cases p with
  | none => exact head?_mem h
  | some j => exact mem_after (head?_mem h)

theorem after_cons_ne (r : Nat) (l : List Nat) (k : Nat) (h : r ≠ k) : after (r :: l) k = after l k := by
  simp [after, h]

theorem after_of_head {l : List Nat} {k : Nat} (h : l.head? = some k) : after l k = l.tail := by
  cases l with
  | nil => simp at h
  | cons x l => simp at h; simp [after, h]

theorem after_step {l : List Nat} {k k' : Nat} (hn : l.Nodup) (h : (after l k).head? = some k') :
    after l k' = (after l k).tail := by
  induction l with
  | nil => simp [after] at h
  | cons x l ih =>
    have hn' := (List.nodup_cons.mp hn)
    simp only [after] at h ⊢
    by_cases hx : x = k
    · simp only [hx, if_true] at h ⊢
      have hk' : k' ∈ l := head?_mem h
      have : k ≠ k' := fun e => hn'.1 (hx ▸ e ▸ hk')
      simp only [this, if_false]
      exact after_of_head h
    · simp only [hx, if_false] at h ⊢
      have hk' : k' ∈ l := mem_after (head?_mem h)
      have : x ≠ k' := fun e => hn'.1 (e ▸ hk')
      simp only [this, if_false]
      exact ih hn'.2 h

/-- Moving the walk from `p` to its successor `k'` keeps `t` ahead (inclusive). -/
theorem ahead_step {l : List Nat} {p : Cur} {k' t : Nat} (hn : l.Nodup) (h : succOf l p = some k')
    (ha : aheadStrict l p t) : aheadIncl l (some k') t := by
  cases p with
  | none =>
    simp only [succOf] at h
    simp only [aheadStrict] at ha
    simp only [aheadIncl, after_of_head h]
    cases l with
    | nil => simp at h
    | cons x l => simp at h; subst h; simpa using ha
  | some k =>
    simp only [succOf] at h
    simp only [aheadStrict] at ha
    simp only [aheadIncl, after_step hn h]
    cases hl : after l k with
    | nil => simp [hl] at h
    | cons x m => simp [hl] at h ha ⊢; subst h; exact ha

/-- At the end of the list nothing is ahead. -/
theorem ahead_end {l : List Nat} {p : Cur} {t : Nat} (h : succOf l p = none) (ha : aheadStrict l p t) : False := by
  cases p with
  | none => simp only [succOf, List.head?_eq_none_iff] at h; simp [aheadStrict, h] at ha
  | some k => simp only [succOf, List.head?_eq_none_iff] at h; simp [aheadStrict, h] at ha

theorem ahead_cons {l : List Nat} {p : Cur} {r t : Nat} (hr : r ∉ l) (hp : ∀ k, p = some k → k ∈ l) :
    (aheadIncl l p t → aheadIncl (r :: l) p t) ∧ (aheadStrict l p t → aheadStrict (r :: l) p t) := by
  cases p with
  | none => simp only [aheadIncl, aheadStrict]; exact ⟨fun h => List.mem_cons_of_mem _ h, fun h => List.mem_cons_of_mem _ h⟩
  | some k =>
    have hk : r ≠ k := fun e => hr (e ▸ hp k rfl)
    simp only [aheadIncl, aheadStrict, after_cons_ne r l k hk]
    exact ⟨id, id⟩

/-! ### The invariant -/

structure KInvR (cfg : Cfg) (s : St) : Prop where
  bound : ∀ t, s.pc t ≠ .idle → t < cfg.N
  lockFree : s.lock = false → ∀ t, holds (s.pc t) = false
  hold : ∀ t, holds (s.pc t) = true → t = s.holder
  noReq : ∀ t, hasReq (s.pc t) = false → s.req t = .empty
  someReq : ∀ t, hasReq (s.pc t) = true → s.req t = .op ∨ s.req t = .resp
  respExec : ∀ k, s.req k = .resp → s.execs k = 1
  opExec : ∀ k, s.req k = .op → doneIdx (s.pc s.holder) ≠ some k → s.execs k = 0
  atDone : ∀ t k, doneIdx (s.pc t) = some k → s.req k = .op ∧ s.execs k = 1
  atApply : ∀ t k, applyIdx (s.pc t) = some k → s.req k = .op
  rel : ∀ t, s.pc t = .relSt → s.req t = .resp
  wtUnl : ∀ t, s.pc t = .wtUnlock → s.req t = .resp
  fin : ∀ t, s.pc t = .done → s.execs t = 1
  le1 : ∀ k, s.execs k ≤ 1
  nodup : s.list.Nodup
  notIn : ∀ r, inPub (s.pc r) = true → r ∉ s.list
  inact : ∀ r, s.state r ≠ .active → r ∉ s.list
  preInact : ∀ r, prePub (s.pc r) = true → s.state r ≠ .active
  linkAct : ∀ r, isLink (s.pc r) = true → s.state r = .active
  unlinked : ∀ r, s.state r = .active → r ∉ s.list → isLink (s.pc r) = true ∨ inactIdx (s.pc s.holder) = some r
  inactOut : ∀ t k, inactIdx (s.pc t) = some k → k ∉ s.list ∧ s.state k = .active ∧ inPub (s.pc k) = false
  ccAct : ∀ t k, ccIdx (s.pc t) = some k → s.state k = .active
  cmb : ∀ t, s.pc t = .cmbCnt → s.req t = .resp ∨ (t ∈ s.list ∧ s.state t = .active)
  curIn : ∀ t c k, cpIdx (s.pc t) = some (c, some k) → k ∈ s.list
  curInN : ∀ t c k, cpNextIdx (s.pc t) = some (c, some k) → k ∈ s.list
  pass : ∀ t c p, cpIdx (s.pc t) = some (c, p) →
    s.req t = .resp ∨ (c.pass = 0 ∧ aheadIncl s.list p t ∧ s.state t = .active)
  passN : ∀ t c p, cpNextIdx (s.pc t) = some (c, p) →
    s.req t = .resp ∨ (c.pass = 0 ∧ aheadStrict s.list p t ∧ s.state t = .active)
  post : ∀ t, postPass (s.pc t) = true → s.req t = .resp

theorem kinvr_init (cfg : Cfg) : KInvR cfg (init cfg) := by
  constructor <;> intros <;>
    simp_all [init, allocList, holds, hasReq, cpIdx, cpNextIdx, postPass, inPub, prePub, isLink, doneIdx, applyIdx,
      inactIdx, ccIdx]
  case nodup =>
    unfold List.Nodup; rw [List.pairwise_reverse]; exact (List.nodup_range (n := cfg.N)).imp (fun h => Ne.symm h)

theorem passEnd_cases (cfg : Cfg) (c : CS) :
    (∃ c', passEnd cfg c = .cpState c' none ∧ c'.pass = c.pass + 1) ∨ passEnd cfg c = .ccHd c.age ∨
      passEnd cfg c = .unlock := by
  by_cases h1 : ((c.done = true ∨ (if c.done then c.emp else c.emp + 1) ≤ (if c.done then c.use + 1 else c.use)) ∧
      c.pass + 1 < cfg.P)
  · refine Or.inl ⟨⟨c.age, c.pass + 1, if c.done then c.emp else c.emp + 1,
      if c.done then c.use + 1 else c.use, false⟩, ?_, rfl⟩
    show (if _ then _ else _) = _
    rw [if_pos h1]
  · by_cases h2 : c.age &&& cfg.cf = 0
    · refine Or.inr (Or.inl ?_)
      show (if _ then _ else _) = _
      rw [if_neg h1, if_pos h2]
    · refine Or.inr (Or.inr ?_)
      show (if _ then _ else _) = _
      rw [if_neg h1, if_neg h2]

theorem doneIdx_of_not_holds (p : PC) : holds p = false → doneIdx p = none := by
  cases p <;> simp [holds, doneIdx]
theorem inactIdx_of_not_holds (p : PC) : holds p = false → inactIdx p = none := by
  cases p <;> simp [holds, inactIdx]
theorem isLink_inPub (p : PC) : isLink p = true → inPub p = true := by
  cases p <;> simp [isLink, inPub]
theorem prePub_inPub (p : PC) : prePub p = true → inPub p = true := by
  cases p <;> simp [prePub, inPub]

theorem doneIdx_iff {p : PC} {k : Nat} : doneIdx p = some k ↔ ∃ c, p = .cpDone c k := by cases p <;> simp [doneIdx]

theorem holds_of_inactIdx {p : PC} {k : Nat} (h : inactIdx p = some k) : holds p = true := by
  cases p <;> first | rfl | cases h

/-! ### What a step writes -/

theorem hasReq_passEnd (cfg : Cfg) (c : CS) : hasReq (passEnd cfg c) = true := by
  rcases passEnd_cases cfg c with ⟨c', e, -⟩ | e | e <;> rw [e] <;> rfl

theorem hasReq_ccGo (a : Nat) (pp nx : Cur) : hasReq (ccGo a pp nx) = true := by
  cases nx <;> rfl

theorem hasReq_c2Go (l : List Nat) : hasReq (c2Go l) = true := by
  cases l <;> rfl

/-- With the request in the record the owner is inside its operation. -/
theorem inOp_of_hasReq {p : PC} (h : hasReq p = true) : p ≠ .idle ∧ p ≠ .done := by
  constructor <;> rintro rfl <;> cases h

/-- The steps by what they do to the request words, the ghost counter and the container: the store of the request,
    `fc_apply`, the store of the response, `release_record`, and all the others, which leave the three alone. -/
theorem step_kinds {cfg : Cfg} {s s' : St} {t : Tid} {ev : Ev} (hs : step cfg s t = some (s', ev)) :
    ∃ q, s'.pc = upd s.pc t q ∧ s.pc t ≠ .idle ∧ s.pc t ≠ .done ∧ q ≠ .idle ∧
      ((s.pc t = .reqSt ∧ q = .tryLock ∧ s'.req = upd s.req t .op ∧ s'.execs = upd s.execs t 0 ∧ s'.ctr = s.ctr) ∨
       (∃ c k, s.pc t = .cpExec c k ∧ q = .cpDone c k ∧ s'.req = s.req ∧ s'.execs = upd s.execs k (s.execs k + 1) ∧
          s'.ctr = s.ctr + 1 ∧ s'.res k = s.ctr) ∨
       (∃ c k, s.pc t = .cpDone c k ∧ hasReq q = true ∧ s'.req = upd s.req k .resp ∧ s'.execs = s.execs ∧
          s'.ctr = s.ctr) ∨
       (s.pc t = .relSt ∧ q = .done ∧ s'.req = upd s.req t .empty ∧ s'.execs = s.execs ∧ s'.ctr = s.ctr) ∨
       ((∀ c k, s.pc t ≠ .cpExec c k) ∧ hasReq q = hasReq (s.pc t) ∧ q ≠ .done ∧ s'.req = s.req ∧ s'.execs = s.execs ∧
          s'.ctr = s.ctr)) := by
  cases hpc : s.pc t
  case idle => simp [step, hpc] at hs
  case done => simp [step, hpc] at hs
  case reqSt =>
    simp only [step, hpc, Option.some.injEq, Prod.mk.injEq] at hs
    obtain ⟨rfl, -⟩ := hs
    exact ⟨_, rfl, nofun, nofun, nofun, .inl ⟨rfl, rfl, rfl, rfl, rfl⟩⟩
  case cpExec c k =>
    simp only [step, hpc, Option.some.injEq, Prod.mk.injEq] at hs
    obtain ⟨rfl, -⟩ := hs
    exact ⟨_, rfl, nofun, nofun, nofun, .inr (.inl ⟨c, k, rfl, rfl, rfl, rfl, rfl, upd_same _ _ _⟩)⟩
  case cpDone c k =>
    simp only [step, hpc, Option.some.injEq, Prod.mk.injEq] at hs
    obtain ⟨rfl, -⟩ := hs
    exact ⟨_, rfl, nofun, nofun, nofun, .inr (.inr (.inl ⟨c, k, rfl, rfl, rfl, rfl, rfl⟩))⟩
  case relSt =>
    simp only [step, hpc, Option.some.injEq, Prod.mk.injEq] at hs
    obtain ⟨rfl, -⟩ := hs
    exact ⟨_, rfl, nofun, nofun, nofun, .inr (.inr (.inr (.inl ⟨rfl, rfl, rfl, rfl, rfl⟩)))⟩
  -- every other step moves `t` between program counters on the same side of the request and writes none of the three
  case pubCnt c | pubAge c _ | pubAct c | pubNx c _ =>
    cases c
    all_goals
      simp only [step, hpc, Option.some.injEq, Prod.mk.injEq] at hs
      obtain ⟨rfl, -⟩ := hs
      exact ⟨_, rfl, nofun, nofun, nofun, .inr (.inr (.inr (.inr ⟨nofun, rfl, nofun, rfl, rfl, rfl⟩)))⟩
  case pubHd c =>
    cases c
    all_goals
      simp only [step, hpc, Option.some.injEq, Prod.mk.injEq] at hs
      obtain ⟨rfl, -⟩ := hs
      split
      all_goals exact ⟨_, rfl, nofun, nofun, nofun, .inr (.inr (.inr (.inr ⟨nofun, rfl, nofun, rfl, rfl, rfl⟩)))⟩
  case pubCas c v =>
    cases c
    all_goals
      simp only [step, hpc] at hs
      split at hs
      all_goals
        simp only [Option.some.injEq, Prod.mk.injEq] at hs
        obtain ⟨rfl, -⟩ := hs
        exact ⟨_, rfl, nofun, nofun, nofun, .inr (.inr (.inr (.inr ⟨nofun, rfl, nofun, rfl, rfl, rfl⟩)))⟩
  case ccCas a pp k nx =>
    simp only [step, hpc] at hs
    split at hs
    all_goals
      simp only [Option.some.injEq, Prod.mk.injEq] at hs
      obtain ⟨rfl, -⟩ := hs
    · exact ⟨_, rfl, nofun, nofun, nofun, .inr (.inr (.inr (.inr ⟨nofun, rfl, nofun, rfl, rfl, rfl⟩)))⟩
    · split
      all_goals exact ⟨_, rfl, nofun, nofun, nofun, .inr (.inr (.inr (.inr ⟨nofun, rfl, nofun, rfl, rfl, rfl⟩)))⟩
  case cmbCnt | cpAge | ccNx | unlock | wtUnlock =>
    simp only [step, hpc, Option.some.injEq, Prod.mk.injEq] at hs
    obtain ⟨rfl, -⟩ := hs
    exact ⟨_, rfl, nofun, nofun, nofun, .inr (.inr (.inr (.inr ⟨nofun, rfl, nofun, rfl, rfl, rfl⟩)))⟩
  case acqLd | tryLock | lkRepub | cpReq | ccState | ccAge | wtReq | wtState | wtLock | wtReq2 =>
    simp only [step, hpc, Option.some.injEq, Prod.mk.injEq] at hs
    obtain ⟨rfl, -⟩ := hs
    split
    all_goals exact ⟨_, rfl, nofun, nofun, nofun, .inr (.inr (.inr (.inr ⟨nofun, rfl, nofun, rfl, rfl, rfl⟩)))⟩
  case cpState c p =>
    cases p
    all_goals
      simp only [step, hpc, Option.some.injEq, Prod.mk.injEq] at hs
      obtain ⟨rfl, -⟩ := hs
    · exact ⟨_, rfl, nofun, nofun, nofun, .inr (.inr (.inr (.inr ⟨nofun, rfl, nofun, rfl, rfl, rfl⟩)))⟩
    · split
      all_goals exact ⟨_, rfl, nofun, nofun, nofun, .inr (.inr (.inr (.inr ⟨nofun, rfl, nofun, rfl, rfl, rfl⟩)))⟩
  case c2State rest =>
    cases rest
    all_goals
      simp only [step, hpc, Option.some.injEq, Prod.mk.injEq] at hs
      obtain ⟨rfl, -⟩ := hs
      exact ⟨_, rfl, nofun, nofun, nofun, .inr (.inr (.inr (.inr ⟨nofun, rfl, nofun, rfl, rfl, rfl⟩)))⟩
  case cpNext c p =>
    simp only [step, hpc, Option.some.injEq, Prod.mk.injEq] at hs
    obtain ⟨rfl, -⟩ := hs
    split
    · exact ⟨_, rfl, nofun, nofun, nofun, .inr (.inr (.inr (.inr ⟨nofun, rfl, nofun, rfl, rfl, rfl⟩)))⟩
    · exact ⟨_, rfl, nofun, nofun, (inOp_of_hasReq (hasReq_passEnd cfg c)).1,
        .inr (.inr (.inr (.inr ⟨nofun, hasReq_passEnd cfg c, (inOp_of_hasReq (hasReq_passEnd cfg c)).2, rfl, rfl, rfl⟩)))⟩
  case ccHd | ccInact | ccAdv =>
    simp only [step, hpc, Option.some.injEq, Prod.mk.injEq] at hs
    obtain ⟨rfl, -⟩ := hs
    exact ⟨_, rfl, nofun, nofun, (inOp_of_hasReq (hasReq_ccGo _ _ _)).1,
      .inr (.inr (.inr (.inr ⟨nofun, hasReq_ccGo _ _ _, (inOp_of_hasReq (hasReq_ccGo _ _ _)).2, rfl, rfl, rfl⟩)))⟩
  case c2Hd =>
    simp only [step, hpc, Option.some.injEq, Prod.mk.injEq] at hs
    obtain ⟨rfl, -⟩ := hs
    exact ⟨_, rfl, nofun, nofun, (inOp_of_hasReq (hasReq_c2Go _)).1,
      .inr (.inr (.inr (.inr ⟨nofun, hasReq_c2Go _, (inOp_of_hasReq (hasReq_c2Go _)).2, rfl, rfl, rfl⟩)))⟩
  case c2Nx rest =>
    cases rest
    all_goals
      simp only [step, hpc, Option.some.injEq, Prod.mk.injEq] at hs
      obtain ⟨rfl, -⟩ := hs
    · exact ⟨_, rfl, nofun, nofun, nofun, .inr (.inr (.inr (.inr ⟨nofun, rfl, nofun, rfl, rfl, rfl⟩)))⟩
    · exact ⟨_, rfl, nofun, nofun, (inOp_of_hasReq (hasReq_c2Go _)).1,
      .inr (.inr (.inr (.inr ⟨nofun, hasReq_c2Go _, (inOp_of_hasReq (hasReq_c2Go _)).2, rfl, rfl, rfl⟩)))⟩

end CdsVerif.Algo.FC.KernelR
