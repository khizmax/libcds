/-
  LINEARIZABILITY of the flat-combining kernel with an arbitrary deterministic sequential object (`KernelG.lean`) with
  respect to that object's sequential specification `detSpec O.init O.step`.

  Linearization point of EVERY operation: the `exec` step (`fc_apply`) that the lock holder performs on the operation's
  publication record.  That step is, by definition of the machine, one step of the sequential object on the shared
  container, and it writes the result into the record.  What makes it a linearization point is what `KInvR` says about
  the kernel protocol (proved in KernelRInv … KernelRReach and inherited because the kernel part of `KernelG` IS `KernelR`):
    * it happens between the invocation and the response of the operation, and at most once per operation
      (`opExec` + `hold`: at `cpExec _ j` the counter `execs j` is 0; it is 1 afterwards and no second `exec` can follow);
    * the owner returns only after it (`rel`, `fin`: at `relSt` / `done` the counter is 1), with the value stored there
      (only `exec` on record `j` writes `resg j`).
  The machine is an instance of the ghost-log construction of `Base/LPLin.lean`: the `exec` step on record `j` passes
  the linearization point of thread `j`'s operation — in general a step of ANOTHER thread, the combiner.
-/
import CdsVerif.Algo.FC.KernelG
import CdsVerif.Algo.FC.KernelRReach
import CdsVerif.Algo.FC.Log
import CdsVerif.Base.LPLin
namespace CdsVerif.Algo.FC.KernelG
open CdsVerif.Machine CdsVerif.Spec CdsVerif.Lin CdsVerif.GhostLog CdsVerif.Algo.FC.Log
open CdsVerif.Algo.FC.Kernel (Cfg RV RS Cont CS)
open CdsVerif.Algo.FC.KernelR (KInvR)

variable {σ : Type}

/-- The request is in the record (or the operation has finished and not yet returned). -/
def hasReqD : KernelR.PC → Bool
  | .done => true
  | p => KernelR.hasReq p

/-- Thread `j`'s current operation has been executed (`fc_apply` has run for it): it is linearized. -/
def lin (k : KernelR.St) (j : Nat) : Bool := hasReqD (k.pc j) && decide (k.execs j = 1)

/-! ### What the kernel steps do to the linearization status -/

theorem hasReqD_of_hasReq {p : KernelR.PC} (h : KernelR.hasReq p = true) : hasReqD p = true := by
  cases p <;> first | rfl | exact h

theorem hasReqD_of_ne_done {p : KernelR.PC} (h : p ≠ .done) : hasReqD p = KernelR.hasReq p := by
  cases p <;> first | rfl | exact absurd rfl h

theorem lin_congr {k k' : KernelR.St} {i : Nat} (hp : hasReqD (k'.pc i) = hasReqD (k.pc i))
    (he : k'.execs i = k.execs i) : lin k' i = lin k i := by
  rw [lin, lin, hp, he]

theorem kstep_facts {cfg : Cfg} {k k' : KernelR.St} {t : Tid} {ev : Ev} (hi : KInvR cfg k)
    (hs : KernelR.step cfg k t = some (k', ev)) :
    (∀ t2, t2 ≠ t → k'.pc t2 = k.pc t2) ∧ k.pc t ≠ .idle ∧ k'.pc t ≠ .idle ∧
    (∀ c j, k.pc t = .cpExec c j →
        lin k j = false ∧ lin k' j = true ∧ k.pc j ≠ .idle ∧ ∀ i, i ≠ j → lin k' i = lin k i) ∧
    ((∀ c j, k.pc t ≠ .cpExec c j) → ∀ i, lin k' i = lin k i) := by
  obtain ⟨q, hpc, hidle, hdone, hq, hkind⟩ := KernelR.step_kinds hs
  have hqt : k'.pc t = q := by rw [hpc, upd_same]
  -- the program counters look the same through `hasReqD` when the one of `t` does
  have hview : hasReqD q = hasReqD (k.pc t) → ∀ i, hasReqD (k'.pc i) = hasReqD (k.pc i) := fun e i => by
    rw [hpc]
    exact upd_view e i
  refine ⟨fun t2 h => by rw [hpc, upd_other _ _ _ _ h], hidle, hqt ▸ hq, ?_⟩
  rcases hkind with ⟨hp, rfl, -, he, -⟩ | ⟨c, j, hp, rfl, -, he, -⟩ | ⟨c, j, hp, hr, -, he, -⟩ | ⟨hp, rfl, -, he, -⟩ |
    ⟨hp, hr, hqd, -, he, -⟩
  · -- the store of the request: the counter of `t` is reset, and `t` was not linearized
    refine ⟨fun c j e => (nomatch hp.symm.trans e), fun _ i => ?_⟩
    by_cases hit : i = t
    · rw [hit, lin, lin, he, upd_same, hp]
      exact Bool.and_false _
    · exact lin_congr (by rw [hpc, upd_other _ _ _ _ hit]) (by rw [he, upd_other _ _ _ _ hit])
  · -- `fc_apply` on record `j`
    have hreq : k.req j = .op := hi.atApply t j (by rw [hp]; rfl)
    have hh : t = k.holder := hi.hold t (by rw [hp]; rfl)
    have he0 : k.execs j = 0 := hi.opExec j hreq (by rw [← hh, hp]; nofun)
    have hr : KernelR.hasReq (k.pc j) = true := by
      cases hq : KernelR.hasReq (k.pc j)
      · exact nomatch hreq.symm.trans (hi.noReq j hq)
      · rfl
    have hv := hview (by rw [hp]; rfl)
    refine ⟨fun c' j' e => ?_, fun hne => absurd hp (hne c j)⟩
    obtain ⟨-, rfl⟩ := KernelR.PC.cpExec.inj (hp.symm.trans e)
    refine ⟨by rw [lin, he0]; exact Bool.and_false _, ?_, (KernelR.inOp_of_hasReq hr).1, fun i hij => ?_⟩
    · rw [lin, hv, hasReqD_of_hasReq hr, he, upd_same, he0]
      rfl
    · exact lin_congr (hv i) (by rw [he, upd_other _ _ _ _ hij])
  · exact ⟨fun c' j' e => (nomatch hp.symm.trans e),
      fun _ i => lin_congr (hview (by rw [hp, hasReqD_of_hasReq hr]; rfl) i) (by rw [he])⟩
  · exact ⟨fun c' j' e => (nomatch hp.symm.trans e), fun _ i => lin_congr (hview (by rw [hp]; rfl) i) (by rw [he])⟩
  · exact ⟨fun c' j' e => absurd e (hp c' j'),
      fun _ i => lin_congr (hview (by rw [hasReqD_of_ne_done hqd, hasReqD_of_ne_done hdone, hr]) i) (by rw [he])⟩

theorem kinvoke_facts {cfg : Cfg} {k k' : KernelR.St} {t : Tid} {op : GOp} (hs : KernelR.invoke cfg k t op = some k') :
    k.pc t = .idle ∧ k' = { k with pc := upd k.pc t .acqLd } := by
  unfold KernelR.invoke at hs
  split at hs
  · next hidle => split at hs <;> simp at hs; exact ⟨hidle, hs.symm⟩
  · simp at hs

theorem kresult_facts {k k' : KernelR.St} {t : Tid} {r : GRet} (hs : KernelR.result k t = some (k', r)) :
    k.pc t = .done ∧ k' = { k with pc := upd k.pc t .idle } := by
  unfold KernelR.result at hs
  split at hs
  · next hd => simp at hs; exact ⟨hd, hs.1.symm⟩
  · simp at hs

/-! ### The machine as an instance of `Base/LPLin.lean` -/

/-- The sequential specification of the object. -/
def specOf (O : Obj σ) : Lin.Spec σ GOp GRet := detSpec O.init O.step

theorem lin_idle {k : KernelR.St} {t : Nat} (h : k.pc t = .idle) : lin k t = false := by
  simp [lin, h, hasReqD, KernelR.hasReq]

/-- The result of thread `t`'s operation, once a combiner has executed it: what the record holds. -/
def lpRet (s : St σ) (t : Tid) : Option GRet := if lin s.k t = true then some (s.resg t) else none

/-- The operation of a thread that is not idle: what its record holds. -/
def opOf (s : St σ) (t : Tid) : Option GOp := if s.k.pc t = .idle then none else some (s.opr t)

theorem lpRet_eq_some {s : St σ} {t : Tid} {r : GRet} : lpRet s t = some r ↔ lin s.k t = true ∧ r = s.resg t := by
  unfold lpRet
  split <;> simp [*, eq_comm]

theorem lpRet_congr {s s' : St σ} {t : Tid} (hl : lin s'.k t = lin s.k t) (hr : s'.resg t = s.resg t) :
    lpRet s' t = lpRet s t := by
  simp only [lpRet, hl, hr]

theorem opOf_eq_some {s : St σ} {t : Tid} {op : GOp} : opOf s t = some op ↔ s.k.pc t ≠ .idle ∧ s.opr t = op := by
  unfold opOf
  split <;> simp [*]

/-- The container is the specification state; the kernel invariant, and the operation in every busy record belongs to
    the interface of the object; every result is definitive. -/
def sys (O : Obj σ) (cfg : Cfg) : LPLin.Sys (St σ) σ where
  spec := specOf O
  model := model O cfg
  init := init O cfg
  Inv := fun s => KInvR cfg s.k ∧ ∀ t, s.k.pc t ≠ .idle → O.valid (s.opr t) = true
  Abs := fun a s => a = s.obj
  lpRet := lpRet
  postRet := lpRet
  opOf := opOf
  inert := fun _ _ => false

theorem sys_ok (O : Obj σ) (cfg : Cfg) : (sys O cfg).HelpOK where
  inert_ok := nofun
  inv_init := ⟨KernelR.kinvr_init cfg, fun t h => absurd rfl h⟩
  abs_init := rfl
  lp_init := by intro t; simp [sys, lpRet, init, KernelR.init, lin, hasReqD, KernelR.hasReq]
  op_init := by intro t; simp [sys, opOf, init, KernelR.init]
  lp_post := fun _ _ _ _ h => .inl h
  invoke := by
    intro s t op s' ⟨hl, hv⟩ hs
    obtain ⟨hk, hobj, hopr, hres, hval⟩ := invoke_k hs
    obtain ⟨hwas, hk'⟩ := kinvoke_facts hk
    have hpc : ∀ t2, t2 ≠ t → s'.k.pc t2 = s.k.pc t2 := by intro t2 ht; rw [hk']; simp [upd, ht]
    have hpct : s'.k.pc t = .acqLd := by rw [hk']; simp [upd]
    have hlin : ∀ t2, lin s'.k t2 = lin s.k t2 := by
      intro t2
      by_cases ht : t2 = t
      · subst ht; simp [lin, hpct, hwas, hasReqD, KernelR.hasReq]
      · simp [lin, hk', upd, ht]
    refine ⟨⟨KernelR.kinvr_invoke hl hk, ?_⟩, ⟨fun t2 _ => lpRet_congr (hlin t2) (by rw [hres]), ?_⟩, ?_, ?_, ?_, ?_⟩
    · intro t2 hne
      by_cases ht : t2 = t
      · subst ht; simpa [hopr] using hval
      · rw [hopr]; simp only [upd, if_neg ht]; exact hv t2 (hpc t2 ht ▸ hne)
    · intro t2 ht
      simp only [sys, opOf, hpc t2 ht, hopr, upd, if_neg ht]
    · simp [sys, lpRet, lin_idle hwas]
    · exact opOf_eq_some.mpr ⟨by rw [hpct]; nofun, by simp [hopr]⟩
    · show lpRet s' t = none
      simp [lpRet, hlin t, lin_idle hwas]
    · intro a ha; exact ha.trans hobj.symm
  step := by
    intro s t s' ev ⟨hl, hv⟩ hs
    obtain ⟨ev', hk, hopr, hcase⟩ := step_k hs
    obtain ⟨hframe, hbusy1, hbusy2, hLP, hother⟩ := kstep_facts hl hk
    have hbusy : ∀ u, s'.k.pc u ≠ .idle → s.k.pc u ≠ .idle := by
      intro u hu
      by_cases ht : u = t
      · exact ht ▸ hbusy1
      · exact hframe u ht ▸ hu
    have hinv : (sys O cfg).Inv s' := ⟨KernelR.kinvr_atomic hl hk, fun u hu => hopr ▸ hv u (hbusy u hu)⟩
    have hop : ∀ u op, opOf s' u = some op → opOf s u = some op := by
      intro u op ho
      obtain ⟨h1, h2⟩ := opOf_eq_some.mp ho
      exact opOf_eq_some.mpr ⟨hbusy u h1, hopr ▸ h2⟩
    rcases hcase with ⟨c, j, hpc, hobj, hres⟩ | ⟨hne, hobj, hres⟩
    · -- `exec` on record j: the linearization point of thread j's operation
      obtain ⟨hl0, hl1, hjbusy, hlo⟩ := hLP c j hpc
      have hst : (specOf O).next s.obj (s.opr j) (applyO O s.obj (s.opr j)).2 = some (applyO O s.obj (s.opr j)).1 := by
        have := O.total s.obj (s.opr j) (hv j hjbusy)
        cases hq : O.step s.obj (s.opr j) with
        | none => simp [hq] at this
        | some p => simp [specOf, detSpec, applyO, hq]
      refine ⟨[j], .of_frame hinv (List.nodup_cons.mpr ⟨List.not_mem_nil, List.nodup_nil⟩) ?_ ?_ ?_ hop⟩
      · intro u hu
        rw [List.mem_singleton.mp hu]
        simp [sys, lpRet, hl0]
      · rintro a rfl
        exact ⟨_, ⟨s.opr j, _, _, opOf_eq_some.mpr ⟨hjbusy, rfl⟩,
          lpRet_eq_some.mpr ⟨hl1, by rw [hres]; simp [upd]⟩, hst, rfl⟩, hobj.symm⟩
      · intro u hu
        have huj : u ≠ j := fun e => hu (List.mem_singleton.mpr e)
        exact lpRet_congr (hlo u huj) (by rw [hres]; simp [upd, huj])
    · -- any other step: nothing is linearized, the container and the result slots are untouched
      refine ⟨[], .of_frame hinv List.nodup_nil nofun ?_ (fun u _ => lpRet_congr (hother hne u) (by rw [hres])) hop⟩
      rintro a rfl
      exact ⟨_, rfl, hobj.symm⟩
  result := by
    intro s t s' r ⟨hl, hv⟩ hs
    obtain ⟨⟨r', hk⟩, hobj, hopr, hres, hr⟩ := result_k hs
    obtain ⟨hdone, hk'⟩ := kresult_facts hk
    have hpc : ∀ t2, t2 ≠ t → s'.k.pc t2 = s.k.pc t2 := by intro t2 ht; rw [hk']; simp [upd, ht]
    have hpct : s'.k.pc t = .idle := by rw [hk']; simp [upd]
    refine ⟨⟨KernelR.kinvr_result hl hk, ?_⟩, ⟨?_, ?_⟩, ?_, ?_, ?_, ?_⟩
    · intro t2 hne
      have ht : t2 ≠ t := fun e => hne (e ▸ hpct)
      rw [hopr]; exact hv t2 (hpc t2 ht ▸ hne)
    · intro t2 ht
      exact lpRet_congr (by simp [lin, hk', upd, ht]) (by rw [hres])
    · intro t2 ht
      simp only [sys, opOf, hpc t2 ht, hopr]
    · exact lpRet_eq_some.mpr ⟨by simp [lin, hdone, hasReqD, hl.fin t hdone], hr⟩
    · show lpRet s' t = none
      simp [lpRet, lin_idle hpct]
    · show opOf s' t = none
      simp [opOf, hpct]
    · intro a ha; exact ha.trans hobj.symm

/-! ### Main theorems -/

/-- The kernel invariant holds of the kernel part of every reachable state, whatever the container. -/
theorem kinvr_of_run {O : Obj σ} {cfg : Cfg} {sched : List (Tid × Act)} {s : St σ} {os : List (Tid × Obs)}
    (h : (model O cfg).run (init O cfg) sched = some (s, os)) : KInvR cfg s.k :=
  ((sys_ok O cfg).inv_reachable s ⟨sched, os, h⟩).1

/-- **A flat-combining container is linearizable** (Herlihy–Wing, with completion of pending operations).
    For every run of the kernel machine over the sequential object `O` — every number of threads, compact factor, pass
    count, schedule and client program — the history of the completed operations, extended by response records `extra` for
    the operations still pending at the end that have been executed by a combiner (they get the result stored in their
    record and the response time "end of the run"; at most one per thread), is linearizable to `detSpec O.init O.step`.
    Pending operations that have not been executed are dropped. -/
theorem fc_linearizable (O : Obj σ) (cfg : Cfg) (sched : List (Tid × Act)) (s : St σ)
    (os : List (Tid × Obs)) (h : (model O cfg).run (init O cfg) sched = some (s, os)) :
    ∃ extra : List (OpRec GOp GRet),
      (∀ e ∈ extra, pendingOf os e.tid = some (e.op, e.inv) ∧ e.res = os.length ∧
          lin s.k e.tid = true ∧ e.ret = s.resg e.tid) ∧
      extra.Pairwise (fun a b => a.tid ≠ b.tid) ∧
      Linearizable (specOf O) (historyOf os ++ extra) := by
  rw [historyOf_eq, pendingOf_eq]
  obtain ⟨extra, hex, hpw, hlin⟩ := (sys_ok O cfg).linearizable sched s os h
  exact ⟨extra, fun e he => ⟨(hex e he).1, (hex e he).2.1, lpRet_eq_some.mp (hex e he).2.2⟩, hpw, hlin⟩

/-- Runs at whose end no thread is between the execution of its request and its return. -/
theorem fc_linearizable_no_effect_pending (O : Obj σ) (cfg : Cfg) (sched : List (Tid × Act))
    (s : St σ) (os : List (Tid × Obs)) (h : (model O cfg).run (init O cfg) sched = some (s, os))
    (hq : ∀ t, lin s.k t = false) : Linearizable (specOf O) (historyOf os) :=
  historyOf_eq os ▸ (sys_ok O cfg).linearizable_no_effect_pending sched s os h (fun t => by simp [sys, lpRet, hq t])

/-- Runs in which every invoked operation has returned. -/
theorem fc_linearizable_complete_runs (O : Obj σ) (cfg : Cfg) (sched : List (Tid × Act))
    (s : St σ) (os : List (Tid × Obs)) (h : (model O cfg).run (init O cfg) sched = some (s, os))
    (hq : ∀ t, s.k.pc t = .idle) : Linearizable (specOf O) (historyOf os) :=
  fc_linearizable_no_effect_pending O cfg sched s os h (fun t => lin_idle (hq t))

end CdsVerif.Algo.FC.KernelG
