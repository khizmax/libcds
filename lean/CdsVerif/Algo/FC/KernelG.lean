/-
  The flat-combining kernel machine `KernelR` with an ARBITRARY deterministic sequential object as its container.

  `KernelR.lean` (tied to the real kernel by trace replay, invariant `KInvR` proved) has a counter as container.  Here the
  container is any `Obj σ`: a state, a step function in the style of `Spec` (`σ → GOp → Option (σ × GRet)`) and the set of
  operations it accepts.  The machine is `KernelR` itself — EVERY kernel step is taken by `KernelR.step` on the embedded
  kernel state `k`, unchanged — plus
    * `opr r`  : the request fields of publication record `r` (the operation and its arguments; written by the owner when
                 it calls the container's member function, i.e. at `invoke`),
    * `resg r` : the response fields of record `r`,
    * `obj`    : the container, touched only by the `exec` step (`fc_apply`), which runs under the lock:
                 `(obj, resg r) := step obj (opr r)`,
    * the operation returns `resg t`, read from its own record after req_Response.
  The only other difference is the rendering of two kinds of events, so that real traces of a container with several
  operation codes can be replayed: the value of `nRequest` while a request is pending is the operation's code
  `Obj.code op` (KernelR: always 2), and `exec r<k> <result>` shows the result, comma-separated.

  Because the kernel part is literally `KernelR`, `KInvR` holds of `k` in every reachable state (`kinvr_of_run` in
  `KernelGLin.lean`) and the C23 theorems hold for every container.
-/
import CdsVerif.Algo.FC.KernelR
namespace CdsVerif.Algo.FC.KernelG
open CdsVerif.Machine CdsVerif.Spec
open CdsVerif.Algo.FC.Kernel (Cfg RV RS Cont CS rvS)

/-- A deterministic sequential object. -/
structure Obj (σ : Type) where
  init : σ
  step : σ → GOp → Option (σ × GRet)
  /-- the operations the container's interface offers -/
  valid : GOp → Bool
  total : ∀ s op, valid op = true → (step s op).isSome = true
  /-- operation id stored in `nRequest` (only used to render events) -/
  code : GOp → Nat

structure St (σ : Type) where
  k : KernelR.St
  obj : σ
  opr : Nat → GOp
  resg : Nat → GRet

variable {σ : Type}

def init (O : Obj σ) (cfg : Cfg) : St σ := ⟨KernelR.init cfg, O.init, fun _ => ⟨"", []⟩, fun _ => []⟩

/-- `fc_apply`: one step of the sequential object (an operation outside the interface leaves it alone; `invoke` never
    accepts one). -/
def applyO (O : Obj σ) (s : σ) (op : GOp) : σ × GRet := (O.step s op).getD (s, [])

def retS (r : GRet) : String := ",".intercalate (r.map toString)

/-- Rendering of `nRequest` of record `j`. -/
def reqV (O : Obj σ) (s : St σ) (j : Nat) : String :=
  if s.k.req j = .op then toString (O.code (s.opr j)) else rvS (s.k.req j)

def invoke (O : Obj σ) (cfg : Cfg) (s : St σ) (t : Tid) (op : GOp) : Option (St σ) :=
  if O.valid op = true then
    (KernelR.invoke cfg s.k t op).map (fun k' => { s with k := k', opr := upd s.opr t op })
  else none

def step (O : Obj σ) (cfg : Cfg) (s : St σ) (t : Tid) : Option (St σ × Ev) :=
  match KernelR.step cfg s.k t with
  | none => none
  | some (k', ev) =>
    match s.k.pc t with
    | .cpExec _ j =>
      some ({ s with k := k', obj := (applyO O s.obj (s.opr j)).1, resg := upd s.resg j (applyO O s.obj (s.opr j)).2 },
            ⟨"exec", KernelR.nloc (some j), retS (applyO O s.obj (s.opr j)).2, ""⟩)
    | .reqSt => some ({ s with k := k' }, { ev with a := toString (O.code (s.opr t)) })
    | .cpReq _ j => some ({ s with k := k' }, { ev with a := reqV O s j })
    | .wtReq => some ({ s with k := k' }, { ev with a := reqV O s t })
    | .wtReq2 => some ({ s with k := k' }, { ev with a := reqV O s t })
    | _ => some ({ s with k := k' }, ev)

def result (s : St σ) (t : Tid) : Option (St σ × GRet) :=
  match KernelR.result s.k t with
  | none => none
  | some (k', _) => some ({ s with k := k' }, s.resg t)

def model (O : Obj σ) (cfg : Cfg) : Model (St σ) := ⟨invoke O cfg, step O cfg, result⟩

/-! ### The kernel part of every transition is the `KernelR` transition -/

theorem invoke_k {O : Obj σ} {cfg : Cfg} {s s' : St σ} {t : Tid} {op : GOp} (h : invoke O cfg s t op = some s') :
    KernelR.invoke cfg s.k t op = some s'.k ∧ s'.obj = s.obj ∧ s'.opr = upd s.opr t op ∧ s'.resg = s.resg ∧
      O.valid op = true := by
  unfold invoke at h
  split at h
  · next hv =>
    cases hk : KernelR.invoke cfg s.k t op with
    | none => simp [hk] at h
    | some k' => simp [hk] at h; subst h; exact ⟨rfl, rfl, rfl, rfl, hv⟩
  · simp at h

theorem step_k {O : Obj σ} {cfg : Cfg} {s s' : St σ} {t : Tid} {ev : Ev} (h : step O cfg s t = some (s', ev)) :
    ∃ ev', KernelR.step cfg s.k t = some (s'.k, ev') ∧ s'.opr = s.opr ∧
      ((∃ c j, s.k.pc t = .cpExec c j ∧ s'.obj = (applyO O s.obj (s.opr j)).1 ∧
          s'.resg = upd s.resg j (applyO O s.obj (s.opr j)).2) ∨
       ((∀ c j, s.k.pc t ≠ .cpExec c j) ∧ s'.obj = s.obj ∧ s'.resg = s.resg)) := by
  unfold step at h
  cases hk : KernelR.step cfg s.k t with
  | none => simp [hk] at h
  | some p =>
    obtain ⟨k', ev'⟩ := p
    simp only [hk] at h
    refine ⟨ev', ?_⟩
    split at h <;> simp only [Option.some.injEq, Prod.mk.injEq] at h <;> obtain ⟨rfl, -⟩ := h
    · next c j hpc => exact ⟨rfl, rfl, Or.inl ⟨c, j, hpc, rfl, rfl⟩⟩
    all_goals (refine ⟨rfl, rfl, Or.inr ⟨?_, rfl, rfl⟩⟩; intro c j hpc; simp_all)

theorem result_k {s s' : St σ} {t : Tid} {r : GRet} (h : result s t = some (s', r)) :
    (∃ r', KernelR.result s.k t = some (s'.k, r')) ∧ s'.obj = s.obj ∧ s'.opr = s.opr ∧ s'.resg = s.resg ∧
      r = s.resg t := by
  unfold result at h
  cases hk : KernelR.result s.k t with
  | none => simp [hk] at h
  | some p =>
    obtain ⟨k', r'⟩ := p
    simp [hk] at h
    obtain ⟨rfl, rfl⟩ := h
    exact ⟨⟨r', rfl⟩, rfl, rfl, rfl, rfl⟩

/-- Every action of the generic machine is, on the kernel part, an action of `KernelR`. -/
theorem apply_k {O : Obj σ} {cfg : Cfg} {s s' : St σ} {t : Tid} {a : Act} {o : Obs}
    (h : (model O cfg).apply s t a = some (s', o)) :
    ∃ o', (KernelR.model cfg).apply s.k t a = some (s'.k, o') := by
  rcases Model.apply_cases h with ⟨op, rfl, hs1, -⟩ | ⟨e, rfl, hs1, -⟩ | ⟨r, rfl, hs1, -⟩
  · exact ⟨.call op, by simp [Model.apply, KernelR.model, (invoke_k hs1).1]⟩
  · obtain ⟨ev', hk, -⟩ := step_k hs1
    exact ⟨.ev ev', by simp [Model.apply, KernelR.model, hk]⟩
  · obtain ⟨⟨r', hk⟩, -⟩ := result_k hs1
    exact ⟨.ret r', by simp [Model.apply, KernelR.model, hk]⟩

end CdsVerif.Algo.FC.KernelG
