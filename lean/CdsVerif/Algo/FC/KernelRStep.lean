/-
  Preservation of `KInvR` by the atomic steps of the refined flat-combining kernel machine, one lemma per program
  counter, in the order of `KernelR.step`.  A step that only loads is `KInvR.quiet` with the clauses the new program
  counter adds; a step that writes gives the four parts of `KInvR.of_step`.
-/
import CdsVerif.Algo.FC.KernelRThread
namespace CdsVerif.Algo.FC.KernelR
open CdsVerif.Machine CdsVerif.Spec
open CdsVerif.Algo.FC.Kernel (Cfg RV RS Cont CS)

variable {cfg : Cfg} {s s' : St} {t : Tid} {ev : Ev}

/-! ### acquire_record, publish -/

theorem step_acqLd (h : KInvR cfg s) (hpc : s.pc t = .acqLd) (hs : step cfg s t = some (s', ev)) : KInvR cfg s' := by
  have hT := hpc ▸ h.thread t
  simp only [step, hpc, Option.some.injEq, Prod.mk.injEq] at hs
  obtain ⟨rfl, -⟩ := hs
  split
  next ha => exact h.quiet hpc rfl rfl rfl { hT with }
  next ha => exact h.publish hpc rfl rfl rfl ha { hT with notIn := fun _ => h.inact t ha, preInact := fun _ => ha }

theorem step_pubCnt {c : Cont} (h : KInvR cfg s) (hpc : s.pc t = .pubCnt c) (hs : step cfg s t = some (s', ev)) :
    KInvR cfg s' := by
  have hT := hpc ▸ h.thread t
  simp only [step, hpc, Option.some.injEq, Prod.mk.injEq] at hs
  obtain ⟨rfl, -⟩ := hs
  cases c <;> exact h.quiet hpc rfl rfl rfl { hT with }

theorem step_pubAge {c : Cont} {a : Nat} (h : KInvR cfg s) (hpc : s.pc t = .pubAge c a)
    (hs : step cfg s t = some (s', ev)) : KInvR cfg s' := by
  have hT := hpc ▸ h.thread t
  simp only [step, hpc, Option.some.injEq, Prod.mk.injEq] at hs
  obtain ⟨rfl, -⟩ := hs
  cases c <;> exact h.quiet hpc rfl rfl rfl { hT with }

/-- The store of `active`: records that were active stay so, and the record of `t` is now being linked. -/
theorem step_pubAct {c : Cont} (h : KInvR cfg s) (hpc : s.pc t = .pubAct c) (hs : step cfg s t = some (s', ev)) :
    KInvR cfg s' := by
  have hT := hpc ▸ h.thread t
  simp only [step, hpc, Option.some.injEq, Prod.mk.injEq] at hs
  obtain ⟨rfl, -⟩ := hs
  have hact : ∀ r, s.state r = .active → upd s.state t .active r = .active := fun r e => by
    by_cases hr : r = t
    · rw [hr, upd_same]
    · rw [upd_other _ _ _ _ hr]; exact e
  refine KInvR.of_step (q := .pubHd c) rfl ?_ ?_ (fun u hu => ?_) ?_ <;> dsimp only [St.MInv, St.TInv, St.XInv]
  · exact { h.mem with inact := fun r hr => h.inact r fun e => hr (hact r e) }
  · cases c <;> exact ⟨{ hT.toOInv with preInact := nofun, linkAct := fun _ => upd_same _ _ _ }, CInv.vacuous rfl⟩
  · have hU := h.thread u
    exact { hU with
      preInact := fun e => upd_other s.state t u .active hu ▸ hU.preInact e
      linkAct := fun e => hact u (hU.linkAct e)
      inactOut := fun k e => ⟨(hU.inactOut k e).1, hact k (hU.inactOut k e).2⟩
      ccAct := fun k e => hact k (hU.ccAct k e)
      cmb := fun e => (hU.cmb e).imp_right fun e' => ⟨e'.1, hact u e'.2⟩
      pass := fun c p e => (hU.pass c p e).imp_right fun e' => ⟨e'.1, e'.2.1, hact u e'.2.2⟩
      passN := fun c p e => (hU.passN c p e).imp_right fun e' => ⟨e'.1, e'.2.1, hact u e'.2.2⟩ }
  · have hX := h.cross.move (q := .pubHd c) hpc nofun nofun nofun nofun (fun _ => Or.inl rfl)
    refine { hX with unlinked := fun r ha hn => ?_ }
    by_cases hr : r = t
    · exact Or.inl (by rw [hr, upd_same]; rfl)
    · exact hX.unlinked r (upd_other s.state t r .active hr ▸ ha) hn

theorem step_pubHd {c : Cont} (h : KInvR cfg s) (hpc : s.pc t = .pubHd c) (hs : step cfg s t = some (s', ev)) :
    KInvR cfg s' := by
  have hT := hpc ▸ h.thread t
  simp only [step, hpc, Option.some.injEq, Prod.mk.injEq] at hs
  obtain ⟨rfl, -⟩ := hs
  split
  next hh => exact absurd (head?_mem hh) (hT.notIn rfl)
  next => cases c <;> exact h.quiet hpc rfl rfl rfl { hT with }

theorem step_pubNx {c : Cont} {v : Cur} (h : KInvR cfg s) (hpc : s.pc t = .pubNx c v)
    (hs : step cfg s t = some (s', ev)) : KInvR cfg s' := by
  have hT := hpc ▸ h.thread t
  simp only [step, hpc, Option.some.injEq, Prod.mk.injEq] at hs
  obtain ⟨rfl, -⟩ := hs
  cases c <;> exact h.quiet hpc rfl rfl rfl { hT with }

/-- The linking CAS.  On success the record of `t`, active and not in the list, goes to the front: positions in the
    list and what is ahead of them stay (`ahead_cons`). -/
theorem step_pubCas {c : Cont} {v : Cur} (h : KInvR cfg s) (hpc : s.pc t = .pubCas c v)
    (hs : step cfg s t = some (s', ev)) : KInvR cfg s' := by
  have hT := hpc ▸ h.thread t
  simp only [step, hpc] at hs
  split at hs
  next =>
    simp only [Option.some.injEq, Prod.mk.injEq] at hs
    obtain ⟨rfl, -⟩ := hs
    have hnot : t ∉ s.list := hT.notIn rfl
    have hact : s.state t = .active := hT.linkAct rfl
    refine KInvR.of_step (q := afterPublish c) rfl ?_ ?_ (fun u hu => ?_) ?_ <;> dsimp only [St.MInv, St.TInv, St.XInv]
    · exact { h.mem with
        nodup := List.nodup_cons.mpr ⟨hnot, h.nodup⟩
        inact := fun r hr hin => (List.mem_cons.mp hin).elim (fun e => hr (e ▸ hact)) (h.inact r hr) }
    · cases c
      · exact ⟨{ hT.toOInv with notIn := nofun, linkAct := nofun }, CInv.vacuous rfl⟩
      · exact { hT with
          notIn := nofun
          linkAct := nofun
          inactOut := nofun
          cmb := fun _ => Or.inr ⟨List.mem_cons_self, hact⟩
          curIn := nofun
          curInN := nofun
          pass := nofun
          passN := nofun }
      · exact ⟨{ hT.toOInv with notIn := nofun, linkAct := nofun }, CInv.vacuous rfl⟩
    · have hU := h.thread u
      have hmem : ∀ {r}, r ∈ s.list → r ∈ t :: s.list := List.mem_cons_of_mem t
      have hout : ∀ k, inactIdx (s.pc u) = some k → k ≠ t := fun k e ek => by
        have hk := h.cross.inactPub u k e
        rw [ek, hpc] at hk
        cases hk
      exact { hU with
        notIn := fun e hin => (List.mem_cons.mp hin).elim hu (hU.notIn e)
        inactOut := fun k e =>
          ⟨fun hin => (List.mem_cons.mp hin).elim (hout k e) (hU.inactOut k e).1, (hU.inactOut k e).2⟩
        cmb := fun e => (hU.cmb e).imp_right fun e' => ⟨hmem e'.1, e'.2⟩
        curIn := fun c p e k ek => hmem (hU.curIn c p e k ek)
        curInN := fun c p e k ek => hmem (hU.curInN c p e k ek)
        pass := fun c p e => (hU.pass c p e).imp_right fun e' =>
          ⟨e'.1, (ahead_cons hnot (hU.curIn c p e)).1 e'.2.1, e'.2.2⟩
        passN := fun c p e => (hU.passN c p e).imp_right fun e' =>
          ⟨e'.1, (ahead_cons hnot (hU.curInN c p e)).2 e'.2.1, e'.2.2⟩ }
    · have hX : XInv s.holder s.req s.state (t :: s.list) s.execs s.pc :=
        { h.cross with unlinked := fun r ha hn => h.unlinked r ha fun hr => hn (List.mem_cons_of_mem t hr) }
      exact hX.move hpc (fun _ => Or.inr fun _ => List.mem_cons_self) nofun nofun (by cases c <;> exact nofun)
        (by cases c <;> exact nofun)
  next =>
    simp only [Option.some.injEq, Prod.mk.injEq] at hs
    obtain ⟨rfl, -⟩ := hs
    cases c <;> exact h.quiet hpc rfl rfl rfl { hT with }

/-! ### combine -/

/-- The store of the request resets the ghost counter of the record. -/
theorem step_reqSt (h : KInvR cfg s) (hpc : s.pc t = .reqSt) (hs : step cfg s t = some (s', ev)) : KInvR cfg s' := by
  have hT := hpc ▸ h.thread t
  simp only [step, hpc, Option.some.injEq, Prod.mk.injEq] at hs
  obtain ⟨rfl, -⟩ := hs
  have hne : ∀ k, s.req k = .op → k ≠ t := fun k hk e => by
    rw [e, hT.noReq rfl] at hk
    cases hk
  refine KInvR.of_step (q := .tryLock) rfl ?_ ?_ (fun u hu => ?_) ?_ <;> dsimp only [St.MInv, St.TInv, St.XInv]
  · refine { h.mem with respExec := fun k hk => ?_, le1 := fun k => ?_ }
    · by_cases e : k = t
      · rw [e, upd_same] at hk; cases hk
      · rw [upd_other _ _ _ _ e] at hk ⊢; exact h.respExec k hk
    · by_cases e : k = t
      · rw [e, upd_same]; exact Nat.zero_le 1
      · rw [upd_other _ _ _ _ e]; exact h.le1 k
  · exact ⟨{ hT.toOInv with noReq := nofun, someReq := fun _ => Or.inl (upd_same _ _ _), rel := nofun, fin := nofun },
      CInv.vacuous rfl⟩
  · exact (h.thread u).with_req (upd_other _ _ _ _ hu) (upd_other _ _ _ _ hu) fun k hk =>
      ⟨(upd_other _ _ _ _ (hne k hk)).trans hk, upd_other _ _ _ _ (hne k hk)⟩
  · have hX := h.cross.quiet (q := .tryLock) hpc rfl
    refine { hX with opExec := fun k hk hd => ?_ }
    by_cases e : k = t
    · rw [e, upd_same]
    · rw [upd_other _ _ _ _ e] at hk ⊢; exact hX.opExec k hk hd

theorem step_tryLock (h : KInvR cfg s) (hpc : s.pc t = .tryLock) (hs : step cfg s t = some (s', ev)) :
    KInvR cfg s' := by
  have hT := hpc ▸ h.thread t
  simp only [step, hpc, Option.some.injEq, Prod.mk.injEq] at hs
  obtain ⟨rfl, -⟩ := hs
  cases hl : s.lock
  · exact h.acquire hpc hl rfl { hT with lockFree := nofun, hold := fun _ => rfl }
  · exact h.quiet hpc (by simp only [St.mem, hl]; rfl) rfl rfl { hT with }

theorem step_lkRepub (h : KInvR cfg s) (hpc : s.pc t = .lkRepub) (hs : step cfg s t = some (s', ev)) :
    KInvR cfg s' := by
  have hT := hpc ▸ h.thread t
  simp only [step, hpc, Option.some.injEq, Prod.mk.injEq] at hs
  obtain ⟨rfl, -⟩ := hs
  split
  next ha =>
    -- the record of the lock holder is active and nobody is linking or deactivating it: it is in the list
    refine h.quiet hpc rfl rfl rfl { hT with cmb := fun _ => Or.inr ⟨Decidable.byContradiction fun hn => ?_, ha⟩ }
    have hh : t = s.holder := hT.hold rfl
    rcases h.unlinked t ha hn with e | e
    · rw [hpc] at e; cases e
    · rw [← hh, hpc] at e; cases e
  next ha => exact h.publish hpc rfl rfl rfl ha { hT with notIn := fun _ => h.inact t ha, preInact := fun _ => ha }

/-! ### combining, combining_pass -/

theorem step_cmbCnt (h : KInvR cfg s) (hpc : s.pc t = .cmbCnt) (hs : step cfg s t = some (s', ev)) : KInvR cfg s' := by
  have hT := hpc ▸ h.thread t
  simp only [step, hpc, Option.some.injEq, Prod.mk.injEq] at hs
  obtain ⟨rfl, -⟩ := hs
  exact h.quiet hpc rfl rfl rfl
    { hT with
      cmb := nofun
      curIn := of_some_pair nofun
      pass := of_some_pair ((hT.cmb rfl).imp_right fun e => ⟨rfl, e.1, e.2⟩) }

theorem step_cpState {c : CS} {p : Cur} (h : KInvR cfg s) (hpc : s.pc t = .cpState c p)
    (hs : step cfg s t = some (s', ev)) : KInvR cfg s' := by
  have hT := hpc ▸ h.thread t
  cases p with
  | none =>
    simp only [step, hpc, Option.some.injEq, Prod.mk.injEq] at hs
    obtain ⟨rfl, -⟩ := hs
    exact h.quiet hpc rfl rfl rfl
      { hT with curIn := nofun, curInN := of_some_pair nofun, pass := nofun, passN := of_some_pair (hT.pass c none rfl) }
  | some k =>
    simp only [step, hpc, Option.some.injEq, Prod.mk.injEq] at hs
    obtain ⟨rfl, -⟩ := hs
    split
    next ha => exact h.quiet hpc rfl rfl rfl { hT with }
    next ha =>
      -- the record at the walk's position is not active, so it is not the combiner's own
      exact h.quiet hpc rfl rfl rfl
        { hT with
          curIn := nofun
          curInN := of_some_pair (hT.curIn c (some k) rfl)
          pass := nofun
          passN := of_some_pair ((hT.pass c (some k) rfl).imp_right fun e =>
            ⟨e.1, e.2.1.resolve_left fun e' => ha (e' ▸ e.2.2), e.2.2⟩) }

theorem step_cpReq {c : CS} {k : Nat} (h : KInvR cfg s) (hpc : s.pc t = .cpReq c k)
    (hs : step cfg s t = some (s', ev)) : KInvR cfg s' := by
  have hT := hpc ▸ h.thread t
  simp only [step, hpc, Option.some.injEq, Prod.mk.injEq] at hs
  obtain ⟨rfl, -⟩ := hs
  split
  next hr => exact h.quiet hpc rfl rfl rfl { hT with atApply := of_some hr }
  next hr =>
    -- the record at the walk's position has no pending request; if it is the combiner's own, that one is answered
    refine h.quiet hpc rfl rfl rfl
      { hT with
        curIn := nofun
        curInN := of_some_pair (hT.curIn c (some k) rfl)
        pass := nofun
        passN := of_some_pair ((hT.pass c (some k) rfl).elim Or.inl fun e => e.2.1.elim (fun e' => Or.inl ?_)
          fun e' => Or.inr ⟨e.1, e', e.2.2⟩) }
    exact (hT.someReq rfl).resolve_left fun e'' => hr (e' ▸ e'')

theorem step_cpAge {c : CS} {k : Nat} (h : KInvR cfg s) (hpc : s.pc t = .cpAge c k)
    (hs : step cfg s t = some (s', ev)) : KInvR cfg s' := by
  have hT := hpc ▸ h.thread t
  simp only [step, hpc, Option.some.injEq, Prod.mk.injEq] at hs
  obtain ⟨rfl, -⟩ := hs
  exact h.quiet hpc rfl rfl rfl { hT with }

/-- `fc_apply`: the request of record `k` is pending and not yet executed; now it is executed once. -/
theorem step_cpExec {c : CS} {k : Nat} (h : KInvR cfg s) (hpc : s.pc t = .cpExec c k)
    (hs : step cfg s t = some (s', ev)) : KInvR cfg s' := by
  have hT := hpc ▸ h.thread t
  simp only [step, hpc, Option.some.injEq, Prod.mk.injEq] at hs
  obtain ⟨rfl, -⟩ := hs
  have hh : t = s.holder := hT.hold rfl
  have hop : s.req k = .op := hT.atApply k rfl
  have h0 : s.execs k = 0 := h.opExec k hop (by rw [← hh, hpc]; exact nofun)
  refine KInvR.of_step (q := .cpDone c k) rfl ?_ ?_ (fun u hu => ?_) ?_ <;> dsimp only [St.MInv, St.TInv, St.XInv]
  · refine { h.mem with respExec := fun j hj => ?_, le1 := fun j => ?_ }
    · by_cases e : j = k
      · rw [e, hop] at hj; cases hj
      · rw [upd_other _ _ _ _ e]; exact h.respExec j hj
    · by_cases e : j = k
      · rw [e, upd_same, h0]; exact Nat.le_refl 1
      · rw [upd_other _ _ _ _ e]; exact h.le1 j
  · exact { hT with fin := nofun, atDone := of_some ⟨hop, by rw [upd_same, h0]⟩, atApply := nofun }
  · have hU := h.thread u
    refine ⟨{ hU.toOInv with fin := fun e => ?_ }, CInv.of_not_holds (h.others_idle (hpc ▸ rfl) hu)⟩
    have hk : u ≠ k := fun ek => by
      have hr := hU.noReq (by rw [beq_iff_eq.mp e]; rfl)
      rw [ek, hop] at hr
      cases hr
    rw [upd_other _ _ _ _ hk]
    exact hU.fin e
  · have hX := h.cross.move (q := .cpDone c k) hpc nofun nofun nofun nofun nofun
    refine { hX with opExec := fun j hj hd => ?_ }
    have hjk : j ≠ k := fun e => hd (by rw [← hh, upd_same, e]; rfl)
    rw [upd_other _ _ _ _ hjk]
    exact h.opExec j hj (by rw [← hh, hpc]; exact nofun)

/-- The store of the response into record `k`, whose request has been executed once. -/
theorem step_cpDone {c : CS} {k : Nat} (h : KInvR cfg s) (hpc : s.pc t = .cpDone c k)
    (hs : step cfg s t = some (s', ev)) : KInvR cfg s' := by
  have hT := hpc ▸ h.thread t
  simp only [step, hpc, Option.some.injEq, Prod.mk.injEq] at hs
  obtain ⟨rfl, -⟩ := hs
  have hk := hT.atDone k rfl
  have hreq : ∀ u, upd s.req k .resp u = .resp ∨ upd s.req k .resp u = s.req u := fun u => by
    by_cases e : u = k
    · rw [e, upd_same]; exact Or.inl rfl
    · exact Or.inr (upd_other _ _ _ _ e)
  refine KInvR.of_step (q := .cpNext { c with done := true } (some k)) rfl ?_ ?_ (fun u hu => ?_) ?_ <;>
    dsimp only [St.MInv, St.TInv, St.XInv]
  · refine { h.mem with respExec := fun j hj => ?_ }
    by_cases e : j = k
    · rw [e]; exact hk.2
    · rw [upd_other _ _ _ _ e] at hj; exact h.respExec j hj
  · have hpass : upd s.req k .resp t = .resp ∨
        (c.pass = 0 ∧ aheadStrict s.list (some k) t ∧ s.state t = .active) := by
      by_cases e : t = k
      · rw [e, upd_same]; exact Or.inl rfl
      · rw [upd_other _ _ _ _ e]
        exact (hT.pass c (some k) rfl).imp_right fun e' => ⟨e'.1, e'.2.1.resolve_left e, e'.2.2⟩
    exact { hT with
      noReq := nofun
      someReq := fun _ => (hreq t).elim Or.inr fun e => e ▸ hT.someReq rfl
      rel := nofun
      atDone := nofun
      atApply := nofun
      wtUnl := nofun
      cmb := nofun
      curIn := nofun
      curInN := of_some_pair (hT.curIn c (some k) rfl)
      pass := nofun
      passN := of_some_pair hpass
      post := nofun }
  · have hU := h.thread u
    refine ⟨{ hU.toOInv with
      noReq := fun e => ?_
      someReq := fun e => (hreq u).elim Or.inr fun e' => e' ▸ hU.someReq e
      rel := fun e => (hreq u).elim id fun e' => e' ▸ hU.rel e }, CInv.of_not_holds (h.others_idle (hpc ▸ rfl) hu)⟩
    have huk : u ≠ k := fun ek => by
      have hr := hU.noReq e
      rw [ek, hk.1] at hr
      cases hr
    rw [upd_other _ _ _ _ huk]
    exact hU.noReq e
  · have hX : XInv s.holder (upd s.req k .resp) s.state s.list s.execs s.pc :=
      { h.cross with
        opExec := fun j hj => h.opExec j ((hreq j).elim (fun e => nomatch e.symm.trans hj) fun e => e ▸ hj) }
    exact hX.move hpc nofun (of_some (Or.inr (by rw [upd_same]; exact nofun))) nofun nofun nofun

/-- The walk moves on: what was strictly ahead is now at or ahead of the new position (`ahead_step`); at the end of the
    list nothing is ahead (`ahead_end`), so the combiner's own request has been answered. -/
theorem step_cpNext {c : CS} {p : Cur} (h : KInvR cfg s) (hpc : s.pc t = .cpNext c p)
    (hs : step cfg s t = some (s', ev)) : KInvR cfg s' := by
  have hT := hpc ▸ h.thread t
  simp only [step, hpc, Option.some.injEq, Prod.mk.injEq] at hs
  obtain ⟨rfl, -⟩ := hs
  split
  next k' hsu =>
    exact h.quiet hpc rfl rfl rfl
      { hT with
        curIn := of_some_pair (of_some (succOf_mem hsu))
        curInN := nofun
        pass := of_some_pair ((hT.passN c p rfl).imp_right fun e => ⟨e.1, ahead_step h.nodup hsu e.2.1, e.2.2⟩)
        passN := nofun }
  next hsu =>
    have hresp : s.req t = .resp := (hT.passN c p rfl).elim id fun e => (ahead_end hsu e.2.1).elim
    rcases passEnd_cases cfg c with ⟨c', he, -⟩ | he | he <;> rw [he]
    · exact h.quiet hpc rfl rfl rfl
        { hT with curIn := of_some_pair nofun, curInN := nofun, pass := of_some_pair (Or.inl hresp), passN := nofun }
    · exact h.quiet hpc rfl rfl rfl { hT with curInN := nofun, passN := nofun, post := fun _ => hresp }
    · exact h.quiet hpc rfl rfl rfl { hT with curInN := nofun, passN := nofun, post := fun _ => hresp }

/-! ### compact_list -/

theorem step_ccHd {a : Nat} (h : KInvR cfg s) (hpc : s.pc t = .ccHd a) (hs : step cfg s t = some (s', ev)) :
    KInvR cfg s' := by
  have hT := hpc ▸ h.thread t
  simp only [step, hpc, Option.some.injEq, Prod.mk.injEq] at hs
  obtain ⟨rfl, -⟩ := hs
  cases s.list.head? <;> exact h.quiet hpc rfl rfl rfl { hT with }

theorem step_ccState {a : Nat} {pp : Cur} {k : Nat} (h : KInvR cfg s) (hpc : s.pc t = .ccState a pp k)
    (hs : step cfg s t = some (s', ev)) : KInvR cfg s' := by
  have hT := hpc ▸ h.thread t
  simp only [step, hpc, Option.some.injEq, Prod.mk.injEq] at hs
  obtain ⟨rfl, -⟩ := hs
  split
  next ha => exact h.quiet hpc rfl rfl rfl { hT with ccAct := of_some ha }
  next => exact h.quiet hpc rfl rfl rfl { hT with }

theorem step_ccAge {a : Nat} {pp : Cur} {k : Nat} (h : KInvR cfg s) (hpc : s.pc t = .ccAge a pp k)
    (hs : step cfg s t = some (s', ev)) : KInvR cfg s' := by
  have hT := hpc ▸ h.thread t
  simp only [step, hpc, Option.some.injEq, Prod.mk.injEq] at hs
  obtain ⟨rfl, -⟩ := hs
  split
  next => exact h.quiet hpc rfl rfl rfl { hT with }
  next => exact h.quiet hpc rfl rfl rfl { hT with ccAct := nofun }

theorem step_ccNx {a : Nat} {pp : Cur} {k : Nat} (h : KInvR cfg s) (hpc : s.pc t = .ccNx a pp k)
    (hs : step cfg s t = some (s', ev)) : KInvR cfg s' := by
  have hT := hpc ▸ h.thread t
  simp only [step, hpc, Option.some.injEq, Prod.mk.injEq] at hs
  obtain ⟨rfl, -⟩ := hs
  exact h.quiet hpc rfl rfl rfl { hT with }

/-- The unlinking CAS.  On success record `k`, which is in the list and hence not being published, leaves it while
    still active: the combiner is now about to store `inactive` into it. -/
theorem step_ccCas {a : Nat} {pp : Cur} {k : Nat} {nx : Cur} (h : KInvR cfg s) (hpc : s.pc t = .ccCas a pp k nx)
    (hs : step cfg s t = some (s', ev)) : KInvR cfg s' := by
  have hT := hpc ▸ h.thread t
  simp only [step, hpc] at hs
  split at hs
  next hsu =>
    simp only [Option.some.injEq, Prod.mk.injEq] at hs
    obtain ⟨rfl, -⟩ := hs
    have hsub : ∀ {r}, r ∉ s.list → r ∉ s.list.filter (· ≠ k) := fun hr hin => hr (List.mem_filter.mp hin).1
    have hkout : k ∉ s.list.filter (· ≠ k) := fun hin => by simpa using (List.mem_filter.mp hin).2
    have hkpub : inPub (s.pc k) = false := by
      cases e : inPub (s.pc k)
      · rfl
      · exact absurd (succOf_mem hsu) (h.notIn k e)
    refine KInvR.of_step (q := .ccInact a pp k nx) rfl ?_ ?_ (fun u hu => ?_) ?_ <;>
      dsimp only [St.MInv, St.TInv, St.XInv]
    · exact { h.mem with nodup := List.Pairwise.filter _ h.nodup, inact := fun r hr => hsub (h.inact r hr) }
    · exact { hT with
        notIn := nofun
        inactOut := of_some ⟨hkout, hT.ccAct k rfl⟩
        ccAct := nofun
        cmb := nofun
        curIn := nofun
        curInN := nofun
        pass := nofun
        passN := nofun }
    · have hU := h.thread u
      exact ⟨{ hU.toOInv with notIn := fun e => hsub (hU.notIn e) },
        CInv.of_not_holds (h.others_idle (hpc ▸ rfl) hu)⟩
    · have hX := h.cross.move (q := .ccInact a pp k nx) hpc nofun nofun nofun (of_some (Or.inr hkpub)) nofun
      refine { hX with unlinked := fun r ha hn => ?_ }
      by_cases e : r = k
      · exact Or.inr (by rw [← hT.hold rfl, upd_same, e]; rfl)
      · exact hX.unlinked r ha fun hin => hn (List.mem_filter.mpr ⟨hin, by simpa using e⟩)
  next =>
    simp only [Option.some.injEq, Prod.mk.injEq] at hs
    obtain ⟨rfl, -⟩ := hs
    split <;> exact h.quiet hpc rfl rfl rfl { hT with ccAct := nofun }

/-- The store of `inactive` into the unlinked record `k`, whose owner is outside `publish()`. -/
theorem step_ccInact {a : Nat} {pp : Cur} {k : Nat} {nx : Cur} (h : KInvR cfg s) (hpc : s.pc t = .ccInact a pp k nx)
    (hs : step cfg s t = some (s', ev)) : KInvR cfg s' := by
  have hT := hpc ▸ h.thread t
  simp only [step, hpc, Option.some.injEq, Prod.mk.injEq] at hs
  obtain ⟨rfl, -⟩ := hs
  have hk := hT.inactOut k rfl
  have hkpub : inPub (s.pc k) = false := h.cross.inactPub t k (by rw [hpc]; rfl)
  have hst : ∀ r, upd s.state k .inactive r = .active → r ≠ k ∧ s.state r = .active := fun r hr => by
    by_cases e : r = k
    · rw [e, upd_same] at hr; cases hr
    · exact ⟨e, upd_other s.state k r .inactive e ▸ hr⟩
  refine KInvR.of_step (q := ccGo a pp nx) rfl ?_ ?_ (fun u hu => ?_) ?_ <;> dsimp only [St.MInv, St.TInv, St.XInv]
  · refine { h.mem with inact := fun r hr hin => h.inact r (fun e => hr ?_) hin }
    have hrk : r ≠ k := fun e' => hk.1 (e' ▸ hin)
    rw [upd_other _ _ _ _ hrk]
    exact e
  · cases nx <;> exact { hT with
      preInact := nofun
      linkAct := nofun
      inactOut := nofun
      ccAct := nofun
      cmb := nofun
      pass := nofun
      passN := nofun }
  · have hU := h.thread u
    refine ⟨{ hU.toOInv with preInact := fun e hr => hU.preInact e (hst u hr).2, linkAct := fun e => ?_ },
      CInv.of_not_holds (h.others_idle (hpc ▸ rfl) hu)⟩
    have huk : u ≠ k := fun ek => by
      rw [← ek, isLink_inPub _ e] at hkpub
      cases hkpub
    rw [upd_other _ _ _ _ huk]
    exact hU.linkAct e
  · have hX : XInv s.holder s.req (upd s.state k .inactive) s.list s.execs s.pc :=
      { h.cross with unlinked := fun r ha => h.unlinked r (hst r ha).2 }
    exact hX.move hpc nofun nofun (of_some (Or.inr fun e => nomatch (upd_same s.state k .inactive).symm.trans e))
      (by cases nx <;> exact nofun) (by cases nx <;> exact nofun)

theorem step_ccAdv {a : Nat} {k : Nat} (h : KInvR cfg s) (hpc : s.pc t = .ccAdv a k)
    (hs : step cfg s t = some (s', ev)) : KInvR cfg s' := by
  have hT := hpc ▸ h.thread t
  simp only [step, hpc, Option.some.injEq, Prod.mk.injEq] at hs
  obtain ⟨rfl, -⟩ := hs
  cases succOf s.list (some k) <;> exact h.quiet hpc rfl rfl rfl { hT with }

theorem step_c2Hd (h : KInvR cfg s) (hpc : s.pc t = .c2Hd) (hs : step cfg s t = some (s', ev)) : KInvR cfg s' := by
  have hT := hpc ▸ h.thread t
  simp only [step, hpc, Option.some.injEq, Prod.mk.injEq] at hs
  obtain ⟨rfl, -⟩ := hs
  cases allocList cfg <;> exact h.quiet hpc rfl rfl rfl { hT with }

theorem step_c2State {rest : List Nat} (h : KInvR cfg s) (hpc : s.pc t = .c2State rest)
    (hs : step cfg s t = some (s', ev)) : KInvR cfg s' := by
  have hT := hpc ▸ h.thread t
  cases rest <;> simp only [step, hpc, Option.some.injEq, Prod.mk.injEq] at hs <;> obtain ⟨rfl, -⟩ := hs <;>
    exact h.quiet hpc rfl rfl rfl { hT with }

theorem step_c2Nx {rest : List Nat} (h : KInvR cfg s) (hpc : s.pc t = .c2Nx rest)
    (hs : step cfg s t = some (s', ev)) : KInvR cfg s' := by
  have hT := hpc ▸ h.thread t
  cases rest with
  | nil =>
    simp only [step, hpc, Option.some.injEq, Prod.mk.injEq] at hs
    obtain ⟨rfl, -⟩ := hs
    exact h.quiet hpc rfl rfl rfl { hT with }
  | cons k rest =>
    simp only [step, hpc, Option.some.injEq, Prod.mk.injEq] at hs
    obtain ⟨rfl, -⟩ := hs
    cases rest <;> exact h.quiet hpc rfl rfl rfl { hT with }

/-! ### unlock, wait_for_combining, release_record -/

theorem step_unlock (h : KInvR cfg s) (hpc : s.pc t = .unlock) (hs : step cfg s t = some (s', ev)) : KInvR cfg s' := by
  have hT := hpc ▸ h.thread t
  simp only [step, hpc, Option.some.injEq, Prod.mk.injEq] at hs
  obtain ⟨rfl, -⟩ := hs
  exact h.release hpc rfl rfl
    { hT with lockFree := fun _ => rfl, hold := nofun, rel := fun _ => hT.post rfl, post := nofun }

theorem step_wtReq (h : KInvR cfg s) (hpc : s.pc t = .wtReq) (hs : step cfg s t = some (s', ev)) : KInvR cfg s' := by
  have hT := hpc ▸ h.thread t
  simp only [step, hpc, Option.some.injEq, Prod.mk.injEq] at hs
  obtain ⟨rfl, -⟩ := hs
  split
  next hr => exact h.quiet hpc rfl rfl rfl { hT with rel := fun _ => hr }
  next => exact h.quiet hpc rfl rfl rfl { hT with }

theorem step_wtState (h : KInvR cfg s) (hpc : s.pc t = .wtState) (hs : step cfg s t = some (s', ev)) :
    KInvR cfg s' := by
  have hT := hpc ▸ h.thread t
  simp only [step, hpc, Option.some.injEq, Prod.mk.injEq] at hs
  obtain ⟨rfl, -⟩ := hs
  split
  next => exact h.quiet hpc rfl rfl rfl { hT with }
  next ha => exact h.publish hpc rfl rfl rfl ha { hT with notIn := fun _ => h.inact t ha, preInact := fun _ => ha }

theorem step_wtLock (h : KInvR cfg s) (hpc : s.pc t = .wtLock) (hs : step cfg s t = some (s', ev)) : KInvR cfg s' := by
  have hT := hpc ▸ h.thread t
  simp only [step, hpc, Option.some.injEq, Prod.mk.injEq] at hs
  obtain ⟨rfl, -⟩ := hs
  cases hl : s.lock
  · exact h.acquire hpc hl rfl { hT with lockFree := nofun, hold := fun _ => rfl }
  · exact h.quiet hpc (by simp only [St.mem, hl]; rfl) rfl rfl { hT with }

theorem step_wtReq2 (h : KInvR cfg s) (hpc : s.pc t = .wtReq2) (hs : step cfg s t = some (s', ev)) : KInvR cfg s' := by
  have hT := hpc ▸ h.thread t
  simp only [step, hpc, Option.some.injEq, Prod.mk.injEq] at hs
  obtain ⟨rfl, -⟩ := hs
  split
  next hr => exact h.quiet hpc rfl rfl rfl { hT with wtUnl := fun _ => hr }
  next => exact h.quiet hpc rfl rfl rfl { hT with }

theorem step_wtUnlock (h : KInvR cfg s) (hpc : s.pc t = .wtUnlock) (hs : step cfg s t = some (s', ev)) :
    KInvR cfg s' := by
  have hT := hpc ▸ h.thread t
  simp only [step, hpc, Option.some.injEq, Prod.mk.injEq] at hs
  obtain ⟨rfl, -⟩ := hs
  exact h.release hpc rfl rfl
    { hT with lockFree := fun _ => rfl, hold := nofun, rel := fun _ => hT.wtUnl rfl, wtUnl := nofun }

/-- `release_record` clears the request, which has been answered, hence executed once. -/
theorem step_relSt (h : KInvR cfg s) (hpc : s.pc t = .relSt) (hs : step cfg s t = some (s', ev)) : KInvR cfg s' := by
  have hT := hpc ▸ h.thread t
  simp only [step, hpc, Option.some.injEq, Prod.mk.injEq] at hs
  obtain ⟨rfl, -⟩ := hs
  have hresp : s.req t = .resp := hT.rel rfl
  have hne : ∀ k, s.req k = .op → k ≠ t := fun k hk e => by
    rw [e, hresp] at hk
    cases hk
  refine KInvR.of_step (q := .done) rfl ?_ ?_ (fun u hu => ?_) ?_ <;> dsimp only [St.MInv, St.TInv, St.XInv]
  · refine { h.mem with respExec := fun k hk => ?_ }
    by_cases e : k = t
    · rw [e, upd_same] at hk; cases hk
    · rw [upd_other _ _ _ _ e] at hk; exact h.respExec k hk
  · exact ⟨{ hT.toOInv with
      noReq := fun _ => upd_same _ _ _
      someReq := nofun
      rel := nofun
      fin := fun _ => h.respExec t hresp }, CInv.vacuous rfl⟩
  · exact (h.thread u).with_req (upd_other _ _ _ _ hu) rfl fun k hk => ⟨(upd_other _ _ _ _ (hne k hk)).trans hk, rfl⟩
  · have hX := h.cross.quiet (q := .done) hpc rfl
    refine { hX with opExec := fun k hk => hX.opExec k ?_ }
    by_cases e : k = t
    · rw [e, upd_same] at hk; cases hk
    · rw [upd_other _ _ _ _ e] at hk; exact hk

end CdsVerif.Algo.FC.KernelR
