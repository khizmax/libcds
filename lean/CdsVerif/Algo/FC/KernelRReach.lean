/-
  `KInvR` is preserved by every action of the refined flat-combining kernel machine, hence holds in every reachable state.
-/
import CdsVerif.Algo.FC.KernelRStep
namespace CdsVerif.Algo.FC.KernelR
open CdsVerif.Machine CdsVerif.Spec
open CdsVerif.Algo.FC.Kernel (Cfg RV RS Cont CS)

/-! ### Preservation by every action -/

theorem kinvr_invoke {cfg : Cfg} {s s' : St} {t : Tid} {op : GOp}
    (h : KInvR cfg s) (hs : invoke cfg s t op = some s') : KInvR cfg s' := by
  have hT := h.thread t
  unfold invoke at hs
  split at hs
  next hpc =>
    rw [hpc] at hT
    split at hs
    next hlt =>
      simp only [Option.some.injEq] at hs
      subst hs
      exact h.quiet hpc rfl rfl rfl { hT with bound := fun _ => hlt }
    next => simp at hs
  next => simp at hs

theorem kinvr_result {s s' : St} {cfg : Cfg} {t : Tid} {r : GRet}
    (h : KInvR cfg s) (hs : result s t = some (s', r)) : KInvR cfg s' := by
  have hT := h.thread t
  unfold result at hs
  split at hs
  next hpc =>
    rw [hpc] at hT
    simp only [Option.some.injEq, Prod.mk.injEq] at hs
    obtain ⟨rfl, -⟩ := hs
    exact h.quiet hpc rfl rfl rfl { hT with bound := nofun, fin := nofun }
  next => simp at hs

theorem kinvr_atomic {cfg : Cfg} {s s' : St} {t : Tid} {ev : Ev}
    (h : KInvR cfg s) (hs : step cfg s t = some (s', ev)) : KInvR cfg s' := by
  cases hpc : s.pc t with
  | idle => simp [step, hpc] at hs
  | done => simp [step, hpc] at hs
  | acqLd  => exact step_acqLd h hpc hs
  | pubCnt c => exact step_pubCnt h hpc hs
  | pubAge c a => exact step_pubAge h hpc hs
  | pubAct c => exact step_pubAct h hpc hs
  | pubNx c v => exact step_pubNx h hpc hs
  | reqSt  => exact step_reqSt h hpc hs
  | tryLock  => exact step_tryLock h hpc hs
  | lkRepub  => exact step_lkRepub h hpc hs
  | cmbCnt  => exact step_cmbCnt h hpc hs
  | cpReq c k => exact step_cpReq h hpc hs
  | cpAge c k => exact step_cpAge h hpc hs
  | cpExec c k => exact step_cpExec h hpc hs
  | cpDone c k => exact step_cpDone h hpc hs
  | ccState a pp k => exact step_ccState h hpc hs
  | ccAge a pp k => exact step_ccAge h hpc hs
  | ccNx a pp k => exact step_ccNx h hpc hs
  | c2Hd  => exact step_c2Hd h hpc hs
  | unlock  => exact step_unlock h hpc hs
  | wtReq  => exact step_wtReq h hpc hs
  | wtState  => exact step_wtState h hpc hs
  | wtLock  => exact step_wtLock h hpc hs
  | wtReq2  => exact step_wtReq2 h hpc hs
  | wtUnlock  => exact step_wtUnlock h hpc hs
  | relSt  => exact step_relSt h hpc hs
  | pubHd c => exact step_pubHd h hpc hs
  | pubCas c v => exact step_pubCas h hpc hs
  | cpState c p => exact step_cpState h hpc hs
  | cpNext c p => exact step_cpNext h hpc hs
  | ccHd a => exact step_ccHd h hpc hs
  | ccCas a pp k nx => exact step_ccCas h hpc hs
  | ccInact a pp k nx => exact step_ccInact h hpc hs
  | ccAdv a k => exact step_ccAdv h hpc hs
  | c2State rest => exact step_c2State h hpc hs
  | c2Nx rest => exact step_c2Nx h hpc hs

theorem kinvr_step (cfg : Cfg) (s : St) (t : Tid) (a : Act) (s' : St) (o : Obs)
    (h : KInvR cfg s) (hap : (model cfg).apply s t a = some (s', o)) : KInvR cfg s' := by
  rcases Model.apply_cases hap with ⟨op, -, hs, -⟩ | ⟨e, -, hs, -⟩ | ⟨r, -, hs, -⟩
  · exact kinvr_invoke (op := op) h hs
  · exact kinvr_atomic h hs
  · exact kinvr_result h hs

/-- The invariant holds in every reachable state, for every configuration. -/
theorem kinvr_reachable (cfg : Cfg) (s : St) (h : (model cfg).Reachable (init cfg) s) : KInvR cfg s :=
  (model cfg).inv_reachable (KInvR cfg) (init cfg) (kinvr_init cfg) (kinvr_step cfg) s h

end CdsVerif.Algo.FC.KernelR
