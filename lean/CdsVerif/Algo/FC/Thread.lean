/-
  Small facts for invariants whose clauses are guarded by a classification of one thread's program counter
  (`KernelInv.lean`, `KernelRThread.lean`).
-/
import CdsVerif.Base.Machine
namespace CdsVerif.Algo.FC
open CdsVerif.Machine

/-- A clause about the value of a classifier, at a program counter where that value is `a`. -/
theorem of_some {α : Type} {a : α} {P : α → Prop} (h : P a) : ∀ k, some a = some k → P k :=
  fun _ e => Option.some.inj e ▸ h

theorem of_some_pair {α β : Type} {a : α} {b : β} {P : α → β → Prop} (h : P a b) :
    ∀ c p, some (a, b) = some (c, p) → P c p :=
  fun _ _ e => (Prod.mk.inj (Option.some.inj e)).1 ▸ (Prod.mk.inj (Option.some.inj e)).2 ▸ h

end CdsVerif.Algo.FC
