/-
  What the two scan strategies keep and free, as membership equations of `classicScan` / `inplaceScan`.
-/
import CdsVerif.Algo.HP.Scan
namespace CdsVerif.Algo.HP

theorem insertSorted_perm (x : Ptr) (l : List Ptr) : (insertSorted x l).Perm (x :: l) := by
  induction l with
  | nil => simp [insertSorted]
  | cons y ys ih =>
    simp only [insertSorted]
    split
    · exact List.Perm.refl _
    · exact (List.Perm.cons y ih).trans (List.Perm.swap x y ys)

theorem sortPtrs_perm (l : List Ptr) : (sortPtrs l).Perm l := by
  induction l with
  | nil => simp [sortPtrs]
  | cons x xs ih => exact (insertSorted_perm x (sortPtrs xs)).trans (List.Perm.cons x ih)

/-- `binary_search( plist, p )`: the plist holds the non-null collected hazards. -/
theorem contains_plist {hazards : List Ptr} {p : Ptr} :
    (hazards.filter (· ≠ 0)).contains p = true ↔ p ∈ hazards ∧ p ≠ 0 := by
  simp

/-- Both strategies keep the retired entries that equal a non-null hazard ... -/
theorem mem_classicScan_kept {hazards retired : List Ptr} {p : Ptr} :
    p ∈ (classicScan hazards retired).1 ↔ p ∈ retired ∧ p ∈ hazards ∧ p ≠ 0 := by
  simp only [classicScan, List.mem_filter, contains_plist]

/-- ... and free the others. -/
theorem mem_classicScan_freed {hazards retired : List Ptr} {p : Ptr} :
    p ∈ (classicScan hazards retired).2 ↔ p ∈ retired ∧ ¬ (p ∈ hazards ∧ p ≠ 0) := by
  simp only [classicScan, List.mem_filter, Bool.not_eq_true', ← Bool.not_eq_true, contains_plist]

theorem mem_inplaceScan_kept {hazards retired : List Ptr} {p : Ptr} :
    p ∈ (inplaceScan hazards retired).1 ↔ p ∈ retired ∧ p ∈ hazards ∧ p ≠ 0 := by
  unfold inplaceScan
  split
  · exact mem_classicScan_kept
  · simp only [List.mem_filter, (sortPtrs_perm retired).mem_iff, contains_plist]

theorem mem_inplaceScan_freed {hazards retired : List Ptr} {p : Ptr} :
    p ∈ (inplaceScan hazards retired).2 ↔ p ∈ retired ∧ ¬ (p ∈ hazards ∧ p ≠ 0) := by
  unfold inplaceScan
  split
  · exact mem_classicScan_freed
  · simp only [List.mem_filter, (sortPtrs_perm retired).mem_iff, Bool.not_eq_true', ← Bool.not_eq_true, contains_plist]

/-- A retired entry is kept or freed, not both. -/
theorem classicScan_split (hazards : List Ptr) {retired : List Ptr} {p : Ptr} (hp : p ∈ retired) :
    (p ∈ (classicScan hazards retired).1 ∧ p ∉ (classicScan hazards retired).2) ∨
    (p ∉ (classicScan hazards retired).1 ∧ p ∈ (classicScan hazards retired).2) := by
  rw [mem_classicScan_kept, mem_classicScan_freed]
  by_cases h : p ∈ hazards ∧ p ≠ 0
  · exact Or.inl ⟨⟨hp, h⟩, fun hf => hf.2 h⟩
  · exact Or.inr ⟨fun hk => h hk.2, hp, h⟩

end CdsVerif.Algo.HP
