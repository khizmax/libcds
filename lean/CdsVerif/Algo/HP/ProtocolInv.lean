/-
  The inductive invariant of the hazard-pointer protocol machine (`Algo/HP/Protocol.lean`), preserved by
  every enabled action of every thread - hence true in every reachable state, for every configuration
  (`H`, `T`, `R`), every schedule and every client program.

  Conjuncts (names of the fields of `PInv`):
    (I0) allocation: `cnt_pos fresh_hi fresh_zero` - objects at or above the counter, and the null address 0,
         are `fresh`;
    (I1) places: a cell holds only `live` objects and an object is in at most one cell (`cell_live cell_inj`);
         an object that a `swap`/`take` has unlinked and not yet pushed is `live`, in no cell, and in flight in
         exactly one thread (`flight_live flight_cell flight_inj`); a retired array holds only `retired`
         objects (`ret_st`); the disposer log is exactly the set of `disposed` objects (`log_st`);
    (I2) the retired arrays are duplicate-free and pairwise disjoint, the disposer log is duplicate-free
         (`ret_nodup ret_disj log_nodup`);
    (I3) a validated guard's slot still holds the pointer (`guard_slot`), guards live in existing slots
         (`guard_rng`), and - THE SAFETY PROPERTY - a guarded object is `live` or `retired` (`guard_ok`);
    (I4) a thread in the middle of a scan that has already read slot (u,g): if `guard u g = some p` and `p` is in
         the scanner's retired array then `p` is in its plist (`scan_cov` while loading, `scan_all` at the
         decision step, where every slot has been read);
    (I5) a thread between its hazard store and its validating re-load claims nothing about its candidate
         (`protChk_slot` only records that the slot holds it).  When the validation succeeds the candidate is in
         the cell at that step, hence `live`, hence in nobody's retired array (`cell_live`, `ret_st`): this
         is what keeps (I4) true when a guard becomes validated after a scanner has passed its slot.
    bookkeeping: `scan_rng busy_rng protLd_rng protSt_rng deref_ok`.

  Further down:
    * `obj_step` / `obj_apply`: the life cycle fresh -> live -> retired -> disposed only moves forward;
    * `Quiet` and `quiet_step` / `quiet_apply`: "nothing refers to the retired object p any more" is stable;
    * `decide_unguarded`, `disposed_step`, `decide_step`, `use_event`: facts about single steps;
    * `PPlace` (second invariant, on top of `PInv`): completeness of the places - a live object is in a cell or in
      flight, a retired object is in some retired array (nothing is lost).

  Proof style.  `PInv` is split into the clauses about the memory alone (`Places`, `Guards`), the clauses about the
  memory and the program counter of ONE thread (`TInv`) and the one clause about the program counters of TWO threads
  (`Excl`).  A step of thread `t` rewrites `s.pc t` and a little memory, so (`PInv.frame`) the memory clauses are
  re-established by a lemma about that kind of memory change, `TInv` is established for the new program counter of `t`,
  and the other threads' `TInv` has to survive the change of the memory: `TInv.transfer` says what of the memory `TInv`
  reads, and there is one corollary of it per kind of change.  A scanning thread reads the hazard slots of the other
  threads; that is a clause about the memory (`scan_cov` speaks of `guard`), not about their program counters.
-/
import CdsVerif.Algo.HP.Protocol
import CdsVerif.Algo.HP.Common
import CdsVerif.Props.C01
import CdsVerif.Props.C03
namespace CdsVerif.Algo.HP.Protocol
open CdsVerif.Machine CdsVerif.Spec CdsVerif.Algo.HP

structure Decision (acc rl kept freed : List Ptr) : Prop where
  kept_sub : ∀ p, p ∈ kept → p ∈ rl
  freed_sub : ∀ p, p ∈ freed → p ∈ rl
  split : ∀ p, p ∈ rl → p ∈ kept ∨ p ∈ freed
  disj : ∀ p, p ∈ kept → p ∉ freed
  kept_nodup : kept.Nodup
  freed_nodup : freed.Nodup
  safe : ∀ p, p ∈ freed → p ≠ 0 → p ∉ acc
  live : ∀ p, p ∈ rl → p ∉ acc → p ∈ freed

theorem decision (acc rl : List Ptr) (hnd : rl.Nodup) :
    Decision acc rl (classicScan acc rl).1 (classicScan acc rl).2 := by
  have hperm := CdsVerif.Props.C03.C03_classic_scan_partition acc rl
  have hnd2 : ((classicScan acc rl).1 ++ (classicScan acc rl).2).Nodup := hperm.nodup_iff.mpr hnd
  rw [List.nodup_append] at hnd2
  constructor
  · intro p hp; exact hperm.mem_iff.mp (List.mem_append_left _ hp)
  · intro p hp; exact hperm.mem_iff.mp (List.mem_append_right _ hp)
  · intro p hp; exact List.mem_append.mp (hperm.mem_iff.mpr hp)
  · intro p hk hf; exact hnd2.2.2 p hk p hf rfl
  · exact hnd2.1
  · exact hnd2.2.1
  · exact CdsVerif.Props.C01.C01_classic_scan_frees_no_hazard acc rl
  · intro p hp hn; exact CdsVerif.Props.C03.C03_classic_unprotected_freed acc rl p hp hn

structure PInv (cfg : Cfg) (s : St) : Prop where
  cnt_pos : 1 ≤ s.cnt
  fresh_hi : ∀ p, s.cnt ≤ p → s.obj p = .fresh
  fresh_zero : s.obj 0 = .fresh
  cell_live : ∀ c p, s.cells c = some p → s.obj p = .live
  cell_inj : ∀ c1 c2 p, s.cells c1 = some p → s.cells c2 = some p → c1 = c2
  flight_live : ∀ t p r, s.pc t = .swapRet p r → s.obj p = .live
  flight_cell : ∀ t p r c, s.pc t = .swapRet p r → s.cells c ≠ some p
  flight_inj : ∀ t1 t2 p r1 r2, s.pc t1 = .swapRet p r1 → s.pc t2 = .swapRet p r2 → t1 = t2
  ret_st : ∀ t p, p ∈ s.retired t → s.obj p = .retired
  ret_nodup : ∀ t, (s.retired t).Nodup
  ret_disj : ∀ t1 t2 p, p ∈ s.retired t1 → p ∈ s.retired t2 → t1 = t2
  log_st : ∀ p, p ∈ s.log ↔ s.obj p = .disposed
  log_nodup : s.log.Nodup
  guard_slot : ∀ t g p, s.guard t g = some p → s.slots t g = some p
  guard_rng : ∀ t g p, s.guard t g = some p → t < cfg.T ∧ g < cfg.H
  guard_ok : ∀ t g p, s.guard t g = some p → s.obj p = .live ∨ s.obj p = .retired
  scan_cov : ∀ sc su sg acc r u g p, s.pc sc = .scanLd su sg acc r →
      s.guard u g = some p → p ∈ s.retired sc → p ∈ acc ∨ su < u ∨ (su = u ∧ sg ≤ g)
  scan_all : ∀ sc acc r u g p, s.pc sc = .scanDecide acc r →
      s.guard u g = some p → p ∈ s.retired sc → p ∈ acc
  scan_rng : ∀ t u g acc r, s.pc t = .scanLd u g acc r → u < cfg.T ∧ g < cfg.H
  deref_ok : ∀ t g, s.pc t = .derefRd g → ∃ p, s.guard t g = some p
  busy_rng : ∀ t, s.pc t ≠ .idle → t < cfg.T
  protLd_rng : ∀ t g c, s.pc t = .protLd g c → g < cfg.H
  protSt_rng : ∀ t g c p, s.pc t = .protSt g c p → g < cfg.H
  protChk_slot : ∀ t g c p, s.pc t = .protChk g c p → g < cfg.H ∧ s.slots t g = p

theorem pinv_init (cfg : Cfg) : PInv cfg init := by
  constructor <;> simp [init]


/-- the plist of a scanning thread -/
def accOf : PC → List Ptr
  | .scanLd _ _ acc _ => acc
  | .scanDecide acc _ => acc
  | _ => []

theorem mem_collect {acc : List Ptr} {v : Option Ptr} {p : Ptr} :
    p ∈ collect acc v ↔ p ∈ acc ∨ v = some p := by
  cases v <;> simp [collect, eq_comm]

/-! ### Thread-modular form of the invariant -/

section
variable {cfg : Cfg} {cells : Nat → Option Ptr} {slots guard : Nat → Nat → Option Ptr} {obj : Ptr → ObjSt} {cnt : Nat}
  {retired : Tid → List Ptr} {log : List Ptr}

theorem states : States ObjSt.fresh ObjSt.live ObjSt.retired ObjSt.disposed :=
  ⟨nofun, nofun, nofun, nofun, nofun, nofun⟩

/-- The clauses of `PInv` about where the objects are. -/
abbrev Places (cells : Nat → Option Ptr) (obj : Ptr → ObjSt) (cnt : Nat) (retired : Tid → List Ptr) (log : List Ptr) :
    Prop :=
  HP.Places ObjSt.fresh ObjSt.live ObjSt.retired ObjSt.disposed cells obj cnt retired log

/-- The clauses of `PInv` about the validated guards. -/
structure Guards (cfg : Cfg) (slots guard : Nat → Nat → Option Ptr) (obj : Ptr → ObjSt) : Prop where
  guard_slot : ∀ t g p, guard t g = some p → slots t g = some p
  guard_rng : ∀ t g p, guard t g = some p → t < cfg.T ∧ g < cfg.H
  guard_ok : ∀ t g p, guard t g = some p → obj p = .live ∨ obj p = .retired

/-- the object a `swap` / `take` has unlinked and not yet pushed -/
def flight : PC → Option Ptr
  | .swapRet p _ => some p
  | _ => none

def inScan : PC → Prop
  | .scanLd _ _ _ _ => True
  | .scanDecide _ _ => True
  | _ => False

/-- the hazard slot a scan is about to load -/
def scanAt : PC → Option (Nat × Nat)
  | .scanLd u g _ _ => some (u, g)
  | _ => none

/-- Slot (u,g) has not yet been loaded by the scan at `pc`. -/
def ahead : PC → Nat → Nat → Prop
  | .scanLd su sg _ _, u, g => su < u ∨ (su = u ∧ sg ≤ g)
  | _, _, _ => False

def busy : PC → Prop
  | .idle => False
  | _ => True

/-- the slot a `protect` works on -/
def protAt : PC → Option Nat
  | .protLd g _ => some g
  | .protSt g _ _ => some g
  | .protChk g _ _ => some g
  | _ => none

/-- the slot and the candidate of a `protect` between its hazard store and its validating load -/
def chkAt : PC → Option (Nat × Option Ptr)
  | .protChk g _ p => some (g, p)
  | _ => none

def derefAt : PC → Option Nat
  | .derefRd g => some g
  | _ => none

/-- What `PInv` says about thread `t` at program counter `pc`.  The program counter enters through classifying functions
    only, so that the clauses of two program counters with the same classification are the same propositions up to
    computation. -/
structure TInv (cfg : Cfg) (cells : Nat → Option Ptr) (slots guard : Nat → Nat → Option Ptr) (obj : Ptr → ObjSt)
    (retired : Tid → List Ptr) (t : Tid) (pc : PC) : Prop where
  flight_live : ∀ p, flight pc = some p → obj p = .live
  flight_cell : ∀ p c, flight pc = some p → cells c ≠ some p
  scan_cov : inScan pc → ∀ u g p, guard u g = some p → p ∈ retired t → p ∈ accOf pc ∨ ahead pc u g
  scan_rng : ∀ u g, scanAt pc = some (u, g) → u < cfg.T ∧ g < cfg.H
  deref_ok : ∀ g, derefAt pc = some g → ∃ p, guard t g = some p
  busy_rng : busy pc → t < cfg.T
  prot_rng : ∀ g, protAt pc = some g → g < cfg.H
  chk_slot : ∀ g p, chkAt pc = some (g, p) → slots t g = p

/-- Two threads at `p` and `q` do not hold the same unlinked object. -/
def Excl (p q : PC) : Prop := ∀ x, flight p = some x → flight q ≠ some x

theorem PInv.places {s : St} (h : PInv cfg s) : Places s.cells s.obj s.cnt s.retired s.log :=
  ⟨h.cnt_pos, h.fresh_hi, h.fresh_zero, h.cell_live, h.cell_inj, h.ret_st, h.ret_nodup, h.ret_disj, h.log_st,
   h.log_nodup⟩

theorem PInv.guards {s : St} (h : PInv cfg s) : Guards cfg s.slots s.guard s.obj :=
  ⟨h.guard_slot, h.guard_rng, h.guard_ok⟩

theorem PInv.thread {s : St} (h : PInv cfg s) (t : Tid) : TInv cfg s.cells s.slots s.guard s.obj s.retired t (s.pc t) where
  flight_live := fun p e => by
    cases hp : s.pc t <;> simp only [hp, flight, Option.some.injEq, reduceCtorEq] at e
    exact e ▸ h.flight_live t _ _ hp
  flight_cell := fun p c e => by
    cases hp : s.pc t <;> simp only [hp, flight, Option.some.injEq, reduceCtorEq] at e
    exact e ▸ h.flight_cell t _ _ c hp
  scan_cov := fun e u g p hg hr => by
    cases hp : s.pc t <;> simp only [hp, inScan] at e
    · exact h.scan_cov t _ _ _ _ u g p hp hg hr
    · exact Or.inl (h.scan_all t _ _ u g p hp hg hr)
  scan_rng := fun u g e => by
    cases hp : s.pc t <;> simp only [hp, scanAt, Option.some.injEq, Prod.mk.injEq, reduceCtorEq] at e
    exact e.1 ▸ e.2 ▸ h.scan_rng t _ _ _ _ hp
  deref_ok := fun g e => by
    cases hp : s.pc t <;> simp only [hp, derefAt, Option.some.injEq, reduceCtorEq] at e
    exact e ▸ h.deref_ok t _ hp
  busy_rng := fun e => h.busy_rng t fun hp => by rw [hp] at e; exact e
  prot_rng := fun g e => by
    cases hp : s.pc t <;> simp only [hp, protAt, Option.some.injEq, reduceCtorEq] at e
    · exact e ▸ h.protLd_rng t _ _ hp
    · exact e ▸ h.protSt_rng t _ _ _ hp
    · exact e ▸ (h.protChk_slot t _ _ _ hp).1
  chk_slot := fun g p e => by
    cases hp : s.pc t <;> simp only [hp, chkAt, Option.some.injEq, Prod.mk.injEq, reduceCtorEq] at e
    exact e.1 ▸ e.2 ▸ (h.protChk_slot t _ _ _ hp).2

theorem PInv.excl {s : St} (h : PInv cfg s) {t u : Tid} (hne : t ≠ u) : Excl (s.pc t) (s.pc u) := fun x e1 e2 => by
  cases hp : s.pc t <;> simp only [hp, flight, Option.some.injEq, reduceCtorEq] at e1
  cases hq : s.pc u <;> simp only [hq, flight, Option.some.injEq, reduceCtorEq] at e2
  exact hne (h.flight_inj t u x _ _ (e1 ▸ hp) (e2 ▸ hq))

theorem PInv.of_parts {s : St} (hP : Places s.cells s.obj s.cnt s.retired s.log) (hG : Guards cfg s.slots s.guard s.obj)
    (hT : ∀ t, TInv cfg s.cells s.slots s.guard s.obj s.retired t (s.pc t))
    (hE : ∀ t u, t ≠ u → Excl (s.pc t) (s.pc u)) : PInv cfg s where
  cnt_pos := hP.cnt_pos
  fresh_hi := hP.fresh_hi
  fresh_zero := hP.fresh_zero
  cell_live := hP.cell_live
  cell_inj := hP.cell_inj
  flight_live := fun t p r e => (hT t).flight_live p (by rw [e]; rfl)
  flight_cell := fun t p r c e => (hT t).flight_cell p c (by rw [e]; rfl)
  flight_inj := fun t u p r1 r2 e1 e2 => Classical.byContradiction fun hne =>
    hE t u hne p (by rw [e1]; rfl) (by rw [e2]; rfl)
  ret_st := hP.ret_st
  ret_nodup := hP.ret_nodup
  ret_disj := hP.ret_disj
  log_st := hP.log_st
  log_nodup := hP.log_nodup
  guard_slot := hG.guard_slot
  guard_rng := hG.guard_rng
  guard_ok := hG.guard_ok
  scan_cov := fun sc su sg acc r u g p e hg hr => by
    have hc := (hT sc).scan_cov (by rw [e]; trivial) u g p hg hr
    rw [e] at hc
    exact hc
  scan_all := fun sc acc r u g p e hg hr => by
    have hc := (hT sc).scan_cov (by rw [e]; trivial) u g p hg hr
    rw [e] at hc
    exact hc.elim id False.elim
  scan_rng := fun t u g acc r e => (hT t).scan_rng u g (by rw [e]; rfl)
  deref_ok := fun t g e => (hT t).deref_ok g (by rw [e]; rfl)
  busy_rng := fun t e => (hT t).busy_rng (by cases hp : s.pc t <;> first | exact absurd hp e | trivial)
  protLd_rng := fun t g c e => (hT t).prot_rng g (by rw [e]; rfl)
  protSt_rng := fun t g c p e => (hT t).prot_rng g (by rw [e]; rfl)
  protChk_slot := fun t g c p e => ⟨(hT t).prot_rng g (by rw [e]; rfl), (hT t).chk_slot g p (by rw [e]; rfl)⟩

/-- The rule for one step of thread `t` to program counter `q`: the memory clauses hold of the new memory, the thread
    clauses hold of `q` and, for the other threads, survive the change of the memory, and `q` holds no object in flight
    that another thread holds. -/
theorem PInv.frame {s s' : St} {t : Tid} {q : PC} (h : PInv cfg s) (hpc : s'.pc = upd s.pc t q)
    (hP : Places s'.cells s'.obj s'.cnt s'.retired s'.log) (hG : Guards cfg s'.slots s'.guard s'.obj)
    (hT : TInv cfg s'.cells s'.slots s'.guard s'.obj s'.retired t q)
    (hO : ∀ u, u ≠ t → TInv cfg s'.cells s'.slots s'.guard s'.obj s'.retired u (s.pc u))
    (hE : ∀ u, u ≠ t → Excl q (s.pc u)) : PInv cfg s' :=
  PInv.of_parts hP hG (hpc ▸ forall_upd hT hO) fun _ _ huv =>
    hpc ▸ pairs_upd (E := Excl) (fun e x eq ep => e x ep eq) (fun _ _ => h.excl) hE huv

/-- A step that only moves the program counter of `t`, to a `q` that holds no new object in flight. -/
theorem PInv.move {s : St} {t : Tid} {q : PC} (h : PInv cfg s)
    (hT : TInv cfg s.cells s.slots s.guard s.obj s.retired t q) (hf : ∀ x, flight q = some x → flight (s.pc t) = some x) :
    PInv cfg { s with pc := upd s.pc t q } :=
  h.frame rfl h.places h.guards hT (fun u _ => h.thread u) (fun _ hu x e => h.excl (Ne.symm hu) x (hf x e))

/-- `TInv` reads the memory only through the state and the cells of the object in flight, the validated guards
    against the thread's own retired array, and the thread's own guards and slots. -/
theorem TInv.transfer {cells' : Nat → Option Ptr} {slots' guard' : Nat → Nat → Option Ptr} {obj' : Ptr → ObjSt}
    {retired' : Tid → List Ptr} {u : Tid} {pc : PC} (h : TInv cfg cells slots guard obj retired u pc)
    (hlive : ∀ p, flight pc = some p → obj' p = .live)
    (hcell : ∀ p c, flight pc = some p → cells' c ≠ some p)
    (hcov : inScan pc → ∀ v g p, guard' v g = some p → p ∈ retired' u → guard v g = some p ∧ p ∈ retired u)
    (hgd : ∀ g, derefAt pc = some g → ∀ p, guard u g = some p → guard' u g = some p)
    (hsl : ∀ g p, chkAt pc = some (g, p) → slots' u g = slots u g) :
    TInv cfg cells' slots' guard' obj' retired' u pc where
  flight_live := hlive
  flight_cell := hcell
  scan_cov := fun e v g p hg hr => (hcov e v g p hg hr).elim fun hg' hr' => h.scan_cov e v g p hg' hr'
  scan_rng := h.scan_rng
  deref_ok := fun g e => (h.deref_ok g e).imp fun p hp => hgd g e p hp
  busy_rng := h.busy_rng
  prot_rng := h.prot_rng
  chk_slot := fun g p e => (hsl g p e).trans (h.chk_slot g p e)

/-! ### The kinds of memory change -/

/-- Thread `t` stores `v` into its hazard slot `g`; the slot's validated guard is gone. -/
theorem Guards.publish (h : Guards cfg slots guard obj) (t g : Nat) (v : Option Ptr) :
    Guards cfg (upd2 slots t g v) (upd2 guard t g none) obj where
  guard_slot := fun u g' p e =>
    (upd2_other _ _ _ _ _ _ (of_upd2_none e).1).trans (h.guard_slot u g' p (of_upd2_none e).2)
  guard_rng := fun u g' p e => h.guard_rng u g' p (of_upd2_none e).2
  guard_ok := fun u g' p e => h.guard_ok u g' p (of_upd2_none e).2

/-- The hazard store of `t` does not disturb a thread that relies on no slot of `t`. -/
theorem TInv.publish {u : Tid} {pc : PC} (h : TInv cfg cells slots guard obj retired u pc) (t g : Nat) (v : Option Ptr)
    (hu : u ≠ t ∨ (derefAt pc = none ∧ chkAt pc = none)) :
    TInv cfg cells (upd2 slots t g v) (upd2 guard t g none) obj retired u pc :=
  h.transfer h.flight_live h.flight_cell (fun _ v' g' p e hr => ⟨(of_upd2_none e).2, hr⟩)
    (fun g' e p hp => hu.elim (fun hu => (upd2_other _ _ _ _ _ _ fun e' => hu e'.1).trans hp) fun hn => by simp [hn.1] at e)
    (fun g' p e => hu.elim (fun hu => upd2_other _ _ _ _ _ _ fun e' => hu e'.1) fun hn => by simp [hn.2] at e)

/-- The validating load of `t` found its candidate `p` in the cell, so `p` is live: guard `g` of `t` is validated. -/
theorem Guards.validate (h : Guards cfg slots guard obj) {t g : Nat} {p : Option Ptr} (hs : slots t g = p)
    (hr : t < cfg.T ∧ g < cfg.H) (hl : ∀ x, p = some x → obj x = .live) : Guards cfg slots (upd2 guard t g p) obj where
  guard_slot := fun u g' x e => by
    rcases upd2_eq guard t g u g' p with ⟨rfl, rfl, e'⟩ | ⟨-, e'⟩
    · exact hs.trans (e'.symm.trans e)
    · exact h.guard_slot u g' x (e'.symm.trans e)
  guard_rng := fun u g' x e => by
    rcases upd2_eq guard t g u g' p with ⟨rfl, rfl, -⟩ | ⟨-, e'⟩
    · exact hr
    · exact h.guard_rng u g' x (e'.symm.trans e)
  guard_ok := fun u g' x e => by
    rcases upd2_eq guard t g u g' p with ⟨-, -, e'⟩ | ⟨-, e'⟩
    · exact Or.inl (hl x (e'.symm.trans e))
    · exact h.guard_ok u g' x (e'.symm.trans e)

/-- A newly validated guard holds a live object, which is in no retired array: no scan is concerned. -/
theorem TInv.validate {u : Tid} {pc : PC} (h : TInv cfg cells slots guard obj retired u pc)
    (hP : Places cells obj cnt retired log) {t g : Nat} {p : Option Ptr} (hl : ∀ x, p = some x → obj x = .live)
    (hu : u ≠ t ∨ derefAt pc = none) : TInv cfg cells slots (upd2 guard t g p) obj retired u pc :=
  h.transfer h.flight_live h.flight_cell
    (fun _ v g' x e hr => by
      rcases upd2_eq guard t g v g' p with ⟨-, -, e'⟩ | ⟨-, e'⟩
      · have h1 := hl x (e'.symm.trans e)
        rw [hP.ret_st u x hr] at h1
        cases h1
      · exact ⟨e'.symm.trans e, hr⟩)
    (fun g' e x hx => hu.elim (fun hu => (upd2_other _ _ _ _ _ _ fun e' => hu e'.1).trans hx) fun hn => by simp [hn] at e)
    (fun _ _ _ => rfl)

/-- The guards tolerate every change of object states that keeps `live` and `retired` objects `live` or `retired`. -/
theorem Guards.with_obj (h : Guards cfg slots guard obj) {obj' : Ptr → ObjSt}
    (hk : ∀ t g p, guard t g = some p → obj p = .live ∨ obj p = .retired → obj' p = .live ∨ obj' p = .retired) :
    Guards cfg slots guard obj' :=
  ⟨h.guard_slot, h.guard_rng, fun t g p e => hk t g p e (h.guard_ok t g p e)⟩

/-- A change of cells, object states and the retired arrays of other threads. -/
theorem TInv.objects {cells' : Nat → Option Ptr} {obj' : Ptr → ObjSt} {retired' : Tid → List Ptr} {u : Tid} {pc : PC}
    (h : TInv cfg cells slots guard obj retired u pc) (hlive : ∀ p, flight pc = some p → obj' p = .live)
    (hcell : ∀ p c, flight pc = some p → cells' c ≠ some p) (hret : retired' u = retired u) :
    TInv cfg cells' slots guard obj' retired' u pc :=
  h.transfer hlive hcell (fun _ _ _ _ e hr => ⟨e, hret ▸ hr⟩) (fun _ _ _ hp => hp) (fun _ _ _ => rfl)

theorem TInv.alloc {u : Tid} {pc : PC} (h : TInv cfg cells slots guard obj retired u pc)
    (hP : Places cells obj cnt retired log) (c : Nat) :
    TInv cfg (upd cells c (some cnt)) slots guard (upd obj cnt .live) retired u pc :=
  have hl : ∀ p, flight pc = some p → upd obj cnt .live p = .live := fun p e => by
    have hl := h.flight_live p e
    exact ((hP.alloc states c).2 p (by simp [hl])).trans hl
  h.objects hl
    (fun p c' e e' => by
      by_cases hc : c' = c
      · rw [hc, upd_same] at e'
        have h2 := hP.fresh_hi cnt (Nat.le_refl _)
        rw [Option.some.inj e', h.flight_live p e] at h2
        cases h2
      · rw [upd_other _ _ _ _ hc] at e'; exact h.flight_cell p c' e e')
    rfl

theorem Guards.alloc (h : Guards cfg slots guard obj) (hP : Places cells obj cnt retired log) :
    Guards cfg slots guard (upd obj cnt .live) :=
  h.with_obj fun _ _ p _ hp => by
    rw [(hP.alloc states 0).2 p (by rcases hp with hp | hp <;> simp [hp])]; exact hp

theorem TInv.take {u : Tid} {pc : PC} (h : TInv cfg cells slots guard obj retired u pc) (c : Nat) :
    TInv cfg (upd cells c none) slots guard obj retired u pc :=
  h.objects h.flight_live
    (fun x c' e e' => by
      by_cases hc : c' = c
      · rw [hc, upd_same] at e'; cases e'
      · rw [upd_other _ _ _ _ hc] at e'; exact h.flight_cell x c' e e')
    rfl

theorem Guards.retire (h : Guards cfg slots guard obj) (p : Ptr) : Guards cfg slots guard (upd obj p .retired) :=
  h.with_obj fun _ _ q _ hq => by
    by_cases e : q = p
    · rw [e, upd_same]; exact Or.inr rfl
    · rw [upd_other _ _ _ _ e]; exact hq

/-- The push of another thread, which holds a different object in flight. -/
theorem TInv.retire {u : Tid} {pc : PC} (h : TInv cfg cells slots guard obj retired u pc) {p : Ptr}
    (hne : flight pc ≠ some p) {retired' : Tid → List Ptr} (hu : retired' u = retired u) :
    TInv cfg cells slots guard (upd obj p .retired) retired' u pc :=
  h.objects (fun x e => (upd_other _ _ _ _ fun (e' : x = p) => hne (e' ▸ e)).trans (h.flight_live x e)) h.flight_cell hu

theorem Guards.decide (h : Guards cfg slots guard obj) {freed : List Ptr}
    (hsafe : ∀ u g p, guard u g = some p → p ∉ freed) :
    Guards cfg slots guard (fun p => if p ∈ freed then .disposed else obj p) :=
  h.with_obj fun u g p hg hp => by rw [if_neg (hsafe u g p hg)]; exact hp

/-- The decision of another thread, which frees only objects of its own retired array: none in flight. -/
theorem TInv.decide {u : Tid} {pc : PC} (h : TInv cfg cells slots guard obj retired u pc) {freed : List Ptr}
    (hfr : ∀ p, p ∈ freed → obj p = .retired) {retired' : Tid → List Ptr} (hu : retired' u = retired u) :
    TInv cfg cells slots guard (fun p => if p ∈ freed then .disposed else obj p) retired' u pc :=
  h.objects
    (fun x e => by
      have hl := h.flight_live x e
      rw [if_neg fun hf => by rw [hfr x hf] at hl; cases hl]; exact hl)
    h.flight_cell hu

/-- A finished operation claims nothing. -/
theorem TInv.done {t : Tid} (ht : t < cfg.T) (r : GRet) : TInv cfg cells slots guard obj retired t (.done r) :=
  ⟨nofun, nofun, False.elim, nofun, nofun, fun _ => ht, nofun, nofun⟩

theorem scanStart_cases (cfg : Cfg) (r : GRet) :
    scanStart cfg r = .scanLd 0 0 [] r ∧ 0 < cfg.T ∧ 0 < cfg.H ∨
    scanStart cfg r = .scanDecide [] r ∧ ¬ (0 < cfg.T ∧ 0 < cfg.H) := by
  unfold scanStart; split
  · next h => exact Or.inl ⟨rfl, h⟩
  · next h => exact Or.inr ⟨rfl, h⟩

/-- At the start of a scan every slot is ahead. -/
theorem TInv.scanStart {t : Tid} (hG : Guards cfg slots guard obj) (ht : t < cfg.T) (r : GRet) :
    TInv cfg cells slots guard obj retired t (scanStart cfg r) := by
  rcases scanStart_cases cfg r with ⟨e, hT, hH⟩ | ⟨e, hn⟩ <;> rw [e]
  · exact ⟨nofun, nofun, fun _ u g _ _ _ => Or.inr (by show 0 < u ∨ (0 = u ∧ 0 ≤ g); omega),
      fun u g e => by cases e; exact ⟨hT, hH⟩, nofun, fun _ => ht, nofun, nofun⟩
  · exact ⟨nofun, nofun, fun _ u g p hg _ => absurd (hG.guard_rng u g p hg) (by omega), nofun, nofun, fun _ => ht, nofun, nofun⟩

theorem scanNext_cases (cfg : Cfg) (u g : Nat) (acc : List Ptr) (r : GRet) :
    g + 1 < cfg.H ∧ scanNext cfg u g acc r = .scanLd u (g + 1) acc r ∨
    ¬ g + 1 < cfg.H ∧ u + 1 < cfg.T ∧ scanNext cfg u g acc r = .scanLd (u + 1) 0 acc r ∨
    ¬ g + 1 < cfg.H ∧ ¬ u + 1 < cfg.T ∧ scanNext cfg u g acc r = .scanDecide acc r := by
  unfold scanNext; split
  · next h => exact Or.inl ⟨h, rfl⟩
  · next h =>
    split
    · next h2 => exact Or.inr (Or.inl ⟨h, h2, rfl⟩)
    · next h2 => exact Or.inr (Or.inr ⟨h, h2, rfl⟩)

/-- The scan has loaded slot (u,g): a guard in that slot is in the plist now (`guard_slot`), every other slot that was
    ahead still is - or there is none left. -/
theorem TInv.scanNext {t : Tid} {u g : Nat} {acc : List Ptr} {r : GRet} (hG : Guards cfg slots guard obj)
    (h : TInv cfg cells slots guard obj retired t (.scanLd u g acc r)) :
    TInv cfg cells slots guard obj retired t (scanNext cfg u g (collect acc (slots u g)) r) := by
  have cov : ∀ u' g' p, guard u' g' = some p → p ∈ retired t →
      p ∈ collect acc (slots u g) ∨ ((u < u' ∨ (u = u' ∧ g < g')) ∧ u' < cfg.T ∧ g' < cfg.H) := fun u' g' p hg hr => by
    have hrng := hG.guard_rng u' g' p hg
    rcases h.scan_cov trivial u' g' p hg hr with ha | hlt | ⟨rfl, hle⟩
    · exact Or.inl (mem_collect.mpr (Or.inl ha))
    · exact Or.inr ⟨Or.inl hlt, hrng⟩
    · by_cases e : g' = g
      · subst e; exact Or.inl (mem_collect.mpr (Or.inr (hG.guard_slot _ _ p hg)))
      · exact Or.inr ⟨Or.inr ⟨rfl, by omega⟩, hrng⟩
  have hrng := h.scan_rng u g rfl
  rcases scanNext_cases cfg u g (collect acc (slots u g)) r with ⟨hb, e⟩ | ⟨hb, hb2, e⟩ | ⟨hb, hb2, e⟩ <;> rw [e]
  · exact { h with
      scan_cov := fun _ u' g' p hg hr => (cov u' g' p hg hr).imp id
        (by show _ → (u < u' ∨ (u = u' ∧ g + 1 ≤ g')); omega)
      scan_rng := fun u' g' e => by cases e; exact ⟨hrng.1, hb⟩ }
  · exact { h with
      scan_cov := fun _ u' g' p hg hr => (cov u' g' p hg hr).imp id
        (by show _ → (u + 1 < u' ∨ (u + 1 = u' ∧ 0 ≤ g')); omega)
      scan_rng := fun u' g' e => by cases e; exact ⟨hb2, by omega⟩ }
  · exact { h with
      scan_cov := fun _ u' g' p hg hr => (cov u' g' p hg hr).imp id (by show _ → False; omega)
      scan_rng := nofun }

theorem flight_scanStart (cfg : Cfg) (r : GRet) (x : Ptr) : flight (scanStart cfg r) ≠ some x := by
  rcases scanStart_cases cfg r with ⟨e, -⟩ | ⟨e, -⟩ <;> rw [e] <;> nofun

theorem flight_scanNext (cfg : Cfg) (u g : Nat) (acc : List Ptr) (r : GRet) (x : Ptr) :
    flight (scanNext cfg u g acc r) ≠ some x := by
  rcases scanNext_cases cfg u g acc r with ⟨-, e⟩ | ⟨-, -, e⟩ | ⟨-, -, e⟩ <;> rw [e] <;> nofun

/-! ### Every enabled action preserves the invariant -/

variable {s s' : St} {t : Tid} {ev : Ev}

theorem pinv_protLd {g c : Nat} (h : PInv cfg s) (hpc : s.pc t = .protLd g c) (hs : step cfg s t = some (s', ev)) :
    PInv cfg s' := by
  have hT := h.thread t
  rw [hpc] at hT
  simp only [step, hpc, Option.some.injEq, Prod.mk.injEq] at hs
  obtain ⟨rfl, -⟩ := hs
  exact h.move { hT with } nofun

theorem pinv_protSt {g c : Nat} {p : Option Ptr} (h : PInv cfg s) (hpc : s.pc t = .protSt g c p)
    (hs : step cfg s t = some (s', ev)) : PInv cfg s' := by
  have hT := h.thread t
  rw [hpc] at hT
  simp only [step, hpc, Option.some.injEq, Prod.mk.injEq] at hs
  obtain ⟨rfl, -⟩ := hs
  exact h.frame rfl h.places (h.guards.publish t g p)
    { hT.publish t g p (Or.inr ⟨rfl, rfl⟩) with chk_slot := fun _ _ e => by cases e; exact upd2_same _ _ _ _ }
    (fun u hu => (h.thread u).publish t g p (Or.inl hu)) (fun _ _ => nofun)

theorem pinv_protChk {g c : Nat} {p : Option Ptr} (h : PInv cfg s) (hpc : s.pc t = .protChk g c p)
    (hs : step cfg s t = some (s', ev)) : PInv cfg s' := by
  have hT := h.thread t
  rw [hpc] at hT
  simp only [step, hpc] at hs
  split at hs
  · next hc =>
    simp only [Option.some.injEq, Prod.mk.injEq] at hs
    obtain ⟨rfl, -⟩ := hs
    have hl : ∀ x, p = some x → s.obj x = .live := fun x e => h.cell_live c x (hc.trans e)
    exact h.frame rfl h.places (h.guards.validate (hT.chk_slot g p rfl) ⟨hT.busy_rng trivial, hT.prot_rng g rfl⟩ hl)
      { hT.validate h.places hl (Or.inr rfl) with prot_rng := nofun, chk_slot := nofun }
      (fun u hu => (h.thread u).validate h.places hl (Or.inl hu)) (fun _ _ => nofun)
  · simp only [Option.some.injEq, Prod.mk.injEq] at hs
    obtain ⟨rfl, -⟩ := hs
    exact h.move { hT with chk_slot := nofun } nofun

theorem pinv_clearSt {g : Nat} (h : PInv cfg s) (hpc : s.pc t = .clearSt g) (hs : step cfg s t = some (s', ev)) :
    PInv cfg s' := by
  have hT := h.thread t
  rw [hpc] at hT
  simp only [step, hpc, Option.some.injEq, Prod.mk.injEq] at hs
  obtain ⟨rfl, -⟩ := hs
  exact h.frame rfl h.places (h.guards.publish t g none) { hT.publish t g none (Or.inr ⟨rfl, rfl⟩) with }
    (fun u hu => (h.thread u).publish t g none (Or.inl hu)) (fun _ _ => nofun)

theorem pinv_swapX_alloc {c : Nat} (h : PInv cfg s) (hpc : s.pc t = .swapX c true) (hs : step cfg s t = some (s', ev)) :
    PInv cfg s' := by
  have hT := h.thread t
  rw [hpc] at hT
  have keep := (h.places.alloc states c).2
  have hG := h.guards.alloc h.places
  simp only [step, hpc] at hs
  split at hs
  · simp only [Option.some.injEq, Prod.mk.injEq] at hs
    obtain ⟨rfl, -⟩ := hs
    exact h.frame rfl (h.places.alloc states c).1 hG { hT.alloc h.places c with } (fun u _ => (h.thread u).alloc h.places c)
      (fun _ _ => nofun)
  · next p hc =>
    simp only [Option.some.injEq, Prod.mk.injEq] at hs
    obtain ⟨rfl, -⟩ := hs
    have hl := h.cell_live c p hc
    have hne : some s.cnt ≠ some p := fun e => by
      rw [← Option.some.inj e, h.fresh_hi s.cnt (Nat.le_refl _)] at hl; cases hl
    exact h.frame rfl (h.places.alloc states c).1 hG
      { hT.alloc h.places c with
        flight_live := fun _ e => by cases e; exact (keep p (by simp [hl])).trans hl
        flight_cell := fun _ c' e => by cases e; exact h.places.unlinked hc hne c' }
      (fun u _ => (h.thread u).alloc h.places c)
      (fun u _ _ e e' => by cases e; exact (h.thread u).flight_cell p c e' hc)

theorem pinv_swapX_take {c : Nat} (h : PInv cfg s) (hpc : s.pc t = .swapX c false) (hs : step cfg s t = some (s', ev)) :
    PInv cfg s' := by
  have hT := h.thread t
  rw [hpc] at hT
  simp only [step, hpc] at hs
  split at hs
  · simp only [Option.some.injEq, Prod.mk.injEq] at hs
    obtain ⟨rfl, -⟩ := hs
    exact h.move { hT with } nofun
  · next p hc =>
    simp only [Option.some.injEq, Prod.mk.injEq] at hs
    obtain ⟨rfl, -⟩ := hs
    exact h.frame rfl (h.places.take c) h.guards
      { hT.take c with
        flight_live := fun _ e => by cases e; exact h.cell_live c p hc
        flight_cell := fun _ c' e => by cases e; exact h.places.unlinked hc (v := none) nofun c' }
      (fun u _ => (h.thread u).take c)
      (fun u _ _ e e' => by cases e; exact (h.thread u).flight_cell p c e' hc)

theorem pinv_swapRet {p : Ptr} {r : GRet} (h : PInv cfg s) (hpc : s.pc t = .swapRet p r)
    (hs : step cfg s t = some (s', ev)) : PInv cfg s' := by
  have hT := h.thread t
  rw [hpc] at hT
  have hl := hT.flight_live p rfl
  have ht := hT.busy_rng trivial
  simp only [step, hpc, Option.some.injEq, Prod.mk.injEq] at hs
  obtain ⟨rfl, -⟩ := hs
  have hG := h.guards.retire p
  refine h.frame rfl (h.places.retire states t hl fun c => hT.flight_cell p c rfl) hG ?_
    (fun u hu => (h.thread u).retire (h.excl (Ne.symm hu) p (by rw [hpc]; rfl)) (upd_other _ _ _ _ hu)) (fun u _ x e => ?_)
  · split
    · exact TInv.done ht r
    · exact TInv.scanStart hG ht r
  · split at e
    · cases e
    · exact absurd e (flight_scanStart cfg r x)

theorem pinv_scanLd {u g : Nat} {acc : List Ptr} {r : GRet} (h : PInv cfg s) (hpc : s.pc t = .scanLd u g acc r)
    (hs : step cfg s t = some (s', ev)) : PInv cfg s' := by
  have hT := h.thread t
  rw [hpc] at hT
  simp only [step, hpc, Option.some.injEq, Prod.mk.injEq] at hs
  obtain ⟨rfl, -⟩ := hs
  exact h.move (hT.scanNext h.guards) fun x e => absurd e (flight_scanNext cfg u g _ r x)

/-- At the decision step of a scan, no validated guard holds an object that the scan hands to the disposer. -/
theorem decide_unguarded {acc : List Ptr} {r : GRet} (h : PInv cfg s) (hpc : s.pc t = .scanDecide acc r) :
    ∀ p ∈ (classicScan acc (s.retired t)).2, ∀ u g, s.guard u g ≠ some p := by
  intro p hp u g hg
  have d := decision acc _ (h.ret_nodup t)
  have hr := d.freed_sub p hp
  have hacc := h.scan_all t acc r u g p hpc hg hr
  have hne : p ≠ 0 := by
    intro e; have h1 := h.ret_st t p hr; have h0 := h.fresh_zero; rw [e] at h1; rw [h1] at h0; cases h0
  exact d.safe p hp hne hacc

theorem pinv_scanDecide {acc : List Ptr} {r : GRet} (h : PInv cfg s) (hpc : s.pc t = .scanDecide acc r)
    (hs : step cfg s t = some (s', ev)) : PInv cfg s' := by
  have ht := h.busy_rng t (by simp [hpc])
  have hd := decision acc _ (h.ret_nodup t)
  have hsafe := decide_unguarded h hpc
  simp only [step, hpc, Option.some.injEq, Prod.mk.injEq] at hs
  obtain ⟨rfl, -⟩ := hs
  exact h.frame rfl (h.places.decide states t (fun p hp => ⟨hd.kept_sub p hp, hd.disj p hp⟩) hd.freed_sub hd.kept_nodup hd.freed_nodup) (h.guards.decide fun u g p hg hf => hsafe p hf u g hg) (TInv.done ht r)
    (fun u hu => (h.thread u).decide (fun p hp => h.ret_st t p (hd.freed_sub p hp)) (upd_other _ _ _ _ hu))
    (fun _ _ => nofun)

theorem pinv_derefRd {g : Nat} (h : PInv cfg s) (hpc : s.pc t = .derefRd g) (hs : step cfg s t = some (s', ev)) :
    PInv cfg s' := by
  have ht := h.busy_rng t (by simp [hpc])
  simp only [step, hpc] at hs
  split at hs
  · simp only [Option.some.injEq, Prod.mk.injEq] at hs
    obtain ⟨rfl, -⟩ := hs
    exact h.move (TInv.done ht _) nofun
  · cases hs

/-- An idle thread claims nothing. -/
theorem TInv.idle : TInv cfg cells slots guard obj retired t .idle :=
  ⟨nofun, nofun, False.elim, nofun, nofun, False.elim, nofun, nofun⟩

theorem pinv_result {r : GRet} (h : PInv cfg s) (hs : result s t = some (s', r)) : PInv cfg s' := by
  unfold result at hs
  split at hs
  · simp only [Option.some.injEq, Prod.mk.injEq] at hs
    obtain ⟨rfl, -⟩ := hs
    exact h.move TInv.idle nofun
  · cases hs

theorem pinv_invoke {op : GOp} (h : PInv cfg s) (hs : invoke cfg s t op = some s') : PInv cfg s' := by
  unfold invoke at hs
  split at hs
  next ht =>
    have hT : s.pc t = .idle → TInv cfg s.cells s.slots s.guard s.obj s.retired t .idle := fun e => e ▸ h.thread t
    split at hs
    · split at hs
      · cases hs
        exact h.move { hT (by assumption) with
          busy_rng := fun _ => ht, prot_rng := fun _ e => by cases e; assumption } nofun
      · cases hs
    · split at hs
      · cases hs
        exact h.move { hT (by assumption) with busy_rng := fun _ => ht } nofun
      · cases hs
    · cases hs
      exact h.move { hT (by assumption) with busy_rng := fun _ => ht } nofun
    · cases hs
      exact h.move { hT (by assumption) with busy_rng := fun _ => ht } nofun
    · cases hs
      exact h.move (TInv.scanStart h.guards ht []) fun x e => absurd e (flight_scanStart cfg [] x)
    · split at hs
      · cases hs
        exact h.move { hT (by assumption) with
          busy_rng := fun _ => ht
          deref_ok := fun _ e => by cases e; exact Option.isSome_iff_exists.mp (by assumption) } nofun
      · cases hs
    · cases hs
  · cases hs

theorem pinv_step (h : PInv cfg s) (hs : step cfg s t = some (s', ev)) : PInv cfg s' := by
  cases hpc : s.pc t with
  | idle => simp [step, hpc] at hs
  | protLd g c => exact pinv_protLd h hpc hs
  | protSt g c p => exact pinv_protSt h hpc hs
  | protChk g c p => exact pinv_protChk h hpc hs
  | clearSt g => exact pinv_clearSt h hpc hs
  | swapX c b =>
    cases b
    · exact pinv_swapX_take h hpc hs
    · exact pinv_swapX_alloc h hpc hs
  | swapRet p r => exact pinv_swapRet h hpc hs
  | scanLd u g acc r => exact pinv_scanLd h hpc hs
  | scanDecide acc r => exact pinv_scanDecide h hpc hs
  | derefRd g => exact pinv_derefRd h hpc hs
  | done r => simp [step, hpc] at hs

end

theorem pinv_apply (cfg : Cfg) (s : St) (t : Tid) (a : Act) (s' : St) (o : Obs)
    (h : PInv cfg s) (hap : (model cfg).apply s t a = some (s', o)) : PInv cfg s' := by
  rcases Model.apply_cases hap with ⟨op, -, hi, -⟩ | ⟨ev, -, hs, -⟩ | ⟨r, -, hr, -⟩
  · exact pinv_invoke h hi
  · exact pinv_step h hs
  · exact pinv_result h hr

/-- The invariant holds in every reachable state: all configurations, all schedules, all client programs. -/
theorem pinv_reachable (cfg : Cfg) (s : St) (hr : (model cfg).Reachable init s) : PInv cfg s :=
  (model cfg).inv_reachable (PInv cfg) init (pinv_init cfg) (pinv_apply cfg) s hr

/-- ... and is preserved along every run from a state that satisfies it. -/
theorem pinv_run (cfg : Cfg) (sched : List (Tid × Act)) (s s' : St) (os : List (Tid × Obs))
    (h : PInv cfg s) (hr : (model cfg).run s sched = some (s', os)) : PInv cfg s' :=
  (model cfg).inv_of_inductive (PInv cfg) (pinv_apply cfg) sched s s' os h hr

/-! ### The life cycle of an object only moves forward -/

/-- one forward move in the life cycle -/
def ObjSt.Succ : ObjSt → ObjSt → Prop
  | .fresh, .live => True
  | .live, .retired => True
  | .retired, .disposed => True
  | _, _ => False

theorem obj_step {cfg : Cfg} {s s' : St} {t : Tid} {ev : Ev} (h : PInv cfg s)
    (hs : step cfg s t = some (s', ev)) (p : Ptr) :
    s'.obj p = s.obj p ∨ ObjSt.Succ (s.obj p) (s'.obj p) := by
  cases hpc : s.pc t with
  | swapX c b =>
    have hfr := h.fresh_hi s.cnt (Nat.le_refl _)
    cases b <;> simp only [step, hpc] at hs <;> split at hs <;> simp at hs <;> obtain ⟨rfl, -⟩ := hs <;> dsimp only
    · exact Or.inl rfl
    · exact Or.inl rfl
    all_goals
      by_cases e : p = s.cnt
      · subst e; simp [hfr, ObjSt.Succ]
      · simp [upd, e]
  | swapRet q r =>
    have hl := h.flight_live t q r hpc
    simp [step, hpc] at hs; obtain ⟨rfl, -⟩ := hs; dsimp only
    by_cases e : p = q
    · subst e; simp [hl, ObjSt.Succ]
    · simp [upd, e]
  | scanDecide acc r =>
    simp [step, hpc] at hs; obtain ⟨rfl, -⟩ := hs; dsimp only
    split
    next hm =>
      have := h.ret_st t p ((decision acc _ (h.ret_nodup t)).freed_sub p hm)
      simp [this, ObjSt.Succ]
    next => simp
  | _ =>
    -- the other steps leave the object states alone
    simp only [step, hpc] at hs <;> (try split at hs) <;> simp at hs <;> obtain ⟨rfl, -⟩ := hs <;> exact Or.inl rfl

theorem accOf_scanStart (cfg : Cfg) (r : GRet) : accOf (scanStart cfg r) = [] := by
  unfold scanStart; split <;> rfl

/-- An invocation only moves the program counter of an idle thread, to the start of an operation. -/
theorem invoke_frame {cfg : Cfg} {s s' : St} {t : Tid} {op : GOp} (hs : invoke cfg s t op = some s') :
    ∃ q, s' = { s with pc := upd s.pc t q } ∧ s.pc t = .idle ∧ accOf q = [] ∧ (∀ g c v, q ≠ .protSt g c v) := by
  unfold invoke at hs
  split at hs
  · split at hs
    · split at hs <;> simp at hs; subst hs; exact ⟨_, rfl, by assumption, rfl, by simp⟩
    · split at hs <;> simp at hs; subst hs; exact ⟨_, rfl, by assumption, rfl, by simp⟩
    · simp at hs; subst hs; exact ⟨_, rfl, by assumption, rfl, by simp⟩
    · simp at hs; subst hs; exact ⟨_, rfl, by assumption, rfl, by simp⟩
    · simp at hs; subst hs
      exact ⟨_, rfl, by assumption, accOf_scanStart _ _, by intro g c v; rcases scanStart_cases cfg [] with ⟨e, -⟩ | ⟨e, -⟩ <;> simp [e]⟩
    · split at hs <;> simp at hs; subst hs; exact ⟨_, rfl, by assumption, rfl, by simp⟩
    · simp at hs
  · simp at hs

/-- A return only moves the program counter of a thread that is done, to `idle`. -/
theorem result_frame {s s' : St} {t : Tid} {r : GRet} (hr : result s t = some (s', r)) :
    s.pc t = .done r ∧ s' = { s with pc := upd s.pc t .idle } := by
  unfold result at hr
  split at hr
  · next hd => simp only [Option.some.injEq, Prod.mk.injEq] at hr; exact ⟨hr.2 ▸ hd, hr.1.symm⟩
  · cases hr

/-- `p` is retired (or already disposed) and nothing refers to it any more: no hazard slot holds it, no
    `protect` is about to store it, and scanner `sc` has not collected it. -/
structure Quiet (s : St) (sc : Tid) (p : Ptr) : Prop where
  gone : s.obj p = .retired ∨ s.obj p = .disposed
  noslot : ∀ u g, s.slots u g ≠ some p
  nocand : ∀ t g c, s.pc t ≠ .protSt g c (some p)
  noacc : p ∉ accOf (s.pc sc)

theorem quiet_step {cfg : Cfg} {s s' : St} {t : Tid} {ev : Ev} {sc : Tid} {p : Ptr} (h : PInv cfg s)
    (hq : Quiet s sc p) (hs : step cfg s t = some (s', ev)) : Quiet s' sc p := by
  obtain ⟨q1, q2, q3, q4⟩ := hq
  have hst := obj_step h hs p
  have hgone : s'.obj p = .retired ∨ s'.obj p = .disposed := by
    rcases hst with e | e
    · rw [e]; exact q1
    · rcases q1 with e1 | e1 <;> rw [e1] at e <;> revert e <;> cases s'.obj p <;> simp [ObjSt.Succ]
  have hcell : ∀ c, s.cells c ≠ some p := fun c hc => by
    have := h.cell_live c p hc; rcases q1 with e | e <;> simp_all
  refine ⟨hgone, ?_, ?_, ?_⟩ <;> clear hgone hst
  all_goals
    cases hpc : s.pc t with
    | swapX c b =>
      cases b <;> simp only [step, hpc] at hs <;>
      split at hs <;> simp at hs <;> obtain ⟨rfl, -⟩ := hs <;> intros <;> dsimp only <;> grind [upd, upd2, accOf]
    | swapRet q r =>
      have := accOf_scanStart cfg r
      have := scanStart_cases cfg r
      simp [step, hpc] at hs; obtain ⟨rfl, -⟩ := hs; intros; dsimp only; grind [upd, upd2, accOf]
    | scanLd u g acc r =>
      simp [step, hpc] at hs; obtain ⟨rfl, -⟩ := hs; intros; dsimp only
      grind [upd, upd2, accOf, scanNext, mem_collect]
    | _ =>
      simp only [step, hpc] at hs <;> (try split at hs) <;> simp at hs <;> obtain ⟨rfl, -⟩ := hs <;> intros <;>
        dsimp only <;> grind [upd, upd2, accOf]

theorem quiet_apply {cfg : Cfg} {s s' : St} {t : Tid} {a : Act} {o : Obs} {sc : Tid} {p : Ptr} (h : PInv cfg s)
    (hq : Quiet s sc p) (hap : (model cfg).apply s t a = some (s', o)) : Quiet s' sc p := by
  rcases Model.apply_cases hap with ⟨op, -, hi, -⟩ | ⟨ev, -, hs, -⟩ | ⟨r, -, hr, -⟩
  · obtain ⟨q, rfl, hidle, hacc, hns⟩ := invoke_frame hi
    obtain ⟨q1, q2, q3, q4⟩ := hq
    refine ⟨q1, q2, ?_, ?_⟩
    · intro t' g c; dsimp only; grind [upd]
    · dsimp only; grind [upd]
  · exact quiet_step h hq hs
  · obtain ⟨hd, rfl⟩ := result_frame hr
    obtain ⟨q1, q2, q3, q4⟩ := hq
    refine ⟨q1, q2, ?_, ?_⟩
    · intro t' g c; dsimp only; grind [upd]
    · dsimp only; grind [upd, accOf]

theorem obj_apply {cfg : Cfg} {s s' : St} {t : Tid} {a : Act} {o : Obs} (h : PInv cfg s)
    (hap : (model cfg).apply s t a = some (s', o)) (p : Ptr) :
    s'.obj p = s.obj p ∨ ObjSt.Succ (s.obj p) (s'.obj p) := by
  rcases Model.apply_cases hap with ⟨op, -, hi, -⟩ | ⟨ev, -, hs, -⟩ | ⟨r, -, hr, -⟩
  · obtain ⟨q, rfl, -⟩ := invoke_frame hi
    exact Or.inl rfl
  · exact obj_step h hs p
  · obtain ⟨-, rfl⟩ := result_frame hr
    exact Or.inl rfl

/-! ### Facts about single steps used by the property theorems -/

/-- Only the decision step of a scan disposes, and only objects its decision function frees. -/
theorem disposed_step {cfg : Cfg} {s s' : St} {t : Tid} {ev : Ev} {p : Ptr}
    (hs : step cfg s t = some (s', ev)) (h0 : s.obj p ≠ .disposed) (h1 : s'.obj p = .disposed) :
    ∃ acc r, s.pc t = .scanDecide acc r ∧ p ∈ (classicScan acc (s.retired t)).2 := by
  cases hpc : s.pc t with
  | swapX c b =>
    cases b <;> simp only [step, hpc] at hs <;> split at hs <;> simp at hs <;> obtain ⟨rfl, -⟩ := hs <;> dsimp only at h1
    · exact absurd h1 h0
    · exact absurd h1 h0
    all_goals
      by_cases e : p = s.cnt
      · subst e; simp [upd] at h1
      · simp [upd, e] at h1; exact absurd h1 h0
  | swapRet q r =>
    simp [step, hpc] at hs; obtain ⟨rfl, -⟩ := hs; dsimp only at h1
    by_cases e : p = q
    · subst e; simp [upd] at h1
    · simp [upd, e] at h1; exact absurd h1 h0
  | scanDecide acc r =>
    simp [step, hpc] at hs; obtain ⟨rfl, -⟩ := hs; dsimp only at h1
    refine ⟨acc, r, rfl, ?_⟩
    split at h1
    · assumption
    · exact absurd h1 h0
  | _ =>
    simp only [step, hpc] at hs <;> (try split at hs) <;> simp at hs <;> obtain ⟨rfl, -⟩ := hs <;> exact absurd h1 h0

/-- The effect of the decision step. -/
theorem decide_step {cfg : Cfg} {s s' : St} {t : Tid} {ev : Ev} {acc : List Ptr} {r : GRet}
    (hpc : s.pc t = .scanDecide acc r) (hs : step cfg s t = some (s', ev)) :
    (∀ p, s'.obj p = if p ∈ (classicScan acc (s.retired t)).2 then .disposed else s.obj p) ∧
    s'.retired t = (classicScan acc (s.retired t)).1 ∧ (∀ u, u ≠ t → s'.retired u = s.retired u) ∧
    s'.log = s.log ++ (classicScan acc (s.retired t)).2 ∧ s'.guard = s.guard ∧ s'.pc t = .done r := by
  simp [step, hpc] at hs; obtain ⟨rfl, -⟩ := hs
  refine ⟨fun _ => rfl, by simp, fun u hu => by simp [upd, hu], rfl, rfl, by simp⟩

/-- A `use` event is the step of a `deref`, on the object the thread's validated guard holds. -/
theorem use_event {cfg : Cfg} {s s' : St} {t : Tid} {e : Ev}
    (hs : step cfg s t = some (s', e)) (hk : e.kind = "use") :
    ∃ g p, s.pc t = .derefRd g ∧ s.guard t g = some p ∧ e = evUse p (s.obj p) ∧
      s'.pc t = .done [objCode (s.obj p)] := by
  cases hpc : s.pc t with
  | derefRd g =>
    simp only [step, hpc] at hs
    split at hs
    next q hq =>
      simp at hs; obtain ⟨rfl, rfl⟩ := hs
      exact ⟨g, q, rfl, hq, rfl, by simp⟩
    next => simp at hs
  | swapX c b =>
    cases b <;> simp only [step, hpc] at hs <;>
      split at hs <;> simp at hs <;> obtain ⟨-, rfl⟩ := hs <;> simp [evXchg] at hk
  | _ =>
    -- no other step emits a `use` event
    simp only [step, hpc] at hs <;> (try split at hs) <;> simp at hs <;> obtain ⟨-, rfl⟩ := hs <;>
      simp [evLd, evSt, evRetire, evFree] at hk

/-! ### Completeness of the places (no object is lost) -/

/-- Every allocated, not yet disposed object is somewhere: a `live` object is in a cell or in flight in the
    `swap`/`take` that unlinked it; a `retired` object is in some thread's retired array (so that thread's scans
    can free it). -/
structure PPlace (s : St) : Prop where
  live_ex : ∀ p, s.obj p = .live → (∃ c, s.cells c = some p) ∨ (∃ t r, s.pc t = .swapRet p r)
  ret_ex : ∀ p, s.obj p = .retired → ∃ t, p ∈ s.retired t

theorem pplace_init : PPlace init := by
  constructor <;> simp [init]

theorem PPlace.kept {s : St} (h : PPlace s) :
    Kept ObjSt.live ObjSt.retired s.cells s.obj s.retired (fun p => ∃ t r, s.pc t = .swapRet p r) :=
  ⟨h.live_ex, h.ret_ex⟩

theorem PPlace.of_kept {s : St}
    (k : Kept ObjSt.live ObjSt.retired s.cells s.obj s.retired (fun p => ∃ t r, s.pc t = .swapRet p r)) : PPlace s :=
  ⟨k.live_ex, k.ret_ex⟩

/-- What is in flight in some thread stays so when `t`, which does not hold it, moves. -/
theorem flight_keep {pc : Tid → PC} {t : Tid} (q : PC) {p : Ptr} (hnf : ∀ r, pc t ≠ .swapRet p r)
    (h : ∃ w r, pc w = .swapRet p r) : ∃ w r, upd pc t q w = .swapRet p r := by
  obtain ⟨w, r, hw⟩ := h
  have e : w ≠ t := fun e => hnf r (e ▸ hw)
  exact ⟨w, r, (upd_other _ _ _ _ e).trans hw⟩

/-- steps of a thread with nothing in flight that touch neither objects, cells nor retired arrays -/
theorem pplace_move {s s' : St} {t : Tid} {q : PC} (h : PPlace s) (ho : s'.obj = s.obj) (hc : s'.cells = s.cells)
    (hr : s'.retired = s.retired) (hp : s'.pc = upd s.pc t q) (hnf : ∀ p r, s.pc t ≠ .swapRet p r) : PPlace s' := by
  refine .of_kept ?_
  rw [ho, hc, hr, hp]
  exact h.kept.mono fun p => flight_keep q (hnf p)

theorem pplace_step {cfg : Cfg} {s s' : St} {t : Tid} {ev : Ev} (hI : PInv cfg s) (h : PPlace s)
    (hs : step cfg s t = some (s', ev)) : PPlace s' := by
  cases hpc : s.pc t with
  | swapX c b =>
    have hnf : ∀ p r, s.pc t ≠ .swapRet p r := by simp [hpc]
    cases b <;> simp only [step, hpc] at hs <;> split at hs <;> simp at hs <;> obtain ⟨rfl, -⟩ := hs
    · exact pplace_move h rfl rfl rfl rfl hnf
    · next a ha =>
      exact .of_kept (h.kept.take c (fun p => flight_keep _ (hnf p))
        fun p hp => ⟨t, _, by cases ha.symm.trans hp; exact upd_same _ _ _⟩)
    · next ha =>
      exact .of_kept (h.kept.alloc states hI.places c (fun p => flight_keep _ (hnf p))
        fun p hp => by cases ha.symm.trans hp)
    · next a ha =>
      exact .of_kept (h.kept.alloc states hI.places c (fun p => flight_keep _ (hnf p))
        fun p hp => ⟨t, _, by cases ha.symm.trans hp; exact upd_same _ _ _⟩)
  | swapRet q r =>
    simp [step, hpc] at hs; obtain ⟨rfl, -⟩ := hs
    exact .of_kept (h.kept.retire states t q fun p hne =>
      flight_keep _ fun r' e => hne (by rw [hpc] at e; cases e; rfl))
  | scanDecide acc r =>
    simp [step, hpc] at hs; obtain ⟨rfl, -⟩ := hs
    exact .of_kept (h.kept.decide states t (decision acc _ (hI.ret_nodup t)).split
      fun p => flight_keep _ (by simp [hpc]))
  | _ =>
    simp only [step, hpc] at hs <;> (try split at hs) <;> simp at hs <;> obtain ⟨rfl, -⟩ := hs <;>
      exact pplace_move h rfl rfl rfl rfl (by simp [hpc])

theorem pplace_apply (cfg : Cfg) (s : St) (t : Tid) (a : Act) (s' : St) (o : Obs)
    (h : PInv cfg s ∧ PPlace s) (hap : (model cfg).apply s t a = some (s', o)) : PInv cfg s' ∧ PPlace s' := by
  refine ⟨pinv_apply cfg s t a s' o h.1 hap, ?_⟩
  rcases Model.apply_cases hap with ⟨op, -, hi, -⟩ | ⟨ev, -, hs, -⟩ | ⟨r, -, hr, -⟩
  · obtain ⟨q, rfl, hidle, -⟩ := invoke_frame hi
    exact pplace_move h.2 rfl rfl rfl rfl (by simp [hidle])
  · exact pplace_step h.1 h.2 hs
  · obtain ⟨hd, rfl⟩ := result_frame hr
    exact pplace_move h.2 rfl rfl rfl rfl (by simp [hd])

theorem pplace_reachable (cfg : Cfg) (s : St) (hr : (model cfg).Reachable init s) : PPlace s :=
  ((model cfg).inv_reachable (fun x => PInv cfg x ∧ PPlace x) init ⟨pinv_init cfg, pplace_init⟩
    (pplace_apply cfg) s hr).2

/-- A `use` event never observes a disposed object. -/
theorem use_not_disposed {cfg : Cfg} {s s' : St} {t : Tid} {e : Ev} (h : PInv cfg s)
    (hs : step cfg s t = some (s', e)) (hk : e.kind = "use") : e.a ≠ "disposed" := by
  obtain ⟨g, p, -, hg, rfl, -⟩ := use_event hs hk
  rcases h.guard_ok t g p hg with e | e <;> simp [evUse, objName, e]

/-- A disposed object stays disposed. -/
theorem disposed_apply {cfg : Cfg} {s s' : St} {t : Tid} {a : Act} {o : Obs} {p : Ptr} (h : PInv cfg s)
    (hd : s.obj p = .disposed) (hap : (model cfg).apply s t a = some (s', o)) : s'.obj p = .disposed := by
  rcases obj_apply h hap p with e | e
  · rw [e]; exact hd
  · rw [hd] at e; revert e; cases s'.obj p <;> simp [ObjSt.Succ]

end CdsVerif.Algo.HP.Protocol
