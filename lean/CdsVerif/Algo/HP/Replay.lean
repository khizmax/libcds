/-
  Tie A for the hazard-pointer protocol machine (`Algo/HP/Protocol`): what `cdsdriver replay hp` runs.

  The machine `Protocol.model cfg` is parameterised by the configuration `cfg = {H, T, R}`; the driver's replay loop
  takes one model and an initial state built from the header line of each case, so the configuration travels in
  the state (`RSt`).  `modelR` is `Protocol.model` on the `st` component, unchanged, except for the RENDERING of one
  event: the machine prints the list of disposed objects of a scan decision with `toString` (`[1, 2]`), and a trace
  line is split on blanks, so the blanks are removed (`[1,2]`).  `modelR_run` states that every run of `modelR` is a
  run of `Protocol.model` with the same schedule: every state the driver reaches while it accepts a real trace is a
  reachable state of the machine the theorems of `ProtocolInv` / `Props/C01Protocol` speak about (`reachable_of_run`).

  Initial state.  The harness client (harness/clients/smr.cpp, option `--static 1`) fills cells `0 .. cells-1` with
  the objects `1 .. cells` before the threads start.  `prefill` reaches that state BY RUNNING THE MACHINE: thread 0
  performs `swap [c]` for `c = 0 .. cells-1` from `Protocol.init` (nothing is retired: the cells are empty), so the
  initial state of a replay is reachable from `init` too (`initCfg_reachable`).

  Header words used: `H=<slots per record>` `T=<records = threads>` `R=<capacity of a retired array>` `cells=<n>`.

  `safeB` is the executable form of the safety theorem `C01_guarded_never_disposed`, evaluated by the driver after
  every accepted step (it cannot fail on a state reached through `modelR`; it is the check that the driver's state is
  the one the theorem is about).
-/
import CdsVerif.Algo.HP.Protocol
import CdsVerif.Algo.HP.Common
namespace CdsVerif.Algo.HP.Replay
open CdsVerif.Machine CdsVerif.Spec CdsVerif.Algo.HP CdsVerif.Algo.HP.Protocol

structure RSt where
  cfg : Cfg
  st : St

/-- blanks removed from the list of a `free` event (trace lines are split on blanks); all other events unchanged -/
def fixEv (e : Ev) : Ev :=
  if e.kind = "free" then { e with a := String.ofList (e.a.toList.filter (· ≠ ' ')) } else e

def modelR : Model RSt :=
  ⟨fun s t op => (invoke s.cfg s.st t op).map (fun st' => { s with st := st' }),
   fun s t => (step s.cfg s.st t).map (fun r => ({ s with st := r.1 }, fixEv r.2)),
   fun s t => (result s.st t).map (fun r => ({ s with st := r.1 }, r.2))⟩

/-- Every run of the replay model is a run of the protocol machine (same schedule, same states). -/
theorem modelR_run (sched : List (Tid × Act)) :
    ∀ (s s' : RSt) (os : List (Tid × Obs)), modelR.run s sched = some (s', os) →
      s'.cfg = s.cfg ∧ ∃ os', (model s.cfg).run s.st sched = some (s'.st, os') := by
  refine Model.run_lift modelR model RSt.cfg RSt.st (fun s t a s1 o hap => ?_) sched
  cases a with
  | invoke op =>
    simp only [Model.apply, modelR, Option.map_eq_some_iff, Prod.mk.injEq] at hap
    obtain ⟨x, ⟨st', hi, rfl⟩, rfl, _⟩ := hap
    exact ⟨rfl, .call op, by simp [Model.apply, model, hi]⟩
  | step =>
    simp only [Model.apply, modelR, Option.map_eq_some_iff, Prod.mk.injEq] at hap
    obtain ⟨x, ⟨r, hi, rfl⟩, rfl, _⟩ := hap
    exact ⟨rfl, .ev r.2, by simp [Model.apply, model, hi]⟩
  | ret =>
    simp only [Model.apply, modelR, Option.map_eq_some_iff, Prod.mk.injEq] at hap
    obtain ⟨x, ⟨r, hi, rfl⟩, rfl, _⟩ := hap
    exact ⟨rfl, .ret r.2, by simp [Model.apply, model, hi]⟩

/-! ### Initial state of a case -/

def cfgNat (key : String) (ws : List String) : Option Nat :=
  ws.findSome? (fun w => if w.startsWith (key ++ "=") then (w.drop (key.length + 1)).toNat? else none)

/-- thread 0 fills the cells `0 .. n-1` -/
def prefillSched (n : Nat) : List (Tid × Act) :=
  (List.range n).flatMap fun (c : Nat) => [(0, .invoke ⟨"swap", [(c : Int)]⟩), (0, .step), (0, .ret)]

def prefill (cfg : Cfg) (n : Nat) : St :=
  match (model cfg).run init (prefillSched n) with
  | some (s, _) => s
  | none => init

theorem prefill_reachable (cfg : Cfg) (n : Nat) : (model cfg).Reachable init (prefill cfg n) := by
  unfold prefill
  split
  · next s os h => exact ⟨_, _, h⟩
  · exact ⟨[], [], rfl⟩

def initCfg (ws : List String) : RSt :=
  let cfg : Cfg := ⟨(cfgNat "H" ws).getD 1, (cfgNat "T" ws).getD 1, (cfgNat "R" ws).getD 2⟩
  ⟨cfg, prefill cfg ((cfgNat "cells" ws).getD 0)⟩

theorem initCfg_reachable (ws : List String) :
    (model (initCfg ws).cfg).Reachable init (initCfg ws).st :=
  prefill_reachable _ _

/-- Whatever the driver reaches from the initial state of a case is a reachable state of the protocol machine. -/
theorem reachable_of_run (ws : List String) (sched : List (Tid × Act)) (s' : RSt) (os : List (Tid × Obs))
    (h : modelR.run (initCfg ws) sched = some (s', os)) :
    (model (initCfg ws).cfg).Reachable init s'.st := by
  obtain ⟨_, os', hr⟩ := modelR_run sched _ _ _ h
  obtain ⟨sched0, os0, h0⟩ := initCfg_reachable ws
  exact ⟨_, _, Model.run_append h0 hr⟩

/-- The locations of the machine's vocabulary: cells, hazard slots, `T<t>` (retire / free), `o<id>` (use). -/
def relevant (loc : String) : Bool :=
  loc.startsWith "cell" || loc.startsWith "hp" || loc.startsWith "T" || loc.startsWith "o"

/-- executable form of `C01_guarded_never_disposed` -/
def safeB (s : RSt) : Bool :=
  (List.range s.cfg.T).all fun t => (List.range s.cfg.H).all fun g =>
    match s.st.guard t g with
    | some p => decide (s.st.obj p ≠ .disposed)
    | none => true

end CdsVerif.Algo.HP.Replay
