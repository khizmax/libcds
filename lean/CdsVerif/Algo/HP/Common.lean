/-
  What the two hazard-pointer machines (`Algo/HP/Protocol.lean`, `Algo/DHP/Model.lean`) have in common: two-index
  tables and `Places` - the part of their invariants about cells, object states, retired arrays and the disposer log, which `swap`, `take`, `retire` and
  the decision step of a scan change in the same way in both.  Each machine has its own type of object states, so
  `Places` takes the four states as parameters.
-/
import CdsVerif.Base.Machine
import CdsVerif.Algo.HP.ScanLemmas
namespace CdsVerif.Algo.HP
open CdsVerif.Machine CdsVerif.Spec

/-- What an entry of an updated table is. -/
theorem upd2_eq {α : Type} (f : Nat → Nat → α) (i j i' j' : Nat) (v : α) :
    (i' = i ∧ j' = j ∧ upd2 f i j v i' j' = v) ∨ (¬ (i' = i ∧ j' = j) ∧ upd2 f i j v i' j' = f i' j') := by
  by_cases e : i' = i ∧ j' = j
  · exact Or.inl ⟨e.1, e.2, by rw [e.1, e.2, upd2_same]⟩
  · exact Or.inr ⟨e, upd2_other _ _ _ _ _ _ e⟩

/-- Clearing an entry of a table of optional values only removes an entry. -/
theorem of_upd2_none {α : Type} {f : Nat → Nat → Option α} {i j i' j' : Nat} {a : α}
    (h : upd2 f i j none i' j' = some a) : ¬ (i' = i ∧ j' = j) ∧ f i' j' = some a := by
  rcases upd2_eq f i j i' j' none with ⟨-, -, e⟩ | ⟨hne, e⟩
  · rw [e] at h; cases h
  · exact ⟨hne, e.symm.trans h⟩

theorem nodup_snoc {α : Type} {l : List α} {p : α} (h : l.Nodup) (hp : p ∉ l) : (l ++ [p]).Nodup := by
  rw [List.nodup_append]
  refine ⟨h, List.pairwise_singleton _ _, fun a ha b hb e => ?_⟩
  rw [List.mem_singleton] at hb
  exact hp (hb ▸ e ▸ ha)

/-! ### Where the objects are -/

section
variable {O : Type} {fresh live retired disposed : O} {cells : Nat → Option Ptr} {obj : Ptr → O} {cnt : Nat}
  {rl : Tid → List Ptr} {log : List Ptr}

/-- The four states of the life cycle of an object are distinct. -/
structure States (fresh live retired disposed : O) : Prop where
  fresh_live : fresh ≠ live
  fresh_retired : fresh ≠ retired
  fresh_disposed : fresh ≠ disposed
  live_retired : live ≠ retired
  live_disposed : live ≠ disposed
  retired_disposed : retired ≠ disposed

/-- Objects at or above the counter, and the null address 0, are `fresh`; a cell holds a `live` object, an object is
    in at most one cell; the retired arrays `rl` hold `retired` objects, are duplicate-free and pairwise disjoint; the
    disposer log is duplicate-free and is exactly the set of `disposed` objects. -/
structure Places (fresh live retired disposed : O) (cells : Nat → Option Ptr) (obj : Ptr → O) (cnt : Nat)
    (rl : Tid → List Ptr) (log : List Ptr) : Prop where
  cnt_pos : 1 ≤ cnt
  fresh_hi : ∀ p, cnt ≤ p → obj p = fresh
  fresh_zero : obj 0 = fresh
  cell_live : ∀ c p, cells c = some p → obj p = live
  cell_inj : ∀ c1 c2 p, cells c1 = some p → cells c2 = some p → c1 = c2
  ret_st : ∀ t p, p ∈ rl t → obj p = retired
  ret_nodup : ∀ t, (rl t).Nodup
  ret_disj : ∀ t1 t2 p, p ∈ rl t1 → p ∈ rl t2 → t1 = t2
  log_st : ∀ p, p ∈ log ↔ obj p = disposed
  log_nodup : log.Nodup

/-- The object `p` of cell `c` is in no cell once `c` holds something else. -/
theorem Places.unlinked (h : Places fresh live retired disposed cells obj cnt rl log) {c : Nat} {p : Ptr}
    (hc : cells c = some p) {v : Option Ptr} (hv : v ≠ some p) (c' : Nat) : upd cells c v c' ≠ some p := fun e => by
  by_cases hcc : c' = c
  · rw [hcc, upd_same] at e; exact hv e
  · rw [upd_other _ _ _ _ hcc] at e; exact hcc (h.cell_inj c' c p e hc)

/-- A `swap` allocates the object `cnt` and links it into cell `c`.  The new object was `fresh`, so no cell, retired
    array or log holds it, and the objects the clauses speak of keep their state. -/
theorem Places.alloc (hO : States fresh live retired disposed) (h : Places fresh live retired disposed cells obj cnt rl log)
    (c : Nat) :
    Places fresh live retired disposed (upd cells c (some cnt)) (upd obj cnt live) (cnt + 1) rl log ∧
    ∀ p, obj p ≠ fresh → upd obj cnt live p = obj p := by
  have hf := h.fresh_hi cnt (Nat.le_refl _)
  have keep : ∀ p, obj p ≠ fresh → upd obj cnt live p = obj p := fun p hp => upd_other _ _ _ _ fun e => hp (e ▸ hf)
  have hcell : ∀ c' p, upd cells c (some cnt) c' = some p → (c' = c ∧ p = cnt) ∨ cells c' = some p := fun c' p e => by
    by_cases hc : c' = c
    · rw [hc, upd_same] at e; exact Or.inl ⟨hc, (Option.some.inj e).symm⟩
    · rw [upd_other _ _ _ _ hc] at e; exact Or.inr e
  have hn : ∀ c', cells c' ≠ some cnt := fun c' e => hO.fresh_live (hf.symm.trans (h.cell_live c' _ e))
  refine ⟨?_, keep⟩
  exact {
    cnt_pos := Nat.le_add_left 1 cnt
    fresh_hi := fun p hp => (upd_other _ _ _ _ (by omega)).trans (h.fresh_hi p (by omega))
    fresh_zero := (upd_other _ _ _ _ (by have := h.cnt_pos; omega)).trans h.fresh_zero
    cell_live := fun c' p e => by
      rcases hcell c' p e with ⟨-, rfl⟩ | e
      · exact upd_same _ _ _
      · have hl := h.cell_live c' p e
        exact (keep p (hl ▸ hO.fresh_live.symm)).trans hl
    cell_inj := fun c1 c2 p e1 e2 => by
      rcases hcell c1 p e1 with ⟨h1, hp⟩ | e1 <;> rcases hcell c2 p e2 with ⟨h2, hp'⟩ | e2
      · exact h1.trans h2.symm
      · exact absurd (hp ▸ e2) (hn c2)
      · exact absurd (hp' ▸ e1) (hn c1)
      · exact h.cell_inj c1 c2 p e1 e2
    ret_st := fun t p hp => by
      have hr := h.ret_st t p hp
      exact (keep p (hr ▸ hO.fresh_retired.symm)).trans hr
    ret_nodup := h.ret_nodup
    ret_disj := h.ret_disj
    log_st := fun p => by
      by_cases e : p = cnt
      · rw [e, upd_same, h.log_st, hf]
        exact ⟨fun e => absurd e hO.fresh_disposed, fun e => absurd e hO.live_disposed⟩
      · rw [upd_other _ _ _ _ e]; exact h.log_st p
    log_nodup := h.log_nodup }

/-- A `take` empties cell `c`. -/
theorem Places.take (h : Places fresh live retired disposed cells obj cnt rl log) (c : Nat) :
    Places fresh live retired disposed (upd cells c none) obj cnt rl log :=
  have hcell : ∀ c' p, upd cells c none c' = some p → cells c' = some p := fun c' p e => by
    by_cases hc : c' = c
    · rw [hc, upd_same] at e; cases e
    · rwa [upd_other _ _ _ _ hc] at e
  { h with
    cell_live := fun c' p e => h.cell_live c' p (hcell c' p e)
    cell_inj := fun c1 c2 p e1 e2 => h.cell_inj c1 c2 p (hcell c1 p e1) (hcell c2 p e2) }

/-- Thread `t` pushes the live, unlinked object `p` on its retired array. -/
theorem Places.retire (hO : States fresh live retired disposed) (h : Places fresh live retired disposed cells obj cnt rl log)
    (t : Tid) {p : Ptr} (hl : obj p = live) (hc : ∀ c, cells c ≠ some p) :
    Places fresh live retired disposed cells (upd obj p retired) cnt (upd rl t (rl t ++ [p])) log := by
  have keep : ∀ q, obj q ≠ live → upd obj p retired q = obj q := fun q hq => upd_other _ _ _ _ fun e => hq (e ▸ hl)
  have hnr : ∀ u, p ∉ rl u := fun u hm => hO.live_retired (hl.symm.trans (h.ret_st u p hm))
  have hmem : ∀ u q, q ∈ upd rl t (rl t ++ [p]) u → (u = t ∧ q = p) ∨ q ∈ rl u := fun u q hq => by
    by_cases hu : u = t
    · rw [hu, upd_same, List.mem_append, List.mem_singleton] at hq
      exact hq.elim (fun hq => Or.inr (hu ▸ hq)) fun hq => Or.inl ⟨hu, hq⟩
    · rw [upd_other _ _ _ _ hu] at hq; exact Or.inr hq
  exact {
    cnt_pos := h.cnt_pos
    fresh_hi := fun q hq => by
      have hf := h.fresh_hi q hq
      exact (keep q (hf ▸ hO.fresh_live)).trans hf
    fresh_zero := (keep 0 (h.fresh_zero ▸ hO.fresh_live)).trans h.fresh_zero
    cell_live := fun c q e => by
      have hq : q ≠ p := fun e' => hc c (e' ▸ e)
      exact (upd_other _ _ _ _ hq).trans (h.cell_live c q e)
    cell_inj := h.cell_inj
    ret_st := fun u q hq => by
      rcases hmem u q hq with ⟨-, rfl⟩ | hq
      · exact upd_same _ _ _
      · have hr := h.ret_st u q hq
        exact (keep q (hr ▸ hO.live_retired.symm)).trans hr
    ret_nodup := fun u => by
      by_cases hu : u = t
      · rw [hu, upd_same]; exact nodup_snoc (h.ret_nodup t) (hnr t)
      · rw [upd_other _ _ _ _ hu]; exact h.ret_nodup u
    ret_disj := fun t1 t2 q h1 h2 => by
      rcases hmem t1 q h1 with ⟨e1, rfl⟩ | h1 <;> rcases hmem t2 _ h2 with ⟨e2, e⟩ | h2
      · exact e1.trans e2.symm
      · exact absurd h2 (hnr t2)
      · exact absurd (e ▸ h1) (hnr t1)
      · exact h.ret_disj t1 t2 q h1 h2
    log_st := fun q => by
      by_cases e : q = p
      · rw [e, upd_same, h.log_st, hl]
        exact ⟨fun e => absurd e hO.live_disposed, fun e => absurd e hO.retired_disposed⟩
      · rw [upd_other _ _ _ _ e]; exact h.log_st q
    log_nodup := h.log_nodup }

/-- Stage 2 of a scan of thread `t`: of its retired array the duplicate-free part `kept` stays, the objects of the
    duplicate-free, disjoint part `freed` go to the disposer. -/
theorem Places.decide (hO : States fresh live retired disposed)
    (h : Places fresh live retired disposed cells obj cnt rl log) (t : Tid) {kept freed : List Ptr}
    (hk : ∀ p, p ∈ kept → p ∈ rl t ∧ p ∉ freed) (hf : ∀ p, p ∈ freed → p ∈ rl t) (hkn : kept.Nodup)
    (hfn : freed.Nodup) :
    Places fresh live retired disposed cells (fun p => if p ∈ freed then disposed else obj p) cnt (upd rl t kept)
      (log ++ freed) := by
  have hfr : ∀ p, p ∈ freed → obj p = retired := fun p hp => h.ret_st t p (hf p hp)
  have keep : ∀ p, obj p ≠ retired → (if p ∈ freed then disposed else obj p) = obj p :=
    fun p hp => if_neg fun hm => hp (hfr p hm)
  have hmem : ∀ u q, q ∈ upd rl t kept u → q ∈ rl u ∧ q ∉ freed := fun u q hq => by
    by_cases hu : u = t
    · rw [hu, upd_same] at hq; exact hu ▸ hk q hq
    · rw [upd_other _ _ _ _ hu] at hq
      exact ⟨hq, fun hm => hu (h.ret_disj u t q hq (hf q hm))⟩
  exact {
    cnt_pos := h.cnt_pos
    fresh_hi := fun p hp => by
      have hfp := h.fresh_hi p hp
      exact (keep p (hfp ▸ hO.fresh_retired)).trans hfp
    fresh_zero := (keep 0 (h.fresh_zero ▸ hO.fresh_retired)).trans h.fresh_zero
    cell_live := fun c p e => by
      have hl := h.cell_live c p e
      exact (keep p (hl ▸ hO.live_retired)).trans hl
    cell_inj := h.cell_inj
    ret_st := fun u q hq => (if_neg (hmem u q hq).2).trans (h.ret_st u q (hmem u q hq).1)
    ret_nodup := fun u => by
      by_cases hu : u = t
      · rw [hu, upd_same]; exact hkn
      · rw [upd_other _ _ _ _ hu]; exact h.ret_nodup u
    ret_disj := fun t1 t2 q h1 h2 => h.ret_disj t1 t2 q (hmem t1 q h1).1 (hmem t2 q h2).1
    log_st := fun p => by
      rw [List.mem_append, h.log_st]
      by_cases hp : p ∈ freed
      · simp [hp]
      · simp [hp]
    log_nodup := by
      rw [List.nodup_append]
      refine ⟨h.log_nodup, hfn, fun a ha b hb e => ?_⟩
      have h1 := (h.log_st a).mp ha
      rw [e, hfr b hb] at h1
      exact hO.retired_disposed h1 }

/-- No object is lost: a `live` object is in a cell or in flight (`fl`: some thread has unlinked it and not yet pushed
    it), a `retired` object is in some retired array. -/
structure Kept (live retired : O) (cells : Nat → Option Ptr) (obj : Ptr → O) (rl : Tid → List Ptr) (fl : Ptr → Prop) :
    Prop where
  live_ex : ∀ p, obj p = live → (∃ c, cells c = some p) ∨ fl p
  ret_ex : ∀ p, obj p = retired → ∃ t, p ∈ rl t

variable {fl fl' : Ptr → Prop}

theorem Kept.mono (h : Kept live retired cells obj rl fl) (hfl : ∀ p, fl p → fl' p) :
    Kept live retired cells obj rl fl' :=
  ⟨fun p hl => (h.live_ex p hl).imp_right (hfl p), h.ret_ex⟩

/-- `swap`: the new object is in the cell, the old one (if any) in flight. -/
theorem Kept.alloc (hO : States fresh live retired disposed) (hP : Places fresh live retired disposed cells obj cnt rl log)
    (h : Kept live retired cells obj rl fl) (c : Nat) (hfl : ∀ p, fl p → fl' p) (hold : ∀ p, cells c = some p → fl' p) :
    Kept live retired (upd cells c (some cnt)) (upd obj cnt live) rl fl' where
  live_ex := fun p hl => by
    by_cases ep : p = cnt
    · exact Or.inl ⟨c, by rw [ep, upd_same]⟩
    · rw [upd_other _ _ _ _ ep] at hl
      rcases h.live_ex p hl with ⟨c', hc'⟩ | hp
      · by_cases e : c' = c
        · exact Or.inr (hold p (e ▸ hc'))
        · exact Or.inl ⟨c', by rw [upd_other _ _ _ _ e]; exact hc'⟩
      · exact Or.inr (hfl p hp)
  ret_ex := fun p hr => by
    by_cases ep : p = cnt
    · rw [ep, upd_same] at hr; exact absurd hr hO.live_retired
    · rw [upd_other _ _ _ _ ep] at hr; exact h.ret_ex p hr

/-- `take`: the old object is in flight. -/
theorem Kept.take (h : Kept live retired cells obj rl fl) (c : Nat) (hfl : ∀ p, fl p → fl' p)
    (hold : ∀ p, cells c = some p → fl' p) : Kept live retired (upd cells c none) obj rl fl' where
  live_ex := fun p hl => by
    rcases h.live_ex p hl with ⟨c', hc'⟩ | hp
    · by_cases e : c' = c
      · exact Or.inr (hold p (e ▸ hc'))
      · exact Or.inl ⟨c', by rw [upd_other _ _ _ _ e]; exact hc'⟩
    · exact Or.inr (hfl p hp)
  ret_ex := h.ret_ex

/-- `retire`: the object in flight goes to the retired array. -/
theorem Kept.retire (hO : States fresh live retired disposed) (h : Kept live retired cells obj rl fl) (t : Tid) (p : Ptr)
    (hfl : ∀ q, q ≠ p → fl q → fl' q) : Kept live retired cells (upd obj p retired) (upd rl t (rl t ++ [p])) fl' where
  live_ex := fun q hl => by
    have eq : q ≠ p := fun e => by rw [e, upd_same] at hl; exact hO.live_retired hl.symm
    rw [upd_other _ _ _ _ eq] at hl
    exact (h.live_ex q hl).imp_right (hfl q eq)
  ret_ex := fun q hr => by
    by_cases eq : q = p
    · exact ⟨t, by rw [upd_same, eq]; exact List.mem_append_right _ List.mem_cons_self⟩
    · rw [upd_other _ _ _ _ eq] at hr
      obtain ⟨u, hu⟩ := h.ret_ex q hr
      by_cases e : u = t
      · exact ⟨t, by rw [upd_same]; exact List.mem_append_left _ (e ▸ hu)⟩
      · exact ⟨u, by rw [upd_other _ _ _ _ e]; exact hu⟩

/-- The decision step: what is not freed is kept. -/
theorem Kept.decide (hO : States fresh live retired disposed) (h : Kept live retired cells obj rl fl) (t : Tid)
    {kept freed : List Ptr} (hsplit : ∀ p, p ∈ rl t → p ∈ kept ∨ p ∈ freed) (hfl : ∀ p, fl p → fl' p) :
    Kept live retired cells (fun p => if p ∈ freed then disposed else obj p) (upd rl t kept) fl' where
  live_ex := fun p hl => by
    split at hl
    · exact absurd hl hO.live_disposed.symm
    · exact (h.live_ex p hl).imp_right (hfl p)
  ret_ex := fun p hr => by
    split at hr
    · exact absurd hr hO.retired_disposed.symm
    · next hnf =>
      obtain ⟨u, hu⟩ := h.ret_ex p hr
      by_cases e : u = t
      · exact ⟨t, by rw [upd_same]; exact ((hsplit p (e ▸ hu)).resolve_right hnf)⟩
      · exact ⟨u, by rw [upd_other _ _ _ _ e]; exact hu⟩

end

/-- Event form of `obs_of_inductive`: a property of every event emitted from a state that satisfies an inductive
    invariant holds of every event of every run. -/
theorem ev_of_inductive {σ : Type} (m : Model σ) (I : σ → Prop) (P : Tid → Ev → Prop)
    (hstep : ∀ s t a s' o, I s → m.apply s t a = some (s', o) → I s')
    (hev : ∀ s t s' e, I s → m.step s t = some (s', e) → P t e) :
    ∀ (sched : List (Tid × Act)) (s s' : σ) os, I s → m.run s sched = some (s', os) →
      ∀ t e, (t, Obs.ev e) ∈ os → P t e := by
  intro sched s s' os h hr t e hmem
  refine Model.obs_of_inductive m I (fun t o => ∀ e, o = Obs.ev e → P t e) hstep ?_ sched s s' os h hr
    (t, Obs.ev e) hmem e rfl
  intro s t a s' o hI hap e he
  rcases Model.apply_cases hap with ⟨op, -, -, ho⟩ | ⟨ev, -, hs, ho⟩ | ⟨r, -, -, ho⟩
  · rw [ho] at he; cases he
  · rw [ho] at he; cases he; exact hev s t s' e hI hs
  · rw [ho] at he; cases he

section
variable {O : Type} {fresh live retired disposed : O} {cells : Nat → Option Ptr} {obj : Ptr → O} {cnt : Nat}
  {rl : Tid → List Ptr} {log : List Ptr}

/-- A retired array holds no null entry. -/
theorem Places.ret_ne_zero (hO : States fresh live retired disposed)
    (h : Places fresh live retired disposed cells obj cnt rl log) {t : Tid} {p : Ptr} (hp : p ∈ rl t) : p ≠ 0 :=
  fun e => hO.fresh_retired (h.fresh_zero.symm.trans (e ▸ h.ret_st t p hp))

/-- What stage 2 of a scan of thread `t` with plist `acc` frees is an entry of `t`'s retired array that is not in
    `acc`. -/
theorem Places.freed_spec (hO : States fresh live retired disposed)
    (h : Places fresh live retired disposed cells obj cnt rl log) {t : Tid} {acc : List Ptr} {p : Ptr}
    (hp : p ∈ (classicScan acc (rl t)).2) : p ∈ rl t ∧ p ∉ acc :=
  have hf := mem_classicScan_freed.mp hp
  ⟨hf.1, fun ha => hf.2 ⟨ha, h.ret_ne_zero hO hf.1⟩⟩

end

end CdsVerif.Algo.HP
