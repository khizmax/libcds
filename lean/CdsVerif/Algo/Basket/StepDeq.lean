/-
  BasketQueue model, preservation of `SInvL` and effect on the abstract queue: the steps of `do_dequeue`.
-/
import CdsVerif.Algo.Basket.Thread
namespace CdsVerif.Algo.Basket
open CdsVerif.Machine CdsVerif.Spec CdsVerif.Lin CdsVerif.Algo.QueueLin

variable {s s' : St} {t : Tid} {ev : Ev} {G M Q : List Nat}

theorem sinvl_step_dLdH1
    (h : SInvL s G M Q) (hpc : s.pc t = .dLdH1) (hs : step s t = some (s', ev)) : Post s t Q s' := by
  have hT := hpc ▸ h.thread t
  simp only [step, hpc] at hs
  cases hs
  exact h.move hpc { hT with } nofun (.inl rfl) (fun _ => rfl)

theorem sinvl_step_dLdH2 {p : Nat}
    (h : SInvL s G M Q) (hpc : s.pc t = .dLdH2 p) (hs : step s t = some (s', ev)) : Post s t Q s' := by
  have hT := hpc ▸ h.thread t
  simp only [step, hpc] at hs
  split at hs
  next heq =>
    cases hs
    have hpW : p ∈ G ++ (M ++ Q) := heq ▸ List.mem_append_right _ h.mem.head_mid.mem
    exact h.move hpc
      { hT with
        inw := fun x hx => List.mem_singleton.mp hx ▸ hpW
        deqh := fun k e _ => Option.some.inj e ▸ heq
        dhw := fun k e => Option.some.inj e ▸ hpW }
      nofun (.inl rfl) (fun _ => rfl)
  next hne =>
    cases hs
    exact h.move hpc TInv.dLdH1 nofun (.inl rfl) (fun _ => rfl)

theorem sinvl_step_dLdT1 {h' : Nat}
    (h : SInvL s G M Q) (hpc : s.pc t = .dLdT1 h') (hs : step s t = some (s', ev)) : Post s t Q s' := by
  have hT := hpc ▸ h.thread t
  simp only [step, hpc] at hs
  cases hs
  exact h.move hpc { hT with } nofun (.inl rfl) (fun _ => rfl)

theorem sinvl_step_dLdT2 {h' p : Nat}
    (h : SInvL s G M Q) (hpc : s.pc t = .dLdT2 h' p) (hs : step s t = some (s', ev)) : Post s t Q s' := by
  have hT := hpc ▸ h.thread t
  simp only [step, hpc] at hs
  split at hs
  all_goals
    cases hs
    exact h.move hpc { hT with } nofun (.inl rfl) (fun _ => rfl)

theorem sinvl_step_dNx1 {h' a : Nat}
    (h : SInvL s G M Q) (hpc : s.pc t = .dNx1 h' a) (hs : step s t = some (s', ev)) : Post s t Q s' := by
  have hT := hpc ▸ h.thread t
  simp only [step, hpc] at hs
  cases hs
  exact h.move hpc { hT with } nofun (.inl rfl) (fun _ => rfl)

/-- The validating load of `h->m_pNext`: the successor read is published; a marked link is recorded (it will not
    change); a null link seen with `h` as tail candidate is the linearization point of the empty `dequeue`. -/
theorem sinvl_step_dNx2 {h' a : Nat} {p : MP}
    (h : SInvL s G M Q) (hpc : s.pc t = .dNx2 h' a p) (hs : step s t = some (s', ev)) : Post s t Q s' := by
  have hT := hpc ▸ h.thread t
  have hhW := hT.inw h' (.head _)
  simp only [step, hpc] at hs
  split at hs
  next heq =>
    cases hs
    have hn : s.nptr h' = p.1 := congrArg Prod.fst heq
    have hb : s.nbit h' = p.2 := congrArg Prod.snd heq
    obtain ⟨p1, p2⟩ := p
    cases p1 with
    | none =>
      have hT' : TInv s.mem G M Q (.dChk h' a (none, p2)) := { hT with }
      by_cases e : h' = a
      · subst e
        obtain ⟨hh, hQ⟩ := h.mem.empty hhW hn (hT.deqh h' rfl)
        exact ⟨G, M, Q, h.frame rfl h.mem hT' (fun u _ => h.thread u) (h.others hpc nofun),
          StepEff.empty hpc hh hn hQ⟩
      · exact h.move hpc hT' nofun (.inl (by simp [lpRet, e])) (fun _ => rfl)
    | some c =>
      have hcW : c ∈ G ++ (M ++ Q) := h.mem.wsucc hhW hn
      have hin : ∀ x, x ∈ [h', c] → x ∈ G ++ (M ++ Q) := fun x hx => by
        rcases List.mem_cons.mp hx with e | e
        · exact e ▸ hhW
        · exact List.mem_singleton.mp e ▸ hcW
      cases p2 with
      | false => exact h.move hpc { hT with inw := hin } nofun (.inl (by simp [lpRet])) (fun _ => rfl)
      | true =>
        exact h.move hpc { hT with inw := hin, link := fun b v e => by cases e; exact ⟨hn, hb⟩ } nofun
          (.inl (by simp [lpRet])) (fun _ => rfl)
  next hne =>
    cases hs
    exact h.move hpc { hT with } nofun (.inl rfl) (fun _ => rfl)

/-- The check of `m_pHead`: `h` is still `head`, so it is marked or the current dummy, and the skip loop starts
    there. -/
theorem sinvl_step_dChk {h' a : Nat} {p : MP}
    (h : SInvL s G M Q) (hpc : s.pc t = .dChk h' a p) (hs : step s t = some (s', ev)) : Post s t Q s' := by
  have hT := hpc ▸ h.thread t
  simp only [step, hpc] at hs
  split at hs
  next heq =>
    split at hs
    next e =>
      split at hs
      next hp =>
        cases hs
        exact h.move hpc TInv.done nofun (.inl (by simp [lpRet, e, hp])) nofun
      next c hp =>
        cases hs
        obtain ⟨p1, p2⟩ := p
        cases hp
        exact h.move hpc { hT with inw := fun x hx => hT.inw x (List.mem_cons_of_mem _ hx), link := nofun } nofun
          (.inl (by simp [lpRet])) (fun _ => rfl)
    next e =>
      cases hs
      have hmid : Mid M Q h' := heq ▸ h.mem.head_mid
      have hlk : p.2 = true → p.1 ≠ none → s.nptr h' = p.1 ∧ s.nbit h' = p.2 := by
        obtain ⟨p1, p2⟩ := p
        rintro rfl hp
        cases p1 with
        | none => exact absurd rfl hp
        | some c => exact hT.link h' _ rfl
      have hsk := skNext_deq s.val h' a h' p 0
      exact h.move hpc (TInv.skNext (hT.dhw h' rfl) hmid.low (hT.dhw h' rfl) (hT.deqh h' rfl) (fun _ => hmid) hlk)
        (by rw [hsk.1]; exact nofun) (.inl (by rw [hsk.2.1]; simp [lpRet, e])) (fun _ => by rw [hsk.2.2]; rfl)
  next hne =>
    cases hs
    exact h.move hpc TInv.dLdH1 nofun (by by_cases e : h' = a ∧ p.1 = none <;> simp [lpRet, e]) (fun _ => rfl)

/-! ### `head == tail`: helping `m_pTail` forward -/

theorem sinvl_step_hpWalk {h' a c : Nat}
    (h : SInvL s G M Q) (hpc : s.pc t = .hpWalk h' a c) (hs : step s t = some (s', ev)) : Post s t Q s' := by
  have hT := hpc ▸ h.thread t
  simp only [step, hpc] at hs
  split at hs
  all_goals
    cases hs
    exact h.move hpc { hT with } nofun (.inl rfl) (fun _ => rfl)

theorem sinvl_step_hpTail {h' a c : Nat}
    (h : SInvL s G M Q) (hpc : s.pc t = .hpTail h' a c) (hs : step s t = some (s', ev)) : Post s t Q s' := by
  have hT := hpc ▸ h.thread t
  simp only [step, hpc] at hs
  split at hs
  all_goals
    cases hs
    exact h.move hpc { hT with } nofun (.inl rfl) (fun _ => rfl)

theorem sinvl_step_hpP1 {h' a c : Nat}
    (h : SInvL s G M Q) (hpc : s.pc t = .hpP1 h' a c) (hs : step s t = some (s', ev)) : Post s t Q s' := by
  have hT := hpc ▸ h.thread t
  simp only [step, hpc] at hs
  cases hs
  exact h.move hpc { hT with } nofun (.inl rfl) (fun _ => rfl)

theorem sinvl_step_hpP2 {h' a c : Nat} {p : MP}
    (h : SInvL s G M Q) (hpc : s.pc t = .hpP2 h' a c p) (hs : step s t = some (s', ev)) : Post s t Q s' := by
  have hT := hpc ▸ h.thread t
  simp only [step, hpc] at hs
  split at hs
  next heq =>
    subst heq
    split at hs
    next c' hc' =>
      cases hs
      have hc'W : c' ∈ G ++ (M ++ Q) := h.mem.wsucc (hT.inw c (.head _)) hc'
      exact h.move hpc { hT with inw := fun x hx => List.mem_singleton.mp hx ▸ hc'W } nofun (.inl rfl) (fun _ => rfl)
    next hn =>
      cases hs
      exact h.move hpc TInv.crash nofun (.inl rfl) (fun _ => rfl)
  next hne =>
    cases hs
    exact h.move hpc { hT with } nofun (.inl rfl) (fun _ => rfl)

theorem sinvl_step_hpCas {h' a c : Nat}
    (h : SInvL s G M Q) (hpc : s.pc t = .hpCas h' a c) (hs : step s t = some (s', ev)) : Post s t Q s' := by
  have hT := hpc ▸ h.thread t
  simp only [step, hpc] at hs
  split at hs
  next heq =>
    cases hs
    exact h.swing hpc (hT.inw c (.head _)) TInv.dLdH1 nofun (.inl rfl) (fun _ => rfl)
  next hne =>
    cases hs
    exact h.move hpc TInv.dLdH1 nofun (.inl rfl) (fun _ => rfl)

/-! ### `head != tail`: skipping the logically deleted nodes, marking the first live one -/

/-- While `h` is `head`, the skip loop follows a marked link from a marked node of the chain: the next node is marked
    or the current dummy.  In any case it is gone, marked or the current dummy. -/
theorem sinvl_step_skHead {h' a it : Nat} {p : MP} {hops : Nat}
    (h : SInvL s G M Q) (hpc : s.pc t = .skHead h' a it p hops) (hs : step s t = some (s', ev)) : Post s t Q s' := by
  have hT := hpc ▸ h.thread t
  obtain ⟨hn, hb⟩ := hT.link it p rfl
  have hpf : p.2 = true ∧ p.1 ≠ none := hT.pcf
  rw [hpf.1] at hb
  simp only [step, hpc] at hs
  split at hs
  next heq =>
    split at hs
    next x hx =>
      cases hs
      rw [hx] at hn
      have hlow : Low G M Q x := h.mem.low_succ (h.mem.low_marked (hT.low it (.head _)) hn hb) hn
      exact h.move hpc
        { hT with
          inw := fun y hy => List.mem_singleton.mp hy ▸ hlow.mem
          low := fun y hy => List.mem_singleton.mp hy ▸ hlow
          mids := fun k y e hk => by cases e; exact h.mem.mid_succ (hT.mids _ it rfl hk) hn hb
          link := nofun
          pcf := trivial }
        nofun (.inl rfl) (fun _ => rfl)
    next hx =>
      cases hs
      exact h.move hpc TInv.crash nofun (.inl rfl) (fun _ => rfl)
  next hne =>
    cases hs
    exact h.move hpc
      { hT with dck := fun k b c v e hk => by cases e; exact absurd hk hne, link := nofun, pcf := trivial }
      nofun (.inl rfl) (fun _ => rfl)

theorem sinvl_step_skP1 {h' a it : Nat} {hops : Nat}
    (h : SInvL s G M Q) (hpc : s.pc t = .skP1 h' a it hops) (hs : step s t = some (s', ev)) : Post s t Q s' := by
  have hT := hpc ▸ h.thread t
  simp only [step, hpc] at hs
  cases hs
  exact h.move hpc { hT with } nofun (.inl rfl) (fun _ => rfl)

theorem sinvl_step_skP2 {h' a it : Nat} {p : MP} {hops : Nat}
    (h : SInvL s G M Q) (hpc : s.pc t = .skP2 h' a it p hops) (hs : step s t = some (s', ev)) : Post s t Q s' := by
  have hT := hpc ▸ h.thread t
  simp only [step, hpc] at hs
  split at hs
  next heq =>
    cases hs
    have hsk := skNext_deq s.val h' a it p hops
    exact h.move hpc
      (TInv.skNext (hT.inw it (.head _)) (hT.low it (.head _)) (hT.dhw h' rfl) (hT.deqh h' rfl) (hT.mids h' it rfl)
        (fun _ _ => ⟨congrArg Prod.fst heq, congrArg Prod.snd heq⟩))
      (by rw [hsk.1]; exact nofun) (.inl hsk.2.1) (fun _ => hsk.2.2)
  next hne =>
    cases hs
    exact h.move hpc { hT with } nofun (.inl rfl) (fun _ => rfl)

theorem sinvl_step_dChk2 {h' a it : Nat} {p : MP} {hops : Nat}
    (h : SInvL s G M Q) (hpc : s.pc t = .dChk2 h' a it p hops) (hs : step s t = some (s', ev)) : Post s t Q s' := by
  have hT := hpc ▸ h.thread t
  simp only [step, hpc] at hs
  split at hs
  next heq =>
    split at hs
    next e =>
      cases hs
      exact h.move hpc { hT with low := nofun, dck := nofun } nofun (.inl rfl) (fun _ => rfl)
    next e =>
      cases hs
      have hp : p.1 = none ∨ p.2 = false := by
        rcases hT.dck h' a it p rfl heq with hp | hp | hp
        · exact Or.inl hp
        · exact Or.inr hp
        · exact absurd hp e
      exact h.move hpc { hT with mids := nofun, dck := nofun, pcf := hp } nofun (.inl rfl) (fun _ => rfl)
  next hne =>
    cases hs
    exact h.move hpc TInv.dLdH1 nofun (.inl rfl) (fun _ => rfl)

/-- The marking CAS.  The node reached along marked links has an unmarked link: it is the current dummy. -/
theorem sinvl_step_dMark {h' it : Nat} {p : MP} {hops : Nat}
    (h : SInvL s G M Q) (hpc : s.pc t = .dMark h' it p hops) (hs : step s t = some (s', ev)) : Post s t Q s' := by
  have hT := hpc ▸ h.thread t
  have hitW := hT.inw it (.head _)
  have hpf : p.1 = none ∨ p.2 = false := hT.pcf
  simp only [step, hpc] at hs
  split at hs
  next heq =>
    have hn : s.nptr it = p.1 := congrArg Prod.fst heq
    have hb : s.nbit it = p.2 := congrArg Prod.snd heq
    split at hs
    next x hx =>
      cases hs
      rw [hx] at hn
      rw [hpf.resolve_left (by rw [hx]; nofun)] at hb
      have hfc : ∀ r, Q = it :: x :: r →
          TInv { s.mem with nbit := upd s.nbit it true } G (M ++ [it]) (x :: r) (.fcCas h' x (some (s.val x))) :=
        fun r hQ => by
          have hML : (M ++ [it]) ++ x :: r = M ++ Q := by rw [hQ]; simp
          exact {
            priv := nofun
            inw := fun y hy => List.mem_singleton.mp hy ▸
              List.mem_append_right _ (List.mem_append_right _ (.head _))
            low := nofun
            deqh := fun k e hk => hT.deqh k e (hML ▸ hk)
            dhw := fun k e => hML ▸ hT.dhw k e
            mids := fun k y e _ => by cases e; exact Or.inr rfl
            dck := nofun
            link := nofun
            pcf := trivial }
      split
      next => exact h.markCas hpc hitW (hT.low it (.head _)) hn hb hfc rfl rfl rfl rfl rfl
      next =>
        exact h.markCas hpc hitW (hT.low it (.head _)) hn hb
          (fun _ _ => TInv.done) rfl rfl rfl rfl rfl
    next hx =>
      cases hs
      rw [hx] at hn
      exact h.mark_null hpc hitW hn TInv.crash nofun (.inl rfl) (fun _ => rfl)
  next hne =>
    cases hs
    exact h.move hpc TInv.dLdH1 nofun (.inl rfl) (fun _ => rfl)

end CdsVerif.Algo.Basket
