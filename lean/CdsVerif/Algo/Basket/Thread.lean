/-
  How a step of one thread preserves the BasketQueue invariant.

  A step of thread `t` rewrites `s.pc t` and a little memory, so after it
    * `MInv` has to be established for the new memory (nothing to prove if it is unchanged),
    * the other threads' `TInv` has to survive the change of the memory,
    * `TInv` has to be established for the new program counter of `t`,
    * the new program counter must not own a node that another thread owns.
  `SInvL.frame` is this rule.  It is instantiated once for every kind of step the machine has, together with the effect
  `StepEff` on the abstract queue: `move` (no write), `swing` (`m_pTail` moves), `store_own` (a store into the private
  node), `mark_null`, and the three CASes that change the lists, `linkCas`, `markCas`, `headCas`; each comes with
  the lemma that `TInv` of another thread is stable under that kind of write.
-/
import CdsVerif.Algo.Basket.Inv
namespace CdsVerif.Algo.Basket
open CdsVerif.Machine CdsVerif.Spec CdsVerif.Lin CdsVerif.Algo.QueueLin

/-- The rule for one step of thread `t` to the program counter `q`. -/
theorem SInvL.frame {s s' : St} {G M Q G' M' Q' : List Nat} {t : Tid} {q : PC} (h : SInvL s G M Q)
    (hpc' : s'.pc = upd s.pc t q)
    (hM : MInv s'.mem G' M' Q')
    (hT : TInv s'.mem G' M' Q' q)
    (hO : ∀ u, u ≠ t → TInv s'.mem G' M' Q' (s.pc u))
    (hE : ∀ u, u ≠ t → ∀ n, enqNode q = some n → enqNode (s.pc u) ≠ some n) : SInvL s' G' M' Q' :=
  ⟨hM, hpc' ▸ forall_upd hT hO, hpc' ▸ own_upd h.own hE⟩

/-- A program counter that owns no more than that of `t` owns nothing another thread owns. -/
theorem SInvL.others {s : St} {G M Q : List Nat} {t : Tid} {p q : PC} (h : SInvL s G M Q) (hpc : s.pc t = p)
    (hi : ∀ n, enqNode q = some n → enqNode p = some n) :
    ∀ u, u ≠ t → ∀ n, enqNode q = some n → enqNode (s.pc u) ≠ some n :=
  fun u hu n e e' => hu (h.own u t n e' (hpc ▸ hi n e))

/-- After the step of `t` from `s` to `s'` the invariant holds again, and the step has an effect `StepEff` on the
    abstract queue `Q.tail`. -/
def Post (s : St) (t : Tid) (Q : List Nat) (s' : St) : Prop :=
  ∃ G' M' Q', SInvL s' G' M' Q' ∧ StepEff s t s' Q Q'

/-! ### Steps that change neither the lists nor the abstract queue -/

/-- The effect of a step of `t` from `p` to `q` that is no linearization point. -/
theorem StepEff.quiet {s s' : St} {t : Tid} {p q : PC} {Q : List Nat} (hpc : s.pc t = p)
    (hpc' : s'.pc = upd s.pc t q) (hv : s'.val = s.val) (hc : s'.cnt = s.cnt)
    (hl : lpRet q = lpRet p ∨ (lpRet p = some [0] ∧ lpRet q = none))
    (ho : postRet q = none → opOf s.val q = opOf s.val p) : StepEff s t s' Q Q := by
  have hq : s'.pc t = q := by rw [hpc']; exact upd_same _ _ _
  refine ⟨fun u hu => by rw [hpc']; exact upd_other _ _ _ _ hu, hv, hc, ?_, fun _ => rfl, ?_, ?_, ?_, fun a ha => Or.inl ha⟩
  · intro h0 r h1
    rw [hq] at h1; rw [hpc] at h0
    rcases hl with hl | hl
    · rw [hl, h0] at h1; cases h1
    · rw [hl.1] at h0; cases h0
  · intro r h0
    rw [hq]; rw [hpc] at h0
    rcases hl with hl | hl
    · exact Or.inl (hl ▸ h0)
    · exact Or.inr ⟨Option.some.inj (h0.symm.trans hl.1), hl.2⟩
  · rw [hq, hv, hpc]; exact ho
  · intro h0 h1
    rw [hq] at h1; rw [hpc] at h0
    rcases hl with hl | hl
    · rw [hl, h0] at h1; cases h1
    · rw [hl.1] at h0; cases h0

/-- The effect of a step of `t` from `p` to `q` that is the linearization point of `op`, with result `r`. -/
theorem StepEff.linearize {s s' : St} {t : Tid} {p q : PC} {Q Q' : List Nat} {op : GOp} {r : GRet} (hpc : s.pc t = p)
    (hpc' : s'.pc = upd s.pc t q) (hv : s'.val = s.val) (hc : s'.cnt = s.cnt)
    (hl : lpRet p = none) (hq1 : lpRet q = some r) (hq2 : postRet q = some r) (hr : r ≠ [0])
    (hop : opOf s.val p = some op) (hb : BEff (Q.tail.map s.val) op r (Q'.tail.map s.val))
    (hsub : ∀ a, a ∈ Q' → a ∈ Q ∨ enqNode p = some a) : StepEff s t s' Q Q' := by
  have hq : s'.pc t = q := by rw [hpc']; exact upd_same _ _ _
  rw [← hpc] at hl hop hsub
  rw [← hq] at hq1 hq2
  refine ⟨fun u hu => by rw [hpc']; exact upd_other _ _ _ _ hu, hv, hc, fun _ r' hr' => ?_, fun hn => ?_, fun r' hr' => ?_,
    fun hn => ?_, fun _ h0 => ?_, hsub⟩
  · cases hq1.symm.trans hr'
    exact ⟨op, hop, hb⟩
  · exact hn.elim (fun e => absurd hl e) fun e => nomatch hq1.symm.trans e
  · cases hl.symm.trans hr'
  · cases hq2.symm.trans hn
  · exact absurd (Option.some.inj (hq1.symm.trans h0)) hr

/-- A step that only moves the program counter of `t` from `p` to a `q` that owns no more. -/
theorem SInvL.move {s : St} {G M Q : List Nat} {t : Tid} {p q : PC} (h : SInvL s G M Q) (hpc : s.pc t = p)
    (hT : TInv s.mem G M Q q) (hi : ∀ n, enqNode q = some n → enqNode p = some n)
    (hl : lpRet q = lpRet p ∨ (lpRet p = some [0] ∧ lpRet q = none))
    (ho : postRet q = none → opOf s.val q = opOf s.val p) :
    Post s t Q { s with pc := upd s.pc t q } :=
  ⟨G, M, Q, h.frame rfl h.mem hT (fun u _ => h.thread u) (h.others hpc hi), StepEff.quiet hpc rfl rfl rfl hl ho⟩

/-- A thread at a program counter that owns nothing and observes nothing but published nodes. -/
theorem TInv.quiet {m : Mem} {G M Q : List Nat} {pc : PC} (h1 : enqNode pc = none)
    (h2 : ∀ a, a ∈ wnodes pc → a ∈ G ++ (M ++ Q)) (h3 : lows pc = []) (h4 : deqH pc = none) (h5 : midOf pc = none)
    (h6 : chk2Of pc = none) (h7 : linkOf pc = none) (h8 : pcFact pc) : TInv m G M Q pc where
  priv := fun n e => by rw [h1] at e; cases e
  inw := h2
  low := fun a e => by rw [h3] at e; cases e
  deqh := fun a e => by rw [h4] at e; cases e
  dhw := fun a e => by rw [h4] at e; cases e
  mids := fun a x e => by rw [h5] at e; cases e
  dck := fun _ _ _ _ e => by rw [h6] at e; cases e
  link := fun _ _ e => by rw [h7] at e; cases e
  pcf := h8

theorem TInv.idle {m : Mem} {G M Q : List Nat} : TInv m G M Q .idle :=
  TInv.quiet rfl nofun rfl rfl rfl rfl rfl trivial

theorem TInv.dLdH1 {m : Mem} {G M Q : List Nat} : TInv m G M Q .dLdH1 :=
  TInv.quiet rfl nofun rfl rfl rfl rfl rfl trivial

theorem TInv.done {m : Mem} {G M Q : List Nat} {r : GRet} : TInv m G M Q (.done r) :=
  TInv.quiet rfl nofun rfl rfl rfl rfl rfl trivial

theorem TInv.crash {m : Mem} {G M Q : List Nat} {fin : Option Int} : TInv m G M Q (.crash none fin) :=
  TInv.quiet rfl nofun rfl rfl rfl rfl rfl trivial

theorem TInv.fcEnd {m : Mem} {G M Q : List Nat} {fin : Option Int} : TInv m G M Q (fcEnd fin) := by
  cases fin
  · exact TInv.dLdH1
  · exact TInv.done

/-- The skip loop of `do_dequeue` continues (`skHead`) at a marked link to a node, unless `iter` is the tail
    candidate, and ends (`dChk2`) otherwise. -/
theorem skNext_cases (h a it : Nat) (p : MP) (hops : Nat) :
    (skNext h a it p hops = .skHead h a it p hops ∧ p.2 = true ∧ p.1 ≠ none) ∨
    (skNext h a it p hops = .dChk2 h a it p hops ∧ (p.1 = none ∨ p.2 = false ∨ it = a)) := by
  obtain ⟨p1, p2⟩ := p
  cases p1 with
  | none => exact Or.inr ⟨rfl, Or.inl rfl⟩
  | some x =>
    cases p2 with
    | false => exact Or.inr ⟨rfl, Or.inr (Or.inl rfl)⟩
    | true =>
      by_cases e : it = a
      · exact Or.inr ⟨by simp [skNext, e], Or.inr (Or.inr e)⟩
      · exact Or.inl ⟨by simp [skNext, e], rfl, nofun⟩

theorem TInv.skNext {m : Mem} {G M Q : List Nat} {h a it : Nat} {p : MP} {hops : Nat} (hit : it ∈ G ++ (M ++ Q))
    (hlow : Low G M Q it) (hh : h ∈ G ++ (M ++ Q)) (hdq : h ∈ M ++ Q → m.head = h) (hmid : m.head = h → Mid M Q it)
    (hlk : p.2 = true → p.1 ≠ none → m.nptr it = p.1 ∧ m.nbit it = p.2) : TInv m G M Q (skNext h a it p hops) := by
  have hT : TInv m G M Q (.skP1 h a it hops) :=
    ⟨nofun, fun x hx => List.mem_singleton.mp hx ▸ hit, fun x hx => List.mem_singleton.mp hx ▸ hlow,
     fun k e => Option.some.inj e ▸ hdq, fun k e => Option.some.inj e ▸ hh,
     fun k x e => by cases e; exact hmid, nofun, nofun, trivial⟩
  rcases skNext_cases h a it p hops with ⟨e, hp⟩ | ⟨e, hp⟩
  · rw [e]; exact { hT with link := fun b v e => by cases e; exact hlk hp.1 hp.2, pcf := hp }
  · rw [e]; exact { hT with dck := fun k b c v e _ => by cases e; exact hp }

theorem skNext_deq (val : Nat → Int) (h a it : Nat) (p : MP) (hops : Nat) :
    enqNode (skNext h a it p hops) = none ∧ lpRet (skNext h a it p hops) = none ∧
      opOf val (skNext h a it p hops) = some ⟨"deq", []⟩ := by
  rcases skNext_cases h a it p hops with ⟨e, -⟩ | ⟨e, -⟩ <;> rw [e] <;> exact ⟨rfl, rfl, rfl⟩

/-- The validating load of `h->m_pNext`, which is null, by a dequeuer whose tail candidate is `h`: the linearization
    point of the `dequeue` that answers "empty", unless `m_pHead` moves before the check that follows. -/
theorem StepEff.empty {s : St} {t : Tid} {h : Nat} {b : Bool} {Q : List Nat} (hpc : s.pc t = .dNx2 h h (none, b))
    (hh : s.head = h) (hn : s.nptr h = none) (hQ : Q = [h]) :
    StepEff s t { s with pc := upd s.pc t (.dChk h h (none, b)) } Q Q := by
  have hq : St.pc { s with pc := upd s.pc t (.dChk h h (none, b)) } t = .dChk h h (none, b) := upd_same _ _ _
  refine ⟨fun u hu => upd_other _ _ _ _ hu, rfl, rfl, fun _ r hr => ?_, fun _ => rfl, fun r hr => ?_, fun _ => ?_,
    fun _ _ => ⟨h, b, hpc, hh, hn, hQ⟩, fun a ha => Or.inl ha⟩
  · rw [hq] at hr
    cases (show lpRet (.dChk h h (none, b)) = some [0] from if_pos ⟨rfl, rfl⟩).symm.trans hr
    exact ⟨⟨"deq", []⟩, by rw [hpc]; rfl, Or.inr ⟨rfl, by rw [hQ]; exact fifo_deq_none⟩⟩
  · rw [hpc] at hr; cases hr
  · rw [hq, hpc]; rfl

/-! ### `m_pTail` moves -/

/-- `TInv` does not read `m_pTail`. -/
theorem TInv.set_tail {m : Mem} {G M Q : List Nat} {pc : PC} (h : TInv m G M Q pc) (c : Nat) :
    TInv { m with tail := c } G M Q pc :=
  { h with }

/-- Thread `t` swings `m_pTail` to the published node `c`. -/
theorem SInvL.swing {s : St} {G M Q : List Nat} {t : Tid} {p q : PC} {c : Nat} (h : SInvL s G M Q)
    (hpc : s.pc t = p) (hc : c ∈ G ++ (M ++ Q)) (hT : TInv s.mem G M Q q)
    (hi : ∀ n, enqNode q = some n → enqNode p = some n)
    (hl : lpRet q = lpRet p ∨ (lpRet p = some [0] ∧ lpRet q = none))
    (ho : postRet q = none → opOf s.val q = opOf s.val p) :
    Post s t Q { s with tail := c, pc := upd s.pc t q } :=
  ⟨G, M, Q, h.frame rfl { h.mem with tailw := hc } (hT.set_tail c) (fun u _ => (h.thread u).set_tail c) (h.others hpc hi),
   StepEff.quiet hpc rfl rfl rfl hl ho⟩

/-! ### A store into a node that is not published -/

/-- The source of an observed link is the thread's own private node or a published node it holds. -/
theorem link_src {pc : PC} {a : Nat} {v : MP} (h : linkOf pc = some (a, v)) :
    enqNode pc = some a ∨ a ∈ wnodes pc := by
  cases pc with
  | enqCas n a' b => cases h; exact Or.inl rfl
  | bkCas n a' p => cases h; exact Or.inl rfl
  | skHead h' a' it p hops => cases h; exact Or.inr (.head _)
  | dChk h' a' p =>
    obtain ⟨p1, p2⟩ := p
    cases p1 <;> cases p2 <;> cases h
    exact Or.inr (.head _)
  | _ => cases h

theorem MInv.store_outside {m : Mem} {G M Q : List Nat} (h : MInv m G M Q) {n : Nat} (hn : n ∉ G ++ (M ++ Q))
    (x : Option Nat) (b : Bool) : MInv { m with nptr := upd m.nptr n x, nbit := upd m.nbit n b } G M Q := by
  have hne : ∀ a, a ∈ G ++ (M ++ Q) → a ≠ n := fun a ha e => hn (e ▸ ha)
  have hG : ∀ a, a ∈ G → a ≠ n := fun a ha => hne a (List.mem_append_left _ ha)
  have hM : ∀ a, a ∈ M → a ≠ n := fun a ha => hne a (List.mem_append_right _ (List.mem_append_left _ ha))
  have hQ : ∀ a, a ∈ Q → a ≠ n := fun a ha => hne a (List.mem_append_right _ (List.mem_append_right _ ha))
  refine { h with chain := Chain.upd (fun hm => hn (List.mem_append_right _ hm)) h.chain, bG := ?_, bM := ?_, bQ := ?_, gsucc := ?_ }
  · intro a ha
    show upd m.nbit n b a = true ∧ upd m.nptr n x a ≠ none
    rw [upd_other _ _ _ _ (hG a ha), upd_other _ _ _ _ (hG a ha)]; exact h.bG a ha
  · intro a ha
    show upd m.nbit n b a = true ∧ upd m.nptr n x a ≠ none
    rw [upd_other _ _ _ _ (hM a ha), upd_other _ _ _ _ (hM a ha)]; exact h.bM a ha
  · intro a ha
    show upd m.nptr n x a ≠ none → upd m.nbit n b a = false
    rw [upd_other _ _ _ _ (hQ a ha), upd_other _ _ _ _ (hQ a ha)]; exact h.bQ a ha
  · intro g y hg
    show upd m.nptr n x g = some y → _
    rw [upd_other _ _ _ _ (hG g hg)]; exact h.gsucc g y hg

/-- A thread that does not own `n` does not rely on the link of the unpublished node `n`. -/
theorem TInv.store_outside {m : Mem} {G M Q : List Nat} {pc : PC} (h : TInv m G M Q pc) {n : Nat}
    (hn : n ∉ G ++ (M ++ Q)) (hne : enqNode pc ≠ some n) (x : Option Nat) (b : Bool) :
    TInv { m with nptr := upd m.nptr n x, nbit := upd m.nbit n b } G M Q pc :=
  { h with
    link := fun a v e => by
      have han : a ≠ n := fun e' => (link_src e).elim (fun e1 => hne (e' ▸ e1)) (fun e1 => hn (e' ▸ h.inw a e1))
      show upd m.nptr n x a = v.1 ∧ upd m.nbit n b a = v.2
      rw [upd_other _ _ _ _ han, upd_other _ _ _ _ han]; exact h.link a v e }

/-- Thread `t` stores into its private node `n`. -/
theorem SInvL.store_own {s : St} {G M Q : List Nat} {t : Tid} {p q : PC} {n : Nat} {x : Option Nat} {b : Bool}
    (h : SInvL s G M Q) (hpc : s.pc t = p) (hn : enqNode p = some n)
    (hT : TInv { s.mem with nptr := upd s.nptr n x, nbit := upd s.nbit n b } G M Q q)
    (hi : ∀ n, enqNode q = some n → enqNode p = some n)
    (hl : lpRet q = lpRet p ∨ (lpRet p = some [0] ∧ lpRet q = none))
    (ho : postRet q = none → opOf s.val q = opOf s.val p) :
    Post s t Q { s with nptr := upd s.nptr n x, nbit := upd s.nbit n b, pc := upd s.pc t q } :=
  have hnW : n ∉ G ++ (M ++ Q) := ((h.thread t).priv n (hpc ▸ hn)).2
  ⟨G, M, Q,
   h.frame rfl (h.mem.store_outside hnW x b) hT
    (fun u hu => (h.thread u).store_outside hnW (fun e => hu (h.own u t n e (hpc ▸ hn))) x b) (h.others hpc hi),
   StepEff.quiet hpc rfl rfl rfl hl ho⟩

/-! ### The linking CAS -/

/-- An observed link of a published node is marked (and so immutable). -/
theorem link_marked {pc : PC} {a : Nat} {v : MP} (h : linkOf pc = some (a, v)) (hf : pcFact pc) :
    enqNode pc = some a ∨ (v.2 = true ∧ v.1 ≠ none) := by
  cases pc with
  | enqCas n a' b => cases h; exact Or.inl rfl
  | bkCas n a' p => cases h; exact Or.inl rfl
  | skHead h' a' it p hops => cases h; exact Or.inr hf
  | dChk h' a' p =>
    obtain ⟨p1, p2⟩ := p
    cases p1 <;> cases p2 <;> cases h
    exact Or.inr ⟨rfl, nofun⟩
  | _ => cases h

/-- No thread relies on the link of a published node while it is null or not marked. -/
theorem TInv.link_ne {m : Mem} {G M Q : List Nat} {pc : PC} (h : TInv m G M Q pc) {a b : Nat} {v : MP}
    (ha : a ∈ G ++ (M ++ Q)) (hu : m.nptr a = none ∨ m.nbit a = false) (e : linkOf pc = some (b, v)) : b ≠ a := by
  rintro rfl
  rcases link_marked e h.pcf with h1 | h1
  · exact (h.priv b h1).2 ha
  · have := h.link b v e
    rcases hu with hu | hu
    · exact h1.2 (this.1 ▸ hu)
    · rw [← this.2, hu] at h1; cases h1.1

theorem mem_append_insert {B B' : List Nat} {n : Nat} (A : List Nat) (h : ∀ c, c ∈ B' ↔ (c = n ∨ c ∈ B)) (c : Nat) :
    c ∈ A ++ B' ↔ (c = n ∨ c ∈ A ++ B) := by
  simp only [List.mem_append, h]; exact or_left_comm

theorem tail_insert {α β : Type} (f : α → β) (a n : α) : ∀ (X Y : List α),
    ∃ Xq Yq, (X ++ a :: Y).tail.map f = Xq ++ Yq ∧ (X ++ a :: n :: Y).tail.map f = Xq ++ f n :: Yq
  | [], Y => ⟨[], Y.map f, by simp, by simp⟩
  | x :: X, Y => ⟨(X ++ [a]).map f, Y.map f, by simp, by simp⟩

/-- Linking the unpublished node `n` right behind the published node `a` whose link is null or not marked
    (`enqueue`'s first CAS: `a` is the last node; the basket CAS: anywhere in `Q`). -/
theorem MInv.linkCas {m : Mem} {G M Q : List Nat} (h : MInv m G M Q) {a n : Nat}
    (ha : a ∈ G ++ (M ++ Q)) (hu : m.nptr a = none ∨ m.nbit a = false) (hn : n ∉ G ++ (M ++ Q)) (hnc : n < m.cnt)
    (hnn : m.nptr n = m.nptr a) (hnb : m.nbit n = false) :
    ∃ Q', MInv { m with nptr := upd m.nptr a (some n), nbit := upd m.nbit a false } G M Q' ∧
      (∀ c, c ∈ Q' ↔ (c = n ∨ c ∈ Q)) ∧ Q'.head? = Q.head? ∧
      ∀ f : Nat → Int, ∃ X Y, Q.tail.map f = X ++ Y ∧ Q'.tail.map f = X ++ f n :: Y := by
  have haQ := h.unmarked_in_Q ha hu
  obtain ⟨X, Y, hXY⟩ := List.append_of_mem haQ
  have hnL : n ∉ M ++ Q := fun hm => hn (List.mem_append_right _ hm)
  have hna : n ≠ a := fun e => hn (e ▸ ha)
  have hch := h.chain
  have hnd := h.nodup
  have hmemQ : ∀ c, c ∈ X ++ a :: n :: Y ↔ (c = n ∨ c ∈ Q) := fun c => by
    rw [hXY]; simp only [List.mem_append, List.mem_cons, or_left_comm]
  have hhd : (X ++ a :: n :: Y).head? = Q.head? := by rw [hXY]; cases X <;> rfl
  have hmemL := mem_append_insert M hmemQ
  have hmemW := mem_append_insert G hmemL
  have haG : ∀ g, g ∈ G → g ≠ a := fun g hg e => h.gdis g hg (e ▸ List.mem_append_right _ haQ)
  have haM : ∀ c, c ∈ M → c ≠ a := fun c hc e => (List.nodup_append.mp hnd).2.2 c hc a haQ e
  have hlow : ∀ x, Low G M Q x → Low G M (X ++ a :: n :: Y) x := fun x hx => by rw [Low, hhd]; exact hx
  refine ⟨X ++ a :: n :: Y, ⟨?_, ?_, ?_, ?_, ?_, ?_, ?_, ?_, ?_, ?_⟩, hmemQ, hhd, fun f => ?_⟩
  · rw [hXY, ← List.append_assoc] at hch hnd hnL
    rw [← List.append_assoc]
    exact Chain.insertAfter hch hnd hnL hnn
  · rw [hXY, ← List.append_assoc] at hnd hnL
    rw [← List.append_assoc]
    have e : (M ++ X) ++ a :: n :: Y = ((M ++ X) ++ [a]) ++ n :: Y := by simp
    have e0 : (M ++ X) ++ a :: Y = ((M ++ X) ++ [a]) ++ Y := by simp
    rw [e]; rw [e0] at hnd hnL
    rw [List.nodup_append] at hnd ⊢
    refine ⟨hnd.1, ?_, ?_⟩
    · rw [List.nodup_cons]; exact ⟨fun hm => hnL (List.mem_append_right _ hm), hnd.2.1⟩
    · intro x hx y hy
      rcases List.mem_cons.mp hy with e1 | e1
      · subst e1; intro e2; subst e2; exact hnL (List.mem_append_left _ hx)
      · exact hnd.2.2 x hx y e1
  · intro g hg hm
    rcases (hmemL g).mp hm with e | e
    · exact hn (e ▸ List.mem_append_left _ hg)
    · exact h.gdis g hg e
  · intro e; have := (hmemQ n).mpr (Or.inl rfl); rw [e] at this; cases this
  · intro g hg
    show upd m.nbit a false g = true ∧ upd m.nptr a (some n) g ≠ none
    rw [upd_other _ _ _ _ (haG g hg), upd_other _ _ _ _ (haG g hg)]; exact h.bG g hg
  · intro c hc
    show upd m.nbit a false c = true ∧ upd m.nptr a (some n) c ≠ none
    rw [upd_other _ _ _ _ (haM c hc), upd_other _ _ _ _ (haM c hc)]; exact h.bM c hc
  · intro c hc
    show upd m.nptr a (some n) c ≠ none → upd m.nbit a false c = false
    by_cases e : c = a
    · intro _; rw [e]; exact upd_same _ _ _
    · rw [upd_other _ _ _ _ e, upd_other _ _ _ _ e]
      rcases (hmemQ c).mp hc with e1 | e1
      · intro _; rw [e1]; exact hnb
      · exact h.bQ c e1
  · intro g x hg
    show upd m.nptr a (some n) g = some x → _
    rw [upd_other _ _ _ _ (haG g hg)]
    exact fun hx => hlow x (h.gsucc g x hg hx)
  · intro c hc
    rcases (hmemW c).mp hc with e | e
    · exact e ▸ hnc
    · exact h.alloc c e
  · refine (List.mem_append.mp h.tailw).elim (List.mem_append_left _) fun e => List.mem_append_right _ ?_
    exact (List.mem_append.mp e).elim (List.mem_append_left _) fun e => List.mem_append_right _ ((hmemQ _).mpr (Or.inr e))
  · rw [hXY]; exact tail_insert f a n X Y

/-- The linking CAS of another thread. -/
theorem TInv.linkCas {m : Mem} {G M Q Q' : List Nat} {pc : PC} (h : TInv m G M Q pc) {a n : Nat}
    (ha : a ∈ G ++ (M ++ Q)) (hu : m.nptr a = none ∨ m.nbit a = false) (hn : n ∉ G ++ (M ++ Q))
    (hne : enqNode pc ≠ some n) (hmem : ∀ c, c ∈ Q' ↔ (c = n ∨ c ∈ Q)) (hhd : Q'.head? = Q.head?) :
    TInv { m with nptr := upd m.nptr a (some n), nbit := upd m.nbit a false } G M Q' pc := by
  have hmemL := mem_append_insert M hmem
  have hmemW := mem_append_insert G hmemL
  exact {
    priv := fun k e => ⟨(h.priv k e).1, fun hk => ((hmemW k).mp hk).elim (fun e' => hne (e' ▸ e)) (h.priv k e).2⟩
    inw := fun c hc => (hmemW c).mpr (Or.inr (h.inw c hc))
    low := fun x hx => by rw [Low, hhd]; exact h.low x hx
    deqh := fun k e hk => ((hmemL k).mp hk).elim (fun e' => absurd (e' ▸ h.dhw k e) hn) (h.deqh k e)
    dhw := fun k e => (hmemW k).mpr (Or.inr (h.dhw k e))
    mids := fun k x e hk => by rw [Mid, hhd]; exact h.mids k x e hk
    dck := h.dck
    link := fun b v e => by
      have hba := h.link_ne ha hu e
      show upd m.nptr a (some n) b = v.1 ∧ upd m.nbit a false b = v.2
      rw [upd_other _ _ _ _ hba, upd_other _ _ _ _ hba]; exact h.link b v e
    pcf := h.pcf }

theorem opOf_enq {val : Nat → Int} {pc : PC} {n : Nat} (h : enqNode pc = some n) : opOf val pc = some ⟨"enq", [val n]⟩ := by
  unfold opOf; rw [h]

/-- Thread `t` links its private node `n` behind the published node `a` whose link is null or not marked: the
    linearization point of its `enqueue`. -/
theorem SInvL.linkCas {s : St} {G M Q : List Nat} {t : Tid} {p q : PC} {a n : Nat} (h : SInvL s G M Q)
    (hpc : s.pc t = p) (hn : enqNode p = some n) (ha : a ∈ G ++ (M ++ Q)) (hu : s.nptr a = none ∨ s.nbit a = false)
    (hnn : s.nptr n = s.nptr a) (hnb : s.nbit n = false)
    (hT : ∀ m' Q', n ∈ G ++ (M ++ Q') → TInv m' G M Q' q) (hi : enqNode q = none)
    (hl : lpRet p = none) (hq1 : lpRet q = some [1]) (hq2 : postRet q = some [1]) :
    Post s t Q { s with nptr := upd s.nptr a (some n), nbit := upd s.nbit a false, pc := upd s.pc t q } := by
  have hp := (h.thread t).priv n (hpc ▸ hn)
  obtain ⟨Q', hM', hmem, hhd, hq⟩ := h.mem.linkCas ha hu hp.2 hp.1 hnn hnb
  have hnW' : n ∈ G ++ (M ++ Q') :=
    List.mem_append_right _ (List.mem_append_right _ ((hmem n).mpr (Or.inl rfl)))
  obtain ⟨X, Y, h1, h2⟩ := hq s.val
  exact ⟨G, M, Q',
    h.frame rfl hM' (hT _ Q' hnW')
      (fun u hu' => (h.thread u).linkCas ha hu hp.2 (fun e => hu' (h.own u t n e (hpc ▸ hn))) hmem hhd)
      (fun u _ k e => by rw [hi] at e; cases e),
    StepEff.linearize hpc rfl rfl rfl hl hq1 hq2 (by decide) (opOf_enq hn) (Or.inl ⟨s.val n, X, Y, rfl, rfl, h1, h2⟩)
      fun c hc => ((hmem c).mp hc).elim (fun e => Or.inr (e ▸ hn)) Or.inl⟩

/-! ### The marking CAS -/

theorem Low.after_mark {G M : List Nat} {it x y : Nat} {r : List Nat} (h : Low G M (it :: x :: r) y) :
    Low G (M ++ [it]) (x :: r) y :=
  h.elim Or.inl fun h => Or.inr (Or.inl (h.elim (List.mem_append_left _) fun e =>
    List.mem_append_right _ (List.mem_singleton.mpr (Option.some.inj e).symm)))

/-- Marking the link of the current dummy `it` (the linearization point of a successful `dequeue`): `it` joins the
    marked nodes, its successor becomes the current dummy. -/
theorem MInv.markCas {m : Mem} {G M Q : List Nat} (h : MInv m G M Q) {it x : Nat}
    (hit : it ∈ Q) (hlow : Low G M Q it) (hx : m.nptr it = some x) :
    ∃ r, Q = it :: x :: r ∧ MInv { m with nbit := upd m.nbit it true } G (M ++ [it]) (x :: r) := by
  have hqh : Q.head? = some it := by
    rcases hlow with e | e | e
    · exact absurd (List.mem_append_right _ hit) (h.gdis it e)
    · exact absurd rfl ((List.nodup_append.mp h.nodup).2.2 it e it hit)
    · exact e
  obtain ⟨r, hQ⟩ : ∃ r, Q = it :: x :: r := by
    cases Q with
    | nil => cases hqh
    | cons q r0 =>
      cases Option.some.inj hqh
      have hc2 := Chain.drop_prefix (A := M) h.chain
      simp only [Chain, true_and] at hc2
      rw [hx] at hc2
      cases r0 with
      | nil => cases hc2
      | cons y r => exact ⟨r, by rw [Option.some.inj hc2.1]⟩
  subst hQ
  have hML : (M ++ [it]) ++ x :: r = M ++ it :: x :: r := by simp
  have hni : ∀ c, c ∈ x :: r → c ≠ it := fun c hc e =>
    (List.nodup_cons.mp (List.nodup_append.mp h.nodup).2.1).1 (e ▸ hc)
  refine ⟨r, rfl, ?_, ?_, ?_, nofun, ?_, ?_, ?_, ?_, ?_, ?_⟩
  · rw [hML]; exact h.chain
  · rw [hML]; exact h.nodup
  · rw [hML]; exact h.gdis
  · exact fun g hg => ⟨upd_true (h.bG g hg).1, (h.bG g hg).2⟩
  · intro c hc
    rcases List.mem_append.mp hc with e | e
    · exact ⟨upd_true (h.bM c e).1, (h.bM c e).2⟩
    · rw [List.mem_singleton.mp e]; exact ⟨upd_same _ _ _, by rw [hx]; nofun⟩
  · intro c hc hn
    show upd m.nbit it true c = false
    rw [upd_other _ _ _ _ (hni c hc)]
    exact h.bQ c (List.mem_cons_of_mem _ hc) hn
  · exact fun g y hg hy => (h.gsucc g y hg hy).after_mark
  · rw [hML]; exact h.alloc
  · rw [hML]; exact h.tailw

/-- The marking CAS of another thread. -/
theorem TInv.markCas {m : Mem} {G M : List Nat} {it x : Nat} {r : List Nat} {pc : PC}
    (h : TInv m G M (it :: x :: r) pc) (hb : m.nbit it = false) :
    TInv { m with nbit := upd m.nbit it true } G (M ++ [it]) (x :: r) pc := by
  have hML : (M ++ [it]) ++ x :: r = M ++ it :: x :: r := by simp
  have hit : it ∈ G ++ (M ++ it :: x :: r) := List.mem_append_right _ (List.mem_append_right _ (.head _))
  exact {
    priv := by rw [hML]; exact h.priv
    inw := by rw [hML]; exact h.inw
    low := fun y hy => (h.low y hy).after_mark
    deqh := by rw [hML]; exact h.deqh
    dhw := by rw [hML]; exact h.dhw
    mids := fun k y e hk => (Low.after_mark (G := []) (Or.inr (h.mids k y e hk))).resolve_left nofun
    dck := h.dck
    link := fun b v e => by
      have hba := h.link_ne hit (Or.inr hb) e
      show m.nptr b = v.1 ∧ upd m.nbit it true b = v.2
      rw [upd_other _ _ _ _ hba]; exact h.link b v e
    pcf := h.pcf }

/-- Thread `t` marks the link of the node `it` it reached along marked links, which is still unmarked: `it` is the
    current dummy, and this is the linearization point of `t`'s `dequeue`, which takes the value of the successor. -/
theorem SInvL.markCas {s : St} {G M Q : List Nat} {t : Tid} {p q : PC} {it x : Nat} (h : SInvL s G M Q)
    (hpc : s.pc t = p) (hit : it ∈ G ++ (M ++ Q)) (hlow : Low G M Q it) (hx : s.nptr it = some x)
    (hb : s.nbit it = false)
    (hT : ∀ r, Q = it :: x :: r → TInv { s.mem with nbit := upd s.nbit it true } G (M ++ [it]) (x :: r) q)
    (hi : enqNode q = none) (hop : opOf s.val p = some ⟨"deq", []⟩)
    (hl : lpRet p = none) (hq1 : lpRet q = some [1, s.val x]) (hq2 : postRet q = some [1, s.val x]) :
    Post s t Q { s with nbit := upd s.nbit it true, pc := upd s.pc t q } := by
  obtain ⟨r, rfl, hM'⟩ := h.mem.markCas (h.mem.unmarked_in_Q hit (Or.inr hb)) hlow hx
  exact ⟨G, M ++ [it], x :: r,
    h.frame rfl hM' (hT r rfl) (fun u _ => (h.thread u).markCas hb) (fun u _ k e => by rw [hi] at e; cases e),
    StepEff.linearize hpc rfl rfl rfl hl hq1 hq2 nofun hop (Or.inr ⟨rfl, by simp [fifo_deq_some]⟩)
      fun c hc => Or.inl (List.mem_cons_of_mem _ hc)⟩

/-- Setting the mark on a null link changes nothing the invariant speaks of. -/
theorem MInv.mark_null {m : Mem} {G M Q : List Nat} (h : MInv m G M Q) {it : Nat} (hn : m.nptr it = none) :
    MInv { m with nbit := upd m.nbit it true } G M Q :=
  { h with
    bG := fun g hg => ⟨upd_true (h.bG g hg).1, (h.bG g hg).2⟩
    bM := fun c hc => ⟨upd_true (h.bM c hc).1, (h.bM c hc).2⟩
    bQ := fun c hc hx => by
      show upd m.nbit it true c = false
      have hci : c ≠ it := fun e => hx (show m.nptr c = none from e ▸ hn)
      rw [upd_other _ _ _ _ hci]; exact h.bQ c hc hx }

theorem TInv.mark_null {m : Mem} {G M Q : List Nat} {pc : PC} (h : TInv m G M Q pc) {it : Nat}
    (hit : it ∈ G ++ (M ++ Q)) (hn : m.nptr it = none) : TInv { m with nbit := upd m.nbit it true } G M Q pc :=
  { h with
    link := fun b v e => by
      show m.nptr b = v.1 ∧ upd m.nbit it true b = v.2
      rw [upd_other _ _ _ _ (h.link_ne hit (Or.inl hn) e)]; exact h.link b v e }

/-- Thread `t` sets the mark on the null link of the published node `it`. -/
theorem SInvL.mark_null {s : St} {G M Q : List Nat} {t : Tid} {p q : PC} {it : Nat} (h : SInvL s G M Q)
    (hpc : s.pc t = p) (hit : it ∈ G ++ (M ++ Q)) (hn : s.nptr it = none)
    (hT : TInv { s.mem with nbit := upd s.nbit it true } G M Q q) (hi : ∀ n, enqNode q = some n → enqNode p = some n)
    (hl : lpRet q = lpRet p ∨ (lpRet p = some [0] ∧ lpRet q = none))
    (ho : postRet q = none → opOf s.val q = opOf s.val p) :
    Post s t Q { s with nbit := upd s.nbit it true, pc := upd s.pc t q } :=
  ⟨G, M, Q, h.frame rfl (h.mem.mark_null hn) hT (fun u _ => (h.thread u).mark_null hit hn) (h.others hpc hi),
   StepEff.quiet hpc rfl rfl rfl hl ho⟩

/-! ### `m_pHead` moves -/

theorem mid_deqH {pc : PC} {h x : Nat} (hm : midOf pc = some (h, x)) : deqH pc = some h := by
  cases pc <;> cases hm <;> rfl

theorem chk2_deqH {pc : PC} {h a it : Nat} {p : MP} (hm : chk2Of pc = some (h, a, it, p)) : deqH pc = some h := by
  cases pc <;> cases hm <;> rfl

/-- The marked nodes in front of a marked node of the chain, or in front of the current dummy. -/
theorem Mid.split {M Q : List Nat} {nw : Nat} (h : Mid M Q nw) : ∃ M1 M2, M = M1 ++ M2 ∧ (M2 ++ Q).head? = some nw := by
  by_cases hnM : nw ∈ M
  · obtain ⟨M1, M2, hM⟩ := List.append_of_mem hnM
    exact ⟨M1, nw :: M2, hM, rfl⟩
  · exact ⟨M, [], by simp, h.resolve_left hnM⟩

theorem Low.after_advance {G M1 M2 Q : List Nat} {y : Nat} (h : Low G (M1 ++ M2) Q y) : Low (G ++ M1) M2 Q y := by
  rcases h with e | e | e
  · exact Or.inl (List.mem_append_left _ e)
  · exact (List.mem_append.mp e).elim (fun e => Or.inl (List.mem_append_right _ e)) fun e => Or.inr (Or.inl e)
  · exact Or.inr (Or.inr e)

theorem mem_after_advance {G M1 M2 Q : List Nat} (c : Nat) : c ∈ (G ++ M1) ++ (M2 ++ Q) ↔ c ∈ G ++ ((M1 ++ M2) ++ Q) := by
  simp only [List.append_assoc]

/-- Moving `head` forward to a marked node of the chain or to the current dummy: the nodes passed become "gone". -/
theorem MInv.headCas {m : Mem} {G M1 M2 Q : List Nat} (h : MInv m G (M1 ++ M2) Q) {nw : Nat}
    (hnw : (M2 ++ Q).head? = some nw) :
    MInv { m with head := nw } (G ++ M1) M2 Q ∧ (m.head = nw → M1 = []) ∧ (m.head ≠ nw → m.head ∈ M1) := by
  have hnd := h.nodup
  rw [List.append_assoc] at hnd
  have hdis := (List.nodup_append.mp hnd).2.2
  have hff := h.head_first
  rw [List.append_assoc] at hff
  have hnwL : nw ∈ M2 ++ Q := List.mem_of_mem_head? hnw
  refine ⟨⟨?_, (List.nodup_append.mp hnd).2.1, ?_, h.qne, ?_, ?_, h.bQ, ?_, ?_, ?_⟩, fun e => ?_, fun e => ?_⟩
  · obtain ⟨l, hl⟩ : ∃ l, M2 ++ Q = nw :: l := by
      cases hl : M2 ++ Q with
      | nil => rw [hl] at hnw; cases hnw
      | cons b l => rw [hl] at hnw; exact ⟨l, by rw [Option.some.inj hnw]⟩
    have hch := h.chain
    rw [List.append_assoc, hl] at hch
    rw [hl]; exact Chain.drop_prefix hch
  · intro c hc hm
    rcases List.mem_append.mp hc with e | e
    · exact h.gdis c e (by rw [List.append_assoc]; exact List.mem_append_right _ hm)
    · exact hdis c e c hm rfl
  · exact fun c hc => (List.mem_append.mp hc).elim (h.bG c) fun e => h.bM c (List.mem_append_left _ e)
  · exact fun c hc => h.bM c (List.mem_append_right _ hc)
  · intro g y hg hy
    rcases List.mem_append.mp hg with e | e
    · exact (h.gsucc g y e hy).after_advance
    · exact (chain_mid_succ h.chain (List.mem_append_left _ e) hy).low.after_advance
  · exact fun c hc => h.alloc c ((mem_after_advance c).mp hc)
  · exact (mem_after_advance _).mpr h.tailw
  · cases M1 with
    | nil => rfl
    | cons b l =>
      cases Option.some.inj hff
      exact absurd e (hdis m.head (.head _) nw hnwL)
  · cases M1 with
    | nil => exact absurd (Option.some.inj (hff.symm.trans hnw)) e
    | cons b l => cases Option.some.inj hff; exact .head _

/-- The head-moving CAS of another thread. -/
theorem TInv.headCas {m : Mem} {G M1 M2 Q : List Nat} {pc : PC} (h : TInv m G (M1 ++ M2) Q pc) {nw : Nat}
    (hnd : ((M1 ++ M2) ++ Q).Nodup) (hnw : nw ∈ M2 ++ Q) (h1 : m.head = nw → M1 = [])
    (h2 : m.head ≠ nw → m.head ∈ M1) : TInv { m with head := nw } (G ++ M1) M2 Q pc := by
  rw [List.append_assoc] at hnd
  have hdis := (List.nodup_append.mp hnd).2.2
  have hkept : ∀ k, deqH pc = some k → nw = k → m.head = nw ∧ M1 = [] := fun k e ek => by
    have := h.deqh nw (ek ▸ e) (by rw [List.append_assoc]; exact List.mem_append_right _ hnw)
    exact ⟨this, h1 this⟩
  exact {
    priv := fun n e => ⟨(h.priv n e).1, fun hn => (h.priv n e).2 ((mem_after_advance n).mp hn)⟩
    inw := fun c hc => (mem_after_advance c).mpr (h.inw c hc)
    low := fun y hy => (h.low y hy).after_advance
    deqh := fun k e hk => by
      have hk' := h.deqh k e (by rw [List.append_assoc]; exact List.mem_append_right _ hk)
      exact Classical.byContradiction fun hne => hdis m.head (h2 fun e => hne (e.symm.trans hk')) k hk hk'
    dhw := fun k e => (mem_after_advance k).mpr (h.dhw k e)
    mids := fun k y e ek => by
      obtain ⟨e1, e2⟩ := hkept k (mid_deqH e) ek
      have := h.mids k y e (e1.trans ek)
      rwa [e2] at this
    dck := fun k a it p e ek => h.dck k a it p e ((hkept k (chk2_deqH e) ek).1.trans ek)
    link := h.link
    pcf := h.pcf }

/-- Thread `t` moves `m_pHead` forward to `nw`, a marked node of the chain or the current dummy. -/
theorem SInvL.headCas {s : St} {G M Q : List Nat} {t : Tid} {p q : PC} {nw : Nat} (h : SInvL s G M Q)
    (hpc : s.pc t = p) (hm : Mid M Q nw)
    (hT : ∀ G' M', (∀ c, c ∈ G' ++ (M' ++ Q) ↔ c ∈ G ++ (M ++ Q)) → TInv { s.mem with head := nw } G' M' Q q)
    (hi : ∀ n, enqNode q = some n → enqNode p = some n)
    (hl : lpRet q = lpRet p ∨ (lpRet p = some [0] ∧ lpRet q = none))
    (ho : postRet q = none → opOf s.val q = opOf s.val p) :
    Post s t Q { s with head := nw, pc := upd s.pc t q } := by
  obtain ⟨M1, M2, rfl, hnw⟩ := hm.split
  obtain ⟨hM', h1, h2⟩ := h.mem.headCas hnw
  exact ⟨G ++ M1, M2, Q,
    h.frame rfl hM' (hT _ _ mem_after_advance)
      (fun u _ => (h.thread u).headCas h.nodup (List.mem_of_mem_head? hnw) h1 h2) (h.others hpc hi),
    StepEff.quiet hpc rfl rfl rfl hl ho⟩

end CdsVerif.Algo.Basket
