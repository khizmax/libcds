/-
  BasketQueue model, preservation of `SInvL` and effect on the abstract queue: the steps of `enqueue`.
-/
import CdsVerif.Algo.Basket.Thread
namespace CdsVerif.Algo.Basket
open CdsVerif.Machine CdsVerif.Spec CdsVerif.Lin CdsVerif.Algo.QueueLin

variable {s s' : St} {t : Tid} {ev : Ev} {G M Q : List Nat}

theorem sinvl_step_enqLd1 {n : Nat}
    (h : SInvL s G M Q) (hpc : s.pc t = .enqLd1 n) (hs : step s t = some (s', ev)) : Post s t Q s' := by
  have hT := hpc ▸ h.thread t
  simp only [step, hpc] at hs
  cases hs
  exact h.move hpc { hT with } (fun _ e => e) (.inl rfl) (fun _ => rfl)

theorem sinvl_step_enqLd2 {n p : Nat}
    (h : SInvL s G M Q) (hpc : s.pc t = .enqLd2 n p) (hs : step s t = some (s', ev)) : Post s t Q s' := by
  have hT := hpc ▸ h.thread t
  simp only [step, hpc] at hs
  split at hs
  next heq =>
    cases hs
    exact h.move hpc { hT with inw := fun x hx => List.mem_singleton.mp hx ▸ heq ▸ h.tailw } (fun _ e => e) (.inl rfl)
      (fun _ => rfl)
  next hne =>
    cases hs
    exact h.move hpc { hT with } (fun _ e => e) (.inl rfl) (fun _ => rfl)

theorem sinvl_step_enqNext {n a : Nat}
    (h : SInvL s G M Q) (hpc : s.pc t = .enqNext n a) (hs : step s t = some (s', ev)) : Post s t Q s' := by
  have hT := hpc ▸ h.thread t
  simp only [step, hpc] at hs
  split at hs
  all_goals
    cases hs
    exact h.move hpc { hT with } (fun _ e => e) (.inl rfl) (fun _ => rfl)

theorem sinvl_step_enqInit {n a : Nat} {b : Bool}
    (h : SInvL s G M Q) (hpc : s.pc t = .enqInit n a b) (hs : step s t = some (s', ev)) : Post s t Q s' := by
  have hT := hpc ▸ h.thread t
  simp only [step, hpc] at hs
  cases hs
  exact h.store_own hpc rfl { hT with link := fun c v e => by cases e; exact ⟨upd_same _ _ _, upd_same _ _ _⟩ }
    (fun _ e => e) (.inl rfl) (fun _ => rfl)

/-- `enqueue`'s first CAS, on the null link of the last node. -/
theorem sinvl_step_enqCas {n a : Nat} {b : Bool}
    (h : SInvL s G M Q) (hpc : s.pc t = .enqCas n a b) (hs : step s t = some (s', ev)) : Post s t Q s' := by
  have hT := hpc ▸ h.thread t
  obtain ⟨hn, hb⟩ := hT.link n (none, false) rfl
  simp only [step, hpc] at hs
  split at hs
  next heq =>
    cases hs
    have ha : s.nptr a = none := congrArg Prod.fst heq
    exact h.linkCas hpc rfl (hT.inw a (.head _)) (Or.inl ha) (hn.trans ha.symm) hb
      (fun _ _ hn => TInv.quiet rfl (fun x hx => List.mem_singleton.mp hx ▸ hn) rfl rfl rfl rfl rfl trivial)
      rfl rfl rfl rfl
  next hne =>
    cases hs
    exact h.move hpc { hT with link := nofun } (fun _ e => e) (.inl rfl) (fun _ => rfl)

theorem sinvl_step_enqSwing {n a : Nat}
    (h : SInvL s G M Q) (hpc : s.pc t = .enqSwing n a) (hs : step s t = some (s', ev)) : Post s t Q s' := by
  have hT := hpc ▸ h.thread t
  simp only [step, hpc] at hs
  split at hs
  next heq =>
    cases hs
    exact h.swing hpc (hT.inw n (.head _)) TInv.done nofun (.inl rfl) nofun
  next hne =>
    cases hs
    exact h.move hpc TInv.done nofun (.inl rfl) nofun

/-! ### The basket: retrying behind the same tail candidate -/

theorem sinvl_step_bkLd1 {n a : Nat}
    (h : SInvL s G M Q) (hpc : s.pc t = .bkLd1 n a) (hs : step s t = some (s', ev)) : Post s t Q s' := by
  have hT := hpc ▸ h.thread t
  simp only [step, hpc] at hs
  cases hs
  exact h.move hpc { hT with } (fun _ e => e) (.inl rfl) (fun _ => rfl)

theorem sinvl_step_bkLd2 {n a : Nat} {p : MP}
    (h : SInvL s G M Q) (hpc : s.pc t = .bkLd2 n a p) (hs : step s t = some (s', ev)) : Post s t Q s' := by
  have hT := hpc ▸ h.thread t
  simp only [step, hpc] at hs
  split at hs
  all_goals
    cases hs
    exact h.move hpc { hT with } (fun _ e => e) (.inl rfl) (fun _ => rfl)

theorem sinvl_step_bkTail {n a : Nat} {p : MP}
    (h : SInvL s G M Q) (hpc : s.pc t = .bkTail n a p) (hs : step s t = some (s', ev)) : Post s t Q s' := by
  have hT := hpc ▸ h.thread t
  simp only [step, hpc] at hs
  split at hs
  next heq =>
    cases hs
    exact h.move hpc { hT with } (fun _ e => e) (.inl rfl) (fun _ => rfl)
  next hne =>
    cases hs
    exact h.move hpc { hT with inw := nofun } (fun _ e => e) (.inl rfl) (fun _ => rfl)

theorem sinvl_step_bkChk {n a : Nat} {p : MP}
    (h : SInvL s G M Q) (hpc : s.pc t = .bkChk n a p) (hs : step s t = some (s', ev)) : Post s t Q s' := by
  have hT := hpc ▸ h.thread t
  simp only [step, hpc] at hs
  split at hs
  next heq =>
    cases hs
    exact h.move hpc { hT with pcf := heq.2 } (fun _ e => e) (.inl rfl) (fun _ => rfl)
  next hne =>
    cases hs
    exact h.move hpc { hT with inw := nofun } (fun _ e => e) (.inl rfl) (fun _ => rfl)

theorem sinvl_step_bkSet {n a : Nat} {p : MP}
    (h : SInvL s G M Q) (hpc : s.pc t = .bkSet n a p) (hs : step s t = some (s', ev)) : Post s t Q s' := by
  have hT := hpc ▸ h.thread t
  simp only [step, hpc] at hs
  cases hs
  exact h.store_own hpc rfl { hT with link := fun c v e => by cases e; exact ⟨upd_same _ _ _, upd_same _ _ _⟩ }
    (fun _ e => e) (.inl rfl) (fun _ => rfl)

/-- The basket CAS, on the unmarked link of the tail candidate: the node goes in right behind it, in front of the
    nodes linked there meanwhile. -/
theorem sinvl_step_bkCas {n a : Nat} {p : MP}
    (h : SInvL s G M Q) (hpc : s.pc t = .bkCas n a p) (hs : step s t = some (s', ev)) : Post s t Q s' := by
  have hT := hpc ▸ h.thread t
  obtain ⟨hn, hb⟩ := hT.link n p rfl
  have hp2 : p.2 = false := hT.pcf
  simp only [step, hpc] at hs
  split at hs
  next heq =>
    cases hs
    have ha : s.nptr a = p.1 := congrArg Prod.fst heq
    have hab : s.nbit a = p.2 := congrArg Prod.snd heq
    exact h.linkCas hpc rfl (hT.inw a (.head _)) (Or.inr (hab.trans hp2)) (hn.trans ha.symm) (hb.trans hp2)
      (fun _ _ _ => TInv.done) rfl rfl rfl rfl
  next hne =>
    cases hs
    exact h.move hpc { hT with link := nofun, pcf := trivial } (fun _ e => e) (.inl rfl) (fun _ => rfl)

/-! ### `m_pTail` is lagging: moving it to the last node -/

theorem sinvl_step_fxTail {n a : Nat} {p : MP}
    (h : SInvL s G M Q) (hpc : s.pc t = .fxTail n a p) (hs : step s t = some (s', ev)) : Post s t Q s' := by
  have hT := hpc ▸ h.thread t
  simp only [step, hpc] at hs
  split at hs
  next heq =>
    cases hs
    exact h.move hpc { hT with } (fun _ e => e) (.inl rfl) (fun _ => rfl)
  next hne =>
    cases hs
    exact h.move hpc { hT with inw := nofun } (fun _ e => e) (.inl rfl) (fun _ => rfl)

theorem sinvl_step_fxChk {n a : Nat} {p : MP}
    (h : SInvL s G M Q) (hpc : s.pc t = .fxChk n a p) (hs : step s t = some (s', ev)) : Post s t Q s' := by
  have hT := hpc ▸ h.thread t
  simp only [step, hpc] at hs
  split at hs
  next heq =>
    subst heq
    split at hs
    next c hc =>
      cases hs
      have hcW : c ∈ G ++ (M ++ Q) := h.mem.wsucc (hT.inw a (.head _)) hc
      exact h.move hpc { hT with inw := fun x hx => List.mem_singleton.mp hx ▸ hcW } (fun _ e => e) (.inl rfl)
        (fun _ => rfl)
    next hc =>
      cases hs
      exact h.move hpc { hT with inw := nofun } (fun _ e => e) (.inl rfl) (fun _ => rfl)
  next hne =>
    cases hs
    exact h.move hpc { hT with inw := nofun } (fun _ e => e) (.inl rfl) (fun _ => rfl)

theorem sinvl_step_fxWalk {n a c : Nat}
    (h : SInvL s G M Q) (hpc : s.pc t = .fxWalk n a c) (hs : step s t = some (s', ev)) : Post s t Q s' := by
  have hT := hpc ▸ h.thread t
  simp only [step, hpc] at hs
  split at hs
  all_goals
    cases hs
    exact h.move hpc { hT with } (fun _ e => e) (.inl rfl) (fun _ => rfl)

theorem sinvl_step_fxWTail {n a c : Nat} {p : MP}
    (h : SInvL s G M Q) (hpc : s.pc t = .fxWTail n a c p) (hs : step s t = some (s', ev)) : Post s t Q s' := by
  have hT := hpc ▸ h.thread t
  simp only [step, hpc] at hs
  split at hs
  next heq =>
    cases hs
    exact h.move hpc { hT with } (fun _ e => e) (.inl rfl) (fun _ => rfl)
  next hne =>
    cases hs
    exact h.move hpc { hT with inw := nofun } (fun _ e => e) (.inl rfl) (fun _ => rfl)

theorem sinvl_step_fxWChk {n a c : Nat} {p : MP}
    (h : SInvL s G M Q) (hpc : s.pc t = .fxWChk n a c p) (hs : step s t = some (s', ev)) : Post s t Q s' := by
  have hT := hpc ▸ h.thread t
  simp only [step, hpc] at hs
  split at hs
  next heq =>
    subst heq
    split at hs
    next c' hc' =>
      cases hs
      have hc'W : c' ∈ G ++ (M ++ Q) := h.mem.wsucc (hT.inw c (.head _)) hc'
      exact h.move hpc { hT with inw := fun x hx => List.mem_singleton.mp hx ▸ hc'W } (fun _ e => e) (.inl rfl)
        (fun _ => rfl)
    next hc' =>
      cases hs
      exact h.move hpc { hT with inw := nofun } (fun _ e => e) (.inl rfl) (fun _ => rfl)
  next hne =>
    cases hs
    exact h.move hpc { hT with } (fun _ e => e) (.inl rfl) (fun _ => rfl)

theorem sinvl_step_fxCas {n a c : Nat}
    (h : SInvL s G M Q) (hpc : s.pc t = .fxCas n a c) (hs : step s t = some (s', ev)) : Post s t Q s' := by
  have hT := hpc ▸ h.thread t
  simp only [step, hpc] at hs
  split at hs
  next heq =>
    cases hs
    exact h.swing hpc (hT.inw c (.head _)) { hT with inw := nofun } (fun _ e => e) (.inl rfl) (fun _ => rfl)
  next hne =>
    cases hs
    exact h.move hpc { hT with inw := nofun } (fun _ e => e) (.inl rfl) (fun _ => rfl)

end CdsVerif.Algo.Basket
