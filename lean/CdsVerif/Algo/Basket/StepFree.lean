/-
  BasketQueue model, preservation of `SInvL` and effect on the abstract queue: the steps of `free_chain`.
  `fin`, the value to return afterwards, only matters to the bookkeeping of the linearization points.
-/
import CdsVerif.Algo.Basket.Thread
namespace CdsVerif.Algo.Basket
open CdsVerif.Machine CdsVerif.Spec CdsVerif.Lin CdsVerif.Algo.QueueLin

variable {s s' : St} {t : Tid} {ev : Ev} {G M Q : List Nat}

theorem sinvl_step_fcCas {h' nw : Nat} {fin : Option Int}
    (h : SInvL s G M Q) (hpc : s.pc t = .fcCas h' nw fin) (hs : step s t = some (s', ev)) : Post s t Q s' := by
  have hT := hpc ▸ h.thread t
  simp only [step, hpc] at hs
  split at hs
  next heq =>
    cases hs
    split
    next e =>
      exact h.headCas hpc (hT.mids h' nw rfl heq) (fun _ _ _ => TInv.fcEnd) (by cases fin <;> exact nofun)
        (by cases fin <;> exact .inl rfl) (by cases fin <;> exact fun _ => rfl)
    next e =>
      exact h.headCas hpc (hT.mids h' nw rfl heq)
        (fun _ _ hW => TInv.quiet rfl (fun x hx => List.mem_singleton.mp hx ▸ (hW h').mpr (hT.dhw h' rfl)) rfl rfl rfl
          rfl rfl trivial)
        nofun (by cases fin <;> exact .inl rfl) (by cases fin <;> exact fun _ => rfl)
  next hne =>
    cases hs
    exact h.move hpc TInv.fcEnd (by cases fin <;> exact nofun) (by cases fin <;> exact .inl rfl)
      (by cases fin <;> exact fun _ => rfl)

theorem sinvl_step_fcP1 {c nw : Nat} {fin : Option Int}
    (h : SInvL s G M Q) (hpc : s.pc t = .fcP1 c nw fin) (hs : step s t = some (s', ev)) : Post s t Q s' := by
  have hT := hpc ▸ h.thread t
  simp only [step, hpc] at hs
  cases hs
  exact h.move hpc { hT with } (fun _ e => e) (by cases fin <;> exact .inl rfl) (by cases fin <;> exact fun _ => rfl)

theorem sinvl_step_fcP2 {c nw : Nat} {p : MP} {fin : Option Int}
    (h : SInvL s G M Q) (hpc : s.pc t = .fcP2 c nw p fin) (hs : step s t = some (s', ev)) : Post s t Q s' := by
  have hT := hpc ▸ h.thread t
  simp only [step, hpc] at hs
  split at hs
  next heq =>
    subst heq
    split at hs
    next c' hc' =>
      cases hs
      have hc'W : c' ∈ G ++ (M ++ Q) := h.mem.wsucc (hT.inw c (.head _)) hc'
      split
      next e =>
        exact h.move hpc TInv.fcEnd (by cases fin <;> exact nofun) (by cases fin <;> exact .inl rfl)
          (by cases fin <;> exact fun _ => rfl)
      next e =>
        exact h.move hpc { hT with inw := fun x hx => List.mem_singleton.mp hx ▸ hc'W } (fun _ e => e)
          (by cases fin <;> exact .inl rfl) (by cases fin <;> exact fun _ => rfl)
    next hn =>
      cases hs
      exact h.move hpc TInv.crash nofun (by cases fin <;> exact .inl rfl)
        (by cases fin <;> exact fun _ => rfl)
  next hne =>
    cases hs
    exact h.move hpc { hT with } (fun _ e => e) (by cases fin <;> exact .inl rfl) (by cases fin <;> exact fun _ => rfl)

end CdsVerif.Algo.Basket
