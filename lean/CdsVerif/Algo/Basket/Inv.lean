/-
  Structural invariant of the BasketQueue model.

  The published nodes are split into three collections:
    * `G` ("gone"): nodes that `m_pHead` has left (via `free_chain`); their links are marked and never change;
    * `M` : the nodes from `m_pHead` on whose link is marked (logically deleted, not yet unlinked);
    * `Q` : the rest: `Q.head` is the node dequeued last (the current dummy: its link is not marked), `Q.tail` are the
      items of the queue.  `Chain s.nptr (some s.head) (M ++ Q)`: following `m_pNext` from `m_pHead` visits `M`,
      then `Q`, then null.
  `absQueue s` : the values of `Q.tail`.

  Marks are a PREFIX of the chain from `head`, a dequeuer marks the link of `Q.head` (it reaches it from a node that was
  `head` along marked links only: `low`), `m_pHead` only moves forward along the chain (`mids`, `deqh`) — so a stale
  `h` never becomes `head` again —, an enqueuer links its node behind a node whose link is not marked: at the end of
  the chain (first CAS) or — the basket — in the MIDDLE of `Q`, right behind its tail candidate `t`, in FRONT of the
  nodes that were linked behind `t` since the enqueuer read `t->m_pNext == null`.  This is why the order of the
  abstract queue is not the order of the linking CASes (see `Props/C06Basket.lean`).

  The invariant `SInvL` is stated in parts: `MInv` about the shared memory `s.mem`, `TInv` about the memory and the
  program counter of one thread, and the exclusive ownership of private nodes.  A step rewrites one program counter
  and a little memory (`Thread.lean`).
-/
import CdsVerif.Algo.Basket.Model
import CdsVerif.Algo.QueueLin.Chain
import CdsVerif.Algo.QueueLin.History
namespace CdsVerif.Algo.Basket
open CdsVerif.Machine CdsVerif.Spec CdsVerif.Lin CdsVerif.Algo.QueueLin

/-- The nodes reachable from `head` (fuel: the number of nodes ever allocated). -/
def absNodes (s : St) : List Nat := walk s.nptr s.cnt (some s.head)
/-- ... without the logically deleted prefix: the current dummy first, then the items. -/
def liveNodes (s : St) : List Nat := (absNodes s).dropWhile (fun a => s.nbit a && (s.nptr a).isSome)
/-- The abstract queue. -/
def absQueue (s : St) : List Int := (liveNodes s).tail.map s.val

/-- The node an enqueuer still owns privately (before its successful linking CAS). -/
def enqNode : PC → Option Nat
  | .enqLd1 n => some n
  | .enqLd2 n _ => some n
  | .enqNext n _ => some n
  | .enqInit n _ _ => some n
  | .enqCas n _ _ => some n
  | .bkLd1 n _ => some n
  | .bkLd2 n _ _ => some n
  | .bkTail n _ _ => some n
  | .bkChk n _ _ => some n
  | .bkSet n _ _ => some n
  | .bkCas n _ _ => some n
  | .fxTail n _ _ => some n
  | .fxChk n _ _ => some n
  | .fxWalk n _ _ => some n
  | .fxWTail n _ _ _ => some n
  | .fxWChk n _ _ _ => some n
  | .fxCas n _ _ => some n
  | .crash (some n) none => some n
  | _ => none

/-- Nodes held by a thread that it will dereference or install: they are published. -/
def wnodes : PC → List Nat
  | .enqNext _ a => [a]
  | .enqInit _ a _ => [a]
  | .enqCas _ a _ => [a]
  | .enqSwing n _ => [n]
  | .bkLd1 _ a => [a]
  | .bkLd2 _ a _ => [a]
  | .bkTail _ a _ => [a]
  | .bkChk _ a _ => [a]
  | .bkSet _ a _ => [a]
  | .bkCas _ a _ => [a]
  | .fxTail _ a _ => [a]
  | .fxChk _ a _ => [a]
  | .fxWalk _ _ c => [c]
  | .fxWTail _ _ c _ => [c]
  | .fxWChk _ _ c _ => [c]
  | .fxCas _ _ c => [c]
  | .dLdT1 h => [h]
  | .dLdT2 h _ => [h]
  | .dNx1 h _ => [h]
  | .dNx2 h _ _ => [h]
  | .dChk h _ (some c, _) => [h, c]
  | .dChk h _ (none, _) => [h]
  | .hpWalk _ _ c => [c]
  | .hpTail _ _ c => [c]
  | .hpP1 _ _ c => [c]
  | .hpP2 _ _ c _ => [c]
  | .hpCas _ _ c => [c]
  | .skHead _ _ it _ _ => [it]
  | .skP1 _ _ it _ => [it]
  | .skP2 _ _ it _ _ => [it]
  | .dChk2 _ _ it _ _ => [it]
  | .dMark _ it _ _ => [it]
  | .fcCas _ nw _ => [nw]
  | .fcP1 c _ _ => [c]
  | .fcP2 c _ _ _ => [c]
  | _ => []

/-- Nodes that were reached from a former `head` along marked links: they are gone, marked, or the current dummy. -/
def lows : PC → List Nat
  | .skHead _ _ it _ _ => [it]
  | .skP1 _ _ it _ => [it]
  | .skP2 _ _ it _ _ => [it]
  | .dChk2 _ _ it _ _ => [it]
  | .dMark _ it _ _ => [it]
  | _ => []

/-- The head candidate of a dequeuer. -/
def deqH : PC → Option Nat
  | .dLdT1 h => some h
  | .dLdT2 h _ => some h
  | .dNx1 h _ => some h
  | .dNx2 h _ _ => some h
  | .dChk h _ _ => some h
  | .hpWalk h _ _ => some h
  | .hpTail h _ _ => some h
  | .hpP1 h _ _ => some h
  | .hpP2 h _ _ _ => some h
  | .hpCas h _ _ => some h
  | .skHead h _ _ _ _ => some h
  | .skP1 h _ _ _ => some h
  | .skP2 h _ _ _ _ => some h
  | .dChk2 h _ _ _ _ => some h
  | .dMark h _ _ _ => some h
  | .fcCas h _ _ => some h
  | _ => none

/-- `(h, x)`: while `h` is still `head`, `x` is a marked node on the chain from `head` or the current dummy. -/
def midOf : PC → Option (Nat × Nat)
  | .skHead h _ it _ _ => some (h, it)
  | .skP1 h _ it _ => some (h, it)
  | .skP2 h _ it _ _ => some (h, it)
  | .dChk2 h _ it _ _ => some (h, it)
  | .fcCas h nw _ => some (h, nw)
  | _ => none

/-- The arguments of the second check of `m_pHead` in `do_dequeue`: `(h, t, iter, pNext)`. -/
def chk2Of : PC → Option (Nat × Nat × Nat × MP)
  | .dChk2 h a it p _ => some (h, a, it, p)
  | _ => none

/-- A link `a.next = v` that the thread has observed (or written into its own node) and relies on. -/
def linkOf : PC → Option (Nat × MP)
  | .enqCas n _ _ => some (n, (none, false))
  | .bkCas n _ p => some (n, p)
  | .skHead _ _ it p _ => some (it, p)
  | .dChk h _ (some c, true) => some (h, (some c, true))
  | _ => none

/-- Facts about the arguments of a program point (established by the tests that lead there). -/
def pcFact : PC → Prop
  | .skHead _ _ _ p _ => p.2 = true ∧ p.1 ≠ none
  | .bkSet _ _ p => p.2 = false
  | .bkCas _ _ p => p.2 = false
  | .dMark _ _ p _ => p.1 = none ∨ p.2 = false
  | _ => True

/-- `x` is gone, marked, or the current dummy. -/
def Low (G M Q : List Nat) (x : Nat) : Prop := x ∈ G ∨ x ∈ M ∨ Q.head? = some x
/-- `x` is a marked node on the chain from `head`, or the current dummy. -/
def Mid (M Q : List Nat) (x : Nat) : Prop := x ∈ M ∨ Q.head? = some x

/-- The shared memory the invariant reads: everything but the program counters, the values and `maxHops`. -/
structure Mem where
  head : Nat
  tail : Nat
  nptr : Nat → Option Nat
  nbit : Nat → Bool
  cnt : Nat

def St.mem (s : St) : Mem := ⟨s.head, s.tail, s.nptr, s.nbit, s.cnt⟩

/-- The invariant of the shared memory. -/
structure MInv (m : Mem) (G M Q : List Nat) : Prop where
  chain : Chain m.nptr (some m.head) (M ++ Q)
  nodup : (M ++ Q).Nodup
  gdis : ∀ a, a ∈ G → a ∉ M ++ Q
  qne : Q ≠ []
  bG : ∀ a, a ∈ G → m.nbit a = true ∧ m.nptr a ≠ none
  bM : ∀ a, a ∈ M → m.nbit a = true ∧ m.nptr a ≠ none
  bQ : ∀ a, a ∈ Q → m.nptr a ≠ none → m.nbit a = false
  gsucc : ∀ g x, g ∈ G → m.nptr g = some x → Low G M Q x
  alloc : ∀ a, a ∈ G ++ (M ++ Q) → a < m.cnt
  tailw : m.tail ∈ G ++ (M ++ Q)

/-- What the invariant says about a thread at program counter `pc`.  The program counter enters through classifying
    functions only, so that the clauses of two program counters with the same classification are the same
    propositions up to computation.  A private node is allocated and not published; `deqh`: a stale head candidate
    never becomes `head` again. -/
structure TInv (m : Mem) (G M Q : List Nat) (pc : PC) : Prop where
  priv : ∀ n, enqNode pc = some n → n < m.cnt ∧ n ∉ G ++ (M ++ Q)
  inw : ∀ a, a ∈ wnodes pc → a ∈ G ++ (M ++ Q)
  low : ∀ x, x ∈ lows pc → Low G M Q x
  deqh : ∀ h, deqH pc = some h → h ∈ M ++ Q → m.head = h
  dhw : ∀ h, deqH pc = some h → h ∈ G ++ (M ++ Q)
  mids : ∀ h x, midOf pc = some (h, x) → m.head = h → Mid M Q x
  dck : ∀ h a it p, chk2Of pc = some (h, a, it, p) → m.head = h → p.1 = none ∨ p.2 = false ∨ it = a
  link : ∀ a v, linkOf pc = some (a, v) → m.nptr a = v.1 ∧ m.nbit a = v.2
  pcf : pcFact pc

/-- The invariant: of the memory, of every thread, and no two enqueuers own the same private node. -/
structure SInvL (s : St) (G M Q : List Nat) : Prop extends mem : MInv s.mem G M Q where
  thread : ∀ t, TInv s.mem G M Q (s.pc t)
  own : ∀ t1 t2 n, enqNode (s.pc t1) = some n → enqNode (s.pc t2) = some n → t1 = t2

def SInv (s : St) : Prop := ∃ G M Q, SInvL s G M Q

/-! ### Consequences -/

/-- The successor of a marked node on the chain from `head` is marked or the current dummy. -/
theorem chain_mid_succ {nx : Nat → Option Nat} {a x : Nat} : ∀ {p : Option Nat} {M Q : List Nat},
    Chain nx p (M ++ Q) → a ∈ M → nx a = some x → Mid M Q x
  | _, [], _, _, ha, _ => by simp at ha
  | _, b :: M, Q, hc, ha, hx => by
    simp only [List.cons_append, Chain] at hc
    by_cases e : a = b
    · subst e
      rw [hx] at hc
      cases M with
      | nil =>
        right
        cases Q with
        | nil => simp [Chain] at hc
        | cons q r => simp only [List.nil_append, Chain, Option.some.injEq] at hc; simp [hc.2.1]
      | cons c M' =>
        left
        simp only [List.cons_append, Chain, Option.some.injEq] at hc
        simp [hc.2.1]
    · have hm : a ∈ M := by simpa [e] using ha
      rcases chain_mid_succ hc.2 hm hx with h1 | h1
      · exact Or.inl (List.mem_cons_of_mem _ h1)
      · exact Or.inr h1

/-- Linking a node right behind a chain node (the basket). -/
theorem Chain.insertAfter {nx : Nat → Option Nat} {a n : Nat} : ∀ {p : Option Nat} {X Y : List Nat},
    Chain nx p (X ++ a :: Y) → (X ++ a :: Y).Nodup → n ∉ X ++ a :: Y → nx n = nx a →
    Chain (Machine.upd nx a (some n)) p (X ++ a :: n :: Y)
  | _, [], Y, hc, hnd, hn, hnn => by
    simp only [List.nil_append, Chain] at hc ⊢
    have hna : n ≠ a := fun e => hn (by simp [e])
    have haY : a ∉ Y := (List.nodup_cons.mp hnd).1
    refine ⟨hc.1, by simp, ?_⟩
    rw [upd_other _ _ _ _ hna, hnn]
    exact Chain.upd haY hc.2
  | _, x :: X, Y, hc, hnd, hn, hnn => by
    simp only [List.cons_append, Chain] at hc ⊢
    have hnd' := List.nodup_cons.mp hnd
    have hxa : x ≠ a := fun e => hnd'.1 (by simp [e])
    refine ⟨hc.1, ?_⟩
    rw [upd_other _ _ _ _ hxa]
    exact Chain.insertAfter hc.2 hnd'.2 (fun hm => hn (List.mem_cons_of_mem _ hm)) hnn

/-- The chain from a later node. -/
theorem Chain.drop_prefix {nx : Nat → Option Nat} {b : Nat} : ∀ {p : Option Nat} {A B : List Nat},
    Chain nx p (A ++ b :: B) → Chain nx (some b) (b :: B)
  | _, [], B, hc => by simp only [List.nil_append, Chain] at hc ⊢; exact ⟨trivial, hc.2⟩
  | _, a :: A, B, hc => by
    simp only [List.cons_append, Chain] at hc
    exact Chain.drop_prefix hc.2

theorem dropWhile_prefix {α : Type} (p : α → Bool) : ∀ (M Q : List α), (∀ a ∈ M, p a = true) → (∀ a, Q.head? = some a → p a = false) →
    (M ++ Q).dropWhile p = Q
  | [], Q, _, hq => by
    cases Q with
    | nil => rfl
    | cons a r => simp [hq a (by simp)]
  | m :: M, Q, hm, hq => by
    simp only [List.cons_append, List.dropWhile, hm m (by simp)]
    exact dropWhile_prefix p M Q (fun a ha => hm a (List.mem_cons_of_mem _ ha)) hq

theorem MInv.head_first {m : Mem} {G M Q : List Nat} (h : MInv m G M Q) : (M ++ Q).head? = some m.head := by
  have hc := h.chain
  cases hl : M ++ Q with
  | nil => rw [hl] at hc; simp [Chain] at hc
  | cons a r => rw [hl] at hc; simp only [Chain, Option.some.injEq] at hc; simp [hc.1]

theorem MInv.head_mid {m : Mem} {G M Q : List Nat} (h : MInv m G M Q) : Mid M Q m.head := by
  have := h.head_first
  cases M with
  | nil => right; simpa using this
  | cons a r => left; simp at this; simp [this]

theorem Mid.low {G M Q : List Nat} {x : Nat} (h : Mid M Q x) : Low G M Q x := Or.inr h

theorem Mid.mem {M Q : List Nat} {x : Nat} (h : Mid M Q x) : x ∈ M ++ Q :=
  h.elim (List.mem_append_left _) fun e => List.mem_append_right _ (List.mem_of_mem_head? e)

theorem Low.mem {G M Q : List Nat} {x : Nat} (h : Low G M Q x) : x ∈ G ++ (M ++ Q) :=
  h.elim (List.mem_append_left _) fun e => List.mem_append_right _ (Mid.mem e)

/-- The successor of a published node is published. -/
theorem MInv.wsucc {m : Mem} {G M Q : List Nat} (h : MInv m G M Q) {a x : Nat}
    (ha : a ∈ G ++ (M ++ Q)) (hx : m.nptr a = some x) : x ∈ G ++ (M ++ Q) := by
  rcases List.mem_append.mp ha with hg | hl
  · exact (h.gsucc a x hg hx).mem
  · exact List.mem_append_right _ (List.mem_of_mem_tail (Chain.succ_mem h.chain hl hx))

/-- A published node whose link is null or not marked is in `Q`. -/
theorem MInv.unmarked_in_Q {m : Mem} {G M Q : List Nat} (h : MInv m G M Q) {a : Nat}
    (ha : a ∈ G ++ (M ++ Q)) (hu : m.nptr a = none ∨ m.nbit a = false) : a ∈ Q := by
  rcases List.mem_append.mp ha with h1 | h1
  · have := h.bG a h1; rcases hu with hu | hu <;> simp_all
  · rcases List.mem_append.mp h1 with h2 | h2
    · have := h.bM a h2; rcases hu with hu | hu <;> simp_all
    · exact h2

/-- A node with a marked link that is gone, marked or the current dummy is not the current dummy. -/
theorem MInv.low_marked {m : Mem} {G M Q : List Nat} (h : MInv m G M Q) {a x : Nat}
    (ha : Low G M Q a) (hx : m.nptr a = some x) (hb : m.nbit a = true) : a ∈ G ∨ a ∈ M := by
  rcases ha with h1 | h1 | h1
  · exact Or.inl h1
  · exact Or.inr h1
  · have := h.bQ a (List.mem_of_mem_head? h1) (by rw [hx]; simp)
    rw [hb] at this; cases this

theorem MInv.low_succ {m : Mem} {G M Q : List Nat} (h : MInv m G M Q) {a x : Nat}
    (ha : a ∈ G ∨ a ∈ M) (hx : m.nptr a = some x) : Low G M Q x :=
  ha.elim (fun hg => h.gsucc a x hg hx) fun hm => (chain_mid_succ h.chain hm hx).low

/-- The successor of a marked node on the chain from `head` is marked or the current dummy. -/
theorem MInv.mid_succ {m : Mem} {G M Q : List Nat} (h : MInv m G M Q) {a x : Nat}
    (ha : Mid M Q a) (hx : m.nptr a = some x) (hb : m.nbit a = true) : Mid M Q x :=
  chain_mid_succ h.chain ((h.low_marked ha.low hx hb).resolve_left fun hg => h.gdis a hg ha.mem) hx

/-- A head candidate with a null link is `head`, and the only node of `Q`. -/
theorem MInv.empty {m : Mem} {G M Q : List Nat} (h : MInv m G M Q) {a : Nat} (ha : a ∈ G ++ (M ++ Q))
    (hn : m.nptr a = none) (hd : a ∈ M ++ Q → m.head = a) : m.head = a ∧ Q = [a] := by
  have hQ := h.unmarked_in_Q ha (Or.inl hn)
  have hhd := hd (List.mem_append_right _ hQ)
  have hff := h.head_first
  have hch := h.chain
  cases M with
  | nil =>
    cases Q with
    | nil => cases hQ
    | cons q r =>
      cases (Option.some.inj hff).trans hhd
      have hr : Chain m.nptr (m.nptr a) r := hch.2
      rw [hn] at hr
      exact ⟨hhd, by rw [Chain.none_nil hr]⟩
  | cons b l =>
    cases (Option.some.inj hff).trans hhd
    exact absurd rfl ((List.nodup_append.mp h.nodup).2.2 a (.head _) a hQ)

theorem SInvL.absNodes_eq {s : St} {G M Q : List Nat} (h : SInvL s G M Q) : absNodes s = M ++ Q :=
  walk_of_chain h.chain (length_le_of_nodup_lt h.nodup
    (fun a ha => h.alloc a (List.mem_append_right _ ha)))

theorem SInvL.liveNodes_eq {s : St} {G M Q : List Nat} (h : SInvL s G M Q) : liveNodes s = Q := by
  unfold liveNodes
  rw [h.absNodes_eq]
  apply dropWhile_prefix
  · intro a ha
    have : s.nbit a = true ∧ s.nptr a ≠ none := h.bM a ha
    cases hp : s.nptr a <;> simp_all
  · intro a ha
    have : s.nptr a ≠ none → s.nbit a = false := h.bQ a (List.mem_of_mem_head? ha)
    cases hp : s.nptr a <;> simp_all

theorem SInvL.absQueue_eq {s : St} {G M Q : List Nat} (h : SInvL s G M Q) : absQueue s = Q.tail.map s.val := by
  simp [absQueue, h.liveNodes_eq]

theorem sinv_initW (mh warm : Nat) : SInvL (initW mh warm) [] (List.range warm) [warm] := by
  have hch : ∀ (k i : Nat), Chain (fun a => if a < i + k then some (a + 1) else none) (some i)
      (List.range' i k ++ [i + k]) := by
    intro k
    induction k with
    | zero => intro i; simp [Chain]
    | succ k ih =>
      intro i
      simp only [List.range'_succ, List.cons_append, Chain, true_and]
      have : i < i + (k + 1) := by omega
      simp only [this, if_true]
      have e : i + (k + 1) = (i + 1) + k := by omega
      rw [e]; exact ih (i + 1)
  refine ⟨⟨?_, ?_, nofun, nofun, nofun, ?_, ?_, nofun, ?_, ?_⟩,
    fun _ => ⟨nofun, nofun, nofun, nofun, nofun, nofun, nofun, nofun, trivial⟩, fun _ _ _ => nofun⟩
  · have := hch warm 0
    simp only [Nat.zero_add] at this
    simpa [initW, St.mem, dummy, List.range_eq_range'] using this
  · simp only [List.nodup_append, List.nodup_range]
    refine ⟨trivial, by simp, ?_⟩
    intro a ha b hb; simp at ha hb; omega
  all_goals simp [initW, St.mem]
  all_goals (intros; omega)

/-! ### Linearization-point bookkeeping on program counters -/

def postRet : PC → Option GRet
  | .enqSwing _ _ => some [1]
  | .fcCas _ _ (some v) => some [1, v]
  | .fcP1 _ _ (some v) => some [1, v]
  | .fcP2 _ _ _ (some v) => some [1, v]
  | .crash _ (some v) => some [1, v]
  | .done r => some r
  | _ => none

def lpRet : PC → Option GRet
  | .enqSwing _ _ => some [1]
  | .fcCas _ _ (some v) => some [1, v]
  | .fcP1 _ _ (some v) => some [1, v]
  | .fcP2 _ _ _ (some v) => some [1, v]
  | .crash _ (some v) => some [1, v]
  | .dChk h a p => if h = a ∧ p.1 = none then some [0] else none
  | .done r => some r
  | _ => none

def opOf (val : Nat → Int) (pc : PC) : Option GOp :=
  match enqNode pc with
  | some n => some ⟨"enq", [val n]⟩
  | none =>
    match pc with
    | .idle => none
    | .enqSwing _ _ => none
    | .done _ => none
    | .fcCas _ _ (some _) => none
    | .fcP1 _ _ (some _) => none
    | .fcP2 _ _ _ (some _) => none
    | .crash _ (some _) => none
    | _ => some ⟨"deq", []⟩

/-- The effect of a linearization point on the abstract queue.  A `deq` is the `fifo` transition; an `enq v` inserts
    `v` SOMEWHERE: `Y` are the items it overtakes (`Y = []` for the first CAS of `enqueue`: a `fifo` transition). -/
def BEff (q : List Int) (op : GOp) (r : GRet) (q' : List Int) : Prop :=
  (∃ v X Y, op = ⟨"enq", [v]⟩ ∧ r = [1] ∧ q = X ++ Y ∧ q' = X ++ v :: Y) ∨
  (op = ⟨"deq", []⟩ ∧ fifo.next q op r = some q')

structure StepEff (s : St) (t : Tid) (s' : St) (Q Q' : List Nat) : Prop where
  frame : ∀ t2, t2 ≠ t → s'.pc t2 = s.pc t2
  val : s'.val = s.val
  cnt : s'.cnt = s.cnt
  lp : lpRet (s.pc t) = none → ∀ r, lpRet (s'.pc t) = some r →
        ∃ op, opOf s.val (s.pc t) = some op ∧ BEff (Q.tail.map s.val) op r (Q'.tail.map s.val)
  nolp : (lpRet (s.pc t) ≠ none ∨ lpRet (s'.pc t) = none) → Q' = Q
  keep : ∀ r, lpRet (s.pc t) = some r → lpRet (s'.pc t) = some r ∨ (r = [0] ∧ lpRet (s'.pc t) = none)
  op : postRet (s'.pc t) = none → opOf s'.val (s'.pc t) = opOf s.val (s.pc t)
  emp : lpRet (s.pc t) = none → lpRet (s'.pc t) = some [0] →
        ∃ h b, s.pc t = .dNx2 h h (none, b) ∧ s.head = h ∧ s.nptr h = none ∧ Q = [h]
  sub : ∀ a, a ∈ Q' → a ∈ Q ∨ enqNode (s.pc t) = some a

end CdsVerif.Algo.Basket
