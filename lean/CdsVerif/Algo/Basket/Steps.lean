/-
  BasketQueue model: every transition preserves the structural invariant `SInvL`; a step has the effect `StepEff` on
  the abstract queue (one lemma per program point: `StepEnq.lean`, `StepDeq.lean`, `StepFree.lean`).
-/
import CdsVerif.Algo.Basket.StepEnq
import CdsVerif.Algo.Basket.StepDeq
import CdsVerif.Algo.Basket.StepFree
namespace CdsVerif.Algo.Basket
open CdsVerif.Machine CdsVerif.Spec CdsVerif.Lin CdsVerif.Algo.QueueLin

theorem sinvl_step {s s' : St} {t : Tid} {ev : Ev} {G M Q : List Nat}
    (h : SInvL s G M Q) (hs : step s t = some (s', ev)) : ∃ G' M' Q', SInvL s' G' M' Q' ∧ StepEff s t s' Q Q' := by
  cases hpc : s.pc t with
  | idle => simp [step, hpc] at hs
  | done r => simp [step, hpc] at hs
  | crash n fin => simp [step, hpc] at hs
  | enqLd1 n => exact sinvl_step_enqLd1 h hpc hs
  | enqLd2 n p => exact sinvl_step_enqLd2 h hpc hs
  | enqNext n a => exact sinvl_step_enqNext h hpc hs
  | enqInit n a b => exact sinvl_step_enqInit h hpc hs
  | enqCas n a b => exact sinvl_step_enqCas h hpc hs
  | enqSwing n a => exact sinvl_step_enqSwing h hpc hs
  | bkLd1 n a => exact sinvl_step_bkLd1 h hpc hs
  | bkLd2 n a p => exact sinvl_step_bkLd2 h hpc hs
  | bkTail n a p => exact sinvl_step_bkTail h hpc hs
  | bkChk n a p => exact sinvl_step_bkChk h hpc hs
  | bkSet n a p => exact sinvl_step_bkSet h hpc hs
  | bkCas n a p => exact sinvl_step_bkCas h hpc hs
  | fxTail n a p => exact sinvl_step_fxTail h hpc hs
  | fxChk n a p => exact sinvl_step_fxChk h hpc hs
  | fxWalk n a c => exact sinvl_step_fxWalk h hpc hs
  | fxWTail n a c p => exact sinvl_step_fxWTail h hpc hs
  | fxWChk n a c p => exact sinvl_step_fxWChk h hpc hs
  | fxCas n a c => exact sinvl_step_fxCas h hpc hs
  | dLdH1 => exact sinvl_step_dLdH1 h hpc hs
  | dLdH2 p => exact sinvl_step_dLdH2 h hpc hs
  | dLdT1 h' => exact sinvl_step_dLdT1 h hpc hs
  | dLdT2 h' p => exact sinvl_step_dLdT2 h hpc hs
  | dNx1 h' a => exact sinvl_step_dNx1 h hpc hs
  | dNx2 h' a p => exact sinvl_step_dNx2 h hpc hs
  | dChk h' a p => exact sinvl_step_dChk h hpc hs
  | hpWalk h' a c => exact sinvl_step_hpWalk h hpc hs
  | hpTail h' a c => exact sinvl_step_hpTail h hpc hs
  | hpP1 h' a c => exact sinvl_step_hpP1 h hpc hs
  | hpP2 h' a c p => exact sinvl_step_hpP2 h hpc hs
  | hpCas h' a c => exact sinvl_step_hpCas h hpc hs
  | skHead h' a it p hops => exact sinvl_step_skHead h hpc hs
  | skP1 h' a it hops => exact sinvl_step_skP1 h hpc hs
  | skP2 h' a it p hops => exact sinvl_step_skP2 h hpc hs
  | dChk2 h' a it p hops => exact sinvl_step_dChk2 h hpc hs
  | dMark h' it p hops => exact sinvl_step_dMark h hpc hs
  | fcCas h' nw fin => exact sinvl_step_fcCas h hpc hs
  | fcP1 c nw fin => exact sinvl_step_fcP1 h hpc hs
  | fcP2 c nw p fin => exact sinvl_step_fcP2 h hpc hs

/-! ### Preservation: invocation and return -/

structure InvokeEff (s : St) (t : Tid) (op : GOp) (s' : St) (Q : List Nat) : Prop where
  frame : ∀ t2, t2 ≠ t → s'.pc t2 = s.pc t2
  ops : ∀ t2, t2 ≠ t → opOf s'.val (s.pc t2) = opOf s.val (s.pc t2)
  was : s.pc t = .idle
  now : opOf s'.val (s'.pc t) = some op ∧ lpRet (s'.pc t) = none
  abs : Q.tail.map s'.val = Q.tail.map s.val

/-- Allocation of the node `m.cnt`. -/
theorem TInv.alloc {m : Mem} {G M Q : List Nat} {pc : PC} (h : TInv m G M Q pc) :
    TInv { m with cnt := m.cnt + 1 } G M Q pc :=
  { h with priv := fun n e => ⟨Nat.lt_succ_of_lt (h.priv n e).1, (h.priv n e).2⟩ }

theorem sinvl_invoke {s s' : St} {t : Tid} {op : GOp} {G M Q : List Nat}
    (h : SInvL s G M Q) (hs : invoke s t op = some s') : SInvL s' G M Q ∧ InvokeEff s t op s' Q := by
  obtain ⟨name, args⟩ := op
  unfold invoke at hs
  split at hs
  next v hpc hname hargs =>
    cases hs
    cases hname
    cases hargs
    have hcW : s.cnt ∉ G ++ (M ++ Q) := fun hm => Nat.lt_irrefl _ (h.mem.alloc _ hm)
    have hlt : ∀ u n, enqNode (s.pc u) = some n → n ≠ s.cnt := fun u n e => Nat.ne_of_lt ((h.thread u).priv n e).1
    refine ⟨h.frame rfl { h.mem with alloc := fun a ha => Nat.lt_succ_of_lt (h.mem.alloc a ha) }
        { TInv.idle with priv := fun n e => by cases e; exact ⟨Nat.lt_succ_self _, hcW⟩ }
        (fun u _ => (h.thread u).alloc) (fun u _ n e e' => by cases e; exact hlt u _ e' rfl),
      fun u hu => upd_other _ _ _ _ hu, fun u _ => ?_, hpc, ⟨?_, ?_⟩, ?_⟩
    · unfold opOf
      cases hq : enqNode (s.pc u) with
      | none => rfl
      | some n => exact congrArg (fun x => some (⟨"enq", [x]⟩ : GOp)) (upd_other _ _ _ _ (hlt u n hq))
    · show opOf (upd s.val s.cnt v) (upd s.pc t (.enqLd1 s.cnt) t) = _
      rw [upd_same, opOf_enq rfl, upd_same]
    · show lpRet (upd s.pc t (.enqLd1 s.cnt) t) = none
      rw [upd_same]; rfl
    · exact List.map_congr_left fun a ha => upd_other _ _ _ _ (Nat.ne_of_lt (h.mem.alloc a
        (List.mem_append_right _ (List.mem_append_right _ (List.mem_of_mem_tail ha)))))
  next hpc hname hargs =>
    cases hs
    cases hname
    cases hargs
    refine ⟨h.frame rfl h.mem TInv.dLdH1 (fun u _ => h.thread u) (fun u _ => nofun),
      fun u hu => upd_other _ _ _ _ hu, fun u _ => rfl, hpc, ⟨?_, ?_⟩, rfl⟩
    · show opOf _ (upd s.pc t .dLdH1 t) = _
      rw [upd_same]; rfl
    · show lpRet (upd s.pc t .dLdH1 t) = none
      rw [upd_same]; rfl
  next => cases hs

theorem sinvl_result {s s' : St} {t : Tid} {r : GRet} {G M Q : List Nat}
    (h : SInvL s G M Q) (hs : result s t = some (s', r)) :
    SInvL s' G M Q ∧ s.pc t = .done r ∧ s'.pc t = .idle ∧ (∀ t2, t2 ≠ t → s'.pc t2 = s.pc t2) ∧ s'.val = s.val := by
  unfold result at hs
  split at hs
  next r' hpc =>
    cases hs
    exact ⟨h.frame rfl h.mem TInv.idle (fun u _ => h.thread u) (fun u _ => nofun), hpc, upd_same _ _ _,
      fun u hu => upd_other _ _ _ _ hu, rfl⟩
  next => cases hs

end CdsVerif.Algo.Basket
