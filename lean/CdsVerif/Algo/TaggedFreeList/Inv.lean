/-
  Structural invariant of the tagged free list model, proved for every interleaving.

  * `Chain s.next s.head.1 l` : following `next` from the head pointer visits exactly the nodes `l`, then null.
  * `Free s a` : node `a` is owned by no thread and is not the argument of a `put` in progress.
  * `TInvL s l w` : `l` is duplicate-free and consists EXACTLY of the free nodes (`memOwn`, `memPut`: a chain node
    is free; `held`: a node outside the chain is owned by, or in the `put` of, the thread `w a` - `w` is a witness
    of the invariant, not part of the state; `TInvL.mem` is the resulting equivalence); a node has at most one owner;
    the tag of every head snapshot held by a thread is at most the current tag, and when it is equal the current head
    IS the snapshot (`snap*`: every successful CAS increments the tag); a getter about to CAS whose snapshot still
    equals the head has read the CURRENT successor of the first node (`key`).
  Nodes are reused: a node may be on the chain, be taken, be put again, while a thread keeps a stale snapshot that
  designates it.  Nothing in the invariant says that a snapshot's node is on the chain or is unowned.
-/
import CdsVerif.Algo.TaggedFreeList.Model
namespace CdsVerif.Algo.TaggedFreeList
open CdsVerif.Machine CdsVerif.Spec

/-! ### Chains -/

def Chain (nx : Nat → Option Nat) : Option Nat → List Nat → Prop
  | p, [] => p = none
  | p, a :: l => p = some a ∧ Chain nx (nx a) l

theorem Chain.functional {nx : Nat → Option Nat} : ∀ {p : Option Nat} {l1 l2 : List Nat},
    Chain nx p l1 → Chain nx p l2 → l1 = l2
  | _, [], [], _, _ => rfl
  | _, [], _ :: _, h1, h2 => by simp [Chain] at h1 h2; simp [h1] at h2
  | _, _ :: _, [], h1, h2 => by simp [Chain] at h1 h2; simp [h2] at h1
  | _, a :: l1, b :: l2, h1, h2 => by
    simp only [Chain] at h1 h2
    have hab : a = b := by have := h1.1.symm.trans h2.1; simpa using this
    subst hab
    rw [Chain.functional h1.2 h2.2]

theorem Chain.upd {nx : Nat → Option Nat} {x : Nat} {v : Option Nat} :
    ∀ {p : Option Nat} {l : List Nat}, x ∉ l → Chain nx p l → Chain (upd nx x v) p l
  | _, [], _, h => h
  | _, a :: l, hx, h => by
    simp only [Chain] at h ⊢
    have hax : a ≠ x := fun e => hx (by simp [e])
    refine ⟨h.1, ?_⟩
    rw [upd_other _ _ _ _ hax]
    exact Chain.upd (fun hm => hx (List.mem_cons_of_mem _ hm)) h.2

/-- Executable chain walk with fuel (for the evaluated examples). -/
def walk (nx : Nat → Option Nat) : Nat → Option Nat → List Nat
  | 0, _ => []
  | _ + 1, none => []
  | f + 1, some a => a :: walk nx f (nx a)

theorem walk_of_chain {nx : Nat → Option Nat} : ∀ {fuel : Nat} {p : Option Nat} {l : List Nat},
    Chain nx p l → l.length ≤ fuel → walk nx fuel p = l
  | 0, _, [], _, _ => rfl
  | 0, _, _ :: _, _, hl => by simp at hl
  | f + 1, _, [], h, _ => by simp only [Chain] at h; subst h; rfl
  | f + 1, _, a :: l, h, hl => by
    simp only [Chain] at h
    obtain ⟨rfl, h2⟩ := h
    simp only [walk]
    rw [walk_of_chain h2 (by simpa using hl)]

/-! ### The structural invariant -/

/-- The node a `put` in progress holds (between the invocation and the successful CAS). -/
def putNode : PC → Option Nat
  | .putLd n => some n
  | .putSt n _ _ => some n
  | .putCas n _ _ => some n
  | _ => none

/-- Node `a` is owned by nobody and is not in the hands of a `put` in progress. -/
def Free (s : St) (a : Nat) : Prop := (∀ t, s.owns t a = false) ∧ ∀ t, putNode (s.pc t) ≠ some a

/-- A head snapshot `(p, g)` taken earlier: its tag is not ahead of the current tag, and if the tags are equal the
    head has not changed since the snapshot was taken. -/
def SnapOk (s : St) (p : Option Nat) (g : Nat) : Prop := g ≤ s.head.2 ∧ (g = s.head.2 → s.head.1 = p)

structure TInvL (s : St) (l : List Nat) (w : Nat → Tid) : Prop where
  chain : Chain s.next s.head.1 l
  nodup : l.Nodup
  memOwn : ∀ a t, a ∈ l → s.owns t a = false
  memPut : ∀ a t, a ∈ l → putNode (s.pc t) ≠ some a
  held : ∀ a, a ∉ l → s.owns (w a) a = true ∨ putNode (s.pc (w a)) = some a
  own1 : ∀ t1 t2 a, s.owns t1 a = true → s.owns t2 a = true → t1 = t2
  putown : ∀ t n t2, putNode (s.pc t) = some n → s.owns t2 n = false
  putuniq : ∀ t1 t2 n, putNode (s.pc t1) = some n → putNode (s.pc t2) = some n → t1 = t2
  linked : ∀ t n hp hg, s.pc t = .putCas n hp hg → s.next n = hp
  snapPutSt : ∀ t n hp hg, s.pc t = .putSt n hp hg → SnapOk s hp hg
  snapPutCas : ∀ t n hp hg, s.pc t = .putCas n hp hg → SnapOk s hp hg
  snapGetNext : ∀ t p g, s.pc t = .getNext p g → SnapOk s (some p) g
  snapGetCas : ∀ t p g nx, s.pc t = .getCas p g nx → SnapOk s (some p) g
  key : ∀ t p g nx, s.pc t = .getCas p g nx → s.head.1 = some p → s.head.2 = g → s.next p = nx

def TInv (s : St) : Prop := ∃ l w, TInvL s l w

theorem TInvL.unique {s : St} {l1 l2 : List Nat} {w1 w2 : Nat → Tid} (h1 : TInvL s l1 w1) (h2 : TInvL s l2 w2) :
    l1 = l2 :=
  Chain.functional h1.chain h2.chain

/-- The chain consists exactly of the free nodes. -/
theorem TInvL.mem {s : St} {l : List Nat} {w : Nat → Tid} (h : TInvL s l w) (a : Nat) : a ∈ l ↔ Free s a := by
  constructor
  · intro ha; exact ⟨fun t => h.memOwn a t ha, fun t => h.memPut a t ha⟩
  · intro hf
    apply Classical.byContradiction
    intro hn
    rcases h.held a hn with h1 | h1
    · rw [hf.1] at h1; cases h1
    · exact hf.2 _ h1

theorem tinv_init (own0 : Nat → Tid) : TInvL (init own0) [] own0 := by
  constructor <;> simp [init, Chain, putNode]
  intro t1 a h; exact h.symm

/-! ### The invariant by memory and by thread

`ThreadOk` collects what `TInvL` says about one thread.  A step of thread `t` re-establishes the clauses about the
memory and its own `ThreadOk`; the `ThreadOk` of another thread survives a store into the node of `t`'s `put` (its own
node is another one, and the first node of the chain is on the chain), and it survives a successful CAS on the head
because the tag has moved on (`ThreadOk.bump`). -/

/-- The head snapshot a thread keeps. -/
def snapOf : PC → Option (Option Nat × Nat)
  | .putSt _ hp hg => some (hp, hg)
  | .putCas _ hp hg => some (hp, hg)
  | .getNext p g => some (some p, g)
  | .getCas p g _ => some (some p, g)
  | _ => none

/-- The node whose `m_freeListNext` a `put` has written, with the value. -/
def linkedAt : PC → Option (Nat × Option Nat)
  | .putCas n hp _ => some (n, hp)
  | _ => none

/-- The snapshot and the successor a `get` has read. -/
def readAt : PC → Option (Nat × Nat × Option Nat)
  | .getCas p g nx => some (p, g, nx)
  | _ => none

/-- What `TInvL` says about a thread at program counter `pc`; `hd`, `nx`, `ow` are the memory. -/
structure ThreadOk (hd : Option Nat × Nat) (nx : Nat → Option Nat) (ow : Tid → Nat → Bool) (l : List Nat) (pc : PC) :
    Prop where
  memPut : ∀ a, a ∈ l → putNode pc ≠ some a
  putown : ∀ n t2, putNode pc = some n → ow t2 n = false
  linked : ∀ n hp, linkedAt pc = some (n, hp) → nx n = hp
  snap : ∀ p g, snapOf pc = some (p, g) → g ≤ hd.2 ∧ (g = hd.2 → hd.1 = p)
  key : ∀ p g v, readAt pc = some (p, g, v) → hd.1 = some p → hd.2 = g → nx p = v

section
variable {s : St} {l : List Nat} {w : Nat → Tid}

theorem TInvL.thread (h : TInvL s l w) (t : Tid) : ThreadOk s.head s.next s.owns l (s.pc t) where
  memPut := fun a => h.memPut a t
  putown := fun n t2 => h.putown t n t2
  linked := fun n hp e => by
    cases hpc : s.pc t <;> simp only [hpc, linkedAt, Option.some.injEq, Prod.mk.injEq, reduceCtorEq] at e
    exact e.1 ▸ e.2 ▸ h.linked t _ _ _ hpc
  snap := fun p g e => by
    cases hpc : s.pc t <;> simp only [hpc, snapOf, Option.some.injEq, Prod.mk.injEq, reduceCtorEq] at e
    · exact e.1 ▸ e.2 ▸ h.snapPutSt t _ _ _ hpc
    · exact e.1 ▸ e.2 ▸ h.snapPutCas t _ _ _ hpc
    · exact e.1 ▸ e.2 ▸ h.snapGetNext t _ _ hpc
    · exact e.1 ▸ e.2 ▸ h.snapGetCas t _ _ _ hpc
  key := fun p g v e => by
    cases hpc : s.pc t <;> simp only [hpc, readAt, Option.some.injEq, Prod.mk.injEq, reduceCtorEq] at e
    exact e.1 ▸ e.2.1 ▸ e.2.2 ▸ h.key t _ _ _ hpc

theorem TInvL.thread_at (h : TInvL s l w) {t : Tid} {pc : PC} (hpc : s.pc t = pc) :
    ThreadOk s.head s.next s.owns l pc :=
  hpc ▸ h.thread t

theorem TInvL.of_parts (hch : Chain s.next s.head.1 l) (hnd : l.Nodup) (hmo : ∀ a t, a ∈ l → s.owns t a = false)
    (hheld : ∀ a, a ∉ l → s.owns (w a) a = true ∨ putNode (s.pc (w a)) = some a)
    (hown : ∀ t1 t2 a, s.owns t1 a = true → s.owns t2 a = true → t1 = t2)
    (huniq : ∀ t1 t2 n, putNode (s.pc t1) = some n → putNode (s.pc t2) = some n → t1 = t2)
    (hT : ∀ t, ThreadOk s.head s.next s.owns l (s.pc t)) : TInvL s l w where
  chain := hch
  nodup := hnd
  memOwn := hmo
  memPut := fun a t => (hT t).memPut a
  held := hheld
  own1 := hown
  putown := fun t n t2 => (hT t).putown n t2
  putuniq := huniq
  linked := fun t n hp hg e => (hT t).linked n hp (by rw [e]; rfl)
  snapPutSt := fun t n hp hg e => (hT t).snap hp hg (by rw [e]; rfl)
  snapPutCas := fun t n hp hg e => (hT t).snap hp hg (by rw [e]; rfl)
  snapGetNext := fun t p g e => (hT t).snap (some p) g (by rw [e]; rfl)
  snapGetCas := fun t p g nx e => (hT t).snap (some p) g (by rw [e]; rfl)
  key := fun t p g nx e => (hT t).key p g nx (by rw [e]; rfl)

/-- The rule for one step of thread `t`: its new clauses, the clauses of the others on the new memory, and that no
    other thread has the node of `t`'s `put` in its hands. -/
theorem TInvL.frame {s' : St} {l' : List Nat} {w' : Nat → Tid} {t : Tid} (h : TInvL s l w)
    (hpc : ∀ u, u ≠ t → s'.pc u = s.pc u)
    (hch : Chain s'.next s'.head.1 l') (hnd : l'.Nodup) (hmo : ∀ a t, a ∈ l' → s'.owns t a = false)
    (hheld : ∀ a, a ∉ l' → s'.owns (w' a) a = true ∨ putNode (s'.pc (w' a)) = some a)
    (hown : ∀ t1 t2 a, s'.owns t1 a = true → s'.owns t2 a = true → t1 = t2)
    (hT : ThreadOk s'.head s'.next s'.owns l' (s'.pc t))
    (hO : ∀ u, u ≠ t → ThreadOk s'.head s'.next s'.owns l' (s.pc u))
    (hE : ∀ u n, u ≠ t → putNode (s'.pc t) = some n → putNode (s.pc u) ≠ some n) : TInvL s' l' w' := by
  refine TInvL.of_parts hch hnd hmo hheld hown (fun u v n e1 e2 => ?_) (fun u => ?_)
  · by_cases hu : u = t
    · by_cases hv : v = t
      · rw [hu, hv]
      · rw [hu] at e1; rw [hpc v hv] at e2; exact absurd e2 (hE v n hv e1)
    · by_cases hv : v = t
      · rw [hv] at e2; rw [hpc u hu] at e1; exact absurd e1 (hE u n hu e2)
      · rw [hpc u hu] at e1; rw [hpc v hv] at e2; exact h.putuniq u v n e1 e2
  · by_cases hu : u = t
    · rw [hu]; exact hT
    · rw [hpc u hu]; exact hO u hu

/-- A step that only moves the program counter of `t`, to one with the same node in the hands of `put`. -/
theorem TInvL.move {t : Tid} {q : PC} (h : TInvL s l w) (hT : ThreadOk s.head s.next s.owns l q)
    (hq : putNode q = putNode (s.pc t)) : TInvL { s with pc := upd s.pc t q } l w := by
  have hpt : ({ s with pc := upd s.pc t q } : St).pc t = q := upd_same _ _ _
  refine h.frame (t := t) (fun u hu => upd_other _ _ _ _ hu) h.chain h.nodup h.memOwn (fun a ha => ?_) h.own1
    (by rw [hpt]; exact hT) (fun u _ => h.thread u) (fun u n hu e => ?_)
  · by_cases hw : w a = t
    · rw [hw, hpt, hq, ← hw]; exact h.held a ha
    · rw [show St.pc _ (w a) = s.pc (w a) from upd_other _ _ _ _ hw]; exact h.held a ha
  · rw [hpt, hq] at e
    exact fun e' => hu (h.putuniq u t n e' e)

end

theorem snapOf_of_readAt {pc : PC} {p g : Nat} {v : Option Nat} (e : readAt pc = some (p, g, v)) :
    snapOf pc = some (some p, g) := by
  cases pc <;> simp_all [readAt, snapOf]

/-- A successful CAS on the head increments the tag: every snapshot taken before is out of date. -/
theorem snap_bump {hd : Option Nat × Nat} {p x : Option Nat} {g : Nat} (h : g ≤ hd.2 ∧ (g = hd.2 → hd.1 = p)) :
    g ≤ (x, hd.2 + 1).2 ∧ (g = (x, hd.2 + 1).2 → (x, hd.2 + 1).1 = p) :=
  ⟨Nat.le_succ_of_le h.1, fun e => absurd (e ▸ h.1) (Nat.not_succ_le_self _)⟩

/-- The clauses of a thread after a successful CAS of another thread on the head, the chain having become `l'`. -/
theorem ThreadOk.bump {hd : Option Nat × Nat} {nx : Nat → Option Nat} {ow ow' : Tid → Nat → Bool} {l l' : List Nat}
    {pc : PC} {x : Option Nat} (h : ThreadOk hd nx ow l pc) (hl : ∀ a, a ∈ l' → putNode pc ≠ some a)
    (ho : ∀ n t2, putNode pc = some n → ow' t2 n = false) : ThreadOk (x, hd.2 + 1) nx ow' l' pc where
  memPut := hl
  putown := ho
  linked := h.linked
  snap := fun p g e => snap_bump (h.snap p g e)
  key := fun p g v e _ e2 => by
    have := (h.snap (some p) g (snapOf_of_readAt e)).1
    exact absurd (e2 ▸ this) (Nat.not_succ_le_self _)

/-! ### Preservation: atomic steps -/

section
variable {s s' : St} {t : Tid} {ev : Ev} {l : List Nat} {w : Nat → Tid}

theorem tinvl_step_putSt {n : Nat} {hp : Option Nat} {hg : Nat}
    (h : TInvL s l w) (hpc : s.pc t = .putSt n hp hg) (hs : step s t = some (s', ev)) : ∃ l' w', TInvL s' l' w' := by
  have hT := h.thread_at hpc
  simp only [step, hpc] at hs
  cases hs
  have hn : n ∉ l := fun hm => hT.memPut n hm rfl
  have hpt : ({ s with next := upd s.next n hp, pc := upd s.pc t (.putCas n hp hg) } : St).pc t = .putCas n hp hg :=
    upd_same _ _ _
  refine ⟨l, w, h.frame (t := t) (fun u hu => upd_other _ _ _ _ hu) (Chain.upd hn h.chain) h.nodup h.memOwn
    (fun a ha => ?_) h.own1 ?_ (fun u hu => ?_) (fun u n' hu e => ?_)⟩
  · by_cases hw : w a = t
    · have := h.held a ha
      rw [hw, hpc] at this
      rw [hw, hpt]; exact this
    · rw [show St.pc _ (w a) = s.pc (w a) from upd_other _ _ _ _ hw]; exact h.held a ha
  · rw [hpt]
    exact { hT with linked := fun n' hp' e => by cases e; exact upd_same _ _ _, key := nofun }
  · have hU := h.thread u
    exact { hU with
      linked := fun n' hp' e => by
        have hne : n' ≠ n := fun e' => hu (h.putuniq u t n (by
          rw [← e']; cases hq : s.pc u <;> simp_all [linkedAt, putNode]) (by rw [hpc]; rfl))
        simp only [upd_other _ _ _ _ hne]; exact hU.linked n' hp' e
      key := fun p g v e e1 e2 => by
        -- the first node of the chain is not the node of the `put`
        have hne : p ≠ n := fun e' => hn (by
          have hch := h.chain
          cases l with
          | nil => exact nomatch e1.symm.trans hch
          | cons b l0 => rw [← e', Option.some.inj (e1.symm.trans hch.1)]; exact List.mem_cons_self)
        simp only [upd_other _ _ _ _ hne]; exact hU.key p g v e e1 e2 }
  · rw [hpt] at e; cases e
    exact fun e' => hu (h.putuniq u t n e' (by rw [hpc]; rfl))

theorem tinvl_step_putCas {n : Nat} {hp : Option Nat} {hg : Nat}
    (h : TInvL s l w) (hpc : s.pc t = .putCas n hp hg) (hs : step s t = some (s', ev)) : ∃ l' w', TInvL s' l' w' := by
  have hT := h.thread_at hpc
  simp only [step, hpc] at hs
  split at hs
  next heq =>
    cases hs
    have hn : n ∉ l := fun hm => hT.memPut n hm rfl
    have hpt : ({ s with head := (some n, hg + 1), pc := upd s.pc t (.done [1]) } : St).pc t = .done [1] :=
      upd_same _ _ _
    have hnx : s.next n = s.head.1 := (hT.linked n hp rfl).trans heq.1.symm
    refine ⟨n :: l, w, h.frame (t := t) (fun u hu => upd_other _ _ _ _ hu) ⟨rfl, hnx ▸ h.chain⟩
      (List.nodup_cons.2 ⟨hn, h.nodup⟩) (fun a t' ha => ?_) (fun a ha => ?_) h.own1 ?_ (fun u hu => ?_)
      (fun u n' hu e => ?_)⟩
    · rcases List.mem_cons.1 ha with rfl | ha
      · exact hT.putown a t' rfl
      · exact h.memOwn a t' ha
    · have ha' : a ∉ l := fun e => ha (List.mem_cons_of_mem _ e)
      by_cases hw : w a = t
      · have := h.held a ha'
        rw [hw, hpc] at this
        rcases this with e | e
        · rw [hw]; exact .inl e
        · cases e; exact absurd List.mem_cons_self ha
      · rw [show St.pc _ (w a) = s.pc (w a) from upd_other _ _ _ _ hw]; exact h.held a ha'
    · rw [hpt]
      exact ⟨nofun, nofun, nofun, nofun, nofun⟩
    · rw [← heq.2]
      exact (h.thread u).bump (fun a ha e => by
          rcases List.mem_cons.1 ha with rfl | ha
          · exact hu (h.putuniq u t a e (by rw [hpc]; rfl))
          · exact h.memPut a u ha e)
        (h.thread u).putown
    · rw [hpt] at e; cases e
  next hne =>
    cases hs
    exact ⟨l, w, h.move { hT with linked := nofun, snap := fun p g e => by cases e; exact ⟨Nat.le_refl _, fun _ => rfl⟩ }
      (by rw [hpc]; rfl)⟩

theorem tinvl_step_getCas {p g : Nat} {nx : Option Nat}
    (h : TInvL s l w) (hpc : s.pc t = .getCas p g nx) (hs : step s t = some (s', ev)) : ∃ l' w', TInvL s' l' w' := by
  have hT := h.thread_at hpc
  simp only [step, hpc] at hs
  split at hs
  next heq =>
    cases hs
    have hnx : s.next p = nx := hT.key p g nx rfl heq.1 heq.2
    have hch := h.chain
    have hnd := h.nodup
    cases l with
    | nil => exact nomatch heq.1.symm.trans hch
    | cons b l0 =>
      obtain rfl : p = b := Option.some.inj (heq.1.symm.trans hch.1)
      rw [List.nodup_cons] at hnd
      have hfree : ∀ t', s.owns t' p = false := fun t' => h.memOwn p t' List.mem_cons_self
      have hpt : ({ s with head := (nx, g + 1), owns := upd2 s.owns t p true, pc := upd s.pc t (.done [1, p]) } : St).pc t
          = .done [1, p] := upd_same _ _ _
      have howns : ∀ t' a, upd2 s.owns t p true t' a = true → (t' = t ∧ a = p) ∨ s.owns t' a = true := fun t' a e => by
        simp only [upd2] at e; split at e
        next hc => exact .inl hc
        · exact .inr e
      refine ⟨l0, upd w p t, h.frame (t := t) (fun u hu => upd_other _ _ _ _ hu) (hnx ▸ hch.2) hnd.2
        (fun a t' ha => ?_) (fun a ha => ?_) (fun t1 t2 a e1 e2 => ?_) ?_ (fun u hu => ?_) (fun u n' hu e => ?_)⟩
      · have hap : a ≠ p := fun e => hnd.1 (e ▸ ha)
        simp only [upd2, hap, and_false, if_false]; exact h.memOwn a t' (List.mem_cons_of_mem _ ha)
      · by_cases hap : a = p
        · rw [hap, upd_same]; exact .inl (by simp [upd2])
        · rw [upd_other _ _ _ _ hap]
          have ha' : a ∉ p :: l0 := fun e => (List.mem_cons.1 e).elim hap ha
          rcases h.held a ha' with e | e
          · exact .inl (by simp only [upd2, hap, and_false, if_false]; exact e)
          · have hw : w a ≠ t := fun e' => by rw [e', hpc] at e; cases e
            rw [show St.pc _ (w a) = s.pc (w a) from upd_other _ _ _ _ hw]; exact .inr e
      · rcases howns t1 a e1 with ⟨ht1, ha1⟩ | e1' <;> rcases howns t2 a e2 with ⟨ht2, ha2⟩ | e2'
        · exact ht1.trans ht2.symm
        · rw [ha1, hfree] at e2'; cases e2'
        · rw [ha2, hfree] at e1'; cases e1'
        · exact h.own1 t1 t2 a e1' e2'
      · rw [hpt]
        exact ⟨nofun, nofun, nofun, nofun, nofun⟩
      · rw [← heq.2]
        exact (h.thread u).bump (fun a ha => h.memPut a u (List.mem_cons_of_mem _ ha)) (fun n' t2 e => by
          have hne : n' ≠ p := fun e' => h.memPut p u List.mem_cons_self (e' ▸ e)
          simp only [upd2, hne, and_false, if_false]; exact h.putown u n' t2 e)
      · rw [hpt] at e; cases e
  next hne =>
    cases hs
    refine ⟨l, w, h.move ?_ (by rw [hpc]; cases s.head.1 <;> rfl)⟩
    cases hh : s.head.1 with
    | none => exact ⟨nofun, nofun, nofun, nofun, nofun⟩
    | some a => exact { hT with snap := fun p' g' e => by cases e; exact ⟨Nat.le_refl _, fun _ => hh⟩, key := nofun }

theorem tinvl_step (h : TInvL s l w) (hs : step s t = some (s', ev)) : ∃ l' w', TInvL s' l' w' := by
  cases hpc : s.pc t with
  | idle => simp [step, hpc] at hs
  | done r => simp [step, hpc] at hs
  | putLd n =>
    simp only [step, hpc] at hs
    cases hs
    exact ⟨l, w, h.move { h.thread_at hpc with snap := fun p g e => by cases e; exact ⟨Nat.le_refl _, fun _ => rfl⟩ }
      (by rw [hpc]; rfl)⟩
  | putSt n hp hg => exact tinvl_step_putSt h hpc hs
  | putCas n hp hg => exact tinvl_step_putCas h hpc hs
  | getLd =>
    simp only [step, hpc] at hs
    cases hs
    refine ⟨l, w, h.move ?_ (by rw [hpc]; cases s.head.1 <;> rfl)⟩
    cases hh : s.head.1 with
    | none => exact ⟨nofun, nofun, nofun, nofun, nofun⟩
    | some a => exact { h.thread_at hpc with snap := fun p' g' e => by cases e; exact ⟨Nat.le_refl _, fun _ => hh⟩ }
  | getNext p g =>
    simp only [step, hpc] at hs
    cases hs
    exact ⟨l, w, h.move { h.thread_at hpc with key := fun _ _ _ e _ _ => by cases e; rfl } (by rw [hpc]; rfl)⟩
  | getCas p g nx => exact tinvl_step_getCas h hpc hs

end

/-! ### Preservation: invocation and return -/

section
variable {s s' : St} {t : Tid} {ev : Ev} {l : List Nat} {w : Nat → Tid}

theorem tinvl_invoke {op : GOp} (h : TInvL s l w) (hs : invoke s t op = some s') : TInvL s' l w := by
  have hT := h.thread t
  obtain ⟨name, args⟩ := op
  unfold invoke at hs
  split at hs
  next x n hpc hname hargs =>
    rw [hpc] at hT
    split at hs
    next hc =>
      cases hs
      obtain ⟨-, hc⟩ := hc
      generalize n.toNat = m at *
      have hm : m ∉ l := fun hm => Bool.false_ne_true ((h.memOwn m t hm).symm.trans hc)
      have hwm : w m = t := by
        rcases h.held m hm with h1 | h1
        · exact h.own1 _ _ _ h1 hc
        · exact absurd hc (by rw [h.putown _ _ t h1]; nofun)
      have hpt : ({ s with owns := upd2 s.owns t m false, pc := upd s.pc t (.putLd m) } : St).pc t = .putLd m :=
        upd_same _ _ _
      have hle : ∀ t' a, upd2 s.owns t m false t' a = true → s.owns t' a = true ∧ ¬ (t' = t ∧ a = m) := fun t' a e => by
        simp only [upd2] at e; split at e
        · cases e
        next hc => exact ⟨e, hc⟩
      have hfalse : ∀ t' a, s.owns t' a = false → upd2 s.owns t m false t' a = false := fun t' a e => by
        simp only [upd2]; split
        · rfl
        · exact e
      refine h.frame (t := t) (fun u hu => upd_other _ _ _ _ hu) h.chain h.nodup
        (fun a t' ha => hfalse t' a (h.memOwn a t' ha)) (fun a ha => ?_)
        (fun t1 t2 a e1 e2 => h.own1 t1 t2 a (hle t1 a e1).1 (hle t2 a e2).1) ?_ (fun u hu => ?_) (fun u n' hu e => ?_)
      · by_cases ham : a = m
        · rw [ham, hwm, hpt]; exact .inr rfl
        · rcases h.held a ha with e | e
          · exact .inl (by simp only [upd2, ham, and_false, if_false]; exact e)
          · have hw : w a ≠ t := fun e' => by rw [e', hpc] at e; cases e
            rw [show St.pc _ (w a) = s.pc (w a) from upd_other _ _ _ _ hw]; exact .inr e
      · rw [hpt]
        exact { hT with
          memPut := fun a ha e => hm (Option.some.inj e ▸ ha)
          putown := fun n' t2 e => by
            have hn' : m = n' := Option.some.inj e
            subst hn'
            show upd2 s.owns t m false t2 m = false
            cases ho : upd2 s.owns t m false t2 m with
            | false => rfl
            | true =>
              obtain ⟨h1, h2⟩ := hle t2 m ho
              exact absurd ⟨h.own1 t2 t m h1 hc, rfl⟩ h2 }
      · have hU := h.thread u
        exact { hU with putown := fun n' t2 e => hfalse t2 n' (hU.putown n' t2 e) }
      · rw [hpt] at e
        have hn' : m = n' := Option.some.inj e
        subst hn'
        exact fun e' => Bool.false_ne_true ((h.putown u m t e').symm.trans hc)
    next => cases hs
  next hpc hname hargs =>
    rw [hpc] at hT
    cases hs
    exact h.move { hT with } (by rw [hpc]; rfl)
  next => cases hs

theorem tinvl_result {r : GRet} (h : TInvL s l w) (hs : result s t = some (s', r)) : TInvL s' l w := by
  unfold result at hs
  split at hs
  next r' hpc =>
    cases hs
    exact h.move { h.thread_at hpc with } (by rw [hpc]; rfl)
  next => cases hs

end

/-! ### Reachable states -/

theorem tinv_apply {s s' : St} {t : Tid} {a : Act} {o : Obs} (h : TInv s)
    (hap : model.apply s t a = some (s', o)) : TInv s' := by
  obtain ⟨l, w, hl⟩ := h
  rcases Model.apply_cases hap with ⟨op, -, hs1, -⟩ | ⟨e, -, hs1, -⟩ | ⟨r, -, hs1, -⟩
  · exact ⟨l, w, tinvl_invoke hl hs1⟩
  · exact tinvl_step hl hs1
  · exact ⟨l, w, tinvl_result hl hs1⟩

theorem tinv_reachable (own0 : Nat → Tid) (s : St) (h : model.Reachable (init own0) s) : TInv s :=
  model.inv_reachable TInv (init own0) ⟨[], own0, tinv_init own0⟩ (fun _ _ _ _ _ hi hap => tinv_apply hi hap) s h

/-! ### The tag counts the successful CAS operations on the head -/

/-- The observation is a successful CAS on `m_Head`. -/
def isHeadCasOk : Obs → Bool
  | .ev e => e.kind == "cas+" && e.loc == headLoc
  | _ => false

/-- Number of successful CAS operations on `m_Head` in a trace. -/
def casCount (os : List (Tid × Obs)) : Nat := os.countP (fun x => isHeadCasOk x.2)

/-- A step either is a successful CAS on the head, which increments the tag, or leaves the head (pointer and tag)
    as it is. -/
theorem step_head {s s' : St} {t : Tid} {ev : Ev} (hs : step s t = some (s', ev)) :
    (isHeadCasOk (.ev ev) = true ∧ s'.head.2 = s.head.2 + 1) ∨ (isHeadCasOk (.ev ev) = false ∧ s'.head = s.head) := by
  unfold step at hs
  split at hs
  all_goals (try split at hs)
  all_goals simp at hs
  all_goals obtain ⟨rfl, rfl⟩ := hs
  all_goals simp [isHeadCasOk, evLdHead, evLd, evSt, evCasOk, evCasFail, headLoc]
  all_goals simp_all

theorem apply_head {s s' : St} {t : Tid} {a : Act} {o : Obs} (hap : model.apply s t a = some (s', o)) :
    (isHeadCasOk o = true ∧ s'.head.2 = s.head.2 + 1) ∨ (isHeadCasOk o = false ∧ s'.head = s.head) := by
  rcases Model.apply_cases hap with ⟨op, -, hs1, rfl⟩ | ⟨e, -, hs1, rfl⟩ | ⟨r, -, hs1, rfl⟩
  · simp only [model] at hs1
    right
    refine ⟨rfl, ?_⟩
    unfold invoke at hs1
    split at hs1
    · split at hs1 <;> simp at hs1; subst hs1; rfl
    · simp at hs1; subst hs1; rfl
    · simp at hs1
  · exact step_head hs1
  · simp only [model] at hs1
    right
    refine ⟨rfl, ?_⟩
    unfold result at hs1
    split at hs1
    · simp at hs1; obtain ⟨rfl, -⟩ := hs1; rfl
    · simp at hs1

/-- Along any run segment, the tag advances by exactly the number of successful CAS operations on the head; and
    if there was none, the head is what it was. -/
theorem run_tag : ∀ (sched : List (Tid × Act)) (s s' : St) (os : List (Tid × Obs)),
    model.run s sched = some (s', os) →
    s'.head.2 = s.head.2 + casCount os ∧ (casCount os = 0 → s'.head = s.head) := by
  intro sched
  induction sched with
  | nil =>
    intro s s' os h
    simp [Model.run] at h
    obtain ⟨rfl, rfl⟩ := h
    simp [casCount]
  | cons x rest ih =>
    intro s s' os h
    obtain ⟨t, a⟩ := x
    obtain ⟨s1, o, os1, hap, hrun, rfl⟩ := Model.run_cons.mp h
    obtain ⟨ih1, ih2⟩ := ih s1 s' os1 hrun
    rcases apply_head hap with ⟨ho, hh⟩ | ⟨ho, hh⟩
    · simp only [casCount, List.countP_cons, ho] at ih1 ih2 ⊢
      refine ⟨by simp; omega, by simp⟩
    · simp only [casCount, List.countP_cons, ho] at ih1 ih2 ⊢
      refine ⟨by rw [ih1, hh]; simp, fun h0 => by rw [ih2 (by simpa using h0), hh]⟩

/-- THE TAG LEMMA.  If the tag at the end of a run segment equals the tag at its beginning, then no successful
    CAS on the head happened in the segment, and the head pointer is the same too. -/
theorem tag_equal_means_unchanged {sched : List (Tid × Act)} {s s' : St} {os : List (Tid × Obs)}
    (h : model.run s sched = some (s', os)) (htag : s'.head.2 = s.head.2) :
    (∀ x ∈ os, isHeadCasOk x.2 = false) ∧ s'.head = s.head := by
  obtain ⟨h1, h2⟩ := run_tag sched s s' os h
  have h0 : casCount os = 0 := by omega
  refine ⟨?_, h2 h0⟩
  intro x hx
  simp only [casCount, List.countP_eq_zero] at h0
  simpa using h0 x hx

/-! ### The successful CAS of `get` -/

/-- When the CAS of `get` succeeds, the node it takes is the current first node of the chain, it is free (owned by
    nobody, not in a `put`), the value written to the head is its current successor, and the new chain is the old
    one without its first node. -/
theorem get_cas_success {s s' : St} {t : Tid} {ev : Ev} {p g : Nat} {nx : Option Nat} (h : TInv s)
    (hpc : s.pc t = .getCas p g nx) (hs : step s t = some (s', ev)) (hok : ev.kind = "cas+") :
    ∃ l, Chain s.next s.head.1 (p :: l) ∧ Free s p ∧ s.next p = nx ∧ Chain s'.next s'.head.1 l ∧
      s'.owns t p = true ∧ s'.pc t = .done [1, p] ∧ ev = evCasOk (some p) g nx (g + 1) := by
  obtain ⟨l, w, hl⟩ := h
  obtain ⟨l', w', hl'⟩ := tinvl_step hl hs
  simp only [step, hpc] at hs
  split at hs
  next heq =>
    simp at hs; obtain ⟨rfl, rfl⟩ := hs
    have hnx := hl.key t p g nx hpc heq.1 heq.2
    have hch := hl.chain
    cases l with
    | nil => simp_all [Chain]
    | cons b l0 =>
      have hb : b = p := by simp_all [Chain]
      subst hb
      refine ⟨l0, hch, (hl.mem b).1 (by simp), hnx, ?_, by simp [upd2], by simp [upd], rfl⟩
      simp only [Chain] at hch
      dsimp only
      rw [← hnx]; exact hch.2
  next hne =>
    simp at hs; obtain ⟨rfl, rfl⟩ := hs
    simp [evCasFail] at hok

theorem getLoop_cases (p : Option Nat) (g : Nat) :
    getLoop p g = .done [0] ∨ ∃ a, p = some a ∧ getLoop p g = .getNext a g := by
  cases p <;> simp [getLoop]

/-- `get` decides to return a node only at a successful CAS on the head, and the node is the one the CAS expected. -/
theorem get_result_only_by_cas {s s' : St} {t : Tid} {ev : Ev} {v : Int} (hs : step s t = some (s', ev))
    (_hpre : s.pc t ≠ .done [1, v]) (hpost : s'.pc t = .done [1, v]) :
    ∃ p g nx, s.pc t = .getCas p g nx ∧ v = (p : Int) ∧ ev = evCasOk (some p) g nx (g + 1) := by
  unfold step at hs
  split at hs
  all_goals (try split at hs)
  all_goals simp at hs
  all_goals obtain ⟨rfl, rfl⟩ := hs
  all_goals simp [upd] at hpost
  next => rcases getLoop_cases s.head.1 s.head.2 with h | ⟨a, -, h⟩ <;> simp [h] at hpost
  next p g nx hpc hc => exact ⟨p, g, nx, hpc, hpost.symm, rfl⟩
  next => rcases getLoop_cases s.head.1 s.head.2 with h | ⟨a, -, h⟩ <;> simp [h] at hpost

/-! ### Quiescent states and sequential `get` -/

/-- When no operation is in progress, the chain consists exactly of the nodes owned by nobody. -/
theorem quiescent_chain {s : St} (h : TInv s) (hq : ∀ t, s.pc t = .idle) :
    ∃ l, Chain s.next s.head.1 l ∧ l.Nodup ∧ ∀ a, a ∈ l ↔ ∀ t, s.owns t a = false := by
  obtain ⟨l, w, hl⟩ := h
  refine ⟨l, hl.chain, hl.nodup, fun a => ?_⟩
  rw [hl.mem a]
  constructor
  · exact fun hf => hf.1
  · exact fun ho => ⟨ho, fun t => by simp [hq t, putNode]⟩

def getSched (t : Tid) : List (Tid × Act) :=
  [(t, .invoke ⟨"get", [(t : Int)]⟩), (t, .step), (t, .step), (t, .step), (t, .ret)]
def getEmptySched (t : Tid) : List (Tid × Act) :=
  [(t, .invoke ⟨"get", [(t : Int)]⟩), (t, .step), (t, .ret)]

/-- The results returned to the client, in order. -/
def retsOf (os : List (Tid × Obs)) : List GRet :=
  os.filterMap fun x => match x.2 with
    | .ret r => some r
    | _ => none

/-- A `get` that runs alone on a non-empty list: the complete run, with its trace. -/
theorem get_seq_run (s : St) (t : Tid) (a : Nat) (hidle : s.pc t = .idle) (hh : s.head.1 = some a) :
    model.run s (getSched t) = some
      ({ s with head := (s.next a, s.head.2 + 1), owns := upd2 s.owns t a true, pc := upd s.pc t .idle },
       [(t, .call ⟨"get", [(t : Int)]⟩), (t, .ev (evLdHead (some a) s.head.2)), (t, .ev (evLd (nloc a) (s.next a))),
        (t, .ev (evCasOk (some a) s.head.2 (s.next a) (s.head.2 + 1))), (t, .ret [1, (a : Int)])]) := by
  simp [getSched, Model.run, Model.apply, model, invoke, step, result, hidle, hh, getLoop, upd_upd]

/-- A `get` that runs alone on an empty list: the complete run, with its trace. -/
theorem get_seq_empty_run (s : St) (t : Tid) (hidle : s.pc t = .idle) (hh : s.head.1 = none) :
    model.run s (getEmptySched t) = some
      ({ s with pc := upd s.pc t .idle },
       [(t, .call ⟨"get", [(t : Int)]⟩), (t, .ev (evLdHead none s.head.2)), (t, .ret [0])]) := by
  simp [getEmptySched, Model.run, Model.apply, model, invoke, step, result, hidle, hh, getLoop, upd_upd]

/-- A `get` that runs alone on a non-empty chain `a :: l` returns `a`, owns it, and leaves the chain `l`. -/
theorem get_seq_nonempty (s : St) (t : Tid) (a : Nat) (l : List Nat) (hidle : s.pc t = .idle)
    (hch : Chain s.next s.head.1 (a :: l)) :
    ∃ s' os, model.run s (getSched t) = some (s', os) ∧ retsOf os = [[1, (a : Int)]] ∧
      s'.pc t = .idle ∧ Chain s'.next s'.head.1 l ∧ s'.owns t a = true ∧
      (∀ t2 n, s.owns t2 n = true → s'.owns t2 n = true) := by
  simp only [Chain] at hch
  obtain ⟨hh, hch2⟩ := hch
  refine ⟨_, _, get_seq_run s t a hidle hh, ?_, ?_, ?_, ?_, ?_⟩
  · simp [retsOf]
  · simp
  · exact hch2
  · simp [upd2]
  · intro t2 n h; simp only [upd2]; split <;> simp_all

/-- A `get` that runs alone on an empty chain returns "empty". -/
theorem get_seq_empty (s : St) (t : Tid) (hidle : s.pc t = .idle) (hh : s.head.1 = none) :
    ∃ s' os, model.run s (getEmptySched t) = some (s', os) ∧ retsOf os = [[0]] ∧
      s'.pc t = .idle ∧ s'.head = s.head ∧ s'.owns = s.owns := by
  refine ⟨_, _, get_seq_empty_run s t hidle hh, ?_, ?_, rfl, rfl⟩
  · simp [retsOf]
  · simp

/-- `k` times `get`, then one more. -/
def drainSched (t : Tid) : Nat → List (Tid × Act)
  | 0 => getEmptySched t
  | k + 1 => getSched t ++ drainSched t k

/-- Draining: from a state in which thread `t` is idle and the chain is `l`, `l.length` successive `get()` calls
    of `t` (running alone) return the nodes of `l`, every one of them, in chain order, and the next `get()`
    returns "empty"; `t` then owns all of them. -/
theorem drain (t : Tid) : ∀ (l : List Nat) (s : St), s.pc t = .idle → Chain s.next s.head.1 l →
    ∃ s' os, model.run s (drainSched t l.length) = some (s', os) ∧
      retsOf os = l.map (fun (a : Nat) => ([1, (a : Int)] : GRet)) ++ [[0]] ∧ s'.head.1 = none ∧
      (∀ a ∈ l, s'.owns t a = true) ∧ (∀ t2 n, s.owns t2 n = true → s'.owns t2 n = true) := by
  intro l
  induction l with
  | nil =>
    intro s hidle hch
    simp only [Chain] at hch
    obtain ⟨s', os, hrun, hret, -, hhead, hown⟩ := get_seq_empty s t hidle hch
    refine ⟨s', os, hrun, by simpa using hret, by rw [hhead]; exact hch, by simp, fun t2 n h => by rw [hown]; exact h⟩
  | cons a l ih =>
    intro s hidle hch
    obtain ⟨s1, os1, hrun1, hret1, hidle1, hch1, hown1, hmono1⟩ := get_seq_nonempty s t a l hidle hch
    obtain ⟨s2, os2, hrun2, hret2, hhead2, hown2, hmono2⟩ := ih s1 hidle1 hch1
    refine ⟨s2, os1 ++ os2, Model.run_append hrun1 hrun2, ?_, hhead2, ?_, fun t2 n h => hmono2 _ _ (hmono1 _ _ h)⟩
    · simp only [retsOf, List.filterMap_append] at hret1 hret2 ⊢
      rw [hret1, hret2]; simp
    · intro b hb
      rcases List.mem_cons.mp hb with rfl | hb
      · exact hmono2 _ _ hown1
      · exact hown2 b hb

end CdsVerif.Algo.TaggedFreeList
