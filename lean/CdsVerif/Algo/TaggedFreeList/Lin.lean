/-
  TaggedFreeList: every run is linearizable (Herlihy–Wing, with completion of the pending operations that have passed
  their linearization point) to the BAG.

  Part 1 (namespace `CdsVerif.Algo.BagLin`, shared with `Algo/FreeList/Lin.lean`):
    * `bagT` — the bag specification `Spec.bag []` read on the operations of the free-list machines, whose first
      argument is the calling thread: `put [t, n]` is `Spec.bagNext … put [n]`, `get [t]` is `Spec.bagNext … get []`
      (`stripOp` drops the thread argument).  `linearizable_bag_of_bagT` transfers a `bagT` linearization of a history
      to a `Spec.bag []` linearization of the same history with the thread arguments dropped.
    * `ghostModel m gs f` — the machine `m` run together with HISTORY VARIABLES: the operation each thread invoked
      last (the machines do not keep the thread argument of the call in their state, the ghost log needs the exact
      operation), a ghost value updated by `gs` at every atomic step, and the results relabelled by `f`.  The
      history variables are write-only: `ghostModel_run` — every run of `m` is a run of `ghostModel m gs f` with the same
      observations (results relabelled by `f`).

  Part 2: the instance of the ghost-log toolkit `Algo/QueueLin/GhostP.lean` for the tagged free list.
    abstract bag           the chain from `m_Head` (`chainOf`)
    linearization points   put: the successful CAS on `m_Head` (`putCas`, the node becomes the first of the chain);
                           get → node: the successful CAS on `m_Head` (`getCas`, the first node leaves the chain);
                           get → empty: the load of `m_Head` that reads null, or the failed CAS that sees null.
  The structural invariant is `TInv` of `Inv.lean`, reused as it is.
-/
import CdsVerif.Algo.TaggedFreeList.Inv
import CdsVerif.Algo.QueueLin.GhostP

namespace CdsVerif.Algo.BagLin
open CdsVerif.Machine CdsVerif.Spec CdsVerif.Lin CdsVerif.Algo.QueueLin CdsVerif.Algo.QueueLinP

/-! ### The bag on operations that carry the calling thread -/

/-- Drop the first argument (the calling thread). -/
def stripOp (op : GOp) : GOp := ⟨op.name, op.args.drop 1⟩

/-- `Spec.bag []` on the operations `put [t, n]`, `get [t]`. -/
def bagT : SpecL := ⟨[], fun q op r => bagNext q (stripOp op) r⟩

theorem bagT_ret0 (q : List Int) (op : GOp) (q' : List Int) (h : bagT.next q op [0] = some q') : q' = q := by
  obtain ⟨name, args⟩ := op
  simp only [bagT, stripOp, bagNext] at h
  split at h
  · simp_all
  · split at h <;> simp_all
  · simp_all
  · simp at h

theorem peff_put (a n : Int) (q : List Int) (hn : n ∉ q) : PEff bagT q ⟨"put", [a, n]⟩ [1] (n :: q) := by
  intro q0 hp
  have h0 : n ∉ q0 := fun h => hn (hp.mem_iff.mp h)
  exact ⟨n :: q0, by simp [bagT, stripOp, bagNext, h0], hp.cons n⟩

theorem peff_get (a p : Int) (q : List Int) : PEff bagT (p :: q) ⟨"get", [a]⟩ [1, p] q := by
  intro q0 hp
  have hx : p ∈ q0 := hp.mem_iff.mpr (by simp)
  refine ⟨q0.erase p, by simp [bagT, stripOp, bagNext, hx], ?_⟩
  simpa using hp.erase p

theorem peff_empty (a : Int) : PEff bagT [] ⟨"get", [a]⟩ [0] [] := by
  intro q0 hp
  have : q0 = [] := hp.eq_nil
  subst this
  exact ⟨[], by simp [bagT, stripOp, bagNext], List.Perm.refl _⟩

/-- The record with the thread argument of the operation dropped. -/
def stripRec (o : OpRec GOp GRet) : OpRec GOp GRet := { o with op := stripOp o.op }

theorem legal_strip : ∀ (l : List (OpRec GOp GRet)) (st : List Int), Legal bagT st l → Legal (bag []) st (l.map stripRec)
  | [], _, _ => trivial
  | o :: l, st, h => by
    obtain ⟨st1, h1, h2⟩ := h
    exact ⟨st1, h1, legal_strip l st1 h2⟩

/-- A `bagT` linearization is a linearization to `Spec.bag []` of the history without the thread arguments. -/
theorem linearizable_bag_of_bagT {ops : List (OpRec GOp GRet)} (h : Linearizable bagT ops) :
    Linearizable (bag []) (ops.map stripRec) := by
  obtain ⟨perm, hperm, hrt, hlegal⟩ := h
  refine ⟨perm.map stripRec, hperm.map _, ?_, legal_strip perm [] hlegal⟩
  unfold RespectsRT at hrt ⊢
  rw [List.pairwise_map]
  exact hrt

/-! ### History variables -/

variable {σ γ : Type}

def mapObs (f : GRet → GRet) : Obs → Obs
  | .ret r => .ret (f r)
  | o => o

def mapOs (f : GRet → GRet) (os : List (Tid × Obs)) : List (Tid × Obs) := os.map (fun x => (x.1, mapObs f x.2))

theorem mapOs_id (os : List (Tid × Obs)) : mapOs id os = os := by
  induction os with
  | nil => rfl
  | cons x os ih =>
    obtain ⟨t, o⟩ := x
    simp only [mapOs, List.map_cons] at ih ⊢
    rw [ih]
    cases o <;> rfl

/-- `m` with history variables: the operation each thread invoked last, a ghost value updated at every atomic step,
    and the results relabelled by `f`. -/
def ghostModel (m : Model σ) (gs : σ → Tid → γ → γ) (f : GRet → GRet) : Model (σ × (Tid → Option GOp) × γ) where
  invoke := fun x t op => (m.invoke x.1 t op).map (fun s' => (s', upd x.2.1 t (some op), x.2.2))
  step := fun x t => (m.step x.1 t).map (fun r => ((r.1, x.2.1, gs x.1 t x.2.2), r.2))
  result := fun x t => (m.result x.1 t).map (fun r => ((r.1, x.2.1, x.2.2), f r.2))

theorem ghostModel_apply (m : Model σ) (gs : σ → Tid → γ → γ) (f : GRet → GRet) (s : σ) (o : Tid → Option GOp) (g : γ)
    (t : Tid) (a : Act) (s1 : σ) (ob : Obs) (h : m.apply s t a = some (s1, ob)) :
    ∃ o1 g1, (ghostModel m gs f).apply (s, o, g) t a = some ((s1, o1, g1), mapObs f ob) := by
  rcases Model.apply_cases h with ⟨op, rfl, hs, rfl⟩ | ⟨e, rfl, hs, rfl⟩ | ⟨r, rfl, hs, rfl⟩
  · exact ⟨upd o t (some op), g, by simp [Model.apply, ghostModel, hs, mapObs]⟩
  · exact ⟨o, gs s t g, by simp [Model.apply, ghostModel, hs, mapObs]⟩
  · exact ⟨o, g, by simp [Model.apply, ghostModel, hs, mapObs]⟩

/-- The history variables are write-only: every run of `m` is a run of `ghostModel m gs f`. -/
theorem ghostModel_run (m : Model σ) (gs : σ → Tid → γ → γ) (f : GRet → GRet) :
    ∀ (sched : List (Tid × Act)) (s : σ) (o : Tid → Option GOp) (g : γ) (s' : σ) (os : List (Tid × Obs)),
      m.run s sched = some (s', os) →
      ∃ o' g', (ghostModel m gs f).run (s, o, g) sched = some ((s', o', g'), mapOs f os) := by
  intro sched
  induction sched with
  | nil =>
    intro s o g s' os h
    simp [Model.run] at h
    obtain ⟨rfl, rfl⟩ := h
    exact ⟨o, g, by simp [Model.run, mapOs]⟩
  | cons x rest ih =>
    intro s o g s' os h
    obtain ⟨t, a⟩ := x
    simp only [Model.run] at h
    cases hap : m.apply s t a with
    | none => simp [hap] at h
    | some p =>
      obtain ⟨s1, ob⟩ := p
      simp only [hap] at h
      cases hrr : m.run s1 rest with
      | none => simp [hrr] at h
      | some q =>
        obtain ⟨s2, os2⟩ := q
        simp only [hrr, Option.some.injEq, Prod.mk.injEq] at h
        obtain ⟨rfl, rfl⟩ := h
        obtain ⟨o1, g1, h1⟩ := ghostModel_apply m gs f s o g t a s1 ob hap
        obtain ⟨o2, g2, h2⟩ := ih s1 o1 g1 s2 os2 hrr
        exact ⟨o2, g2, by simp [Model.run, h1, h2, mapOs]⟩

end CdsVerif.Algo.BagLin

namespace CdsVerif.Algo.TaggedFreeList
open CdsVerif.Machine CdsVerif.Spec CdsVerif.Lin CdsVerif.Algo.QueueLin CdsVerif.Algo.QueueLinP CdsVerif.Algo.BagLin

/-! ### Bookkeeping functions of the program counter -/

/-- The operation in progress before its linearization point: `some (some n)` = `put` of node `n`, `some none` = `get`. -/
def opKind : PC → Option (Option Nat)
  | .idle => none
  | .putLd n => some (some n)
  | .putSt n _ _ => some (some n)
  | .putCas n _ _ => some (some n)
  | .getLd => some none
  | .getNext _ _ => some none
  | .getCas _ _ _ => some none
  | .done _ => none

/-- The result fixed at the linearization point. -/
def lpRet : PC → Option GRet
  | .done r => some r
  | _ => none

theorem lpRet_none_of_kind {pc : PC} (h : opKind pc ≠ none) : lpRet pc = none := by
  cases pc <;> simp_all [opKind, lpRet]

/-- The recorded operation agrees with the program counter. -/
def OpOk (pc : PC) (oo : Option GOp) : Prop :=
  match opKind pc with
  | none => True
  | some (some n) => ∃ a : Int, oo = some ⟨"put", [a, (n : Int)]⟩
  | some none => ∃ a : Int, oo = some ⟨"get", [a]⟩

/-- The chain from `m_Head` (the abstract bag). -/
noncomputable def chainOf (s : St) : List Nat :=
  @dite _ (∃ l, Chain s.next s.head.1 l) (Classical.propDecidable _) (fun h => Classical.choose h) (fun _ => [])

theorem chainOf_eq {s : St} {l : List Nat} (h : Chain s.next s.head.1 l) : chainOf s = l := by
  have hex : ∃ l, Chain s.next s.head.1 l := ⟨l, h⟩
  unfold chainOf
  rw [dif_pos hex]
  exact Chain.functional (Classical.choose_spec hex) h

def toBag (l : List Nat) : List Int := l.map (fun a : Nat => (a : Int))

theorem not_mem_toBag {l : List Nat} {n : Nat} (h : n ∉ l) : (n : Int) ∉ toBag l := by
  intro hm
  obtain ⟨b, hb, e⟩ := List.mem_map.mp hm
  have : b = n := by omega
  exact h (this ▸ hb)

/-! ### What one action does to the chain and to the program counters -/

theorem step_eff {s s' : St} {t : Tid} {ev : Ev} {l : List Nat} {w : Nat → Tid}
    (h : TInvL s l w) (hs : step s t = some (s', ev)) :
    (∀ t2, t2 ≠ t → s'.pc t2 = s.pc t2) ∧
    ((∃ n, opKind (s.pc t) = some (some n) ∧ s'.pc t = .done [1] ∧ n ∉ l ∧ Chain s'.next s'.head.1 (n :: l)) ∨
     (∃ (p : Nat) (l0 : List Nat), opKind (s.pc t) = some none ∧ s'.pc t = .done [1, (p : Int)] ∧ l = p :: l0 ∧
        Chain s'.next s'.head.1 l0) ∨
     (opKind (s.pc t) = some none ∧ s'.pc t = .done [0] ∧ s.head.1 = none ∧ Chain s'.next s'.head.1 l) ∨
     (opKind (s'.pc t) = opKind (s.pc t) ∧ opKind (s.pc t) ≠ none ∧ Chain s'.next s'.head.1 l)) := by
  have hch := h.chain
  cases hpc : s.pc t with
  | idle => simp [step, hpc] at hs
  | done r => simp [step, hpc] at hs
  | putLd n =>
    simp only [step, hpc] at hs
    simp at hs; obtain ⟨rfl, -⟩ := hs
    refine ⟨fun t2 ht => by simp [upd, ht], Or.inr (Or.inr (Or.inr ⟨by simp [opKind], by simp [opKind], hch⟩))⟩
  | putSt n hp hg =>
    simp only [step, hpc] at hs
    simp at hs; obtain ⟨rfl, -⟩ := hs
    have hn : n ∉ l := fun hm => h.memPut n t hm (by simp [hpc, putNode])
    refine ⟨fun t2 ht => by simp [upd, ht],
      Or.inr (Or.inr (Or.inr ⟨by simp [opKind], by simp [opKind], Chain.upd hn hch⟩))⟩
  | putCas n hp hg =>
    simp only [step, hpc] at hs
    split at hs
    next heq =>
      simp at hs; obtain ⟨rfl, -⟩ := hs
      have hn : n ∉ l := fun hm => h.memPut n t hm (by simp [hpc, putNode])
      have hnn := h.linked t n hp hg hpc
      refine ⟨fun t2 ht => by simp [upd, ht], Or.inl ⟨n, by simp [opKind], by simp, hn, ?_⟩⟩
      simp only [Chain]
      refine ⟨trivial, ?_⟩
      rw [hnn, ← heq.1]; exact hch
    next hne =>
      simp at hs; obtain ⟨rfl, -⟩ := hs
      refine ⟨fun t2 ht => by simp [upd, ht], Or.inr (Or.inr (Or.inr ⟨by simp [opKind], by simp [opKind], hch⟩))⟩
  | getLd =>
    simp only [step, hpc] at hs
    simp at hs; obtain ⟨rfl, -⟩ := hs
    refine ⟨fun t2 ht => by simp [upd, ht], ?_⟩
    cases hh : s.head.1 with
    | none => exact Or.inr (Or.inr (Or.inl ⟨by simp [opKind], by simp [getLoop], rfl, by rw [hh] at hch; exact hch⟩))
    | some a => exact Or.inr (Or.inr (Or.inr ⟨by simp [opKind, getLoop], by simp [opKind], by rw [hh] at hch; exact hch⟩))
  | getNext p g =>
    simp only [step, hpc] at hs
    simp at hs; obtain ⟨rfl, -⟩ := hs
    refine ⟨fun t2 ht => by simp [upd, ht], Or.inr (Or.inr (Or.inr ⟨by simp [opKind], by simp [opKind], hch⟩))⟩
  | getCas p g nx =>
    simp only [step, hpc] at hs
    split at hs
    next heq =>
      simp at hs; obtain ⟨rfl, -⟩ := hs
      have hnx := h.key t p g nx hpc heq.1 heq.2
      refine ⟨fun t2 ht => by simp [upd, ht], ?_⟩
      cases l with
      | nil => simp_all [Chain]
      | cons b l0 =>
        have hb : b = p := by simp_all [Chain]
        subst hb
        refine Or.inr (Or.inl ⟨b, l0, by simp [opKind], by simp, rfl, ?_⟩)
        simp only [Chain] at hch
        dsimp only
        rw [← hnx]; exact hch.2
    next hne =>
      simp at hs; obtain ⟨rfl, -⟩ := hs
      refine ⟨fun t2 ht => by simp [upd, ht], ?_⟩
      cases hh : s.head.1 with
      | none => exact Or.inr (Or.inr (Or.inl ⟨by simp [opKind], by simp [getLoop], rfl, by rw [hh] at hch; exact hch⟩))
      | some a => exact Or.inr (Or.inr (Or.inr ⟨by simp [opKind, getLoop], by simp [opKind], by rw [hh] at hch; exact hch⟩))

theorem invoke_eff {s s' : St} {t : Tid} {op : GOp} (hs : invoke s t op = some s') :
    s.pc t = .idle ∧ s'.head = s.head ∧ s'.next = s.next ∧ (∀ t2, t2 ≠ t → s'.pc t2 = s.pc t2) ∧
    ((∃ a n : Int, op = ⟨"put", [a, n]⟩ ∧ 0 < n ∧ s'.pc t = .putLd n.toNat) ∨
     (∃ a : Int, op = ⟨"get", [a]⟩ ∧ s'.pc t = .getLd)) := by
  obtain ⟨name, args⟩ := op
  unfold invoke at hs
  split at hs
  next x n hpc hname hargs =>
    split at hs
    next hc =>
      simp at hs; subst hs
      simp only at hname hargs
      subst hname hargs
      exact ⟨hpc, rfl, rfl, fun t2 ht => by simp [upd, ht], Or.inl ⟨x, n, rfl, hc.1, by simp⟩⟩
    next => simp at hs
  next x hpc hname hargs =>
    simp at hs; subst hs
    simp only at hname hargs
    subst hname hargs
    exact ⟨hpc, rfl, rfl, fun t2 ht => by simp [upd, ht], Or.inr ⟨x, rfl, by simp⟩⟩
  next => simp at hs

theorem result_eff {s s' : St} {t : Tid} {r : GRet} (hs : result s t = some (s', r)) :
    s.pc t = .done r ∧ s'.pc t = .idle ∧ s'.head = s.head ∧ s'.next = s.next ∧ (∀ t2, t2 ≠ t → s'.pc t2 = s.pc t2) := by
  unfold result at hs
  split at hs
  next r' hpc =>
    simp at hs; obtain ⟨rfl, rfl⟩ := hs
    exact ⟨hpc, by simp, rfl, rfl, fun t2 ht => by simp [upd, ht]⟩
  next => simp at hs

/-! ### The instance of the ghost-log toolkit -/

abbrev GS := St × (Tid → Option GOp) × Unit

def gmodel : Model GS := ghostModel model (fun _ _ g => g) id

def LInv (x : GS) : Prop := TInv x.1 ∧ ∀ t, OpOk (x.1.pc t) (x.2.1 t)

/-- The load of `m_Head` (or the failed CAS on it) that sees null. -/
def EmptyAt (x : GS) (t : Tid) : Prop := x.1.head.1 = none ∧ opKind (x.1.pc t) = some none

def opOfG (pc : PC) (oo : Option GOp) : Option GOp :=
  match opKind pc with
  | none => none
  | some _ => oo

noncomputable def qsys (own0 : Nat → Tid) : QSys GS where
  spec := bagT
  model := gmodel
  init := (init own0, fun _ => none, ())
  Inv := LInv
  absQ := fun x => toBag (chainOf x.1)
  lpRet := fun x t => lpRet (x.1.pc t)
  postRet := fun x t => lpRet (x.1.pc t)
  opOf := fun x t => opOfG (x.1.pc t) (x.2.1 t)
  EmptyAt := EmptyAt

theorem opOk_congr {pc pc' : PC} {oo : Option GOp} (h : opKind pc' = opKind pc) (h1 : OpOk pc oo) : OpOk pc' oo := by
  unfold OpOk at *; rw [h]; exact h1

theorem opOk_done {r : GRet} {oo : Option GOp} : OpOk (.done r) oo := by simp [OpOk, opKind]
theorem opOk_idle {oo : Option GOp} : OpOk .idle oo := by simp [OpOk, opKind]

theorem gstep_inv {x : GS} {t : Tid} {x' : GS} {ev : Ev} (h : gmodel.step x t = some (x', ev)) :
    step x.1 t = some (x'.1, ev) ∧ x'.2.1 = x.2.1 := by
  simp only [gmodel, ghostModel, Option.map_eq_some_iff] at h
  obtain ⟨⟨s1, e⟩, hs1, heq⟩ := h
  simp only [Prod.mk.injEq] at heq
  obtain ⟨rfl, rfl⟩ := heq
  exact ⟨hs1, rfl⟩

theorem ginvoke_inv {x : GS} {t : Tid} {op : GOp} {x' : GS} (h : gmodel.invoke x t op = some x') :
    invoke x.1 t op = some x'.1 ∧ x'.2.1 = upd x.2.1 t (some op) := by
  simp only [gmodel, ghostModel, Option.map_eq_some_iff] at h
  obtain ⟨s1, hs1, rfl⟩ := h
  exact ⟨hs1, rfl⟩

theorem gresult_inv {x : GS} {t : Tid} {r : GRet} {x' : GS} (h : gmodel.result x t = some (x', r)) :
    result x.1 t = some (x'.1, r) ∧ x'.2.1 = x.2.1 := by
  simp only [gmodel, ghostModel, Option.map_eq_some_iff] at h
  obtain ⟨⟨s1, e⟩, hs1, heq⟩ := h
  simp only [Prod.mk.injEq, id] at heq
  obtain ⟨rfl, rfl⟩ := heq
  exact ⟨hs1, rfl⟩

theorem qsys_ok (own0 : Nat → Tid) : (qsys own0).OK where
  ret0 := bagT_ret0
  spec_init := rfl
  inv_init := ⟨⟨[], own0, tinv_init own0⟩, fun t => by simp [qsys, init, OpOk, opKind]⟩
  abs_init := by
    have : chainOf (init own0) = [] := chainOf_eq (by simp [init, Chain])
    simp [qsys, this, toBag]
  lp_init := by intro t; simp [qsys, init, lpRet]
  op_init := by intro t; simp [qsys, init, opOfG, opKind]
  post_lp := by intro s t r h; exact h
  post_op := by
    intro s t r h
    simp only [qsys] at h ⊢
    cases hpc : s.1.pc t <;> simp_all [lpRet, opOfG, opKind]
  lp_post := by intro s t r h _; exact h
  empty_abs := by
    intro s t ⟨h, _⟩
    have : chainOf s.1 = [] := chainOf_eq (by rw [h]; simp [Chain])
    simp [qsys, this, toBag]
  invoke := by
    intro x t op x' ⟨⟨l, w, hl⟩, hop⟩ hs
    obtain ⟨hs1, ho⟩ := ginvoke_inv hs
    have hl' := tinvl_invoke hl hs1
    obtain ⟨hidle, hhead, hnext, hframe, hcase⟩ := invoke_eff hs1
    have hnow : OpOk (x'.1.pc t) (some op) ∧ opOfG (x'.1.pc t) (some op) = some op := by
      rcases hcase with ⟨a, n, rfl, hn, hpc⟩ | ⟨a, rfl, hpc⟩
      · rw [hpc]
        refine ⟨?_, by simp [opOfG, opKind]⟩
        simp only [OpOk, opKind]
        exact ⟨a, by rw [Int.toNat_of_nonneg (by omega)]⟩
      · rw [hpc]
        exact ⟨by simp only [OpOk, opKind]; exact ⟨a, rfl⟩, by simp [opOfG, opKind]⟩
    refine ⟨⟨⟨l, w, hl'⟩, ?_⟩, ⟨?_, ?_⟩, ?_, ?_, ?_, ?_⟩
    · intro t2
      rw [ho]
      by_cases ht : t2 = t
      · subst ht; simp only [upd_same]; exact hnow.1
      · rw [upd_other _ _ _ _ ht, hframe t2 ht]; exact hop t2
    · intro t2 ht; simp only [qsys]; rw [hframe t2 ht]
    · intro t2 ht; simp only [qsys]; rw [hframe t2 ht, ho, upd_other _ _ _ _ ht]
    · simp [qsys, hidle, lpRet]
    · simp only [qsys]; rw [ho, upd_same]; exact hnow.2
    · simp only [qsys]
      rcases hcase with ⟨a, n, -, -, hpc⟩ | ⟨a, -, hpc⟩ <;> rw [hpc] <;> rfl
    · simp only [qsys]
      rw [chainOf_eq hl.chain, chainOf_eq hl'.chain]
  step := by
    intro x t x' ev ⟨⟨l, w, hl⟩, hop⟩ hs
    obtain ⟨hs1, ho⟩ := gstep_inv hs
    obtain ⟨l', w', hl'⟩ := tinvl_step hl hs1
    obtain ⟨hframe, hcase⟩ := step_eff hl hs1
    have hk : opKind (x.1.pc t) ≠ none := by
      rcases hcase with ⟨n, h1, -⟩ | ⟨p, l0, h1, -⟩ | ⟨h1, -⟩ | ⟨-, h1, -⟩ <;> simp_all
    have hlp0 : lpRet (x.1.pc t) = none := lpRet_none_of_kind hk
    have habs : toBag (chainOf x.1) = toBag l := by rw [chainOf_eq hl.chain]
    refine ⟨⟨⟨l', w', hl'⟩, ?_⟩, ⟨?_, ?_⟩, ?_, ?_, ?_, ?_, ?_⟩
    · intro t2
      rw [ho]
      by_cases ht : t2 = t
      · subst ht
        rcases hcase with ⟨n, -, h2, -⟩ | ⟨p, l0, -, h2, -⟩ | ⟨-, h2, -⟩ | ⟨h1, -, -⟩
        · rw [h2]; exact opOk_done
        · rw [h2]; exact opOk_done
        · rw [h2]; exact opOk_done
        · exact opOk_congr h1 (hop t2)
      · rw [hframe t2 ht]; exact hop t2
    · intro t2 ht; simp only [qsys]; rw [hframe t2 ht]
    · intro t2 ht; simp only [qsys]; rw [hframe t2 ht, ho]
    · simp only [qsys]
      intro _ r hr
      have hopt := hop t
      rcases hcase with ⟨n, h1, h2, hn, hc⟩ | ⟨p, l0, h1, h2, rfl, hc⟩ | ⟨h1, h2, hh, hc⟩ | ⟨h1, h3, -⟩
      · rw [h2] at hr; simp [lpRet] at hr; subst hr
        simp only [OpOk, h1] at hopt
        obtain ⟨a, ha⟩ := hopt
        refine ⟨_, by simp only [opOfG, h1]; exact ha, ?_⟩
        rw [habs, chainOf_eq hc]
        exact peff_put a n (toBag l) (not_mem_toBag hn)
      · rw [h2] at hr; simp [lpRet] at hr; subst hr
        simp only [OpOk, h1] at hopt
        obtain ⟨a, ha⟩ := hopt
        refine ⟨_, by simp only [opOfG, h1]; exact ha, ?_⟩
        rw [habs, chainOf_eq hc]
        exact peff_get a p (toBag l0)
      · rw [h2] at hr; simp [lpRet] at hr; subst hr
        simp only [OpOk, h1] at hopt
        obtain ⟨a, ha⟩ := hopt
        refine ⟨_, by simp only [opOfG, h1]; exact ha, ?_⟩
        have hl0 : l = [] := by
          have := hl.chain; rw [hh] at this
          cases l with
          | nil => rfl
          | cons b l0 => simp [Chain] at this
        rw [habs, chainOf_eq hc, hl0]
        exact peff_empty a
      · rw [lpRet_none_of_kind (h1 ▸ h3)] at hr; simp at hr
    · simp only [qsys]
      intro hc0
      have hn' : lpRet (x'.1.pc t) = none := by
        rcases hc0 with h | h
        · exact absurd hlp0 h
        · exact h
      rcases hcase with ⟨n, -, h2, -⟩ | ⟨p, l0, -, h2, -⟩ | ⟨-, h2, -⟩ | ⟨-, -, hc⟩
      · rw [h2] at hn'; simp [lpRet] at hn'
      · rw [h2] at hn'; simp [lpRet] at hn'
      · rw [h2] at hn'; simp [lpRet] at hn'
      · rw [habs, chainOf_eq hc]
    · simp only [qsys]; intro r hr; rw [hlp0] at hr; simp at hr
    · simp only [qsys]
      intro hp
      rcases hcase with ⟨n, -, h2, -⟩ | ⟨p, l0, -, h2, -⟩ | ⟨-, h2, -⟩ | ⟨h1, -, -⟩
      · rw [h2] at hp; simp [lpRet] at hp
      · rw [h2] at hp; simp [lpRet] at hp
      · rw [h2] at hp; simp [lpRet] at hp
      · rw [ho]; simp only [opOfG, h1]
    · simp only [qsys]
      intro _ hr
      rcases hcase with ⟨n, -, h2, -⟩ | ⟨p, l0, -, h2, -⟩ | ⟨h1, -, hh, -⟩ | ⟨h1, h3, -⟩
      · rw [h2] at hr; simp [lpRet] at hr
      · rw [h2] at hr; simp [lpRet] at hr
      · exact ⟨hh, h1⟩
      · rw [lpRet_none_of_kind (h1 ▸ h3)] at hr; simp at hr
  result := by
    intro x t x' r ⟨⟨l, w, hl⟩, hop⟩ hs
    obtain ⟨hs1, ho⟩ := gresult_inv hs
    have hl' := tinvl_result hl hs1
    obtain ⟨hdone, hidle, hhead, hnext, hframe⟩ := result_eff hs1
    refine ⟨⟨⟨l, w, hl'⟩, ?_⟩, ⟨?_, ?_⟩, ?_, ?_, ?_, ?_⟩
    · intro t2
      rw [ho]
      by_cases ht : t2 = t
      · subst ht; rw [hidle]; exact opOk_idle
      · rw [hframe t2 ht]; exact hop t2
    · intro t2 ht; simp only [qsys]; rw [hframe t2 ht]
    · intro t2 ht; simp only [qsys]; rw [hframe t2 ht, ho]
    · simp [qsys, hdone, lpRet]
    · simp [qsys, hidle, lpRet]
    · simp [qsys, hidle, opOfG, opKind]
    · simp only [qsys]
      rw [chainOf_eq hl.chain, chainOf_eq hl'.chain]

/-! ### Theorems on the runs of the machine itself -/

/-- **TaggedFreeList is linearizable to the bag.**  For every run of the machine (any number of threads, any client
    program in which a thread only puts a node it owns, any schedule), the history of the completed operations,
    extended by response records `extra` for the pending operations that have passed their linearization point (at
    most one per thread; the result is the one fixed there), is linearizable to the bag: `put n` adds `n` (which is
    not in the bag), `get` removes and returns a node that is in the bag, and answers "empty" only when the bag is
    empty. -/
theorem tagged_bag_linearizable (own0 : Nat → Tid) (sched : List (Tid × Act)) (s : St) (os : List (Tid × Obs))
    (h : model.run (init own0) sched = some (s, os)) :
    ∃ extra : List (OpRec GOp GRet),
      (∀ e ∈ extra, pendingOf os e.tid = some (e.op, e.inv) ∧ e.res = os.length ∧ lpRet (s.pc e.tid) = some e.ret) ∧
      extra.Pairwise (fun a b => a.tid ≠ b.tid) ∧
      Linearizable bagT (historyOf os ++ extra) := by
  obtain ⟨o', g', hr⟩ := ghostModel_run model (fun _ _ (g : Unit) => g) id sched (init own0) (fun _ => none) () s os h
  rw [mapOs_id] at hr
  exact QueueLinP.linearizable (qsys_ok own0) sched (s, o', g') os hr

/-- If no pending operation has passed its linearization point, the history of the completed operations is
    linearizable as it is. -/
theorem tagged_bag_linearizable_no_effect_pending (own0 : Nat → Tid) (sched : List (Tid × Act)) (s : St)
    (os : List (Tid × Obs)) (h : model.run (init own0) sched = some (s, os)) (hq : ∀ t, lpRet (s.pc t) = none) :
    Linearizable bagT (historyOf os) := by
  obtain ⟨o', g', hr⟩ := ghostModel_run model (fun _ _ (g : Unit) => g) id sched (init own0) (fun _ => none) () s os h
  rw [mapOs_id] at hr
  exact QueueLinP.linearizable_no_effect_pending (qsys_ok own0) sched (s, o', g') os hr hq

/-- `get` answers "empty" only if `m_Head` was null at an instant inside the call (the instant of the load of
    `m_Head`, or of the failed CAS, that saw null): at that instant the chain — the bag — is empty. -/
theorem tagged_empty_hindsight (own0 : Nat → Tid) (sched : List (Tid × Act)) (s : St) (os : List (Tid × Obs))
    (h : model.run (init own0) sched = some (s, os)) (r : OpRec GOp GRet) (hr : r ∈ historyOf os) (hret : r.ret = [0]) :
    ∃ j, r.inv < j ∧ j < r.res ∧ ∃ s1, (model.run (init own0) (sched.take j)).map (·.1) = some s1 ∧
      s1.head.1 = none ∧ Chain s1.next s1.head.1 [] := by
  obtain ⟨o', g', hrun⟩ := ghostModel_run model (fun _ _ (g : Unit) => g) id sched (init own0) (fun _ => none) () s os h
  rw [mapOs_id] at hrun
  obtain ⟨j, x1, h1, h2, h3, h4, -⟩ := QueueLinP.empty_hindsight (qsys_ok own0) sched (s, o', g') os hrun r hr hret
  refine ⟨j, h1, h2, x1.1, ?_, h4.1, by rw [h4.1]; simp [Chain]⟩
  -- the run of the ghost machine projects to the run of the machine
  have hproj : ∀ (sch : List (Tid × Act)) (x : GS) (y : GS) (os1 : List (Tid × Obs)),
      gmodel.run x sch = some (y, os1) → (model.run x.1 sch).map (·.1) = some y.1 := by
    intro sch
    induction sch with
    | nil => intro x y os1 hh; simp [Model.run] at hh; simp [Model.run, hh.1]
    | cons a rest ih =>
      intro x y os1 hh
      obtain ⟨t, act⟩ := a
      simp only [Model.run] at hh
      cases hap : gmodel.apply x t act with
      | none => simp [hap] at hh
      | some p =>
        obtain ⟨x2, ob⟩ := p
        simp only [hap] at hh
        cases hrr : gmodel.run x2 rest with
        | none => simp [hrr] at hh
        | some q =>
          obtain ⟨x3, os2⟩ := q
          simp only [hrr, Option.some.injEq, Prod.mk.injEq] at hh
          obtain ⟨rfl, -⟩ := hh
          have hap1 : ∃ ob1, model.apply x.1 t act = some (x2.1, ob1) := by
            rcases Model.apply_cases hap with ⟨op, rfl, hy1, -⟩ | ⟨e, rfl, hy1, -⟩ | ⟨r, rfl, hy1, -⟩
            · exact ⟨.call op, by simp [Model.apply, model, (ginvoke_inv hy1).1]⟩
            · exact ⟨.ev e, by simp [Model.apply, model, (gstep_inv hy1).1]⟩
            · exact ⟨.ret r, by simp [Model.apply, model, (gresult_inv hy1).1]⟩
          obtain ⟨ob1, hap1⟩ := hap1
          have := ih x2 x3 os2 hrr
          simp only [Model.run, hap1]
          cases hm : model.run x2.1 rest with
          | none => simp [hm] at this
          | some q2 => simp [hm] at this ⊢; exact this
  exact hproj _ _ _ _ h3

end CdsVerif.Algo.TaggedFreeList
