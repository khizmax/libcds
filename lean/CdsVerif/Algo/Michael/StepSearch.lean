/-
  Preservation of the MichaelList invariant, and the effect on the abstract map, by the steps of `search`
  (the loads and the validation; the helping CAS is in `StepCas.lean`).
-/
import CdsVerif.Algo.Michael.Effect
namespace CdsVerif.Algo.Michael
open CdsVerif.Machine CdsVerif.Spec CdsVerif.Lin

theorem sinvl_step_sLd1 {s s' : St} {t : Tid} {ev : Ev} {L : List Nat} {o : OpK}
    (h : SInvL s L) (hpc : s.pc t = .sLd1 o) (hs : step s t = some (s', ev)) :
    ∃ L', SInvL s' L' ∧ StepEff s t s' L L' := by
  have hT := h.thread_at hpc
  simp only [step, hpc] at hs
  cases hs
  exact ⟨L, h.move hpc (q := .sLd2 o (s.next 0))
      { hT with lkCur := fun a e => h.mem.next_lk (Or.inl h.mem.zero_mem) e } (Or.inr rfl) rfl,
    StepEff.move hpc (PcEff.silent rfl rfl rfl rfl)⟩

theorem sinvl_step_sLd2 {s s' : St} {t : Tid} {ev : Ev} {L : List Nat} {o : OpK} {p : Option Nat}
    (h : SInvL s L) (hpc : s.pc t = .sLd2 o p) (hs : step s t = some (s', ev)) :
    ∃ L', SInvL s' L' ∧ StepEff s t s' L L' := by
  have hT := h.thread_at hpc
  simp only [step, hpc] at hs
  split at hs
  next heq =>
    cases hs
    exact ⟨L, h.move hpc (TInv.advance hT.priv (Or.inl h.mem.zero_mem) (Or.inl rfl) hT.lkCur)
        (Or.inr insNode_advance) atUnl_advance,
      StepEff.move hpc (PcEff.advance rfl (Or.inr ⟨rfl, fun hn r hr =>
        h.lp_absent h.mem.zero_mem (Or.inl rfl) (fun c e => nomatch (heq.trans hn).symm.trans e) hr⟩))⟩
  next hne =>
    cases hs
    exact ⟨L, h.move hpc (TInv.sLd1 hT.priv) (Or.inr rfl) rfl, StepEff.move hpc (PcEff.silent rfl rfl rfl rfl)⟩

theorem sinvl_step_sNx1 {s s' : St} {t : Tid} {ev : Ev} {L : List Nat} {o : OpK} {prev cur : Nat}
    (h : SInvL s L) (hpc : s.pc t = .sNx1 o prev cur) (hs : step s t = some (s', ev)) :
    ∃ L', SInvL s' L' ∧ StepEff s t s' L L' := by
  have hT := h.thread_at hpc
  simp only [step, hpc] at hs
  cases hs
  exact ⟨L, h.move hpc (q := .sNx2 o prev cur (s.next cur) (s.mark cur))
      { hT with
        lkNx := fun a e => h.mem.next_lk (hT.lkCur cur rfl).2 e
        frozen := fun a x e => by
          obtain ⟨rfl, e1⟩ := Prod.mk.inj (Option.some.inj e)
          obtain ⟨rfl, e2⟩ := Prod.mk.inj e1
          exact ⟨rfl, e2⟩ } (Or.inr rfl) rfl,
    StepEff.move hpc (PcEff.silent rfl rfl rfl rfl)⟩

/-- The validated link `cur.next = (nx, mk)` fixes a tentative result only if it is correct now. -/
theorem SInvL.lp_tent {s : St} {L : List Nat} (h : SInvL s L) {o : OpK} {cur : Nat} {r : GRet}
    (hc : cur ≠ 0 ∧ (cur ∈ L ∨ s.mark cur = true))
    (hr : tent s.key s.val o cur (s.next cur) (s.mark cur) = some r) :
    LPok (Has s.mark s.key s.val L) (gop s.key s.val o) r (Has s.mark s.key s.val L) := by
  unfold tent at hr
  split at hr
  · cases hr
  next hm =>
    have hcL : cur ∈ L := hc.2.resolve_right hm
    split at hr
    next hk => exact h.lp_present hcL hc.1 (by simpa using hm) hk hr
    next hk =>
      split at hr
      next hlt => exact h.lp_absent hcL (Or.inr hlt.1) (fun c e => nomatch hlt.2.symm.trans e) hr
      · cases hr

theorem sinvl_step_sNx2 {s s' : St} {t : Tid} {ev : Ev} {L : List Nat} {o : OpK} {prev cur : Nat}
    {nx : Option Nat} {mk : Bool}
    (h : SInvL s L) (hpc : s.pc t = .sNx2 o prev cur nx mk) (hs : step s t = some (s', ev)) :
    ∃ L', SInvL s' L' ∧ StepEff s t s' L L' := by
  have hT := h.thread_at hpc
  simp only [step, hpc] at hs
  split at hs
  next heq =>
    cases hs
    obtain ⟨rfl, rfl⟩ := heq
    exact ⟨L, h.move hpc (q := .sChk o prev cur (s.next cur) (s.mark cur)) { hT with } (Or.inr rfl) rfl,
      StepEff.move hpc {
        lp := fun _ r hr => ⟨_, rfl, h.lp_tent (hT.lkCur cur rfl) hr⟩
        keep := nofun
        pkeep := nofun
        op := fun _ => rfl
        busy := ⟨nofun, nofun⟩
        link := nofun
        unl := nofun }⟩
  next hne =>
    cases hs
    exact ⟨L, h.move hpc (q := .sNx1 o prev cur) { hT with lkNx := nofun, frozen := nofun } (Or.inr rfl) rfl,
      StepEff.move hpc (PcEff.silent rfl rfl rfl rfl)⟩

theorem sinvl_step_sChk {s s' : St} {t : Tid} {ev : Ev} {L : List Nat} {o : OpK} {prev cur : Nat}
    {nx : Option Nat} {mk : Bool}
    (h : SInvL s L) (hpc : s.pc t = .sChk o prev cur nx mk) (hs : step s t = some (s', ev)) :
    ∃ L', SInvL s' L' ∧ StepEff s t s' L L' := by
  have hT := h.thread_at hpc
  simp only [step, hpc] at hs
  split at hs
  next heq =>
    cases hs
    have hpL : prev ∈ L := linked_of_unmarked (hT.lkPrev prev rfl) heq.2
    cases mk with
    | true =>
      exact ⟨L, h.move hpc (q := .sHelp o prev cur nx) { hT with } (Or.inr rfl) rfl,
        StepEff.move hpc (PcEff.silent rfl rfl rfl rfl)⟩
    | false =>
      by_cases h1 : s.key cur = okey s.key o
      · rw [show afterChk s.key s.val o prev cur nx false = found s.val o prev cur nx by simp [afterChk, h1]]
        exact ⟨L, h.move hpc (TInv.found (Or.inl hpL) (hT.keyPrev prev rfl) (hT.lkCur cur rfl) h1 hT.lkNx)
            (Or.inl insNode_found) atUnl_found,
          StepEff.move hpc (PcEff.found h1)⟩
      · by_cases h2 : okey s.key o < s.key cur
        · rw [show afterChk s.key s.val o prev cur nx false = notFound o prev (some cur) by simp [afterChk, h1, h2]]
          refine ⟨L, h.move hpc (TInv.notFound hT.priv (Or.inl hpL) (hT.keyPrev prev rfl)
              (fun a e => Option.some.inj e ▸ ⟨hT.lkCur cur rfl, h2⟩)) (Or.inr insNode_notFound) atUnl_notFound,
            StepEff.move hpc (PcEff.notFound rfl (Or.inr ⟨by simp [lpRet, tent, h1, Int.lt_asymm h2], fun r hr => ?_⟩))⟩
          exact h.lp_absent hpL (hT.keyPrev prev rfl) (fun c e => Option.some.inj (heq.1.symm.trans e) ▸ h2) hr
        · rw [show afterChk s.key s.val o prev cur nx false = advance o cur nx by simp [afterChk, h1, h2]]
          have h3 : s.key cur < okey s.key o := by omega
          refine ⟨L, h.move hpc (TInv.advance hT.priv (hT.lkCur cur rfl).2 (Or.inr h3) hT.lkNx)
              (Or.inr insNode_advance) atUnl_advance,
            StepEff.move hpc (PcEff.advance rfl ?_)⟩
          cases nx with
          | none => exact Or.inl ⟨rfl, by simp [lpRet, tent, h1, h3]⟩
          | some x => exact Or.inr ⟨by simp [lpRet, tent, h1, h3], nofun⟩
  next hne =>
    cases hs
    refine ⟨L, h.move hpc (TInv.sLd1 hT.priv) (Or.inr rfl) rfl, StepEff.move hpc ?_⟩
    exact {
      lp := nofun
      keep := fun r h0 => Or.inr ⟨⟨_, rfl, tent_ro h0⟩, rfl⟩
      pkeep := nofun
      op := fun _ => rfl
      busy := ⟨nofun, nofun⟩
      link := nofun
      unl := nofun }

end CdsVerif.Algo.Michael
