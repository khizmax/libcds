/-
  Preservation of the MichaelList invariant, and the effect on the abstract map, by the steps that write shared
  memory: the helping CAS of `search`, `link_node` (store, CAS, store) and `unlink_node` (marking CAS, unlink CAS).
-/
import CdsVerif.Algo.Michael.Effect
namespace CdsVerif.Algo.Michael
open CdsVerif.Machine CdsVerif.Spec CdsVerif.Lin

theorem sinvl_step_sHelp {s s' : St} {t : Tid} {ev : Ev} {L : List Nat} {o : OpK} {prev cur : Nat}
    {nx : Option Nat}
    (h : SInvL s L) (hpc : s.pc t = .sHelp o prev cur nx) (hs : step s t = some (s', ev)) :
    ∃ L', SInvL s' L' ∧ StepEff s t s' L L' := by
  have hT := h.thread_at hpc
  simp only [step, hpc] at hs
  split at hs
  next heq =>
    cases hs
    obtain ⟨rfl, hcm⟩ := hT.frozen cur nx rfl
    have hpL : prev ∈ L.erase cur := (List.Nodup.mem_erase_iff h.mem.nodup).mpr
      ⟨fun e => Bool.false_ne_true (heq.2.symm.trans (e ▸ hcm)), linked_of_unmarked (hT.lkPrev prev rfl) heq.2⟩
    exact ⟨_, h.unlink hpc (hT.lkPrev prev rfl) heq hcm
      (fun hT' => TInv.advance hT'.priv (hT'.lkPrev prev rfl) (hT'.keyPrev prev rfl) hT'.lkNx)
      (Or.inr insNode_advance) atUnl_advance
      (fun hS => PcEff.advance rfl (Or.inr ⟨rfl, fun hn r hr =>
        LPok.congr (fun k v => (has_erase h.mem.nodup hcm k v).symm) (hS.lp_absent hpL (hT.keyPrev prev rfl)
          (fun c e => nomatch hn.symm.trans ((upd_same _ _ _).symm.trans e)) hr)⟩))⟩
  next hne =>
    cases hs
    exact ⟨L, h.move hpc (TInv.sLd1 hT.priv) (Or.inr rfl) rfl, StepEff.move hpc (PcEff.silent rfl rfl rfl rfl)⟩

theorem sinvl_step_iSt {s s' : St} {t : Tid} {ev : Ev} {L : List Nat} {n prev : Nat} {cur : Option Nat}
    (h : SInvL s L) (hpc : s.pc t = .iSt n prev cur) (hs : step s t = some (s', ev)) :
    ∃ L', SInvL s' L' ∧ StepEff s t s' L L' := by
  simp only [step, hpc] at hs
  cases hs
  exact ⟨L, h.store hpc (q := .iCas n prev cur) rfl rfl
    (fun hT => { hT with icas := fun n' c' e => (by
      obtain ⟨rfl, rfl⟩ := Prod.mk.inj (Option.some.inj e)
      exact upd_same _ _ _) })
    (Or.inr rfl) rfl (PcEff.silent rfl rfl rfl rfl)⟩

theorem sinvl_step_iClr {s s' : St} {t : Tid} {ev : Ev} {L : List Nat} {n : Nat}
    (h : SInvL s L) (hpc : s.pc t = .iClr n) (hs : step s t = some (s', ev)) :
    ∃ L', SInvL s' L' ∧ StepEff s t s' L L' := by
  simp only [step, hpc] at hs
  cases hs
  exact ⟨L, h.store hpc (q := .sLd1 (.ins n)) rfl rfl (fun hT => TInv.sLd1 hT.priv) (Or.inr rfl) rfl
    (PcEff.silent rfl rfl rfl rfl)⟩

theorem sinvl_step_iCas {s s' : St} {t : Tid} {ev : Ev} {L : List Nat} {n prev : Nat} {cur : Option Nat}
    (h : SInvL s L) (hpc : s.pc t = .iCas n prev cur) (hs : step s t = some (s', ev)) :
    ∃ L', SInvL s' L' ∧ StepEff s t s' L L' := by
  have hT := h.thread_at hpc
  simp only [step, hpc] at hs
  split at hs
  next heq =>
    cases hs
    have hpL : prev ∈ L := linked_of_unmarked (hT.lkPrev prev rfl) heq.2
    have hn := hT.priv n rfl
    have hn0 : n ≠ 0 := fun e => hn.2.1 (e ▸ h.mem.zero_mem)
    have hkc : ∀ c, s.next prev = some c → s.key n < s.key c := fun c e =>
      hT.keyGt n c (congrArg (fun x => some (n, x)) (heq.1.symm.trans e))
    have hMG := h.mem.link hpL heq.2 hn ((hT.icas n cur rfl).trans heq.1.symm) (hT.keyPrev prev rfl) hkc
    refine ⟨_, h.write (s' := { s with next := upd s.next prev (some n), pc := upd s.pc t (.done [1]) }) rfl hMG
        (fun u hu n' e => ⟨fun hm => ?_, (h.priv u n' e).2.2,
          upd_other _ _ _ _ fun e' => (h.priv u n' e).2.1 (e' ▸ hpL)⟩)
        TInv.done (fun u hu => (hpc ▸ h.excl (Ne.symm hu)).mono (Or.inl rfl) (Or.inl rfl)),
      StepEff.commit hpc rfl rfl rfl rfl hMG.2 rfl rfl rfl
        (LPok.ins_ok (h.absent hpL (hT.keyPrev prev rfl) hkc) (has_insert hpL hn0 hn.2.2)) ?_
        (fun a h0 h1 => absurd (h0.symm.trans h1) Bool.false_ne_true) nofun⟩
    · exact ((mem_insAfter hpL).mp hm).elim (h.priv u n' e).2.1
        fun e' => hu (h.own u t n (e' ▸ e) (by rw [hpc]; rfl))
    · intro n' pr c e
      cases e
      exact (mem_insAfter hpL).mpr (Or.inr rfl)
  next hne =>
    cases hs
    exact ⟨L, h.move hpc (q := .iClr n)
        { hT with lkPrev := nofun, lkCur := nofun, keyPrev := nofun, keyGt := nofun, icas := nofun } (Or.inr rfl) rfl,
      StepEff.move hpc (PcEff.silent rfl rfl rfl rfl)⟩

theorem sinvl_step_eMark {s s' : St} {t : Tid} {ev : Ev} {L : List Nat} {k : Int} {prev cur : Nat}
    {nx : Option Nat}
    (h : SInvL s L) (hpc : s.pc t = .eMark k prev cur nx) (hs : step s t = some (s', ev)) :
    ∃ L', SInvL s' L' ∧ StepEff s t s' L L' := by
  have hT := h.thread_at hpc
  simp only [step, hpc] at hs
  split at hs
  next heq =>
    cases hs
    obtain ⟨hc0, hc⟩ := hT.lkCur cur rfl
    have hcL : cur ∈ L := linked_of_unmarked hc heq.2
    have hk : s.key cur = k := hT.keyEq cur k rfl
    have hMG := h.mem.mark hcL hc0
    have hT' : TInv ⟨s.next, upd s.mark cur true, s.key, s.cnt⟩ L (.eMark k prev cur nx) :=
      hT.stable h.mem hMG.2 nofun nofun
    refine ⟨L, h.write (s' := { s with mark := upd s.mark cur true, pc := upd s.pc t (.eUnl k prev cur nx) }) rfl hMG
        (fun u hu n e => ⟨(h.priv u n e).2.1, ?_, rfl⟩)
        { hT' with keyEq := nofun, frozen := fun a x e => (by
            obtain ⟨rfl, e1⟩ := Prod.mk.inj (Option.some.inj e)
            obtain ⟨rfl, -⟩ := Prod.mk.inj e1
            exact ⟨heq.1, upd_same _ _ _⟩) }
        (fun u hu => ⟨nofun, fun c e1 e2 => ?_⟩),
      StepEff.commit hpc rfl rfl rfl rfl hMG.2 rfl rfl rfl
        (LPok.era_ok (v := s.val cur) ⟨cur, hcL, hc0, heq.2, hk, rfl⟩
          fun j w => by rw [has_mark h.sorted hcL hc0, hk]) nofun ?_ ?_⟩
    · exact (upd_other _ _ _ _ fun (e' : n = cur) => (h.priv u n e).2.1 (e' ▸ hcL)).trans (h.priv u n e).2.2
    · obtain ⟨k2, p2, x2, hu2⟩ := atUnl_eq e2
      cases Option.some.inj e1
      exact Bool.false_ne_true (heq.2.symm.trans (h.frozen u cur x2 (by rw [hu2]; rfl)).2)
    · intro a h0 h1
      have e : a = cur := Classical.byContradiction fun e =>
        Bool.false_ne_true (h0.symm.trans ((upd_other _ _ _ _ e).symm.trans h1))
      subst e
      exact ⟨k, prev, nx, rfl, rfl, hk, hcL⟩
    · intro k' pr a x e
      cases e
      exact ⟨heq.2, upd_same _ _ _⟩
  next hne =>
    cases hs
    exact ⟨L, h.move hpc (TInv.sLd1 nofun) (Or.inl rfl) rfl, StepEff.move hpc (PcEff.silent rfl rfl rfl rfl)⟩

theorem sinvl_step_eUnl {s s' : St} {t : Tid} {ev : Ev} {L : List Nat} {k : Int} {prev cur : Nat}
    {nx : Option Nat}
    (h : SInvL s L) (hpc : s.pc t = .eUnl k prev cur nx) (hs : step s t = some (s', ev)) :
    ∃ L', SInvL s' L' ∧ StepEff s t s' L L' := by
  have hT := h.thread_at hpc
  have hP : PcEff s.key s.val (Has s.mark s.key s.val L) (.eUnl k prev cur nx) (.done [1, s.val cur]) :=
    { lp := nofun, keep := fun r e => Or.inl e, pkeep := fun r e => e, op := nofun, busy := ⟨nofun, nofun⟩,
      link := nofun, unl := nofun }
  simp only [step, hpc] at hs
  split at hs
  next heq =>
    cases hs
    obtain ⟨rfl, hcm⟩ := hT.frozen cur nx rfl
    exact ⟨_, h.unlink hpc (hT.lkPrev prev rfl) heq hcm (fun _ => TInv.done) (Or.inl rfl) rfl (fun _ => hP)⟩
  next hne =>
    cases hs
    exact ⟨L, h.move hpc TInv.done (Or.inl rfl) rfl, StepEff.move hpc hP⟩

end CdsVerif.Algo.Michael
