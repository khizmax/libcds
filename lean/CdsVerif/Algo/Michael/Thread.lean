/-
  Thread-modular form of the MichaelList invariant.

  `SInvL s L` is a conjunction of clauses about the shared memory alone (`MInv`), about the memory and the program
  counter of ONE thread (`TInv`), and about the program counters of TWO threads (`Excl`: a private node has one owner,
  a marked node has one eraser about to unlink it).  A step of thread `t` rewrites `s.pc t` only, so after it
    * the other threads' `TInv` has to survive the change of the memory: it does whenever the change is one of those
      the algorithm makes (`Grows`: linked-or-marked nodes stay so, marked nodes are frozen, keys are immutable) and
      leaves the thread's private node alone (`TInv.stable`);
    * `TInv` has to be established for the new program counter of `t`;
    * `Excl` has to be established between the new program counter and the others.
  `SInvL.frame` is this rule, `SInvL.move` its instance for a step that leaves the memory alone, `SInvL.write` the one
  for a step that changes it; `MInv.unlink`, `MInv.link`, `MInv.mark`, `MInv.store`, `MInv.fresh` are the changes there are.
-/
import CdsVerif.Algo.Michael.Inv
namespace CdsVerif.Algo.Michael
open CdsVerif.Machine CdsVerif.Spec CdsVerif.Lin

/-- The private node about to be linked, and the successor it has been given. -/
def atCas : PC → Option (Nat × Option Nat)
  | .iCas n _ c => some (n, c)
  | _ => none

/-- The node this thread has marked and is about to unlink. -/
def atUnl : PC → Option Nat
  | .eUnl _ _ c _ => some c
  | _ => none

/-- What `SInvL` says about a thread at program counter `pc`.  The program counter enters through classifying
    functions only, so that the clauses of two program counters with the same classification are the same
    propositions up to computation. -/
structure TInv (m : Mem) (L : List Nat) (pc : PC) : Prop where
  priv : ∀ n, insNode pc = some n → n < m.cnt ∧ n ∉ L ∧ m.mark n = false
  lkPrev : ∀ a, pcPrev pc = some a → a ∈ L ∨ m.mark a = true
  lkCur : ∀ a, pcCur pc = some a → a ≠ 0 ∧ (a ∈ L ∨ m.mark a = true)
  lkNx : ∀ a, pcNx pc = some a → a ≠ 0 ∧ (a ∈ L ∨ m.mark a = true)
  keyPrev : ∀ a, pcPrev pc = some a → a = 0 ∨ m.key a < skey m.key pc
  keyGt : ∀ n c, pcGt pc = some (n, some c) → m.key n < m.key c
  keyEq : ∀ c k, pcEq pc = some (c, k) → m.key c = k
  frozen : ∀ a x, pcFrozen pc = some (a, x, true) → m.next a = x ∧ m.mark a = true
  icas : ∀ n c, atCas pc = some (n, c) → m.next n = c

/-- Two threads at `p` and `q` do not own the same private node and have not marked the same node. -/
structure Excl (p q : PC) : Prop where
  own : ∀ n, insNode p = some n → insNode q ≠ some n
  eown : ∀ c, atUnl p = some c → atUnl q ≠ some c

theorem Excl.symm {p q : PC} (h : Excl p q) : Excl q p :=
  ⟨fun n hq hp => h.own n hp hq, fun c hq hp => h.eown c hp hq⟩

/-- Exclusion is inherited by a program counter that owns no more. -/
theorem Excl.mono {p p' q : PC} (h : Excl p q) (hi : insNode p' = none ∨ insNode p' = insNode p)
    (he : atUnl p' = none ∨ atUnl p' = atUnl p) : Excl p' q :=
  ⟨fun n e => h.own n (hi.elim (fun e0 => nomatch e0.symm.trans e) (fun e1 => e1.symm.trans e)),
   fun c e => h.eown c (he.elim (fun e0 => nomatch e0.symm.trans e) (fun e1 => e1.symm.trans e))⟩

theorem linked_of_unmarked {mark : Nat → Bool} {L : List Nat} {a : Nat} (h : a ∈ L ∨ mark a = true)
    (hm : mark a = false) : a ∈ L :=
  h.resolve_right fun e => Bool.false_ne_true (hm.symm.trans e)

theorem atCas_insNode {pc : PC} {n : Nat} {c : Option Nat} (h : atCas pc = some (n, c)) : insNode pc = some n := by
  cases pc <;> simp_all [atCas, insNode]

theorem atUnl_eq {pc : PC} {c : Nat} (h : atUnl pc = some c) : ∃ k p x, pc = .eUnl k p c x := by
  cases pc <;> simp_all [atUnl]

theorem SInvL.thread {s : St} {L : List Nat} (h : SInvL s L) (t : Tid) : TInv s.mem L (s.pc t) :=
  ⟨h.priv t, h.lkPrev t, h.lkCur t, h.lkNx t, h.keyPrev t, h.keyGt t, h.keyEq t, h.frozen t,
   fun n c e => by
     cases hp : s.pc t <;> simp only [hp, atCas, Option.some.injEq, Prod.mk.injEq, reduceCtorEq] at e
     exact e.1 ▸ e.2 ▸ h.icas t _ _ _ hp⟩

theorem SInvL.thread_at {s : St} {L : List Nat} (h : SInvL s L) {t : Tid} {p : PC} (hpc : s.pc t = p) :
    TInv s.mem L p :=
  hpc ▸ h.thread t

theorem SInvL.excl {s : St} {L : List Nat} (h : SInvL s L) {t u : Tid} (hne : t ≠ u) : Excl (s.pc t) (s.pc u) :=
  ⟨fun n e1 e2 => hne (h.own t u n e1 e2),
   fun c e1 e2 => by
     obtain ⟨k1, p1, x1, h1⟩ := atUnl_eq e1
     obtain ⟨k2, p2, x2, h2⟩ := atUnl_eq e2
     exact hne (h.eown t u k1 p1 c x1 k2 p2 x2 h1 h2)⟩

theorem SInvL.of_parts {s : St} {L : List Nat} (hM : MInv s.mem L) (hT : ∀ t, TInv s.mem L (s.pc t))
    (hE : ∀ t u, t ≠ u → Excl (s.pc t) (s.pc u)) : SInvL s L where
  chain := hM.chain
  sorted := hM.sorted
  alloc := hM.alloc
  unalloc := hM.unalloc
  mark0 := hM.mark0
  succ := hM.succ
  priv := fun t => (hT t).priv
  own := fun t u n e1 e2 => Classical.byContradiction fun hne => (hE t u hne).own n e1 e2
  lkPrev := fun t => (hT t).lkPrev
  lkCur := fun t => (hT t).lkCur
  lkNx := fun t => (hT t).lkNx
  keyPrev := fun t => (hT t).keyPrev
  keyGt := fun t => (hT t).keyGt
  keyEq := fun t => (hT t).keyEq
  frozen := fun t => (hT t).frozen
  icas := fun t n p c e => (hT t).icas n c (by rw [e]; rfl)
  eown := fun t u k1 p1 c x1 k2 p2 x2 e1 e2 => Classical.byContradiction fun hne =>
    (hE t u hne).eown c (by rw [e1]; rfl) (by rw [e2]; rfl)

/-- The rule for one step of thread `t`. -/
theorem SInvL.frame {s s' : St} {L L' : List Nat} {t : Tid} (h : SInvL s L)
    (hpc : ∀ u, u ≠ t → s'.pc u = s.pc u)
    (hM : MInv s'.mem L')
    (hT : TInv s'.mem L' (s'.pc t))
    (hO : ∀ u, u ≠ t → TInv s'.mem L' (s.pc u))
    (hE : ∀ u, u ≠ t → Excl (s'.pc t) (s.pc u)) : SInvL s' L' :=
  SInvL.of_parts hM (frame_each hpc hT hO) fun _ _ => frame_pairs @Excl.symm hpc (fun _ _ => h.excl) hE

/-- A step that only moves the program counter of `t` from `p` to a `q` that owns no more. -/
theorem SInvL.move {s : St} {L : List Nat} {t : Tid} {p q : PC} (h : SInvL s L) (hpc : s.pc t = p)
    (hT : TInv s.mem L q) (hi : insNode q = none ∨ insNode q = insNode p) (he : atUnl q = none) :
    SInvL { s with pc := upd s.pc t q } L := by
  have hq : ({ s with pc := upd s.pc t q } : St).pc t = q := upd_same _ _ _
  refine h.frame (s' := { s with pc := upd s.pc t q }) (fun u hu => upd_other _ _ _ _ hu) h.mem ?_
    (fun u _ => h.thread u) (fun u hu => ?_)
  · rw [hq]; exact hT
  · rw [hq]; exact (hpc ▸ h.excl (Ne.symm hu)).mono hi (Or.inl he)

/-! ### Changes of the shared memory -/

/-- What a step of one thread guarantees to the others about the memory: allocated nodes keep their keys, a node that
    is linked or marked stays so, and a marked node is frozen. -/
structure Grows (m : Mem) (L : List Nat) (m' : Mem) (L' : List Nat) : Prop where
  key : ∀ a, a < m.cnt → m'.key a = m.key a
  cnt : m.cnt ≤ m'.cnt
  mono : ∀ a, (a ∈ L ∨ m.mark a = true) → (a ∈ L' ∨ m'.mark a = true)
  frz : ∀ a, m.mark a = true → m'.mark a = true ∧ m'.next a = m.next a

/-- A thread's knowledge survives every such change that leaves its private node private, unmarked and, when it is
    about to be linked, pointing where it did. -/
theorem TInv.stable {m m' : Mem} {L L' : List Nat} {pc : PC} (h : TInv m L pc) (hM : MInv m L)
    (hG : Grows m L m' L') (hp : ∀ n, insNode pc = some n → n ∉ L' ∧ m'.mark n = false)
    (hc : ∀ n c, atCas pc = some (n, c) → m'.next n = m.next n) : TInv m' L' pc := by
  have hk : ∀ a, a ∈ L ∨ m.mark a = true → m'.key a = m.key a := fun a ha => hG.key a (hM.lt_cnt ha)
  have hsk : skey m'.key pc = skey m.key pc := skey_congr fun n e => hG.key n (h.priv n e).1
  refine ⟨fun n e => ⟨Nat.lt_of_lt_of_le (h.priv n e).1 hG.cnt, hp n e⟩, fun a e => hG.mono a (h.lkPrev a e),
    fun a e => ⟨(h.lkCur a e).1, hG.mono a (h.lkCur a e).2⟩, fun a e => ⟨(h.lkNx a e).1, hG.mono a (h.lkNx a e).2⟩,
    fun a e => ?_, fun n c e => ?_, fun c k e => ?_, fun a x e => ?_, fun n c e => (hc n c e).trans (h.icas n c e)⟩
  · rw [hsk, hk a (h.lkPrev a e)]; exact h.keyPrev a e
  · obtain ⟨e1, e2⟩ := pcGt_spec e
    rw [hG.key n (h.priv n e1).1, hk c (h.lkCur c e2).2]; exact h.keyGt n c e
  · rw [hk c (h.lkCur c (pcEq_spec e)).2]; exact h.keyEq c k e
  · have := hG.frz a (h.frozen a x e).2
    exact ⟨this.2.trans (h.frozen a x e).1, this.1⟩

/-- A write into the unmarked chain cell `p` that takes the chain to `L'` and drops marked nodes only. -/
theorem MInv.relink {m : Mem} {L L' : List Nat} {p : Nat} {v : Option Nat} (h : MInv m L) (hp : p ∈ L)
    (hpm : m.mark p = false) (hch : Chain (upd m.next p v) (some 0) L') (hso : L'.Pairwise (Lt m.key))
    (hal : ∀ a, a ∈ L' → a < m.cnt) (hmono : ∀ a, a ∈ L → a ∈ L' ∨ m.mark a = true) :
    MInv ⟨upd m.next p v, m.mark, m.key, m.cnt⟩ L' ∧ Grows m L ⟨upd m.next p v, m.mark, m.key, m.cnt⟩ L' := by
  have hne : ∀ a, m.mark a = true → upd m.next p v a = m.next a := fun a ha =>
    upd_other _ _ _ _ fun e => Bool.false_ne_true (hpm ▸ e ▸ ha)
  have hmono' : ∀ a, a ∈ L ∨ m.mark a = true → a ∈ L' ∨ m.mark a = true := fun a ha => ha.elim (hmono a) Or.inr
  refine ⟨⟨hch, hso, hal, fun a ha => ⟨?_, (h.unalloc a ha).2⟩, h.mark0, fun a b ha hb => ?_⟩,
    ⟨fun _ _ => rfl, Nat.le_refl _, hmono', fun a ha => ⟨ha, hne a ha⟩⟩⟩
  · exact (upd_other _ _ _ _ (Nat.ne_of_gt (Nat.lt_of_lt_of_le (h.alloc p hp) ha))).trans (h.unalloc a ha).1
  · have hb' := h.succ a b ha ((hne a ha).symm.trans hb)
    exact ⟨hb'.1, hmono' b hb'.2⟩

/-- Unlinking the marked successor `c` of the unmarked chain cell `p`. -/
theorem MInv.unlink {m : Mem} {L : List Nat} {p c : Nat} (h : MInv m L) (hp : p ∈ L) (hpm : m.mark p = false)
    (hpc : m.next p = some c) (hcm : m.mark c = true) :
    MInv ⟨upd m.next p (m.next c), m.mark, m.key, m.cnt⟩ (L.erase c) ∧
      Grows m L ⟨upd m.next p (m.next c), m.mark, m.key, m.cnt⟩ (L.erase c) :=
  h.relink hp hpm (Chain.unlink hpc h.chain h.nodup hp) (h.sorted.sublist List.erase_sublist)
    (fun a ha => h.alloc a (List.mem_of_mem_erase ha))
    fun a ha => (Classical.em (a = c)).elim (fun e => Or.inr (e ▸ hcm))
      (fun e => Or.inl ((List.Nodup.mem_erase_iff h.nodup).mpr ⟨e, ha⟩))

/-- Linking the private node `n`, which already points to the successor of `p`, behind the unmarked chain cell `p`. -/
theorem MInv.link {m : Mem} {L : List Nat} {p n : Nat} (h : MInv m L) (hp : p ∈ L) (hpm : m.mark p = false)
    (hn : n < m.cnt ∧ n ∉ L ∧ m.mark n = false) (hnx : m.next n = m.next p) (hpn : p = 0 ∨ m.key p < m.key n)
    (hnc : ∀ c, m.next p = some c → m.key n < m.key c) :
    MInv ⟨upd m.next p (some n), m.mark, m.key, m.cnt⟩ (insAfter p n L) ∧
      Grows m L ⟨upd m.next p (some n), m.mark, m.key, m.cnt⟩ (insAfter p n L) :=
  h.relink hp hpm (Chain.insAfter hnx h.chain h.nodup hp hn.2.1)
    (pairwise_insAfter (nx := m.next) Lt.trans ⟨fun (e : n = 0) => hn.2.1 (e ▸ h.zero_mem), hpn⟩
      (fun c hc => ⟨(h.next_mem hp hc).1, Or.inr (hnc c hc)⟩) h.chain h.sorted hp)
    (fun a ha => ((mem_insAfter hp).mp ha).elim (h.alloc a) (fun e => e ▸ hn.1))
    fun _ ha => Or.inl ((mem_insAfter hp).mpr (Or.inl ha))

/-- Marking the chain node `c`. -/
theorem MInv.mark {m : Mem} {L : List Nat} {c : Nat} (h : MInv m L) (hc : c ∈ L) (hc0 : c ≠ 0) :
    MInv ⟨m.next, upd m.mark c true, m.key, m.cnt⟩ L ∧ Grows m L ⟨m.next, upd m.mark c true, m.key, m.cnt⟩ L := by
  have hup : ∀ a, m.mark a = true → upd m.mark c true a = true := fun a ha => by
    by_cases e : a = c
    · rw [e]; exact upd_same _ _ _
    · exact (upd_other _ _ _ _ e).trans ha
  refine ⟨{ h with unalloc := fun a ha => ⟨(h.unalloc a ha).1, ?_⟩
                   mark0 := (upd_other _ _ _ _ (Ne.symm hc0)).trans h.mark0
                   succ := fun a b ha hb => ?_ },
    ⟨fun _ _ => rfl, Nat.le_refl _, fun a ha => ha.elim Or.inl (fun ha => Or.inr (hup a ha)),
     fun a ha => ⟨hup a ha, rfl⟩⟩⟩
  · exact (upd_other _ _ _ _ (Nat.ne_of_gt (Nat.lt_of_lt_of_le (h.alloc c hc) ha))).trans (h.unalloc a ha).2
  · have hb' : b ≠ 0 ∧ (b ∈ L ∨ m.mark b = true) := by
      by_cases e : a = c
      · exact h.next_lk (Or.inl (e ▸ hc)) hb
      · exact h.succ a b ((upd_other _ _ _ _ e).symm.trans ha) hb
    exact ⟨hb'.1, hb'.2.elim Or.inl (fun hm => Or.inr (hup b hm))⟩

/-- A store into the private node `n`. -/
theorem MInv.store {m : Mem} {L : List Nat} {n : Nat} {v : Option Nat} (h : MInv m L)
    (hn : n < m.cnt ∧ n ∉ L ∧ m.mark n = false) :
    MInv ⟨upd m.next n v, upd m.mark n false, m.key, m.cnt⟩ L ∧
      Grows m L ⟨upd m.next n v, upd m.mark n false, m.key, m.cnt⟩ L := by
  rw [upd_eq_self hn.2.2]
  have hne : ∀ a, m.mark a = true → a ≠ n := fun a ha e => Bool.false_ne_true (hn.2.2 ▸ e ▸ ha)
  refine ⟨{ h with chain := Chain.upd hn.2.1 h.chain, unalloc := fun a ha => ⟨?_, (h.unalloc a ha).2⟩,
                   succ := fun a b ha hb => h.succ a b ha ((upd_other _ _ _ _ (hne a ha)).symm.trans hb) },
    ⟨fun _ _ => rfl, Nat.le_refl _, fun _ ha => ha, fun a ha => ⟨ha, upd_other _ _ _ _ (hne a ha)⟩⟩⟩
  exact (upd_other _ _ _ _ (Nat.ne_of_gt (Nat.lt_of_lt_of_le hn.1 ha))).trans (h.unalloc a ha).1

/-- Allocating the fresh node `m.cnt` with key `k`. -/
theorem MInv.fresh {m : Mem} {L : List Nat} (h : MInv m L) (k : Int) :
    MInv ⟨m.next, m.mark, upd m.key m.cnt k, m.cnt + 1⟩ L ∧
      Grows m L ⟨m.next, m.mark, upd m.key m.cnt k, m.cnt + 1⟩ L := by
  have hk : ∀ a, a < m.cnt → upd m.key m.cnt k a = m.key a := fun a ha => upd_other _ _ _ _ (Nat.ne_of_lt ha)
  refine ⟨{ h with sorted := h.sorted.imp_of_mem fun {a b} ha hb hab => ?_
                   alloc := fun a ha => Nat.lt_succ_of_lt (h.alloc a ha)
                   unalloc := fun a ha => h.unalloc a (Nat.le_of_succ_le ha) },
    ⟨hk, Nat.le_succ _, fun _ ha => ha, fun _ ha => ⟨ha, rfl⟩⟩⟩
  simp only [Lt] at hab ⊢
  rw [hk a (h.alloc a ha), hk b (h.alloc b hb)]
  exact hab

/-- A step of `t` that changes the memory as the algorithm does and leaves the private nodes of the others alone. -/
theorem SInvL.write {s s' : St} {L L' : List Nat} {t : Tid} {q : PC} (h : SInvL s L)
    (hpc : s'.pc = upd s.pc t q) (hMG : MInv s'.mem L' ∧ Grows s.mem L s'.mem L')
    (hO : ∀ u, u ≠ t → ∀ n, insNode (s.pc u) = some n → n ∉ L' ∧ s'.mark n = false ∧ s'.next n = s.next n)
    (hT : TInv s'.mem L' q) (hE : ∀ u, u ≠ t → Excl q (s.pc u)) : SInvL s' L' := by
  have hq : s'.pc t = q := by rw [hpc]; exact upd_same _ _ _
  refine h.frame (fun u hu => by rw [hpc]; exact upd_other _ _ _ _ hu) hMG.1 (hq ▸ hT) (fun u hu => ?_)
    (fun u hu => hq ▸ hE u hu)
  exact (h.thread u).stable h.mem hMG.2 (fun n e => ⟨(hO u hu n e).1, (hO u hu n e).2.1⟩)
    (fun n c e => (hO u hu n (atCas_insNode e)).2.2)

/-! ### Where `search` can go -/

theorem TInv.sLd1 {m : Mem} {L : List Nat} {o : OpK}
    (h : ∀ n, opNode o = some n → n < m.cnt ∧ n ∉ L ∧ m.mark n = false) : TInv m L (.sLd1 o) :=
  ⟨h, nofun, nofun, nofun, nofun, nofun, nofun, nofun, nofun⟩

theorem TInv.done {m : Mem} {L : List Nat} {r : GRet} : TInv m L (.done r) :=
  ⟨nofun, nofun, nofun, nofun, nofun, nofun, nofun, nofun, nofun⟩

theorem TInv.idle {m : Mem} {L : List Nat} : TInv m L .idle :=
  ⟨nofun, nofun, nofun, nofun, nofun, nofun, nofun, nofun, nofun⟩

/-- `search` returns false at `( p, c )`: `p` is below the key, `c` (if any) above it. -/
theorem TInv.notFound {m : Mem} {L : List Nat} {o : OpK} {p : Nat} {c : Option Nat}
    (hn : ∀ n, opNode o = some n → n < m.cnt ∧ n ∉ L ∧ m.mark n = false)
    (hp : p ∈ L ∨ m.mark p = true) (hkp : p = 0 ∨ m.key p < okey m.key o)
    (hc : ∀ a, c = some a → (a ≠ 0 ∧ (a ∈ L ∨ m.mark a = true)) ∧ okey m.key o < m.key a) :
    TInv m L (notFound o p c) := by
  cases o with
  | ins n =>
    exact ⟨hn, fun a e => Option.some.inj e ▸ hp, fun a e => (hc a e).1, nofun, fun a e => Option.some.inj e ▸ hkp,
      fun n' c' e => by
        obtain ⟨rfl, rfl⟩ := Prod.mk.inj (Option.some.inj e)
        exact (hc c' rfl).2, nofun, nofun, nofun⟩
  | era k => exact TInv.done
  | fnd k => exact TInv.done
  | con k => exact TInv.done

/-- The traversal goes on from `p`, which is below the key, to `nx`. -/
theorem TInv.advance {m : Mem} {L : List Nat} {o : OpK} {p : Nat} {nx : Option Nat}
    (hn : ∀ n, opNode o = some n → n < m.cnt ∧ n ∉ L ∧ m.mark n = false)
    (hp : p ∈ L ∨ m.mark p = true) (hkp : p = 0 ∨ m.key p < okey m.key o)
    (hx : ∀ a, nx = some a → a ≠ 0 ∧ (a ∈ L ∨ m.mark a = true)) : TInv m L (advance o p nx) := by
  cases nx with
  | none => exact TInv.notFound hn hp hkp nofun
  | some x =>
    exact ⟨hn, fun a e => Option.some.inj e ▸ hp, fun a e => Option.some.inj e ▸ hx x rfl, nofun,
      fun a e => Option.some.inj e ▸ hkp, nofun, nofun, nofun, nofun⟩

/-- `search` returns true at `( p, c, nx )`: `c` carries the key. -/
theorem TInv.found {m : Mem} {L : List Nat} {val : Nat → Int} {o : OpK} {p c : Nat} {nx : Option Nat}
    (hp : p ∈ L ∨ m.mark p = true) (hkp : p = 0 ∨ m.key p < okey m.key o)
    (hc : c ≠ 0 ∧ (c ∈ L ∨ m.mark c = true)) (hkc : m.key c = okey m.key o)
    (hx : ∀ a, nx = some a → a ≠ 0 ∧ (a ∈ L ∨ m.mark a = true)) : TInv m L (found val o p c nx) := by
  cases o with
  | era k =>
    exact ⟨nofun, fun a e => Option.some.inj e ▸ hp, fun a e => Option.some.inj e ▸ hc, hx,
      fun a e => Option.some.inj e ▸ hkp, nofun,
      fun c' k' e => by
        obtain ⟨rfl, rfl⟩ := Prod.mk.inj (Option.some.inj e)
        exact hkc, nofun, nofun⟩
  | ins n => exact TInv.done
  | fnd k => exact TInv.done
  | con k => exact TInv.done

theorem insNode_notFound {o : OpK} {p : Nat} {c : Option Nat} : insNode (notFound o p c) = opNode o := by
  cases o <;> rfl

theorem insNode_advance {o : OpK} {p : Nat} {nx : Option Nat} : insNode (advance o p nx) = opNode o :=
  match nx with
  | none => insNode_notFound
  | some _ => rfl

theorem insNode_found {val : Nat → Int} {o : OpK} {p c : Nat} {nx : Option Nat} :
    insNode (found val o p c nx) = none := by
  cases o <;> rfl

theorem atUnl_notFound {o : OpK} {p : Nat} {c : Option Nat} : atUnl (notFound o p c) = none := by
  cases o <;> rfl

theorem atUnl_advance {o : OpK} {p : Nat} {nx : Option Nat} : atUnl (advance o p nx) = none :=
  match nx with
  | none => atUnl_notFound
  | some _ => rfl

theorem atUnl_found {val : Nat → Int} {o : OpK} {p c : Nat} {nx : Option Nat} :
    atUnl (found val o p c nx) = none := by
  cases o <;> rfl

end CdsVerif.Algo.Michael
