/-
  Structural invariant of the MichaelList model and the refinement of the abstract map: definitions and the lemmas
  shared by the step proofs (`StepSearch.lean`, `StepCas.lean`); reachability and its consequences are in `Reach.lean`.

  * `Chain s.next (some 0) L` : following the pointers from cell 0 (`m_pHead`) visits exactly `L = 0 :: nodes` and then
    null.  ALL linked nodes are on `L`, marked (logically deleted) or not.
  * `SInvL s L` : `L` is strictly sorted by key (`Lt`: the head cell is below every node), hence duplicate-free, and
    consists of allocated nodes; the head cell is never marked; a node an inserter still owns (`insNode`) is outside
    `L` and unmarked, and owned by one thread; every cell / node a traversal holds (`pcPrev`, `pcCur`, `pcNx`) is on
    `L` or marked, so is the successor of a marked node (`succ`): a node that left `L` is marked; what a thread has
    read from a marked node is still there (`frozen`: a marked node's link never changes); the key of the
    traversal's `pPrev` is smaller than the key searched for (`keyPrev`), the key of an inserter's `pCur` greater
    (`keyGt`), the key of an eraser's `pCur` equal (`keyEq`); the new node of `link_node` points to `pCur` when the
    CAS is attempted (`icas`); no two erasers have marked the same node (`eown`).
  * The abstract map: `Has mark key val L k v` — some unmarked node on `L` carries `(k, v)`.
  * Linearization points: `lpRet` (current result, possibly TENTATIVE: `tent`) and `postRet` (definitive result);
    `StepEff` states what one step does: at a linearization point the abstract map makes exactly the `Spec.map`
    transition of the operation (`LPok`), otherwise it does not change; a tentative result is either kept, made
    definitive, or withdrawn (only results of read-only operations are ever tentative: `tent_ro`).
-/
import CdsVerif.Algo.Michael.Lemmas
namespace CdsVerif.Algo.Michael
open CdsVerif.Machine CdsVerif.Spec CdsVerif.Lin

/-! ### The structural invariant -/

def opNode : OpK → Option Nat
  | .ins n => some n
  | .era _ => none
  | .fnd _ => none
  | .con _ => none

/-- The node an inserter still owns privately (before its successful CAS on `*pPrev`). -/
def insNode : PC → Option Nat
  | .idle => none
  | .sLd1 o => opNode o
  | .sLd2 o _ => opNode o
  | .sNx1 o _ _ => opNode o
  | .sNx2 o _ _ _ _ => opNode o
  | .sChk o _ _ _ _ => opNode o
  | .sHelp o _ _ _ => opNode o
  | .iSt n _ _ => some n
  | .iCas n _ _ => some n
  | .iClr n => some n
  | .eMark _ _ _ _ => none
  | .eUnl _ _ _ _ => none
  | .done _ => none

/-- The cell `pPrev` points to. -/
def pcPrev : PC → Option Nat
  | .idle => none
  | .sLd1 _ => none
  | .sLd2 _ _ => none
  | .sNx1 _ p _ => some p
  | .sNx2 _ p _ _ _ => some p
  | .sChk _ p _ _ _ => some p
  | .sHelp _ p _ _ => some p
  | .iSt _ p _ => some p
  | .iCas _ p _ => some p
  | .iClr _ => none
  | .eMark _ p _ _ => some p
  | .eUnl _ p _ _ => some p
  | .done _ => none

/-- The node `pCur`. -/
def pcCur : PC → Option Nat
  | .idle => none
  | .sLd1 _ => none
  | .sLd2 _ p => p
  | .sNx1 _ _ c => some c
  | .sNx2 _ _ c _ _ => some c
  | .sChk _ _ c _ _ => some c
  | .sHelp _ _ c _ => some c
  | .iSt _ _ c => c
  | .iCas _ _ c => c
  | .iClr _ => none
  | .eMark _ _ c _ => some c
  | .eUnl _ _ c _ => some c
  | .done _ => none

/-- The node `pNext`. -/
def pcNx : PC → Option Nat
  | .idle => none
  | .sLd1 _ => none
  | .sLd2 _ _ => none
  | .sNx1 _ _ _ => none
  | .sNx2 _ _ _ nx _ => nx
  | .sChk _ _ _ nx _ => nx
  | .sHelp _ _ _ nx => nx
  | .iSt _ _ _ => none
  | .iCas _ _ _ => none
  | .iClr _ => none
  | .eMark _ _ _ nx => nx
  | .eUnl _ _ _ nx => nx
  | .done _ => none

/-- The key the thread's traversal is looking for. -/
def skey (key : Nat → Int) : PC → Int
  | .idle => 0
  | .sLd1 o => okey key o
  | .sLd2 o _ => okey key o
  | .sNx1 o _ _ => okey key o
  | .sNx2 o _ _ _ _ => okey key o
  | .sChk o _ _ _ _ => okey key o
  | .sHelp o _ _ _ => okey key o
  | .iSt n _ _ => key n
  | .iCas n _ _ => key n
  | .iClr n => key n
  | .eMark k _ _ _ => k
  | .eUnl k _ _ _ => k
  | .done _ => 0

/-- The new node and the successor it is going to get. -/
def pcGt : PC → Option (Nat × Option Nat)
  | .idle => none
  | .sLd1 _ => none
  | .sLd2 _ _ => none
  | .sNx1 _ _ _ => none
  | .sNx2 _ _ _ _ _ => none
  | .sChk _ _ _ _ _ => none
  | .sHelp _ _ _ _ => none
  | .iSt n _ c => some (n, c)
  | .iCas n _ c => some (n, c)
  | .iClr _ => none
  | .eMark _ _ _ _ => none
  | .eUnl _ _ _ _ => none
  | .done _ => none

/-- The node an eraser is about to mark, and the key it erases. -/
def pcEq : PC → Option (Nat × Int)
  | .idle => none
  | .sLd1 _ => none
  | .sLd2 _ _ => none
  | .sNx1 _ _ _ => none
  | .sNx2 _ _ _ _ _ => none
  | .sChk _ _ _ _ _ => none
  | .sHelp _ _ _ _ => none
  | .iSt _ _ _ => none
  | .iCas _ _ _ => none
  | .iClr _ => none
  | .eMark k _ c _ => some (c, k)
  | .eUnl _ _ _ _ => none
  | .done _ => none

/-- A link `a.next = ( x, m )` the thread has read (or written); relied upon when `m = 1`. -/
def pcFrozen : PC → Option (Nat × Option Nat × Bool)
  | .idle => none
  | .sLd1 _ => none
  | .sLd2 _ _ => none
  | .sNx1 _ _ _ => none
  | .sNx2 _ _ c nx mk => some (c, nx, mk)
  | .sChk _ _ c nx mk => some (c, nx, mk)
  | .sHelp _ _ c nx => some (c, nx, true)
  | .iSt _ _ _ => none
  | .iCas _ _ _ => none
  | .iClr _ => none
  | .eMark _ _ _ _ => none
  | .eUnl _ _ c nx => some (c, nx, true)
  | .done _ => none

structure SInvL (s : St) (L : List Nat) : Prop where
  chain : Chain s.next (some 0) L
  sorted : L.Pairwise (Lt s.key)
  alloc : ∀ a, a ∈ L → a < s.cnt
  unalloc : ∀ a, s.cnt ≤ a → s.next a = none ∧ s.mark a = false
  mark0 : s.mark 0 = false
  succ : ∀ a b, s.mark a = true → s.next a = some b → b ≠ 0 ∧ (b ∈ L ∨ s.mark b = true)
  priv : ∀ t n, insNode (s.pc t) = some n → n < s.cnt ∧ n ∉ L ∧ s.mark n = false
  own : ∀ t1 t2 n, insNode (s.pc t1) = some n → insNode (s.pc t2) = some n → t1 = t2
  lkPrev : ∀ t a, pcPrev (s.pc t) = some a → a ∈ L ∨ s.mark a = true
  lkCur : ∀ t a, pcCur (s.pc t) = some a → a ≠ 0 ∧ (a ∈ L ∨ s.mark a = true)
  lkNx : ∀ t a, pcNx (s.pc t) = some a → a ≠ 0 ∧ (a ∈ L ∨ s.mark a = true)
  keyPrev : ∀ t a, pcPrev (s.pc t) = some a → a = 0 ∨ s.key a < skey s.key (s.pc t)
  keyGt : ∀ t n c, pcGt (s.pc t) = some (n, some c) → s.key n < s.key c
  keyEq : ∀ t c k, pcEq (s.pc t) = some (c, k) → s.key c = k
  frozen : ∀ t a x, pcFrozen (s.pc t) = some (a, x, true) → s.next a = x ∧ s.mark a = true
  icas : ∀ t n p c, s.pc t = .iCas n p c → s.next n = c
  eown : ∀ t1 t2 k1 p1 c x1 k2 p2 x2, s.pc t1 = .eUnl k1 p1 c x1 → s.pc t2 = .eUnl k2 p2 c x2 → t1 = t2

def SInv (s : St) : Prop := ∃ L, SInvL s L

theorem sinv_init : SInvL init [0] := by
  constructor <;> simp [init, Chain, insNode, pcPrev, pcCur, pcNx, pcGt, pcEq, pcFrozen]

theorem SInvL.unique {s : St} {L1 L2 : List Nat} (h1 : SInvL s L1) (h2 : SInvL s L2) : L1 = L2 :=
  Chain.functional h1.chain h2.chain

/-- The shared memory the invariant speaks of. -/
structure Mem where
  next : Nat → Option Nat
  mark : Nat → Bool
  key : Nat → Int
  cnt : Nat

def St.mem (s : St) : Mem := ⟨s.next, s.mark, s.key, s.cnt⟩

/-- The clauses of `SInvL` about the shared memory alone. -/
structure MInv (m : Mem) (L : List Nat) : Prop where
  chain : Chain m.next (some 0) L
  sorted : L.Pairwise (Lt m.key)
  alloc : ∀ a, a ∈ L → a < m.cnt
  unalloc : ∀ a, m.cnt ≤ a → m.next a = none ∧ m.mark a = false
  mark0 : m.mark 0 = false
  succ : ∀ a b, m.mark a = true → m.next a = some b → b ≠ 0 ∧ (b ∈ L ∨ m.mark b = true)

theorem SInvL.mem {s : St} {L : List Nat} (h : SInvL s L) : MInv s.mem L :=
  ⟨h.chain, h.sorted, h.alloc, h.unalloc, h.mark0, h.succ⟩

theorem MInv.head_cons {m : Mem} {L : List Nat} (h : MInv m L) : ∃ l, L = 0 :: l := by
  have hc := h.chain
  cases L with
  | nil => simp [Chain] at hc
  | cons a r => simp only [Chain, Option.some.injEq] at hc; exact ⟨r, by rw [hc.1]⟩

theorem MInv.zero_mem {m : Mem} {L : List Nat} (h : MInv m L) : 0 ∈ L := by
  obtain ⟨l, rfl⟩ := h.head_cons; simp

theorem MInv.nodup {m : Mem} {L : List Nat} (h : MInv m L) : L.Nodup := sorted_nodup h.sorted

theorem MInv.lt_cnt {m : Mem} {L : List Nat} (h : MInv m L) {a : Nat} (ha : a ∈ L ∨ m.mark a = true) : a < m.cnt := by
  rcases ha with ha | ha
  · exact h.alloc a ha
  · refine Classical.byContradiction fun hn => ?_
    rw [(h.unalloc a (by omega)).2] at ha
    exact Bool.false_ne_true ha

/-- The successor of a linked cell is a node, and it is linked. -/
theorem MInv.next_mem {m : Mem} {L : List Nat} (h : MInv m L) {a b : Nat} (ha : a ∈ L) (hb : m.next a = some b) :
    b ≠ 0 ∧ b ∈ L := by
  have h1 := Chain.succ_mem h.chain ha hb
  obtain ⟨l, rfl⟩ := h.head_cons
  simp only [List.tail_cons] at h1
  exact ⟨((List.pairwise_cons.mp h.sorted).1 b h1).1, List.mem_cons_of_mem _ h1⟩

/-- The successor of a cell that is linked or marked is a node that is linked or marked. -/
theorem MInv.next_lk {m : Mem} {L : List Nat} (h : MInv m L) {a b : Nat} (ha : a ∈ L ∨ m.mark a = true)
    (hb : m.next a = some b) : b ≠ 0 ∧ (b ∈ L ∨ m.mark b = true) :=
  ha.elim (fun ha => ⟨(h.next_mem ha hb).1, Or.inl (h.next_mem ha hb).2⟩) (fun ha => h.succ a b ha hb)

/-! ### The abstract map -/

/-- Some unmarked node on the chain carries `(k, v)`. -/
def Has (mark : Nat → Bool) (key val : Nat → Int) (L : List Nat) (k v : Int) : Prop :=
  ∃ a, a ∈ L ∧ a ≠ 0 ∧ mark a = false ∧ key a = k ∧ val a = v

/-- No node on the chain has key `k`, when `k` lies strictly between the key of a chain cell `p` and the key of
    the successor of `p`. -/
theorem SInvL.gap {s : St} {L : List Nat} (h : SInvL s L) {p : Nat} {k : Int} (hp : p ∈ L)
    (hpk : p = 0 ∨ s.key p < k) (hck : ∀ c, s.next p = some c → k < s.key c) :
    ∀ a, a ∈ L → a ≠ 0 → s.key a ≠ k := by
  intro a ha ha0 hk
  rcases Chain.around h.chain h.sorted hp a ha with e | hlt | ⟨c, hc, e | hlt⟩
  · subst e
    rcases hpk with h0 | h0
    · exact ha0 h0
    · omega
  · unfold Lt at hlt
    rcases hlt.2 with h0 | h0
    · exact ha0 h0
    · rcases hpk with h1 | h1
      · exact hlt.1 h1
      · omega
  · subst e; have := hck a hc; omega
  · unfold Lt at hlt
    have := hck c hc
    rcases hlt.2 with h0 | h0
    · exact (h.mem.next_mem hp hc).1 h0
    · omega

theorem SInvL.absent {s : St} {L : List Nat} (h : SInvL s L) {p : Nat} {k : Int} (hp : p ∈ L)
    (hpk : p = 0 ∨ s.key p < k) (hck : ∀ c, s.next p = some c → k < s.key c) : ∀ w, ¬ Has s.mark s.key s.val L k w := by
  rintro w ⟨a, ha, ha0, -, hk, -⟩
  exact h.gap hp hpk hck a ha ha0 hk

/-! ### Linearization-point bookkeeping on program counters -/

def gop (key val : Nat → Int) : OpK → GOp
  | .ins n => ⟨"insert", [key n, val n]⟩
  | .era k => ⟨"erase", [k]⟩
  | .fnd k => ⟨"find", [k]⟩
  | .con k => ⟨"contains", [k]⟩

/-- The TENTATIVE result of a traversal that has just validated `pNext = pCur->m_pNext` (unmarked):
    the key is present (`pCur` carries it: failed insert, successful find / contains), or it is absent (`pCur` has a
    smaller key and is the last node: failed erase / find / contains).  The result becomes definitive when the
    following validation `pPrev->load() == pCur` succeeds, and is withdrawn when that fails. -/
def foundRet (val : Nat → Int) (o : OpK) (cur : Nat) : Option GRet :=
  match o with
  | .ins _ => some [0]
  | .era _ => none
  | .fnd _ => some [1, val cur]
  | .con _ => some [1]

def absentRet (o : OpK) : Option GRet :=
  match o with
  | .ins _ => none
  | .era _ => some [0]
  | .fnd _ => some [0]
  | .con _ => some [0]

def tent (key val : Nat → Int) (o : OpK) (cur : Nat) (nx : Option Nat) (mk : Bool) : Option GRet :=
  if mk = true then none
  else if key cur = okey key o then foundRet val o cur
  else if key cur < okey key o ∧ nx = none then absentRet o
  else none

/-- The result fixed definitively, for a thread that has passed its linearization point for good. -/
def postRet (val : Nat → Int) : PC → Option GRet
  | .idle => none
  | .sLd1 _ => none
  | .sLd2 _ _ => none
  | .sNx1 _ _ _ => none
  | .sNx2 _ _ _ _ _ => none
  | .sChk _ _ _ _ _ => none
  | .sHelp _ _ _ _ => none
  | .iSt _ _ _ => none
  | .iCas _ _ _ => none
  | .iClr _ => none
  | .eMark _ _ _ _ => none
  | .eUnl _ _ c _ => some [1, val c]
  | .done r => some r

/-- The result of the thread's current (definitive or tentative) linearization. -/
def lpRet (key val : Nat → Int) : PC → Option GRet
  | .idle => none
  | .sLd1 _ => none
  | .sLd2 _ _ => none
  | .sNx1 _ _ _ => none
  | .sNx2 _ _ _ _ _ => none
  | .sChk o _ c nx mk => tent key val o c nx mk
  | .sHelp _ _ _ _ => none
  | .iSt _ _ _ => none
  | .iCas _ _ _ => none
  | .iClr _ => none
  | .eMark _ _ _ _ => none
  | .eUnl _ _ c _ => some [1, val c]
  | .done r => some r

/-- The operation a thread is executing, while its result is not definitive. -/
def opOf (key val : Nat → Int) : PC → Option GOp
  | .sLd1 o => some (gop key val o)
  | .sLd2 o _ => some (gop key val o)
  | .sNx1 o _ _ => some (gop key val o)
  | .sNx2 o _ _ _ _ => some (gop key val o)
  | .sChk o _ _ _ _ => some (gop key val o)
  | .sHelp o _ _ _ => some (gop key val o)
  | .iSt n _ _ => some (gop key val (.ins n))
  | .iCas n _ _ => some (gop key val (.ins n))
  | .iClr n => some (gop key val (.ins n))
  | .eMark k _ _ _ => some (gop key val (.era k))
  | .idle => none
  | .eUnl _ _ _ _ => none
  | .done _ => none

/-! ### Keys and payloads of allocated nodes are immutable: what a program counter refers to is unaffected by an allocation -/

theorem okey_congr {key key' : Nat → Int} {o : OpK} (h : ∀ n, opNode o = some n → key' n = key n) :
    okey key' o = okey key o := by
  cases o <;> simp_all [okey, opNode]

theorem gop_congr {key key' val val' : Nat → Int} {o : OpK}
    (h : ∀ n, opNode o = some n → key' n = key n ∧ val' n = val n) : gop key' val' o = gop key val o := by
  cases o <;> simp_all [gop, opNode]

theorem skey_congr {key key' : Nat → Int} {pc : PC} (h : ∀ n, insNode pc = some n → key' n = key n) :
    skey key' pc = skey key pc := by
  cases pc <;> simp only [skey, insNode] at * <;> first | rfl | exact okey_congr h | exact h _ rfl

theorem opOf_congr {key key' val val' : Nat → Int} {pc : PC}
    (h : ∀ n, insNode pc = some n → key' n = key n ∧ val' n = val n) :
    opOf key' val' pc = opOf key val pc := by
  cases pc <;> simp only [opOf, insNode] at * <;>
    first | rfl | exact congrArg some (gop_congr h) | exact congrArg some (gop_congr (by simpa [opNode] using h))

theorem lpRet_congr {key key' val val' : Nat → Int} {pc : PC}
    (h : ∀ n, insNode pc = some n → key' n = key n)
    (hc : ∀ c, pcCur pc = some c → key' c = key c ∧ val' c = val c) :
    lpRet key' val' pc = lpRet key val pc := by
  cases pc <;> simp only [lpRet]
  case sChk o p c nx mk =>
    have h1 := hc c (by simp [pcCur])
    have h2 : okey key' o = okey key o := okey_congr (by simpa [insNode] using h)
    cases o <;> simp [tent, foundRet, absentRet, h1, h2]
  case eUnl k p c nx =>
    have := hc c (by simp [pcCur])
    simp_all

theorem postRet_congr {val val' : Nat → Int} {pc : PC}
    (hc : ∀ c, pcCur pc = some c → val' c = val c) : postRet val' pc = postRet val pc := by
  cases pc <;> simp only [postRet]
  case eUnl k p c nx =>
    have := hc c (by simp [pcCur])
    simp_all

theorem pcGt_spec {pc : PC} {n : Nat} {c : Option Nat} (h : pcGt pc = some (n, c)) :
    insNode pc = some n ∧ pcCur pc = c := by
  cases pc <;> simp_all [pcGt, insNode, pcCur]

theorem pcEq_spec {pc : PC} {c : Nat} {k : Int} (h : pcEq pc = some (c, k)) : pcCur pc = some c := by
  cases pc <;> simp_all [pcEq, pcCur]

structure StepEff (s : St) (t : Tid) (s' : St) (L L' : List Nat) : Prop where
  frame : ∀ t2, t2 ≠ t → s'.pc t2 = s.pc t2
  key : s'.key = s.key
  val : s'.val = s.val
  cnt : s'.cnt = s.cnt
  lp : lpRet s.key s.val (s.pc t) = none → ∀ r, lpRet s'.key s'.val (s'.pc t) = some r →
        ∃ op, opOf s.key s.val (s.pc t) = some op ∧ LPok (Has s.mark s.key s.val L) op r (Has s'.mark s'.key s'.val L')
  nolp : (lpRet s.key s.val (s.pc t) ≠ none ∨ lpRet s'.key s'.val (s'.pc t) = none) → ∀ k v, Has s'.mark s'.key s'.val L' k v ↔ Has s.mark s.key s.val L k v
  keep : ∀ r, lpRet s.key s.val (s.pc t) = some r → lpRet s'.key s'.val (s'.pc t) = some r ∨
          ((∃ op, opOf s.key s.val (s.pc t) = some op ∧ isRO op r = true) ∧ lpRet s'.key s'.val (s'.pc t) = none)
  pkeep : ∀ r, postRet s.val (s.pc t) = some r → postRet s'.val (s'.pc t) = some r
  op : postRet s'.val (s'.pc t) = none → opOf s'.key s'.val (s'.pc t) = opOf s.key s.val (s.pc t)
  busy : s.pc t ≠ .idle ∧ s'.pc t ≠ .idle
  mono : ∀ a, (a ∈ L ∨ s.mark a = true) → (a ∈ L' ∨ s'.mark a = true)
  frz : ∀ a, s.mark a = true → s'.mark a = true ∧ s'.next a = s.next a
  link : ∀ n p c, s.pc t = .iCas n p c → s'.pc t = .done [1] → n ∈ L'
  marks : ∀ a, s.mark a = false → s'.mark a = true →
    ∃ k p x, s.pc t = .eMark k p a x ∧ s'.pc t = .eUnl k p a x ∧ s.key a = k ∧ a ∈ L
  unl : ∀ k p a x, s'.pc t = .eUnl k p a x → s.mark a = false ∧ s'.mark a = true

/-- The key is absent: the operation (other than an insert) answers `[0]` and the map does not change. -/
theorem SInvL.lp_absent {s : St} {L : List Nat} (h : SInvL s L) {p : Nat} {o : OpK} {r : GRet} (hp : p ∈ L)
    (hpk : p = 0 ∨ s.key p < okey s.key o) (hck : ∀ c, s.next p = some c → okey s.key o < s.key c)
    (hr : absentRet o = some r) :
    LPok (Has s.mark s.key s.val L) (gop s.key s.val o) r (Has s.mark s.key s.val L) := by
  have habs := h.absent hp hpk hck
  cases o <;> simp [absentRet] at hr <;> subst hr
  · exact LPok.ro_none habs (fun _ _ => Iff.rfl) (Or.inl rfl)
  · exact LPok.ro_none habs (fun _ _ => Iff.rfl) (Or.inr (Or.inl rfl))
  · exact LPok.ro_none habs (fun _ _ => Iff.rfl) (Or.inr (Or.inr rfl))

/-- The key is present in the unmarked chain node `c`: a failing insert, a find, a contains. -/
theorem SInvL.lp_present {s : St} {L : List Nat} (_h : SInvL s L) {c : Nat} {o : OpK} {r : GRet} (hc : c ∈ L)
    (hc0 : c ≠ 0) (hm : s.mark c = false) (hk : s.key c = okey s.key o) (hr : foundRet s.val o c = some r) :
    LPok (Has s.mark s.key s.val L) (gop s.key s.val o) r (Has s.mark s.key s.val L) := by
  have hhas : Has s.mark s.key s.val L (okey s.key o) (s.val c) := ⟨c, hc, hc0, hm, hk, rfl⟩
  cases o <;> simp [foundRet] at hr <;> subst hr
  · exact LPok.ro_some hhas (fun _ _ => Iff.rfl) (Or.inl ⟨_, rfl, rfl⟩)
  · exact LPok.ro_some hhas (fun _ _ => Iff.rfl) (Or.inr (Or.inl ⟨rfl, rfl⟩))
  · exact LPok.ro_some hhas (fun _ _ => Iff.rfl) (Or.inr (Or.inr ⟨rfl, rfl⟩))

theorem LPok.congr {H H1 : Int → Int → Prop} {op : GOp} {r : GRet} (he : ∀ k v, H k v ↔ H1 k v)
    (h : LPok H1 op r H1) : LPok H op r H := fun m hm =>
  (h m fun k v => (hm k v).trans (he k v)).imp fun _ hm' => ⟨hm'.1, fun k v => (hm'.2 k v).trans (he k v).symm⟩

/-- Unlinking a marked node does not change the abstract map. -/
theorem has_erase {mark : Nat → Bool} {key val : Nat → Int} {L : List Nat} {c : Nat} (hnd : L.Nodup)
    (hm : mark c = true) (k v : Int) : Has mark key val (L.erase c) k v ↔ Has mark key val L k v := by
  unfold Has
  constructor
  · rintro ⟨a, ha, h⟩
    exact ⟨a, (List.Nodup.mem_erase_iff hnd).mp ha |>.2, h⟩
  · rintro ⟨a, ha, h0, h1, h2⟩
    refine ⟨a, (List.Nodup.mem_erase_iff hnd).mpr ⟨?_, ha⟩, h0, h1, h2⟩
    intro e; rw [e, hm] at h1; simp at h1

/-- Linking an unmarked node adds its pair to the abstract map. -/
theorem has_insert {mark : Nat → Bool} {key val : Nat → Int} {L : List Nat} {p n : Nat} (hp : p ∈ L)
    (hn0 : n ≠ 0) (hnm : mark n = false) (j w : Int) :
    Has mark key val (insAfter p n L) j w ↔ (Has mark key val L j w ∨ (j = key n ∧ w = val n)) := by
  unfold Has
  constructor
  · rintro ⟨a, ha, h0, h1, h2, h3⟩
    rcases (mem_insAfter hp).mp ha with hm | e
    · exact Or.inl ⟨a, hm, h0, h1, h2, h3⟩
    · subst e; exact Or.inr ⟨h2.symm, h3.symm⟩
  · rintro (⟨a, ha, h⟩ | ⟨e1, e2⟩)
    · exact ⟨a, (mem_insAfter hp).mpr (Or.inl ha), h⟩
    · exact ⟨n, (mem_insAfter hp).mpr (Or.inr rfl), hn0, hnm, e1.symm, e2.symm⟩

/-- Marking a chain node removes its key from the abstract map. -/
theorem has_mark {mark : Nat → Bool} {key val : Nat → Int} {L : List Nat} {c : Nat} (hso : L.Pairwise (Lt key))
    (hc : c ∈ L) (hc0 : c ≠ 0) (j w : Int) :
    Has (upd mark c true) key val L j w ↔ (Has mark key val L j w ∧ j ≠ key c) := by
  unfold Has
  constructor
  · rintro ⟨a, ha, h0, h1, h2, h3⟩
    have hac : a ≠ c := by intro e; rw [e] at h1; simp [upd] at h1
    rw [upd_other _ _ _ _ hac] at h1
    refine ⟨⟨a, ha, h0, h1, h2, h3⟩, ?_⟩
    intro e
    exact hac (sorted_inj hso a c ha hc h0 hc0 (h2.trans e))
  · rintro ⟨⟨a, ha, h0, h1, h2, h3⟩, hne⟩
    have hac : a ≠ c := by intro e; rw [e] at h2; exact hne h2.symm
    exact ⟨a, ha, h0, by rw [upd_other _ _ _ _ hac]; exact h1, h2, h3⟩

/-- A tentative result never changes the sequential map. -/
theorem tent_ro {key val : Nat → Int} {o : OpK} {c : Nat} {nx : Option Nat} {mk : Bool} {r : GRet}
    (h : tent key val o c nx mk = some r) : isRO (gop key val o) r = true := by
  unfold tent at h
  split at h
  · simp at h
  · split at h
    · cases o <;> simp [foundRet] at h <;> subst h <;> simp [isRO, gop]
    · split at h
      · cases o <;> simp [absentRet] at h <;> subst h <;> simp [isRO, gop]
      · simp at h

end CdsVerif.Algo.Michael
