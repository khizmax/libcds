/-
  The effect of a step on the linearization bookkeeping (`StepEff`), in thread-modular form.

  `PcEff` is the part of `StepEff` that speaks of the old and the new program counter of the stepping thread only;
  `StepEff.hidden` adds what has to be said about the memory for a step that does not change the abstract map,
  `StepEff.commit` for one that fixes a result for good and changes it.  `SInvL.unlink` and `SInvL.store` are the two
  changes of the memory that two program counters each make, with invariant and effect.
-/
import CdsVerif.Algo.Michael.Thread
namespace CdsVerif.Algo.Michael
open CdsVerif.Machine CdsVerif.Spec CdsVerif.Lin

/-- What `StepEff` says about the program counter of the stepping thread going from `p` to `q`, when the step leaves
    the abstract map `H` as it is, marks no node and links none. -/
structure PcEff (key val : Nat → Int) (H : Int → Int → Prop) (p q : PC) : Prop where
  lp : lpRet key val p = none → ∀ r, lpRet key val q = some r → ∃ op, opOf key val p = some op ∧ LPok H op r H
  keep : ∀ r, lpRet key val p = some r → lpRet key val q = some r ∨
    ((∃ op, opOf key val p = some op ∧ isRO op r = true) ∧ lpRet key val q = none)
  pkeep : ∀ r, postRet val p = some r → postRet val q = some r
  op : postRet val q = none → opOf key val q = opOf key val p
  busy : p ≠ .idle ∧ q ≠ .idle
  link : ∀ n pr c, p = .iCas n pr c → q ≠ .done [1]
  unl : ∀ k pr a x, q ≠ .eUnl k pr a x

theorem lpRet_of_postRet {key val : Nat → Int} {p : PC} {r : GRet} (h : postRet val p = some r) :
    lpRet key val p = some r := by
  cases p <;> simp_all [postRet, lpRet]

theorem Grows.refl (m : Mem) (L : List Nat) : Grows m L m L :=
  ⟨fun _ _ => rfl, Nat.le_refl _, fun _ h => h, fun _ h => ⟨h, rfl⟩⟩

/-- The effect of a step that does not change the abstract map. -/
theorem StepEff.hidden {s s' : St} {L L' : List Nat} {t : Tid} {q : PC} (hpc : s'.pc = upd s.pc t q)
    (hk : s'.key = s.key) (hv : s'.val = s.val) (hc : s'.cnt = s.cnt) (hG : Grows s.mem L s'.mem L')
    (hmk : ∀ a, s'.mark a = true → s.mark a = true)
    (hhas : ∀ k v, Has s'.mark s.key s.val L' k v ↔ Has s.mark s.key s.val L k v)
    (hP : PcEff s.key s.val (Has s.mark s.key s.val L) (s.pc t) q) : StepEff s t s' L L' := by
  have hq : s'.pc t = q := by rw [hpc]; exact upd_same _ _ _
  constructor
  · exact fun u hu => by rw [hpc]; exact upd_other _ _ _ _ hu
  · exact hk
  · exact hv
  · exact hc
  · rw [hk, hv, hq]
    intro h0 r h1
    obtain ⟨op, ho, hl⟩ := hP.lp h0 r h1
    exact ⟨op, ho, fun m hm => (hl m hm).imp fun m' hm' => ⟨hm'.1, fun k v => (hm'.2 k v).trans (hhas k v).symm⟩⟩
  · rw [hk, hv]; exact fun _ => hhas
  · rw [hk, hv, hq]; exact hP.keep
  · rw [hv, hq]; exact hP.pkeep
  · rw [hk, hv, hq]; exact hP.op
  · rw [hq]; exact hP.busy
  · exact hG.mono
  · exact hG.frz
  · rw [hq]; exact fun n p c e1 e2 => absurd e2 (hP.link n p c e1)
  · exact fun a h0 h1 => absurd (hmk a h1) (by rw [h0]; exact Bool.false_ne_true)
  · rw [hq]; exact fun k p a x e => absurd e (hP.unl k p a x)

theorem StepEff.move {s : St} {L : List Nat} {t : Tid} {p q : PC} (hpc : s.pc t = p)
    (hP : PcEff s.key s.val (Has s.mark s.key s.val L) p q) : StepEff s t { s with pc := upd s.pc t q } L L :=
  StepEff.hidden rfl rfl rfl rfl (Grows.refl _ _) (fun _ h => h) (fun _ _ => Iff.rfl) (hpc ▸ hP)

/-- The effect of a step that fixes the result `r` of the operation for good and changes the abstract map. -/
theorem StepEff.commit {s s' : St} {L L' : List Nat} {t : Tid} {p q : PC} {op : GOp} {r : GRet} (hp : s.pc t = p)
    (hpc : s'.pc = upd s.pc t q) (hk : s'.key = s.key) (hv : s'.val = s.val) (hc : s'.cnt = s.cnt)
    (hG : Grows s.mem L s'.mem L') (hlp : lpRet s.key s.val p = none) (hop : opOf s.key s.val p = some op)
    (hr : postRet s.val q = some r) (hok : LPok (Has s.mark s.key s.val L) op r (Has s'.mark s.key s.val L'))
    (hlink : ∀ n pr c, p = .iCas n pr c → n ∈ L')
    (hmarks : ∀ a, s.mark a = false → s'.mark a = true →
      ∃ k pr x, p = .eMark k pr a x ∧ q = .eUnl k pr a x ∧ s.key a = k ∧ a ∈ L)
    (hunl : ∀ k pr a x, q = .eUnl k pr a x → s.mark a = false ∧ s'.mark a = true) : StepEff s t s' L L' := by
  have hq : s'.pc t = q := by rw [hpc]; exact upd_same _ _ _
  have hr' : lpRet s.key s.val q = some r := lpRet_of_postRet hr
  constructor
  · exact fun u hu => by rw [hpc]; exact upd_other _ _ _ _ hu
  · exact hk
  · exact hv
  · exact hc
  · rw [hk, hv, hq, hp]
    exact fun _ r1 h1 => ⟨op, hop, Option.some.inj (hr'.symm.trans h1) ▸ hok⟩
  · rw [hk, hv, hq, hp, hlp, hr']
    exact fun e => e.elim (fun e => absurd rfl e) nofun
  · rw [hp, hlp]; exact nofun
  · rw [hp]; exact fun r1 h1 => nomatch hlp.symm.trans (lpRet_of_postRet h1)
  · rw [hv, hq, hr]; exact nofun
  · rw [hq, hp]
    exact ⟨fun e => (by rw [e] at hop; cases hop), fun e => (by rw [e] at hr; cases hr)⟩
  · exact hG.mono
  · exact hG.frz
  · rw [hp]; exact fun n pr c e _ => hlink n pr c e
  · rw [hp, hq]; exact hmarks
  · rw [hq]; exact hunl

/-- A step before or after which no result is fixed, within one operation. -/
theorem PcEff.silent {key val : Nat → Int} {H : Int → Int → Prop} {p q : PC} {op : GOp}
    (hp : lpRet key val p = none) (hq : lpRet key val q = none) (hop : opOf key val p = some op)
    (hoq : opOf key val q = some op) : PcEff key val H p q where
  lp := fun _ r h1 => by rw [hq] at h1; cases h1
  keep := fun r h0 => by rw [hp] at h0; cases h0
  pkeep := fun r h0 => by rw [lpRet_of_postRet h0] at hp; cases hp
  op := fun _ => hoq.trans hop.symm
  busy := ⟨fun e => (by rw [e] at hop; cases hop), fun e => (by rw [e] at hoq; cases hoq)⟩
  link := fun n pr c _ e => by rw [e] at hq; cases hq
  unl := fun k pr a x e => by rw [e] at hq; cases hq

theorem lpRet_notFound {key val : Nat → Int} {o : OpK} {p : Nat} {c : Option Nat} :
    lpRet key val (notFound o p c) = absentRet o := by
  cases o <;> rfl

theorem postRet_notFound {val : Nat → Int} {o : OpK} {p : Nat} {c : Option Nat} :
    postRet val (notFound o p c) = absentRet o := by
  cases o <;> rfl

theorem opOf_notFound {key val : Nat → Int} {o : OpK} {p : Nat} {c : Option Nat} :
    opOf key val (notFound o p c) = if absentRet o = none then some (gop key val o) else none := by
  cases o <;> rfl

theorem notFound_ne {o : OpK} {p : Nat} {c : Option Nat} :
    notFound o p c ≠ .idle ∧ notFound o p c ≠ .done [1] ∧ ∀ k pr a x, notFound o p c ≠ .eUnl k pr a x := by
  cases o <;> simp [notFound]

/-- `search` returns false: the answer "absent" was fixed before, or is correct now; an insert goes on to `link_node`. -/
theorem PcEff.notFound {key val : Nat → Int} {H : Int → Int → Prop} {p : PC} {o : OpK} {pr : Nat} {c : Option Nat}
    (hop : opOf key val p = some (gop key val o))
    (h : lpRet key val p = absentRet o ∨
      (lpRet key val p = none ∧ ∀ r, absentRet o = some r → LPok H (gop key val o) r H)) :
    PcEff key val H p (notFound o pr c) where
  lp := fun h0 r h1 => ⟨_, hop, h.elim (fun e => nomatch h0.symm.trans (e.trans (lpRet_notFound.symm.trans h1)))
    (fun h' => h'.2 r (lpRet_notFound.symm.trans h1))⟩
  keep := fun r h0 => Or.inl (lpRet_notFound.trans
    (h.elim (fun e => e.symm.trans h0) (fun h' => nomatch h'.1.symm.trans h0)))
  pkeep := fun r h0 => postRet_notFound.trans
    (h.elim (fun e => e.symm.trans (lpRet_of_postRet h0)) (fun h' => nomatch h'.1.symm.trans (lpRet_of_postRet h0)))
  op := fun h0 => (opOf_notFound.trans (if_pos (postRet_notFound ▸ h0))).trans hop.symm
  busy := ⟨fun e => (by rw [e] at hop; cases hop), notFound_ne.1⟩
  link := fun _ _ _ _ => notFound_ne.2.1
  unl := notFound_ne.2.2

/-- The traversal goes on, or has reached the end of the list. -/
theorem PcEff.advance {key val : Nat → Int} {H : Int → Int → Prop} {p : PC} {o : OpK} {pr : Nat} {nx : Option Nat}
    (hop : opOf key val p = some (gop key val o))
    (h : (nx = none ∧ lpRet key val p = absentRet o) ∨
      (lpRet key val p = none ∧ (nx = none → ∀ r, absentRet o = some r → LPok H (gop key val o) r H))) :
    PcEff key val H p (advance o pr nx) := by
  cases nx with
  | none => exact PcEff.notFound hop (h.imp (fun h' => h'.2) (fun h' => ⟨h'.1, h'.2 rfl⟩))
  | some x => exact PcEff.silent (h.elim (fun h' => nomatch h'.1) (fun h' => h'.1)) rfl hop rfl

theorem lpRet_found {key val : Nat → Int} {o : OpK} {p c : Nat} {nx : Option Nat} :
    lpRet key val (found val o p c nx) = foundRet val o c := by
  cases o <;> rfl

theorem postRet_found {val : Nat → Int} {o : OpK} {p c : Nat} {nx : Option Nat} :
    postRet val (found val o p c nx) = foundRet val o c := by
  cases o <;> rfl

theorem opOf_found {key val : Nat → Int} {o : OpK} {p c : Nat} {nx : Option Nat} :
    opOf key val (found val o p c nx) = if foundRet val o c = none then some (gop key val o) else none := by
  cases o <;> rfl

theorem found_ne {val : Nat → Int} {o : OpK} {p c : Nat} {nx : Option Nat} :
    found val o p c nx ≠ .idle ∧ ∀ k pr a x, found val o p c nx ≠ .eUnl k pr a x := by
  cases o <;> simp [found]

/-- `search` returns true: the validated `pCur` carries the key. -/
theorem PcEff.found {key val : Nat → Int} {H : Int → Int → Prop} {o : OpK} {p c : Nat} {nx : Option Nat}
    (hk : key c = okey key o) : PcEff key val H (.sChk o p c nx false) (found val o p c nx) := by
  have ht : lpRet key val (.sChk o p c nx false) = foundRet val o c := by simp [lpRet, tent, hk]
  exact {
    lp := fun h0 r h1 => by rw [lpRet_found, ← ht, h0] at h1; cases h1
    keep := fun r h0 => Or.inl (by rw [lpRet_found, ← ht]; exact h0)
    pkeep := nofun
    op := fun h0 => opOf_found.trans (if_pos (postRet_found ▸ h0))
    busy := ⟨nofun, found_ne.1⟩
    link := nofun
    unl := found_ne.2 }

/-! ### The two changes of the memory that two program counters make -/

/-- The CAS on `*pPrev` that unlinks the marked node `cur`, by its eraser or by a helping traversal: the threads
    keep what they know, the abstract map does not change. -/
theorem SInvL.unlink {s : St} {L : List Nat} {t : Tid} {p q : PC} {prev cur : Nat} (h : SInvL s L) (hpc : s.pc t = p)
    (hp : prev ∈ L ∨ s.mark prev = true) (hcas : s.next prev = some cur ∧ s.mark prev = false)
    (hcm : s.mark cur = true)
    (hT : TInv ⟨upd s.next prev (s.next cur), s.mark, s.key, s.cnt⟩ (L.erase cur) p →
      TInv ⟨upd s.next prev (s.next cur), s.mark, s.key, s.cnt⟩ (L.erase cur) q)
    (hi : insNode q = none ∨ insNode q = insNode p) (he : atUnl q = none)
    (hP : SInvL { s with next := upd s.next prev (s.next cur), pc := upd s.pc t q } (L.erase cur) →
      PcEff s.key s.val (Has s.mark s.key s.val L) p q) :
    SInvL { s with next := upd s.next prev (s.next cur), pc := upd s.pc t q } (L.erase cur) ∧
      StepEff s t { s with next := upd s.next prev (s.next cur), pc := upd s.pc t q } L (L.erase cur) := by
  subst hpc
  have hpL : prev ∈ L := linked_of_unmarked hp hcas.2
  have hMG := h.mem.unlink hpL hcas.2 hcas.1 hcm
  have hU : ∀ u n, insNode (s.pc u) = some n →
      n ∉ L.erase cur ∧ s.mark n = false ∧ upd s.next prev (s.next cur) n = s.next n := fun u n e =>
    ⟨fun hm => (h.priv u n e).2.1 (List.mem_of_mem_erase hm), (h.priv u n e).2.2,
      upd_other _ _ _ _ fun e' => (h.priv u n e).2.1 (e' ▸ hpL)⟩
  have hS := h.write (s' := { s with next := upd s.next prev (s.next cur), pc := upd s.pc t q }) rfl hMG
    (fun u _ => hU u)
    (hT ((h.thread t).stable h.mem hMG.2 (fun n e => ⟨(hU t n e).1, (hU t n e).2.1⟩)
      (fun n c e => (hU t n (atCas_insNode e)).2.2)))
    (fun u hu => (h.excl (Ne.symm hu)).mono hi (Or.inl he))
  exact ⟨hS, StepEff.hidden rfl rfl rfl rfl hMG.2 (fun _ e => e) (has_erase h.mem.nodup hcm) (hP hS)⟩

/-- A store into the node `n` that `t` owns: no other thread knows anything about `n`. -/
theorem SInvL.store {s : St} {L : List Nat} {t : Tid} {p q : PC} {n : Nat} {v : Option Nat} (h : SInvL s L)
    (hpc : s.pc t = p) (hn : insNode p = some n) (hc : atCas p = none)
    (hT : TInv ⟨upd s.next n v, upd s.mark n false, s.key, s.cnt⟩ L p →
      TInv ⟨upd s.next n v, upd s.mark n false, s.key, s.cnt⟩ L q)
    (hi : insNode q = none ∨ insNode q = insNode p) (he : atUnl q = none)
    (hP : PcEff s.key s.val (Has s.mark s.key s.val L) p q) :
    SInvL { s with next := upd s.next n v, mark := upd s.mark n false, pc := upd s.pc t q } L ∧
      StepEff s t { s with next := upd s.next n v, mark := upd s.mark n false, pc := upd s.pc t q } L L := by
  subst hpc
  have hn' := h.priv t n hn
  have hMG := h.mem.store (v := v) hn'
  have hmk : ∀ a, upd s.mark n false a = s.mark a := congrFun (upd_eq_self hn'.2.2)
  refine ⟨h.write (s' := { s with next := upd s.next n v, mark := upd s.mark n false, pc := upd s.pc t q }) rfl hMG
    (fun u hu n' e => ?_)
    (hT ((h.thread t).stable h.mem hMG.2 (fun n1 e => ⟨(h.priv t n1 e).2.1, (hmk n1).trans (h.priv t n1 e).2.2⟩)
      (fun n1 c e => nomatch hc.symm.trans e)))
    (fun u hu => (h.excl (Ne.symm hu)).mono hi (Or.inl he)),
    StepEff.hidden rfl rfl rfl rfl hMG.2 (fun a e => (hmk a).symm.trans e)
      (by rw [upd_eq_self hn'.2.2]; exact fun _ _ => Iff.rfl) hP⟩
  have hne : n' ≠ n := fun e' => hu (h.own u t n (e' ▸ e) hn)
  exact ⟨(h.priv u n' e).2.1, (hmk n').trans (h.priv u n' e).2.2, upd_other _ _ _ _ hne⟩

end CdsVerif.Algo.Michael
