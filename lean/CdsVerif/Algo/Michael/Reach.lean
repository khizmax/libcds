/-
  The MichaelList invariant holds in every reachable state; consequences.
-/
import CdsVerif.Algo.Michael.StepSearch
import CdsVerif.Algo.Michael.StepCas
namespace CdsVerif.Algo.Michael
open CdsVerif.Machine CdsVerif.Spec CdsVerif.Lin

structure InvokeEff (s : St) (t : Tid) (op : GOp) (s' : St) (L : List Nat) : Prop where
  frame : ∀ t2, t2 ≠ t → s'.pc t2 = s.pc t2
  ops : ∀ t2, t2 ≠ t → opOf s'.key s'.val (s.pc t2) = opOf s.key s.val (s.pc t2)
  lps : ∀ t2, t2 ≠ t → lpRet s'.key s'.val (s.pc t2) = lpRet s.key s.val (s.pc t2)
  posts : ∀ t2, t2 ≠ t → postRet s'.val (s.pc t2) = postRet s.val (s.pc t2)
  was : s.pc t = .idle
  now : opOf s'.key s'.val (s'.pc t) = some op ∧ lpRet s'.key s'.val (s'.pc t) = none
  abs : ∀ k v, Has s'.mark s'.key s'.val L k v ↔ Has s.mark s.key s.val L k v
  mark : s'.mark = s.mark
  next : s'.next = s.next

/-- Invoking an operation that brings no node of its own. -/
theorem sinvl_invoke_ro {s : St} {t : Tid} {L : List Nat} {o : OpK} (h : SInvL s L) (hpc : s.pc t = .idle)
    (ho : opNode o = none) :
    SInvL { s with pc := upd s.pc t (.sLd1 o) } L ∧
      InvokeEff s t (gop s.key s.val o) { s with pc := upd s.pc t (.sLd1 o) } L :=
  ⟨h.move hpc (TInv.sLd1 fun n e => nomatch ho.symm.trans e) (Or.inl ho) rfl,
   { frame := fun u hu => upd_other _ _ _ _ hu, ops := fun _ _ => rfl, lps := fun _ _ => rfl, posts := fun _ _ => rfl,
     was := hpc, now := by simp [opOf, lpRet], abs := fun _ _ => Iff.rfl, mark := rfl, next := rfl }⟩

theorem sinvl_invoke {s s' : St} {t : Tid} {op : GOp} {L : List Nat}
    (h : SInvL s L) (hs : invoke s t op = some s') : SInvL s' L ∧ InvokeEff s t op s' L := by
  obtain ⟨name, args⟩ := op
  unfold invoke at hs
  split at hs
  next k v hpc hname hargs =>
    simp at hs; subst hs
    dsimp only at hname hargs; subst hname hargs
    have hlt : ∀ u n, insNode (s.pc u) = some n ∨ pcCur (s.pc u) = some n → n ≠ s.cnt := fun u n e =>
      Nat.ne_of_lt (e.elim (fun e => (h.priv u n e).1) (fun e => h.mem.lt_cnt (h.lkCur u n e).2))
    have hold : ∀ (f : Nat → Int) (x : Int) u n, insNode (s.pc u) = some n ∨ pcCur (s.pc u) = some n →
        upd f s.cnt x n = f n := fun f x u n e => upd_other _ _ _ _ (hlt u n e)
    have hne : ∀ a, a ∈ L → a ≠ s.cnt := fun a ha => Nat.ne_of_lt (h.alloc a ha)
    refine ⟨h.write (t := t) (q := .sLd1 (.ins s.cnt)) rfl (h.mem.fresh k)
      (fun u _ n e => ⟨(h.priv u n e).2.1, (h.priv u n e).2.2, rfl⟩)
      (TInv.sLd1 fun n e => Option.some.inj e ▸
        ⟨Nat.lt_succ_self _, fun hm => hne _ hm rfl, (h.unalloc _ (Nat.le_refl _)).2⟩)
      (fun u _ => ⟨fun n e1 e2 => hlt u n (Or.inl e2) (Option.some.inj e1).symm, nofun⟩), ?_⟩
    exact {
      frame := fun u hu => upd_other _ _ _ _ hu
      ops := fun u _ => opOf_congr fun n e => ⟨hold _ _ u n (Or.inl e), hold _ _ u n (Or.inl e)⟩
      lps := fun u _ => lpRet_congr (fun n e => hold _ _ u n (Or.inl e))
        fun c e => ⟨hold _ _ u c (Or.inr e), hold _ _ u c (Or.inr e)⟩
      posts := fun u _ => postRet_congr fun c e => hold _ _ u c (Or.inr e)
      was := hpc
      now := by simp [opOf, lpRet, gop]
      abs := fun k' v' => exists_congr fun a => and_congr_right fun ha => by
        dsimp only
        rw [upd_other _ _ _ _ (hne a ha), upd_other _ _ _ _ (hne a ha)]
      mark := rfl
      next := rfl }
  next k hpc hname hargs =>
    simp at hs; subst hs
    dsimp only at hname hargs; subst hname hargs
    exact sinvl_invoke_ro (o := .era k) h hpc rfl
  next k hpc hname hargs =>
    simp at hs; subst hs
    dsimp only at hname hargs; subst hname hargs
    exact sinvl_invoke_ro (o := .fnd k) h hpc rfl
  next k hpc hname hargs =>
    simp at hs; subst hs
    dsimp only at hname hargs; subst hname hargs
    exact sinvl_invoke_ro (o := .con k) h hpc rfl
  next => simp at hs

theorem sinvl_result {s s' : St} {t : Tid} {r : GRet} {L : List Nat}
    (h : SInvL s L) (hs : result s t = some (s', r)) :
    SInvL s' L ∧ s.pc t = .done r ∧ s'.pc t = .idle ∧ (∀ t2, t2 ≠ t → s'.pc t2 = s.pc t2) ∧
      s'.key = s.key ∧ s'.val = s.val ∧ s'.mark = s.mark ∧ s'.next = s.next := by
  unfold result at hs
  split at hs
  next r' hpc =>
    simp at hs; obtain ⟨rfl, rfl⟩ := hs
    exact ⟨h.move hpc TInv.idle (Or.inl rfl) rfl, hpc, upd_same _ _ _, fun t2 h2 => upd_other _ _ _ _ h2,
      rfl, rfl, rfl, rfl⟩
  next => simp at hs

theorem sinvl_step {s s' : St} {t : Tid} {ev : Ev} {L : List Nat}
    (h : SInvL s L) (hs : step s t = some (s', ev)) : ∃ L', SInvL s' L' ∧ StepEff s t s' L L' := by
  cases hpc : s.pc t with
  | idle => simp [step, hpc] at hs
  | done r => simp [step, hpc] at hs
  | sLd1 o => exact sinvl_step_sLd1 h hpc hs
  | sLd2 o p => exact sinvl_step_sLd2 h hpc hs
  | sNx1 o p c => exact sinvl_step_sNx1 h hpc hs
  | sNx2 o p c nx mk => exact sinvl_step_sNx2 h hpc hs
  | sChk o p c nx mk => exact sinvl_step_sChk h hpc hs
  | sHelp o p c nx => exact sinvl_step_sHelp h hpc hs
  | iSt n p c => exact sinvl_step_iSt h hpc hs
  | iCas n p c => exact sinvl_step_iCas h hpc hs
  | iClr n => exact sinvl_step_iClr h hpc hs
  | eMark k p c nx => exact sinvl_step_eMark h hpc hs
  | eUnl k p c nx => exact sinvl_step_eUnl h hpc hs

theorem sinv_apply {s s' : St} {t : Tid} {a : Act} {o : Obs} (h : SInv s)
    (hap : model.apply s t a = some (s', o)) : SInv s' := by
  obtain ⟨L, hl⟩ := h
  rcases Model.apply_cases hap with ⟨op, -, hs1, -⟩ | ⟨e, -, hs1, -⟩ | ⟨r, -, hs1, -⟩
  · exact ⟨L, (sinvl_invoke hl hs1).1⟩
  · obtain ⟨L', hl', -⟩ := sinvl_step hl hs1
    exact ⟨L', hl'⟩
  · exact ⟨L, (sinvl_result hl hs1).1⟩

theorem sinv_reachable (s : St) (h : model.Reachable init s) : SInv s :=
  model.inv_reachable SInv init ⟨[0], sinv_init⟩ (fun _ _ _ _ _ hi hap => sinv_apply hi hap) s h

/-! ### Every action: what happens to marked nodes and to linked nodes -/

structure ApplyEff (s s' : St) (L L' : List Nat) : Prop where
  frz : ∀ a, s.mark a = true → s'.mark a = true ∧ s'.next a = s.next a
  mono : ∀ a, (a ∈ L ∨ s.mark a = true) → (a ∈ L' ∨ s'.mark a = true)

theorem sinvl_apply {s s' : St} {t : Tid} {a : Act} {o : Obs} {L : List Nat} (hl : SInvL s L)
    (hap : model.apply s t a = some (s', o)) : ∃ L', SInvL s' L' ∧ ApplyEff s s' L L' := by
  rcases Model.apply_cases hap with ⟨op, -, hs1, -⟩ | ⟨e, -, hs1, -⟩ | ⟨r, -, hs1, -⟩
  · obtain ⟨h1, h2⟩ := sinvl_invoke hl hs1
    exact ⟨L, h1, ⟨fun a ha => by rw [h2.mark, h2.next]; exact ⟨ha, rfl⟩, fun a ha => by rw [h2.mark]; exact ha⟩⟩
  · obtain ⟨L', hl', he⟩ := sinvl_step hl hs1
    exact ⟨L', hl', ⟨he.frz, he.mono⟩⟩
  · obtain ⟨h1, -, -, -, -, -, h6, h7⟩ := sinvl_result hl hs1
    exact ⟨L, h1, ⟨fun a ha => by rw [h6, h7]; exact ⟨ha, rfl⟩, fun a ha => by rw [h6]; exact ha⟩⟩

/-! ### The abstract state, computed -/

/-- All linked nodes (marked or not), in list order (fuel: the number of nodes ever allocated). -/
def absNodes (s : St) : List Nat := (walk s.next s.cnt (some 0)).tail

/-- The abstract map: the `(key, payload)` pairs of the unmarked linked nodes, in list (= key) order. -/
def absMap (s : St) : List (Int × Int) :=
  ((absNodes s).filter (fun a => !s.mark a)).map (fun a => (s.key a, s.val a))

theorem SInvL.walk_eq {s : St} {L : List Nat} (h : SInvL s L) : walk s.next s.cnt (some 0) = L :=
  walk_of_chain h.chain (length_le_of_nodup_lt h.mem.nodup (fun a ha => h.alloc a ha))

theorem SInvL.absNodes_eq {s : St} {L : List Nat} (h : SInvL s L) : L = 0 :: absNodes s := by
  obtain ⟨l, hl⟩ := h.mem.head_cons
  simp [absNodes, h.walk_eq, hl]

theorem SInvL.absNodes_pos {s : St} {L : List Nat} (h : SInvL s L) : ∀ a, a ∈ absNodes s → a ≠ 0 := by
  intro a ha
  have hs := h.sorted
  rw [h.absNodes_eq] at hs
  exact ((List.pairwise_cons.mp hs).1 a ha).1

theorem SInvL.absNodes_sorted {s : St} {L : List Nat} (h : SInvL s L) :
    (absNodes s).Pairwise (fun a b => s.key a < s.key b) := by
  have hs := h.sorted
  rw [h.absNodes_eq] at hs
  refine List.Pairwise.imp_of_mem ?_ (List.pairwise_cons.mp hs).2
  intro a b ha _ hab
  rcases hab.2 with h0 | h0
  · exact absurd h0 (h.absNodes_pos a ha)
  · exact h0

theorem SInvL.has_iff {s : St} {L : List Nat} (h : SInvL s L) (k v : Int) :
    Has s.mark s.key s.val L k v ↔ (k, v) ∈ absMap s := by
  have hp := h.absNodes_pos
  rw [h.absNodes_eq]
  simp only [Has, absMap, List.mem_map, List.mem_filter, List.mem_cons, Prod.mk.injEq, Bool.not_eq_true']
  constructor
  · rintro ⟨a, ha | ha, h0, h1, h2, h3⟩
    · exact absurd ha h0
    · exact ⟨a, ⟨ha, h1⟩, h2, h3⟩
  · rintro ⟨a, ⟨ha, h1⟩, h2, h3⟩
    exact ⟨a, Or.inr ha, hp a ha, h1, h2, h3⟩

/-- The keys of the abstract map are strictly increasing: no key is present twice. -/
theorem SInvL.absMap_sorted {s : St} {L : List Nat} (h : SInvL s L) :
    (absMap s).Pairwise (fun p q => p.1 < q.1) := by
  unfold absMap
  rw [List.pairwise_map]
  exact h.absNodes_sorted.filter _

theorem mfind_iff_mem : ∀ {m : MapSt}, m.Pairwise (fun p q => p.1 ≠ q.1) → ∀ k v, mfind m k = some v ↔ (k, v) ∈ m
  | [], _, k, v => by simp [mfind]
  | (k1, v1) :: m, hpw, k, v => by
    have hpw' := List.pairwise_cons.mp hpw
    rw [mfind_cons, List.mem_cons]
    by_cases e : k = k1
    · subst e
      simp only [if_true, Option.some.injEq, Prod.mk.injEq, true_and]
      constructor
      · intro h; exact Or.inl h.symm
      · rintro (h | h)
        · exact h.symm
        · exact absurd rfl (hpw'.1 (k, v) h)
    · simp only [e, if_false, Prod.mk.injEq, false_and, false_or]
      exact mfind_iff_mem hpw'.2 k v

theorem SInvL.mfind_absMap {s : St} {L : List Nat} (h : SInvL s L) (k v : Int) :
    mfind (absMap s) k = some v ↔ Has s.mark s.key s.val L k v := by
  rw [h.has_iff]
  exact mfind_iff_mem (h.absMap_sorted.imp (fun hlt => Int.ne_of_lt hlt)) k v

/-! ### Reachable states -/

/-- In every reachable state: following the pointers from `m_pHead` visits the finite list `absNodes` and ends in
    null; the visited nodes (marked ones included) are strictly sorted by key, hence pairwise different; they are
    allocated nodes; `m_pHead` itself is never marked. -/
theorem reachable_structure (s : St) (h : model.Reachable init s) :
    Chain s.next (some 0) (0 :: absNodes s) ∧ (absNodes s).Pairwise (fun a b => s.key a < s.key b) ∧
      (absNodes s).Nodup ∧ (∀ a, a ∈ absNodes s → 0 < a ∧ a < s.cnt) ∧ s.mark 0 = false := by
  obtain ⟨L, hl⟩ := sinv_reachable s h
  refine ⟨by rw [← hl.absNodes_eq]; exact hl.chain, hl.absNodes_sorted, ?_, ?_, hl.mark0⟩
  · exact hl.absNodes_sorted.imp (fun hlt e => by rw [e] at hlt; exact Int.lt_irrefl _ hlt)
  · intro a ha
    have := hl.alloc a (by rw [hl.absNodes_eq]; exact List.mem_cons_of_mem _ ha)
    have := hl.absNodes_pos a ha
    omega

/-- No key is present twice: the keys of the abstract map are strictly increasing. -/
theorem reachable_no_duplicate_keys (s : St) (h : model.Reachable init s) :
    (absMap s).Pairwise (fun p q => p.1 < q.1) ∧ ((absMap s).map (·.1)).Nodup := by
  obtain ⟨L, hl⟩ := sinv_reachable s h
  refine ⟨hl.absMap_sorted, ?_⟩
  rw [List.Nodup, List.pairwise_map]
  exact hl.absMap_sorted.imp (fun hlt => Int.ne_of_lt hlt)

/-- A marked (logically deleted) node is frozen: no action changes its link or removes its mark. -/
theorem marked_frozen {s s' : St} {t : Tid} {a : Act} {o : Obs} (h : model.Reachable init s)
    (hap : model.apply s t a = some (s', o)) (x : Nat) (hx : s.mark x = true) :
    s'.mark x = true ∧ s'.next x = s.next x := by
  obtain ⟨L, hl⟩ := sinv_reachable s h
  obtain ⟨L', -, he⟩ := sinvl_apply hl hap
  exact he.frz x hx

/-- Only marked nodes leave the list, and nothing else ever does: a node that is linked or marked stays linked or
    marked.  (A node that is linked and not marked is on the chain from the head.) -/
theorem linked_or_marked_forever {s s' : St} {t : Tid} {a : Act} {o : Obs} (h : model.Reachable init s)
    (hap : model.apply s t a = some (s', o)) (x : Nat) (hx : x ∈ absNodes s ∨ s.mark x = true) :
    x ∈ absNodes s' ∨ s'.mark x = true := by
  obtain ⟨L, hl⟩ := sinv_reachable s h
  obtain ⟨L', hl', he⟩ := sinvl_apply hl hap
  have hx' : x ∈ L ∨ s.mark x = true := by
    rcases hx with hx | hx
    · left; rw [hl.absNodes_eq]; exact List.mem_cons_of_mem _ hx
    · exact Or.inr hx
  rcases he.mono x hx' with h1 | h1
  · rw [hl'.absNodes_eq] at h1
    rcases List.mem_cons.mp h1 with h0 | h0
    · subst h0
      rcases hx with hx | hx
      · exact absurd rfl (hl.absNodes_pos 0 hx)
      · rw [hl.mark0] at hx; simp at hx
    · exact Or.inl h0
  · exact Or.inr h1

/-- The successful CAS of `link_node` puts the new node on the chain. -/
theorem insert_links {s s' : St} {t : Tid} {ev : Ev} (h : model.Reachable init s) (hs : step s t = some (s', ev))
    (n p : Nat) (c : Option Nat) (hpc : s.pc t = .iCas n p c) (hpc' : s'.pc t = .done [1]) :
    n ∈ absNodes s' ∧ s'.mark n = false := by
  obtain ⟨L, hl⟩ := sinv_reachable s h
  obtain ⟨L', hl', he⟩ := sinvl_step hl hs
  have h1 := he.link n p c hpc hpc'
  have hn := hl.priv t n (by simp [hpc, insNode])
  have hn0 : n ≠ 0 := fun e => hn.2.1 (e ▸ hl.mem.zero_mem)
  rw [hl'.absNodes_eq] at h1
  refine ⟨by simpa [hn0] using h1, ?_⟩
  cases hm : s'.mark n with
  | false => rfl
  | true =>
    obtain ⟨k, p', x, e1, -⟩ := he.marks n hn.2.2 hm
    rw [hpc] at e1; simp at e1

/-- A node is marked by exactly one `erase`, the one that returns success for it.
    (1) The only step that sets the mark of a node `a` is the marking CAS of a thread erasing `key a`, applied to a
        linked node; that thread is then definitively going to return `[1, val a]`.
    (2) A thread is in that state (`eUnl … a …`) only by having set the mark of `a` in its last step; no two threads
        are in that state for the same node; and a mark is never removed (`marked_frozen`), so no second marking of
        `a` can ever happen. -/
theorem erase_once {s s' : St} {t : Tid} {ev : Ev} (h : model.Reachable init s) (hs : step s t = some (s', ev)) :
    (∀ a, s.mark a = false → s'.mark a = true →
      ∃ k p x, s.pc t = .eMark k p a x ∧ s'.pc t = .eUnl k p a x ∧ s.key a = k ∧ a ∈ absNodes s ∧
        postRet s'.val (s'.pc t) = some [1, s.val a]) ∧
    (∀ k p a x, s'.pc t = .eUnl k p a x → s.mark a = false ∧ s'.mark a = true) ∧
    (∀ t1 t2 k1 p1 a x1 k2 p2 x2, s'.pc t1 = .eUnl k1 p1 a x1 → s'.pc t2 = .eUnl k2 p2 a x2 → t1 = t2) := by
  obtain ⟨L, hl⟩ := sinv_reachable s h
  obtain ⟨L', hl', he⟩ := sinvl_step hl hs
  refine ⟨?_, he.unl, hl'.eown⟩
  intro a h1 h2
  obtain ⟨k, p, x, e1, e2, e3, e4⟩ := he.marks a h1 h2
  have ha0 : a ≠ 0 := by
    intro e; rw [e, hl'.mark0] at h2; simp at h2
  refine ⟨k, p, x, e1, e2, e3, ?_, by rw [e2, he.val]; rfl⟩
  rw [hl.absNodes_eq] at e4
  simpa [ha0] using e4

/-- Refinement on `absMap`: in a reachable state, the step at which thread `t` fixes its result `r` — tentatively
    for the hindsight points — is the `Spec.map` transition of `t`'s operation with result `r` from the abstract map
    before the step to (a representation of) the abstract map after the step; every other step leaves the abstract
    map unchanged. -/
theorem step_refines {s s' : St} {t : Tid} {ev : Ev} (h : model.Reachable init s) (hs : step s t = some (s', ev)) :
    (lpRet s.key s.val (s.pc t) = none → ∀ r, lpRet s'.key s'.val (s'.pc t) = some r →
      ∃ op m', opOf s.key s.val (s.pc t) = some op ∧ Spec.map.next (absMap s) op r = some m' ∧
        ∀ k v, mfind m' k = some v ↔ (k, v) ∈ absMap s') ∧
    ((lpRet s.key s.val (s.pc t) ≠ none ∨ lpRet s'.key s'.val (s'.pc t) = none) →
      ∀ k v, (k, v) ∈ absMap s' ↔ (k, v) ∈ absMap s) := by
  obtain ⟨L, hl⟩ := sinv_reachable s h
  obtain ⟨L', hl', he⟩ := sinvl_step hl hs
  constructor
  · intro h1 r h2
    obtain ⟨op, ho, hok⟩ := he.lp h1 r h2
    obtain ⟨m', hm1, hm2⟩ := hok (absMap s) hl.mfind_absMap
    exact ⟨op, m', ho, hm1, fun k v => (hm2 k v).trans (hl'.has_iff k v)⟩
  · intro hc k v
    rw [← hl'.has_iff, ← hl.has_iff]
    exact he.nolp hc k v

end CdsVerif.Algo.Michael
