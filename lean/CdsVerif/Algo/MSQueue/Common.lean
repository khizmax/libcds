/-
  The invariant that the Michael–Scott queue machine and the MoirQueue machine have in common, in thread-modular form.

  Both machines keep `head`, `tail`, the `next` links and the allocation counter (`Mem`), and their invariants read a
  program counter only through four classifying functions (`View`).  `QInv c m vw l` is the invariant over a memory
  `m`, the views `vw` of all threads and the chain `l` from `head`; it consists of clauses about the memory alone
  (`MInv`), about the memory and ONE thread's view (`TInv`), and the exclusive ownership of private nodes.  The
  parameter `c` says whether `head` may overtake `tail` (MoirQueue) or not (Michael–Scott).

  A step of thread `t` replaces the view of `t` and changes a little memory, so after it
    * the other threads' `TInv` has to survive the change of the memory,
    * `TInv` has to be established for the new view of `t`,
    * no other thread may own the node `t` owns now.
  `QInv.frame` is this rule; `QInv.move`, `QInv.tail_adv`, `QInv.link`, `QInv.head_adv` and `QInv.alloc` are its
  instances for the five kinds of step the two machines have.
-/
import CdsVerif.Algo.QueueLin.Chain
namespace CdsVerif.Algo.MSQueue.Common
open CdsVerif.Machine CdsVerif.Algo.QueueLin

/-- The shared memory of a queue state: everything but the payloads and the program counters. -/
structure Mem where
  head : Nat
  tail : Nat
  next : Nat → Option Nat
  cnt : Nat

/-- What the invariant reads of a program counter. -/
structure View where
  /-- the node an enqueuer still owns privately -/
  node : Option Nat
  /-- a link `a.next = x` the thread has observed or created and relies on -/
  link : Option (Nat × Nat)
  /-- the tail candidate behind which an enqueuer may still try to link its node -/
  enqT : Option Nat
  /-- the head candidate of a dequeuer, and whether the dequeuer has found it different from `tail` -/
  deqH : Option (Nat × Bool)

/-- `a` has been allocated and is not private to any thread. -/
def Published (cnt : Nat) (vw : Tid → View) (a : Nat) : Prop := a < cnt ∧ ∀ t, (vw t).node ≠ some a

/-- The clauses about the memory alone; `pub` is the set of published nodes. -/
structure MInv (c : Prop) (m : Mem) (l : List Nat) (pub : Nat → Prop) : Prop where
  chain : Chain m.next (some m.head) l
  nodup : l.Nodup
  chainpub : ∀ a, a ∈ l → pub a
  alloc : ∀ a, pub a → a < m.cnt
  gone : ∀ a, pub a → a ∉ l → m.next a ≠ none
  tailin : m.tail ∈ l ∨ (c ∧ m.next m.tail = some m.head)
  tailpub : pub m.tail
  lag : ∀ x, m.next m.tail = some x → m.next x = none
  unalloc : ∀ a, m.cnt ≤ a → m.next a = none

/-- The clauses about one thread with view `v`.  `pub` occurs positively only, so they survive when nodes are
    published. -/
structure TInv (c : Prop) (m : Mem) (l : List Nat) (pub : Nat → Prop) (v : View) : Prop where
  priv : ∀ n, v.node = some n → n < m.cnt ∧ m.next n = none
  link : ∀ a x, v.link = some (a, x) → m.next a = some x
  enqt : ∀ a, v.enqT = some a → pub a ∧ (m.next a = none → m.tail = a)
  deqh : ∀ h b, v.deqH = some (h, b) → pub h ∧ (h ∈ l → m.head = h ∧ (b = true → ¬c → m.tail ≠ h))

structure QInv (c : Prop) (m : Mem) (vw : Tid → View) (l : List Nat) : Prop where
  mem : MInv c m l (Published m.cnt vw)
  thr : ∀ t, TInv c m l (Published m.cnt vw) (vw t)
  own : ∀ t u n, (vw t).node = some n → (vw u).node = some n → t = u

variable {c : Prop} {m : Mem} {l : List Nat} {pub : Nat → Prop} {v w : View} {vw : Tid → View} {t : Tid}

/-! ### The memory clauses under the four kinds of memory change -/

theorem MInv.head_cons (h : MInv c m l pub) : ∃ r, l = m.head :: r := by
  have hc := h.chain
  cases l with
  | nil => simp [Chain] at hc
  | cons a r =>
    simp only [Chain, Option.some.injEq] at hc
    exact ⟨r, by rw [hc.1]⟩

theorem MInv.cons_cons (h : MInv c m l pub) {x : Nat} (hx : m.next m.head = some x) : ∃ r, l = m.head :: x :: r := by
  obtain ⟨r, hr⟩ := h.head_cons
  have hch := h.chain
  rw [hr] at hch
  simp only [Chain, true_and, hx] at hch
  cases r with
  | nil => cases hch
  | cons b r' => exact ⟨r', by rw [hr, Option.some.inj hch.1]⟩

theorem MInv.head_mem (h : MInv c m l pub) : m.head ∈ l := by
  obtain ⟨r, hr⟩ := h.head_cons
  rw [hr]
  exact List.mem_cons_self

/-- A published node with a null link is on the chain. -/
theorem MInv.mem_of_null (h : MInv c m l pub) {a : Nat} (hp : pub a) (hn : m.next a = none) : a ∈ l :=
  Classical.byContradiction fun hal => h.gone a hp hal hn

/-- The successor `x` of `tail` is the last node of the chain (it is `head` itself when the two had crossed). -/
theorem MInv.tail_succ (h : MInv c m l pub) {x : Nat} (hx : m.next m.tail = some x) :
    x ∈ l ∧ m.next x = none ∧ (¬c → x ≠ m.head) := by
  obtain ⟨r, hr⟩ := h.head_cons
  refine ⟨?_, h.lag x hx, fun hc e => ?_⟩
  · rcases h.tailin with h1 | ⟨-, h1⟩
    · exact List.mem_of_mem_tail (Chain.succ_mem h.chain h1 hx)
    · rw [hx, Option.some.injEq] at h1
      rw [hr, h1]
      exact List.mem_cons_self
  · rcases h.tailin with h1 | ⟨h1, -⟩
    · have h2 := Chain.succ_mem h.chain h1 hx
      have hnd := h.nodup
      rw [hr, List.tail_cons, e] at h2
      rw [hr] at hnd
      exact (List.nodup_cons.mp hnd).1 h2
    · exact hc h1

/-- Where `tail` is: the last or the second-to-last node of the chain, or (crossed) the node immediately behind
    `head`, outside the chain, and then the chain is `[head]`. -/
theorem MInv.tail_lag (h : MInv c m l pub) :
    (∃ l0, l = l0 ++ [m.tail] ∨ ∃ x, l = l0 ++ [m.tail, x]) ∨
    (c ∧ m.tail ∉ l ∧ m.next m.tail = some m.head ∧ l = [m.head]) := by
  by_cases hin : m.tail ∈ l
  · left
    cases hx : m.next m.tail with
    | none =>
      obtain ⟨l0, h0⟩ := Chain.last h.chain hin hx
      exact ⟨l0, Or.inl h0⟩
    | some x =>
      obtain ⟨l0, h0⟩ := Chain.last2 h.chain hin hx (h.lag x hx)
      exact ⟨l0, Or.inr ⟨x, h0⟩⟩
  · obtain ⟨hc, hx⟩ := h.tailin.resolve_left hin
    obtain ⟨r, hr⟩ := h.head_cons
    have hch := h.chain
    rw [hr] at hch
    simp only [Chain, h.lag _ hx, true_and] at hch
    exact Or.inr ⟨hc, hin, hx, by rw [hr, Chain.none_nil hch]⟩

/-- `tail` is swung to its successor. -/
theorem MInv.tail_adv (h : MInv c m l pub) {x : Nat} (hx : m.next m.tail = some x) :
    MInv c { m with tail := x } l pub :=
  have hs := h.tail_succ hx
  { h with
    tailin := Or.inl hs.1
    tailpub := h.chainpub x hs.1
    lag := fun _ hy => absurd (hs.2.1 ▸ hy) nofun }

/-- The private node `n` is linked behind the last node `a`, which is `tail`; `n` becomes published. -/
theorem MInv.link (h : MInv c m l pub) {a n : Nat} (hn : n < m.cnt ∧ m.next n = none) (hnp : ¬pub n)
    (ha : pub a ∧ (m.next a = none → m.tail = a)) (hnx : m.next a = none) :
    MInv c { m with next := upd m.next a (some n) } (l ++ [n]) (fun b => pub b ∨ b = n) := by
  have hal : a ∈ l := h.mem_of_null ha.1 hnx
  have hnl : n ∉ l := fun hm => hnp (h.chainpub n hm)
  have hna : n ≠ a := fun e => hnl (e ▸ hal)
  have hta : m.tail = a := ha.2 hnx
  refine ⟨Chain.snoc hn.2 h.chain hal hnx hnl, ?_, fun b hb => ?_, fun b hb => ?_, fun b hb hbl => ?_,
    Or.inl (List.mem_append_left _ (hta ▸ hal)), Or.inl h.tailpub, fun x hx => ?_, fun b hb => ?_⟩
  · refine List.nodup_append.mpr
      ⟨h.nodup, List.nodup_cons.mpr ⟨List.not_mem_nil, List.nodup_nil⟩, fun x hx y hy => ?_⟩
    rw [List.mem_singleton.mp hy]
    exact fun e => hnl (e ▸ hx)
  · rcases List.mem_append.mp hb with hb | hb
    · exact Or.inl (h.chainpub b hb)
    · exact Or.inr (List.mem_singleton.mp hb)
  · rcases hb with hb | hb
    · exact h.alloc b hb
    · exact hb ▸ hn.1
  · by_cases e : b = a
    · rw [e, show (Mem.next _ a) = some n from upd_same _ _ _]
      nofun
    · rw [show (Mem.next _ b) = m.next b from upd_other _ _ _ _ e]
      rcases hb with hb | hb
      · exact h.gone b hb fun hm => hbl (List.mem_append_left _ hm)
      · exact absurd (List.mem_append_right _ (List.mem_singleton.mpr hb)) hbl
  · have hx : upd m.next a (some n) a = some x := hta ▸ hx
    rw [upd_same, Option.some.injEq] at hx
    rw [← hx, show (Mem.next _ n) = m.next n from upd_other _ _ _ _ hna]
    exact hn.2
  · have hba : b ≠ a := Nat.ne_of_gt (Nat.lt_of_lt_of_le (h.alloc a ha.1) hb)
    rw [show (Mem.next _ b) = m.next b from upd_other _ _ _ _ hba]
    exact h.unalloc b hb

/-- `head` is swung from `a` to its successor `x`; `tail` is not left behind, unless the machine allows that. -/
theorem MInv.head_adv (h : MInv c m l pub) {a x : Nat} (hh : m.head = a) (hax : m.next a = some x)
    (hc : c ∨ m.tail ≠ a) : MInv c { m with head := x } l.tail pub := by
  obtain ⟨r, hr⟩ := h.head_cons
  have hch := h.chain
  have hnd := h.nodup
  rw [hr, hh] at hch hnd
  rw [hr, List.tail_cons]
  simp only [Chain, true_and, hax] at hch
  have hsub : ∀ b, b ∈ r → b ∈ l := fun b hb => hr ▸ List.mem_cons_of_mem _ hb
  refine ⟨hch, (List.nodup_cons.mp hnd).2, fun b hb => h.chainpub b (hsub b hb), h.alloc, fun b hb hbr => ?_, ?_,
    h.tailpub, h.lag, h.unalloc⟩
  · by_cases e : b = a
    · rw [e, show (Mem.next _ a) = some x from hax]
      nofun
    · refine h.gone b hb fun hm => ?_
      rw [hr, hh] at hm
      rcases List.mem_cons.mp hm with hm | hm
      · exact e hm
      · exact hbr hm
  · rcases h.tailin with h1 | ⟨-, h1⟩
    · rw [hr, hh] at h1
      rcases List.mem_cons.mp h1 with h1 | h1
      · rcases hc with hc | hc
        · exact Or.inr ⟨hc, h1 ▸ hax⟩
        · exact absurd h1 hc
      · exact Or.inl h1
    · rw [hh] at h1
      exact absurd (hax ▸ h.lag a h1) nofun

/-- A fresh node is allocated. -/
theorem MInv.alloc_node (h : MInv c m l pub) : MInv c { m with cnt := m.cnt + 1 } l pub :=
  { h with
    alloc := fun a ha => Nat.lt_succ_of_lt (h.alloc a ha)
    unalloc := fun a ha => h.unalloc a (Nat.le_of_succ_le ha) }

/-! ### The clauses of a thread that does not move, under the same changes -/

theorem TInv.stable_tail (h : TInv c m l pub v) (hM : MInv c m l pub) {x : Nat} (hx : m.next m.tail = some x) :
    TInv c { m with tail := x } l pub v :=
  { h with
    enqt := fun a e => ⟨(h.enqt a e).1, fun hn => by
      rw [← (h.enqt a e).2 hn, hx] at hn
      cases hn⟩
    deqh := fun a b e => ⟨(h.deqh a b e).1, fun ha =>
      have hh := ((h.deqh a b e).2 ha).1
      ⟨hh, fun _ hc => hh ▸ (hM.tail_succ hx).2.2 hc⟩⟩ }

theorem TInv.stable_link (h : TInv c m l pub v) {a n : Nat} (hnp : ¬pub n) (hvp : ∀ b, v.node = some b → ¬pub b)
    (ha : pub a) (hnx : m.next a = none) :
    TInv c { m with next := upd m.next a (some n) } (l ++ [n]) (fun b => pub b ∨ b = n) v where
  priv := fun b e => by
    have hba : b ≠ a := fun e' => hvp b e (e' ▸ ha)
    rw [show (Mem.next _ b) = m.next b from upd_other _ _ _ _ hba]
    exact h.priv b e
  link := fun b x e => by
    have hb := h.link b x e
    have hba : b ≠ a := by
      rintro rfl
      rw [hnx] at hb
      cases hb
    rw [show (Mem.next _ b) = m.next b from upd_other _ _ _ _ hba]
    exact hb
  enqt := fun b e => by
    refine ⟨Or.inl (h.enqt b e).1, ?_⟩
    by_cases hba : b = a
    · rw [hba, show (Mem.next _ a) = some n from upd_same _ _ _]
      nofun
    · rw [show (Mem.next _ b) = m.next b from upd_other _ _ _ _ hba]
      exact (h.enqt b e).2
  deqh := fun b f e => by
    refine ⟨Or.inl (h.deqh b f e).1, fun hb => ?_⟩
    rcases List.mem_append.mp hb with hb | hb
    · exact (h.deqh b f e).2 hb
    · exact absurd (List.mem_singleton.mp hb ▸ (h.deqh b f e).1) hnp

theorem TInv.stable_head (h : TInv c m l pub v) (hM : MInv c m l pub) {a x : Nat} (hh : m.head = a)
    (hax : m.next a = some x) : TInv c { m with head := x } l.tail pub v := by
  obtain ⟨r, hr⟩ := hM.head_cons
  have hnd := hM.nodup
  rw [hr] at hnd
  -- a head candidate on the remaining chain would have to be the old `head`, which is not on it
  exact { h with
    deqh := fun b f e => ⟨(h.deqh b f e).1, fun hb => by
      have := ((h.deqh b f e).2 (List.mem_of_mem_tail hb)).1
      rw [hr, List.tail_cons, ← this] at hb
      exact absurd hb (List.nodup_cons.mp hnd).1⟩ }

theorem TInv.stable_alloc (h : TInv c m l pub v) : TInv c { m with cnt := m.cnt + 1 } l pub v :=
  { h with priv := fun n e => ⟨Nat.lt_succ_of_lt (h.priv n e).1, (h.priv n e).2⟩ }

/-- A head candidate with a null link is `head`, and the only node of the chain: the queue is empty. -/
theorem TInv.empty (h : TInv c m l pub v) (hM : MInv c m l pub) {a : Nat} {b : Bool} (hv : v.deqH = some (a, b))
    (hn : m.next a = none) : m.head = a ∧ l = [a] := by
  have hd := h.deqh a b hv
  have hh := (hd.2 (hM.mem_of_null hd.1 hn)).1
  obtain ⟨r, hr⟩ := hM.head_cons
  have hch := hM.chain
  rw [hr, hh] at hch
  simp only [Chain, hn, true_and] at hch
  exact ⟨hh, by rw [hr, hh, Chain.none_nil hch]⟩

/-! ### The rule for a step, and its instances -/

theorem published_upd_iff {cnt a : Nat} :
    Published cnt (upd vw t w) a ↔ a < cnt ∧ w.node ≠ some a ∧ ∀ u, u ≠ t → (vw u).node ≠ some a :=
  and_congr_right fun _ => forall_upd_iff (T := fun _ (v : View) => v.node ≠ some a)

theorem published_iff {cnt a : Nat} :
    Published cnt vw a ↔ a < cnt ∧ (vw t).node ≠ some a ∧ ∀ u, u ≠ t → (vw u).node ≠ some a :=
  and_congr_right fun _ =>
    ⟨fun h => ⟨h t, fun u _ => h u⟩, fun h u => Classical.byCases (fun e : u = t => e ▸ h.1) (h.2 u)⟩

/-- The published nodes do not change when a thread moves to a view that owns the same node. -/
theorem published_upd {cnt : Nat} (hn : w.node = (vw t).node) : Published cnt (upd vw t w) = Published cnt vw :=
  funext fun _ => propext (published_upd_iff.trans (hn ▸ published_iff.symm))

theorem not_published {cnt n : Nat} (hn : (vw t).node = some n) : ¬Published cnt vw n :=
  fun hp => hp.2 t hn

/-- The rule for one step of thread `t`, whose view becomes `w`. -/
theorem QInv.frame {m' : Mem} {l' : List Nat} {pub' : Nat → Prop} (h : QInv c m vw l)
    (hP : ∀ a, Published m'.cnt (upd vw t w) a ↔ pub' a)
    (hM : MInv c m' l' pub')
    (hT : TInv c m' l' pub' w)
    (hO : ∀ u, u ≠ t → TInv c m' l' pub' (vw u))
    (hE : ∀ u, u ≠ t → ∀ n, w.node = some n → (vw u).node ≠ some n) : QInv c m' (upd vw t w) l' := by
  have hP : Published m'.cnt (upd vw t w) = pub' := funext fun a => propext (hP a)
  subst hP
  exact ⟨hM, forall_upd hT hO, own_upd h.own hE⟩

/-- The new view owns what the old one did: no other thread owns it. -/
theorem QInv.excl (h : QInv c m vw l) (hv : vw t = v) (hn : w.node = v.node) :
    ∀ u, u ≠ t → ∀ n, w.node = some n → (vw u).node ≠ some n :=
  fun u hu n e e' => hu (h.own u t n e' (hv ▸ hn ▸ e))

/-- A step that leaves the memory alone. -/
theorem QInv.move (h : QInv c m vw l) (hv : vw t = v) (hn : w.node = v.node)
    (hT : TInv c m l (Published m.cnt vw) w) : QInv c m (upd vw t w) l :=
  h.frame (fun _ => by rw [published_upd (hv ▸ hn)]) h.mem hT (fun u _ => h.thr u) (h.excl hv hn)

/-- A successful CAS on `tail`, from `a` to its successor `x`. -/
theorem QInv.tail_adv (h : QInv c m vw l) (hv : vw t = v) {a x : Nat} (hta : m.tail = a) (hax : m.next a = some x)
    (hn : w.node = v.node)
    (hT : TInv c { m with tail := x } l (Published m.cnt vw) v → TInv c { m with tail := x } l (Published m.cnt vw) w) :
    QInv c { m with tail := x } (upd vw t w) l :=
  have hx : m.next m.tail = some x := hta ▸ hax
  h.frame (fun _ => by rw [published_upd (hv ▸ hn)]) (h.mem.tail_adv hx)
    (hT (hv ▸ (h.thr t).stable_tail h.mem hx)) (fun u _ => (h.thr u).stable_tail h.mem hx) (h.excl hv hn)

/-- The successful CAS on `a.next` that links the private node `n` of `t` behind its tail candidate `a`. -/
theorem QInv.link (h : QInv c m vw l) (hv : vw t = v) {a n : Nat} (hvn : v.node = some n) (hva : v.enqT = some a)
    (hnx : m.next a = none) (hw : w = ⟨none, some (a, n), none, none⟩) :
    QInv c { m with next := upd m.next a (some n) } (upd vw t w) (l ++ [n]) := by
  have hT := h.thr t
  rw [hv] at hT
  have hvn' : (vw t).node = some n := hv ▸ hvn
  have hnp : ¬Published m.cnt vw n := not_published hvn'
  have ha := hT.enqt a hva
  subst hw
  refine h.frame (pub' := fun b => Published m.cnt vw b ∨ b = n) (fun b => published_upd_iff.trans ?_)
    (h.mem.link (hT.priv n hvn) hnp ha hnx)
    ⟨nofun, fun b x e => by
      cases e
      exact upd_same _ _ _, nofun, nofun⟩
    (fun u _ => (h.thr u).stable_link hnp (fun _ e => not_published e) ha.1 hnx) (fun _ _ _ => nofun)
  rw [published_iff (t := t), hvn']
  constructor
  · rintro ⟨h1, -, h3⟩
    exact Classical.byCases Or.inr fun e => Or.inl ⟨h1, fun e' => e (Option.some.inj e').symm, h3⟩
  · rintro (⟨h1, -, h3⟩ | e)
    · exact ⟨h1, nofun, h3⟩
    · exact ⟨e ▸ (hT.priv n hvn).1, nofun, fun u hu e' => hu (h.own u t n (e ▸ e') hvn')⟩

/-- The successful CAS on `head`, from `a` to its successor `x`. -/
theorem QInv.head_adv (h : QInv c m vw l) (hv : vw t = v) {a x : Nat} (hh : m.head = a) (hvl : v.link = some (a, x))
    {b : Bool} (hva : v.deqH = some (a, b)) (hc : c ∨ b = true) (hn : w.node = v.node)
    (hT : TInv c { m with head := x } l.tail (Published m.cnt vw) v →
      TInv c { m with head := x } l.tail (Published m.cnt vw) w) :
    QInv c { m with head := x } (upd vw t w) l.tail := by
  have hTt := h.thr t
  rw [hv] at hTt
  have hax := hTt.link a x hvl
  have hc' : c ∨ m.tail ≠ a := by
    rcases hc with hc | hc
    · exact Or.inl hc
    · exact Classical.byCases Or.inl fun hnc =>
        Or.inr (((hTt.deqh a b hva).2 (hh ▸ h.mem.head_mem)).2 hc hnc)
  exact h.frame (fun _ => by rw [published_upd (hv ▸ hn)]) (h.mem.head_adv hh hax hc')
    (hT (hTt.stable_head h.mem hh hax)) (fun u _ => (h.thr u).stable_head h.mem hh hax) (h.excl hv hn)

/-- An idle thread allocates a fresh node, which it owns. -/
theorem QInv.alloc (h : QInv c m vw l) (hv : (vw t).node = none) (hw : w = ⟨some m.cnt, none, none, none⟩) :
    QInv c { m with cnt := m.cnt + 1 } (upd vw t w) l := by
  subst hw
  have hfresh : ∀ u, (vw u).node ≠ some m.cnt := fun u e => Nat.lt_irrefl _ ((h.thr u).priv _ e).1
  refine h.frame (pub' := Published m.cnt vw) (fun b => published_upd_iff.trans ?_) h.mem.alloc_node
    ⟨fun n e => ?_, nofun, nofun, nofun⟩ (fun u _ => (h.thr u).stable_alloc)
    (fun u _ n e => Option.some.inj e ▸ hfresh u)
  · rw [published_iff (t := t), hv]
    constructor
    · intro ⟨h1, h2, h3⟩
      have hb : b ≠ m.cnt := fun e => h2 (e ▸ rfl)
      exact ⟨Nat.lt_of_le_of_ne (Nat.le_of_lt_succ h1) hb, nofun, h3⟩
    · rintro ⟨h1, -, h3⟩
      exact ⟨Nat.lt_succ_of_lt h1, fun e => Nat.lt_irrefl _ (Option.some.inj e ▸ h1), h3⟩
  · cases e
    exact ⟨Nat.lt_succ_self _, h.mem.unalloc _ (Nat.le_refl _)⟩

end CdsVerif.Algo.MSQueue.Common
