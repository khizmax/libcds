/-
  Structural invariant of the Michael–Scott queue model and the refinement of the abstract queue.

  * `Chain s.next (some s.head) l` : following `next` from `head` visits exactly the nodes `l` (the first one is
    `head`, i.e. the current dummy) and then null.
  * `SInvL s l` : the chain `l` is duplicate-free and consists of published nodes; `tail` is on the chain and is
    its last or second-to-last node (`tailin`, `lag`); nodes still private to an enqueuer and nodes already
    dequeued (behind `head`) are outside the chain and stay outside (garbage-collected heap); a node behind
    `head` has a non-null `next` for ever (`gone`).
  * `absQueue s` : the values of the nodes strictly after `head`.
  * Linearization points.  `enqueue`: the successful CAS on `t->m_pNext`.  Non-empty `dequeue`: the successful
    CAS on `m_pHead`.  Empty `dequeue`: the validating load of `h->m_pNext` that confirms null — at that instant
    `h` is still `head` and the queue is empty; but the result is fixed only by the later re-validation
    `m_pHead.load() == h`, which may fail and restart the loop.  `lpRet` therefore distinguishes a TENTATIVE
    linearization (pc `deqChk h none`, result `[0]`, may still be withdrawn) from a definitive one (`postRet`).
    Withdrawing is sound because an empty dequeue does not change the abstract queue.
  * `step_refines` : a step that passes a linearization point is exactly one `fifo` step on `absQueue` with the
    result the operation will return (if it is not withdrawn); every other step leaves `absQueue` unchanged.
-/
import CdsVerif.Algo.MSQueue.Model
import CdsVerif.Algo.MSQueue.Common
import CdsVerif.Algo.QueueLin.History
namespace CdsVerif.Algo.MSQueue
open CdsVerif.Machine CdsVerif.Spec CdsVerif.Lin

/-! ### Chains -/

def Chain (nx : Nat → Option Nat) : Option Nat → List Nat → Prop
  | p, [] => p = none
  | p, a :: l => p = some a ∧ Chain nx (nx a) l

theorem chain_iff {nx : Nat → Option Nat} : ∀ {p : Option Nat} {l : List Nat}, Chain nx p l ↔ QueueLin.Chain nx p l
  | _, [] => Iff.rfl
  | _, _ :: _ => and_congr_right fun _ => chain_iff

theorem Chain.functional {nx : Nat → Option Nat} : ∀ {p : Option Nat} {l1 l2 : List Nat},
    Chain nx p l1 → Chain nx p l2 → l1 = l2 :=
  fun h1 h2 => QueueLin.Chain.functional (chain_iff.1 h1) (chain_iff.1 h2)

theorem Chain.upd {nx : Nat → Option Nat} {x : Nat} {v : Option Nat} :
    ∀ {p : Option Nat} {l : List Nat}, x ∉ l → Chain nx p l → Chain (upd nx x v) p l :=
  fun hx h => chain_iff.2 (QueueLin.Chain.upd hx (chain_iff.1 h))

/-- Executable chain walk with fuel. -/
def walk (nx : Nat → Option Nat) : Nat → Option Nat → List Nat
  | 0, _ => []
  | _ + 1, none => []
  | f + 1, some a => a :: walk nx f (nx a)

theorem walk_none (nx : Nat → Option Nat) (f : Nat) : walk nx f none = [] := by cases f <;> rfl

theorem walk_eq (nx : Nat → Option Nat) : ∀ (fuel : Nat) (p : Option Nat), walk nx fuel p = QueueLin.walk nx fuel p
  | 0, _ => rfl
  | _ + 1, none => rfl
  | f + 1, some a => congrArg (a :: ·) (walk_eq nx f (nx a))

/-- The nodes reachable from `head`, `head` (the current dummy) first (fuel: the number of nodes ever allocated). -/
def absNodes (s : St) : List Nat := walk s.next s.cnt (some s.head)
/-- The abstract queue: the values of the nodes strictly after `head`, oldest first. -/
def absQueue (s : St) : List Int := (absNodes s).tail.map s.val

/-! ### The structural invariant -/

/-- The node an enqueuer still owns privately (before its successful CAS on `t->m_pNext`). -/
def enqNode : PC → Option Nat
  | .enqLd1 n => some n
  | .enqLd2 n _ => some n
  | .enqNext n _ => some n
  | .enqHelp n _ _ => some n
  | .enqCas n _ => some n
  | _ => none

/-- The tail candidate `t` of an enqueuer that may still try to link its node behind `t`. -/
def enqT : PC → Option Nat
  | .enqNext _ a => some a
  | .enqCas _ a => some a
  | _ => none

/-- The head candidate `h` held by a dequeuer. -/
def deqH : PC → Option Nat
  | .deqNx1 h => some h
  | .deqNx2 h _ => some h
  | .deqChk h _ => some h
  | .deqTail h _ => some h
  | .deqHelp h _ => some h
  | .deqCas h _ => some h
  | _ => none

/-- A link `a.next = x` that the thread has observed (or created) and relies on. -/
def linkOf : PC → Option (Nat × Nat)
  | .enqHelp _ a x => some (a, x)
  | .enqSwing n a => some (a, n)
  | .deqChk h (some x) => some (h, x)
  | .deqTail h x => some (h, x)
  | .deqHelp h x => some (h, x)
  | .deqCas h x => some (h, x)
  | _ => none

/-- `a` has been allocated and is no longer private to an enqueuer: it is or was in the queue (or is the dummy). -/
def Pub (s : St) (a : Nat) : Prop := a < s.cnt ∧ ∀ t, enqNode (s.pc t) ≠ some a

structure SInvL (s : St) (l : List Nat) : Prop where
  chain : Chain s.next (some s.head) l
  nodup : l.Nodup
  pub : ∀ a, a ∈ l → Pub s a
  gone : ∀ a, Pub s a → a ∉ l → s.next a ≠ none
  tailin : s.tail ∈ l
  lag : ∀ x, s.next s.tail = some x → s.next x = none
  unalloc : ∀ a, s.cnt ≤ a → s.next a = none
  priv : ∀ t n, enqNode (s.pc t) = some n → n < s.cnt ∧ s.next n = none
  own : ∀ t1 t2 n, enqNode (s.pc t1) = some n → enqNode (s.pc t2) = some n → t1 = t2
  link : ∀ t a x, linkOf (s.pc t) = some (a, x) → s.next a = some x
  enqt : ∀ t a, enqT (s.pc t) = some a → Pub s a ∧ (s.next a = none → s.tail = a)
  deqh : ∀ t h, deqH (s.pc t) = some h → Pub s h ∧ (h ∈ l → s.head = h)
  dcas : ∀ t h x, s.pc t = .deqCas h x → s.head = h → s.tail ≠ h

def SInv (s : St) : Prop := ∃ l, SInvL s l

theorem SInvL.absNodes_eq {s : St} {l : List Nat} (h : SInvL s l) : absNodes s = l :=
  (walk_eq _ _ _).trans
    (QueueLin.walk_of_chain (chain_iff.1 h.chain) (QueueLin.length_le_of_nodup_lt h.nodup fun a ha => (h.pub a ha).1))

theorem SInvL.absQueue_eq {s : St} {l : List Nat} (h : SInvL s l) : absQueue s = l.tail.map s.val := by
  simp [absQueue, h.absNodes_eq]

theorem SInvL.unique {s : St} {l1 l2 : List Nat} (h1 : SInvL s l1) (h2 : SInvL s l2) : l1 = l2 :=
  Chain.functional h1.chain h2.chain

theorem sinv_init : SInvL init [dummy] := by
  constructor <;> simp [init, Chain, enqNode, enqT, deqH, linkOf, Pub, dummy]

/-! ### Linearization-point bookkeeping on program counters -/

/-- The result fixed definitively, for a thread that has passed its linearization point for good. -/
def postRet : PC → Option GRet
  | .enqSwing _ _ => some [1]
  | .done r => some r
  | _ => none

/-- The result of the thread's current (definitive or tentative) linearization. -/
def lpRet : PC → Option GRet
  | .enqSwing _ _ => some [1]
  | .deqChk _ none => some [0]
  | .done r => some r
  | _ => none

/-- The operation a thread is executing, while its result is not definitive. -/
def opOf (val : Nat → Int) : PC → Option GOp
  | .enqLd1 n => some ⟨"enq", [val n]⟩
  | .enqLd2 n _ => some ⟨"enq", [val n]⟩
  | .enqNext n _ => some ⟨"enq", [val n]⟩
  | .enqHelp n _ _ => some ⟨"enq", [val n]⟩
  | .enqCas n _ => some ⟨"enq", [val n]⟩
  | .deqLd1 => some ⟨"deq", []⟩
  | .deqLd2 _ => some ⟨"deq", []⟩
  | .deqNx1 _ => some ⟨"deq", []⟩
  | .deqNx2 _ _ => some ⟨"deq", []⟩
  | .deqChk _ _ => some ⟨"deq", []⟩
  | .deqTail _ _ => some ⟨"deq", []⟩
  | .deqHelp _ _ => some ⟨"deq", []⟩
  | .deqCas _ _ => some ⟨"deq", []⟩
  | _ => none

structure StepEff (s : St) (t : Tid) (s' : St) (l l' : List Nat) : Prop where
  frame : ∀ t2, t2 ≠ t → s'.pc t2 = s.pc t2
  val : s'.val = s.val
  cnt : s'.cnt = s.cnt
  lp : lpRet (s.pc t) = none → ∀ r, lpRet (s'.pc t) = some r →
        ∃ op, opOf s.val (s.pc t) = some op ∧ fifo.next (l.tail.map s.val) op r = some (l'.tail.map s.val)
  nolp : (lpRet (s.pc t) ≠ none ∨ lpRet (s'.pc t) = none) → l' = l
  keep : ∀ r, lpRet (s.pc t) = some r → lpRet (s'.pc t) = some r ∨ (r = [0] ∧ lpRet (s'.pc t) = none)
  pkeep : ∀ r, postRet (s.pc t) = some r → postRet (s'.pc t) = some r
  op : postRet (s'.pc t) = none → opOf s'.val (s'.pc t) = opOf s.val (s.pc t)
  busy : s.pc t ≠ .idle ∧ s'.pc t ≠ .idle
  sub : ∀ a, a ∈ l' → a ∈ l ∨ enqNode (s.pc t) = some a
  pubmono : ∀ a, Pub s a → Pub s' a

/-! ### The invariant in thread-modular form -/

section Steps
open Common

/-- The shared memory of a state. -/
def St.mem (s : St) : Mem := ⟨s.head, s.tail, s.next, s.cnt⟩

/-- At `deqCas` a dequeuer relies on its head candidate being different from `tail`. -/
def atDeqCas : PC → Bool
  | .deqCas _ _ => true
  | _ => false

def view (pc : PC) : View := ⟨enqNode pc, linkOf pc, enqT pc, (deqH pc).map fun h => (h, atDeqCas pc)⟩

theorem SInvL.q {s : St} {l : List Nat} (h : SInvL s l) : QInv False s.mem (fun t => view (s.pc t)) l where
  mem := ⟨chain_iff.1 h.chain, h.nodup, h.pub, fun _ ha => ha.1, h.gone, Or.inl h.tailin, h.pub _ h.tailin, h.lag,
    h.unalloc⟩
  thr := fun t => ⟨h.priv t, h.link t, h.enqt t, fun a b e => by
    obtain ⟨a', ha, e⟩ := Option.map_eq_some_iff.mp e
    cases e
    refine ⟨(h.deqh t a ha).1, fun hm => ⟨(h.deqh t a ha).2 hm, fun hb _ => ?_⟩⟩
    cases hp : s.pc t <;> rw [hp] at hb <;> cases hb
    rw [hp] at ha
    cases ha
    exact h.dcas t _ _ hp ((h.deqh t _ (hp ▸ rfl)).2 hm)⟩
  own := h.own

theorem SInvL.of_q {s : St} {l : List Nat} (h : QInv False s.mem (fun t => view (s.pc t)) l) : SInvL s l where
  chain := chain_iff.2 h.mem.chain
  nodup := h.mem.nodup
  pub := h.mem.chainpub
  gone := h.mem.gone
  tailin := h.mem.tailin.resolve_right fun hc => hc.1
  lag := h.mem.lag
  unalloc := h.mem.unalloc
  priv := fun t => (h.thr t).priv
  own := h.own
  link := fun t => (h.thr t).link
  enqt := fun t => (h.thr t).enqt
  deqh := fun t a e =>
    have hd := (h.thr t).deqh a _ (congrArg (Option.map _) e)
    ⟨hd.1, fun hm => (hd.2 hm).1⟩
  dcas := fun t a _ e hh =>
    (((h.thr t).deqh a true (congrArg (fun pc => (view pc).deqH) e)).2 (hh ▸ h.mem.head_mem)).2 rfl not_false

theorem SInvL.thread {s : St} {l : List Nat} {t : Tid} {p : PC} (h : SInvL s l) (hpc : s.pc t = p) :
    TInv False s.mem l (Pub s) (view p) :=
  hpc ▸ h.q.thr t

theorem SInvL.head_cons {s : St} {l : List Nat} (h : SInvL s l) : ∃ r, l = s.head :: r :=
  h.q.mem.head_cons

/-- The state after a step of `t` to `q`, from the shared invariant of its memory and views. -/
theorem SInvL.of_step {s : St} {t : Tid} {q : PC} {m : Mem} {vl : Nat → Int} {l : List Nat}
    (h : QInv False m (upd (fun u => view (s.pc u)) t (view q)) l) :
    SInvL ⟨m.head, m.tail, m.next, vl, m.cnt, upd s.pc t q⟩ l := by
  rw [← comp_upd] at h
  exact .of_q h

variable {s : St} {l : List Nat} {t : Tid} {p q : PC}

theorem SInvL.move (h : SInvL s l) (hpc : s.pc t = p) (hn : enqNode q = enqNode p)
    (hT : TInv False s.mem l (Pub s) (view q)) : SInvL { s with pc := upd s.pc t q } l :=
  .of_step (h.q.move (congrArg view hpc) hn hT)

theorem SInvL.tail_adv {a x : Nat} (h : SInvL s l) (hpc : s.pc t = p) (hta : s.tail = a)
    (hlk : linkOf p = some (a, x)) (hn : enqNode q = enqNode p)
    (hT : TInv False { s.mem with tail := x } l (Pub s) (view p) → TInv False { s.mem with tail := x } l (Pub s) (view q)) :
    SInvL { s with tail := x, pc := upd s.pc t q } l :=
  .of_step (h.q.tail_adv (congrArg view hpc) hta ((h.thread hpc).link a x hlk) hn hT)

theorem Pub.step {a : Nat} {hd tl : Nat} {nx : Nat → Option Nat} (h : Pub s a) (hn : enqNode q ≠ some a) :
    Pub ⟨hd, tl, nx, s.val, s.cnt, upd s.pc t q⟩ a :=
  ⟨h.1, forall_upd (T := fun _ pc => enqNode pc ≠ some a) hn fun u _ => h.2 u⟩

theorem lpRet_of_postRet {r : GRet} (h : postRet p = some r) : lpRet p = some r := by
  cases p <;> first | exact h | cases h

/-- The effect of a step of `t` from `p` to `q` that leaves `next` and the chain alone. -/
theorem StepEff.quiet {hd tl : Nat} (hpc : s.pc t = p) (hn : enqNode q = enqNode p)
    (hlp : lpRet p = none → ∀ r, lpRet q = some r →
      ∃ op, opOf s.val p = some op ∧ fifo.next (l.tail.map s.val) op r = some (l.tail.map s.val))
    (hkeep : ∀ r, lpRet p = some r → lpRet q = some r ∨ (r = [0] ∧ lpRet q = none))
    (hpkeep : ∀ r, postRet p = some r → postRet q = some r)
    (hop : postRet q = none → opOf s.val q = opOf s.val p)
    (hbusy : p ≠ .idle ∧ q ≠ .idle) :
    StepEff s t ⟨hd, tl, s.next, s.val, s.cnt, upd s.pc t q⟩ l l := by
  subst hpc
  exact {
    frame := fun u hu => upd_other _ _ _ _ hu
    val := rfl
    cnt := rfl
    lp := by simpa only [upd_same] using hlp
    nolp := fun _ => rfl
    keep := by simpa only [upd_same] using hkeep
    pkeep := by simpa only [upd_same] using hpkeep
    op := by simpa only [upd_same] using hop
    busy := ⟨hbusy.1, by simpa only [upd_same] using hbusy.2⟩
    sub := fun _ => Or.inl
    pubmono := fun a ha => ha.step (hn ▸ ha.2 t) }

/-- The effect of a step that passes no linearization point. -/
theorem StepEff.silent {hd tl : Nat} (hpc : s.pc t = p) (hn : enqNode q = enqNode p) (hp : lpRet p = none)
    (hq : lpRet q = none) (hop : opOf s.val q = opOf s.val p) (hbusy : p ≠ .idle ∧ q ≠ .idle) :
    StepEff s t ⟨hd, tl, s.next, s.val, s.cnt, upd s.pc t q⟩ l l :=
  .quiet hpc hn (fun _ _ e => absurd (hq ▸ e) nofun) (fun _ e => absurd (hp ▸ e) nofun)
    (fun _ e => absurd (hp ▸ lpRet_of_postRet e) nofun) (fun _ => hop) hbusy

/-- The effect of a step that passes the linearization point of `op` with result `r` for good. -/
theorem StepEff.lin {hd tl : Nat} {nx : Nat → Option Nat} {l' : List Nat} {op : GOp} {r : GRet} (hpc : s.pc t = p)
    (hp : lpRet p = none) (hop : opOf s.val p = some op) (hq : postRet q = some r) (hn : enqNode q = none)
    (hf : fifo.next (l.tail.map s.val) op r = some (l'.tail.map s.val))
    (hsub : ∀ a, a ∈ l' → a ∈ l ∨ enqNode p = some a) :
    StepEff s t ⟨hd, tl, nx, s.val, s.cnt, upd s.pc t q⟩ l l' := by
  subst hpc
  have hlq := lpRet_of_postRet hq
  exact {
    frame := fun u hu => upd_other _ _ _ _ hu
    val := rfl
    cnt := rfl
    lp := fun _ r' e => by
      simp only [upd_same, hlq, Option.some.injEq] at e
      exact ⟨op, hop, e ▸ hf⟩
    nolp := fun e => by simp [hp, hlq] at e
    keep := fun _ e => absurd (hp ▸ e) nofun
    pkeep := fun _ e => absurd (hp ▸ lpRet_of_postRet e) nofun
    op := fun e => by simp [hq] at e
    busy := ⟨fun e => by simp [e, opOf] at hop, fun e => by
      simp only [upd_same] at e
      simp [e, postRet] at hq⟩
    sub := hsub
    pubmono := fun a ha => ha.step (hn ▸ nofun) }

theorem SInvL.empty {a : Nat} (h : SInvL s l) (hpc : s.pc t = p) (hd : deqH p = some a) (hn : s.next a = none) :
    s.head = a ∧ l = [a] :=
  (h.thread hpc).empty h.q.mem (congrArg (Option.map _) hd) hn

theorem SInvL.head_adv {a x : Nat} (h : SInvL s l) (hpc : s.pc t = .deqCas a x) (hh : s.head = a)
    (hn : enqNode q = none)
    (hT : TInv False { s.mem with head := x } l.tail (Pub s) (view (.deqCas a x)) →
      TInv False { s.mem with head := x } l.tail (Pub s) (view q)) :
    SInvL { s with head := x, pc := upd s.pc t q } l.tail :=
  .of_step (h.q.head_adv (congrArg view hpc) hh rfl rfl (Or.inr rfl) hn hT)

/-! ### Preservation: steps -/

theorem sinvl_step {s' : St} {ev : Ev} (h : SInvL s l) (hs : step s t = some (s', ev)) :
    ∃ l', SInvL s' l' ∧ StepEff s t s' l l' := by
  cases hpc : s.pc t <;> simp only [step, hpc, reduceCtorEq] at hs
  case enqLd1 n =>
    cases hs
    exact ⟨l, h.move hpc rfl { h.thread hpc with }, .silent hpc rfl rfl rfl rfl ⟨nofun, nofun⟩⟩
  case enqLd2 n a =>
    split at hs <;> cases hs
    next heq =>
      -- the validated tail candidate is `tail`
      have het : ∀ b, some a = some b → Pub s b ∧ (s.next b = none → s.tail = b) := fun b e =>
        Option.some.inj e ▸ heq ▸ ⟨h.pub _ h.tailin, fun _ => rfl⟩
      exact ⟨l, h.move hpc rfl { h.thread hpc with enqt := het }, .silent hpc rfl rfl rfl rfl ⟨nofun, nofun⟩⟩
    next => exact ⟨l, h.move hpc rfl { h.thread hpc with }, .silent hpc rfl rfl rfl rfl ⟨nofun, nofun⟩⟩
  case enqNext n a =>
    split at hs <;> cases hs
    next => exact ⟨l, h.move hpc rfl { h.thread hpc with }, .silent hpc rfl rfl rfl rfl ⟨nofun, nofun⟩⟩
    next x heq =>
      have hlk : ∀ b y, some (a, x) = some (b, y) → s.next b = some y := fun b y e => by
        cases e
        exact heq
      exact ⟨l, h.move hpc rfl { h.thread hpc with link := hlk, enqt := nofun },
        .silent hpc rfl rfl rfl rfl ⟨nofun, nofun⟩⟩
  case enqHelp n a x =>
    split at hs <;> cases hs
    next heq =>
      exact ⟨l, h.tail_adv hpc heq rfl rfl fun hT => { hT with link := nofun },
        .silent hpc rfl rfl rfl rfl ⟨nofun, nofun⟩⟩
    next => exact ⟨l, h.move hpc rfl { h.thread hpc with link := nofun }, .silent hpc rfl rfl rfl rfl ⟨nofun, nofun⟩⟩
  case enqCas n a =>
    split at hs <;> cases hs
    next heq =>
      obtain ⟨r, hr⟩ := h.head_cons
      have hf : fifo.next (l.tail.map s.val) ⟨"enq", [s.val n]⟩ [1] = some ((l ++ [n]).tail.map s.val) := by
        rw [hr]
        simp [QueueLin.fifo_enq]
      exact ⟨l ++ [n], .of_step (h.q.link (congrArg view hpc) rfl rfl heq rfl),
        .lin hpc rfl rfl rfl rfl hf
          fun b hb => (List.mem_append.mp hb).imp_right fun e => congrArg some (List.mem_singleton.mp e).symm⟩
    next => exact ⟨l, h.move hpc rfl { h.thread hpc with enqt := nofun }, .silent hpc rfl rfl rfl rfl ⟨nofun, nofun⟩⟩
  case enqSwing n a =>
    have heff : ∀ hd tl, StepEff s t ⟨hd, tl, s.next, s.val, s.cnt, upd s.pc t (.done [1])⟩ l l := fun _ _ =>
      .quiet hpc rfl nofun (fun _ e => Or.inl e) (fun _ e => e) nofun ⟨nofun, nofun⟩
    split at hs <;> cases hs
    next heq => exact ⟨l, h.tail_adv hpc heq rfl rfl fun hT => { hT with link := nofun }, heff _ _⟩
    next => exact ⟨l, h.move hpc rfl { h.thread hpc with link := nofun }, heff _ _⟩
  case deqLd1 =>
    cases hs
    exact ⟨l, h.move hpc rfl { h.thread hpc with }, .silent hpc rfl rfl rfl rfl ⟨nofun, nofun⟩⟩
  case deqLd2 a =>
    split at hs <;> cases hs
    next heq =>
      obtain ⟨r, hr⟩ := h.head_cons
      -- the validated head candidate is `head`
      have hdh : ∀ b f, some (a, false) = some (b, f) →
          Pub s b ∧ (b ∈ l → s.head = b ∧ (f = true → ¬False → s.tail ≠ b)) := fun b f e => by
        cases e
        exact ⟨heq ▸ h.pub _ (hr ▸ List.mem_cons_self), fun _ => ⟨heq, nofun⟩⟩
      exact ⟨l, h.move hpc rfl { h.thread hpc with deqh := hdh },
        .silent hpc rfl rfl rfl rfl ⟨nofun, nofun⟩⟩
    next => exact ⟨l, h.move hpc rfl { h.thread hpc with }, .silent hpc rfl rfl rfl rfl ⟨nofun, nofun⟩⟩
  case deqNx1 a =>
    cases hs
    exact ⟨l, h.move hpc rfl { h.thread hpc with }, .silent hpc rfl rfl rfl rfl ⟨nofun, nofun⟩⟩
  case deqNx2 a nx =>
    split at hs <;> cases hs
    next heq =>
      cases nx with
      | none =>
        -- a validated null: `a` is still `head` and the queue is empty
        have hemp : fifo.next (l.tail.map s.val) ⟨"deq", []⟩ [0] = some (l.tail.map s.val) := by
          rw [(h.empty hpc rfl heq).2]
          exact QueueLin.fifo_deq_none
        exact ⟨l, h.move hpc rfl { h.thread hpc with },
          .quiet hpc rfl (fun _ r e => Option.some.inj e ▸ ⟨_, rfl, hemp⟩) nofun nofun (fun _ => rfl)
            ⟨nofun, nofun⟩⟩
      | some x =>
        have hlk : ∀ b y, some (a, x) = some (b, y) → s.next b = some y := fun b y e => by
          cases e
          exact heq
        exact ⟨l, h.move hpc rfl { h.thread hpc with link := hlk }, .silent hpc rfl rfl rfl rfl ⟨nofun, nofun⟩⟩
    next => exact ⟨l, h.move hpc rfl { h.thread hpc with }, .silent hpc rfl rfl rfl rfl ⟨nofun, nofun⟩⟩
  case deqChk a nx =>
    split at hs
    next =>
      split at hs <;> cases hs
      next =>
        exact ⟨l, h.move hpc rfl { h.thread hpc with deqh := nofun },
          .quiet hpc rfl nofun (fun _ e => Or.inl e) nofun nofun ⟨nofun, nofun⟩⟩
      next => exact ⟨l, h.move hpc rfl { h.thread hpc with }, .silent hpc rfl rfl rfl rfl ⟨nofun, nofun⟩⟩
    next =>
      cases hs
      refine ⟨l, h.move hpc rfl { h.thread hpc with link := nofun, deqh := nofun }, ?_⟩
      cases nx with
      | none =>
        -- a tentative empty dequeue is withdrawn
        exact .quiet (q := .deqLd1) hpc rfl nofun (fun _ e => Or.inr ⟨(Option.some.inj e).symm, rfl⟩) nofun
          (fun _ => rfl) ⟨nofun, nofun⟩
      | some x => exact .silent hpc rfl rfl rfl rfl ⟨nofun, nofun⟩
  case deqTail a x =>
    split at hs <;> cases hs
    next => exact ⟨l, h.move hpc rfl { h.thread hpc with }, .silent hpc rfl rfl rfl rfl ⟨nofun, nofun⟩⟩
    next hne =>
      -- from now on the dequeuer relies on `tail ≠ a` while `a` is `head`
      have hd := (h.thread hpc).deqh a false rfl
      have hdh : ∀ b f, some (a, true) = some (b, f) →
          Pub s b ∧ (b ∈ l → s.head = b ∧ (f = true → ¬False → s.tail ≠ b)) := fun b f e => by
        cases e
        exact ⟨hd.1, fun hm => ⟨(hd.2 hm).1, fun _ _ => hne⟩⟩
      exact ⟨l, h.move hpc rfl { h.thread hpc with deqh := hdh }, .silent hpc rfl rfl rfl rfl ⟨nofun, nofun⟩⟩
  case deqHelp a x =>
    split at hs <;> cases hs
    next heq =>
      exact ⟨l, h.tail_adv hpc heq rfl rfl fun hT => { hT with link := nofun, deqh := nofun },
        .silent hpc rfl rfl rfl rfl ⟨nofun, nofun⟩⟩
    next =>
      exact ⟨l, h.move hpc rfl { h.thread hpc with link := nofun, deqh := nofun },
        .silent hpc rfl rfl rfl rfl ⟨nofun, nofun⟩⟩
  case deqCas a x =>
    split at hs <;> cases hs
    next heq =>
      obtain ⟨r, hr⟩ := h.q.mem.cons_cons (heq ▸ (h.thread hpc).link a x rfl)
      have hf : fifo.next (l.tail.map s.val) ⟨"deq", []⟩ [1, s.val x] = some (l.tail.tail.map s.val) := by
        rw [hr]
        simp [QueueLin.fifo_deq_some]
      exact ⟨l.tail, h.head_adv hpc heq rfl fun hT => { hT with link := nofun, deqh := nofun },
        .lin hpc rfl rfl rfl rfl hf
          fun _ hb => Or.inl (List.mem_of_mem_tail hb)⟩
    next =>
      exact ⟨l, h.move hpc rfl { h.thread hpc with link := nofun, deqh := nofun },
        .silent hpc rfl rfl rfl rfl ⟨nofun, nofun⟩⟩

/-! ### Preservation: invocation and return -/

structure InvokeEff (s : St) (t : Tid) (op : GOp) (s' : St) (l : List Nat) : Prop where
  frame : ∀ t2, t2 ≠ t → s'.pc t2 = s.pc t2
  ops : ∀ t2, t2 ≠ t → opOf s'.val (s.pc t2) = opOf s.val (s.pc t2)
  was : s.pc t = .idle
  now : opOf s'.val (s'.pc t) = some op ∧ lpRet (s'.pc t) = none
  abs : l.tail.map s'.val = l.tail.map s.val
  pubmono : ∀ a, Pub s a → Pub s' a

/-- `opOf` reads the payload of the thread's private node only. -/
theorem opOf_congr {vl vl' : Nat → Int} (hv : ∀ n, enqNode p = some n → vl' n = vl n) : opOf vl' p = opOf vl p := by
  cases p <;> simp only [opOf] <;> rw [hv _ rfl]

theorem sinvl_invoke {s' : St} {op : GOp}
    (h : SInvL s l) (hs : invoke s t op = some s') : SInvL s' l ∧ InvokeEff s t op s' l := by
  obtain ⟨name, args⟩ := op
  unfold invoke at hs
  split at hs
  next v hpc hname hargs =>
    simp only [Option.some.injEq] at hs
    subst hs
    dsimp only at hname hargs
    subst hname hargs
    -- the payload is written into a node that is not allocated yet
    have hval : ∀ a, a < s.cnt → upd s.val s.cnt v a = s.val a := fun a ha => upd_other _ _ _ _ (Nat.ne_of_lt ha)
    exact ⟨.of_step (h.q.alloc (congrArg enqNode hpc) rfl), {
      frame := fun u hu => upd_other _ _ _ _ hu
      ops := fun u _ => opOf_congr fun n e => hval n (h.priv u n e).1
      was := hpc
      now := ⟨by simp [opOf], by simp [lpRet]⟩
      abs := List.map_congr_left fun a ha => hval a (h.pub a (List.mem_of_mem_tail ha)).1
      pubmono := fun a ha => ⟨Nat.lt_succ_of_lt ha.1, forall_upd (T := fun _ pc => enqNode pc ≠ some a)
        (fun e => Nat.lt_irrefl _ (Option.some.inj e ▸ ha.1)) fun u _ => ha.2 u⟩ }⟩
  next hpc hname hargs =>
    simp only [Option.some.injEq] at hs
    subst hs
    dsimp only at hname hargs
    subst hname hargs
    exact ⟨h.move hpc rfl { h.thread hpc with }, {
      frame := fun u hu => upd_other _ _ _ _ hu
      ops := fun _ _ => rfl
      was := hpc
      now := ⟨by simp [opOf], by simp [lpRet]⟩
      abs := rfl
      pubmono := fun a ha => ha.step nofun }⟩
  next => simp at hs

theorem sinvl_result {s' : St} {r : GRet}
    (h : SInvL s l) (hs : result s t = some (s', r)) :
    SInvL s' l ∧ s.pc t = .done r ∧ s'.pc t = .idle ∧ (∀ t2, t2 ≠ t → s'.pc t2 = s.pc t2) ∧ s'.val = s.val ∧
    (∀ a, Pub s a → Pub s' a) := by
  unfold result at hs
  split at hs
  next r' hpc =>
    simp only [Option.some.injEq, Prod.mk.injEq] at hs
    obtain ⟨rfl, rfl⟩ := hs
    exact ⟨h.move hpc rfl { h.thread hpc with }, hpc, upd_same _ _ _, fun u hu => upd_other _ _ _ _ hu, rfl,
      fun a ha => ha.step nofun⟩
  next => simp at hs

end Steps

/-! ### Reachable states -/

/-- One action preserves the invariant, keeps published nodes published, and puts no published node onto the chain. -/
theorem sinvl_apply {s s' : St} {t : Tid} {a : Act} {o : Obs} {l : List Nat} (h : SInvL s l)
    (hap : model.apply s t a = some (s', o)) :
    ∃ l', SInvL s' l' ∧ (∀ x, Pub s x → Pub s' x) ∧ ∀ x, Pub s x → x ∈ l' → x ∈ l := by
  rcases Model.apply_cases hap with ⟨op, -, hs1, -⟩ | ⟨e, -, hs1, -⟩ | ⟨r, -, hs1, -⟩
  · obtain ⟨hl', he⟩ := sinvl_invoke h hs1
    exact ⟨l, hl', he.pubmono, fun _ _ hx => hx⟩
  · obtain ⟨l', hl', he⟩ := sinvl_step h hs1
    exact ⟨l', hl', he.pubmono, fun x hx hm => (he.sub x hm).resolve_right (hx.2 t)⟩
  · obtain ⟨hl', -, -, -, -, hp⟩ := sinvl_result h hs1
    exact ⟨l, hl', hp, fun _ _ hx => hx⟩

theorem sinv_apply {s s' : St} {t : Tid} {a : Act} {o : Obs} (h : SInv s)
    (hap : model.apply s t a = some (s', o)) : SInv s' := by
  obtain ⟨l, hl⟩ := h
  obtain ⟨l', hl', -⟩ := sinvl_apply hl hap
  exact ⟨l', hl'⟩

theorem sinv_reachable (s : St) (h : model.Reachable init s) : SInv s :=
  model.inv_reachable SInv init ⟨[dummy], sinv_init⟩ (fun _ _ _ _ _ hi hap => sinv_apply hi hap) s h

/-- In every reachable state the chain from `head` is finite, duplicate-free, starts with `head`, ends in a node
    with a null link, and is made of published nodes; `absNodes` computes it. -/
theorem reachable_chain (s : St) (h : model.Reachable init s) :
    Chain s.next (some s.head) (absNodes s) ∧ (absNodes s).Nodup ∧ (∀ a ∈ absNodes s, Pub s a) ∧
    (∃ r, absNodes s = s.head :: r) := by
  obtain ⟨l, hl⟩ := sinv_reachable s h
  rw [hl.absNodes_eq]
  exact ⟨hl.chain, hl.nodup, hl.pub, hl.head_cons⟩

/-- "Tail lags by at most one": in every state satisfying the invariant, `tail` is the last or the second-to-last
    node of the chain from `head`. -/
theorem SInvL.tail_lag {s : St} {l : List Nat} (h : SInvL s l) :
    ∃ l0, l = l0 ++ [s.tail] ∨ ∃ x, l = l0 ++ [s.tail, x] :=
  h.q.mem.tail_lag.resolve_right fun hc => hc.1

theorem reachable_tail_lag (s : St) (h : model.Reachable init s) :
    ∃ l0, absNodes s = l0 ++ [s.tail] ∨ ∃ x, absNodes s = l0 ++ [s.tail, x] := by
  obtain ⟨l, hl⟩ := sinv_reachable s h
  rw [hl.absNodes_eq]
  exact hl.tail_lag

/-- Garbage-collected heap: a node that has left the queue (published, not in the chain from `head`) is never
    linked in again; in particular `head` never returns to it. -/
theorem never_relinked {s s' : St} {t : Tid} {a : Act} {o : Obs} (h : SInv s)
    (hap : model.apply s t a = some (s', o)) (x : Nat) (hx : Pub s x) (hout : x ∉ absNodes s) :
    Pub s' x ∧ x ∉ absNodes s' := by
  obtain ⟨l, hl⟩ := h
  obtain ⟨l', hl', hp, hsub⟩ := sinvl_apply hl hap
  rw [hl.absNodes_eq] at hout
  rw [hl'.absNodes_eq]
  exact ⟨hp x hx, fun hm => hout (hsub x hx hm)⟩

/-- Refinement, on `absQueue`: the step of `t` that (tentatively or definitively) fixes its result `r`
    (linearization point) is the `fifo` transition of `t`'s operation with result `r`; all other steps do not change
    the abstract queue. -/
theorem step_refines {s s' : St} {t : Tid} {ev : Ev} (h : SInv s) (hs : step s t = some (s', ev)) :
    (lpRet (s.pc t) = none → ∀ r, lpRet (s'.pc t) = some r →
      ∃ op, opOf s.val (s.pc t) = some op ∧ fifo.next (absQueue s) op r = some (absQueue s')) ∧
    ((lpRet (s.pc t) ≠ none ∨ lpRet (s'.pc t) = none) → absQueue s' = absQueue s) := by
  obtain ⟨l, hl⟩ := h
  obtain ⟨l', hl', he⟩ := sinvl_step hl hs
  rw [hl.absQueue_eq, hl'.absQueue_eq, he.val]
  refine ⟨he.lp, fun hc => by rw [he.nolp hc]⟩

/-- Which steps linearize an empty dequeue: only the validating load of `h->m_pNext` that confirms null. -/
theorem lp_empty_pc {s s' : St} {t : Tid} {ev : Ev} (hs : step s t = some (s', ev))
    (hpre : lpRet (s.pc t) = none) (hpost : lpRet (s'.pc t) = some [0]) :
    ∃ a, s.pc t = .deqNx2 a none ∧ s.next a = none ∧ s'.pc t = .deqChk a none ∧ ev = evLd (nloc a) none ∧
      s'.head = s.head ∧ s'.next = s.next := by
  cases hpc : s.pc t
  case deqNx2 a p =>
    cases p <;> simp only [step, hpc] at hs <;> split at hs <;> simp at hs <;> obtain ⟨rfl, rfl⟩ := hs <;>
      simp_all [upd, lpRet]
  all_goals
    (simp only [step, hpc] at hs <;> (try split at hs) <;> (try split at hs) <;>
      simp at hs <;> obtain ⟨rfl, rfl⟩ := hs <;> simp_all [upd, lpRet])

/-- Which steps make the result `[0]` definitive: only the re-validation `m_pHead.load() == h` after a null `pNext`. -/
theorem post_empty_pc {s s' : St} {t : Tid} {ev : Ev} (hs : step s t = some (s', ev))
    (hpre : postRet (s.pc t) = none) (hpost : postRet (s'.pc t) = some [0]) :
    ∃ a, s.pc t = .deqChk a none ∧ s.head = a ∧ ev = evLd headLoc (some a) := by
  cases hpc : s.pc t <;> simp only [step, hpc] at hs <;> (try split at hs) <;> (try split at hs) <;>
    simp at hs <;> obtain ⟨rfl, rfl⟩ := hs <;> simp_all [upd, postRet]

/-- A dequeue linearizes "empty" only at a validating load of `h->m_pNext` that reads null; at that instant `h` is
    `head`, `h` is the only node of the chain, and the abstract queue is empty. -/
theorem deq_empty_step {s s' : St} {t : Tid} {ev : Ev} (h : SInv s) (hs : step s t = some (s', ev))
    (hpre : lpRet (s.pc t) = none) (hpost : lpRet (s'.pc t) = some [0]) :
    ∃ a, s.pc t = .deqNx2 a none ∧ s'.pc t = .deqChk a none ∧ s.head = a ∧ s.next a = none ∧
      absNodes s = [a] ∧ absQueue s = [] ∧ absQueue s' = [] ∧ ev = evLd (nloc a) none := by
  obtain ⟨a, hpc, hnx, hpc', hev, hhd, hnxt⟩ := lp_empty_pc hs hpre hpost
  obtain ⟨l, hl⟩ := h
  obtain ⟨l', hl', he⟩ := sinvl_step hl hs
  obtain ⟨hha, hl1⟩ := hl.empty hpc rfl hnx
  have hq : absQueue s = [] := by rw [hl.absQueue_eq, hl1]; rfl
  have hq' : absQueue s' = absQueue s := by
    simp only [absQueue, absNodes, hhd, hnxt, he.cnt, he.val]
  refine ⟨a, hpc, hpc', hha, hnx, ?_, hq, by rw [hq', hq], hev⟩
  rw [hl.absNodes_eq, hl1]

end CdsVerif.Algo.MSQueue
