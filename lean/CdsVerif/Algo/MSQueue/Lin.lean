/-
  Linearizability of the Michael–Scott queue model (property C06).

  Linearization points: the successful CAS on `t->m_pNext` of `enqueue`; the successful CAS on `m_pHead` of a
  non-empty `dequeue`; for an empty `dequeue` the validating load of `h->m_pNext` that confirms null.  The last one
  is a "hindsight" linearization point: the result `[0]` becomes definitive only at the later re-validation
  `m_pHead.load() == h`, which can fail and restart the loop; the linearization is TENTATIVE until then, and is
  withdrawn if the re-validation fails (sound because an empty dequeue does not change the sequential queue).

  `Inv.lean` shows that each of these steps is exactly the `fifo` transition of the operation on the abstract queue
  and that every other step leaves the abstract queue unchanged (`StepEff`); the ghost-log construction of
  `Algo/QueueLin/Ghost.lean` turns this into linearizability of every run, with completion of pending operations,
  and into the hindsight statement on runs (`msqueue_empty_hindsight`): a dequeue that returned `[0]` has an instant
  strictly between its call and its return at which the abstract queue was empty.
-/
import CdsVerif.Algo.MSQueue.Inv
import CdsVerif.Algo.QueueLin.Ghost
namespace CdsVerif.Algo.MSQueue
open CdsVerif.Machine CdsVerif.Spec CdsVerif.Lin

/-! ### The history of a run -/

/-- Per thread: the operation in progress and the index of its `call` observation. -/
abbrev Pend := Tid → Option (GOp × Nat)

/-- Scan the observations (the head has index `i`): every `ret` closes the operation its thread has in progress. -/
def histAux : Nat → Pend → List (Tid × Obs) → List (OpRec GOp GRet)
  | _, _, [] => []
  | i, pend, (t, .call op) :: os => histAux (i + 1) (upd pend t (some (op, i))) os
  | i, pend, (_, .ev _) :: os => histAux (i + 1) pend os
  | i, pend, (t, .ret r) :: os =>
    match pend t with
    | some (op, k) => ⟨t, op, r, k, i⟩ :: histAux (i + 1) (upd pend t none) os
    | none => histAux (i + 1) pend os

/-- The operations still in progress after the observations. -/
def pendAux : Nat → Pend → List (Tid × Obs) → Pend
  | _, pend, [] => pend
  | i, pend, (t, .call op) :: os => pendAux (i + 1) (upd pend t (some (op, i))) os
  | i, pend, (_, .ev _) :: os => pendAux (i + 1) pend os
  | i, pend, (t, .ret _) :: os =>
    match pend t with
    | some _ => pendAux (i + 1) (upd pend t none) os
    | none => pendAux (i + 1) pend os

/-- The complete history of a run: one record per operation that has both its `call` and its `ret` observation,
    `inv` / `res` = the indices of these observations in `os`.  Operations pending at the end are dropped. -/
def historyOf (os : List (Tid × Obs)) : List (OpRec GOp GRet) := histAux 0 (fun _ => none) os

/-- The operations pending at the end of a run: thread ↦ (operation, index of its `call`). -/
def pendingOf (os : List (Tid × Obs)) : Pend := pendAux 0 (fun _ => none) os

theorem historyOf_eq (os : List (Tid × Obs)) : historyOf os = SeqHistory.historyOf os := by
  delta historyOf SeqHistory.historyOf histAux SeqHistory.histAux
  rfl

theorem pendingOf_eq (os : List (Tid × Obs)) : pendingOf os = SeqHistory.pendingOf os := by
  delta pendingOf SeqHistory.pendingOf pendAux SeqHistory.pendAux
  rfl

/-- Every record of `historyOf os` is an operation of `os`: `inv` is the index of its call, `res` the index of its
    return, and the call precedes the return. -/
theorem historyOf_sound (os : List (Tid × Obs)) (r : OpRec GOp GRet) (h : r ∈ historyOf os) :
    os[r.inv]? = some (r.tid, .call r.op) ∧ os[r.res]? = some (r.tid, .ret r.ret) ∧ r.inv < r.res :=
  SeqHistory.historyOf_sound os r (historyOf_eq os ▸ h)

/-- A pending operation of `pendingOf os` is an operation of `os`: its `call` observation is at the recorded index. -/
theorem pendingOf_sound (os : List (Tid × Obs)) (t : Tid) (op : GOp) (k : Nat)
    (h : pendingOf os t = some (op, k)) : os[k]? = some (t, .call op) :=
  SeqHistory.pendingOf_sound os t op k (pendingOf_eq os ▸ h)

/-- Only an empty dequeue on the empty queue answers `[0]`. -/
theorem fifo_ret0_empty {q q' : List Int} {op : GOp} (h : fifo.next q op [0] = some q') : q = [] :=
  QueueLin.fifo_ret0_empty h

/-! ### The machine with its linearization-point bookkeeping -/

theorem opOf_none_of_post {val : Nat → Int} {pc : PC} {r : GRet} (h : postRet pc = some r) : opOf val pc = none := by
  cases pc <;> simp_all [postRet, opOf]

theorem lpRet_of_post {pc : PC} {r : GRet} (h : postRet pc = some r) : lpRet pc = some r := by
  cases pc <;> simp_all [postRet, lpRet]

theorem postRet_none_of_lp {pc : PC} (h : lpRet pc = none) : postRet pc = none := by
  cases hp : postRet pc with
  | none => rfl
  | some r => rw [lpRet_of_post hp] at h; simp at h

/-- A (tentative or definitive) result other than `[0]` is definitive. -/
theorem postRet_of_lp {pc : PC} {r : GRet} (h : lpRet pc = some r) (hr : r ≠ [0]) : postRet pc = some r := by
  cases pc with
  | deqChk a nx => cases nx <;> simp_all [lpRet]
  | _ => simp_all [postRet, lpRet]

/-- In state `s1` thread `t` is about to perform the validating load of `h->m_pNext` that reads null: `h` is `head`,
    the chain from `head` is `[h]`, the abstract queue is empty. -/
def EmptyAt (s1 : St) (t : Tid) : Prop :=
  ∃ a, s1.pc t = .deqNx2 a none ∧ s1.head = a ∧ s1.next a = none ∧ absNodes s1 = [a] ∧ absQueue s1 = []

/-- The result of an empty dequeue is tentative (`lpRet`) from the null load to the re-validation of `m_pHead`. -/
def qsys : QueueLin.QSys St where
  model := model
  init := init
  Inv := SInv
  absQ := absQueue
  lpRet := fun s t => lpRet (s.pc t)
  postRet := fun s t => postRet (s.pc t)
  opOf := fun s t => opOf s.val (s.pc t)
  EmptyAt := EmptyAt

theorem qsys_ok : qsys.OK where
  inv_init := ⟨[dummy], sinv_init⟩
  abs_init := by simp [qsys, absQueue, absNodes, init, walk]
  lp_init := by intro t; simp [qsys, init, lpRet]
  op_init := by intro t; simp [qsys, init, opOf]
  post_lp := by intro s t r h; exact lpRet_of_post h
  post_op := by intro s t r h; exact opOf_none_of_post h
  lp_post := by intro s t r h hr; exact postRet_of_lp h hr
  empty_abs := by intro s t ⟨a, _, _, _, _, h⟩; exact h
  invoke := by
    intro s t op s' ⟨l, hl⟩ hs
    obtain ⟨hl', he⟩ := sinvl_invoke hl hs
    refine ⟨⟨l, hl'⟩, ⟨?_, ?_⟩, ?_, he.now.1, he.now.2, ?_⟩
    · intro t2 ht; simp only [qsys]; rw [he.frame t2 ht]
    · intro t2 ht; simp only [qsys]; rw [he.frame t2 ht, he.ops t2 ht]
    · simp [qsys, he.was, lpRet]
    · simp only [qsys]; rw [hl.absQueue_eq, hl'.absQueue_eq, he.abs]
  step := by
    intro s t s' ev ⟨l, hl⟩ hs
    obtain ⟨l', hl', he⟩ := sinvl_step hl hs
    refine ⟨⟨l', hl'⟩, ⟨?_, ?_⟩, ?_, ?_, he.keep, he.op, ?_⟩
    · intro t2 ht; simp only [qsys]; rw [he.frame t2 ht]
    · intro t2 ht; simp only [qsys]; rw [he.frame t2 ht, he.val]
    · simp only [qsys]; rw [hl.absQueue_eq, hl'.absQueue_eq, he.val]; exact he.lp
    · simp only [qsys]; rw [hl.absQueue_eq, hl'.absQueue_eq, he.val]; intro hc; rw [he.nolp hc]
    · intro h1 h2
      obtain ⟨a, e1, -, e3, e4, e5, e6, -, -⟩ := deq_empty_step ⟨l, hl⟩ hs h1 h2
      exact ⟨a, e1, e3, e4, e5, e6⟩
  result := by
    intro s t s' r ⟨l, hl⟩ hs
    obtain ⟨hl', hdone, hidl, hframe, hval, -⟩ := sinvl_result hl hs
    refine ⟨⟨l, hl'⟩, ⟨?_, ?_⟩, ?_, ?_, ?_, ?_⟩
    · intro t2 ht; simp only [qsys]; rw [hframe t2 ht]
    · intro t2 ht; simp only [qsys]; rw [hframe t2 ht, hval]
    · simp [qsys, hdone, lpRet]
    · simp [qsys, hidl, lpRet]
    · simp [qsys, hidl, opOf]
    · simp only [qsys]; rw [hl.absQueue_eq, hl'.absQueue_eq, hval]

theorem historyOf_eq_QueueLin (os : List (Tid × Obs)) : historyOf os = QueueLin.historyOf os :=
  (historyOf_eq os).trans (QueueLin.historyOf_eq os).symm

theorem pendingOf_eq_QueueLin (os : List (Tid × Obs)) : pendingOf os = QueueLin.pendingOf os :=
  (pendingOf_eq os).trans (QueueLin.pendingOf_eq os).symm

/-- `r` is an `enq v`. -/
def isEnq (v : Int) (r : OpRec GOp GRet) : Bool := r.op == ⟨"enq", [v]⟩
/-- `r` is a dequeue that returned `v`. -/
def isDeqOf (v : Int) (r : OpRec GOp GRet) : Bool := r.op == ⟨"deq", []⟩ && r.ret == [1, v]


/-- In a history linearizable to the FIFO queue, the dequeues that return `v` are at most as many as the
    enqueues of `v`. -/
theorem linearizable_no_dup {ops : List (OpRec GOp GRet)} (h : Linearizable fifo ops) (v : Int) :
    ops.countP (isDeqOf v) ≤ ops.countP (isEnq v) :=
  QueueLin.linearizable_no_dup h v

/-! ### Main theorems (instances of `Algo/QueueLin/Ghost.lean`) -/

/-- **Linearizability of the Michael–Scott queue** (Herlihy–Wing, with completion of pending operations).
    For every run of the model, the history of the completed operations, extended by response records `extra` for
    SOME of the operations still pending at the end (operations that have passed their linearization point
    definitively — `postRet` — they get the result fixed there and the response time "end of the run"; at most one
    per thread), is linearizable to the sequential FIFO queue.  All other pending operations are dropped (among
    them the pending empty dequeues, tentative or not: dropping them never hurts because they do not change the
    queue). -/
theorem msqueue_linearizable (sched : List (Tid × Act)) (s : St) (os : List (Tid × Obs))
    (h : model.run init sched = some (s, os)) :
    ∃ extra : List (OpRec GOp GRet),
      (∀ e ∈ extra, pendingOf os e.tid = some (e.op, e.inv) ∧ e.res = os.length ∧
          postRet (s.pc e.tid) = some e.ret) ∧
      extra.Pairwise (fun a b => a.tid ≠ b.tid) ∧
      Linearizable fifo (historyOf os ++ extra) := by
  rw [historyOf_eq_QueueLin, pendingOf_eq_QueueLin]
  exact QueueLin.linearizable qsys_ok sched s os h

/-- If no thread is between its (definitive) linearization point and its return at the end of the run (threads may
    be idle or in the middle of an operation that has not taken effect), the history of the completed operations
    is linearizable as it is. -/
theorem msqueue_linearizable_no_effect_pending (sched : List (Tid × Act)) (s : St) (os : List (Tid × Obs))
    (h : model.run init sched = some (s, os)) (hq : ∀ t, postRet (s.pc t) = none) :
    Linearizable fifo (historyOf os) :=
  historyOf_eq_QueueLin os ▸ QueueLin.linearizable_no_effect_pending qsys_ok sched s os h hq

/-- Runs in which every invoked operation has returned. -/
theorem msqueue_linearizable_complete_runs (sched : List (Tid × Act)) (s : St) (os : List (Tid × Obs))
    (h : model.run init sched = some (s, os)) (hq : ∀ t, s.pc t = .idle) :
    Linearizable fifo (historyOf os) :=
  msqueue_linearizable_no_effect_pending sched s os h (fun t => by simp [hq t, postRet])

/-- No invention: a value returned by a completed `deq` was the argument of an `enq` invoked before that `deq`
    returned (the `enq` itself may still be pending). -/
theorem msqueue_no_invention (sched : List (Tid × Act)) (s : St) (os : List (Tid × Obs))
    (h : model.run init sched = some (s, os)) (r : OpRec GOp GRet) (hr : r ∈ historyOf os)
    (hop : r.op = ⟨"deq", []⟩) (v : Int) (hret : r.ret = [1, v]) :
    ∃ i t', i < r.res ∧ os[i]? = some (t', .call ⟨"enq", [v]⟩) :=
  QueueLin.no_invention qsys_ok sched s os h r (historyOf_eq_QueueLin os ▸ hr) hop v hret

/-- No duplication: with `extra` = the pending operations completed by `msqueue_linearizable` (genuine pending
    operations of the run, at most one per thread), for every value `v` the completed dequeues that returned `v`
    are at most as many as the `enq v` operations of the run (completed ones, plus pending ones in `extra`).
    In particular a value enqueued once is dequeued at most once. -/
theorem msqueue_no_duplication (sched : List (Tid × Act)) (s : St) (os : List (Tid × Obs))
    (h : model.run init sched = some (s, os)) :
    ∃ extra : List (OpRec GOp GRet),
      (∀ e ∈ extra, pendingOf os e.tid = some (e.op, e.inv) ∧ e.res = os.length ∧
          postRet (s.pc e.tid) = some e.ret) ∧
      extra.Pairwise (fun a b => a.tid ≠ b.tid) ∧
      ∀ v, (historyOf os).countP (isDeqOf v) ≤ (historyOf os ++ extra).countP (isEnq v) := by
  rw [historyOf_eq_QueueLin, pendingOf_eq_QueueLin]
  exact QueueLin.no_duplication qsys_ok sched s os h

/-- Every history record of a run is well formed (`inv < res`): the executable checker `linCheck` decides
    linearizability of such histories (`Lin.linCheck_iff`). -/
theorem historyOf_wf (os : List (Tid × Obs)) : ∀ r ∈ historyOf os, r.inv ≤ r.res :=
  fun r hr => Nat.le_of_lt (historyOf_sound os r hr).2.2

/-- An empty `deq`, part 1: in a reachable state, the step by which a thread (tentatively) linearizes with result
    `[0]` is the validating load of `h->m_pNext` that reads null; at that instant `h` is `head`, the chain from
    `head` is `[h]` and the abstract queue is empty (before and after the step). -/
theorem msqueue_deq_empty_means_empty (s s' : St) (t : Tid) (ev : Ev) (hreach : model.Reachable init s)
    (hs : step s t = some (s', ev)) (hpre : lpRet (s.pc t) = none) (hpost : lpRet (s'.pc t) = some [0]) :
    ∃ a, s.pc t = .deqNx2 a none ∧ s'.pc t = .deqChk a none ∧ s.head = a ∧ s.next a = none ∧
      absNodes s = [a] ∧ absQueue s = [] ∧ absQueue s' = [] ∧ ev = ⟨"ld", nloc a, "null", ""⟩ :=
  deq_empty_step (sinv_reachable s hreach) hs hpre hpost

/-- An empty `deq`, part 2: the result `[0]` becomes definitive only at the re-validation `m_pHead.load() == h` of a
    thread whose tentative linearization (part 1) is still standing. -/
theorem msqueue_deq_empty_decided (s s' : St) (t : Tid) (ev : Ev)
    (hs : step s t = some (s', ev)) (hpre : postRet (s.pc t) = none) (hpost : postRet (s'.pc t) = some [0]) :
    ∃ a, s.pc t = .deqChk a none ∧ s.head = a ∧ lpRet (s.pc t) = some [0] ∧ ev = evLd headLoc (some a) := by
  obtain ⟨a, h1, h2, h3⟩ := post_empty_pc hs hpre hpost
  exact ⟨a, h1, h2, by simp [h1, lpRet], h3⟩

/-- **Hindsight for the empty dequeue, on runs.**  If a completed `deq` of a run returned `[0]`, then there is an
    instant `j` strictly between its call (observation `r.inv`) and its return (observation `r.res`) such that in
    the state `s1` reached by the first `j` actions of the run the calling thread is about to perform the validating
    load of `h->m_pNext` that reads null, `h` is `head`, the chain from `head` is `[h]` and the abstract queue is
    empty. -/
theorem msqueue_empty_hindsight (sched : List (Tid × Act)) (s : St) (os : List (Tid × Obs))
    (h : model.run init sched = some (s, os)) (r : OpRec GOp GRet) (hr : r ∈ historyOf os) (hret : r.ret = [0]) :
    ∃ j s1, r.inv < j ∧ j < r.res ∧ model.run init (sched.take j) = some (s1, os.take j) ∧
      EmptyAt s1 r.tid ∧ absQueue s1 = [] :=
  QueueLin.empty_hindsight qsys_ok sched s os h r (historyOf_eq_QueueLin os ▸ hr) hret

end CdsVerif.Algo.MSQueue
