/-
  MSPriorityQueue machine, layer 1 of the invariant: LOCK DISCIPLINE.

  The locks a thread holds are a function of its program counter (`holds`); the ghost owner table `own` is exactly
  that relation (`ow1`, `ow2`), a lock word is set exactly when the lock has an owner (`lk0`, `lk1`), the indices
  carried by the program counters are heap slots in range (`wf`), only threads below `nthr` run operations, and the
  item counter never exceeds the capacity.

  `SlotOK` collects the facts about the slot function of the bit-reversed counter used by the proofs:
  `rank` is the inverse of `slot` on `1 .. cap` (the k-th slot handed out is `slot k`; slot `i` is the `rank i`-th),
  the root is the first slot, a parent is handed out before its children and a left child before its right sibling.
  `Props/C11MSPQ.lean` proves them for the real counter (capacity `2^k - 1`).
-/
import CdsVerif.Algo.MSPQ.Steps
namespace CdsVerif.Algo.MSPQ
open CdsVerif.Machine CdsVerif.Spec

structure SlotOK (c : Cfg) (rank : Nat → Nat) : Prop where
  cap_pos : 1 ≤ c.cap
  slot_range : ∀ m, 1 ≤ m → m ≤ c.cap → 1 ≤ c.slot m ∧ c.slot m ≤ c.cap
  rank_range : ∀ i, 1 ≤ i → i ≤ c.cap → 1 ≤ rank i ∧ rank i ≤ c.cap
  slot_rank : ∀ i, 1 ≤ i → i ≤ c.cap → c.slot (rank i) = i
  rank_slot : ∀ m, 1 ≤ m → m ≤ c.cap → rank (c.slot m) = m
  slot_one : c.slot 1 = 1
  rank_parent : ∀ i, 2 ≤ i → i ≤ c.cap → rank (i / 2) < rank i
  rank_sibling : ∀ p, 1 ≤ p → 2 * p + 1 ≤ c.cap → rank (2 * p) < rank (2 * p + 1)

/-- Locks held while waiting for the lock of acquisition `k`. -/
def kHolds : K → Nat → Prop
  | .pSz _, _ => False
  | .pNode _ _, l => l = 0
  | .hPar _, _ => False
  | .hItem i, l => l = i / 2
  | .hRoot, _ => False
  | .oSz, _ => False
  | .oTop _, l => l = 0
  | .oBot _, l => l = 0 ∨ l = 1
  | .dChild par _ _, l => l = par
  | .dRight par ch _, l => l = par ∨ l = ch

/-- The locks a thread holds at a program counter. -/
def holds : PC → Nat → Prop
  | .idle, _ => False
  | .acq k, l => kHolds k l
  | .spin k, l => kHolds k l
  | .pFullUnl, l => l = 0
  | .pFail, _ => False
  | .pUnlSz _ i, l => l = 0 ∨ l = i
  | .pUnlNode i, l => l = i
  | .hUnlItem i _, l => l = i / 2 ∨ l = i
  | .hUnlPar i _, l => l = i / 2
  | .hUnlRoot, l => l = 1
  | .pOk, _ => False
  | .oEmptyUnl, l => l = 0
  | .oFail, _ => False
  | .oUnlTop1 _, l => l = 0 ∨ l = 1
  | .oUnlSz1 _, l => l = 0
  | .oUnlSz b, l => l = 0 ∨ l = 1 ∨ l = b
  | .oUnlBot b _, l => l = 1 ∨ l = b
  | .oUnlTopE _, l => l = 1
  | .dUnlBreak par ch _, l => l = par ∨ l = ch
  | .dUnlLeft par ch _, l => l = par ∨ l = ch ∨ l = ch + 1
  | .dUnlRight par ch _, l => l = par ∨ l = ch ∨ l = ch + 1
  | .dUnlSwap par ch _, l => l = par ∨ l = ch
  | .dUnlPar par _, l => l = par
  | .oDone _, _ => False

def kWf (cap : Nat) : K → Prop
  | .pSz _ => True
  | .pNode _ i => 1 ≤ i ∧ i ≤ cap
  | .hPar i => 2 ≤ i ∧ i ≤ cap
  | .hItem i => 2 ≤ i ∧ i ≤ cap
  | .hRoot => True
  | .oSz => True
  | .oTop b => 1 ≤ b ∧ b ≤ cap
  | .oBot b => 2 ≤ b ∧ b ≤ cap
  | .dChild par ch _ => 1 ≤ par ∧ ch = 2 * par ∧ ch ≤ cap
  | .dRight par ch _ => 1 ≤ par ∧ ch = 2 * par ∧ ch + 1 ≤ cap

/-- The indices carried by a program counter are heap slots in range. -/
def wf (cap : Nat) : PC → Prop
  | .acq k => kWf cap k
  | .spin k => kWf cap k
  | .pUnlSz _ i => 1 ≤ i ∧ i ≤ cap
  | .pUnlNode i => 1 ≤ i ∧ i ≤ cap
  | .hUnlItem i i' => 2 ≤ i ∧ i ≤ cap ∧ i' ≤ i
  | .hUnlPar i i' => 2 ≤ i ∧ i ≤ cap ∧ i' ≤ i
  | .oUnlSz b => 2 ≤ b ∧ b ≤ cap
  | .oUnlBot b _ => 2 ≤ b ∧ b ≤ cap
  | .dUnlBreak par ch _ => 1 ≤ par ∧ (ch = 2 * par ∨ ch = 2 * par + 1) ∧ ch ≤ cap
  | .dUnlLeft par ch _ => 1 ≤ par ∧ ch = 2 * par ∧ ch + 1 ≤ cap
  | .dUnlRight par ch _ => 1 ≤ par ∧ ch = 2 * par ∧ ch + 1 ≤ cap
  | .dUnlSwap par ch _ => 1 ≤ par ∧ (ch = 2 * par ∨ ch = 2 * par + 1) ∧ ch ≤ cap
  | .dUnlPar par _ => 1 ≤ par ∧ par ≤ cap
  | _ => True

structure LInv (c : Cfg) (s : St) : Prop where
  ow1 : ∀ l t, s.own l = some t → holds (s.pc t) l
  ow2 : ∀ l t, holds (s.pc t) l → s.own l = some t
  lk0 : ∀ l, s.lk l = false → s.own l = none
  lk1 : ∀ l, s.own l = none → s.lk l = false
  wfp : ∀ t, wf c.cap (s.pc t)
  thr : ∀ t, s.pc t ≠ .idle → t < c.nthr
  cntle : s.cnt ≤ c.cap

theorem linv_init (c : Cfg) : LInv c init := by
  constructor <;> intros <;> simp_all [init, holds, wf]

macro "lgrind" : tactic =>
  `(tactic| grind (splits := 12) [upd, holds, kHolds, wf, kWf, K.lock, St.setPc, rel, pushLoop, popLoop])

/- `lg h X`: clause `X` of `LInv` for the post-state: unchanged, or by `grind` from the same clause, or from all clauses. -/
open Lean in
macro "lg" h:ident x:ident : tactic => do
  let f := mkIdent (`CdsVerif.Algo.MSPQ.LInv ++ x.getId.eraseMacroScopes)
  `(tactic| first
    | (dsimp only [St.setPc, rel]; exact $f $h)
    | (intros; have := $f $h; (try dsimp only [St.setPc, rel] at *); lgrind)
    | (intros; have := LInv.ow1 $h; have := LInv.ow2 $h; have := LInv.lk0 $h; have := LInv.lk1 $h
       have := LInv.wfp $h; have := LInv.thr $h; have := LInv.cntle $h
       (try dsimp only [St.setPc, rel] at *); lgrind))

namespace LInv
variable {c : Cfg} {s : St} {t : Tid} {p' : PC} {cnt' : Nat} {lk' : Nat → Bool} {val' : Nat → Option Int}
  {tag' : Nat → Tag} {own' : Nat → Option Tid} {ins' outs' : List Int}

/-- A step of `t`: afterwards it owns exactly the locks its new program counter holds, the other threads own what
    they owned, and a lock word is set iff the lock is owned. -/
theorem relock (h : LInv c s) (hmine : ∀ l, own' l = some t ↔ holds p' l)
    (hoth : ∀ l u, u ≠ t → (own' l = some u ↔ s.own l = some u)) (hlk : ∀ l, lk' l = false ↔ own' l = none)
    (hwf : wf c.cap p') (hthr : p' ≠ .idle → t < c.nthr) (hcnt : cnt' ≤ c.cap) :
    LInv c ⟨cnt', lk', val', tag', upd s.pc t p', own', ins', outs'⟩ where
  ow1 l u ho := by
    dsimp only at ho ⊢
    by_cases hu : u = t
    · subst hu; rw [upd_same]; exact (hmine l).mp ho
    · rw [upd_other _ _ _ _ hu]; exact h.ow1 l u ((hoth l u hu).mp ho)
  ow2 l u hh := by
    dsimp only at hh ⊢
    by_cases hu : u = t
    · subst hu; rw [upd_same] at hh; exact (hmine l).mpr hh
    · rw [upd_other _ _ _ _ hu] at hh; exact (hoth l u hu).mpr (h.ow2 l u hh)
  lk0 l := (hlk l).mp
  lk1 l := (hlk l).mpr
  wfp u := by
    dsimp only
    by_cases hu : u = t
    · subst hu; rw [upd_same]; exact hwf
    · rw [upd_other _ _ _ _ hu]; exact h.wfp u
  thr u := by
    dsimp only
    by_cases hu : u = t
    · subst hu; rw [upd_same]; exact hthr
    · rw [upd_other _ _ _ _ hu]; exact h.thr u
  cntle := hcnt

variable {p : PC} {l : Nat}

/-- `t` takes the free lock `l`. -/
theorem take (h : LInv c s) (hpc : s.pc t = p) (hfree : s.lk l = false) (hh : ∀ j, holds p' j ↔ j = l ∨ holds p j)
    (hwf : wf c.cap p') (hthr : t < c.nthr) (hcnt : cnt' ≤ c.cap) :
    LInv c ⟨cnt', upd s.lk l true, val', tag', upd s.pc t p', upd s.own l (some t), ins', outs'⟩ := by
  subst hpc
  have hnone := h.lk0 l hfree
  refine h.relock (fun j => ?_) (fun j u hu => ?_) (fun j => ?_) hwf (fun _ => hthr) hcnt
  · rw [hh j]
    by_cases hj : j = l
    · subst hj; simp
    · rw [upd_other _ _ _ _ hj]
      exact ⟨fun ho => .inr (h.ow1 j t ho), fun hx => hx.elim (fun e => absurd e hj) (h.ow2 j t)⟩
  · by_cases hj : j = l
    · subst hj; simp [hnone, Ne.symm hu]
    · rw [upd_other _ _ _ _ hj]
  · by_cases hj : j = l
    · subst hj; simp
    · rw [upd_other _ _ _ _ hj, upd_other _ _ _ _ hj]; exact ⟨h.lk0 j, h.lk1 j⟩

/-- `t` releases lock `l`, which it holds. -/
theorem drop (h : LInv c s) (hpc : s.pc t = p) (hheld : holds p l) (hh : ∀ j, holds p' j ↔ j ≠ l ∧ holds p j)
    (hwf : wf c.cap p') (hthr : p' ≠ .idle → t < c.nthr) :
    LInv c ⟨s.cnt, upd s.lk l false, val', tag', upd s.pc t p', upd s.own l none, ins', outs'⟩ := by
  subst hpc
  have hown := h.ow2 l t hheld
  refine h.relock (fun j => ?_) (fun j u hu => ?_) (fun j => ?_) hwf hthr h.cntle
  · rw [hh j]
    by_cases hj : j = l
    · subst hj; simp
    · rw [upd_other _ _ _ _ hj]
      exact ⟨fun ho => ⟨hj, h.ow1 j t ho⟩, fun hx => h.ow2 j t hx.2⟩
  · by_cases hj : j = l
    · subst hj; simp [hown, Ne.symm hu]
    · rw [upd_other _ _ _ _ hj]
  · by_cases hj : j = l
    · subst hj; simp
    · rw [upd_other _ _ _ _ hj, upd_other _ _ _ _ hj]; exact ⟨h.lk0 j, h.lk1 j⟩

/-- `t` moves on without touching a lock. -/
theorem move (h : LInv c s) (hpc : s.pc t = p) (hh : ∀ j, holds p' j ↔ holds p j) (hwf : wf c.cap p')
    (hthr : p' ≠ .idle → t < c.nthr) (hcnt : cnt' ≤ c.cap) :
    LInv c ⟨cnt', s.lk, val', tag', upd s.pc t p', s.own, ins', outs'⟩ := by
  subst hpc
  exact h.relock (fun j => ⟨fun ho => (hh j).mpr (h.ow1 j t ho), fun hx => h.ow2 j t ((hh j).mp hx)⟩)
    (fun _ _ _ => .rfl) (fun j => ⟨h.lk0 j, h.lk1 j⟩) hwf hthr hcnt

end LInv

theorem linv_invoke {c : Cfg} {s s' : St} {t : Tid} {op : GOp} (h : LInv c s) (hs : invoke c s t op = some s') :
    LInv c s' := by
  obtain ⟨hpc, ht, k, hk, rfl⟩ := invoke_cases hs
  rcases hk with ⟨v, rfl, -⟩ | ⟨rfl, -⟩ <;> exact h.move hpc (fun _ => .rfl) trivial (fun _ => ht) h.cntle

theorem linv_result {c : Cfg} {s s' : St} {t : Tid} {r : GRet} (h : LInv c s) (hs : result c s t = some (s', r)) :
    LInv c s' := by
  unfold result at hs
  split at hs <;> simp only [Option.some.injEq, Prod.mk.injEq, reduceCtorEq] at hs <;> obtain ⟨rfl, -⟩ := hs <;>
    rename_i hpc <;> exact h.move hpc (fun _ => .rfl) trivial (fun hne => absurd rfl hne) h.cntle

/-- Shape of an acquisition step: the lock is busy (the thread waits), or it is taken and `after` runs. -/
theorem step_acq {c : Cfg} {s s' : St} {t : Tid} {ev : Ev} {k : K} (hpc : s.pc t = .acq k)
    (hs : step c s t = some (s', ev)) :
    (s.lk k.lock = true ∧ s' = s.setPc t (.spin k)) ∨
    (s.lk k.lock = false ∧
      after c { s with lk := upd s.lk k.lock true, own := upd s.own k.lock (some t) } t k = some s') := by
  simp only [step, hpc] at hs
  split at hs
  next hl => simp at hs; exact Or.inl ⟨hl, hs.1.symm⟩
  next hl =>
    simp only [Option.map_eq_some_iff, Prod.mk.injEq] at hs
    obtain ⟨s1, h1, rfl, -⟩ := hs
    exact Or.inr ⟨by simpa using hl, h1⟩

theorem linv_steps {c : Cfg} {rank : Nat → Nat} (hc : SlotOK c rank) {s s' : St} {t : Tid} (h : LInv c s)
    (hs : Step c s t s') : LInv c s' := by
  have hwf := h.wfp t
  have hsr := hc.slot_range
  have hcnt := h.cntle
  have hthr : s.pc t ≠ .idle → ∀ p : PC, p ≠ .idle → t < c.nthr := fun hp _ _ => h.thr t hp
  cases hs with
  | busy hpc hlk =>
    rw [hpc] at hwf hthr
    exact h.move hpc (fun _ => .rfl) hwf (hthr nofun _) hcnt
  | spin p hpc hp =>
    rw [hpc] at hwf hthr
    rcases hp with rfl | rfl <;> exact h.move hpc (fun _ => .rfl) hwf (hthr nofun _) hcnt
  | take hpc hlk row =>
    rw [hpc] at hwf hthr
    cases row <;> refine h.take hpc hlk (fun j => ?_) ?_ (hthr nofun .pOk nofun) hcnt <;>
      simp only [holds, kHolds, K.lock, wf, kWf, or_false] at hwf ⊢ <;> omega
  | drop hpc row =>
    rw [hpc] at hwf hthr
    cases row <;> refine h.drop hpc ?_ (fun j => ?_) ?_ (hthr nofun _) <;>
      simp only [holds, kHolds, wf, kWf, or_true, true_or, false_iff, true_and] at hwf ⊢ <;> omega
  | pInc v hpc hlk hlt =>
    rw [hpc] at hthr
    have := hsr (s.cnt + 1) (by omega) (by omega)
    exact h.take hpc hlk (fun j => by simp only [holds, kHolds, or_false]) this (hthr nofun .pOk nofun)
      (by omega)
  | oDec hpc hlk hne =>
    rw [hpc] at hthr
    have := hsr s.cnt (by omega) hcnt
    exact h.take hpc hlk (fun j => by simp only [holds, kHolds, or_false]) this (hthr nofun .pOk nofun)
      (by omega)
  | hSwap i vi vp hpc hlk | hSettle i vi vp hpc hlk | hRootSettle hpc hlk | oLast hpc hlk | dSwap par ch pv vc vp hpc hlk =>
    rw [hpc] at hwf hthr
    refine h.take hpc hlk (fun j => ?_) ?_ (hthr nofun .pOk nofun) hcnt <;>
      simp only [holds, kHolds, wf, kWf, or_false] at hwf ⊢ <;> omega
  | pStore v i hpc | oTake b hpc | dLeftSwap par ch pv vc vp hpc | dRightSwap par ch pv vc vp hpc =>
    rw [hpc] at hwf hthr
    refine h.drop hpc ?_ (fun j => ?_) ?_ (hthr nofun _) <;>
      simp only [holds, wf, or_true, true_or] at hwf ⊢ <;> omega
  | oRoot b pv p hpc hne hp =>
    rw [hpc] at hwf hthr
    rcases hp with ⟨hlt, rfl⟩ | ⟨hlt, rfl⟩ <;> refine h.drop hpc ?_ (fun j => ?_) ?_ (hthr nofun _) <;>
      simp only [holds, kHolds, wf, kWf, or_true, true_and] at hwf ⊢ <;> omega

theorem linv_step {c : Cfg} {rank : Nat → Nat} (hc : SlotOK c rank) {s s' : St} {t : Tid} {ev : Ev} (h : LInv c s)
    (hs : step c s t = some (s', ev)) : LInv c s' :=
  linv_steps hc h (step_cases hs)

theorem linv_apply {c : Cfg} {rank : Nat → Nat} (hc : SlotOK c rank) (s : St) (t : Tid) (a : Act) (s' : St) (o : Obs)
    (h : LInv c s) (hap : (model c).apply s t a = some (s', o)) : LInv c s' := by
  rcases Model.apply_cases hap with ⟨op, -, hs, -⟩ | ⟨ev, -, hs, -⟩ | ⟨r, -, hs, -⟩
  · exact linv_invoke h hs
  · exact linv_step hc h hs
  · exact linv_result h hs

theorem linv_reachable {c : Cfg} {rank : Nat → Nat} (hc : SlotOK c rank) (s : St) (h : (model c).Reachable init s) :
    LInv c s :=
  (model c).inv_reachable (LInv c) init (linv_init c) (linv_apply hc) s h

end CdsVerif.Algo.MSPQ
