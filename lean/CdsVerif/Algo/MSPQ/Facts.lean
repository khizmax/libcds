/-
  MSPriorityQueue machine: consequences of the invariant quoted by the property theorems
  (multiset form of conservation, ordered edges, the root is a maximum).
-/
import CdsVerif.Algo.MSPQ.All
namespace CdsVerif.Algo.MSPQ
open CdsVerif.Machine CdsVerif.Spec

/-- The items stored in the heap array (slots `0 .. cap`, slot 0 is never used). -/
def arrayItems (c : Cfg) (s : St) : List Int := (List.range (c.cap + 1)).filterMap s.val

/-- The items that pops have taken out of the array and not yet returned. -/
def heldItems (c : Cfg) (s : St) : List Int := (List.range c.nthr).filterMap (fun t => heldOf (s.pc t))

/-- Nobody is inside an operation. -/
def Quiescent (s : St) : Prop := ∀ t, s.pc t = .idle

theorem cntF_eq_count (f : Nat → Option Int) (n : Nat) (x : Int) :
    cntF f n x = ((List.range n).filterMap f).count x := by
  induction n with
  | zero => rfl
  | succ n ih =>
    rw [cntF, ih, List.range_succ, List.filterMap_append, List.count_append]
    congr 1
    cases hf : f n with
    | none => simp [ind, hf]
    | some v =>
      simp only [List.filterMap_cons, hf, List.filterMap_nil, ind, Option.some.injEq, List.count_singleton]
      by_cases h : v = x <;> simp [h]

theorem conservation_perm {c : Cfg} {s : St} (h : CInv c s) :
    (arrayItems c s ++ heldItems c s ++ s.outs).Perm s.ins := by
  rw [List.perm_iff_count]
  intro x
  have := h x
  simp only [total, cntF_eq_count] at this
  simp only [List.count_append, arrayItems, heldItems]
  exact this

theorem heldItems_quiescent {c : Cfg} {s : St} (hq : Quiescent s) : heldItems c s = [] := by
  unfold heldItems
  apply List.filterMap_eq_nil_iff.mpr
  intro t _
  rw [hq t]; rfl

/-- An edge whose child is Available and whose ends are not being sifted by a pop is ordered. -/
theorem edge_ordered {c : Cfg} {rank : Nat → Nat} {s : St} {g : Nat → Int} (hsi : SInv c rank s) (hg : GOk c s g)
    (i : Nat) (h2 : 2 ≤ i) (hcap : i ≤ c.cap) (hav : s.tag i = .avail) (vi vp : Int) (hvi : s.val i = some vi)
    (hvp : s.val (i / 2) = some vp) (hns : ∀ t, sift (s.pc t) ≠ some i) (hnp : ∀ t, sift (s.pc t) ≠ some (i / 2)) :
    prio vi ≤ prio vp := by
  have hgi : g i = prio vi := hg.g2 i vi (by omega) hav hvi hns
  have hedge := hg.g1 i h2 hcap (by rw [hav]; simp)
  have hgp : g (i / 2) ≤ prio vp := by
    cases htp : s.tag (i / 2) with
    | empty => have := hsi.te1 _ htp; rw [hvp] at this; cases this
    | avail => exact Int.le_of_eq (hg.g2 (i / 2) vp (by omega) htp hvp hnp)
    | own t2 => exact hg.g3 (i / 2) t2 vp htp hvp
  omega

end CdsVerif.Algo.MSPQ
