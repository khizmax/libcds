/-
  MSPriorityQueue machine, layer 4 of the invariant (heap order): preservation by `step`.
  Every case names the new ghost priorities explicitly.
-/
import CdsVerif.Algo.MSPQ.G
namespace CdsVerif.Algo.MSPQ
open CdsVerif.Machine CdsVerif.Spec

/-- priority of an optional item (0 for a null pointer: never used on one) -/
def oprio : Option Int → Int
  | some v => prio v
  | none => 0

@[simp] theorem oprio_some (v : Int) : oprio (some v) = prio v := rfl

def imin (a b : Int) : Int := if a ≤ b then a else b
def imax (a b : Int) : Int := if a ≤ b then b else a

/-- ghost priority of an item `x` placed under parent `p` (`p = 0`: at the root) with an owner tag -/
def gUnder (g : Nat → Int) (i : Nat) (x : Int) : Int := if i = 1 then x else imin x (g (i / 2))

/-! ### Consequences of the shape invariant -/

theorem left_before_right {c : Cfg} {rank : Nat → Nat} (hc : SlotOK c rank) {s : St} (h : SInv c rank s) (p : Nat)
    (h1 : 1 ≤ p) (h2 : 2 * p + 1 ≤ c.cap) (hr : s.tag (2 * p + 1) ≠ .empty) : s.tag (2 * p) ≠ .empty := by
  have hrk := hc.rank_sibling p h1 h2
  cases ho : s.own 0 with
  | none =>
    have a := (h.shN (2 * p + 1) ho (by omega) h2).1 hr
    exact (h.shN (2 * p) ho (by omega) (by omega)).2 (by omega)
  | some t =>
    have a := (h.shO (2 * p + 1) t ho (by omega) h2).1 hr
    exact (h.shO (2 * p) t ho (by omega) (by omega)).2 (by omega)

theorem parent_nonempty {c : Cfg} {rank : Nat → Nat} (hc : SlotOK c rank) {s : St} (h : SInv c rank s) (i : Nat)
    (h1 : 2 ≤ i) (h2 : i ≤ c.cap) (hr : s.tag i ≠ .empty) : s.tag (i / 2) ≠ .empty := by
  have hrk := hc.rank_parent i h1 h2
  cases ho : s.own 0 with
  | none =>
    have a := (h.shN i ho (by omega) h2).1 hr
    exact (h.shN (i / 2) ho (by omega) (by omega)).2 (by omega)
  | some t =>
    have a := (h.shO i t ho (by omega) h2).1 hr
    exact (h.shO (i / 2) t ho (by omega) (by omega)).2 (by omega)

/-- The children of the slot a push is about to fill are empty. -/
theorem fresh_children_empty {c : Cfg} {rank : Nat → Nat} (hc : SlotOK c rank) {s : St} {t : Tid} {v : Int} {i : Nat}
    (hl : LInv c s) (hsi : SInv c rank s) (hpc : s.pc t = .pUnlSz v i) (j : Nat) (h1 : 2 ≤ j) (h2 : j ≤ c.cap)
    (hj : j / 2 = i) : s.tag j = .empty := by
  have hwi := (hsi.loc t).wi i (by simp [hpc, incIdx])
  have ho : s.own 0 = some t := hl.ow2 0 t (by simp [hpc, holds])
  have hr1 : rank i = s.cnt := by rw [hwi.1]; exact hc.rank_slot _ hwi.2 hl.cntle
  have hrk := hc.rank_parent j h1 h2
  have := hsi.shO j t ho (by omega) h2
  simp only [hpc, pinc, pdec] at this
  apply Classical.byContradiction; intro hne
  have := this.1 hne
  rw [hj] at hrk
  omega

macro "ggrind2" : tactic =>
  `(tactic| grind (splits := 20) (gen := 4)
      [upd, K.lock, St.setPc, rel, pushLoop, popLoop, sift, kSift, oprio, imin, imax, gUnder])

macro "gfacts2" h:ident : tactic =>
  `(tactic| (have := GOk.g1 $h; have := GOk.g2a $h; have := GOk.g2b $h; have := GOk.g3 $h))

open Lean in
macro "gg2" h:ident x:ident : tactic => do
  let f := mkIdent (`CdsVerif.Algo.MSPQ.GOk ++ x.getId.eraseMacroScopes)
  `(tactic| first
    | (intros; have := $f $h; (try dsimp only [St.setPc, rel] at *); ggrind2)
    | (intros; have := GOk.g2a $h; have := GOk.g2b $h; have := GOk.g3 $h; (try dsimp only [St.setPc, rel] at *); ggrind2)
    | (intros; gfacts2 $h; (try dsimp only [St.setPc, rel] at *); ggrind2))

theorem gUnder_le (g : Nat → Int) (i : Nat) (x : Int) : gUnder g i x ≤ x := by
  simp only [gUnder, imin]; split <;> (try split) <;> omega

theorem gUnder_le_parent (g : Nat → Int) {i : Nat} (x : Int) (h2 : 2 ≤ i) : gUnder g i x ≤ g (i / 2) := by
  simp only [gUnder, imin]; split <;> (try split) <;> omega

theorem le_imax_left (a b : Int) : a ≤ imax a b := by
  simp only [imax]; split <;> omega

theorem le_imax_right (a b : Int) : b ≤ imax a b := by
  simp only [imax]; split <;> omega

namespace GOk
variable {c : Cfg} {rank : Nat → Nat} {s s' : St} {g : Nat → Int} {t : Tid} {p p' : PC} {cnt' : Nat} {lk' : Nat → Bool}
  {own' : Nat → Option Tid} {ins' outs' : List Int}

/-- A step of `t` that rewrites tag, value and ghost priority of one node `a`, which `t` holds or takes: what is
    left to show are the clauses at `a` (`hup`, `hdn`: the edges above and below it). -/
theorem patch {a : Nat} {val' : Nat → Option Int} {tag' : Nat → Tag} {g' : Nat → Int}
    (hl : LInv c s) (h : GOk c s g) (hp : s.pc t = p)
    (he : Effect s ⟨s.cnt, lk', val', tag', upd s.pc t p', own', ins', outs'⟩ t)
    (h1a : 1 ≤ a) (hoa : s.own a = some t ∨ s.own a = none)
    (htag : ∀ j, j ≠ a → tag' j = s.tag j) (hval : ∀ j, j ≠ a → val' j = s.val j) (hg : ∀ j, j ≠ a → g' j = g j)
    (hsift : ∀ i, i ≠ a → sift p = some i → sift p' = some i)
    (hup : 2 ≤ a → a ≤ c.cap → tag' a ≠ .empty → g' a ≤ g (a / 2))
    (hdn : ∀ j, 2 ≤ j → j ≤ c.cap → j / 2 = a → s.tag j ≠ .empty → g j ≤ g' a)
    (h2 : ∀ v, tag' a = .avail → val' a = some v → sift p' ≠ some a → g' a = prio v)
    (h3 : ∀ u v, tag' a = .own u → val' a = some v → g' a ≤ prio v) (hT : GLoc val' g' p') :
    GOk c ⟨s.cnt, lk', val', tag', upd s.pc t p', own', ins', outs'⟩ g' := by
  subst hp
  refine h.step hl he (upd_same _ _ _) (fun j hj => ?_) (fun i h2i hc hne => ?_)
    (fun i v h1 ha hv hns => ?_) (fun i u v ht hv => ?_) hT
  · have : j = a := Classical.byContradiction fun hne => hj (hg j hne)
    exact this ▸ hoa
  · dsimp only at hne
    by_cases hi : i = a
    · rw [hi, hg (a / 2) (by omega)]
      exact hup (hi ▸ h2i) (hi ▸ hc) (hi ▸ hne)
    · rw [hg i hi]
      rw [htag i hi] at hne
      by_cases hi2 : i / 2 = a
      · rw [hi2]; exact hdn i h2i hc hi2 hne
      · rw [hg _ hi2]; exact h.g1 i h2i hc hne
  · dsimp only at ha hv hns
    have hnt : sift p' ≠ some i := by
      have := hns t
      rwa [show upd s.pc t p' t = p' from upd_same _ _ _] at this
    by_cases hi : i = a
    · subst hi; exact h2 v ha hv hnt
    · rw [hg i hi]
      rw [htag i hi] at ha
      rw [hval i hi] at hv
      refine h.g2 i v h1 ha hv fun u => ?_
      by_cases hu : u = t
      · exact hu ▸ fun e => hnt (hsift i hi e)
      · have := hns u
        rwa [show upd s.pc t p' u = s.pc u from upd_other _ _ _ _ hu] at this
  · dsimp only at ht hv
    by_cases hi : i = a
    · subst hi; exact h3 u v ht hv
    · rw [hg i hi]
      rw [htag i hi] at ht
      rw [hval i hi] at hv
      exact h.g3 i u v ht hv

/-- The sift-down of `t` ends at `par`: the node takes the priority of its item.  `hch`: the item is not smaller
    than what the occupied children stand for. -/
theorem stop {par : Nat} {vp : Int} (hl : LInv c s) (h : GOk c s g) (hp : s.pc t = p) (hs : sift p = some par)
    (h1p : 1 ≤ par) (hvp : s.val par = some vp)
    (hch : ∀ j, 2 ≤ j → j ≤ c.cap → j / 2 = par → s.tag j ≠ .empty → g j ≤ prio vp)
    (hT : GLoc s.val (upd g par (prio vp)) p') :
    GOk c ⟨s.cnt, lk', s.val, s.tag, upd s.pc t p', own', ins', outs'⟩ (upd g par (prio vp)) := by
  have hg4 : prio vp ≤ g par := (hp ▸ h.loc t).g4 par vp hs hvp
  have hv : ∀ v, s.val par = some v → upd g par (prio vp) par = prio v := fun v hv => by
    rw [upd_same, hvp] at *; cases hv; rfl
  refine h.patch hl hp .locks h1p (.inl (hl.ow2 par t (hp ▸ sift_holds _ _ hs))) (fun _ _ => rfl) (fun _ _ => rfl)
    (fun j hj => upd_other _ _ _ _ hj) (fun i hi e => absurd (Option.some.inj (hs.symm.trans e)).symm hi)
    (fun h2 hc hne => ?_) (fun j h2 hc hj hne => by rw [upd_same]; exact hch j h2 hc hj hne)
    (fun v _ hv' _ => hv v hv') (fun u v _ hv' => Int.le_of_eq (hv v hv')) hT
  have := h.g1 par h2 hc hne
  rw [upd_same]
  omega

/-- A pop takes the item out of node `b`: the ghost priorities stay. -/
theorem clear {b : Nat} (hl : LInv c s) (h : GOk c s g) (hp : s.pc t = p)
    (he : Effect s ⟨s.cnt, lk', upd s.val b none, upd s.tag b .empty, upd s.pc t p', own', ins', outs'⟩ t)
    (h1b : 1 ≤ b) (hob : s.own b = some t ∨ s.own b = none) (hs : sift p = none) (hT : GLoc (upd s.val b none) g p') :
    GOk c ⟨s.cnt, lk', upd s.val b none, upd s.tag b .empty, upd s.pc t p', own', ins', outs'⟩ g :=
  h.patch hl hp he h1b hob (fun _ hj => upd_other _ _ _ _ hj) (fun _ hj => upd_other _ _ _ _ hj) (fun _ _ => rfl)
    (fun _ _ e => by rw [hs] at e; cases e) (fun _ _ hne => absurd (upd_same _ _ _) hne)
    (fun j h2 hcj hj hne => hj ▸ h.g1 j h2 hcj hne) (fun v ha => by rw [upd_same] at ha; cases ha)
    (fun u v ht => by rw [upd_same] at ht; cases ht) hT

/-- The item of `t` has reached its place at node `a`: the owner tag is replaced by Available and the node takes
    the priority of the item.  `hup`: the parent stands for at least as much. -/
theorem settle {a : Nat} {va : Int} (hl : LInv c s) (h : GOk c s g) (hp : s.pc t = p)
    (he : Effect s ⟨s.cnt, lk', s.val, upd s.tag a .avail, upd s.pc t p', own', ins', outs'⟩ t)
    (h1a : 1 ≤ a) (hoa : s.own a = some t ∨ s.own a = none) (hs : sift p = none) (hta : s.tag a = .own t)
    (hva : s.val a = some va) (hup : 2 ≤ a → prio va ≤ g (a / 2)) (hT : GLoc s.val (upd g a (prio va)) p') :
    GOk c ⟨s.cnt, lk', s.val, upd s.tag a .avail, upd s.pc t p', own', ins', outs'⟩ (upd g a (prio va)) := by
  have hga : g a ≤ prio va := h.g3 a t va hta hva
  refine h.patch hl hp he h1a hoa (fun _ hj => upd_other _ _ _ _ hj) (fun _ _ => rfl)
    (fun _ hj => upd_other _ _ _ _ hj) (fun _ _ e => by rw [hs] at e; cases e)
    (fun h2 _ _ => by rw [upd_same]; exact hup h2) (fun j h2 hcj hj hne => ?_) (fun v _ hv _ => ?_)
    (fun u v ht => by rw [upd_same] at ht; cases ht) hT
  · have := h.g1 j h2 hcj hne
    rw [upd_same]; rw [hj] at this; omega
  · rw [upd_same]; rw [hva] at hv; cases hv; rfl

/-- The sift-down of `t` exchanges the item of `par` with the greater item of its child `x`.  `hsib`: that item is
    not smaller than what the other occupied child stands for. -/
theorem swap {par x : Nat} {vc vp : Int} {pv : Option Int} (hl : LInv c s) (h : GOk c s g) (hp : s.pc t = p)
    (he : Effect s ⟨s.cnt, lk', upd (upd s.val par (some vc)) x (some vp),
      upd (upd s.tag par (s.tag x)) x (s.tag par), upd s.pc t (.dUnlSwap par x pv), own', ins', outs'⟩ t)
    (hs : sift p = some par) (hx2 : x / 2 = par) (h2x : 2 ≤ x) (hxc : x ≤ c.cap)
    (hox : s.own x = some t ∨ s.own x = none) (hnx : ∀ u, sift (s.pc u) ≠ some x)
    (hav : s.tag par = .avail) (hx : s.tag x ≠ .empty) (hvc : s.val x = some vc) (hvp : s.val par = some vp)
    (hgt : prio vc > prio vp)
    (hsib : ∀ y, 2 ≤ y → y ≤ c.cap → y / 2 = par → y ≠ x → s.tag y ≠ .empty → g y ≤ prio vc) :
    GOk c ⟨s.cnt, lk', upd (upd s.val par (some vc)) x (some vp), upd (upd s.tag par (s.tag x)) x (s.tag par),
      upd s.pc t (.dUnlSwap par x pv), own', ins', outs'⟩
      (upd (upd g x (imax (prio vp) (g x))) par (imin (prio vc) (g par))) := by
  subst hp
  have hg4 : prio vp ≤ g par := (h.loc t).g4 par vp hs hvp
  have hown := hl.ow2 par t (sift_holds _ _ hs)
  have hgx : g x ≤ prio vc := by
    cases htx : s.tag x with
    | empty => exact absurd htx hx
    | avail => exact Int.le_of_eq (h.g2 x vc (by omega) htx hvc hnx)
    | own u => exact h.g3 x u vc htx hvc
  have hgx' : s.tag x = .avail → g x = prio vc := fun htx => h.g2 x vc (by omega) htx hvc hnx
  have hgxp : g x ≤ g par := hx2 ▸ h.g1 x h2x hxc hx
  have hpar : s.tag par ≠ .empty := by rw [hav]; nofun
  have hemp : ∀ j, upd (upd s.tag par (s.tag x)) x (s.tag par) j = .empty ↔ s.tag j = .empty := fun j =>
    swap_empty_iff hpar hx
  have hg1 := h.g1
  have hg2 := h.g2
  have hg3 := h.g3
  have hsift : ∀ u, u ≠ t → sift (upd s.pc t (.dUnlSwap par x pv) u) = sift (s.pc u) := fun u hu => by
    rw [upd_other _ _ _ _ hu]
  have hsift' : sift (upd s.pc t (.dUnlSwap par x pv) t) = some x := by rw [upd_same]; rfl
  refine h.step hl he (upd_same _ _ _) (fun j hj => ?_) (fun i h2 hc hne => ?_)
    (fun i v h1 ha hv hns => ?_) (fun i u v ht hv => ?_) ⟨fun i v hi hv => ?_, nofun, nofun⟩
  · rcases upd2_changed hj with rfl | rfl
    · exact hox
    · exact .inl hown
  · have hne' := mt (hemp i).mpr hne
    dsimp only at hne ⊢
    grind [upd, imin, imax]
  · dsimp only at ha hv hns ⊢
    grind [upd, imin, imax]
  · dsimp only at ht hv ⊢
    grind [upd, imin, imax]
  · cases hi
    dsimp only at hv ⊢
    grind [upd, imin, imax]

/-- `heapify_after_push` moves the item of `t` from `i` up to the parent, whose smaller item goes down. -/
theorem push_up {i : Nat} {vi vp : Int} (hl : LInv c s) (h : GOk c s g) (hpc : s.pc t = .acq (.hItem i))
    (he : Effect s ⟨s.cnt, lk', upd (upd s.val i (some vp)) (i / 2) (some vi),
      upd (upd s.tag i .avail) (i / 2) (.own t), upd s.pc t (.hUnlItem i (i / 2)), own', ins', outs'⟩ t)
    (hlk : s.lk i = false) (h2i : 2 ≤ i) (hic : i ≤ c.cap) (hp : s.tag (i / 2) = .avail) (hi : s.tag i = .own t)
    (hvi : s.val i = some vi) (hvp : s.val (i / 2) = some vp) (hgt : prio vi > prio vp) :
    GOk c ⟨s.cnt, lk', upd (upd s.val i (some vp)) (i / 2) (some vi), upd (upd s.tag i .avail) (i / 2) (.own t),
      upd s.pc t (.hUnlItem i (i / 2)), own', ins', outs'⟩
      (upd (upd g i (prio vp)) (i / 2) (gUnder g (i / 2) (prio vi))) := by
  have hown : s.own (i / 2) = some t := hl.ow2 _ t (hpc ▸ rfl)
  have hgp : g (i / 2) = prio vp := h.g2 _ vp (by omega) hp hvp fun u => by
    by_cases hu : u = t
    · rw [hu, hpc]; nofun
    · exact not_sifted_by_other hl hown hu
  have hgi : g i ≤ prio vi := h.g3 i t vi hi hvi
  have hg1 := h.g1
  have hg2 := h.g2
  have hg3 := h.g3
  have hsift : ∀ u, sift (upd s.pc t (.hUnlItem i (i / 2)) u) ≠ sift (s.pc u) → u = t := fun u hu =>
    Classical.byContradiction fun hne => hu (by rw [upd_other _ _ _ _ hne])
  have hst : sift (s.pc t) = none := by rw [hpc]; rfl
  refine h.step hl he (upd_same _ _ _) (fun j hj => ?_) (fun j h2 hc hne => ?_)
    (fun j v h1 ha hv hns => ?_) (fun j u v ht hv => ?_) ⟨nofun, nofun, nofun⟩
  · rcases upd2_changed hj with rfl | rfl
    · exact .inr (hl.lk0 _ hlk)
    · exact .inl hown
  · dsimp only at hne ⊢
    grind [upd, imin, gUnder]
  · dsimp only at ha hv hns ⊢
    grind [upd, imin, gUnder]
  · dsimp only at ht hv ⊢
    grind [upd, imin, gUnder]

/-- An occupied node that nobody is sifting stands for at most the priority of its item. -/
theorem le_prio {x : Nat} {v : Int} (h : GOk c s g) (h1 : 1 ≤ x) (hne : s.tag x ≠ .empty) (hv : s.val x = some v)
    (hns : ∀ u, sift (s.pc u) ≠ some x) : g x ≤ prio v := by
  cases htx : s.tag x with
  | empty => exact absurd htx hne
  | avail => exact Int.le_of_eq (h.g2 x v h1 htx hv hns)
  | own u => exact h.g3 x u v htx hv

end GOk

section
variable {c : Cfg} {rank : Nat → Nat} {s : St} {g : Nat → Int} {t : Tid} {x par ch : Nat} {pv : Option Int} {vc : Int}

/-- Nobody sifts a node whose lock is free. -/
theorem not_sifted_of_free (hl : LInv c s) (ho : s.own x = none) (u : Tid) :
    sift (s.pc u) ≠ some x := fun hs => by
  rw [hl.ow2 x u (sift_holds _ _ hs)] at ho; cases ho

/-- Nobody sifts a node held by a thread that is sifting another one or none. -/
theorem not_sifted_of_held (hl : LInv c s) (ho : s.own x = some t)
    (hst : sift (s.pc t) ≠ some x) (u : Tid) : sift (s.pc u) ≠ some x := by
  by_cases hu : u = t
  · exact hu ▸ hst
  · exact not_sifted_by_other hl ho hu

/-- After the comparison of the two children of `par`: both stand for at most the priority of the greater item,
    the right one's if `dUnlLeft` … -/
theorem children_le_right (hl : LInv c s) (hsi : SInv c rank s) (h : GOk c s g)
    (hpc : s.pc t = .dUnlLeft par ch pv) (hvc : s.val (ch + 1) = some vc) (y : Nat) (hy : y / 2 = par) :
    g y ≤ prio vc := by
  have hgl := hpc ▸ h.loc t
  have hloc := hpc ▸ hsi.loc t
  obtain ⟨h1p, hch, -⟩ := hpc ▸ hl.wfp t
  have hns : ∀ x, holds (.dUnlLeft par ch pv) x → x ≠ par → ∀ u, sift (s.pc u) ≠ some x := fun x hx hne =>
    not_sifted_of_held hl (hl.ow2 x t (hpc ▸ hx)) (by rw [hpc]; exact fun e => hne (Option.some.inj e).symm)
  obtain ⟨vl, hvl⟩ := exists_val_of_tag_ne_empty hsi.te2 (hloc.ne ch (.inr (.inl rfl)))
  have := hgl.sb1 ch vl vc rfl hvl hvc
  have := h.le_prio (by omega) (hloc.ne ch (.inr (.inl rfl))) hvl (hns ch (.inr (.inl rfl)) (by omega))
  have := h.le_prio (by omega) (hloc.ne _ (.inr (.inr rfl))) hvc (hns _ (.inr (.inr rfl)) (by omega))
  rcases (by omega : y = ch ∨ y = ch + 1) with rfl | rfl <;> omega

/-- … the left one's if `dUnlRight`. -/
theorem children_le_left (hl : LInv c s) (hsi : SInv c rank s) (h : GOk c s g)
    (hpc : s.pc t = .dUnlRight par ch pv) (hvc : s.val ch = some vc) (y : Nat) (hy : y / 2 = par)
    (hne : s.tag y ≠ .empty) : g y ≤ prio vc := by
  have hgl := hpc ▸ h.loc t
  have hloc := hpc ▸ hsi.loc t
  obtain ⟨h1p, hch, -⟩ := hpc ▸ hl.wfp t
  have hns : ∀ x, holds (.dUnlRight par ch pv) x → x ≠ par → ∀ u, sift (s.pc u) ≠ some x := fun x hx hne =>
    not_sifted_of_held hl (hl.ow2 x t (hpc ▸ hx)) (by rw [hpc]; exact fun e => hne (Option.some.inj e).symm)
  have := h.le_prio (by omega) (hloc.ne ch (.inr rfl)) hvc (hns ch (.inr (.inl rfl)) (by omega))
  rcases (by omega : y = ch ∨ y = ch + 1) with rfl | rfl
  · omega
  · obtain ⟨vr, hvr⟩ := exists_val_of_tag_ne_empty hsi.te2 hne
    have := hgl.sb2 ch vc vr rfl hvc hvr
    have := h.le_prio (by omega) hne hvr (hns _ (.inr (.inr rfl)) (by omega))
    omega

end

theorem ginv_steps {c : Cfg} {rank : Nat → Nat} (hc : SlotOK c rank) {s s' : St} {t : Tid}
    (hl : LInv c s) (hsi : SInv c rank s) (hg : GInv c s) (hs : Step c s t s') : GInv c s' := by
  obtain ⟨g, h⟩ := hg
  have he := effect_steps hl hs
  have hgl := h.loc t
  have hloc := hsi.loc t
  have hwf := hl.wfp t
  have hmine : ∀ l, holds (s.pc t) l → s.own l = some t := fun l => hl.ow2 l t
  cases hs with
  | busy hpc hlk =>
    rw [hpc] at hgl
    exact ⟨g, h.locks hpc rfl { hgl with }⟩
  | spin p hpc hp =>
    rw [hpc] at hgl
    rcases hp with rfl | rfl <;> exact ⟨g, h.locks hpc rfl { hgl with }⟩
  | take hpc hlk row =>
    rw [hpc] at hgl hloc hwf hmine
    have hT := hgl.takes hsi row
    cases row with
    | dLeaf par ch pv hemp =>
      obtain ⟨vp, hvp⟩ := exists_val_of_tag_ne_empty hsi.te2 (hloc.ne par rfl)
      refine ⟨_, h.stop hl hpc rfl hwf.1 hvp (fun j h2 hcap hj hne => ?_) ⟨nofun, nofun, nofun⟩⟩
      have hch := hwf.2.1
      by_cases hjc : j = ch
      · exact absurd (hjc ▸ hemp) hne
      · have := left_before_right hc hsi par hwf.1 (by omega) (by rwa [show 2 * par + 1 = j by omega])
        rw [← hch] at this
        exact absurd hemp this
    | dStay par ch pv vc vp hne hr hvc hvp hngt =>
      refine ⟨_, h.stop hl hpc rfl hwf.1 hvp (fun j h2 hcap hj hnej => ?_) ⟨nofun, nofun, nofun⟩⟩
      have hch := hwf.2.1
      have hjc : j = ch := by omega
      have := h.le_prio (by omega) hne hvc (not_sifted_of_free hl (hl.lk0 _ hlk))
      rw [hjc]
      omega
    | _ => exact ⟨g, h.locks hpc rfl hT⟩
  | @drop p p' l hpc row =>
    rw [hpc] at hgl hloc hwf hmine
    have hT := hgl.drops row
    cases row with
    | dLeftStay par _ pv vc vp hvc hvp hngt =>
      refine ⟨_, h.stop hl hpc rfl hwf.1 hvp (fun j _ _ hj _ => ?_) ⟨nofun, nofun, nofun⟩⟩
      have := children_le_right hl hsi h hpc hvc j hj
      omega
    | dRightStay par ch pv vc vp hvc hvp hngt =>
      refine ⟨_, h.stop hl hpc rfl hwf.1 hvp (fun j _ _ hj hne => ?_) ⟨nofun, nofun, nofun⟩⟩
      have := children_le_left hl hsi h hpc hvc j hj hne
      omega
    | dUnlSwapLeaf _ ch pv hnlt =>
      obtain ⟨vc, hvc⟩ := exists_val_of_tag_ne_empty hsi.te2 (hloc.ne ch (.inr rfl))
      exact ⟨_, h.stop hl hpc rfl (by have := hwf.1; have := hwf.2.1; omega) hvc (fun j h2 hcap hj _ => by omega)
        ⟨nofun, nofun, nofun⟩⟩
    | _ => exact ⟨g, h.locks hpc rfl hT⟩
  | pInc v hpc hlk | oDec hpc hlk =>
    rw [hpc] at hgl
    exact ⟨g, h.locks hpc rfl { hgl with }⟩
  | hSwap i vi vp hpc hlk hp hi hvi hvp hgt =>
    rw [hpc] at hwf
    exact ⟨_, h.push_up hl hpc he hlk hwf.1 hwf.2 hp hi hvi hvp hgt⟩
  | hSettle i vi vp hpc hlk hp hi hvi hvp hngt =>
    rw [hpc] at hwf hmine
    have hgp : g (i / 2) = prio vp := h.g2 _ vp (by have := hwf.1; omega) hp hvp
      (not_sifted_of_held hl (hmine _ rfl) (by rw [hpc]; nofun))
    exact ⟨_, h.settle hl hpc he (by have := hwf.1; omega) (.inr (hl.lk0 _ hlk)) rfl hi hvi (fun _ => by omega)
      ⟨nofun, nofun, nofun⟩⟩
  | hRootSettle hpc hlk h1 =>
    obtain ⟨v1, hv1⟩ := exists_val_of_tag_ne_empty hsi.te2 (j := 1) (by rw [h1]; nofun)
    exact ⟨_, h.settle hl hpc he (Nat.le_refl 1) (.inr (hl.lk0 _ hlk)) rfl h1 hv1 (fun h2 => by omega)
      ⟨nofun, nofun, nofun⟩⟩
  | oLast hpc hlk => exact ⟨g, h.clear hl hpc he (Nat.le_refl 1) (.inr (hl.lk0 _ hlk)) rfl ⟨nofun, nofun, nofun⟩⟩
  | oTake b hpc =>
    rw [hpc] at hwf hmine
    exact ⟨g, h.clear hl hpc he (by have := hwf.1; omega) (.inl (hmine b (.inr (.inr rfl)))) rfl
      ⟨nofun, nofun, nofun⟩⟩
  | pStore v i hpc =>
    rw [hpc] at hwf hmine
    have hch := fresh_children_empty hc hl hsi hpc
    refine ⟨upd g i (gUnder g i (prio v)), h.patch hl hpc he hwf.1 (.inl (hmine i (.inr rfl)))
      (fun j hj => upd_other _ _ _ _ hj) (fun j hj => upd_other _ _ _ _ hj) (fun j hj => upd_other _ _ _ _ hj) nofun
      (fun h2 _ _ => ?_) (fun j h2 hcj hj hne => absurd (hch j h2 hcj hj) hne)
      (fun v ha => by rw [upd_same] at ha; cases ha) (fun u v' _ hv => ?_) ⟨nofun, nofun, nofun⟩⟩
    · rw [upd_same]; exact gUnder_le_parent g _ h2
    · rw [upd_same] at hv ⊢; cases hv; exact gUnder_le g i _
  | oRoot b pv p hpc hne hp =>
    rw [hpc] at hloc hmine
    obtain ⟨w, rfl⟩ : ∃ w, pv = some w := by
      cases pv with
      | none => exact absurd rfl (hloc.hv trivial)
      | some w => exact ⟨w, rfl⟩
    have hw : ∀ v, upd s.val 1 (some w) 1 = some v → prio w = prio v := fun v hv => by
      rw [upd_same] at hv; cases hv; rfl
    rcases hp with ⟨hlt, rfl⟩ | ⟨hlt, rfl⟩
    · refine ⟨upd g 1 (imax (prio w) (g 1)), h.patch hl hpc he (Nat.le_refl 1) (.inl (hmine 1 (.inl rfl)))
        (fun j hj => upd_other _ _ _ _ hj) (fun j hj => upd_other _ _ _ _ hj) (fun j hj => upd_other _ _ _ _ hj) nofun
        (fun h2 => by omega) (fun j h2 hcj hj hnej => ?_) (fun v _ _ hns => absurd rfl hns)
        (fun u v ht => by rw [upd_same] at ht; cases ht) ⟨fun i v hi hv => ?_, nofun, nofun⟩⟩
      · have := h.g1 j h2 hcj hnej
        have := le_imax_right (prio w) (g 1)
        rw [upd_same]; rw [hj] at *; omega
      · cases hi
        rw [upd_same, ← hw v hv]
        exact le_imax_left _ _
    · exact ⟨upd g 1 (prio w), h.patch hl hpc he (Nat.le_refl 1) (.inl (hmine 1 (.inl rfl)))
        (fun j hj => upd_other _ _ _ _ hj) (fun j hj => upd_other _ _ _ _ hj) (fun j hj => upd_other _ _ _ _ hj) nofun
        (fun h2 => by omega) (fun j h2 hcj _ _ => by omega) (fun v _ hv _ => by rw [upd_same]; exact hw v hv)
        (fun u v ht => by rw [upd_same] at ht; cases ht) ⟨nofun, nofun, nofun⟩⟩
  | dSwap par ch pv vc vp hpc hlk hne hr hvc hvp hgt =>
    rw [hpc] at hloc hwf
    obtain ⟨h1p, hch, hcc⟩ := hwf
    exact ⟨_, h.swap hl hpc he rfl (by omega) (by omega) hcc (.inr (hl.lk0 _ hlk))
      (not_sifted_of_free hl (hl.lk0 _ hlk)) (hloc.ppa par rfl) hne hvc hvp hgt (fun y _ _ _ _ _ => by omega)⟩
  | dLeftSwap par ch pv vc vp hpc hvc hvp hgt =>
    rw [hpc] at hloc hwf hmine
    obtain ⟨h1p, hch, hcc⟩ := hwf
    exact ⟨_, h.swap hl hpc he rfl (by omega) (by omega) hcc (.inl (hmine _ (.inr (.inr rfl))))
      (not_sifted_of_held hl (hmine _ (.inr (.inr rfl))) (by rw [hpc]; exact fun e => by cases e; omega))
      (hloc.ppa par rfl) (hloc.ne _ (.inr (.inr rfl))) hvc hvp hgt
      (fun y _ _ hy _ _ => children_le_right hl hsi h hpc hvc y hy)⟩
  | dRightSwap par ch pv vc vp hpc hvc hvp hgt =>
    rw [hpc] at hloc hwf hmine
    obtain ⟨h1p, hch, hcc⟩ := hwf
    exact ⟨_, h.swap hl hpc he rfl (by omega) (by omega) (by omega) (.inl (hmine _ (.inr (.inl rfl))))
      (not_sifted_of_held hl (hmine _ (.inr (.inl rfl))) (by rw [hpc]; exact fun e => by cases e; omega))
      (hloc.ppa par rfl) (hloc.ne _ (.inr rfl)) hvc hvp hgt
      (fun y _ _ hy _ hne => children_le_left hl hsi h hpc hvc y hy hne)⟩

theorem ginv_step {c : Cfg} {rank : Nat → Nat} (hc : SlotOK c rank) {s s' : St} {t : Tid} {ev : Ev}
    (hl : LInv c s) (hsi : SInv c rank s) (hg : GInv c s) (hs : step c s t = some (s', ev)) : GInv c s' :=
  ginv_steps hc hl hsi hg (step_cases hs)

end CdsVerif.Algo.MSPQ
