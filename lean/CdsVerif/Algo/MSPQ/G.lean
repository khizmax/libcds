/-
  MSPriorityQueue machine, layer 4 of the invariant: HEAP ORDER during concurrent operation.

  There is a ghost priority `g i` for every node such that
    g1   g is ordered along every edge of the occupied part of the tree:  g i ≤ g (i/2);
    g2   an Available node that is not being sifted down carries its real priority:  g i = prio (val i);
    g3   a node tagged with an owner id (an inserted item still on its way up) may carry MORE than g:  g i ≤ prio (val i);
    g4   the node holding the item a pop is sifting down may carry LESS than g:  prio (val i) ≤ g i.
  So the heap order can be violated only at an edge whose child is tagged with an owner id, or whose parent is the
  node a pop is sifting (Hunt, Michael, Parthasarathy, Scott, section 3).  `g` is not a field of the machine: the
  invariant is `∃ g, GOk c s g`, every step says how `g` changes.
-/
import CdsVerif.Algo.MSPQ.ShapeStep
namespace CdsVerif.Algo.MSPQ
open CdsVerif.Machine CdsVerif.Spec

def kSift : K → Option Nat
  | .dChild par _ _ => some par
  | .dRight par _ _ => some par
  | _ => none

/-- The node whose item a pop is still sifting down (not yet compared with both children for the last time). -/
def sift : PC → Option Nat
  | .acq k => kSift k
  | .spin k => kSift k
  | .dUnlLeft par _ _ => some par
  | .dUnlRight par _ _ => some par
  | .dUnlSwap _ ch _ => some ch
  | _ => none

theorem sift_holds (p : PC) (j : Nat) (h : sift p = some j) : holds p j := by
  cases p with
  | acq k => cases k <;> simp_all [sift, kSift, holds, kHolds]
  | spin k => cases k <;> simp_all [sift, kSift, holds, kHolds]
  | _ => simp_all [sift, holds]

/-- The left child kept locked by a sift-down that goes on with the right one. -/
def atLeft : PC → Option Nat
  | .dUnlLeft _ ch _ => some ch
  | _ => none

/-- The left child a sift-down goes on with, its right sibling still locked. -/
def atRight : PC → Option Nat
  | .dUnlRight _ ch _ => some ch
  | _ => none

/-- The clauses about one thread at program counter `p`. -/
structure GLoc (val : Nat → Option Int) (g : Nat → Int) (p : PC) : Prop where
  g4 : ∀ i v, sift p = some i → val i = some v → prio v ≤ g i
  sb1 : ∀ ch vl vr, atLeft p = some ch → val ch = some vl → val (ch + 1) = some vr → prio vl < prio vr
  sb2 : ∀ ch vl vr, atRight p = some ch → val ch = some vl → val (ch + 1) = some vr → prio vr ≤ prio vl

structure GOk (c : Cfg) (s : St) (g : Nat → Int) : Prop where
  g1 : ∀ i, 2 ≤ i → i ≤ c.cap → s.tag i ≠ .empty → g i ≤ g (i / 2)
  g2 : ∀ i v, 1 ≤ i → s.tag i = .avail → s.val i = some v → (∀ t, sift (s.pc t) ≠ some i) → g i = prio v
  g3 : ∀ i t v, s.tag i = .own t → s.val i = some v → g i ≤ prio v
  loc : ∀ t, GLoc s.val g (s.pc t)

def GInv (c : Cfg) (s : St) : Prop := ∃ g, GOk c s g

theorem ginv_init (c : Cfg) : GInv c init :=
  ⟨fun _ => 0, nofun, nofun, nofun, fun _ => ⟨nofun, nofun, nofun⟩⟩

theorem atLeft_holds {p : PC} {ch : Nat} (h : atLeft p = some ch) : holds p ch ∧ holds p (ch + 1) := by
  cases p <;> simp_all [atLeft, holds]

theorem atRight_holds {p : PC} {ch : Nat} (h : atRight p = some ch) : holds p ch ∧ holds p (ch + 1) := by
  cases p <;> simp_all [atRight, holds]

/-- The clauses about a thread read values and ghost priorities only at nodes it holds. -/
theorem GLoc.frame {val val' : Nat → Option Int} {g g' : Nat → Int} {p : PC} (h : GLoc val g p)
    (hval : ∀ j, holds p j → val' j = val j) (hg : ∀ j, holds p j → g' j = g j) : GLoc val' g' p where
  g4 i v hi hv := by
    have hh := sift_holds _ _ hi
    rw [hval i hh] at hv; rw [hg i hh]; exact h.g4 i v hi hv
  sb1 ch vl vr hp h1 h2 := by
    rw [hval ch (atLeft_holds hp).1] at h1; rw [hval (ch + 1) (atLeft_holds hp).2] at h2
    exact h.sb1 ch vl vr hp h1 h2
  sb2 ch vl vr hp h1 h2 := by
    rw [hval ch (atRight_holds hp).1] at h1; rw [hval (ch + 1) (atRight_holds hp).2] at h2
    exact h.sb2 ch vl vr hp h1 h2

/-- The other threads' clauses survive an action of `t` that changes `g` only at nodes nobody else holds. -/
theorem gloc_other {c : Cfg} {s s' : St} {g g' : Nat → Int} {t t' : Tid} (hl : LInv c s) (he : Effect s s' t)
    (hg : ∀ j, g' j ≠ g j → s.own j = some t ∨ s.own j = none) (ht : t' ≠ t)
    (h : GLoc s.val g (s.pc t')) : GLoc s'.val g' (s'.pc t') := by
  rw [he.pcs t' ht]
  refine h.frame (fun j hj => ?_) (fun j hj => ?_)
  · have ho := hl.ow2 j t' hj
    apply Classical.byContradiction; intro hne
    have := (he.node j (Or.inr hne)).2
    rw [ho] at this
    rcases this with h1 | h1
    · injection h1 with h1; exact ht h1
    · cases h1
  · have ho := hl.ow2 j t' hj
    apply Classical.byContradiction; intro hne
    have := hg j hne
    rw [ho] at this
    rcases this with h1 | h1
    · injection h1 with h1; exact ht h1
    · cases h1

macro "ggrind" : tactic =>
  `(tactic| grind (splits := 16) (gen := 4)
      [upd, K.lock, St.setPc, rel, pushLoop, popLoop, sift, kSift])

macro "gfacts" h:ident : tactic =>
  `(tactic| (have := GOk.g1 $h; have := GOk.g2a $h; have := GOk.g2b $h; have := GOk.g3 $h))

open Lean in
macro "gg" h:ident x:ident : tactic => do
  let f := mkIdent (`CdsVerif.Algo.MSPQ.GOk ++ x.getId.eraseMacroScopes)
  `(tactic| first
    | (dsimp only [St.setPc, rel]; exact $f $h)
    | (intros; have := $f $h; (try dsimp only [St.setPc, rel] at *); ggrind)
    | (intros; have := GOk.g2a $h; have := GOk.g2b $h; have := GOk.g3 $h; (try dsimp only [St.setPc, rel] at *); ggrind)
    | (intros; gfacts $h; (try dsimp only [St.setPc, rel] at *); ggrind))

/-- A node held by `t` is not being sifted by another thread. -/
theorem not_sifted_by_other {c : Cfg} {s : St} {t u : Tid} {i : Nat} (hl : LInv c s) (ho : s.own i = some t)
    (hu : u ≠ t) : sift (s.pc u) ≠ some i := fun hs => by
  rw [hl.ow2 i u (sift_holds _ _ hs)] at ho
  exact hu (Option.some.inj ho)

namespace GOk
variable {c : Cfg} {s s' : St} {g g' : Nat → Int} {t : Tid} {p p' : PC} {cnt' : Nat} {lk' : Nat → Bool}
  {own' : Nat → Option Tid} {ins' outs' : List Int}

/-- A step of `t` that neither writes a node nor changes which node `t` is sifting: the ghost priorities stay. -/
theorem locks (h : GOk c s g) (hp : s.pc t = p) (hsift : sift p' = sift p) (hT : GLoc s.val g p') :
    GOk c ⟨cnt', lk', s.val, s.tag, upd s.pc t p', own', ins', outs'⟩ g where
  g1 := h.g1
  g2 i v h1 ha hv hs := h.g2 i v h1 ha hv fun u => by
    have : sift (upd s.pc t p' u) ≠ some i := hs u
    by_cases hu : u = t
    · rw [hu, upd_same] at this
      rwa [hu, hp, ← hsift]
    · rwa [upd_other _ _ _ _ hu] at this
  g3 := h.g3
  loc u := by
    show GLoc s.val g (upd s.pc t p' u)
    by_cases hu : u = t
    · rw [hu, upd_same]; exact hT
    · rw [upd_other _ _ _ _ hu]; exact h.loc u

/-- The rule for a step of `t` that changes the ghost priorities only at nodes it holds: the clauses about the other
    threads survive. -/
theorem step (hl : LInv c s) (h : GOk c s g) (he : Effect s s' t) (hp' : s'.pc t = p')
    (hg : ∀ j, g' j ≠ g j → s.own j = some t ∨ s.own j = none)
    (h1 : ∀ i, 2 ≤ i → i ≤ c.cap → s'.tag i ≠ .empty → g' i ≤ g' (i / 2))
    (h2 : ∀ i v, 1 ≤ i → s'.tag i = .avail → s'.val i = some v → (∀ u, sift (s'.pc u) ≠ some i) → g' i = prio v)
    (h3 : ∀ i u v, s'.tag i = .own u → s'.val i = some v → g' i ≤ prio v)
    (hT : GLoc s'.val g' p') : GOk c s' g' :=
  ⟨h1, h2, h3, fun u => if hu : u = t then hu ▸ hp' ▸ hT else gloc_other hl he hg hu (h.loc u)⟩

end GOk

namespace GLoc
variable {c : Cfg} {rank : Nat → Nat} {s : St} {g : Nat → Int} {t : Tid}

/-- The clauses about a program counter reached by a continuation of an acquisition that only moves on. -/
theorem takes {k : K} {p : PC} (hsi : SInv c rank s) (h : GLoc s.val g (.acq k)) (row : Takes c s t k p) :
    GLoc s.val g p := by
  cases row with
  | dLeaf | dStay => exact { h with g4 := nofun }
  | rEmpty par ch pv he =>
    refine { h with sb2 := fun _ vl vr e h1 h2 => ?_ }
    cases e
    rw [hsi.te1 _ he] at h2
    cases h2
  | rLeft par ch pv vr vl hne hvr hvl hgt =>
    refine { h with sb1 := fun _ vl' vr' e h1 h2 => ?_ }
    cases e
    rw [hvl] at h1; rw [hvr] at h2
    cases h1; cases h2
    exact hgt
  | rRight par ch pv vr vl hne hvr hvl hgt =>
    refine { h with sb2 := fun _ vl' vr' e h1 h2 => ?_ }
    cases e
    rw [hvl] at h1; rw [hvr] at h2
    cases h1; cases h2
    exact Int.not_lt.mp hgt
  | _ => exact { h with }

/-- … and by a release that writes nothing else. -/
theorem drops {p p' : PC} {l : Nat} {val : Nat → Option Int} (h : GLoc val g p) (row : Drops c s p l p') :
    GLoc val g p' := by
  cases row with
  | dLeftStay => exact { h with g4 := nofun, sb1 := nofun }
  | dRightStay => exact { h with g4 := nofun, sb2 := nofun }
  | dUnlSwapLeaf => exact { h with g4 := nofun }
  | _ => exact { h with }

end GLoc

theorem ginv_invoke {c : Cfg} {s s' : St} {t : Tid} {op : GOp}
    (hg : GInv c s) (hs : invoke c s t op = some s') : GInv c s' := by
  obtain ⟨g, h⟩ := hg
  obtain ⟨hpc, -, k, hk, rfl⟩ := invoke_cases hs
  rcases hk with ⟨v, rfl, -⟩ | ⟨rfl, -⟩ <;> exact ⟨g, h.locks hpc rfl ⟨nofun, nofun, nofun⟩⟩

theorem ginv_result {c : Cfg} {s s' : St} {t : Tid} {r : GRet}
    (hg : GInv c s) (hs : result c s t = some (s', r)) : GInv c s' := by
  obtain ⟨g, h⟩ := hg
  unfold result at hs
  split at hs <;> simp only [Option.some.injEq, Prod.mk.injEq, reduceCtorEq] at hs <;> obtain ⟨rfl, -⟩ := hs <;>
    rename_i hpc <;> exact ⟨g, h.locks hpc rfl ⟨nofun, nofun, nofun⟩⟩

end CdsVerif.Algo.MSPQ
