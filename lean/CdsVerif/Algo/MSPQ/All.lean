/-
  MSPriorityQueue machine: the four layers of the invariant together (locks, shape, conservation, heap order), for every
  reachable state.
-/
import CdsVerif.Algo.MSPQ.Cons
import CdsVerif.Algo.MSPQ.GStep
namespace CdsVerif.Algo.MSPQ
open CdsVerif.Machine CdsVerif.Spec

structure MInv (c : Cfg) (rank : Nat → Nat) (s : St) : Prop where
  l : LInv c s
  sh : SInv c rank s
  co : CInv c s
  go : GInv c s

theorem minv_init (c : Cfg) (rank : Nat → Nat) (hc : SlotOK c rank) : MInv c rank init :=
  ⟨linv_init c, sinv_init c rank hc, cinv_init c, ginv_init c⟩

theorem minv_apply {c : Cfg} {rank : Nat → Nat} (hc : SlotOK c rank) (s : St) (t : Tid) (a : Act) (s' : St) (o : Obs)
    (h : MInv c rank s) (hap : (model c).apply s t a = some (s', o)) : MInv c rank s' := by
  rcases Model.apply_cases hap with ⟨op, -, hs, -⟩ | ⟨ev, -, hs, -⟩ | ⟨r, -, hs, -⟩
  · exact ⟨linv_invoke h.l hs, sinv_invoke h.l h.sh hs, cinv_invoke h.co hs, ginv_invoke h.go hs⟩
  · exact ⟨linv_step hc h.l hs, sinv_step hc h.l h.sh hs, cinv_step hc h.l h.sh h.co hs, ginv_step hc h.l h.sh h.go hs⟩
  · exact ⟨linv_result h.l hs, sinv_result h.l h.sh hs, cinv_result h.l h.co hs, ginv_result h.go hs⟩

theorem minv_reachable {c : Cfg} {rank : Nat → Nat} (hc : SlotOK c rank) (s : St) (h : (model c).Reachable init s) :
    MInv c rank s :=
  (model c).inv_reachable (MInv c rank) init (minv_init c rank hc) (minv_apply hc) s h

end CdsVerif.Algo.MSPQ
