/-
  MSPriorityQueue machine: the transitions of `step` as a relation, one case per path through the code of an atomic
  step, with what the path has read as hypotheses.  Most paths write lock words and the program counter only
  (`Takes`: the continuations of an acquisition that do so; `Drops`: the releases that do so); the others are the
  cases of `Step` that name the new counter, values or tags.  `step_cases` shows that every transition of `step` is a
  case of `Step`; the layers of the invariant are proved over `Step`.
-/
import CdsVerif.Algo.MSPQ.Model
namespace CdsVerif.Algo.MSPQ
open CdsVerif.Machine CdsVerif.Spec

/-- Thread `t` has taken the free lock `l` and goes on at `p`. -/
def St.take (s : St) (t : Tid) (l : Nat) (p : PC) : St :=
  { s with lk := upd s.lk l true, own := upd s.own l (some t), pc := upd s.pc t p }

/-- The code after the acquisition `k` only moves the program counter, to `p`. -/
inductive Takes (c : Cfg) (s : St) (t : Tid) : K → PC → Prop
  | pFull (v : Int) : c.cap ≤ s.cnt → Takes c s t (.pSz v) .pFullUnl
  | pNode (v : Int) (i : Nat) : Takes c s t (.pNode v i) (.pUnlSz v i)
  | hPar (i : Nat) : Takes c s t (.hPar i) (.acq (.hItem i))
  | hGone (i : Nat) : ¬(s.tag (i / 2) = .avail ∧ s.tag i = .own t) → s.tag (i / 2) = .empty →
      Takes c s t (.hItem i) (.hUnlItem i 0)
  | hMoved (i : Nat) : ¬(s.tag (i / 2) = .avail ∧ s.tag i = .own t) → s.tag (i / 2) ≠ .empty → s.tag i ≠ .own t →
      Takes c s t (.hItem i) (.hUnlItem i (i / 2))
  | hRetry (i : Nat) : ¬(s.tag (i / 2) = .avail ∧ s.tag i = .own t) → s.tag (i / 2) ≠ .empty → s.tag i = .own t →
      Takes c s t (.hItem i) (.hUnlItem i i)
  | hRootKeep : s.tag 1 ≠ .own t → Takes c s t .hRoot .hUnlRoot
  | oEmpty : s.cnt = 0 → Takes c s t .oSz .oEmptyUnl
  | oTop (b : Nat) : b ≠ 1 → Takes c s t (.oTop b) (.acq (.oBot b))
  | oBot (b : Nat) : Takes c s t (.oBot b) (.oUnlSz b)
  | dLeaf (par ch : Nat) (pv : Option Int) : s.tag ch = .empty →
      Takes c s t (.dChild par ch pv) (.dUnlBreak par ch pv)
  | dRight (par ch : Nat) (pv : Option Int) : s.tag ch ≠ .empty → ch + 1 < c.cap + 1 →
      Takes c s t (.dChild par ch pv) (.acq (.dRight par ch pv))
  | dStay (par ch : Nat) (pv : Option Int) (vc vp : Int) : s.tag ch ≠ .empty → ¬ch + 1 < c.cap + 1 →
      s.val ch = some vc → s.val par = some vp → ¬prio vc > prio vp →
      Takes c s t (.dChild par ch pv) (.dUnlBreak par ch pv)
  | rEmpty (par ch : Nat) (pv : Option Int) : s.tag (ch + 1) = .empty →
      Takes c s t (.dRight par ch pv) (.dUnlRight par ch pv)
  | rLeft (par ch : Nat) (pv : Option Int) (vr vl : Int) : s.tag (ch + 1) ≠ .empty → s.val (ch + 1) = some vr →
      s.val ch = some vl → prio vr > prio vl → Takes c s t (.dRight par ch pv) (.dUnlLeft par ch pv)
  | rRight (par ch : Nat) (pv : Option Int) (vr vl : Int) : s.tag (ch + 1) ≠ .empty → s.val (ch + 1) = some vr →
      s.val ch = some vl → ¬prio vr > prio vl → Takes c s t (.dRight par ch pv) (.dUnlRight par ch pv)

/-- At `p` the thread releases lock `l` and goes on at `p'`, writing nothing else. -/
inductive Drops (c : Cfg) (s : St) : PC → Nat → PC → Prop
  | pFullUnl : Drops c s .pFullUnl 0 .pFail
  | pUnlNodeUp (i : Nat) : i > 1 → Drops c s (.pUnlNode i) i (.acq (.hPar i))
  | pUnlNodeRoot (i : Nat) : ¬i > 1 → i = 1 → Drops c s (.pUnlNode i) i (.acq .hRoot)
  | pUnlNodeDone (i : Nat) : ¬i > 1 → ¬i = 1 → Drops c s (.pUnlNode i) i .pOk
  | hUnlItem (i i' : Nat) : Drops c s (.hUnlItem i i') i (.hUnlPar i i')
  | hUnlParUp (i i' : Nat) : i' > 1 → Drops c s (.hUnlPar i i') (i / 2) (.acq (.hPar i'))
  | hUnlParRoot (i i' : Nat) : ¬i' > 1 → i' = 1 → Drops c s (.hUnlPar i i') (i / 2) (.acq .hRoot)
  | hUnlParDone (i i' : Nat) : ¬i' > 1 → ¬i' = 1 → Drops c s (.hUnlPar i i') (i / 2) .pOk
  | hUnlRoot : Drops c s .hUnlRoot 1 .pOk
  | oEmptyUnl : Drops c s .oEmptyUnl 0 .oFail
  | oUnlTop1 (pv : Option Int) : Drops c s (.oUnlTop1 pv) 1 (.oUnlSz1 pv)
  | oUnlSz1 (pv : Option Int) : Drops c s (.oUnlSz1 pv) 0 (.oDone pv)
  | oRootGone (b : Nat) (pv : Option Int) : s.tag 1 = .empty → Drops c s (.oUnlBot b pv) b (.oUnlTopE pv)
  | oUnlTopE (pv : Option Int) : Drops c s (.oUnlTopE pv) 1 (.oDone pv)
  | dUnlBreak (par ch : Nat) (pv : Option Int) : Drops c s (.dUnlBreak par ch pv) ch (.dUnlPar par pv)
  | dLeftStay (par ch : Nat) (pv : Option Int) (vc vp : Int) : s.val (ch + 1) = some vc → s.val par = some vp →
      ¬prio vc > prio vp → Drops c s (.dUnlLeft par ch pv) ch (.dUnlBreak par (ch + 1) pv)
  | dRightStay (par ch : Nat) (pv : Option Int) (vc vp : Int) : s.val ch = some vc → s.val par = some vp →
      ¬prio vc > prio vp → Drops c s (.dUnlRight par ch pv) (ch + 1) (.dUnlBreak par ch pv)
  | dUnlSwapDown (par ch : Nat) (pv : Option Int) : 2 * ch < c.cap + 1 →
      Drops c s (.dUnlSwap par ch pv) par (.acq (.dChild ch (2 * ch) pv))
  | dUnlSwapLeaf (par ch : Nat) (pv : Option Int) : ¬2 * ch < c.cap + 1 →
      Drops c s (.dUnlSwap par ch pv) par (.dUnlPar ch pv)
  | dUnlPar (par : Nat) (pv : Option Int) : Drops c s (.dUnlPar par pv) par (.oDone pv)

inductive Step (c : Cfg) (s : St) (t : Tid) : St → Prop
  | busy {k : K} : s.pc t = .acq k → s.lk k.lock = true → Step c s t (s.setPc t (.spin k))
  | spin {k : K} (p : PC) : s.pc t = .spin k → p = .spin k ∨ p = .acq k → Step c s t (s.setPc t p)
  | take {k : K} {p : PC} : s.pc t = .acq k → s.lk k.lock = false → Takes c s t k p →
      Step c s t (s.take t k.lock p)
  | drop {p p' : PC} {l : Nat} : s.pc t = p → Drops c s p l p' → Step c s t (rel s t l p')
  | pInc (v : Int) : s.pc t = .acq (.pSz v) → s.lk 0 = false → ¬s.cnt ≥ c.cap →
      Step c s t { s.take t 0 (.acq (.pNode v (c.slot (s.cnt + 1)))) with cnt := s.cnt + 1 }
  | oDec : s.pc t = .acq .oSz → s.lk 0 = false → s.cnt ≠ 0 →
      Step c s t { s.take t 0 (.acq (.oTop (c.slot s.cnt))) with cnt := s.cnt - 1 }
  | hSwap (i : Nat) (vi vp : Int) : s.pc t = .acq (.hItem i) → s.lk i = false →
      s.tag (i / 2) = .avail → s.tag i = .own t → s.val i = some vi → s.val (i / 2) = some vp → prio vi > prio vp →
      Step c s t { s.take t i (.hUnlItem i (i / 2)) with
        val := upd (upd s.val i (some vp)) (i / 2) (some vi), tag := upd (upd s.tag i .avail) (i / 2) (.own t) }
  | hSettle (i : Nat) (vi vp : Int) : s.pc t = .acq (.hItem i) → s.lk i = false →
      s.tag (i / 2) = .avail → s.tag i = .own t → s.val i = some vi → s.val (i / 2) = some vp → ¬prio vi > prio vp →
      Step c s t { s.take t i (.hUnlItem i 0) with tag := upd s.tag i .avail }
  | hRootSettle : s.pc t = .acq .hRoot → s.lk 1 = false → s.tag 1 = .own t →
      Step c s t { s.take t 1 .hUnlRoot with tag := upd s.tag 1 .avail }
  | oLast : s.pc t = .acq (.oTop 1) → s.lk 1 = false →
      Step c s t { s.take t 1 (.oUnlTop1 (s.val 1)) with tag := upd s.tag 1 .empty, val := upd s.val 1 none }
  | dSwap (par ch : Nat) (pv : Option Int) (vc vp : Int) : s.pc t = .acq (.dChild par ch pv) → s.lk ch = false →
      s.tag ch ≠ .empty → ¬ch + 1 < c.cap + 1 → s.val ch = some vc → s.val par = some vp → prio vc > prio vp →
      Step c s t { s.take t ch (.dUnlSwap par ch pv) with
        val := upd (upd s.val par (some vc)) ch (some vp), tag := upd (upd s.tag par (s.tag ch)) ch (s.tag par) }
  | pStore (v : Int) (i : Nat) : s.pc t = .pUnlSz v i →
      Step c s t { rel s t 0 (.pUnlNode i) with
        val := upd s.val i (some v), tag := upd s.tag i (.own t), ins := s.ins ++ [v] }
  | oTake (b : Nat) : s.pc t = .oUnlSz b →
      Step c s t { rel s t 0 (.oUnlBot b (s.val b)) with val := upd s.val b none, tag := upd s.tag b .empty }
  | oRoot (b : Nat) (pv : Option Int) (p : PC) : s.pc t = .oUnlBot b pv → s.tag 1 ≠ .empty →
      2 * 1 < c.cap + 1 ∧ p = .acq (.dChild 1 (2 * 1) (s.val 1)) ∨ ¬2 * 1 < c.cap + 1 ∧ p = .dUnlPar 1 (s.val 1) →
      Step c s t { rel s t b p with val := upd s.val 1 pv, tag := upd s.tag 1 .avail }
  | dLeftSwap (par ch : Nat) (pv : Option Int) (vc vp : Int) : s.pc t = .dUnlLeft par ch pv →
      s.val (ch + 1) = some vc → s.val par = some vp → prio vc > prio vp →
      Step c s t { rel s t ch (.dUnlSwap par (ch + 1) pv) with
        val := upd (upd s.val par (some vc)) (ch + 1) (some vp),
        tag := upd (upd s.tag par (s.tag (ch + 1))) (ch + 1) (s.tag par) }
  | dRightSwap (par ch : Nat) (pv : Option Int) (vc vp : Int) : s.pc t = .dUnlRight par ch pv →
      s.val ch = some vc → s.val par = some vp → prio vc > prio vp →
      Step c s t { rel s t (ch + 1) (.dUnlSwap par ch pv) with
        val := upd (upd s.val par (some vc)) ch (some vp), tag := upd (upd s.tag par (s.tag ch)) ch (s.tag par) }

/-- `dCompare` after the release of `l` in `dUnlLeft` / `dUnlRight`. -/
theorem dCompare_rel {s s' : St} {t : Tid} {l par x : Nat} {pv : Option Int}
    (h : dCompare (rel s t l .idle) t par x pv = some s') :
    ∃ vc vp, s.val x = some vc ∧ s.val par = some vp ∧
      ((prio vc > prio vp ∧ s' = { rel s t l (.dUnlSwap par x pv) with
          val := upd (upd s.val par (some vc)) x (some vp), tag := upd (upd s.tag par (s.tag x)) x (s.tag par) }) ∨
       (¬prio vc > prio vp ∧ s' = rel s t l (.dUnlBreak par x pv))) := by
  unfold dCompare at h
  split at h
  next vc vp hvc hvp =>
    refine ⟨vc, vp, hvc, hvp, ?_⟩
    split at h <;> simp only [Option.some.injEq] at h <;> subst h
    · exact .inl ⟨‹_›, by simp only [rel, upd_upd]⟩
    · exact .inr ⟨‹_›, by simp only [rel, St.setPc, upd_upd]⟩
  · cases h

theorem Step.of_some {c : Cfg} {s s' a : St} {t : Tid} {e ev : Ev} (h : Step c s t a)
    (hs : some (a, e) = some (s', ev)) : Step c s t s' := by
  cases hs; exact h

theorem step_cases {c : Cfg} {s s' : St} {t : Tid} {ev : Ev} (hs : step c s t = some (s', ev)) : Step c s t s' := by
  unfold step at hs
  split at hs
  next k hpc =>
    split at hs
    next hlk => exact (Step.busy hpc hlk).of_some hs
    next hlk =>
      have hlk : s.lk k.lock = false := by simpa using hlk
      simp only [Option.map_eq_some_iff, Prod.mk.injEq] at hs
      obtain ⟨s1, ha, rfl, -⟩ := hs
      cases k with
      | pSz v =>
        simp only [after] at ha
        split at ha <;> simp only [Option.some.injEq] at ha <;> subst ha
        · exact .take hpc hlk (.pFull v ‹_›)
        · exact .pInc v hpc hlk ‹_›
      | pNode v i =>
        simp only [after, Option.some.injEq] at ha; subst ha
        exact .take hpc hlk (.pNode v i)
      | hPar i =>
        simp only [after, Option.some.injEq] at ha; subst ha
        exact .take hpc hlk (.hPar i)
      | hItem i =>
        simp only [after] at ha
        split at ha
        next hc =>
          split at ha
          next vi vp hvi hvp =>
            split at ha <;> simp only [Option.some.injEq] at ha <;> subst ha
            · exact .hSwap i vi vp hpc hlk hc.1 hc.2 hvi hvp ‹_›
            · exact .hSettle i vi vp hpc hlk hc.1 hc.2 hvi hvp ‹_›
          · cases ha
        next hc =>
          split at ha
          next he =>
            simp only [Option.some.injEq] at ha; subst ha
            exact .take hpc hlk (.hGone i hc he)
          next he =>
            split at ha <;> simp only [Option.some.injEq] at ha <;> subst ha
            · exact .take hpc hlk (.hMoved i hc he ‹_›)
            · exact .take hpc hlk (.hRetry i hc he (Classical.not_not.mp ‹_›))
      | hRoot =>
        simp only [after] at ha
        split at ha <;> simp only [Option.some.injEq] at ha <;> subst ha
        · exact .hRootSettle hpc hlk ‹_›
        · exact .take hpc hlk (.hRootKeep ‹_›)
      | oSz =>
        simp only [after] at ha
        split at ha <;> simp only [Option.some.injEq] at ha <;> subst ha
        · exact .take hpc hlk (.oEmpty ‹_›)
        · exact .oDec hpc hlk ‹_›
      | oTop b =>
        simp only [after] at ha
        split at ha <;> simp only [Option.some.injEq] at ha <;> subst ha
        next hb => subst hb; exact .oLast hpc hlk
        next hb => exact .take hpc hlk (.oTop b hb)
      | oBot b =>
        simp only [after, Option.some.injEq] at ha; subst ha
        exact .take hpc hlk (.oBot b)
      | dChild par ch pv =>
        simp only [after] at ha
        split at ha
        next he =>
          simp only [Option.some.injEq] at ha; subst ha
          exact .take hpc hlk (.dLeaf par ch pv he)
        next he =>
          split at ha
          next hr =>
            simp only [Option.some.injEq] at ha; subst ha
            exact .take hpc hlk (.dRight par ch pv he hr)
          next hr =>
            unfold dCompare at ha
            split at ha
            next vc vp hvc hvp =>
              split at ha <;> simp only [Option.some.injEq] at ha <;> subst ha
              · exact .dSwap par ch pv vc vp hpc hlk he hr hvc hvp ‹_›
              · exact .take hpc hlk (.dStay par ch pv vc vp he hr hvc hvp ‹_›)
            · cases ha
      | dRight par ch pv =>
        simp only [after] at ha
        split at ha
        next he =>
          simp only [Option.some.injEq] at ha; subst ha
          exact .take hpc hlk (.rEmpty par ch pv he)
        next he =>
          split at ha
          next vr vl hvr hvl =>
            split at ha <;> simp only [Option.some.injEq] at ha <;> subst ha
            · exact .take hpc hlk (.rLeft par ch pv vr vl he hvr hvl ‹_›)
            · exact .take hpc hlk (.rRight par ch pv vr vl he hvr hvl ‹_›)
          · cases ha
  next k hpc =>
    refine (Step.spin _ hpc ?_).of_some hs
    split
    · exact .inl rfl
    · exact .inr rfl
  next hpc => exact (Step.drop hpc .pFullUnl).of_some hs
  next v i hpc => exact (Step.pStore v i hpc).of_some hs
  next i hpc =>
    refine (Step.drop hpc ?_).of_some hs
    unfold pushLoop
    split
    · exact .pUnlNodeUp i ‹_›
    · split
      · exact .pUnlNodeRoot i ‹_› ‹_›
      · exact .pUnlNodeDone i ‹_› ‹_›
  next i i' hpc => exact (Step.drop hpc (.hUnlItem i i')).of_some hs
  next i i' hpc =>
    refine (Step.drop hpc ?_).of_some hs
    unfold pushLoop
    split
    · exact .hUnlParUp i i' ‹_›
    · split
      · exact .hUnlParRoot i i' ‹_› ‹_›
      · exact .hUnlParDone i i' ‹_› ‹_›
  next hpc => exact (Step.drop hpc .hUnlRoot).of_some hs
  next hpc => exact (Step.drop hpc .oEmptyUnl).of_some hs
  next pv hpc => exact (Step.drop hpc (.oUnlTop1 pv)).of_some hs
  next pv hpc => exact (Step.drop hpc (.oUnlSz1 pv)).of_some hs
  next b hpc => exact (Step.oTake b hpc).of_some hs
  next b pv hpc =>
    split at hs
    · exact (Step.drop hpc (.oRootGone b pv ‹_›)).of_some hs
    · refine (Step.oRoot b pv _ hpc ‹_› ?_).of_some hs
      unfold popLoop
      split
      · exact .inl ⟨‹_›, rfl⟩
      · exact .inr ⟨‹_›, rfl⟩
  next pv hpc => exact (Step.drop hpc (.oUnlTopE pv)).of_some hs
  next par ch pv hpc => exact (Step.drop hpc (.dUnlBreak par ch pv)).of_some hs
  next par ch pv hpc =>
    simp only [Option.map_eq_some_iff, Prod.mk.injEq] at hs
    obtain ⟨s1, h1, rfl, -⟩ := hs
    obtain ⟨vc, vp, hvc, hvp, ⟨hgt, rfl⟩ | ⟨hgt, rfl⟩⟩ := dCompare_rel h1
    · exact .dLeftSwap par ch pv vc vp hpc hvc hvp hgt
    · exact .drop hpc (.dLeftStay par ch pv vc vp hvc hvp hgt)
  next par ch pv hpc =>
    simp only [Option.map_eq_some_iff, Prod.mk.injEq] at hs
    obtain ⟨s1, h1, rfl, -⟩ := hs
    obtain ⟨vc, vp, hvc, hvp, ⟨hgt, rfl⟩ | ⟨hgt, rfl⟩⟩ := dCompare_rel h1
    · exact .dRightSwap par ch pv vc vp hpc hvc hvp hgt
    · exact .drop hpc (.dRightStay par ch pv vc vp hvc hvp hgt)
  next par ch pv hpc =>
    refine (Step.drop hpc ?_).of_some hs
    unfold popLoop
    split
    · exact .dUnlSwapDown par ch pv ‹_›
    · exact .dUnlSwapLeaf par ch pv ‹_›
  next par pv hpc => exact (Step.drop hpc (.dUnlPar par pv)).of_some hs
  · cases hs

/-- An invocation takes an idle thread below `nthr` to the first acquisition of `push` or `pop`. -/
theorem invoke_cases {c : Cfg} {s s' : St} {t : Tid} {op : GOp} (hs : invoke c s t op = some s') :
    s.pc t = .idle ∧ t < c.nthr ∧
      ∃ k, ((∃ v, k = .pSz v ∧ op.name = "push") ∨ (k = .oSz ∧ op.name = "pop")) ∧ s' = s.setPc t (.acq k) := by
  unfold invoke at hs
  split at hs
  next ht =>
    split at hs
    next hpc hn _ => exact ⟨hpc, ht, _, .inl ⟨_, rfl, hn⟩, (Option.some.inj hs).symm⟩
    next hpc hn _ => exact ⟨hpc, ht, _, .inr ⟨rfl, hn⟩, (Option.some.inj hs).symm⟩
    · cases hs
  · cases hs

end CdsVerif.Algo.MSPQ
