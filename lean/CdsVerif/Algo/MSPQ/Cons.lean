/-
  MSPriorityQueue machine, layer 3 of the invariant: CONSERVATION of items.

  For every value `x`:   (number of array slots holding `x`) + (number of pops carrying `x`) + (number of times `x` has
  been returned by a pop)  =  (number of times `x` has been stored by a push).
  Multiset form, no assumption that the values are distinct.
-/
import CdsVerif.Algo.MSPQ.ShapeStep
namespace CdsVerif.Algo.MSPQ
open CdsVerif.Machine CdsVerif.Spec

/-- 1 if the option holds `x`. -/
def ind (o : Option Int) (x : Int) : Nat := if o = some x then 1 else 0

@[simp] theorem ind_none (x : Int) : ind none x = 0 := by simp [ind]

/-- Number of indices below `n` at which `f` holds `x`. -/
def cntF (f : Nat → Option Int) : Nat → Int → Nat
  | 0, _ => 0
  | n + 1, x => cntF f n x + ind (f n) x

theorem cntF_congr (f g : Nat → Option Int) (n : Nat) (x : Int) (h : ∀ j, j < n → f j = g j) :
    cntF f n x = cntF g n x := by
  induction n with
  | zero => rfl
  | succ n ih => simp only [cntF]; rw [ih (fun j hj => h j (by omega)), h n (by omega)]

theorem cntF_upd_ge (f : Nat → Option Int) (i : Nat) (v : Option Int) (n : Nat) (x : Int) (h : n ≤ i) :
    cntF (upd f i v) n x = cntF f n x :=
  cntF_congr _ _ n x (fun j hj => by simp [upd]; intro h2; omega)

theorem cntF_upd (f : Nat → Option Int) (i : Nat) (v : Option Int) (n : Nat) (x : Int) (h : i < n) :
    cntF (upd f i v) n x + ind (f i) x = cntF f n x + ind v x := by
  induction n with
  | zero => omega
  | succ n ih =>
    simp only [cntF]
    by_cases hi : i = n
    · subst hi
      rw [cntF_upd_ge f i v i x (Nat.le_refl _)]
      simp [upd]; omega
    · have := ih (by omega)
      have h2 : upd f i v n = f n := by simp [upd]; intro h3; omega
      rw [h2]; omega

theorem count_snoc (l : List Int) (v x : Int) : (l ++ [v]).count x = l.count x + ind (some v) x := by
  by_cases h : v = x <;> simp [List.count_append, ind, h]

/-- The items carried by the threads. -/
def held (pc : Tid → PC) : Nat → Option Int := fun t => heldOf (pc t)

theorem held_upd (pc : Tid → PC) (t : Tid) (p : PC) : held (upd pc t p) = upd (held pc) t (heldOf p) := by
  funext t'; simp only [held, upd]; split <;> rfl

/-- Occurrences of `x`: in the array, carried by pops, already returned. -/
def total (c : Cfg) (s : St) (x : Int) : Nat :=
  cntF s.val (c.cap + 1) x + cntF (held s.pc) c.nthr x + s.outs.count x

def CInv (c : Cfg) (s : St) : Prop := ∀ x, total c s x = s.ins.count x

theorem cinv_init (c : Cfg) : CInv c init := by
  intro x
  have h1 : ∀ n, cntF (fun _ => none) n x = 0 := by
    intro n; induction n with
    | zero => rfl
    | succ n ih => simp [cntF, ih]
  have h2 : held (fun _ => PC.idle) = fun _ => none := by funext t; rfl
  simp [total, init, h1, h2]

@[simp] theorem heldOf_pushLoop (i : Nat) : heldOf (pushLoop i) = none := by
  unfold pushLoop; split
  · rfl
  · split <;> rfl

@[simp] theorem heldOf_popLoop (c : Cfg) (par : Nat) (pv : Option Int) : heldOf (popLoop c par pv) = pv := by
  unfold popLoop; split <;> rfl

/-- An action that changes the array at most at slots `a` and `b`, the carried item of thread `t` only, and appends
    to the ghost lists: bookkeeping equation. -/
theorem total_step (c : Cfg) (s : St) (t : Tid) (p : PC) (val' : Nat → Option Int) (x : Int) (ht : t < c.nthr) :
    total c { s with val := val', pc := upd s.pc t p } x + ind (heldOf (s.pc t)) x + cntF s.val (c.cap + 1) x =
      total c s x + ind (heldOf p) x + cntF val' (c.cap + 1) x := by
  have := cntF_upd (held s.pc) t (heldOf p) c.nthr x ht
  simp only [total, held_upd]
  simp only [held] at this ⊢
  omega

/-- Bookkeeping for an action of thread `t` that moves it to `p`. -/
theorem cinv_gen {c : Cfg} {s s' : St} {t : Tid} {p : PC} (h : CInv c s) (ht : t < c.nthr)
    (hpc' : s'.pc = upd s.pc t p)
    (hbal : ∀ x, cntF s'.val (c.cap + 1) x + ind (heldOf p) x + s'.outs.count x + s.ins.count x =
      cntF s.val (c.cap + 1) x + ind (heldOf (s.pc t)) x + s.outs.count x + s'.ins.count x) : CInv c s' := by
  intro x
  have h1 := h x
  have h2 := hbal x
  have h3 := cntF_upd (held s.pc) t (heldOf p) c.nthr x ht
  simp only [total, hpc', held_upd] at h1 ⊢
  simp only [held] at h1 h3 ⊢
  omega

macro "cbal" hpc:ident : tactic =>
  `(tactic| ((try simp only [$hpc:ident, heldOf_pushLoop, heldOf_popLoop, ↓reduceIte, if_true, if_false]); (try simp only [heldOf, kHeld, ind_none])))

/-- Two occupied slots exchange their items. -/
theorem cntF_swap (val : Nat → Option Int) {a b n : Nat} {u w : Int} (x : Int) (hab : b ≠ a) (ha : a < n) (hb : b < n)
    (hva : val a = some u) (hvb : val b = some w) :
    cntF (upd (upd val a (some w)) b (some u)) n x = cntF val n x := by
  have e1 := cntF_upd (upd val a (some w)) b (some u) n x hb
  have e2 := cntF_upd val a (some w) n x ha
  rw [upd_other _ _ _ _ hab, hvb] at e1
  rw [hva] at e2
  omega

namespace CInv
variable {c : Cfg} {s : St} {t : Tid} {p p' : PC} {cnt' : Nat} {lk' : Nat → Bool} {tag' : Nat → Tag}
  {own' : Nat → Option Tid}

/-- A step that neither writes a value pointer nor changes the item `t` carries. -/
theorem locks (h : CInv c s) (ht : t < c.nthr) (hp : s.pc t = p) (hheld : heldOf p' = heldOf p) :
    CInv c ⟨cnt', lk', s.val, tag', upd s.pc t p', own', s.ins, s.outs⟩ :=
  cinv_gen h ht rfl fun x => by rw [hp, hheld]

/-- … or exchanges the items of two occupied slots. -/
theorem swap {a b : Nat} {u w : Int} (h : CInv c s) (ht : t < c.nthr) (hp : s.pc t = p) (hheld : heldOf p' = heldOf p)
    (hab : b ≠ a) (ha : a ≤ c.cap) (hb : b ≤ c.cap) (hva : s.val a = some u) (hvb : s.val b = some w) :
    CInv c ⟨cnt', lk', upd (upd s.val a (some w)) b (some u), tag', upd s.pc t p', own', s.ins, s.outs⟩ :=
  cinv_gen h ht rfl fun x => by
    rw [hp, hheld]
    exact congrArg (· + _ + _ + _) (cntF_swap s.val x hab (by omega) (by omega) hva hvb)

/-- The item `y` that `t` carries goes into slot `a`, whose item `t` takes along. -/
theorem exchange {a : Nat} {y : Option Int} (h : CInv c s) (ht : t < c.nthr) (hp : s.pc t = p) (ha : a ≤ c.cap)
    (hy : heldOf p = y) (hheld : heldOf p' = s.val a) :
    CInv c ⟨cnt', lk', upd s.val a y, tag', upd s.pc t p', own', s.ins, s.outs⟩ :=
  cinv_gen h ht rfl fun x => by
    have := cntF_upd s.val a y (c.cap + 1) x (by omega)
    dsimp only
    rw [hp, hheld, hy]
    omega

end CInv

theorem cinv_invoke {c : Cfg} {s s' : St} {t : Tid} {op : GOp} (h : CInv c s) (hs : invoke c s t op = some s') :
    CInv c s' := by
  obtain ⟨hpc, ht, k, hk, rfl⟩ := invoke_cases hs
  rcases hk with ⟨v, rfl, -⟩ | ⟨rfl, -⟩ <;> exact h.locks ht hpc rfl

theorem cinv_result {c : Cfg} {s s' : St} {t : Tid} {r : GRet} (hl : LInv c s) (h : CInv c s)
    (hs : result c s t = some (s', r)) : CInv c s' := by
  have ht : s.pc t ≠ .idle → t < c.nthr := hl.thr t
  unfold result at hs
  split at hs <;> simp only [Option.some.injEq, Prod.mk.injEq, reduceCtorEq] at hs <;> obtain ⟨rfl, -⟩ := hs <;>
    rename_i hpc <;> rw [hpc] at ht
  · exact h.locks (ht nofun) hpc rfl
  · exact h.locks (ht nofun) hpc rfl
  · exact h.locks (ht nofun) hpc rfl
  · exact h.locks (ht nofun) hpc rfl
  · refine cinv_gen h (ht nofun) rfl fun x => ?_
    dsimp only
    rw [hpc, count_snoc]
    simp only [heldOf, ind_none]
    omega

theorem cinv_steps {c : Cfg} {rank : Nat → Nat} (hc : SlotOK c rank) {s s' : St} {t : Tid}
    (hl : LInv c s) (hsi : SInv c rank s) (h : CInv c s) (hs : Step c s t s') : CInv c s' := by
  have hwf := hl.wfp t
  have ht : s.pc t ≠ .idle → t < c.nthr := hl.thr t
  have hcap := hc.cap_pos
  cases hs with
  | busy hpc hlk => rw [hpc] at ht; exact h.locks (ht nofun) hpc rfl
  | spin p hpc hp => rw [hpc] at ht; rcases hp with rfl | rfl <;> exact h.locks (ht nofun) hpc rfl
  | take hpc hlk row => rw [hpc] at ht; exact h.locks (ht nofun) hpc (by cases row <;> rfl)
  | drop hpc row => exact h.locks (ht (by rw [hpc]; cases row <;> nofun)) hpc (by cases row <;> rfl)
  | pInc v hpc | oDec hpc | hSettle i vi vp hpc | hRootSettle hpc =>
    rw [hpc] at ht; exact h.locks (ht nofun) hpc rfl
  | hSwap i vi vp hpc hlk _ _ hvi hvp =>
    rw [hpc] at ht hwf
    exact h.swap (ht nofun) hpc rfl (by have := hwf.1; omega) hwf.2 (by have := hwf.2; omega) hvi hvp
  | dSwap par ch pv vc vp hpc hlk _ _ hvc hvp =>
    rw [hpc] at ht hwf
    obtain ⟨h1, h2, h3⟩ := hwf
    exact h.swap (ht nofun) hpc rfl (by omega) (by omega) h3 hvp hvc
  | dLeftSwap par ch pv vc vp hpc hvc hvp | dRightSwap par ch pv vc vp hpc hvc hvp =>
    rw [hpc] at ht hwf
    obtain ⟨h1, h2, h3⟩ := hwf
    exact h.swap (ht nofun) hpc rfl (by omega) (by omega) (by omega) hvp hvc
  | oLast hpc hlk =>
    rw [hpc] at ht
    exact h.exchange (ht nofun) hpc hcap rfl rfl
  | oTake b hpc =>
    rw [hpc] at ht hwf
    exact h.exchange (ht nofun) hpc hwf.2 rfl rfl
  | oRoot b pv p hpc _ hp =>
    rw [hpc] at ht
    rcases hp with ⟨-, rfl⟩ | ⟨-, rfl⟩ <;> exact h.exchange (ht nofun) hpc hcap rfl rfl
  | pStore v i hpc =>
    rw [hpc] at ht hwf
    refine cinv_gen h (ht nofun) rfl fun x => ?_
    have := cntF_upd s.val i (some v) (c.cap + 1) x (by have := hwf.2; omega)
    rw [fresh_slot_empty hc hl hsi hpc, ind_none] at this
    dsimp only [rel]
    rw [hpc, count_snoc]
    show _ + ind none x + _ + _ = _ + ind none x + _ + _
    omega

theorem cinv_step {c : Cfg} {rank : Nat → Nat} (hc : SlotOK c rank) {s s' : St} {t : Tid} {ev : Ev}
    (hl : LInv c s) (hsi : SInv c rank s) (h : CInv c s) (hs : step c s t = some (s', ev)) : CInv c s' :=
  cinv_steps hc hl hsi h (step_cases hs)

end CdsVerif.Algo.MSPQ
