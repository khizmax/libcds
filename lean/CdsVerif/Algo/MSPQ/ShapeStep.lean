/-
  MSPriorityQueue machine, layer 2 of the invariant (shape of the array): preservation by `step`, and where the shape
  makes `step` defined.
-/
import CdsVerif.Algo.MSPQ.Shape
namespace CdsVerif.Algo.MSPQ
open CdsVerif.Machine CdsVerif.Spec

theorem sinv_steps {c : Cfg} {rank : Nat → Nat} (hc : SlotOK c rank) {s s' : St} {t : Tid}
    (hl : LInv c s) (h : SInv c rank s) (hs : Step c s t s') : SInv c rank s' := by
  have hl' := linv_steps hc hl hs
  have he := effect_steps hl hs
  have hloc := h.loc t
  have hwf := hl.wfp t
  have hte : ∀ i, s.tag i = .empty ↔ s.val i = none := fun i => ⟨h.te1 i, h.te2 i⟩
  have hsome : ∀ v : Int, (Tag.avail = .empty ↔ some v = none) := fun _ => ⟨nofun, nofun⟩
  cases hs with
  | busy hpc hlk =>
    rw [hpc] at hloc
    exact h.locks hl hpc hl' rfl rfl { hloc with }
  | spin p hpc hp =>
    rw [hpc] at hloc
    rcases hp with rfl | rfl <;> exact h.locks hl hpc hl' rfl rfl { hloc with }
  | take hpc hlk row =>
    rw [hpc] at hloc
    have hT := hloc.takes row
    cases row <;> exact h.locks hl hpc hl' rfl rfl hT
  | drop hpc row =>
    rw [hpc] at hloc
    have hT := hloc.drops row
    cases row <;> exact h.locks hl hpc hl' rfl rfl hT
  | pInc v hpc hlk hlt =>
    refine h.step hl hl' he hpc (upd_same _ _ _) (fun hS i h1 h2 => (hS i h1 h2).trans ?_) (.inr fun _ => .rfl) hte
      ⟨fun i hi => ⟨(Option.some.inj hi).symm, Nat.succ_pos _⟩, nofun, nofun, nofun, nofun, nofun, nofun⟩
    show rank i + 0 ≤ s.cnt + 0 ↔ rank i + 1 ≤ s.cnt + 1 + 0
    omega
  | oDec hpc hlk hne =>
    have e : s.cnt - 1 + 1 = s.cnt := by omega
    refine h.step hl hl' he hpc (upd_same _ _ _) (fun hS i h1 h2 => (hS i h1 h2).trans ?_) (.inr fun _ => .rfl) hte
      ⟨nofun, fun b hb => ?_, nofun, nofun, nofun, nofun, nofun⟩
    · show rank i + 0 ≤ s.cnt + 0 ↔ rank i + 0 ≤ s.cnt - 1 + 1
      omega
    · show b = c.slot (s.cnt - 1 + 1) ∧ s.cnt - 1 + 1 ≤ c.cap
      rw [e]
      exact ⟨(Option.some.inj hb).symm, hl.cntle⟩
  | hSwap i vi vp hpc hlk hp hi hvi hvp =>
    have hp' : s.tag (i / 2) ≠ .empty := by rw [hp]; nofun
    have hi' : s.tag i ≠ .empty := by rw [hi]; nofun
    have hemp : ∀ j, upd (upd s.tag i .avail) (i / 2) (.own t) j = .empty ↔ s.tag j = .empty := fun j =>
      (upd_empty_iff (Tag.own_ne_empty t) (mt (upd_empty_iff Tag.avail_ne_empty hi').mp hp')).trans
        (upd_empty_iff Tag.avail_ne_empty hi')
    exact h.step hl hl' he hpc (upd_same _ _ _) (Shape.congr hemp) (.inr hemp)
      (fun j => upd_te_iff ⟨nofun, nofun⟩ (upd_te_iff (hsome vp) (hte j)))
      ⟨nofun, nofun, nofun, nofun, nofun, nofun, nofun⟩
  | hSettle i vi vp hpc hlk hp hi =>
    have hemp : ∀ j, upd s.tag i .avail j = .empty ↔ s.tag j = .empty := fun j =>
      upd_empty_iff Tag.avail_ne_empty (by rw [hi]; nofun)
    exact h.step hl hl' he hpc (upd_same _ _ _) (Shape.congr hemp) (.inr hemp) (fun j => (hemp j).trans (hte j))
      ⟨nofun, nofun, nofun, nofun, nofun, nofun, nofun⟩
  | hRootSettle hpc hlk h1 =>
    have hemp : ∀ j, upd s.tag 1 .avail j = .empty ↔ s.tag j = .empty := fun j =>
      upd_empty_iff Tag.avail_ne_empty (by rw [h1]; nofun)
    exact h.step hl hl' he hpc (upd_same _ _ _) (Shape.congr hemp) (.inr hemp) (fun j => (hemp j).trans (hte j))
      ⟨nofun, nofun, nofun, nofun, nofun, nofun, nofun⟩
  | oLast hpc hlk =>
    rw [hpc] at hloc
    obtain ⟨hb, hle⟩ := hloc.wd 1 rfl
    obtain ⟨hr, hinj⟩ := slot_facts hc hb (Nat.succ_pos _) hle
    have hS : Shape c rank s.tag s.cnt 0 1 := by
      have := h.shape_of hl t (.inr (hl.ow2 0 t (hpc ▸ rfl)))
      rwa [hpc] at this
    have hocc : s.val 1 ≠ none := mt (hte 1).mpr ((hS 1 (Nat.le_refl 1) hc.cap_pos).mpr (by omega))
    exact h.step hl hl' he hpc (upd_same _ _ _) (Shape.clear hr hinj) (.inl rfl)
      (fun j => upd_te_iff (iff_of_true rfl rfl) (hte j)) ⟨nofun, nofun, nofun, nofun, fun _ => hocc, nofun, nofun⟩
  | oTake b hpc =>
    rw [hpc] at hloc hwf
    obtain ⟨hb, hle⟩ := hloc.wd b rfl
    obtain ⟨hr, hinj⟩ := slot_facts hc hb (Nat.succ_pos _) hle
    have hS : Shape c rank s.tag s.cnt 0 1 := by
      have := h.shape_of hl t (.inr (hl.ow2 0 t (hpc ▸ .inl rfl)))
      rwa [hpc] at this
    have hocc : s.val b ≠ none := mt (hte b).mpr ((hS b (by have := hwf.1; omega) hwf.2).mpr (by omega))
    exact h.step hl hl' he hpc (upd_same _ _ _) (Shape.clear hr hinj) (.inl (.inl rfl))
      (fun j => upd_te_iff (iff_of_true rfl rfl) (hte j)) ⟨nofun, nofun, nofun, nofun, fun _ => hocc, nofun, nofun⟩
  | pStore v i hpc =>
    rw [hpc] at hloc
    obtain ⟨hi, h1⟩ := hloc.wi i rfl
    obtain ⟨hr, hinj⟩ := slot_facts hc hi h1 hl.cntle
    exact h.step hl hl' he hpc (upd_same _ _ _) (Shape.fill hr hinj (Tag.own_ne_empty t)) (.inl (.inl rfl))
      (fun j => upd_te_iff ⟨nofun, nofun⟩ (hte j)) ⟨nofun, nofun, nofun, nofun, nofun, nofun, nofun⟩
  | oRoot b pv p hpc hne hp =>
    rw [hpc] at hloc
    have hv : pv ≠ none := hloc.hv trivial
    have hocc : s.val 1 ≠ none := mt (hte 1).mpr hne
    have hemp : ∀ j, upd s.tag 1 .avail j = .empty ↔ s.tag j = .empty := fun j =>
      upd_empty_iff Tag.avail_ne_empty hne
    have h1 : upd s.tag 1 .avail 1 = .avail := upd_same _ _ _
    rcases hp with ⟨hlt, rfl⟩ | ⟨hlt, rfl⟩ <;>
      exact h.step hl hl' he hpc (upd_same _ _ _) (Shape.congr hemp) (.inr hemp)
        (fun j => upd_te_iff ⟨nofun, fun e => (hv e).elim⟩ (hte j))
        ⟨nofun, nofun, nofun, nofun, fun _ => hocc, fun j hj e => by cases hj; exact Tag.avail_ne_empty (h1.symm.trans e),
         fun j hj => by cases hj; exact h1⟩
  | dSwap par ch pv vc vp hpc hlk hne =>
    rw [hpc] at hloc
    exact h.swap hl hpc hl' he rfl rfl (hloc.ppa par rfl) hne (hloc.hv trivial)
  | dLeftSwap par ch pv vc vp hpc =>
    rw [hpc] at hloc
    exact h.swap hl hpc hl' he rfl rfl (hloc.ppa par rfl) (hloc.ne _ (.inr (.inr rfl))) (hloc.hv trivial)
  | dRightSwap par ch pv vc vp hpc =>
    rw [hpc] at hloc
    exact h.swap hl hpc hl' he rfl rfl (hloc.ppa par rfl) (hloc.ne _ (.inr rfl)) (hloc.hv trivial)

theorem sinv_step {c : Cfg} {rank : Nat → Nat} (hc : SlotOK c rank) {s s' : St} {t : Tid} {ev : Ev}
    (hl : LInv c s) (h : SInv c rank s) (hs : step c s t = some (s', ev)) : SInv c rank s' :=
  sinv_steps hc hl h (step_cases hs)

/-- The slot a push is about to fill is empty. -/
theorem fresh_slot_empty {c : Cfg} {rank : Nat → Nat} (hc : SlotOK c rank) {s : St} {t : Tid} {v : Int} {i : Nat}
    (hl : LInv c s) (hsi : SInv c rank s) (hpc : s.pc t = .pUnlSz v i) : s.val i = none := by
  have hwf := hl.wfp t
  have hwi := (hsi.loc t).wi i (by simp [hpc, incIdx])
  have ho : s.own 0 = some t := hl.ow2 0 t (by simp [hpc, holds])
  simp only [hpc, wf] at hwf
  have hr1 : rank i = s.cnt := by rw [hwi.1]; exact hc.rank_slot _ hwi.2 hl.cntle
  have := hsi.shO i t ho hwf.1 hwf.2
  simp only [hpc, pinc, pdec] at this
  apply hsi.te1
  apply Classical.byContradiction; intro hne
  have := this.1 hne
  omega

/-! ### Progress: `step` is undefined only where the source would compare through a null `m_pVal` -/

theorem dCompare_isSome {s : St} {t : Tid} {par ch : Nat} {pv : Option Int} {vc vp : Int}
    (hc : s.val ch = some vc) (hp : s.val par = some vp) : (dCompare s t par ch pv).isSome = true := by
  simp only [dCompare, hc, hp]
  split <;> rfl

/-- The code after an acquisition is defined when every node tagged non-Empty holds an item and the nodes the
    sift-down keeps locked (`kNonE`) are not Empty: each comparison is between such nodes or nodes whose tag
    has just been tested. -/
theorem after_isSome {c : Cfg} {s : St} {t : Tid} {k : K} (hte : ∀ j, s.val j = none → s.tag j = .empty)
    (hne : ∀ j, kNonE k j → s.tag j ≠ .empty) : (after c s t k).isSome = true := by
  cases k with
  | hItem i =>
    simp only [after]
    split
    · next hc =>
      obtain ⟨vi, hvi⟩ := exists_val_of_tag_ne_empty hte (j := i) (by rw [hc.2]; simp)
      obtain ⟨vp, hvp⟩ := exists_val_of_tag_ne_empty hte (j := i / 2) (by rw [hc.1]; simp)
      simp only [hvi, hvp]
      split <;> rfl
    · split
      · rfl
      · split <;> rfl
  | dChild par ch pv =>
    simp only [after]
    split
    · rfl
    · next hc =>
      split
      · rfl
      · obtain ⟨vc, hvc⟩ := exists_val_of_tag_ne_empty hte hc
        obtain ⟨vp, hvp⟩ := exists_val_of_tag_ne_empty hte (hne par (by simp [kNonE]))
        exact dCompare_isSome hvc hvp
  | dRight par ch pv =>
    simp only [after]
    split
    · rfl
    · next hc =>
      obtain ⟨vr, hvr⟩ := exists_val_of_tag_ne_empty hte hc
      obtain ⟨vl, hvl⟩ := exists_val_of_tag_ne_empty hte (hne ch (by simp [kNonE]))
      simp only [hvr, hvl]
      split <;> rfl
  | pSz v => simp only [after]; split <;> rfl
  | oSz => simp only [after]; split <;> rfl
  | oTop b => simp only [after]; split <;> rfl
  | hRoot => simp only [after]; split <;> rfl
  | pNode v i => rfl
  | hPar i => rfl
  | oBot b => rfl

/-- A thread inside an operation and not yet at its return has a step, under the same two conditions. -/
theorem step_isSome {c : Cfg} {s : St} {t : Tid} (hte : ∀ j, s.val j = none → s.tag j = .empty)
    (hne : ∀ j, nonE (s.pc t) j → s.tag j ≠ .empty)
    (hpc : s.pc t ≠ .idle ∧ s.pc t ≠ .pFail ∧ s.pc t ≠ .pOk ∧ s.pc t ≠ .oFail ∧ ∀ pv, s.pc t ≠ .oDone pv) :
    (step c s t).isSome = true := by
  obtain ⟨h1, h2, h3, h4, h5⟩ := hpc
  cases hp : s.pc t with
  | idle => exact absurd hp h1
  | pFail => exact absurd hp h2
  | pOk => exact absurd hp h3
  | oFail => exact absurd hp h4
  | oDone pv => exact absurd hp (h5 pv)
  | acq k =>
    simp only [step, hp]
    split
    · rfl
    · rw [Option.isSome_map]
      exact after_isSome hte (fun j hj => hne j (by simpa [hp, nonE] using hj))
  | dUnlLeft par ch pv =>
    obtain ⟨vc, hvc⟩ := exists_val_of_tag_ne_empty hte (hne (ch + 1) (by simp [hp, nonE]))
    obtain ⟨vp, hvp⟩ := exists_val_of_tag_ne_empty hte (hne par (by simp [hp, nonE]))
    simp only [step, hp, Option.isSome_map]
    exact dCompare_isSome (s := rel s t ch .idle) hvc hvp
  | dUnlRight par ch pv =>
    obtain ⟨vc, hvc⟩ := exists_val_of_tag_ne_empty hte (hne ch (by simp [hp, nonE]))
    obtain ⟨vp, hvp⟩ := exists_val_of_tag_ne_empty hte (hne par (by simp [hp, nonE]))
    simp only [step, hp, Option.isSome_map]
    exact dCompare_isSome (s := rel s t (ch + 1) .idle) hvc hvp
  | oUnlBot b pv => simp only [step, hp]; split <;> rfl
  | _ => simp [step, hp]

end CdsVerif.Algo.MSPQ
