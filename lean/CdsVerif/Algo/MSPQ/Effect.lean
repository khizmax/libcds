/-
  MSPriorityQueue machine: what one action may change (the "writes under lock" half of the lock discipline).

  `step_effect`: a step of thread `t` leaves the program counters of the other threads alone; a node whose value or
  tag it changes is a node whose lock `t` holds after the step and that nobody else held before the step; the item
  counter changes only in the step in which `t` takes the size lock.
-/
import CdsVerif.Algo.MSPQ.Inv
namespace CdsVerif.Algo.MSPQ
open CdsVerif.Machine CdsVerif.Spec

/-- What thread `t` may have changed between `s` and `s'`. -/
structure Effect (s s' : St) (t : Tid) : Prop where
  pcs : ∀ t', t' ≠ t → s'.pc t' = s.pc t'
  node : ∀ j, s'.tag j ≠ s.tag j ∨ s'.val j ≠ s.val j → s'.own j = some t ∧ (s.own j = some t ∨ s.own j = none)
  cnt : s'.cnt ≠ s.cnt → s'.own 0 = some t ∧ s.own 0 = none

theorem upd_changed {α : Type} {f : Nat → α} {a j : Nat} {x : α} (h : upd f a x j ≠ f j) : j = a :=
  Classical.byContradiction fun hne => h (upd_other f a j x hne)

theorem upd2_changed {α : Type} {f : Nat → α} {a b j : Nat} {x y : α} (h : upd (upd f a x) b y j ≠ f j) :
    j = a ∨ j = b :=
  Classical.byContradiction fun hne =>
    h ((upd_other _ b j y fun e => hne (.inr e)).trans (upd_other f a j x fun e => hne (.inl e)))

namespace Effect
variable {c : Cfg} {s : St} {t : Tid} {p p' : PC} {l cnt' : Nat} {lk' : Nat → Bool} {val' : Nat → Option Int}
  {tag' : Nat → Tag} {own' : Nat → Option Tid} {ins' outs' : List Int}

/-- Only lock words, their owners and the program counter of `t` are written. -/
theorem locks : Effect s ⟨s.cnt, lk', s.val, s.tag, upd s.pc t p', own', ins', outs'⟩ t :=
  ⟨fun _ hu => upd_other _ _ _ _ hu, fun _ hj => (hj.elim (· rfl) (· rfl)).elim, fun hc => (hc rfl).elim⟩

/-- `t` takes the free lock `l` and writes nodes it then holds. -/
theorem take (hl : LInv c s) (hpc : s.pc t = p) (hfree : s.lk l = false)
    (hnode : ∀ j, tag' j ≠ s.tag j ∨ val' j ≠ s.val j → j = l ∨ holds p j) (hcnt : cnt' ≠ s.cnt → l = 0) :
    Effect s ⟨cnt', upd s.lk l true, val', tag', upd s.pc t p', upd s.own l (some t), ins', outs'⟩ t where
  pcs _ hu := upd_other _ _ _ _ hu
  node j hj := by
    rcases hnode j hj with rfl | hh
    · exact ⟨upd_same _ _ _, .inr (hl.lk0 _ hfree)⟩
    · have ho := hl.ow2 j t (hpc ▸ hh)
      have hne : j ≠ l := fun e => by rw [e, hl.lk0 l hfree] at ho; cases ho
      exact ⟨(upd_other _ _ _ _ hne).trans ho, .inl ho⟩
  cnt hc := by
    cases hcnt hc
    exact ⟨upd_same s.own 0 (some t), hl.lk0 _ hfree⟩

/-- `t` releases lock `l` and writes nodes it goes on holding. -/
theorem drop (hl : LInv c s) (hpc : s.pc t = p)
    (hnode : ∀ j, tag' j ≠ s.tag j ∨ val' j ≠ s.val j → j ≠ l ∧ holds p j) :
    Effect s ⟨s.cnt, upd s.lk l false, val', tag', upd s.pc t p', upd s.own l none, ins', outs'⟩ t where
  pcs _ hu := upd_other _ _ _ _ hu
  node j hj := by
    obtain ⟨hne, hh⟩ := hnode j hj
    have ho := hl.ow2 j t (hpc ▸ hh)
    exact ⟨(upd_other _ _ _ _ hne).trans ho, .inl ho⟩
  cnt hc := (hc rfl).elim

end Effect

theorem effect_steps {c : Cfg} {s s' : St} {t : Tid} (h : LInv c s) (hs : Step c s t s') : Effect s s' t := by
  have hwf := h.wfp t
  cases hs with
  | busy | spin | take | drop => exact .locks
  | pInc v hpc hlk | oDec hpc hlk =>
    exact .take h hpc hlk (fun _ hj => (hj.elim (· rfl) (· rfl)).elim) (fun _ => rfl)
  | hSwap i vi vp hpc hlk | dSwap par ch pv vc vp hpc hlk =>
    refine .take h hpc hlk (fun j hj => ?_) (fun hc => (hc rfl).elim)
    have := hj.elim upd2_changed upd2_changed
    simp only [holds, kHolds]
    omega
  | hSettle i vi vp hpc hlk | hRootSettle hpc hlk =>
    exact .take h hpc hlk (fun j hj => .inl (hj.elim upd_changed (fun hv => (hv rfl).elim))) (fun hc => (hc rfl).elim)
  | oLast hpc hlk =>
    exact .take h hpc hlk (fun j hj => .inl (hj.elim upd_changed upd_changed)) (fun hc => (hc rfl).elim)
  | pStore v i hpc | oTake b hpc =>
    rw [hpc] at hwf
    refine .drop h hpc (fun j hj => ?_)
    have := hj.elim upd_changed upd_changed
    simp only [holds, wf] at hwf ⊢
    omega
  | oRoot b pv p hpc hne hp =>
    rw [hpc] at hwf
    refine .drop h hpc (fun j hj => ?_)
    have := hj.elim upd_changed upd_changed
    simp only [holds, wf] at hwf ⊢
    omega
  | dLeftSwap par ch pv vc vp hpc | dRightSwap par ch pv vc vp hpc =>
    rw [hpc] at hwf
    refine .drop h hpc (fun j hj => ?_)
    have := hj.elim upd2_changed upd2_changed
    simp only [holds, wf] at hwf ⊢
    omega

theorem step_effect {c : Cfg} {s s' : St} {t : Tid} {ev : Ev} (h : LInv c s)
    (hs : step c s t = some (s', ev)) : Effect s s' t :=
  effect_steps h (step_cases hs)

theorem invoke_effect {c : Cfg} {s s' : St} {t : Tid} {op : GOp} (hs : invoke c s t op = some s') :
    Effect s s' t ∧ s'.tag = s.tag ∧ s'.val = s.val ∧ s'.cnt = s.cnt ∧ s'.own = s.own ∧ s'.lk = s.lk ∧
      s'.ins = s.ins ∧ s'.outs = s.outs := by
  obtain ⟨-, -, k, -, rfl⟩ := invoke_cases hs
  exact ⟨.locks, rfl, rfl, rfl, rfl, rfl, rfl, rfl⟩

theorem result_effect {c : Cfg} {s s' : St} {t : Tid} {r : GRet} (hs : result c s t = some (s', r)) :
    Effect s s' t ∧ s'.tag = s.tag ∧ s'.val = s.val ∧ s'.cnt = s.cnt ∧ s'.own = s.own ∧ s'.lk = s.lk ∧
      s'.pc = upd s.pc t .idle := by
  unfold result at hs
  split at hs <;> simp only [Option.some.injEq, Prod.mk.injEq, reduceCtorEq] at hs <;> obtain ⟨rfl, -⟩ := hs <;>
    exact ⟨.locks, rfl, rfl, rfl, rfl, rfl, rfl⟩

end CdsVerif.Algo.MSPQ
