/-
  MSPriorityQueue machine, layer 2 of the invariant: SHAPE of the heap array.

  `rank i ≤ cnt` characterises the occupied slots: slot `i` holds an item iff it is one of the first `cnt` slots of
  the bit-reversed order - corrected by one while the holder of the size lock is between its `inc()` and the store
  of the item (`pinc`), or between its `dec()` and the removal of the bottom item (`pdec`).  A node is tagged Empty
  iff its value pointer is null; the nodes a sift-down has inspected and keeps locked stay non-empty; the node that
  carries the item being sifted down is tagged Available; a pop that has taken an item out of the array carries a
  non-null pointer.
-/
import CdsVerif.Algo.MSPQ.Effect
namespace CdsVerif.Algo.MSPQ
open CdsVerif.Machine CdsVerif.Spec

def kInc : K → Nat
  | .pNode _ _ => 1
  | _ => 0

def kDec : K → Nat
  | .oTop _ => 1
  | .oBot _ => 1
  | _ => 0

/-- 1 while the thread has incremented the counter and not yet stored its item. -/
def pinc : PC → Nat
  | .acq k => kInc k
  | .spin k => kInc k
  | .pUnlSz _ _ => 1
  | _ => 0

/-- 1 while the thread has decremented the counter and not yet taken the bottom item out. -/
def pdec : PC → Nat
  | .acq k => kDec k
  | .spin k => kDec k
  | .oUnlSz _ => 1
  | _ => 0

def kIncIdx : K → Option Nat
  | .pNode _ i => some i
  | _ => none

def incIdx : PC → Option Nat
  | .acq k => kIncIdx k
  | .spin k => kIncIdx k
  | .pUnlSz _ i => some i
  | _ => none

def kDecIdx : K → Option Nat
  | .oTop b => some b
  | .oBot b => some b
  | _ => none

def decIdx : PC → Option Nat
  | .acq k => kDecIdx k
  | .spin k => kDecIdx k
  | .oUnlSz b => some b
  | _ => none

def kHeld : K → Option Int
  | .dChild _ _ pv => pv
  | .dRight _ _ pv => pv
  | _ => none

/-- The item a pop has taken out of the array and not yet returned. -/
def heldOf : PC → Option Int
  | .acq k => kHeld k
  | .spin k => kHeld k
  | .oUnlTop1 pv => pv
  | .oUnlSz1 pv => pv
  | .oUnlBot _ pv => pv
  | .oUnlTopE pv => pv
  | .dUnlBreak _ _ pv => pv
  | .dUnlLeft _ _ pv => pv
  | .dUnlRight _ _ pv => pv
  | .dUnlSwap _ _ pv => pv
  | .dUnlPar _ pv => pv
  | .oDone pv => pv
  | _ => none

def kCarries : K → Prop
  | .dChild _ _ _ => True
  | .dRight _ _ _ => True
  | _ => False

/-- The pop has taken an item out of the array (it will return it). -/
def carries : PC → Prop
  | .acq k => kCarries k
  | .spin k => kCarries k
  | .oUnlTop1 _ => True
  | .oUnlSz1 _ => True
  | .oUnlBot _ _ => True
  | .oUnlTopE _ => True
  | .dUnlBreak _ _ _ => True
  | .dUnlLeft _ _ _ => True
  | .dUnlRight _ _ _ => True
  | .dUnlSwap _ _ _ => True
  | .dUnlPar _ _ => True
  | .oDone _ => True
  | _ => False

def kPopPar : K → Option Nat
  | .dChild par _ _ => some par
  | .dRight par _ _ => some par
  | _ => none

/-- The node that holds the item a pop is sifting down. -/
def popPar : PC → Option Nat
  | .acq k => kPopPar k
  | .spin k => kPopPar k
  | .dUnlBreak par _ _ => some par
  | .dUnlLeft par _ _ => some par
  | .dUnlRight par _ _ => some par
  | .dUnlSwap _ ch _ => some ch
  | .dUnlPar par _ => some par
  | _ => none

def kNonE : K → Nat → Prop
  | .dChild par _ _, j => j = par
  | .dRight par ch _, j => j = par ∨ j = ch
  | _, _ => False

/-- Locked nodes that a sift-down knows to be occupied. -/
def nonE : PC → Nat → Prop
  | .acq k, j => kNonE k j
  | .spin k, j => kNonE k j
  | .dUnlBreak par _ _, j => j = par
  | .dUnlLeft par ch _, j => j = par ∨ j = ch ∨ j = ch + 1
  | .dUnlRight par ch _, j => j = par ∨ j = ch
  | .dUnlSwap par ch _, j => j = par ∨ j = ch
  | .dUnlPar par _, j => j = par
  | _, _ => False

theorem nonE_holds (p : PC) (j : Nat) (h : nonE p j) : holds p j := by
  cases p with
  | acq k => cases k <;> simp_all [nonE, kNonE, holds, kHolds]
  | spin k => cases k <;> simp_all [nonE, kNonE, holds, kHolds]
  | _ => simp_all [nonE, holds] <;> omega

theorem popPar_nonE (p : PC) (j : Nat) (h : popPar p = some j) : nonE p j := by
  cases p with
  | acq k => cases k <;> simp_all [popPar, kPopPar, nonE, kNonE]
  | spin k => cases k <;> simp_all [popPar, kPopPar, nonE, kNonE]
  | _ => simp_all [popPar, nonE]

theorem pinc_holds (p : PC) (h : pinc p = 1) : holds p 0 := by
  cases p with
  | acq k => cases k <;> simp_all [pinc, kInc, holds, kHolds]
  | spin k => cases k <;> simp_all [pinc, kInc, holds, kHolds]
  | _ => simp_all [pinc, holds]

theorem pdec_holds (p : PC) (h : pdec p = 1) : holds p 0 := by
  cases p with
  | acq k => cases k <;> simp_all [pdec, kDec, holds, kHolds]
  | spin k => cases k <;> simp_all [pdec, kDec, holds, kHolds]
  | _ => simp_all [pdec, holds]

theorem incIdx_holds (p : PC) (i : Nat) (h : incIdx p = some i) : holds p 0 ∧ pinc p = 1 ∧ pdec p = 0 := by
  cases p with
  | acq k => cases k <;> simp_all [incIdx, kIncIdx, holds, kHolds, pinc, kInc, pdec, kDec]
  | spin k => cases k <;> simp_all [incIdx, kIncIdx, holds, kHolds, pinc, kInc, pdec, kDec]
  | _ => simp_all [incIdx, holds, pinc, pdec]

theorem decIdx_holds (p : PC) (b : Nat) (h : decIdx p = some b) : holds p 0 ∧ pdec p = 1 ∧ pinc p = 0 := by
  cases p with
  | acq k => cases k <;> simp_all [decIdx, kDecIdx, holds, kHolds, pinc, kInc, pdec, kDec]
  | spin k => cases k <;> simp_all [decIdx, kDecIdx, holds, kHolds, pinc, kInc, pdec, kDec]
  | _ => simp_all [decIdx, holds, pinc, pdec]

theorem pinc_le (p : PC) : pinc p ≤ 1 := by
  cases p with
  | acq k => cases k <;> simp [pinc, kInc]
  | spin k => cases k <;> simp [pinc, kInc]
  | _ => simp [pinc]

theorem pdec_le (p : PC) : pdec p ≤ 1 := by
  cases p with
  | acq k => cases k <;> simp [pdec, kDec]
  | spin k => cases k <;> simp [pdec, kDec]
  | _ => simp [pdec]

def atFull : PC → Prop
  | .pFullUnl => True
  | _ => False

def atEmpty : PC → Prop
  | .oEmptyUnl => True
  | _ => False

theorem atFull_eq (p : PC) (h : atFull p) : p = .pFullUnl := by
  cases p <;> simp_all [atFull]

theorem atEmpty_eq (p : PC) (h : atEmpty p) : p = .oEmptyUnl := by
  cases p <;> simp_all [atEmpty]

theorem pinc_eq_zero {p : PC} (h : ¬holds p 0) : pinc p = 0 := by
  have := pinc_le p
  have : pinc p ≠ 1 := fun e => h (pinc_holds p e)
  omega

theorem pdec_eq_zero {p : PC} (h : ¬holds p 0) : pdec p = 0 := by
  have := pdec_le p
  have : pdec p ≠ 1 := fun e => h (pdec_holds p e)
  omega

/-- The clauses about one thread at program counter `p`: they read the counter and the tags, and `p` through
    classifying functions only. -/
structure Loc (c : Cfg) (cnt : Nat) (tag : Nat → Tag) (p : PC) : Prop where
  wi : ∀ i, incIdx p = some i → i = c.slot cnt ∧ 1 ≤ cnt
  wd : ∀ b, decIdx p = some b → b = c.slot (cnt + 1) ∧ cnt + 1 ≤ c.cap
  full : atFull p → c.cap ≤ cnt
  empty : atEmpty p → cnt = 0
  hv : carries p → heldOf p ≠ none
  ne : ∀ j, nonE p j → tag j ≠ .empty
  ppa : ∀ j, popPar p = some j → tag j = .avail

theorem Loc.pfull {c : Cfg} {cnt : Nat} {tag : Nat → Tag} {p : PC} (h : Loc c cnt tag p) (hp : p = .pFullUnl) :
    c.cap ≤ cnt :=
  h.full (hp ▸ trivial)

theorem Loc.pempty {c : Cfg} {cnt : Nat} {tag : Nat → Tag} {p : PC} (h : Loc c cnt tag p) (hp : p = .oEmptyUnl) :
    cnt = 0 :=
  h.empty (hp ▸ trivial)

/-- Slot `i` is occupied iff its rank is at most `cnt`, corrected by `a` pending increments and `b` pending
    decrements of the counter. -/
def Shape (c : Cfg) (rank : Nat → Nat) (tag : Nat → Tag) (cnt a b : Nat) : Prop :=
  ∀ i, 1 ≤ i → i ≤ c.cap → (tag i ≠ .empty ↔ rank i + a ≤ cnt + b)

structure SInv (c : Cfg) (rank : Nat → Nat) (s : St) : Prop where
  shN : ∀ i, s.own 0 = none → 1 ≤ i → i ≤ c.cap → (s.tag i ≠ .empty ↔ rank i ≤ s.cnt)
  shO : ∀ i t, s.own 0 = some t → 1 ≤ i → i ≤ c.cap →
    (s.tag i ≠ .empty ↔ rank i + pinc (s.pc t) ≤ s.cnt + pdec (s.pc t))
  te1 : ∀ i, s.tag i = .empty → s.val i = none
  te2 : ∀ i, s.val i = none → s.tag i = .empty
  loc : ∀ t, Loc c s.cnt s.tag (s.pc t)

theorem sinv_init (c : Cfg) (rank : Nat → Nat) (hc : SlotOK c rank) : SInv c rank init where
  shN i _ h1 h2 := by
    have := (hc.rank_range i h1 h2).1
    exact ⟨fun h => (h rfl).elim, fun h => by simp only [init] at h; omega⟩
  shO i t h := by cases h
  te1 _ _ := rfl
  te2 _ _ := rfl
  loc _ := ⟨nofun, nofun, nofun, nofun, nofun, nofun, nofun⟩

/-- A node that is not tagged Empty holds an item (clause `te2`). -/
theorem exists_val_of_tag_ne_empty {s : St} (hte : ∀ j, s.val j = none → s.tag j = .empty) {j : Nat}
    (hj : s.tag j ≠ .empty) : ∃ v, s.val j = some v := by
  cases hv : s.val j with
  | none => exact absurd (hte j hv) hj
  | some v => exact ⟨v, rfl⟩

/-- The clauses about a thread only mention the counter if it holds the size lock, and the tags of nodes whose
    lock it holds. -/
theorem Loc.frame {c : Cfg} {cnt cnt' : Nat} {tag tag' : Nat → Tag} {p : PC} (h : Loc c cnt tag p)
    (hcnt : holds p 0 → cnt' = cnt) (htag : ∀ j, holds p j → tag' j = tag j) : Loc c cnt' tag' p where
  wi i hi := hcnt (incIdx_holds _ _ hi).1 ▸ h.wi i hi
  wd b hb := hcnt (decIdx_holds _ _ hb).1 ▸ h.wd b hb
  full hp := by cases atFull_eq p hp; exact hcnt rfl ▸ h.full hp
  empty hp := by cases atEmpty_eq p hp; exact hcnt rfl ▸ h.empty hp
  hv := h.hv
  ne j hj := htag j (nonE_holds _ _ hj) ▸ h.ne j hj
  ppa j hj := htag j (nonE_holds _ _ (popPar_nonE _ _ hj)) ▸ h.ppa j hj

/-- The other threads' clauses survive an action of `t`. -/
theorem loc_other {c : Cfg} {s s' : St} {t t' : Tid} (hl : LInv c s) (he : Effect s s' t) (ht : t' ≠ t)
    (h : Loc c s.cnt s.tag (s.pc t')) : Loc c s'.cnt s'.tag (s'.pc t') := by
  rw [he.pcs t' ht]
  refine h.frame (fun h0 => ?_) (fun j hj => ?_)
  · have ho := hl.ow2 0 t' h0
    apply Classical.byContradiction; intro hne
    have := (he.cnt hne).2
    rw [ho] at this; cases this
  · have ho := hl.ow2 j t' hj
    apply Classical.byContradiction; intro hne
    have := (he.node j (Or.inl hne)).2
    rw [ho] at this
    rcases this with h1 | h1
    · injection h1 with h1; exact ht h1
    · cases h1

macro "sgrind" : tactic =>
  `(tactic| grind (splits := 14)
      [upd, K.lock, St.setPc, rel, pushLoop, popLoop, pinc, kInc, pdec, kDec, incIdx, kIncIdx,
       decIdx, kDecIdx, heldOf, kHeld, carries, kCarries, popPar, kPopPar, nonE, kNonE])


/-- Facts about the pre-state for the per-case proofs. -/
macro "sfacts" h:ident : tactic =>
  `(tactic| (have := SInv.shN $h; have := SInv.shO $h; have := SInv.te1 $h; have := SInv.te2 $h))

/-- … and about the slot function. -/
macro "sfactsS" h:ident hc:ident : tactic =>
  `(tactic| (sfacts $h; have := SlotOK.slot_range $hc; have := SlotOK.rank_range $hc; have := SlotOK.slot_rank $hc
             have := SlotOK.rank_slot $hc))

open Lean in
macro "sg" h:ident x:ident : tactic => do
  let f := mkIdent (`CdsVerif.Algo.MSPQ.SInv ++ x.getId.eraseMacroScopes)
  `(tactic| first
    | (dsimp only [St.setPc, rel]; exact $f $h)
    | (intros; have := $f $h; (try dsimp only [St.setPc, rel] at *); sgrind)
    | (intros; sfacts $h; (try dsimp only [St.setPc, rel] at *); sgrind))

open Lean in
macro "sgS" h:ident hc:ident x:ident : tactic => do
  let f := mkIdent (`CdsVerif.Algo.MSPQ.SInv ++ x.getId.eraseMacroScopes)
  `(tactic| first
    | (dsimp only [St.setPc, rel]; exact $f $h)
    | (intros; have := $f $h; (try dsimp only [St.setPc, rel] at *); sgrind)
    | (intros; sfactsS $h $hc; (try dsimp only [St.setPc, rel] at *); sgrind))

theorem Shape.congr {c : Cfg} {rank : Nat → Nat} {tag tag' : Nat → Tag} {cnt a b : Nat}
    (hemp : ∀ i, tag' i = .empty ↔ tag i = .empty) (h : Shape c rank tag cnt a b) : Shape c rank tag' cnt a b :=
  fun i h1 h2 => (not_congr (hemp i)).trans (h i h1 h2)

namespace SInv
variable {c : Cfg} {rank : Nat → Nat} {s s' : St} {t : Tid} {p p' : PC}

/-- The shape clause as seen by a thread, when no other thread holds the size lock. -/
theorem shape_of (hl : LInv c s) (h : SInv c rank s) (t : Tid) (ho : s.own 0 = none ∨ s.own 0 = some t) :
    Shape c rank s.tag s.cnt (pinc (s.pc t)) (pdec (s.pc t)) := by
  intro i h1 h2
  rcases ho with ho | ho
  · have hh : ¬holds (s.pc t) 0 := fun hh => by rw [hl.ow2 0 t hh] at ho; cases ho
    rw [pinc_eq_zero hh, pdec_eq_zero hh]
    exact h.shN i ho h1 h2
  · exact h.shO i t ho h1 h2

/-- The rule for a step of `t` from `p` to `p'`: the shape clause as `t` sees it, that `t` changes the occupancy of
    slots only while it holds the size lock, "Empty iff null" and the clauses about `p'`. -/
theorem step (hl : LInv c s) (hl' : LInv c s') (h : SInv c rank s) (he : Effect s s' t) (hp : s.pc t = p)
    (hp' : s'.pc t = p')
    (hsh : Shape c rank s.tag s.cnt (pinc p) (pdec p) → Shape c rank s'.tag s'.cnt (pinc p') (pdec p'))
    (hkeep : holds p 0 ∨ ∀ i, s'.tag i = .empty ↔ s.tag i = .empty)
    (hte : ∀ i, s'.tag i = .empty ↔ s'.val i = none) (hT : Loc c s'.cnt s'.tag p') : SInv c rank s' := by
  subst hp hp'
  have hto : ∀ w, w ≠ t → s.own 0 = some w → s'.own 0 = some w := fun w hw ho =>
    hl'.ow2 0 w (he.pcs w hw ▸ hl.ow1 0 w ho)
  have hfrom : ∀ w, w ≠ t → s'.own 0 = some w → s.own 0 = some w := fun w hw ho =>
    hl.ow2 0 w (he.pcs w hw ▸ hl'.ow1 0 w ho)
  have hmine : s'.own 0 = none ∨ s'.own 0 = some t → Shape c rank s'.tag s'.cnt (pinc (s'.pc t)) (pdec (s'.pc t)) := by
    intro ho'
    refine hsh (h.shape_of hl t ?_)
    cases ho : s.own 0 with
    | none => exact .inl rfl
    | some w =>
      by_cases hw : w = t
      · exact .inr (hw ▸ rfl)
      · have := hto w hw ho
        rcases ho' with ho' | ho' <;> rw [ho'] at this
        · cases this
        · exact absurd (Option.some.inj this).symm hw
  refine ⟨fun i ho' h1 h2 => ?_, fun i u ho' h1 h2 => ?_, fun i => (hte i).mp, fun i => (hte i).mpr, fun u => ?_⟩
  · have hh : ¬holds (s'.pc t) 0 := fun hh => by rw [hl'.ow2 0 t hh] at ho'; cases ho'
    have := hmine (.inl ho') i h1 h2
    rwa [pinc_eq_zero hh, pdec_eq_zero hh] at this
  · by_cases hu : u = t
    · subst hu; exact hmine (.inr ho') i h1 h2
    · have ho := hfrom u hu ho'
      have hh : ¬holds (s.pc t) 0 := fun hh => by rw [hl.ow2 0 t hh] at ho; exact hu (Option.some.inj ho).symm
      have hcnt : s'.cnt = s.cnt := Classical.byContradiction fun hne => by
        have := (he.cnt hne).2; rw [ho] at this; cases this
      rw [he.pcs u hu, hcnt]
      exact (not_congr ((hkeep.resolve_left hh) i)).trans (h.shO i u ho h1 h2)
  · by_cases hu : u = t
    · subst hu; exact hT
    · exact loc_other hl he hu (h.loc u)

variable {lk' : Nat → Bool} {own' : Nat → Option Tid} {ins' outs' : List Int}

/-- A step that writes lock words and the program counter only. -/
theorem locks (hl : LInv c s) (h : SInv c rank s) (hp : s.pc t = p)
    (hl' : LInv c ⟨s.cnt, lk', s.val, s.tag, upd s.pc t p', own', ins', outs'⟩)
    (hinc : pinc p' = pinc p) (hdec : pdec p' = pdec p) (hT : Loc c s.cnt s.tag p') :
    SInv c rank ⟨s.cnt, lk', s.val, s.tag, upd s.pc t p', own', ins', outs'⟩ :=
  h.step hl hl' .locks hp (upd_same _ _ _) (hinc ▸ hdec ▸ id) (.inr fun _ => .rfl)
    (fun i => ⟨h.te1 i, h.te2 i⟩) hT

end SInv

/-! ### Writes that keep or change the occupancy of a slot -/

theorem Tag.avail_ne_empty : Tag.avail ≠ .empty := nofun

theorem Tag.own_ne_empty (t : Tid) : Tag.own t ≠ .empty := nofun

theorem upd_empty_iff {tag : Nat → Tag} {a j : Nat} {x : Tag} (hx : x ≠ .empty) (ha : tag a ≠ .empty) :
    upd tag a x j = .empty ↔ tag j = .empty := by
  by_cases hj : j = a
  · subst hj; rw [upd_same]; exact ⟨fun e => (hx e).elim, fun e => (ha e).elim⟩
  · rw [upd_other _ _ _ _ hj]

theorem upd_te_iff {tag : Nat → Tag} {val : Nat → Option Int} {a j : Nat} {x : Tag} {y : Option Int}
    (hxy : x = .empty ↔ y = none) (h : tag j = .empty ↔ val j = none) :
    upd tag a x j = .empty ↔ upd val a y j = none := by
  by_cases hj : j = a
  · subst hj; rw [upd_same, upd_same]; exact hxy
  · rw [upd_other _ _ _ _ hj, upd_other _ _ _ _ hj]; exact h

/-- Exchanging the tags of two occupied slots. -/
theorem swap_empty_iff {tag : Nat → Tag} {a b j : Nat} (ha : tag a ≠ .empty) (hb : tag b ≠ .empty) :
    upd (upd tag a (tag b)) b (tag a) j = .empty ↔ tag j = .empty :=
  (upd_empty_iff ha (mt (upd_empty_iff hb ha).mp hb)).trans (upd_empty_iff hb ha)

/-- The slot of rank `cnt + 1` is emptied: the pending decrement is done. -/
theorem Shape.clear {c : Cfg} {rank : Nat → Nat} {tag : Nat → Tag} {cnt b : Nat} (hb : rank b = cnt + 1)
    (hinj : ∀ j, 1 ≤ j → j ≤ c.cap → rank j = cnt + 1 → j = b) (h : Shape c rank tag cnt 0 1) :
    Shape c rank (upd tag b .empty) cnt 0 0 := by
  intro j h1 h2
  by_cases hj : j = b
  · subst hj; rw [upd_same]; exact ⟨fun e => (e rfl).elim, fun e => by omega⟩
  · have := hinj j h1 h2
    rw [upd_other _ _ _ _ hj]
    exact (h j h1 h2).trans (by omega)

/-- The slot of rank `cnt` is filled: the pending increment is done. -/
theorem Shape.fill {c : Cfg} {rank : Nat → Nat} {tag : Nat → Tag} {cnt i : Nat} {x : Tag} (hi : rank i = cnt)
    (hinj : ∀ j, 1 ≤ j → j ≤ c.cap → rank j = cnt → j = i) (hx : x ≠ .empty) (h : Shape c rank tag cnt 1 0) :
    Shape c rank (upd tag i x) cnt 0 0 := by
  intro j h1 h2
  by_cases hj : j = i
  · subst hj; rw [upd_same]; exact ⟨fun _ => by omega, fun _ => hx⟩
  · have := hinj j h1 h2
    rw [upd_other _ _ _ _ hj]
    exact (h j h1 h2).trans (by omega)

namespace Loc
variable {c : Cfg} {s : St} {t : Tid} {cnt : Nat} {tag : Nat → Tag}

/-- The clauses about a program counter reached by a continuation of an acquisition that only moves on. -/
theorem takes {k : K} {p : PC} (h : Loc c s.cnt s.tag (.acq k)) (row : Takes c s t k p) : Loc c s.cnt s.tag p := by
  cases row with
  | pFull v hfull => exact { h with full := fun _ => hfull }
  | oEmpty he => exact { h with empty := fun _ => he }
  | dRight par ch pv hne hr => exact { h with ne := fun j hj => hj.elim (h.ne j) (fun e => e ▸ hne) }
  | rLeft par ch pv vr vl hne =>
    exact { h with
      ne := fun j hj => hj.elim (fun e => h.ne j (.inl e)) (fun hj => hj.elim (fun e => h.ne j (.inr e)) (fun e => e ▸ hne)) }
  | _ => exact { h with }

/-- … and by a release that writes nothing else. -/
theorem drops {p p' : PC} {l : Nat} (h : Loc c cnt tag p) (row : Drops c s p l p') : Loc c cnt tag p' := by
  cases row with
  | pFullUnl => exact { h with full := nofun }
  | oEmptyUnl => exact { h with empty := nofun }
  | dLeftStay | dRightStay => exact { h with ne := fun j hj => h.ne j (.inl hj) }
  | dUnlSwapDown | dUnlSwapLeaf => exact { h with ne := fun j hj => h.ne j (.inr hj) }
  | dUnlPar => exact { h with ne := nofun, ppa := nofun }
  | _ => exact { h with }

/-- After a swap of the sifted node `par` with its occupied child `x`. -/
theorem swap {par x : Nat} {pv : Option Int} (hpar : tag par = .avail) (hx : tag x ≠ .empty) (hv : pv ≠ none) :
    Loc c cnt (upd (upd tag par (tag x)) x (tag par)) (.dUnlSwap par x pv) where
  wi := nofun
  wd := nofun
  full := nofun
  empty := nofun
  hv _ := hv
  ne j hj e :=
    have hp : tag par ≠ .empty := by rw [hpar]; nofun
    have hne : tag j ≠ .empty := hj.elim (fun e' => e' ▸ hp) (fun e' => e' ▸ hx)
    hne ((swap_empty_iff hp hx).mp e)
  ppa j hj := by cases hj; rw [upd_same]; exact hpar

end Loc

/-- The `n`-th slot handed out is the only slot of rank `n`. -/
theorem slot_facts {c : Cfg} {rank : Nat → Nat} (hc : SlotOK c rank) {n b : Nat} (hb : b = c.slot n) (h1 : 1 ≤ n)
    (hn : n ≤ c.cap) : rank b = n ∧ ∀ j, 1 ≤ j → j ≤ c.cap → rank j = n → j = b := by
  subst hb
  exact ⟨hc.rank_slot n h1 hn, fun j hj1 hj2 e => e ▸ (hc.slot_rank j hj1 hj2).symm⟩

/-- A sift-down exchanges the item of node `par` with that of its occupied child `x`. -/
theorem SInv.swap {c : Cfg} {rank : Nat → Nat} {s : St} {t : Tid} {p : PC} {par x : Nat} {pv : Option Int}
    {vc vp : Int} {lk' : Nat → Bool} {own' : Nat → Option Tid} {ins' outs' : List Int}
    (hl : LInv c s) (h : SInv c rank s) (hp : s.pc t = p)
    (hl' : LInv c ⟨s.cnt, lk', upd (upd s.val par (some vc)) x (some vp), upd (upd s.tag par (s.tag x)) x (s.tag par),
      upd s.pc t (.dUnlSwap par x pv), own', ins', outs'⟩)
    (he : Effect s ⟨s.cnt, lk', upd (upd s.val par (some vc)) x (some vp),
      upd (upd s.tag par (s.tag x)) x (s.tag par), upd s.pc t (.dUnlSwap par x pv), own', ins', outs'⟩ t)
    (hinc : pinc p = 0) (hdec : pdec p = 0) (hav : s.tag par = .avail) (hx : s.tag x ≠ .empty) (hv : pv ≠ none) :
    SInv c rank ⟨s.cnt, lk', upd (upd s.val par (some vc)) x (some vp),
      upd (upd s.tag par (s.tag x)) x (s.tag par), upd s.pc t (.dUnlSwap par x pv), own', ins', outs'⟩ := by
  have hpar : s.tag par ≠ .empty := by rw [hav]; nofun
  refine h.step hl hl' he hp (upd_same _ _ _) (fun hS => ?_) (.inr fun j => swap_empty_iff hpar hx) (fun j => ?_)
    (Loc.swap hav hx hv)
  · rw [hinc, hdec] at hS
    exact Shape.congr (fun j => swap_empty_iff hpar hx) hS
  exact upd_te_iff ⟨fun e => (hpar e).elim, nofun⟩ (upd_te_iff ⟨fun e => (hx e).elim, nofun⟩ ⟨h.te1 j, h.te2 j⟩)

theorem sinv_invoke {c : Cfg} {rank : Nat → Nat} {s s' : St} {t : Tid} {op : GOp}
    (hl : LInv c s) (h : SInv c rank s) (hs : invoke c s t op = some s') : SInv c rank s' := by
  have hl' := linv_invoke hl hs
  obtain ⟨hpc, -, k, hk, rfl⟩ := invoke_cases hs
  rcases hk with ⟨v, rfl, -⟩ | ⟨rfl, -⟩ <;>
    exact h.locks hl hpc hl' rfl rfl ⟨nofun, nofun, nofun, nofun, nofun, nofun, nofun⟩

theorem sinv_result {c : Cfg} {rank : Nat → Nat} {s s' : St} {t : Tid} {r : GRet}
    (hl : LInv c s) (h : SInv c rank s) (hs : result c s t = some (s', r)) : SInv c rank s' := by
  have hl' := linv_result hl hs
  unfold result at hs
  split at hs <;> simp only [Option.some.injEq, Prod.mk.injEq, reduceCtorEq] at hs <;> obtain ⟨rfl, -⟩ := hs <;>
    rename_i hpc <;> exact h.locks hl hpc hl' rfl rfl ⟨nofun, nofun, nofun, nofun, nofun, nofun, nofun⟩

end CdsVerif.Algo.MSPQ
