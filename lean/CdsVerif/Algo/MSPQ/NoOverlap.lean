/-
  MSPriorityQueue machine restricted to runs in which NO PUSH OVERLAPS A POP (`modelNO`: a push may be invoked only
  while no pop is in flight and vice versa; pushes may overlap pushes, pops may overlap pops).

  In such runs an owner tag never leaks: a node tagged with the id of thread `t` is the node at which `t`'s
  `heapify_after_push` currently is (`tc`).  So at quiescence every occupied node is Available and the array is a
  max-heap: the root carries a maximal priority.
-/
import CdsVerif.Algo.MSPQ.Facts
namespace CdsVerif.Algo.MSPQ
open CdsVerif.Machine CdsVerif.Spec

def kIsPush : K → Bool
  | .pSz _ => true
  | .pNode _ _ => true
  | .hPar _ => true
  | .hItem _ => true
  | .hRoot => true
  | _ => false

def kIsPop : K → Bool
  | .oSz => true
  | .oTop _ => true
  | .oBot _ => true
  | .dChild _ _ _ => true
  | .dRight _ _ _ => true
  | _ => false

/-- The thread is inside `push` (from the call to the return). -/
def isPush : PC → Bool
  | .acq k => kIsPush k
  | .spin k => kIsPush k
  | .pFullUnl => true
  | .pFail => true
  | .pUnlSz _ _ => true
  | .pUnlNode _ => true
  | .hUnlItem _ _ => true
  | .hUnlPar _ _ => true
  | .hUnlRoot => true
  | .pOk => true
  | _ => false

/-- The thread is inside `pop`. -/
def isPop : PC → Bool
  | .acq k => kIsPop k
  | .spin k => kIsPop k
  | .oEmptyUnl => true
  | .oFail => true
  | .oUnlTop1 _ => true
  | .oUnlSz1 _ => true
  | .oUnlSz _ => true
  | .oUnlBot _ _ => true
  | .oUnlTopE _ => true
  | .dUnlBreak _ _ _ => true
  | .dUnlLeft _ _ _ => true
  | .dUnlRight _ _ _ => true
  | .dUnlSwap _ _ _ => true
  | .dUnlPar _ _ => true
  | .oDone _ => true
  | _ => false

def invokeNO (c : Cfg) (s : St) (t : Tid) (op : GOp) : Option St :=
  if op.name = "push" then
    if ∀ t', t' < c.nthr → isPop (s.pc t') = false then invoke c s t op else none
  else if ∀ t', t' < c.nthr → isPush (s.pc t') = false then invoke c s t op else none

/-- The machine whose clients never let a push overlap a pop. -/
def modelNO (c : Cfg) : Model St := ⟨invokeNO c, step c, result c⟩

def kPushIdx : K → Option Nat
  | .hPar i => some i
  | .hItem i => some i
  | .hRoot => some 1
  | _ => none

/-- The node at which the item of an in-flight push is, as long as it carries the pusher's tag. -/
def pushIdx : PC → Option Nat
  | .acq k => kPushIdx k
  | .spin k => kPushIdx k
  | .pUnlNode i => some i
  | .hUnlItem _ i' => if i' = 0 then none else some i'
  | .hUnlPar _ i' => if i' = 0 then none else some i'
  | _ => none

theorem pushIdx_isPush (p : PC) (j : Nat) (h : pushIdx p = some j) : isPush p = true := by
  cases p with
  | acq k => cases k <;> simp_all [pushIdx, kPushIdx, isPush, kIsPush]
  | spin k => cases k <;> simp_all [pushIdx, kPushIdx, isPush, kIsPush]
  | _ => simp_all [pushIdx, isPush]

structure TInv (s : St) : Prop where
  ph : ∀ t1 t2, isPush (s.pc t1) = true → isPop (s.pc t2) = true → False
  tc : ∀ j t, s.tag j = .own t → pushIdx (s.pc t) = some j

theorem tinv_init : TInv init := by
  constructor <;> intros <;> simp_all [init, isPush]

namespace TInv
variable {s : St} {t : Tid} {p p' : PC} {cnt' : Nat} {lk' : Nat → Bool} {val' : Nat → Option Int} {tag' : Nat → Tag}
  {own' : Nat → Option Tid} {ins' outs' : List Int}

/-- The rule for a step of `t` inside an operation: the owner tags of the other threads stay, and a node with the
    tag of `t` is where the new program counter says. -/
theorem step (h : TInv s) (hp : s.pc t = p) (hpush : isPush p' = true → isPush p = true)
    (hpop : isPop p' = true → isPop p = true)
    (hoth : ∀ j u, u ≠ t → tag' j = .own u → s.tag j = .own u)
    (hmine : ∀ j, tag' j = .own t → pushIdx p' = some j) :
    TInv ⟨cnt', lk', val', tag', upd s.pc t p', own', ins', outs'⟩ := by
  subst hp
  have hP : ∀ u, isPush (upd s.pc t p' u) = true → isPush (s.pc u) = true := fun u => by
    by_cases hu : u = t
    · rw [hu, upd_same]; exact hpush
    · rw [upd_other _ _ _ _ hu]; exact id
  have hO : ∀ u, isPop (upd s.pc t p' u) = true → isPop (s.pc u) = true := fun u => by
    by_cases hu : u = t
    · rw [hu, upd_same]; exact hpop
    · rw [upd_other _ _ _ _ hu]; exact id
  refine ⟨fun t1 t2 h1 h2 => h.ph t1 t2 (hP t1 h1) (hO t2 h2), fun j u hj => ?_⟩
  show pushIdx (upd s.pc t p' u) = some j
  by_cases hu : u = t
  · rw [hu, upd_same]; exact hmine j (hu ▸ hj)
  · rw [upd_other _ _ _ _ hu]; exact h.tc j u (hoth j u hu hj)

/-- A step that writes no tag. -/
theorem locks (h : TInv s) (hp : s.pc t = p) (hpush : isPush p' = true → isPush p = true)
    (hpop : isPop p' = true → isPop p = true)
    (hidx : ∀ j, pushIdx p = some j → s.tag j = .own t → pushIdx p' = some j) :
    TInv ⟨cnt', lk', val', s.tag, upd s.pc t p', own', ins', outs'⟩ :=
  h.step hp hpush hpop (fun _ _ _ e => e) fun j e => hidx j (hp ▸ h.tc j t e) e

end TInv

theorem tinv_result {c : Cfg} {s s' : St} {t : Tid} {r : GRet} (h : TInv s) (hs : result c s t = some (s', r)) :
    TInv s' := by
  unfold result at hs
  split at hs <;> simp only [Option.some.injEq, Prod.mk.injEq, reduceCtorEq] at hs <;> obtain ⟨rfl, -⟩ := hs <;>
    rename_i hpc <;> exact h.locks hpc nofun nofun nofun

/-- While a pop is in flight no node carries an owner tag. -/
theorem no_own_while_pop {s : St} (h : TInv s) (t : Tid) (hp : isPop (s.pc t) = true) (j : Nat) (t' : Tid) :
    s.tag j ≠ .own t' := by
  intro hj
  exact h.ph t' t (pushIdx_isPush _ _ (h.tc j t' hj)) hp

/-- `t` starts an operation while no operation of the other kind is in flight. -/
theorem TInv.enter {s : St} {t : Tid} {p' : PC} (h : TInv s) (hp : s.pc t = .idle)
    (hex : isPush p' = true → isPop p' = true → False) (hpush : isPush p' = true → ∀ u, isPop (s.pc u) = false)
    (hpop : isPop p' = true → ∀ u, isPush (s.pc u) = false) : TInv (s.setPc t p') := by
  have hpc : ∀ u, u ≠ t → upd s.pc t p' u = s.pc u := fun u hu => upd_other _ _ _ _ hu
  refine ⟨fun t1 t2 h1 h2 => ?_, fun j u hj => ?_⟩
  · dsimp only [St.setPc] at h1 h2
    by_cases e1 : t1 = t <;> by_cases e2 : t2 = t
    · rw [e1, upd_same] at h1; rw [e2, upd_same] at h2; exact hex h1 h2
    · rw [e1, upd_same] at h1; rw [hpc t2 e2, hpush h1 t2] at h2; cases h2
    · rw [e2, upd_same] at h2; rw [hpc t1 e1, hpop h2 t1] at h1; cases h1
    · rw [hpc t1 e1] at h1; rw [hpc t2 e2] at h2; exact h.ph t1 t2 h1 h2
  · have hu : u ≠ t := fun e => by have := h.tc j u hj; rw [e, hp] at this; cases this
    show pushIdx (upd s.pc t p' u) = some j
    rw [hpc u hu]; exact h.tc j u hj

theorem tinv_invoke {c : Cfg} {s s' : St} {t : Tid} {op : GOp} (hl : LInv c s) (h : TInv s)
    (hs : invokeNO c s t op = some s') : TInv s' := by
  have hidle : ∀ (f : PC → Bool), f .idle = false → (∀ t', t' < c.nthr → f (s.pc t') = false) → ∀ t', f (s.pc t') = false :=
    fun f h0 hguard t' => by
      by_cases hi : s.pc t' = .idle
      · rw [hi]; exact h0
      · exact hguard t' (hl.thr t' hi)
  unfold invokeNO at hs
  split at hs
  next hname =>
    split at hs
    next hguard =>
      obtain ⟨hpc, -, k, hk, rfl⟩ := invoke_cases hs
      rcases hk with ⟨v, rfl, -⟩ | ⟨-, hn⟩
      · exact h.enter hpc nofun (fun _ => hidle isPop rfl hguard) nofun
      · rw [hname] at hn; exact absurd hn (by decide)
    · cases hs
  next hname =>
    split at hs
    next hguard =>
      obtain ⟨hpc, -, k, hk, rfl⟩ := invoke_cases hs
      rcases hk with ⟨v, -, hn⟩ | ⟨rfl, -⟩
      · exact absurd hn hname
      · exact h.enter hpc nofun nofun (fun _ => hidle isPush rfl hguard)
    · cases hs

theorem upd_ne_own {tag : Nat → Tag} {a : Nat} {x : Tag} (hno : ∀ j u, tag j ≠ .own u) (hx : ∀ u, x ≠ .own u)
    (j : Nat) (u : Tid) : upd tag a x j ≠ .own u := by
  by_cases hj : j = a
  · rw [hj, upd_same]; exact hx u
  · rw [upd_other _ _ _ _ hj]; exact hno j u

theorem tinv_steps {c : Cfg} {rank : Nat → Nat} (hc : SlotOK c rank) {s s' : St} {t : Tid}
    (hl : LInv c s) (hsi : SInv c rank s) (h : TInv s) (hs : Step c s t s') : TInv s' := by
  have hwf := hl.wfp t
  have hno : isPop (s.pc t) = true → ∀ j u, s.tag j ≠ .own u := fun hp => no_own_while_pop h t hp
  have htc := fun j => h.tc j t
  cases hs with
  | busy hpc hlk => exact h.locks hpc id id fun _ e _ => e
  | spin p hpc hp => rcases hp with rfl | rfl <;> exact h.locks hpc id id fun _ e _ => e
  | take hpc hlk row =>
    rw [hpc] at hwf
    cases row with
    | hGone i _ he =>
      refine h.locks hpc id id fun j e hj => ?_
      cases e
      exact absurd he (parent_nonempty hc hsi i hwf.1 hwf.2 (by rw [hj]; nofun))
    | hMoved i _ _ hni =>
      refine h.locks hpc id id fun j e hj => ?_
      cases e
      exact absurd hj hni
    | hRetry i =>
      refine h.locks hpc id id fun j e _ => ?_
      show (if i = 0 then none else some i) = some j
      rw [if_neg (by have := hwf.1; omega)]
      exact e
    | hRootKeep hne =>
      refine h.locks hpc id id fun j e hj => ?_
      cases e
      exact absurd hj hne
    | _ => exact h.locks hpc id id fun _ e _ => e
  | @drop p p' l hpc row =>
    rw [hpc] at hwf
    cases row with
    | pUnlNodeRoot _ _ h1 =>
      subst h1
      exact h.locks hpc id id fun _ e _ => e
    | pUnlNodeDone _ hn hn1 => exact absurd hwf.1 (by omega)
    | hUnlParUp i i' hgt =>
      refine h.locks hpc id id fun j e _ => ?_
      rwa [show pushIdx (.hUnlPar i i') = some i' from if_neg (by omega)] at e
    | hUnlParRoot i i' _ h1 =>
      subst h1
      exact h.locks hpc id id fun _ e _ => e
    | hUnlParDone i i' hn hn1 =>
      refine h.locks hpc id id fun j e _ => ?_
      rw [show pushIdx (.hUnlPar i i') = none from if_pos (by omega)] at e
      cases e
    | _ => exact h.locks hpc id id fun _ e _ => e
  | pInc v hpc hlk | oDec hpc hlk => exact h.locks hpc id id fun _ e _ => e
  | hSwap i vi vp hpc hlk hp hi =>
    rw [hpc] at hwf htc
    refine h.step hpc id id (fun j u hu e => ?_) (fun j e => ?_)
    · by_cases hj2 : j = i / 2
      · rw [hj2, upd_same] at e; cases e; exact absurd rfl hu
      · rw [upd_other _ _ _ _ hj2] at e
        by_cases hj : j = i
        · rw [hj, upd_same] at e; cases e
        · rwa [upd_other _ _ _ _ hj] at e
    · show (if i / 2 = 0 then none else some (i / 2)) = some j
      rw [if_neg (by have := hwf.1; omega)]
      by_cases hj2 : j = i / 2
      · rw [hj2]
      · rw [upd_other _ _ _ _ hj2] at e
        by_cases hj : j = i
        · rw [hj, upd_same] at e; cases e
        · rw [upd_other _ _ _ _ hj] at e
          exact absurd (Option.some.inj (htc j e)).symm hj
  | hSettle i vi vp hpc hlk =>
    rw [hpc] at htc
    refine h.step hpc id id (fun j u hu e => ?_) (fun j e => ?_)
    · by_cases hj : j = i
      · rw [hj, upd_same] at e; cases e
      · rwa [upd_other _ _ _ _ hj] at e
    · by_cases hj : j = i
      · rw [hj, upd_same] at e; cases e
      · rw [upd_other _ _ _ _ hj] at e
        exact absurd (Option.some.inj (htc j e)).symm hj
  | hRootSettle hpc hlk =>
    rw [hpc] at htc
    refine h.step hpc id id (fun j u hu e => ?_) (fun j e => ?_)
    · by_cases hj : j = 1
      · rw [hj, upd_same] at e; cases e
      · rwa [upd_other _ _ _ _ hj] at e
    · by_cases hj : j = 1
      · rw [hj, upd_same] at e; cases e
      · rw [upd_other _ _ _ _ hj] at e
        exact absurd (Option.some.inj (htc j e)).symm hj
  | oLast hpc hlk =>
    have hno' := upd_ne_own (a := 1) (x := .empty) (hno (by rw [hpc]; rfl)) nofun
    exact h.step hpc id id (fun j u _ e => absurd e (hno' j u)) (fun j e => absurd e (hno' j t))
  | oTake b hpc =>
    have hno' := upd_ne_own (a := b) (x := .empty) (hno (by rw [hpc]; rfl)) nofun
    exact h.step hpc id id (fun j u _ e => absurd e (hno' j u)) (fun j e => absurd e (hno' j t))
  | oRoot b pv p hpc _ hp =>
    have hno' := upd_ne_own (a := 1) (x := .avail) (hno (by rw [hpc]; rfl)) nofun
    rcases hp with ⟨-, rfl⟩ | ⟨-, rfl⟩ <;>
      exact h.step hpc id id (fun j u _ e => absurd e (hno' j u)) (fun j e => absurd e (hno' j t))
  | dSwap par ch pv vc vp hpc | dRightSwap par ch pv vc vp hpc =>
    have hno := hno (by rw [hpc]; rfl)
    have hno' := upd_ne_own (a := ch) (upd_ne_own (a := par) hno (hno ch)) (hno par)
    exact h.step hpc id id (fun j u _ e => absurd e (hno' j u)) (fun j e => absurd e (hno' j t))
  | dLeftSwap par ch pv vc vp hpc =>
    have hno := hno (by rw [hpc]; rfl)
    have hno' := upd_ne_own (a := ch + 1) (upd_ne_own (a := par) hno (hno (ch + 1))) (hno par)
    exact h.step hpc id id (fun j u _ e => absurd e (hno' j u)) (fun j e => absurd e (hno' j t))
  | pStore v i hpc =>
    rw [hpc] at htc
    refine h.step hpc id id (fun j u hu e => ?_) (fun j e => ?_)
    · by_cases hj : j = i
      · rw [hj, upd_same] at e; cases e; exact absurd rfl hu
      · rwa [upd_other _ _ _ _ hj] at e
    · by_cases hj : j = i
      · rw [hj]; rfl
      · rw [upd_other _ _ _ _ hj] at e
        cases htc j e

theorem tinv_step {c : Cfg} {rank : Nat → Nat} (hc : SlotOK c rank) {s s' : St} {t : Tid} {ev : Ev}
    (hl : LInv c s) (hsi : SInv c rank s) (h : TInv s) (hs : step c s t = some (s', ev)) : TInv s' :=
  tinv_steps hc hl hsi h (step_cases hs)

theorem invokeNO_sub {c : Cfg} {s s' : St} {t : Tid} {op : GOp} (hs : invokeNO c s t op = some s') :
    invoke c s t op = some s' := by
  unfold invokeNO at hs
  split at hs
  · split at hs
    · exact hs
    · simp at hs
  · split at hs
    · exact hs
    · simp at hs

theorem applyNO_cases {c : Cfg} {s s' : St} {t : Tid} {a : Act} {o : Obs}
    (hap : (modelNO c).apply s t a = some (s', o)) :
    (∃ op, a = .invoke op ∧ invokeNO c s t op = some s' ∧ o = .call op) ∨
    (∃ ev, a = .step ∧ step c s t = some (s', ev) ∧ o = .ev ev) ∨
    (∃ r, a = .ret ∧ result c s t = some (s', r) ∧ o = .ret r) :=
  Model.apply_cases hap

/-- Invariant of the no-overlap machine: everything that holds of all runs, plus tag confinement. -/
structure NInv (c : Cfg) (rank : Nat → Nat) (s : St) : Prop where
  m : MInv c rank s
  tg : TInv s

theorem ninv_apply {c : Cfg} {rank : Nat → Nat} (hc : SlotOK c rank) (s : St) (t : Tid) (a : Act) (s' : St) (o : Obs)
    (h : NInv c rank s) (hap : (modelNO c).apply s t a = some (s', o)) : NInv c rank s' := by
  rcases applyNO_cases hap with ⟨op, -, hs, -⟩ | ⟨ev, -, hs, -⟩ | ⟨r, -, hs, -⟩
  · have hs' := invokeNO_sub hs
    exact ⟨⟨linv_invoke h.m.l hs', sinv_invoke h.m.l h.m.sh hs', cinv_invoke h.m.co hs', ginv_invoke h.m.go hs'⟩,
      tinv_invoke h.m.l h.tg hs⟩
  · exact ⟨⟨linv_step hc h.m.l hs, sinv_step hc h.m.l h.m.sh hs, cinv_step hc h.m.l h.m.sh h.m.co hs,
      ginv_step hc h.m.l h.m.sh h.m.go hs⟩, tinv_step hc h.m.l h.m.sh h.tg hs⟩
  · exact ⟨⟨linv_result h.m.l hs, sinv_result h.m.l h.m.sh hs, cinv_result h.m.l h.m.co hs, ginv_result h.m.go hs⟩,
      tinv_result h.tg hs⟩

theorem ninv_reachable {c : Cfg} {rank : Nat → Nat} (hc : SlotOK c rank) (s : St)
    (h : (modelNO c).Reachable init s) : NInv c rank s :=
  (modelNO c).inv_reachable (NInv c rank) init ⟨minv_init c rank hc, tinv_init⟩ (ninv_apply hc) s h

/-- Every run of the no-overlap machine is a run of the unrestricted machine. -/
theorem runNO_sub (c : Cfg) : ∀ (sched : List (Tid × Act)) (s s' : St) (os : List (Tid × Obs)),
    (modelNO c).run s sched = some (s', os) → (model c).run s sched = some (s', os) := by
  intro sched
  induction sched with
  | nil => intro s s' os h; exact h
  | cons x rest ih =>
    intro s s' os h
    obtain ⟨t, a⟩ := x
    simp only [Model.run] at h ⊢
    cases hap : (modelNO c).apply s t a with
    | none => simp [hap] at h
    | some p =>
      obtain ⟨s1, o⟩ := p
      have hap' : (model c).apply s t a = some (s1, o) := by
        rcases applyNO_cases hap with ⟨op, rfl, hs, rfl⟩ | ⟨ev, rfl, hs, rfl⟩ | ⟨r, rfl, hs, rfl⟩
        · simp [Model.apply, model, invokeNO_sub hs]
        · simp [Model.apply, model, hs]
        · simp [Model.apply, model, hs]
      simp only [hap, hap'] at h ⊢
      cases hr : (modelNO c).run s1 rest with
      | none => simp [hr] at h
      | some q =>
        obtain ⟨s2, os2⟩ := q
        simp only [hr] at h
        rw [ih s1 s2 os2 hr]
        exact h

/-- A state the no-overlap machine reaches is reached by the unrestricted machine, by the same schedule. -/
theorem reachableNO_sub {c : Cfg} {s : St} (h : (modelNO c).Reachable init s) : (model c).Reachable init s := by
  obtain ⟨sched, os, hrun⟩ := h
  exact ⟨sched, os, runNO_sub c sched init s os hrun⟩

/-- At a quiescent point of a run in which no push overlaps a pop, every occupied node is Available. -/
theorem quiescent_tags_available {s : St} (h : TInv s) (hq : Quiescent s) (i : Nat) (t : Tid) : s.tag i ≠ .own t := by
  intro hi
  have := h.tc i t hi
  rw [hq t] at this
  simp [pushIdx] at this

/-- … so the array is a max-heap: every occupied slot carries at most the priority of the root. -/
theorem root_is_max {c : Cfg} {rank : Nat → Nat} (hc : SlotOK c rank) {s : St} (h : NInv c rank s)
    (hq : Quiescent s) : ∀ (i : Nat) (vi : Int), 1 ≤ i → i ≤ c.cap → s.val i = some vi →
      ∃ v1, s.val 1 = some v1 ∧ prio vi ≤ prio v1 := by
  obtain ⟨g, hg⟩ := h.m.go
  intro i
  induction i using Nat.strongRecOn with
  | _ i ih =>
    intro vi h1 hcap hvi
    by_cases hi1 : i = 1
    · subst hi1; exact ⟨vi, hvi, Int.le_refl _⟩
    · have hne : s.tag i ≠ .empty := fun he => by have := h.m.sh.te1 i he; rw [hvi] at this; cases this
      have hpne := parent_nonempty hc h.m.sh i (by omega) hcap hne
      obtain ⟨vp, hvp⟩ := exists_val_of_tag_ne_empty h.m.sh.te2 hpne
      have hav : s.tag i = .avail := by
        cases ht : s.tag i with
        | empty => exact absurd ht hne
        | avail => rfl
        | own t => exact absurd ht (quiescent_tags_available h.tg hq i t)
      have hedge := edge_ordered h.m.sh hg i (by omega) hcap hav vi vp hvi hvp
        (fun t => by rw [hq t]; simp [sift]) (fun t => by rw [hq t]; simp [sift])
      obtain ⟨v1, hv1, hle⟩ := ih (i / 2) (by omega) vp (by omega) (by omega) hvp
      exact ⟨v1, hv1, by omega⟩

end CdsVerif.Algo.MSPQ
