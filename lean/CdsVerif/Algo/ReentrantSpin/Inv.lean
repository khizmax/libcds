/-
  Inductive invariant of the re-entrant spin lock model.

  `holder l` (ghost) is the thread between its successful CAS( m_spin, 0, 1 ) and its store m_spin := 0.
    free / busy : the lock word is zero exactly when there is no holder;
    hold / dep  : the holder is the only thread with `depth > 0`, and a holder with depth 0 is about to store
                  m_OwnerId (pc `lkTake`);
    cnt         : while the holder has depth > 0 the lock word equals its depth;
    own / ownd  : m_OwnerId names the holder exactly while its depth is positive, except between the two
                  stores of the last unlock (pc `unZero`);
    p*          : what each program counter knows.
-/
import CdsVerif.Algo.ReentrantSpin.Model
namespace CdsVerif.Algo.ReentrantSpin
open CdsVerif.Machine CdsVerif.Spec

/-- The lock whose m_OwnerId the thread is about to take (after its successful CAS). -/
def takeOf : PC → Option Nat
  | .lkTake l _ => some l
  | _ => none

/-- The lock whose word the thread is about to clear (after it cleared m_OwnerId). -/
def zeroOf : PC → Option Nat
  | .unZero l _ => some l
  | _ => none

structure RInv (s : St) : Prop where
  free : ∀ l, s.spin l = 0 → s.holder l = none
  busy : ∀ l, s.holder l = none → s.spin l = 0
  hold : ∀ l t, s.holder l = some t → s.depth t l > 0 ∨ takeOf (s.pc t) = some l
  dep : ∀ l t, s.depth t l > 0 → s.holder l = some t
  cnt : ∀ l t, s.holder l = some t → s.depth t l > 0 → s.spin l = s.depth t l
  own : ∀ l t, s.owner l = some t → s.holder l = some t ∧ s.depth t l > 0
  ownd : ∀ l t, s.depth t l > 0 → s.owner l = some t ∨ zeroOf (s.pc t) = some l
  ownn : ∀ l, s.holder l = none → s.owner l = none
  pAdd : ∀ t l r, s.pc t = .lkAdd l r → s.owner l = some t
  pTake : ∀ t l r, s.pc t = .lkTake l r → s.holder l = some t ∧ s.spin l = 1 ∧ s.depth t l = 0 ∧ s.owner l = none
  pLd : ∀ t l r, s.pc t = .unLd l r → s.depth t l > 0
  pDec : ∀ t l n r, s.pc t = .unDec l n r → n = s.spin l ∧ n > 1 ∧ s.depth t l > 0
  pFree : ∀ t l r, s.pc t = .unFree l r → s.depth t l = 1
  pZero : ∀ t l r, s.pc t = .unZero l r → s.depth t l = 1 ∧ s.owner l = none

theorem rinv_init : RInv init := by
  constructor <;> intros <;> simp_all [init] <;> rfl

/-! ### The invariant by lock and by thread

`RInv s` says something about every lock (`LockOk`: its word, owner field, holder and the depths) and something about
every thread (`TInv`).  A step of thread `t` writes the fields of ONE lock `l`, which `t` holds before or after the step,
and its own depth at `l`: the other locks are untouched, and the clauses of another thread speak of the locks it holds
itself (`RInv.lockStep`). -/

/-- What `RInv` says about one lock: its word `sp`, its owner field `ow`, its holder `ho` and the depths `d`. -/
structure LockOk (sp : Nat) (ow ho : Option Tid) (d : Tid → Nat) : Prop where
  free : sp = 0 → ho = none
  busy : ho = none → sp = 0
  dep : ∀ t, d t > 0 → ho = some t
  cnt : ∀ t, ho = some t → d t > 0 → sp = d t
  own : ∀ t, ow = some t → ho = some t ∧ d t > 0
  ownn : ho = none → ow = none

def addOf : PC → Option Nat
  | .lkAdd l _ => some l
  | _ => none
def ldOf : PC → Option Nat
  | .unLd l _ => some l
  | _ => none
def decOf : PC → Option (Nat × Nat)
  | .unDec l n _ => some (l, n)
  | _ => none
def freeOf : PC → Option Nat
  | .unFree l _ => some l
  | _ => none

/-- What `RInv` says about thread `t` at program counter `pc`. -/
structure TInv (spin : Nat → Nat) (owner : Nat → Option Tid) (depth : Tid → Nat → Nat) (holder : Nat → Option Tid)
    (t : Tid) (pc : PC) : Prop where
  hold : ∀ l, holder l = some t → depth t l > 0 ∨ takeOf pc = some l
  ownd : ∀ l, depth t l > 0 → owner l = some t ∨ zeroOf pc = some l
  pAdd : ∀ l, addOf pc = some l → owner l = some t
  pTake : ∀ l, takeOf pc = some l → holder l = some t ∧ spin l = 1 ∧ depth t l = 0 ∧ owner l = none
  pLd : ∀ l, ldOf pc = some l → depth t l > 0
  pDec : ∀ l n, decOf pc = some (l, n) → n = spin l ∧ n > 1 ∧ depth t l > 0
  pFree : ∀ l, freeOf pc = some l → depth t l = 1
  pZero : ∀ l, zeroOf pc = some l → depth t l = 1 ∧ owner l = none

section
variable {s : St}

theorem RInv.lock (h : RInv s) (l : Nat) : LockOk (s.spin l) (s.owner l) (s.holder l) (fun t => s.depth t l) :=
  ⟨h.free l, h.busy l, h.dep l, h.cnt l, h.own l, h.ownn l⟩

theorem RInv.thread (h : RInv s) (t : Tid) : TInv s.spin s.owner s.depth s.holder t (s.pc t) where
  hold := fun l => h.hold l t
  ownd := fun l => h.ownd l t
  pAdd := fun l e => by
    cases hp : s.pc t <;> simp only [hp, addOf, Option.some.injEq, reduceCtorEq] at e
    exact e ▸ h.pAdd t _ _ hp
  pTake := fun l e => by
    cases hp : s.pc t <;> simp only [hp, takeOf, Option.some.injEq, reduceCtorEq] at e
    exact e ▸ h.pTake t _ _ hp
  pLd := fun l e => by
    cases hp : s.pc t <;> simp only [hp, ldOf, Option.some.injEq, reduceCtorEq] at e
    exact e ▸ h.pLd t _ _ hp
  pDec := fun l n e => by
    cases hp : s.pc t <;> simp only [hp, decOf, Option.some.injEq, Prod.mk.injEq, reduceCtorEq] at e
    exact e.1 ▸ e.2 ▸ h.pDec t _ _ _ hp
  pFree := fun l e => by
    cases hp : s.pc t <;> simp only [hp, freeOf, Option.some.injEq, reduceCtorEq] at e
    exact e ▸ h.pFree t _ _ hp
  pZero := fun l e => by
    cases hp : s.pc t <;> simp only [hp, zeroOf, Option.some.injEq, reduceCtorEq] at e
    exact e ▸ h.pZero t _ _ hp

theorem RInv.thread_at (h : RInv s) {t : Tid} {pc : PC} (hpc : s.pc t = pc) : TInv s.spin s.owner s.depth s.holder t pc :=
  hpc ▸ h.thread t

theorem RInv.of_parts (hL : ∀ l, LockOk (s.spin l) (s.owner l) (s.holder l) (fun t => s.depth t l))
    (hT : ∀ t, TInv s.spin s.owner s.depth s.holder t (s.pc t)) : RInv s where
  free := fun l => (hL l).free
  busy := fun l => (hL l).busy
  hold := fun l t => (hT t).hold l
  dep := fun l => (hL l).dep
  cnt := fun l => (hL l).cnt
  own := fun l => (hL l).own
  ownd := fun l t => (hT t).ownd l
  ownn := fun l => (hL l).ownn
  pAdd := fun t l r e => (hT t).pAdd l (by rw [e]; rfl)
  pTake := fun t l r e => (hT t).pTake l (by rw [e]; rfl)
  pLd := fun t l r e => (hT t).pLd l (by rw [e]; rfl)
  pDec := fun t l n r e => (hT t).pDec l n (by rw [e]; rfl)
  pFree := fun t l r e => (hT t).pFree l (by rw [e]; rfl)
  pZero := fun t l r e => (hT t).pZero l (by rw [e]; rfl)

/-- A step that only moves the program counter of `t`. -/
theorem RInv.move {t : Tid} {q : PC} (h : RInv s) (hT : TInv s.spin s.owner s.depth s.holder t q) : RInv { s with pc := upd s.pc t q } :=
  RInv.of_parts h.lock fun u => by
    by_cases hu : u = t
    · rw [hu, show St.pc _ t = q from upd_same _ _ _]; exact hT
    · rw [show St.pc _ u = s.pc u from upd_other _ _ _ _ hu]; exact h.thread u

/-- The rule for a step of `t` on lock `l`, which it holds before or after the step (or both): the other locks and
    the depths of the other threads stay. -/
theorem RInv.lockStep {s' : St} {t : Tid} {l : Nat} (h : RInv s) (hpc : ∀ u, u ≠ t → s'.pc u = s.pc u)
    (hl : ∀ l', l' ≠ l → s'.spin l' = s.spin l' ∧ s'.owner l' = s.owner l' ∧ s'.holder l' = s.holder l' ∧
      s'.depth t l' = s.depth t l')
    (hd : ∀ u, u ≠ t → s'.depth u = s.depth u)
    (h1 : ∀ u, s.holder l = some u → u = t) (h2 : ∀ u, s'.holder l = some u → u = t)
    (hL : LockOk (s'.spin l) (s'.owner l) (s'.holder l) (fun u => s'.depth u l))
    (hT : TInv s'.spin s'.owner s'.depth s'.holder t (s'.pc t)) : RInv s' := by
  refine RInv.of_parts (fun l' => ?_) (fun u => ?_)
  · by_cases e : l' = l
    · rw [e]; exact hL
    · obtain ⟨a, b, c, d⟩ := hl l' e
      have : (fun u => s'.depth u l') = fun u => s.depth u l' := funext fun u => by
        by_cases hu : u = t
        · rw [hu]; exact d
        · rw [hd u hu]
      rw [a, b, c, this]; exact h.lock l'
  · by_cases hu : u = t
    · rw [hu]; exact hT
    · rw [hpc u hu]
      have hU := h.thread u
      -- a lock that `u` holds, and the lock of a positive depth of `u`, is another lock
      have hne : ∀ l', s.holder l' = some u → l' ≠ l := fun l' e e' => hu (h1 u (e' ▸ e))
      have hne' : ∀ l', s'.holder l' = some u → l' ≠ l := fun l' e e' => hu (h2 u (e' ▸ e))
      have hdep : ∀ l', s'.depth u l' = s.depth u l' := fun l' => by rw [hd u hu]
      have hback : ∀ l', s'.holder l' = some u → s.holder l' = some u := fun l' e => (hl l' (hne' l' e)).2.2.1 ▸ e
      exact {
        hold := fun l' e => by rw [show s'.depth u l' = s.depth u l' from hdep l']; exact hU.hold l' (hback l' e)
        ownd := fun l' e => by
          have e' : s.depth u l' > 0 := hdep l' ▸ e
          rw [show s'.owner l' = s.owner l' from (hl l' (hne l' (h.dep l' u e'))).2.1]; exact hU.ownd l' e'
        pAdd := fun l' e => by
          have := hU.pAdd l' e
          rw [show s'.owner l' = s.owner l' from (hl l' (hne l' (h.own l' u this).1)).2.1]; exact this
        pTake := fun l' e => by
          obtain ⟨a, b, c, d⟩ := hU.pTake l' e
          obtain ⟨a', b', c', -⟩ := hl l' (hne l' a)
          exact ⟨c' ▸ a, a' ▸ b, (hdep l').trans c, b' ▸ d⟩
        pLd := fun l' e => (hdep l').symm ▸ hU.pLd l' e
        pDec := fun l' n e => by
          obtain ⟨a, b, c⟩ := hU.pDec l' n e
          exact ⟨by rw [show s'.spin l' = s.spin l' from (hl l' (hne l' (h.dep l' u c))).1]; exact a, b,
            (hdep l').symm ▸ c⟩
        pFree := fun l' e => (hdep l').trans (hU.pFree l' e)
        pZero := fun l' e => by
          obtain ⟨a, b⟩ := hU.pZero l' e
          have : s.depth u l' > 0 := by rw [a]; exact Nat.one_pos
          exact ⟨(hdep l').trans a, by
            rw [show s'.owner l' = s.owner l' from (hl l' (hne l' (h.dep l' u this))).2.1]; exact b⟩ }

end

/-- The depths at lock `l` after thread `t` has set its own to `v`. -/
theorem depth_at {d : Tid → Nat → Nat} {t : Tid} {l v : Nat} (u : Tid) :
    upd2 d t l v u l = if u = t then v else d u l := by
  simp [upd2]

/-! ### Preservation -/

section
variable {s s' : St} {t : Tid} {ev : Ev}

theorem rinv_step_lkAdd {l : Nat} {r : GRet}
    (h : RInv s) (hpc : s.pc t = .lkAdd l r) (hs : step s t = some (s', ev)) : RInv s' := by
  have hT := h.thread_at hpc
  simp only [step, hpc] at hs
  cases hs
  have how : s.owner l = some t := hT.pAdd l rfl
  obtain ⟨hho, hdp⟩ := h.own l t how
  have hLk := h.lock l
  have hsp : s.spin l = s.depth t l := hLk.cnt t hho hdp
  refine h.lockStep (t := t) (l := l) (fun u hu => upd_other _ _ _ _ hu)
    (fun l' e => ⟨upd_other _ _ _ _ e, rfl, rfl, upd2_col_ne _ _ _ _ e⟩) (upd2_row_ne _ _ _ _)
    (fun u e => Option.some.inj (e.symm.trans hho)) (fun u e => Option.some.inj (e.symm.trans hho)) ?_ ?_
  · show LockOk (upd s.spin l (s.spin l + 1) l) (s.owner l) (s.holder l)
      (fun u => upd2 s.depth t l (s.depth t l + 1) u l)
    rw [upd_same]
    exact {
      free := nofun
      busy := fun e => nomatch e.symm.trans hho
      dep := fun u e => by
        rw [depth_at] at e; split at e
        next hu => rw [hu]; exact hho
        · exact hLk.dep u e
      cnt := fun u e _ => by
        have hu : u = t := Option.some.inj (e.symm.trans hho)
        rw [depth_at, if_pos hu, hsp]
      own := fun u e => by
        have hu : u = t := Option.some.inj (e.symm.trans how)
        rw [depth_at, if_pos hu, hu]; exact ⟨hho, Nat.succ_pos _⟩
      ownn := hLk.ownn }
  · rw [show St.pc _ t = .done r from upd_same _ _ _]
    exact {
      hold := fun l' e => by
        rcases hT.hold l' e with a | a
        · refine .inl ?_
          show upd2 s.depth t l (s.depth t l + 1) t l' > 0
          by_cases e' : l' = l
          · rw [e', upd2_same]; exact Nat.succ_pos _
          · rw [upd2_col_ne _ _ _ _ e']; exact a
        · cases a
      ownd := fun l' e => by
        by_cases e' : l' = l
        · rw [e']; exact .inl how
        · have e2 : upd2 s.depth t l (s.depth t l + 1) t l' > 0 := e
          rw [upd2_col_ne _ _ _ _ e'] at e2
          rcases hT.ownd l' e2 with a | a
          · exact .inl a
          · cases a
      pAdd := nofun
      pTake := nofun
      pLd := nofun
      pDec := nofun
      pFree := nofun
      pZero := nofun }

theorem rinv_step_lkCas {l : Nat} {b : Bool}
    (h : RInv s) (hpc : s.pc t = .lkCas l b) (hs : step s t = some (s', ev)) : RInv s' := by
  have hT := h.thread_at hpc
  simp only [step, hpc] at hs
  split at hs
  next h0 =>
    cases hs
    have hLk := h.lock l
    have hho : s.holder l = none := hLk.free h0
    have how : s.owner l = none := hLk.ownn hho
    have hd0 : ∀ u, ¬ s.depth u l > 0 := fun u e => nomatch (hLk.dep u e).symm.trans hho
    refine h.lockStep (t := t) (l := l) (fun u hu => upd_other _ _ _ _ hu)
      (fun l' e => ⟨upd_other _ _ _ _ e, rfl, upd_other _ _ _ _ e, rfl⟩) (fun _ _ => rfl)
      (fun u e => nomatch e.symm.trans hho) (fun u e => (Option.some.inj ((upd_same _ _ _).symm.trans e)).symm) ?_ ?_
    · show LockOk (upd s.spin l 1 l) (s.owner l) (upd s.holder l (some t) l) (fun u => s.depth u l)
      rw [upd_same, upd_same]
      exact {
        free := nofun
        busy := nofun
        dep := fun u e => absurd e (hd0 u)
        cnt := fun u _ e => absurd e (hd0 u)
        own := fun u e => nomatch e.symm.trans how
        ownn := nofun }
    · rw [show St.pc _ t = .lkTake l (if b then [1] else []) from upd_same _ _ _]
      exact { hT with
        hold := fun l' e => by
          by_cases e' : l' = l
          · exact .inr (by rw [e']; rfl)
          · have e1 : upd s.holder l (some t) l' = some t := e
            rw [upd_other _ _ _ _ e'] at e1
            exact (hT.hold l' e1).imp id nofun
        pTake := fun l' e => by
          cases e
          exact ⟨upd_same _ _ _, upd_same _ _ _, Nat.eq_zero_of_not_pos (hd0 t), how⟩
        pDec := nofun }
  next h0 =>
    cases hs
    exact h.move (by split <;> exact { hT with })

theorem rinv_step_lkTake {l : Nat} {r : GRet}
    (h : RInv s) (hpc : s.pc t = .lkTake l r) (hs : step s t = some (s', ev)) : RInv s' := by
  have hT := h.thread_at hpc
  simp only [step, hpc] at hs
  cases hs
  obtain ⟨hho, hsp, hd0, how⟩ := hT.pTake l rfl
  have hLk := h.lock l
  refine h.lockStep (t := t) (l := l) (fun u hu => upd_other _ _ _ _ hu)
    (fun l' e => ⟨rfl, upd_other _ _ _ _ e, rfl, upd2_col_ne _ _ _ _ e⟩) (upd2_row_ne _ _ _ _)
    (fun u e => Option.some.inj (e.symm.trans hho)) (fun u e => Option.some.inj (e.symm.trans hho)) ?_ ?_
  · show LockOk (s.spin l) (upd s.owner l (some t) l) (s.holder l) (fun u => upd2 s.depth t l (s.depth t l + 1) u l)
    rw [upd_same]
    exact {
      free := fun e => nomatch hsp.symm.trans e
      busy := fun e => nomatch e.symm.trans hho
      dep := fun u e => by
        rw [depth_at] at e; split at e
        next hu => rw [hu]; exact hho
        · exact hLk.dep u e
      cnt := fun u e _ => by
        have hu : u = t := Option.some.inj (e.symm.trans hho)
        rw [depth_at, if_pos hu, hsp, hd0]
      own := fun u e => by
        have hu : t = u := Option.some.inj e
        rw [depth_at, if_pos hu.symm, ← hu]; exact ⟨hho, Nat.succ_pos _⟩
      ownn := fun e => nomatch e.symm.trans hho }
  · rw [show St.pc _ t = .done r from upd_same _ _ _]
    exact {
      hold := fun l' e => by
        refine .inl ?_
        show upd2 s.depth t l (s.depth t l + 1) t l' > 0
        by_cases e' : l' = l
        · rw [e', upd2_same]; exact Nat.succ_pos _
        · rw [upd2_col_ne _ _ _ _ e']
          rcases hT.hold l' e with a | a
          · exact a
          · exact absurd (Option.some.inj a).symm e'
      ownd := fun l' e => by
        refine .inl ?_
        show upd s.owner l (some t) l' = some t
        by_cases e' : l' = l
        · rw [e', upd_same]
        · have e2 : upd2 s.depth t l (s.depth t l + 1) t l' > 0 := e
          rw [upd2_col_ne _ _ _ _ e'] at e2
          rw [upd_other _ _ _ _ e']
          exact (hT.ownd l' e2).elim id nofun
      pAdd := nofun
      pTake := nofun
      pLd := nofun
      pDec := nofun
      pFree := nofun
      pZero := nofun }

theorem rinv_step_unDec {l n : Nat} {r : GRet}
    (h : RInv s) (hpc : s.pc t = .unDec l n r) (hs : step s t = some (s', ev)) : RInv s' := by
  have hT := h.thread_at hpc
  simp only [step, hpc] at hs
  cases hs
  obtain ⟨hn, hn1, hdp⟩ := hT.pDec l n rfl
  have hLk := h.lock l
  have hho : s.holder l = some t := hLk.dep t hdp
  have hsp : s.spin l = s.depth t l := hLk.cnt t hho hdp
  have how : s.owner l = some t := (hT.ownd l hdp).elim id nofun
  refine h.lockStep (t := t) (l := l) (fun u hu => upd_other _ _ _ _ hu)
    (fun l' e => ⟨upd_other _ _ _ _ e, rfl, rfl, upd2_col_ne _ _ _ _ e⟩) (upd2_row_ne _ _ _ _)
    (fun u e => Option.some.inj (e.symm.trans hho)) (fun u e => Option.some.inj (e.symm.trans hho)) ?_ ?_
  · show LockOk (upd s.spin l (n - 1) l) (s.owner l) (s.holder l) (fun u => upd2 s.depth t l (s.depth t l - 1) u l)
    rw [upd_same]
    exact {
      free := fun e => by omega
      busy := fun e => nomatch e.symm.trans hho
      dep := fun u e => by
        rw [depth_at] at e; split at e
        next hu => rw [hu]; exact hho
        · exact hLk.dep u e
      cnt := fun u e _ => by
        have hu : u = t := Option.some.inj (e.symm.trans hho)
        rw [depth_at, if_pos hu, hn, hsp]
      own := fun u e => by
        have hu : u = t := Option.some.inj (e.symm.trans how)
        rw [depth_at, if_pos hu, hu]; exact ⟨hho, by omega⟩
      ownn := hLk.ownn }
  · rw [show St.pc _ t = .done r from upd_same _ _ _]
    exact {
      hold := fun l' e => by
        refine .inl ?_
        show upd2 s.depth t l (s.depth t l - 1) t l' > 0
        by_cases e' : l' = l
        · rw [e', upd2_same]; omega
        · rw [upd2_col_ne _ _ _ _ e']; exact (hT.hold l' e).elim id nofun
      ownd := fun l' e => by
        by_cases e' : l' = l
        · rw [e']; exact .inl how
        · have e2 : upd2 s.depth t l (s.depth t l - 1) t l' > 0 := e
          rw [upd2_col_ne _ _ _ _ e'] at e2
          exact .inl ((hT.ownd l' e2).elim id nofun)
      pAdd := nofun
      pTake := nofun
      pLd := nofun
      pDec := nofun
      pFree := nofun
      pZero := nofun }

theorem rinv_step_unFree {l : Nat} {r : GRet}
    (h : RInv s) (hpc : s.pc t = .unFree l r) (hs : step s t = some (s', ev)) : RInv s' := by
  have hT := h.thread_at hpc
  simp only [step, hpc] at hs
  cases hs
  have hd1 : s.depth t l = 1 := hT.pFree l rfl
  have hLk := h.lock l
  have hho : s.holder l = some t := hLk.dep t (by rw [hd1]; exact Nat.one_pos)
  refine h.lockStep (t := t) (l := l) (fun u hu => upd_other _ _ _ _ hu)
    (fun l' e => ⟨rfl, upd_other _ _ _ _ e, rfl, rfl⟩) (fun _ _ => rfl)
    (fun u e => Option.some.inj (e.symm.trans hho)) (fun u e => Option.some.inj (e.symm.trans hho)) ?_ ?_
  · show LockOk (s.spin l) (upd s.owner l none l) (s.holder l) (fun u => s.depth u l)
    rw [upd_same]
    exact { hLk with own := nofun, ownn := fun _ => rfl }
  · rw [show St.pc _ t = .unZero l r from upd_same _ _ _]
    exact { hT with
      ownd := fun l' e => by
        by_cases e' : l' = l
        · exact .inr (by rw [e']; rfl)
        · refine .inl ?_
          show upd s.owner l none l' = some t
          rw [upd_other _ _ _ _ e']; exact (hT.ownd l' e).elim id nofun
      pAdd := nofun
      pTake := nofun
      pFree := nofun
      pZero := fun l' e => by cases e; exact ⟨hd1, upd_same _ _ _⟩ }

theorem rinv_step_unZero {l : Nat} {r : GRet}
    (h : RInv s) (hpc : s.pc t = .unZero l r) (hs : step s t = some (s', ev)) : RInv s' := by
  have hT := h.thread_at hpc
  simp only [step, hpc] at hs
  cases hs
  obtain ⟨hd1, how⟩ := hT.pZero l rfl
  have hLk := h.lock l
  have hho : s.holder l = some t := hLk.dep t (by rw [hd1]; exact Nat.one_pos)
  refine h.lockStep (t := t) (l := l) (fun u hu => upd_other _ _ _ _ hu)
    (fun l' e => ⟨upd_other _ _ _ _ e, rfl, upd_other _ _ _ _ e, upd2_col_ne _ _ _ _ e⟩) (upd2_row_ne _ _ _ _)
    (fun u e => Option.some.inj (e.symm.trans hho)) (fun u e => nomatch (upd_same _ _ _).symm.trans e) ?_ ?_
  · show LockOk (upd s.spin l 0 l) (s.owner l) (upd s.holder l none l) (fun u => upd2 s.depth t l (s.depth t l - 1) u l)
    rw [upd_same, upd_same]
    exact {
      free := fun _ => rfl
      busy := fun _ => rfl
      dep := fun u e => by
        rw [depth_at] at e; split at e
        · omega
        next hu => exact absurd (Option.some.inj ((hLk.dep u e).symm.trans hho)) hu
      cnt := nofun
      own := fun u e => nomatch e.symm.trans how
      ownn := fun _ => how }
  · rw [show St.pc _ t = .done r from upd_same _ _ _]
    exact {
      hold := fun l' e => by
        have e1 : upd s.holder l none l' = some t := e
        by_cases e' : l' = l
        · rw [e', upd_same] at e1; cases e1
        · rw [upd_other _ _ _ _ e'] at e1
          refine .inl ?_
          show upd2 s.depth t l (s.depth t l - 1) t l' > 0
          rw [upd2_col_ne _ _ _ _ e']; exact (hT.hold l' e1).elim id nofun
      ownd := fun l' e => by
        have e2 : upd2 s.depth t l (s.depth t l - 1) t l' > 0 := e
        by_cases e' : l' = l
        · rw [e', upd2_same] at e2; omega
        · rw [upd2_col_ne _ _ _ _ e'] at e2
          exact .inl ((hT.ownd l' e2).elim id (fun a => absurd (Option.some.inj a).symm e'))
      pAdd := nofun
      pTake := nofun
      pLd := nofun
      pDec := nofun
      pFree := nofun
      pZero := nofun }

theorem rinv_step (h : RInv s) (hs : step s t = some (s', ev)) : RInv s' := by
  cases hpc : s.pc t with
  | idle => simp [step, hpc] at hs
  | done r => simp [step, hpc] at hs
  | lkOwner l b =>
    simp only [step, hpc] at hs
    split at hs
    next how =>
      cases hs
      exact h.move { h.thread_at hpc with pAdd := fun l' e => by cases e; exact how }
    next how =>
      cases hs
      exact h.move { h.thread_at hpc with }
  | lkAdd l r => exact rinv_step_lkAdd h hpc hs
  | lkCas l b => exact rinv_step_lkCas h hpc hs
  | lkSpin l =>
    simp only [step, hpc] at hs
    cases hs
    exact h.move (by split <;> exact { h.thread_at hpc with })
  | lkTake l r => exact rinv_step_lkTake h hpc hs
  | unLd l r =>
    simp only [step, hpc] at hs
    cases hs
    have hT := h.thread_at hpc
    have hdp : s.depth t l > 0 := hT.pLd l rfl
    have hsp : s.spin l = s.depth t l := (h.lock l).cnt t ((h.lock l).dep t hdp) hdp
    refine h.move ?_
    split
    next h1 => exact { hT with pLd := nofun, pDec := fun l' n e => by cases e; exact ⟨rfl, h1, hdp⟩ }
    next h1 => exact { hT with pLd := nofun, pFree := fun l' e => by cases e; omega }
  | unDec l n r => exact rinv_step_unDec h hpc hs
  | unFree l r => exact rinv_step_unFree h hpc hs
  | unZero l r => exact rinv_step_unZero h hpc hs

theorem rinv_invoke {op : GOp} (h : RInv s) (hs : invoke s t op = some s') : RInv s' := by
  have hT := h.thread t
  unfold invoke at hs
  split at hs
  next hpc _ _ => rw [hpc] at hT; cases hs; exact h.move { hT with }
  next hpc _ _ => rw [hpc] at hT; cases hs; exact h.move { hT with }
  next hpc _ _ =>
    rw [hpc] at hT
    split at hs
    next hd => cases hs; exact h.move { hT with pLd := fun l' e => by cases e; exact hd }
    · cases hs
  next hpc _ _ =>
    rw [hpc] at hT
    split at hs
    next hd => cases hs; exact h.move { hT with pLd := fun l' e => by cases e; exact hd }
    next hd => cases hs; exact h.move { hT with }
  · cases hs

theorem rinv_result {r : GRet} (h : RInv s) (hs : result s t = some (s', r)) : RInv s' := by
  unfold result at hs
  split at hs
  next r' hpc => cases hs; exact h.move { h.thread_at hpc with }
  · cases hs

end

theorem rinv_apply (s : St) (t : Tid) (a : Act) (s' : St) (o : Obs) (h : RInv s)
    (hap : model.apply s t a = some (s', o)) : RInv s' := by
  rcases Model.apply_cases hap with ⟨op, -, hs, -⟩ | ⟨ev, -, hs, -⟩ | ⟨r, -, hs, -⟩
  · exact rinv_invoke h hs
  · exact rinv_step h hs
  · exact rinv_result h hs

theorem rinv_reachable (s : St) (h : model.Reachable init s) : RInv s :=
  model.inv_reachable RInv init rinv_init rinv_apply s h

/-! ### Who holds a lock -/

theorem takeOf_eq_some {pc : PC} {l : Nat} (h : takeOf pc = some l) : ∃ r, pc = .lkTake l r := by
  cases pc <;> cases h
  exact ⟨_, rfl⟩

/-- A thread that is inside lock `l`, or has taken its word and not yet stored its id, is the ghost holder. -/
theorem RInv.holder_of_inside {s : St} (hi : RInv s) {l : Nat} {t : Tid}
    (ht : s.depth t l > 0 ∨ takeOf (s.pc t) = some l) : s.holder l = some t := by
  rcases ht with hd | hk
  · exact hi.dep l t hd
  · obtain ⟨r, hpc⟩ := takeOf_eq_some hk
    exact (hi.pTake t l r hpc).1

theorem RInv.depth_eq_zero_of_holder {s : St} (hi : RInv s) {l : Nat} {t t2 : Tid} (hh : s.holder l = some t)
    (hne : t2 ≠ t) : s.depth t2 l = 0 :=
  Nat.eq_zero_of_not_pos fun hd => hne (Option.some.inj ((hi.dep l t2 hd).symm.trans hh))

/-! ### Step-level facts quoted by the property theorems -/

/-- Invocation and return touch only the program counter of the acting thread. -/
theorem invoke_frame {s s' : St} {t : Tid} {op : GOp} (hs : invoke s t op = some s') :
    s'.spin = s.spin ∧ s'.owner = s.owner ∧ s'.depth = s.depth ∧ s'.holder = s.holder ∧
    (∀ l, takeOf (s'.pc t) ≠ some l) ∧ ∀ t2, t2 ≠ t → s'.pc t2 = s.pc t2 := by
  unfold invoke at hs
  split at hs
  · simp at hs; subst hs; simp [upd, takeOf]; grind
  · simp at hs; subst hs; simp [upd, takeOf]; grind
  · split at hs
    · simp at hs; subst hs; simp [upd, takeOf]; grind
    · simp at hs
  · split at hs <;> simp at hs <;> subst hs <;> simp [upd, takeOf] <;> grind
  · simp at hs

theorem result_frame {s s' : St} {t : Tid} {r : GRet} (hs : result s t = some (s', r)) :
    s'.spin = s.spin ∧ s'.owner = s.owner ∧ s'.depth = s.depth ∧ s'.holder = s.holder ∧
    s.pc t = .done r ∧ s'.pc t = .idle ∧ ∀ t2, t2 ≠ t → s'.pc t2 = s.pc t2 := by
  unfold result at hs
  split at hs
  next r' hpc =>
    simp at hs; obtain ⟨rfl, rfl⟩ := hs
    simp [upd, hpc]; grind
  next => simp at hs

/-- The lock word of `l` goes from non-zero to zero only by the final store of an `unlock` of the holder,
    executed at depth 1 (the last unlock), and that step ends the holder's critical section. -/
theorem release_step {s s' : St} {t : Tid} {ev : Ev} {l : Nat} (h : RInv s) (hs : step s t = some (s', ev))
    (h0 : s.spin l ≠ 0) (h1 : s'.spin l = 0) :
    (∃ r, s.pc t = .unZero l r) ∧ s.holder l = some t ∧ s.depth t l = 1 ∧ s.owner l = none ∧
    s'.depth t l = 0 ∧ s'.holder l = none ∧ ev = evStSpin l 0 := by
  obtain ⟨i1, i2, i3, i4, i5, i6, i7, i7n, i8, i9, i10, i11, i12, i13⟩ := h
  cases hpc : s.pc t <;> simp only [step, hpc] at hs
  case idle => simp at hs
  case done => simp at hs
  case lkOwner l' b =>
    split at hs <;> simp at hs <;> obtain ⟨rfl, -⟩ := hs <;> exact absurd h1 h0
  case lkAdd l' r =>
    simp at hs; obtain ⟨rfl, -⟩ := hs; dsimp only at h1; grind [upd]
  case lkCas l' b =>
    split at hs <;> simp at hs <;> obtain ⟨rfl, -⟩ := hs <;> dsimp only at h1 <;> grind [upd]
  case lkSpin l' =>
    simp at hs; obtain ⟨rfl, -⟩ := hs; exact absurd h1 h0
  case lkTake l' r =>
    simp at hs; obtain ⟨rfl, -⟩ := hs; exact absurd h1 h0
  case unLd l' r =>
    simp at hs; obtain ⟨rfl, -⟩ := hs; exact absurd h1 h0
  case unDec l' n r =>
    simp at hs; obtain ⟨rfl, -⟩ := hs; dsimp only at h1; grind [upd]
  case unFree l' r =>
    simp at hs; obtain ⟨rfl, -⟩ := hs; exact absurd h1 h0
  case unZero l' r =>
    simp at hs; obtain ⟨rfl, rfl⟩ := hs
    dsimp only at h1 ⊢
    have hl : l' = l := by grind [upd]
    subst hl
    refine ⟨⟨r, rfl⟩, ?_, ?_, ?_, ?_, ?_, rfl⟩ <;> grind [upd, upd2]

/-- While thread `t` holds lock `l` (depth ≥ 1), no action of another thread `t2` changes the lock word, the
    owner field, the holder or `t`'s depth, `t2` does not acquire the lock (its depth stays 0 and it does not
    reach the `take` step), and a `try_lock` CAS of `t2` fails (the operation returns 0). -/
theorem others_excluded_step {s s' : St} {t t2 : Tid} {ev : Ev} {l : Nat} (h : RInv s)
    (hd : s.depth t l ≥ 1) (hne : t2 ≠ t) (hs : step s t2 = some (s', ev)) :
    s'.spin l = s.spin l ∧ s'.owner l = s.owner l ∧ s'.holder l = some t ∧ s'.depth t l = s.depth t l ∧
    s'.depth t2 l = 0 ∧ takeOf (s'.pc t2) ≠ some l ∧
    (s.pc t2 = .lkCas l true → s'.pc t2 = .done [0] ∧ ev = evCasFail l (s.spin l)) ∧
    (s.pc t2 = .lkCas l false → s'.pc t2 = .lkSpin l ∧ ev = evCasFail l (s.spin l)) := by
  obtain ⟨i1, i2, i3, i4, i5, i6, i7, i7n, i8, i9, i10, i11, i12, i13⟩ := h
  have hh : s.holder l = some t := i4 l t hd
  have hd2 : s.depth t2 l = 0 := by grind
  cases hpc : s.pc t2 <;> simp only [step, hpc] at hs
  case idle => simp at hs
  case done => simp at hs
  case lkOwner l' b =>
    split at hs <;> simp at hs <;> obtain ⟨rfl, -⟩ := hs <;> dsimp only <;> grind [upd, upd2, takeOf]
  case lkAdd l' r =>
    simp at hs; obtain ⟨rfl, -⟩ := hs; dsimp only; grind [upd, upd2, takeOf]
  case lkCas l' b =>
    split at hs <;> simp at hs <;> obtain ⟨rfl, rfl⟩ := hs <;> dsimp only <;> grind [upd, upd2, takeOf]
  case lkSpin l' =>
    simp at hs; obtain ⟨rfl, -⟩ := hs; dsimp only; grind [upd, upd2, takeOf]
  case lkTake l' r =>
    simp at hs; obtain ⟨rfl, -⟩ := hs; dsimp only; grind [upd, upd2, takeOf]
  case unLd l' r =>
    simp at hs; obtain ⟨rfl, -⟩ := hs; dsimp only; grind [upd, upd2, takeOf]
  case unDec l' n r =>
    simp at hs; obtain ⟨rfl, -⟩ := hs; dsimp only; grind [upd, upd2, takeOf]
  case unFree l' r =>
    simp at hs; obtain ⟨rfl, -⟩ := hs; dsimp only; grind [upd, upd2, takeOf]
  case unZero l' r =>
    simp at hs; obtain ⟨rfl, -⟩ := hs; dsimp only; grind [upd, upd2, takeOf]

end CdsVerif.Algo.ReentrantSpin
