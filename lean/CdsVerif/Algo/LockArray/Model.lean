/-
  Atomic-step model of `cds::sync::lock_array< cds::sync::spin, SelectPolicy >` (cds/sync/lock_array.h): an array of
  `size` spin locks (test-and-test-and-set, as in Algo/Spin).

    lock( hint )     : nCell = m_SelectCellPolicy( hint, size()); m_arrLocks[nCell].lock(); return nCell;
    try_lock( hint ) : nCell = …; if ( m_arrLocks[nCell].try_lock()) return nCell; return c_nUnspecifiedCell;
    unlock( nCell )  : m_arrLocks[nCell].unlock();
    lock_all()       : for ( pLock = m_arrLocks; pLock != m_arrLocks + size(); ++pLock ) pLock->lock();
    unlock_all()     : for ( pLock = m_arrLocks; pLock != m_arrLocks + size(); ++pLock ) pLock->unlock();
  with  spin_lock::try_lock : return !m_spin.exchange( true );
        spin_lock::lock     : while ( !try_lock()) { while ( m_spin.load()) backoff(); }
        spin_lock::unlock   : m_spin.store( false );

  The cell selection policy is a parameter `sel hint size` of the machine (trivial: `hint`; mod: `hint % size`; pow2:
  `hint &&& (size - 1)`); every theorem holds for every policy.  One `step` = one atomic operation on a cell's word.
  `lock_all` is NOT atomic: it acquires the cells one by one in index order, and other threads run in between.

  Event rendering (the `A` lines of the harness trace), cell `c`:
      xchg L<c>.spin <0|1> 1       try_lock
      ld   L<c>.spin <0|1>         wait loop
      st   L<c>.spin 0             unlock

  Ghost fields: `held t c` — thread `t` is between a successful exchange on cell `c` and its releasing store;
                `all t`    — `lock_all` of thread `t` has performed its last exchange and its `unlock_all` has not been invoked.
-/
import CdsVerif.Algo.Spin.Model
namespace CdsVerif.Algo.LockArray
open CdsVerif.Machine CdsVerif.Spec

inductive PC
  | idle
  | lockTry (c : Nat)               -- lock( hint ): next exchange( true ) on cell c
  | lockSpin (c : Nat)              -- lock( hint ): next load in the wait loop
  | tryOnce (c : Nat)               -- try_lock( hint ): next exchange( true )
  | unlockSt (c : Nat) (r : GRet)   -- unlock( c ): next store( false ); then return r
  | allTry (c : Nat)                -- lock_all(): cells < c acquired; next exchange( true ) on cell c
  | allSpin (c : Nat)               -- lock_all(): next load in the wait loop of cell c
  | allUn (c : Nat)                 -- unlock_all(): cells < c released; next store( false ) to cell c
  | done (r : GRet)
deriving DecidableEq, Repr

structure St where
  size : Nat                        -- number of cells (never changes)
  spin : Nat → Bool                 -- m_spin of every cell
  pc : Tid → PC
  held : Tid → Nat → Bool           -- ghost
  all : Tid → Bool                  -- ghost

def init (size : Nat) : St := ⟨size, fun _ => false, fun _ => .idle, fun _ _ => false, fun _ => false⟩

def b2s (b : Bool) : String := if b then "1" else "0"
def locName (c : Nat) : String := s!"L{c}.spin"

/-- Client discipline.  `lock` / `try_lock`: the policy must select an existing cell (`assert( nCell < size())`).
    `unlock c`: only by a thread that holds cell `c` and is not between `lock_all` and `unlock_all`;
    `unlock_if c`: releases `c` if the thread holds it, does nothing otherwise; `unlock_all`: only after the thread's own
    `lock_all`.  The first argument of every operation is the calling thread (as in the harness histories) and is not used. -/
def invoke (sel : Nat → Nat → Nat) (s : St) (t : Tid) (op : GOp) : Option St :=
  match s.pc t, op.name, op.args with
  | .idle, "lock", [_, h] =>
    if sel h.toNat s.size < s.size then some { s with pc := upd s.pc t (.lockTry (sel h.toNat s.size)) } else none
  | .idle, "try_lock", [_, h] =>
    if sel h.toNat s.size < s.size then some { s with pc := upd s.pc t (.tryOnce (sel h.toNat s.size)) } else none
  | .idle, "unlock", [_, c] =>
    if s.held t c.toNat ∧ s.all t = false then some { s with pc := upd s.pc t (.unlockSt c.toNat []) } else none
  | .idle, "unlock_if", [_, c] =>
    if s.all t then none
    else if s.held t c.toNat then some { s with pc := upd s.pc t (.unlockSt c.toNat [1]) }
    else some { s with pc := upd s.pc t (.done [0]) }
  | .idle, "lock_all", [_] =>
    if s.size = 0 then some { s with pc := upd s.pc t (.done []), all := upd s.all t true }
    else some { s with pc := upd s.pc t (.allTry 0) }
  | .idle, "unlock_all", [_] =>
    if s.all t then
      if s.size = 0 then some { s with pc := upd s.pc t (.done []), all := upd s.all t false }
      else some { s with pc := upd s.pc t (.allUn 0), all := upd s.all t false }
    else none
  | _, _, _ => none

def step (s : St) (t : Tid) : Option (St × Ev) :=
  match s.pc t with
  | .lockTry c =>
    let old := s.spin c
    let ev : Ev := ⟨"xchg", locName c, b2s old, "1"⟩
    if old then some ({ s with spin := upd s.spin c true, pc := upd s.pc t (.lockSpin c) }, ev)
    else some ({ s with spin := upd s.spin c true, pc := upd s.pc t (.done []), held := upd2 s.held t c true }, ev)
  | .lockSpin c =>
    let v := s.spin c
    some ({ s with pc := upd s.pc t (if v then .lockSpin c else .lockTry c) }, ⟨"ld", locName c, b2s v, ""⟩)
  | .tryOnce c =>
    let old := s.spin c
    let ev : Ev := ⟨"xchg", locName c, b2s old, "1"⟩
    if old then some ({ s with spin := upd s.spin c true, pc := upd s.pc t (.done [0]) }, ev)
    else some ({ s with spin := upd s.spin c true, pc := upd s.pc t (.done [1]), held := upd2 s.held t c true }, ev)
  | .unlockSt c r =>
    some ({ s with spin := upd s.spin c false, pc := upd s.pc t (.done r), held := upd2 s.held t c false },
          ⟨"st", locName c, "0", ""⟩)
  | .allTry c =>
    let old := s.spin c
    let ev : Ev := ⟨"xchg", locName c, b2s old, "1"⟩
    if old then some ({ s with spin := upd s.spin c true, pc := upd s.pc t (.allSpin c) }, ev)
    else if c + 1 < s.size then
      some ({ s with spin := upd s.spin c true, pc := upd s.pc t (.allTry (c + 1)), held := upd2 s.held t c true }, ev)
    else
      some ({ s with spin := upd s.spin c true, pc := upd s.pc t (.done []), held := upd2 s.held t c true,
                     all := upd s.all t true }, ev)
  | .allSpin c =>
    let v := s.spin c
    some ({ s with pc := upd s.pc t (if v then .allSpin c else .allTry c) }, ⟨"ld", locName c, b2s v, ""⟩)
  | .allUn c =>
    some ({ s with spin := upd s.spin c false, held := upd2 s.held t c false,
                   pc := upd s.pc t (if c + 1 < s.size then .allUn (c + 1) else .done []) },
          ⟨"st", locName c, "0", ""⟩)
  | _ => none

def result (s : St) (t : Tid) : Option (St × GRet) :=
  match s.pc t with
  | .done r => some ({ s with pc := upd s.pc t .idle }, r)
  | _ => none

def model (sel : Nat → Nat → Nat) : Model St := ⟨invoke sel, step, result⟩

/-- `trivial_select_policy`. -/
def selTrivial (h _ : Nat) : Nat := h
/-- `mod_select_policy`. -/
def selMod (h n : Nat) : Nat := h % n

/-- The atomic events of a run, with the acting thread. -/
def events (os : List (Tid × Obs)) : List (Tid × Ev) :=
  os.filterMap fun (t, o) => match o with
    | .ev e => some (t, e)
    | _ => none

/-- Initial state from the header word `size=<number of cells>`. -/
def initCfg (cfg : List String) : St :=
  match cfg.find? (·.startsWith "size=") with
  | some w => init (w.drop 5).toString.toNat!
  | none => init 0

/-! ### Invariant -/

/-- The cell up to which (exclusive) a thread inside `lock_all` holds every cell. -/
def allUpTo : PC → Option Nat
  | .idle => none
  | .lockTry _ => none
  | .lockSpin _ => none
  | .tryOnce _ => none
  | .unlockSt _ _ => none
  | .allTry c => some c
  | .allSpin c => some c
  | .allUn _ => none
  | .done _ => none

/-- The cell from which (inclusive) a thread inside `unlock_all` still holds every cell. -/
def unFrom : PC → Option Nat
  | .idle => none
  | .lockTry _ => none
  | .lockSpin _ => none
  | .tryOnce _ => none
  | .unlockSt _ _ => none
  | .allTry _ => none
  | .allSpin _ => none
  | .allUn c => some c
  | .done _ => none

/-- What the invariant says of one thread: its row of `held`, its `all` flag and its program counter. -/
structure TInv (size : Nat) (held : Nat → Bool) (all : Bool) (pc : PC) : Prop where
  pUn : ∀ c r, pc = .unlockSt c r → held c = true ∧ all = false
  pAll : ∀ c, allUpTo pc = some c → c < size ∧ ∀ c', c' < c → held c' = true
  pUnAll : ∀ c, unFrom pc = some c → (c < size ∧ ∀ c', c ≤ c' → c' < size → held c' = true) ∧ all = false
  full : all = true → ∀ c, c < size → held c = true

structure LInv (s : St) : Prop extends Spin.Locks s.spin s.held where
  thread : ∀ t, TInv s.size (s.held t) (s.all t) (s.pc t)

theorem LInv.pAll {s : St} (h : LInv s) (t : Tid) (c : Nat) (hc : allUpTo (s.pc t) = some c) :
    c < s.size ∧ ∀ c', c' < c → s.held t c' = true :=
  (h.thread t).pAll c hc

theorem LInv.pUnAll {s : St} (h : LInv s) (t : Tid) (c : Nat) (hc : unFrom (s.pc t) = some c) :
    c < s.size ∧ ∀ c', c ≤ c' → c' < s.size → s.held t c' = true :=
  ((h.thread t).pUnAll c hc).1

theorem LInv.full {s : St} (h : LInv s) (t : Tid) (ha : s.all t = true) : ∀ c, c < s.size → s.held t c = true :=
  (h.thread t).full ha

theorem linv_init (n : Nat) : LInv (init n) where
  free _ _ _ := rfl
  excl := nofun
  thread _ := ⟨nofun, nofun, nofun, nofun⟩

/-- A step of thread `t` to program counter `q`: the lock words and `held` still agree, no other thread's row of `held` or
    `all` flag has changed, and `t`'s new row `row` and flag `a` fit `q`. -/
theorem LInv.update {s : St} {t : Tid} (h : LInv s) {spin' : Nat → Bool} {held' : Tid → Nat → Bool} {all' : Tid → Bool}
    {q : PC} {row : Nat → Bool} {a : Bool} (hlocks : Spin.Locks spin' held')
    (hheld : ∀ u, u ≠ t → held' u = s.held u) (hrow : held' t = row)
    (hall : ∀ u, u ≠ t → all' u = s.all u) (ha : all' t = a)
    (hT : TInv s.size row a q) : LInv ⟨s.size, spin', upd s.pc t q, held', all'⟩ where
  toLocks := hlocks
  thread u := by
    show TInv s.size (held' u) (all' u) (upd s.pc t q u)
    by_cases e : u = t
    · rw [e, hrow, ha, upd_same]
      exact hT
    · rw [hheld u e, hall u e, upd_other _ _ _ _ e]
      exact h.thread u

/-- A step that leaves `held` and `all` alone: it touches no lock word, or finds the word set. -/
theorem LInv.quiet {s : St} {t : Tid} (h : LInv s) {spin' : Nat → Bool} {q : PC} (hlocks : Spin.Locks spin' s.held)
    (hT : TInv s.size (s.held t) (s.all t) q) : LInv ⟨s.size, spin', upd s.pc t q, s.held, s.all⟩ :=
  h.update hlocks (fun _ _ => rfl) rfl (fun _ _ => rfl) rfl hT

/-- A step that only sets the thread's `all` flag. -/
theorem LInv.flag {s : St} {t : Tid} (h : LInv s) {q : PC} {a : Bool} (hT : TInv s.size (s.held t) a q) :
    LInv ⟨s.size, s.spin, upd s.pc t q, s.held, upd s.all t a⟩ :=
  h.update h.toLocks (fun _ _ => rfl) rfl (fun u hu => upd_other _ _ u _ hu) (upd_same _ _ _) hT

/-- A successful exchange on cell `c`. -/
theorem LInv.acquire {s : St} {t : Tid} {c : Nat} (h : LInv s) (hc : s.spin c = false) {all' : Tid → Bool} {q : PC}
    {a : Bool} (hall : ∀ u, u ≠ t → all' u = s.all u) (ha : all' t = a) (hT : TInv s.size (upd (s.held t) c true) a q) :
    LInv ⟨s.size, upd s.spin c true, upd s.pc t q, upd2 s.held t c true, all'⟩ :=
  h.update (h.toLocks.acquire t hc) (upd2_row_ne _ _ _ _) (upd2_row_eq _ _ _ _) hall ha hT

/-- The releasing store to a cell the thread holds. -/
theorem LInv.release {s : St} {t : Tid} {c : Nat} (h : LInv s) (hc : s.held t c = true) {q : PC}
    (hT : TInv s.size (upd (s.held t) c false) (s.all t) q) :
    LInv ⟨s.size, upd s.spin c false, upd s.pc t q, upd2 s.held t c false, s.all⟩ :=
  h.update (h.toLocks.release hc) (upd2_row_ne _ _ _ _) (upd2_row_eq _ _ _ _) (fun _ _ => rfl) rfl hT

theorem linv_invoke {sel : Nat → Nat → Nat} {s s' : St} {t : Tid} {op : GOp} (h : LInv s)
    (hs : invoke sel s t op = some s') : LInv s' ∧ s'.size = s.size := by
  have hT := h.thread t
  unfold invoke at hs
  split at hs
  · split at hs
    · cases hs
      exact ⟨h.quiet h.toLocks ⟨nofun, nofun, nofun, hT.full⟩, rfl⟩
    · cases hs
  · split at hs
    · cases hs
      exact ⟨h.quiet h.toLocks ⟨nofun, nofun, nofun, hT.full⟩, rfl⟩
    · cases hs
  · split at hs
    · next hh =>
      cases hs
      exact ⟨h.quiet h.toLocks ⟨fun c r e => by cases e; exact hh, nofun, nofun, hT.full⟩, rfl⟩
    · cases hs
  · split at hs
    · cases hs
    · next hna =>
      split at hs
      · next hh =>
        cases hs
        exact ⟨h.quiet h.toLocks ⟨fun c r e => by cases e; exact ⟨hh, Bool.eq_false_iff.mpr hna⟩, nofun, nofun, hT.full⟩, rfl⟩
      · cases hs
        exact ⟨h.quiet h.toLocks ⟨nofun, nofun, nofun, hT.full⟩, rfl⟩
  · split at hs
    · next h0 =>
      cases hs
      exact ⟨h.flag ⟨nofun, nofun, nofun, fun _ c hc => absurd hc (by omega)⟩, rfl⟩
    · next h0 =>
      cases hs
      exact ⟨h.quiet h.toLocks ⟨nofun, fun c e => by cases e; exact ⟨by omega, nofun⟩, nofun, hT.full⟩, rfl⟩
  · split at hs
    · next ha =>
      split at hs
      · cases hs
        exact ⟨h.flag ⟨nofun, nofun, nofun, nofun⟩, rfl⟩
      · next h0 =>
        cases hs
        exact ⟨h.flag ⟨nofun, nofun, fun c e => by cases e; exact ⟨⟨by omega, fun c' _ => hT.full ha c'⟩, rfl⟩, nofun⟩, rfl⟩
    · cases hs
  · cases hs

theorem linv_result {s s' : St} {t : Tid} {r : GRet} (h : LInv s) (hs : result s t = some (s', r)) :
    LInv s' ∧ s'.size = s.size := by
  unfold result at hs
  split at hs
  · cases hs
    exact ⟨h.quiet h.toLocks ⟨nofun, nofun, nofun, (h.thread t).full⟩, rfl⟩
  · cases hs

theorem linv_step {s s' : St} {t : Tid} {ev : Ev} (h : LInv s) (hs : step s t = some (s', ev)) :
    LInv s' ∧ s'.size = s.size := by
  have hT := h.thread t
  have grow : ∀ c, s.all t = true → ∀ c', c' < s.size → upd (s.held t) c true c' = true :=
    fun c ha c' hc' => upd_true (hT.full ha c' hc')
  cases hpc : s.pc t <;> rw [hpc] at hT <;> simp only [step, hpc, reduceCtorEq] at hs
  case lockTry c =>
    split at hs
    · cases hs
      exact ⟨h.quiet (h.toLocks.set c) ⟨nofun, nofun, nofun, hT.full⟩, rfl⟩
    · next hc =>
      cases hs
      exact ⟨h.acquire (Bool.eq_false_iff.mpr hc) (fun _ _ => rfl) rfl ⟨nofun, nofun, nofun, grow c⟩, rfl⟩
  case lockSpin c =>
    cases hs
    cases s.spin c <;> exact ⟨h.quiet h.toLocks ⟨nofun, nofun, nofun, hT.full⟩, rfl⟩
  case tryOnce c =>
    split at hs
    · cases hs
      exact ⟨h.quiet (h.toLocks.set c) ⟨nofun, nofun, nofun, hT.full⟩, rfl⟩
    · next hc =>
      cases hs
      exact ⟨h.acquire (Bool.eq_false_iff.mpr hc) (fun _ _ => rfl) rfl ⟨nofun, nofun, nofun, grow c⟩, rfl⟩
  case unlockSt c r =>
    obtain ⟨hh, hna⟩ := hT.pUn c r rfl
    cases hs
    exact ⟨h.release hh ⟨nofun, nofun, nofun, fun ha => nomatch hna ▸ ha⟩, rfl⟩
  case allTry c =>
    obtain ⟨hc, hlow⟩ := hT.pAll c rfl
    split at hs
    · cases hs
      exact ⟨h.quiet (h.toLocks.set c) ⟨nofun, hT.pAll, nofun, hT.full⟩, rfl⟩
    · next hfree =>
      -- after the exchange the thread holds the cells below `c` and `c` itself
      have hlow' : ∀ c', c' < c + 1 → upd (s.held t) c true c' = true := fun c' hc' => by
        by_cases e : c' = c
        · rw [e, upd_same]
        · exact upd_true (hlow c' (by omega))
      split at hs
      · next hnext =>
        cases hs
        exact ⟨h.acquire (Bool.eq_false_iff.mpr hfree) (fun _ _ => rfl) rfl
          ⟨nofun, fun c' e => by cases e; exact ⟨hnext, hlow'⟩, nofun, grow c⟩, rfl⟩
      · next hlast =>
        cases hs
        exact ⟨h.acquire (Bool.eq_false_iff.mpr hfree) (fun u hu => upd_other _ _ u _ hu) (upd_same _ _ _)
          ⟨nofun, nofun, nofun, fun _ c' hc' => hlow' c' (by omega)⟩, rfl⟩
  case allSpin c =>
    cases hs
    cases s.spin c
    · exact ⟨h.quiet h.toLocks ⟨nofun, hT.pAll, nofun, hT.full⟩, rfl⟩
    · exact ⟨h.quiet h.toLocks ⟨nofun, hT.pAll, nofun, hT.full⟩, rfl⟩
  case allUn c =>
    obtain ⟨⟨hc, hhigh⟩, hna⟩ := hT.pUnAll c rfl
    cases hs
    have hfull : s.all t = true → ∀ c', c' < s.size → upd (s.held t) c false c' = true := fun ha => nomatch hna ▸ ha
    by_cases hnext : c + 1 < s.size
    · rw [if_pos hnext]
      refine ⟨h.release (hhigh c (Nat.le_refl c) hc) ⟨nofun, nofun, fun c' e => ?_, hfull⟩, rfl⟩
      cases e
      refine ⟨⟨hnext, fun c' h1 h2 => ?_⟩, hna⟩
      rw [upd_other _ _ _ _ (by omega)]
      exact hhigh c' (by omega) h2
    · rw [if_neg hnext]
      exact ⟨h.release (hhigh c (Nat.le_refl c) hc) ⟨nofun, nofun, nofun, hfull⟩, rfl⟩

theorem linv_apply (sel : Nat → Nat → Nat) (s : St) (t : Tid) (a : Act) (s' : St) (o : Obs) (h : LInv s)
    (hap : (model sel).apply s t a = some (s', o)) : LInv s' ∧ s'.size = s.size := by
  rcases Model.apply_cases hap with ⟨op, -, hi, -⟩ | ⟨e, -, hs, -⟩ | ⟨r, -, hr, -⟩
  · exact linv_invoke h hi
  · exact linv_step h hs
  · exact linv_result h hr

/-- The invariant holds in every reachable state, and the number of cells never changes. -/
theorem linv_size_reachable (sel : Nat → Nat → Nat) (n : Nat) (s : St) (h : (model sel).Reachable (init n) s) :
    LInv s ∧ s.size = n :=
  (model sel).inv_reachable (fun s => LInv s ∧ s.size = n) (init n) ⟨linv_init n, rfl⟩
    (fun s t a s' o hi hap =>
      have h' := linv_apply sel s t a s' o hi.1 hap
      ⟨h'.1, h'.2.trans hi.2⟩) s h

theorem linv_reachable (sel : Nat → Nat → Nat) (n : Nat) (s : St) (h : (model sel).Reachable (init n) s) : LInv s :=
  (linv_size_reachable sel n s h).1

theorem size_reachable (sel : Nat → Nat → Nat) (n : Nat) (s : St) (h : (model sel).Reachable (init n) s) : s.size = n :=
  (linv_size_reachable sel n s h).2

/-- `lock_all` returns exactly when the ghost `all` is set: the step that takes a thread from inside `lock_all` to `done` is
    the successful exchange on the last cell; it sets `all`, and in the state after it the thread holds every cell. -/
theorem lock_all_return_step {s s' : St} {t : Tid} {ev : Ev} {c : Nat} (h : LInv s) (hpc : s.pc t = .allTry c)
    (hs : step s t = some (s', ev)) (hd : ∃ r, s'.pc t = .done r) :
    s'.all t = true ∧ c + 1 = s.size ∧ s.spin c = false ∧ ∀ c', c' < s'.size → s'.held t c' = true := by
  have hl' := (linv_step h hs).1
  have hc := (h.pAll t c (by rw [hpc]; rfl)).1
  have hall : s'.all t = true ∧ c + 1 = s.size ∧ s.spin c = false := by
    simp only [step, hpc] at hs
    obtain ⟨r, hr⟩ := hd
    -- of the three alternatives only the last leaves the thread at `done`
    split at hs
    · cases hs
      exact nomatch (upd_same s.pc t _).symm.trans hr
    · next hfree =>
      split at hs
      · cases hs
        exact nomatch (upd_same s.pc t _).symm.trans hr
      · next hlast =>
        cases hs
        exact ⟨upd_same _ _ _, by omega, Bool.eq_false_iff.mpr hfree⟩
  exact ⟨hall.1, hall.2.1, hall.2.2, hl'.full t hall.1⟩

end CdsVerif.Algo.LockArray
