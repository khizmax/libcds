/-
  Inductive invariant of the `WeakRingBuffer<void>` machine (Model.lean): layout of the live region
  (records and tail markers exactly as the producer wrote them), no write into the live region,
  conservative caches, exact FIFO of the (size, payload id) records.
-/
import CdsVerif.Algo.VoidRing.Model
namespace CdsVerif.Algo.VoidRing
open CdsVerif.Machine CdsVerif.Spec

/-! ### Arithmetic -/

/-- Two logical positions less than one capacity apart occupy different cells. -/
theorem mod_ne_of_lt {cap a b : Nat} (h1 : a < b) (h2 : b < a + cap) : a % cap ≠ b % cap := by
  intro h
  have h3 : (b - a) % cap = 0 := Nat.sub_mod_eq_zero_of_mod_eq h.symm
  have h4 : (b - a) % cap = b - a := Nat.mod_eq_of_lt (by omega)
  omega

/-- An area that does not straddle the end of the buffer is addressed contiguously. -/
theorem mod_add_of_fit {cap p i : Nat} (h : p % cap + i < cap) : (p + i) % cap = p % cap + i := by
  have hi : i % cap = i := Nat.mod_eq_of_lt (by omega)
  rw [Nat.add_mod, hi]
  exact Nat.mod_eq_of_lt h

theorem mod_cap_mod8 {cap : Nat} (h8 : cap % 8 = 0) (p : Nat) : p % cap % 8 = p % 8 :=
  Nat.mod_mod_of_dvd p (Nat.dvd_of_mod_eq_zero h8)

theorem realSize_mod8 (sz : Nat) : realSize sz % 8 = 0 := by unfold realSize; omega
theorem realSize_ge (sz : Nat) : sz + 8 ≤ realSize sz := by unfold realSize; omega
theorem realSize_le (sz : Nat) : realSize sz ≤ sz + 15 := by unfold realSize; omega
theorem realSize_aligned (n : Nat) (h8 : n % 8 = 0) (h : 8 ≤ n) : realSize (n - 8) = n := by
  unfold realSize; omega

/-- A cell of the live region `[front, q)` is none of the `r` cells at `q mod cap` when the producer owns
    `[q, q + r)` (`q + r ≤ front + cap`). -/
theorem live_cell_ne {cap front q r j i : Nat} (h1 : front ≤ j) (h2 : j < q) (hroom : q + r ≤ front + cap)
    (hfit : q % cap + r ≤ cap) (hi : i < r) : j % cap ≠ q % cap + i := by
  rw [← mod_add_of_fit (by omega)]
  exact mod_ne_of_lt (by omega) (by omega)

/-! ### Cells -/

theorem wrRec_other (mem : Nat → Cell) (o sz : Nat) (id : Int) (c : Nat)
    (h : ∀ i, i < realSize sz → c ≠ o + i) : wrRec mem o sz id c = mem c := by
  have hr := realSize_ge sz
  have h0 := h 0 (by omega)
  unfold wrRec
  split
  · rename_i hc
    exact absurd (show c = o + (c - o) by omega) (h (c - o) (by omega))
  · split
    · omega
    · rfl

theorem wrRec_hdr (mem : Nat → Cell) (o sz : Nat) (id : Int) : wrRec mem o sz id o = .size sz := by
  unfold wrRec
  split
  · omega
  · simp

theorem wrRec_pay (mem : Nat → Cell) (o sz : Nat) (id : Int) (k : Nat) (hk : k < sz) :
    wrRec mem o sz id (o + 8 + k) = .pay id k := by
  unfold wrRec
  rw [if_pos (by omega)]
  congr 1
  omega

theorem payId_eq (mem : Nat → Cell) (o sz : Nat) (id : Int) (hsz : 0 < sz)
    (h : ∀ k, k < sz → mem (o + 8 + k) = .pay id k) : payId mem o sz = id := by
  have h0 := h 0 hsz
  unfold payId
  simp only [Nat.add_zero] at h0
  rw [h0]
  simp only
  rw [if_pos]
  simp only [List.all_eq_true, List.mem_range]
  intro k hk
  rw [h k hk]
  simp

/-! ### Layout of a region -/

/-- Segment `sg` is laid out at logical position `p` (offset `p mod cap`), not straddling the buffer end. -/
def SegAt (mem : Nat → Cell) (cap p : Nat) : Seg → Prop
  | .data sz id => mem (p % cap) = .size sz ∧ (∀ k, k < sz → mem (p % cap + 8 + k) = .pay id k) ∧
      p % cap + realSize sz ≤ cap ∧ 0 < sz
  | .tail n => mem (p % cap) = .tail (n - 8) ∧ 8 ≤ n ∧ n % 8 = 0 ∧ p % cap + n = cap ∧ n < cap

/-- The region `[p, q)` consists of exactly the segments `l`, back to back. -/
def Parses (mem : Nat → Cell) (cap : Nat) : Nat → Nat → List Seg → Prop
  | p, q, [] => p = q
  | p, q, sg :: l => SegAt mem cap p sg ∧ Parses mem cap (p + sg.len) q l

/-- The segment boundaries of a region starting at `p`. -/
def bounds : Nat → List Seg → List Nat
  | p, [] => [p]
  | p, sg :: l => p :: bounds (p + sg.len) l

theorem segAt_len {mem : Nat → Cell} {cap p : Nat} {sg : Seg} (h : SegAt mem cap p sg) :
    8 ≤ sg.len ∧ sg.len % 8 = 0 ∧ p % cap + sg.len ≤ cap := by
  cases sg with
  | data sz id =>
    have := realSize_ge sz; have := realSize_mod8 sz
    simp only [SegAt, Seg.len] at *
    omega
  | tail n =>
    simp only [SegAt, Seg.len] at *
    omega

theorem parses_le {mem : Nat → Cell} {cap : Nat} {l : List Seg} {p q : Nat} (h : Parses mem cap p q l) : p ≤ q := by
  induction l generalizing p with
  | nil => simp only [Parses] at h; omega
  | cons sg l ih =>
    simp only [Parses] at h
    have := ih h.2
    omega

theorem parses_head {mem : Nat → Cell} {cap : Nat} {l : List Seg} {p q : Nat} (h : Parses mem cap p q l) (hlt : p < q) :
    ∃ sg l', l = sg :: l' ∧ SegAt mem cap p sg ∧ Parses mem cap (p + sg.len) q l' := by
  cases l with
  | nil => simp only [Parses] at h; omega
  | cons sg l' => exact ⟨sg, l', rfl, h.1, h.2⟩

theorem parses_append {mem : Nat → Cell} {cap : Nat} {l : List Seg} {p q : Nat} (sg : Seg)
    (h : Parses mem cap p q l) (hs : SegAt mem cap q sg) : Parses mem cap p (q + sg.len) (l ++ [sg]) := by
  induction l generalizing p with
  | nil => simp only [Parses] at h; subst h; simp only [List.nil_append, Parses]; exact ⟨hs, trivial⟩
  | cons sg' l ih =>
    simp only [Parses] at h
    simp only [List.cons_append, Parses]
    exact ⟨h.1, ih h.2⟩

theorem segAt_frame {mem mem' : Nat → Cell} {cap p q : Nat} {sg : Seg} (h : SegAt mem cap p sg)
    (hq : p + sg.len ≤ q) (hm : ∀ j, p ≤ j → j < q → mem' (j % cap) = mem (j % cap)) : SegAt mem' cap p sg := by
  cases sg with
  | data sz id =>
    have := realSize_ge sz
    simp only [SegAt, Seg.len] at *
    obtain ⟨h1, h2, h3, h4⟩ := h
    refine ⟨?_, ?_, h3, h4⟩
    · rw [hm p (by omega) (by omega)]; exact h1
    · intro k hk
      have := hm (p + (8 + k)) (by omega) (by omega)
      rw [mod_add_of_fit (by omega)] at this
      rw [show p % cap + 8 + k = p % cap + (8 + k) by omega, this, ← h2 k hk]
      congr 1
      omega
  | tail n =>
    simp only [SegAt, Seg.len] at *
    obtain ⟨h1, h2, h3, h4, h5⟩ := h
    refine ⟨?_, h2, h3, h4, h5⟩
    rw [hm p (by omega) (by omega)]; exact h1

theorem parses_frame {mem mem' : Nat → Cell} {cap : Nat} {l : List Seg} {p q : Nat} (h : Parses mem cap p q l)
    (hm : ∀ j, p ≤ j → j < q → mem' (j % cap) = mem (j % cap)) : Parses mem' cap p q l := by
  induction l generalizing p with
  | nil => exact h
  | cons sg l ih =>
    simp only [Parses] at h ⊢
    have hle := parses_le h.2
    exact ⟨segAt_frame h.1 hle hm, ih h.2 (fun j h1 h2 => hm j (by omega) h2)⟩

theorem bounds_self (p : Nat) (l : List Seg) : p ∈ bounds p l := by
  cases l <;> simp [bounds]

theorem bounds_ge {l : List Seg} {p x : Nat} (h : x ∈ bounds p l) : p ≤ x := by
  induction l generalizing p with
  | nil => simp [bounds] at h; omega
  | cons sg l ih =>
    simp only [bounds, List.mem_cons] at h
    rcases h with h | h
    · omega
    · have := ih h; omega

theorem bounds_append {l : List Seg} {p x : Nat} (sg : Seg) (h : x ∈ bounds p l) : x ∈ bounds p (l ++ [sg]) := by
  induction l generalizing p with
  | nil => simp [bounds] at h; subst h; simp [bounds]
  | cons sg' l ih =>
    simp only [bounds, List.mem_cons, List.cons_append] at h ⊢
    rcases h with h | h
    · exact .inl h
    · exact .inr (ih h)

theorem bounds_back {mem : Nat → Cell} {cap : Nat} {l : List Seg} {p q : Nat} (h : Parses mem cap p q l) :
    q ∈ bounds p l := by
  induction l generalizing p with
  | nil => simp only [Parses] at h; subst h; simp [bounds]
  | cons sg l ih =>
    simp only [bounds, List.mem_cons]
    exact .inr (ih h.2)

theorem bounds_tail {l : List Seg} {sg : Seg} {p x : Nat} (h : x ∈ bounds p (sg :: l)) (hne : x ≠ p) :
    x ∈ bounds (p + sg.len) l := by
  simp only [bounds, List.mem_cons] at h
  rcases h with h | h
  · exact absurd h hne
  · exact h

theorem recsOf_append_tail (l : List Seg) (n : Nat) : recsOf (l ++ [.tail n]) = recsOf l := by
  induction l with
  | nil => rfl
  | cons sg l ih => cases sg <;> simp [recsOf, ih]

theorem recsOf_append_data (l : List Seg) (sz : Nat) (id : Int) : recsOf (l ++ [.data sz id]) = recsOf l ++ [(sz, id)] := by
  induction l with
  | nil => rfl
  | cons sg l ih => cases sg <;> simp [recsOf, ih]

/-- The position behind a tail marker is offset 0. -/
theorem tail_next {mem : Nat → Cell} {cap p n : Nat} (h : SegAt mem cap p (.tail n)) : (p + n) % cap = 0 := by
  simp only [SegAt] at h
  obtain ⟨-, -, -, h4, h5⟩ := h
  have hn : n % cap = n := Nat.mod_eq_of_lt h5
  rw [Nat.add_mod, hn, h4]
  exact Nat.mod_self cap

/-- No tail marker at offset 0. -/
theorem not_tail_at_zero {mem : Nat → Cell} {cap p n : Nat} (h : SegAt mem cap p (.tail n)) : p % cap ≠ 0 := by
  simp only [SegAt] at h
  omega

theorem wrRec_segAt (mem : Nat → Cell) (cap p sz : Nat) (id : Int) (hfit : p % cap + realSize sz ≤ cap) (hsz : 0 < sz) :
    SegAt (wrRec mem (p % cap) sz id) cap p (.data sz id) :=
  ⟨wrRec_hdr _ _ _ _, fun k hk => wrRec_pay _ _ _ _ k hk, hfit, hsz⟩


/-- The record written at `q mod cap` leaves the live region `[front, q)` alone when the producer owns
    `[q, q + realSize sz)`. -/
theorem wrRec_live (mem : Nat → Cell) {cap front q sz : Nat} (id : Int) (hroom : q + realSize sz ≤ front + cap)
    (hfit : q % cap + realSize sz ≤ cap) {j : Nat} (h1 : front ≤ j) (h2 : j < q) :
    wrRec mem (q % cap) sz id (j % cap) = mem (j % cap) :=
  wrRec_other _ _ _ _ _ (fun _ hi => live_cell_ne h1 h2 hroom hfit hi)

theorem head?_append_of_some {α : Type} {l : List α} {a : α} (h : l.head? = some a) (l' : List α) :
    (l ++ l').head? = some a := by
  cases l with
  | nil => cases h
  | cons b l => exact h

/-! ### The invariant

The two threads have fixed roles, so the invariant has three parts: the clauses about counters, caches and buffer
that both threads rely on, what the producer's program counter records (`PInv`), and what the consumer's records
(`CInv`).  Of the words the consumer writes `PInv` reads only `front_`, and it is monotone in it; of what the
producer writes `CInv` reads only `back_` and `live`, and it survives a publication (`CInv.publish`).  So a step
of one thread has to re-establish the shared clauses it touches and its own part only. -/

/-- The wrap path of back(): the marker for the unused tail is written at `back_ mod cap` (not yet published),
    the local `back` has been advanced to `b`. -/
structure TailPending (mem : Nat → Cell) (cap back pfront sz b : Nat) : Prop where
  marker : mem (back % cap) = .tail (cap - back % cap - 8)
  local_back : b = back + (cap - back % cap)
  tail_short : cap - back % cap < realSize sz
  room : b ≤ pfront + cap
  sz_pos : 0 < sz
  fits : realSize sz < cap

/-- The record is laid out at `back_` (not yet published) inside the space granted to the producer. -/
def RecPending (mem : Nat → Cell) (cap back pfront sz : Nat) (id : Int) : Prop :=
  SegAt mem cap back (.data sz id) ∧ back + realSize sz ≤ pfront + cap

/-- What the producer's program counter records.  In empty() / size() of the producer `back_` is its own counter
    and the `front_` it saw is conservative. -/
def PInv (mem : Nat → Cell) (cap front back pfront : Nat) : PPC → Prop
  | .bLdBack sz _ => 0 < sz ∧ realSize sz < cap
  | .bLdFront sz _ b => b = back ∧ 0 < sz ∧ realSize sz < cap
  | .wLdFront sz _ b => TailPending mem cap back pfront sz b
  | .wStBack sz _ b => TailPending mem cap back pfront sz b ∧ b + realSize sz ≤ pfront + cap
  | .cLdBack sz id => RecPending mem cap back pfront sz id
  | .cStBack sz id b n => b = back ∧ n = realSize sz ∧ RecPending mem cap back pfront sz id
  | .zLd2 e v => (e = true → v ≤ front ∧ back ≤ v + cap) ∧ (e = false → v = back)
  | .zdone _ a b => a ≤ front ∧ b = back ∧ b ≤ a + cap
  | .idle | .done _ | .zLd1 _ => True

/-- What the consumer's program counter records.  `done`: what the consumer is about to return is "empty", or
    the record at the head of the live region (`front`), or the record it has just released (`pop`).  In
    empty() / size() of the consumer `front_` is its own counter and the `back_` it saw is conservative. -/
def CInv (cap front cback back : Nat) (live : List Seg) (popped : List (Nat × Int)) : CPC → Prop
  | .fLdBack _ f => f = front
  | .tLdFront _ => (∃ n, live.head? = some (.tail n)) ∧ front + 8 ≤ cback
  | .tLdBack _ _ => False
  | .tStFront _ f n => f = front ∧ live.head? = some (.tail n) ∧ front + 8 ≤ cback
  | .gLdFront _ => front % cap = 0
  | .gLdBack _ f => f = front ∧ front % cap = 0
  | .pLdFront sz id => live.head? = some (.data sz id) ∧ front + 8 ≤ cback
  | .pLdBack _ _ _ => False
  | .pStFront sz id f n => f = front ∧ n = realSize sz ∧ live.head? = some (.data sz id) ∧ front + 8 ≤ cback
  | .done r => r = [0] ∨ ∃ (sz : Nat) (id : Int), r = [1, (sz : Int), id] ∧
      (live.head? = some (.data sz id) ∨ popped.getLast? = some (sz, id))
  | .zLd2 e v => (e = true → v = front) ∧ (e = false → front ≤ v ∧ v ≤ back)
  | .zdone _ a b => a = front ∧ a ≤ b ∧ b ≤ back
  | .idle | .fLdFront _ | .zLd1 _ => True

theorem TailPending.pfront_mono {mem : Nat → Cell} {cap back pfront pfront' sz b : Nat}
    (h : TailPending mem cap back pfront sz b) (hle : pfront ≤ pfront') : TailPending mem cap back pfront' sz b :=
  { h with room := Nat.le_trans h.room (Nat.add_le_add_right hle cap) }

/-- A release by the consumer does not disturb the producer. -/
theorem PInv.front_mono {mem : Nat → Cell} {cap front front' back pfront : Nat} {pp : PPC}
    (h : PInv mem cap front back pfront pp) (hle : front ≤ front') : PInv mem cap front' back pfront pp := by
  cases pp with
  | zLd2 e v => exact ⟨fun he => ⟨Nat.le_trans (h.1 he).1 hle, (h.1 he).2⟩, h.2⟩
  | zdone e a b => exact ⟨Nat.le_trans h.1 hle, h.2⟩
  | _ => exact h

/-- A publication by the producer does not disturb the consumer. -/
theorem CInv.publish {cap front cback back back' : Nat} {live : List Seg} {popped : List (Nat × Int)} {cp : CPC}
    (h : CInv cap front cback back live popped cp) (hle : back ≤ back') (sg : Seg) :
    CInv cap front cback back' (live ++ [sg]) popped cp := by
  cases cp with
  | tLdFront op => exact ⟨h.1.imp fun _ hn => head?_append_of_some hn _, h.2⟩
  | tStFront op f n => exact ⟨h.1, head?_append_of_some h.2.1 _, h.2.2⟩
  | pLdFront sz id => exact ⟨head?_append_of_some h.1 _, h.2⟩
  | pStFront sz id f n => exact ⟨h.1, h.2.1, head?_append_of_some h.2.2.1 _, h.2.2.2⟩
  | done r =>
    exact h.imp id fun ⟨sz, i, hr, hrec⟩ => ⟨sz, i, hr, hrec.imp (fun hd => head?_append_of_some hd _) id⟩
  | zLd2 e v => exact ⟨h.1, fun he => ⟨(h.2 he).1, Nat.le_trans (h.2 he).2 hle⟩⟩
  | zdone e a b => exact ⟨h.1, h.2.1, Nat.le_trans h.2.2 hle⟩
  | _ => exact h

structure VInv (s : St) : Prop where
  cap8 : s.cap % 8 = 0
  cap_pos : 0 < s.cap
  front8 : s.front % 8 = 0
  back8 : s.back % 8 = 0
  /-- the producer's view of `front_` is conservative -/
  pfront_le : s.pfront ≤ s.front
  /-- `cback_ - front` never underflows -/
  front_le : s.front ≤ s.cback
  /-- the consumer's view of `back_` is conservative -/
  cback_le : s.cback ≤ s.back
  /-- `pfront_ + capacity() - back` never underflows; with `pfront_le`: at most `cap` bytes in flight -/
  back_le : s.back ≤ s.pfront + s.cap
  /-- the live region is exactly the published, not yet released segments -/
  parses : Parses s.mem s.cap s.front s.back s.live
  /-- `cback_` is a segment boundary of the live region -/
  cbound : s.cback ∈ bounds s.front s.live
  fifo : s.pushed = s.popped ++ recsOf s.live
  prod : PInv s.mem s.cap s.front s.back s.pfront s.pp
  cons : CInv s.cap s.front s.cback s.back s.live s.popped s.cp

namespace VInv
variable {s : St}

theorem prod_at (h : VInv s) {q : PPC} (hpp : s.pp = q) : PInv s.mem s.cap s.front s.back s.pfront q :=
  hpp ▸ h.prod

theorem cons_at (h : VInv s) {q : CPC} (hcp : s.cp = q) : CInv s.cap s.front s.cback s.back s.live s.popped q :=
  hcp ▸ h.cons

theorem p_bLdFront (h : VInv s) (sz : Nat) (id : Int) (b : Nat) (hpp : s.pp = .bLdFront sz id b) :
    b = s.back ∧ 0 < sz ∧ realSize sz < s.cap :=
  h.prod_at hpp

theorem p_wLdFront (h : VInv s) (sz : Nat) (id : Int) (b : Nat) (hpp : s.pp = .wLdFront sz id b) :
    TailPending s.mem s.cap s.back s.pfront sz b :=
  h.prod_at hpp

theorem p_zdone (h : VInv s) (e : Bool) (a b : Nat) (hpp : s.pp = .zdone e a b) :
    a ≤ s.front ∧ b = s.back ∧ b ≤ a + s.cap :=
  h.prod_at hpp

theorem c_fLdBack (h : VInv s) (op : COp) (f : Nat) (hcp : s.cp = .fLdBack op f) : f = s.front :=
  h.cons_at hcp

theorem c_gLdBack (h : VInv s) (op : COp) (f : Nat) (hcp : s.cp = .gLdBack op f) :
    f = s.front ∧ s.front % s.cap = 0 :=
  h.cons_at hcp

/-- The reload of `back_` in the pop_front() that skips a tail marker is never reached. -/
theorem c_tLdBack (h : VInv s) (op : COp) (f : Nat) (hcp : s.cp = .tLdBack op f) : False :=
  h.cons_at hcp

/-- Nor is the one in the pop_front() that follows a successful front(). -/
theorem c_pLdBack (h : VInv s) (sz : Nat) (id : Int) (f : Nat) (hcp : s.cp = .pLdBack sz id f) : False :=
  h.cons_at hcp

theorem c_done (h : VInv s) (r : GRet) (hcp : s.cp = .done r) :
    r = [0] ∨ ∃ (sz : Nat) (id : Int), r = [1, (sz : Int), id] ∧
      (s.live.head? = some (.data sz id) ∨ s.popped.getLast? = some (sz, id)) :=
  h.cons_at hcp

theorem c_zdone (h : VInv s) (e : Bool) (a b : Nat) (hcp : s.cp = .zdone e a b) :
    a = s.front ∧ a ≤ b ∧ b ≤ s.back :=
  h.cons_at hcp

/-- What the invariant says about the oldest live segment. -/
theorem head_seg (h : VInv s) {sg : Seg} (hh : s.live.head? = some sg) :
    SegAt s.mem s.cap s.front sg ∧ Parses s.mem s.cap (s.front + sg.len) s.back (s.live.drop 1) ∧
    recsOf s.live = recsOf [sg] ++ recsOf (s.live.drop 1) ∧
    (s.cback ≠ s.front → s.cback ∈ bounds (s.front + sg.len) (s.live.drop 1)) := by
  obtain ⟨l', hl⟩ := List.head?_eq_some_iff.mp hh
  have h9 := h.parses
  have h10 := h.cbound
  rw [hl] at h9 h10 ⊢
  simp only [Parses] at h9
  refine ⟨h9.1, h9.2, ?_, fun hne => bounds_tail h10 hne⟩
  cases sg <;> simp [recsOf]

theorem hdrLen_head (h : VInv s) {sg : Seg} (hh : s.live.head? = some sg) :
    hdrLen (s.mem (s.front % s.cap)) = sg.len := by
  have hseg := (h.head_seg hh).1
  cases sg with
  | data sz id => rw [hseg.1]; rfl
  | tail n =>
    obtain ⟨hm, h8, hn8, -, -⟩ := hseg
    rw [hm]
    exact realSize_aligned n hn8 h8

/-! The kinds of step.  Producer: reload of `front_`, plain writes into the free region, publication. -/

/-- `pfront_ = front_.load( acquire )`. -/
theorem refresh (h : VInv s) {q : PPC} (hq : PInv s.mem s.cap s.front s.back s.front q) :
    VInv { s with pfront := s.front, pp := q } :=
  { h with
    pfront_le := Nat.le_refl _
    back_le := Nat.le_trans h.back_le (Nat.add_le_add_right h.pfront_le _)
    prod := hq }

/-- Plain writes that leave the cells of the live region alone. -/
theorem write (h : VInv s) {mem' : Nat → Cell} {q : PPC}
    (hm : ∀ j, s.front ≤ j → j < s.back → mem' (j % s.cap) = s.mem (j % s.cap))
    (hq : PInv mem' s.cap s.front s.back s.pfront q) : VInv { s with mem := mem', pp := q } :=
  { h with parses := parses_frame h.parses hm, prod := hq }

/-- `back_.store( release )` over a segment laid out behind the live region, inside the space granted. -/
theorem publish (h : VInv s) {sg : Seg} (hseg : SegAt s.mem s.cap s.back sg)
    (hroom : s.back + sg.len ≤ s.pfront + s.cap) {pushed' : List (Nat × Int)}
    (hfifo : pushed' = s.popped ++ recsOf (s.live ++ [sg])) {q : PPC}
    (hq : PInv s.mem s.cap s.front (s.back + sg.len) s.pfront q) :
    VInv { s with back := s.back + sg.len, pushed := pushed', live := s.live ++ [sg], pp := q } :=
  { h with
    back8 := by
      show (s.back + sg.len) % 8 = 0
      have := (segAt_len hseg).2.1
      have := h.back8
      omega
    cback_le := Nat.le_trans h.cback_le (Nat.le_add_right _ _)
    back_le := hroom
    parses := parses_append sg h.parses hseg
    cbound := bounds_append sg h.cbound
    fifo := hfifo
    prod := hq
    cons := h.cons.publish (Nat.le_add_right _ _) sg }

/-! Consumer: reload of `back_`, release of the oldest segment. -/

/-- `cback_ = back_.load( acquire )`. -/
theorem reload (h : VInv s) {q : CPC} (hq : CInv s.cap s.front s.back s.back s.live s.popped q) :
    VInv { s with cback := s.back, cp := q } :=
  { h with
    front_le := parses_le h.parses
    cback_le := Nat.le_refl _
    cbound := bounds_back h.parses
    cons := hq }

/-- `front_.store( release )` past the oldest live segment. -/
theorem release (h : VInv s) {sg : Seg} (hhd : s.live.head? = some sg) (hroom : s.front + 8 ≤ s.cback)
    {popped' : List (Nat × Int)} (hfifo : s.pushed = popped' ++ recsOf (s.live.drop 1)) {q : CPC}
    (hq : CInv s.cap (s.front + sg.len) s.cback s.back (s.live.drop 1) popped' q) :
    VInv { s with front := s.front + sg.len, popped := popped', live := s.live.drop 1, cp := q } := by
  obtain ⟨hseg, hpar, -, hcb⟩ := h.head_seg hhd
  have hcb' := hcb (by omega)
  exact { h with
    front8 := by
      show (s.front + sg.len) % 8 = 0
      have := (segAt_len hseg).2.1
      have := h.front8
      omega
    pfront_le := Nat.le_trans h.pfront_le (Nat.le_add_right _ _)
    front_le := bounds_ge hcb'
    parses := hpar
    cbound := hcb'
    fifo := hfifo
    prod := h.prod.front_mono (Nat.le_add_right _ _)
    cons := hq }

end VInv

theorem inv_init (cap : Nat) (h8 : cap % 8 = 0) (hpos : 0 < cap) : VInv (init cap) where
  cap8 := h8
  cap_pos := hpos
  front8 := rfl
  back8 := rfl
  pfront_le := Nat.le_refl 0
  front_le := Nat.le_refl 0
  cback_le := Nat.le_refl 0
  back_le := Nat.zero_le _
  parses := rfl
  cbound := List.mem_singleton.mpr rfl
  fifo := rfl
  prod := trivial
  cons := trivial

theorem inv_invoke (s : St) (t : Tid) (op : GOp) (s' : St)
    (h : VInv s) (hs1 : invoke s t op = some s') : VInv s' := by
  unfold invoke at hs1
  split at hs1
  · split at hs1
    · split at hs1
      next hpre =>
        simp only [Option.some.injEq] at hs1; subst hs1
        exact { h with prod := hpre }
      · simp at hs1
    · simp only [Option.some.injEq] at hs1; subst hs1
      exact { h with prod := trivial }
    · simp at hs1
  · split at hs1
    · split at hs1
      · simp only [Option.some.injEq] at hs1; subst hs1
        exact { h with cons := trivial }
      · simp only [Option.some.injEq] at hs1; subst hs1
        exact { h with cons := trivial }
      · simp at hs1
    · simp at hs1

theorem inv_result (s : St) (t : Tid) (r : St × GRet)
    (h : VInv s) (hr : result s t = some r) : VInv r.1 := by
  unfold result at hr
  split at hr
  · split at hr
    · simp only [Option.some.injEq] at hr; subst hr
      exact { h with prod := trivial }
    · simp only [Option.some.injEq] at hr; subst hr
      exact { h with prod := trivial }
    · simp at hr
  · split at hr
    · split at hr
      · simp only [Option.some.injEq] at hr; subst hr
        exact { h with cons := trivial }
      · simp only [Option.some.injEq] at hr; subst hr
        exact { h with cons := trivial }
      · simp at hr
    · simp at hr

/-! ### Producer steps -/

/-- back() once a free-space check has passed: the record header and payload, or the tail marker, are
    written into cells of the free region only. -/
theorem inv_place (s : St) (sz : Nat) (id : Int) (h : VInv { s with pp := .idle })
    (hsz : 0 < sz) (hreal : realSize sz < s.cap) (hroom : s.back + realSize sz ≤ s.pfront + s.cap) :
    VInv (place s sz id s.back) := by
  have hr8 := realSize_ge sz
  have hc8 : s.cap % 8 = 0 := h.cap8
  have hb8 : s.back % 8 = 0 := h.back8
  have hpf : s.pfront ≤ s.front := h.pfront_le
  have ho8 := mod_cap_mod8 hc8 s.back
  have holt : s.back % s.cap < s.cap := Nat.mod_lt _ h.cap_pos
  unfold place
  split
  next htl =>
    have hm : ∀ j, s.front ≤ j → j < s.back →
        upd s.mem (s.back % s.cap) (.tail (s.cap - s.back % s.cap - 8)) (j % s.cap) = s.mem (j % s.cap) :=
      fun j _ hj2 => upd_other _ _ _ _ (mod_ne_of_lt hj2 (by omega))
    have htp : TailPending (upd s.mem (s.back % s.cap) (.tail (s.cap - s.back % s.cap - 8))) s.cap s.back s.pfront
        sz (s.back + (s.cap - s.back % s.cap)) :=
      ⟨upd_same _ _ _, rfl, htl, by omega, hsz, hreal⟩
    split
    · exact h.write hm htp
    · exact h.write hm ⟨htp, show s.back + (s.cap - s.back % s.cap) + realSize sz ≤ s.pfront + s.cap by omega⟩
  next htl =>
    have hfit : s.back % s.cap + realSize sz ≤ s.cap := by omega
    exact h.write (fun j hj1 hj2 => wrRec_live s.mem (front := s.front) id (by omega) hfit hj1 hj2)
      ⟨wrRec_segAt s.mem s.cap s.back sz id hfit hsz, hroom⟩

/-- `back_.store` publishing the tail marker, then the record at offset 0. -/
theorem inv_p_wStBack {s : St} {sz b : Nat} (id : Int) (h : VInv s)
    (htp : TailPending s.mem s.cap s.back s.pfront sz b) (hroom : b + realSize sz ≤ s.pfront + s.cap) :
    VInv { s with back := b, live := s.live ++ [.tail (b - s.back)], mem := wrRec s.mem 0 sz id,
                  pp := .cLdBack sz id } := by
  obtain ⟨hm, rfl, htl, hble, hsz, hreal⟩ := htp
  have hc8 := h.cap8
  have hb8 := h.back8
  have hpf := h.pfront_le
  have ho8 := mod_cap_mod8 hc8 s.back
  have holt : s.back % s.cap < s.cap := Nat.mod_lt _ h.cap_pos
  have hseg : SegAt s.mem s.cap s.back (.tail (s.cap - s.back % s.cap)) :=
    ⟨hm, by omega, by omega, by omega, by omega⟩
  have hb0 : (s.back + (s.cap - s.back % s.cap)) % s.cap = 0 := tail_next hseg
  have hlive : ∀ j, s.front ≤ j → j < s.back + (s.cap - s.back % s.cap) →
      wrRec s.mem 0 sz id (j % s.cap) = s.mem (j % s.cap) := fun j hj1 hj2 => by
    have := wrRec_live s.mem (cap := s.cap) (front := s.front) (q := s.back + (s.cap - s.back % s.cap)) (sz := sz) id
      (by omega) (by omega) hj1 hj2
    rwa [hb0] at this
  have hrec : SegAt (wrRec s.mem 0 sz id) s.cap (s.back + (s.cap - s.back % s.cap)) (.data sz id) := by
    have := wrRec_segAt s.mem s.cap (s.back + (s.cap - s.back % s.cap)) sz id (by omega) hsz
    rwa [hb0] at this
  rw [Nat.add_sub_cancel_left]
  exact (h.publish (q := .idle) hseg hble ((recsOf_append_tail s.live _).symm ▸ h.fifo) trivial).write hlive
    ⟨hrec, hroom⟩

theorem inv_step_prod {s : St} {r : St × Ev} (h : VInv s) (hr : step s 0 = some r) : VInv r.1 := by
  have hbl : s.back ≤ s.front + s.cap := Nat.le_trans h.back_le (Nat.add_le_add_right h.pfront_le _)
  unfold step at hr
  rw [if_pos rfl] at hr
  split at hr
  next sz id hpp =>
    obtain ⟨hsz, hreal⟩ := h.prod_at hpp
    split at hr <;> simp only [Option.some.injEq] at hr <;> subst hr
    · exact { h with prod := ⟨rfl, hsz, hreal⟩ }
    · have := h.back_le
      exact inv_place s sz id { h with prod := trivial } hsz hreal (by omega)
  next sz id b hpp =>
    obtain ⟨rfl, hsz, hreal⟩ := h.prod_at hpp
    split at hr <;> simp only [Option.some.injEq] at hr <;> subst hr
    · exact h.refresh (q := .done [0]) trivial
    · exact inv_place { s with pfront := s.front } sz id (h.refresh (q := .idle) trivial) hsz hreal
        (by dsimp only; omega)
  next sz id b hpp =>
    have htp : TailPending s.mem s.cap s.back s.front sz b := (h.prod_at hpp).pfront_mono h.pfront_le
    split at hr <;> simp only [Option.some.injEq] at hr <;> subst hr
    · exact h.refresh (q := .done [0]) trivial
    · have := htp.room
      exact h.refresh (q := .wStBack sz id b) ⟨htp, by omega⟩
  next sz id b hpp =>
    simp only [Option.some.injEq] at hr; subst hr
    obtain ⟨htp, hroom⟩ := h.prod_at hpp
    exact inv_p_wStBack id h htp hroom
  next sz id hpp =>
    -- push_back() reads back the header it has written
    simp only [Option.some.injEq] at hr; subst hr
    have hrp : RecPending s.mem s.cap s.back s.pfront sz id := h.prod_at hpp
    exact { h with prod := ⟨rfl, by rw [hrp.1.1]; rfl, hrp⟩ }
  next sz id b n hpp =>
    simp only [Option.some.injEq] at hr; subst hr
    obtain ⟨rfl, rfl, hseg, hroom⟩ := h.prod_at hpp
    exact h.publish hseg hroom (by rw [recsOf_append_data, ← List.append_assoc, ← h.fifo]) trivial
  next e hpp =>
    cases e <;> simp only [Bool.false_eq_true, if_false, if_true, Option.some.injEq] at hr <;> subst hr
    · exact { h with prod := ⟨nofun, fun _ => rfl⟩ }
    · exact { h with prod := ⟨fun _ => ⟨Nat.le_refl _, hbl⟩, nofun⟩ }
  next e v hpp =>
    have hv := h.prod_at hpp
    cases e <;> simp only [Bool.false_eq_true, if_false, if_true, Option.some.injEq] at hr <;> subst hr
    · exact { h with prod := ⟨Nat.le_refl _, hv.2 rfl, hv.2 rfl ▸ hbl⟩ }
    · exact { h with prod := ⟨(hv.1 rfl).1, rfl, (hv.1 rfl).2⟩ }
  · simp at hr

/-! ### Consumer steps -/

/-- front() hands a record to the client: exactly the oldest live record, byte-exact. -/
theorem inv_deliver (s : St) (op : COp) (h : VInv { s with cp := .idle }) (hroom : s.front + 8 ≤ s.cback)
    (sz : Nat) (id : Int) (hhead : s.live.head? = some (.data sz id)) (c : Cell) (hc : c = s.mem (s.front % s.cap)) :
    VInv (deliver s op s.front c) := by
  obtain ⟨hm, hp, -, hsz⟩ := (h.head_seg hhead).1
  dsimp only at hm hp
  have hid := payId_eq s.mem (s.front % s.cap) sz id hsz hp
  unfold deliver
  rw [hc, hm]; simp only [rawSize]; rw [hid]
  cases op
  · exact { h with cons := ⟨hhead, hroom⟩ }
  · exact { h with cons := .inr ⟨sz, id, rfl, .inl hhead⟩ }

/-- front(): first read of a header word. -/
theorem inv_readHdr (s : St) (op : COp) (h : VInv { s with cp := .idle }) (hroom : s.front + 8 ≤ s.cback) :
    VInv (readHdr s op s.front) := by
  have hlt : s.front < s.back := by have := h.cback_le; dsimp only at this; omega
  obtain ⟨sg, l', hl, hseg, -⟩ := parses_head h.parses hlt
  dsimp only at hl hseg
  cases sg with
  | data sz id =>
    have hm := hseg.1
    unfold readHdr
    rw [hm]
    dsimp only
    exact inv_deliver s op h hroom sz id (by rw [hl]; rfl) _ hm.symm
  | tail n =>
    have hm := hseg.1
    unfold readHdr
    rw [hm]
    exact { h with cons := ⟨⟨n, by rw [hl]; rfl⟩, hroom⟩ }

/-- front() behind a tail marker (offset 0): the header there is a record's. -/
theorem inv_deliver0 (s : St) (op : COp) (h : VInv { s with cp := .idle }) (hroom : s.front + 8 ≤ s.cback)
    (h0 : s.front % s.cap = 0) : VInv (deliver s op s.front (s.mem (s.front % s.cap))) := by
  have hlt : s.front < s.back := by have := h.cback_le; dsimp only at this; omega
  obtain ⟨sg, l', hl, hseg, -⟩ := parses_head h.parses hlt
  dsimp only at hl hseg
  cases sg with
  | tail n => exact absurd h0 (not_tail_at_zero hseg)
  | data sz id => exact inv_deliver s op h hroom sz id (by rw [hl]; rfl) _ rfl

theorem inv_step_cons {s : St} {r : St × Ev} (h : VInv s) (hr : step s 1 = some r) : VInv r.1 := by
  have hfl := h.front_le
  have hfb : s.front ≤ s.back := Nat.le_trans h.front_le h.cback_le
  unfold step at hr
  rw [if_neg (by decide), if_pos rfl] at hr
  split at hr
  next op hcp =>
    split at hr <;> simp only [Option.some.injEq] at hr <;> subst hr
    · exact { h with cons := rfl }
    · exact inv_readHdr s op { h with cons := trivial } (by omega)
  next op f hcp =>
    obtain rfl : f = s.front := h.cons_at hcp
    split at hr <;> simp only [Option.some.injEq] at hr <;> subst hr
    · exact h.reload (q := .done [0]) (.inl rfl)
    · exact inv_readHdr { s with cback := s.back } op (h.reload (q := .idle) trivial) (by dsimp only; omega)
  next op hcp =>
    obtain ⟨⟨n, hhd⟩, hroom⟩ := h.cons_at hcp
    split at hr
    · omega
    · simp only [Option.some.injEq] at hr; subst hr
      exact { h with cons := ⟨rfl, by rw [h.hdrLen_head hhd]; exact hhd, hroom⟩ }
  next op f hcp => exact (h.cons_at hcp).elim
  next op f n hcp =>
    simp only [Option.some.injEq] at hr; subst hr
    obtain ⟨rfl, hhd, hroom⟩ := h.cons_at hcp
    obtain ⟨hseg, -, hrecs, -⟩ := h.head_seg hhd
    exact h.release hhd hroom (h.fifo.trans (by rw [hrecs]; rfl)) (tail_next hseg)
  next op hcp =>
    have h0 : s.front % s.cap = 0 := h.cons_at hcp
    split at hr <;> simp only [Option.some.injEq] at hr <;> subst hr
    · exact { h with cons := ⟨rfl, h0⟩ }
    · exact inv_deliver0 s op { h with cons := trivial } (by omega) h0
  next op f hcp =>
    obtain ⟨rfl, h0⟩ := h.cons_at hcp
    split at hr <;> simp only [Option.some.injEq] at hr <;> subst hr
    · exact h.reload (q := .done [0]) (.inl rfl)
    · exact inv_deliver0 { s with cback := s.back } op (h.reload (q := .idle) trivial) (by dsimp only; omega) h0
  next sz id hcp =>
    obtain ⟨hhd, hroom⟩ := h.cons_at hcp
    split at hr
    · omega
    · simp only [Option.some.injEq] at hr; subst hr
      exact { h with cons := ⟨rfl, h.hdrLen_head hhd, hhd, hroom⟩ }
  next sz id f hcp => exact (h.cons_at hcp).elim
  next sz id f n hcp =>
    simp only [Option.some.injEq] at hr; subst hr
    obtain ⟨rfl, rfl, hhd, hroom⟩ := h.cons_at hcp
    obtain ⟨-, -, hrecs, -⟩ := h.head_seg hhd
    exact h.release hhd hroom (popped' := s.popped ++ [(sz, id)]) (by rw [h.fifo, hrecs]; simp [recsOf])
      (.inr ⟨sz, id, rfl, .inr (by simp)⟩)
  next e hcp =>
    cases e <;> simp only [Bool.false_eq_true, if_false, if_true, Option.some.injEq] at hr <;> subst hr
    · exact { h with cons := ⟨nofun, fun _ => ⟨hfb, Nat.le_refl _⟩⟩ }
    · exact { h with cons := ⟨fun _ => rfl, nofun⟩ }
  next e v hcp =>
    have hv := h.cons_at hcp
    cases e <;> simp only [Bool.false_eq_true, if_false, if_true, Option.some.injEq] at hr <;> subst hr
    · exact { h with cons := ⟨rfl, hv.2 rfl⟩ }
    · exact { h with cons := ⟨hv.1 rfl, hv.1 rfl ▸ hfb, Nat.le_refl _⟩ }
  · simp at hr

/-! ### All transitions -/

theorem inv_step' (s : St) (t : Tid) (r : St × Ev)
    (h : VInv s) (hr : step s t = some r) : VInv r.1 := by
  by_cases h0 : t = 0
  · subst h0
    exact inv_step_prod h hr
  · by_cases h1 : t = 1
    · subst h1
      exact inv_step_cons h hr
    · simp [step, h0, h1] at hr

theorem inv_step (s : St) (t : Tid) (a : Act) (s' : St) (o : Obs)
    (h : VInv s) (hap : model.apply s t a = some (s', o)) : VInv s' := by
  rcases Model.apply_cases hap with ⟨op, -, hs, -⟩ | ⟨e, -, hs, -⟩ | ⟨r, -, hs, -⟩
  · exact inv_invoke s t op s' h hs
  · exact inv_step' s t (s', e) h hs
  · exact inv_result s t (s', r) h hs

theorem inv_reachable (cap : Nat) (h8 : cap % 8 = 0) (hpos : 0 < cap) (s : St)
    (h : model.Reachable (init cap) s) : VInv s :=
  model.inv_reachable VInv (init cap) (inv_init cap h8 hpos) inv_step s h

end CdsVerif.Algo.VoidRing
