/-
  Transitions of the `WeakRingBuffer<void>` machine: who can fail and when, which cells are written,
  and the consequences of the invariant used by Props/C12VoidRing.lean.
-/
import CdsVerif.Algo.VoidRing.Inv
namespace CdsVerif.Algo.VoidRing
open CdsVerif.Machine CdsVerif.Spec

/-! ### Frames of the plain-work helpers -/

theorem place_frame (s : St) (sz : Nat) (id : Int) (b : Nat) :
    (place s sz id b).cap = s.cap ∧ (place s sz id b).front = s.front ∧ (place s sz id b).back = s.back ∧
    (place s sz id b).cp = s.cp ∧ (place s sz id b).pfront = s.pfront ∧ ∀ r, (place s sz id b).pp ≠ .done r := by
  unfold place
  split
  · split <;> simp
  · simp

theorem deliver_frame (s : St) (op : COp) (f : Nat) (c : Cell) :
    (deliver s op f c).mem = s.mem ∧ (deliver s op f c).cap = s.cap ∧ (deliver s op f c).pp = s.pp ∧
    (deliver s op f c).front = s.front ∧ (deliver s op f c).back = s.back ∧ (deliver s op f c).cp ≠ .done [0] := by
  cases op <;> simp [deliver]

theorem readHdr_frame (s : St) (op : COp) (f : Nat) :
    (readHdr s op f).mem = s.mem ∧ (readHdr s op f).cap = s.cap ∧ (readHdr s op f).pp = s.pp ∧
    (readHdr s op f).front = s.front ∧ (readHdr s op f).back = s.back ∧ (readHdr s op f).cp ≠ .done [0] := by
  unfold readHdr
  split
  · simp
  · exact deliver_frame s op f _

/-- The plain writes of back() hit no live cell. -/
theorem place_mem_live (s : St) (sz : Nat) (id : Int) (hpos : 0 < s.cap) (hpf : s.pfront ≤ s.front)
    (hroom : s.back + realSize sz ≤ s.pfront + s.cap) (j : Nat) (hj1 : s.front ≤ j) (hj2 : j < s.back) :
    (place s sz id s.back).mem (j % s.cap) = s.mem (j % s.cap) := by
  have hr8 := realSize_ge sz
  have holt : s.back % s.cap < s.cap := Nat.mod_lt _ hpos
  unfold place
  split
  · have := mod_ne_of_lt (cap := s.cap) hj2 (by omega)
    split <;> simp [upd, this]
  · exact wrRec_live s.mem id (by omega) (by omega) hj1 hj2

/-- What a step of the consumer leaves alone. -/
theorem step_cons_frame {s : St} {r : St × Ev} (hr : step s 1 = some r) :
    r.1.cap = s.cap ∧ r.1.mem = s.mem ∧ r.1.pp = s.pp := by
  unfold step at hr
  rw [if_neg (by decide), if_pos rfl] at hr
  have hrd := fun s' op f => readHdr_frame s' op f
  have hdl := fun s' op f c => deliver_frame s' op f c
  split at hr <;> (try split at hr) <;> simp only [Option.some.injEq, reduceCtorEq] at hr <;> subst hr <;>
    first
    | exact ⟨rfl, rfl, rfl⟩
    | exact ⟨(hrd _ _ _).2.1, (hrd _ _ _).1, (hrd _ _ _).2.2.1⟩
    | exact ⟨(hdl _ _ _ _).2.1, (hdl _ _ _ _).1, (hdl _ _ _ _).2.2.1⟩

/-- What a step of the producer leaves alone. -/
theorem step_prod_frame {s : St} {r : St × Ev} (hr : step s 0 = some r) : r.1.cap = s.cap ∧ r.1.cp = s.cp := by
  unfold step at hr
  rw [if_pos rfl] at hr
  have hpl := fun s' sz id b => place_frame s' sz id b
  split at hr <;> (try split at hr) <;> simp only [Option.some.injEq, reduceCtorEq] at hr <;> subst hr <;>
    first
    | exact ⟨rfl, rfl⟩
    | exact ⟨(hpl _ _ _ _).1, (hpl _ _ _ _).2.2.2.1⟩

/-- No step of any thread changes a cell of the live region `[front_, back_)`; the capacity is constant. -/
theorem step_mem_live (s : St) (t : Tid) (r : St × Ev) (h : VInv s) (hr : step s t = some r) :
    r.1.cap = s.cap ∧ ∀ j, s.front ≤ j → j < s.back → r.1.mem (j % s.cap) = s.mem (j % s.cap) := by
  have hpos := h.cap_pos
  have hpf := h.pfront_le
  have hbl := h.back_le
  by_cases h0 : t = 0
  · subst h0
    refine ⟨(step_prod_frame hr).1, ?_⟩
    unfold step at hr
    rw [if_pos rfl] at hr
    split at hr
    next sz id hpp =>
      split at hr <;> simp only [Option.some.injEq] at hr <;> subst hr
      · exact fun _ _ _ => rfl
      · exact place_mem_live s sz id hpos hpf (by omega)
    next sz id b hpp =>
      obtain ⟨rfl, -, -⟩ := h.p_bLdFront sz id b hpp
      split at hr <;> simp only [Option.some.injEq] at hr <;> subst hr
      · exact fun _ _ _ => rfl
      · exact place_mem_live { s with pfront := s.front } sz id hpos (Nat.le_refl _) (by dsimp only; omega)
    next =>
      split at hr <;> simp only [Option.some.injEq] at hr <;> subst hr <;> exact fun _ _ _ => rfl
    next sz id b hpp =>
      simp only [Option.some.injEq] at hr; subst hr
      obtain ⟨⟨-, hb, htl, -, -, hreal⟩, hroom⟩ := h.prod_at hpp
      intro j hj1 hj2
      have holt : s.back % s.cap < s.cap := Nat.mod_lt _ hpos
      have hb0 : b % s.cap = 0 := by
        rw [hb, Nat.add_mod, Nat.mod_eq_of_lt (a := s.cap - s.back % s.cap) (by omega),
          show s.back % s.cap + (s.cap - s.back % s.cap) = s.cap by omega]
        exact Nat.mod_self _
      have := wrRec_live s.mem (cap := s.cap) (front := s.front) (q := b) (sz := sz) id (by omega) (by omega) hj1
        (by omega)
      rwa [hb0] at this
    all_goals
      (try split at hr) <;> simp only [Option.some.injEq, reduceCtorEq] at hr <;> subst hr <;> exact fun _ _ _ => rfl
  · by_cases h1 : t = 1
    · subst h1
      have := step_cons_frame hr
      exact ⟨this.1, fun _ _ _ => by rw [this.2.1]⟩
    · simp [step, h0, h1] at hr

theorem invoke_frame (s : St) (t : Tid) (op : GOp) (s' : St) (h : invoke s t op = some s') :
    s'.cap = s.cap ∧ s'.mem = s.mem ∧ (t = 0 → s'.cp = s.cp ∧ ∀ r, s'.pp ≠ .done r) ∧
    (t ≠ 0 → s'.pp = s.pp ∧ ∀ r, s'.cp ≠ .done r) := by
  unfold invoke at h
  split at h
  · rename_i ht
    split at h
    · split at h <;> simp at h; subst h; simp [ht]
    · simp at h; subst h; simp [ht]
    · simp at h
  · rename_i ht
    split at h
    · split at h
      · simp at h; subst h; simp [ht]
      · simp at h; subst h; simp [ht]
      · simp at h
    · simp at h

theorem result_frame (s : St) (t : Tid) (r : St × GRet) (h : result s t = some r) :
    r.1.cap = s.cap ∧ r.1.mem = s.mem ∧ (t = 0 → r.1.cp = s.cp ∧ r.1.pp = .idle) ∧
    (t ≠ 0 → r.1.pp = s.pp ∧ r.1.cp = .idle) := by
  unfold result at h
  split at h
  · rename_i ht
    split at h
    · simp at h; subst h; simp [ht]
    · simp at h; subst h; simp [ht]
    · simp at h
  · rename_i ht
    split at h
    · split at h
      · simp at h; subst h; simp [ht]
      · simp at h; subst h; simp [ht]
      · simp at h
    · simp at h

/-- A result is handed out only at `done` / `zdone`, and it is the result held there. -/
theorem result_done {s s' : St} {t : Tid} {r : GRet} (h : result s t = some (s', r)) :
    (t = 0 ∧ (s.pp = .done r ∨ ∃ e a b, s.pp = .zdone e a b ∧ r = sizeRet e a b)) ∨
    (t = 1 ∧ (s.cp = .done r ∨ ∃ e a b, s.cp = .zdone e a b ∧ r = sizeRet e a b)) := by
  unfold result at h
  split at h
  · next ht =>
    split at h
    · next hpp => obtain ⟨-, rfl⟩ := Prod.mk.inj (Option.some.inj h); exact .inl ⟨ht, .inl hpp⟩
    · next e a b hpp => obtain ⟨-, rfl⟩ := Prod.mk.inj (Option.some.inj h); exact .inl ⟨ht, .inr ⟨e, a, b, hpp, rfl⟩⟩
    · cases h
  · split at h
    · next ht =>
      split at h
      · next hcp => obtain ⟨-, rfl⟩ := Prod.mk.inj (Option.some.inj h); exact .inr ⟨ht, .inl hcp⟩
      · next e a b hcp => obtain ⟨-, rfl⟩ := Prod.mk.inj (Option.some.inj h); exact .inr ⟨ht, .inr ⟨e, a, b, hcp, rfl⟩⟩
      · cases h
    · cases h

/-- Every transition leaves the live cells and the capacity alone. -/
theorem apply_mem_live (s : St) (t : Tid) (a : Act) (s' : St) (o : Obs) (h : VInv s)
    (hap : model.apply s t a = some (s', o)) :
    s'.cap = s.cap ∧ ∀ j, s.front ≤ j → j < s.back → s'.mem (j % s.cap) = s.mem (j % s.cap) := by
  rcases Model.apply_cases hap with ⟨op, -, hs, -⟩ | ⟨e, -, hs, -⟩ | ⟨r, -, hs, -⟩
  · have := invoke_frame s t op s' hs
    exact ⟨this.1, fun _ _ _ => by rw [this.2.1]⟩
  · exact step_mem_live s t (s', e) h hs
  · have := result_frame s t (s', r) hs
    exact ⟨this.1, fun _ _ _ => by rw [this.2.1]⟩

/-- `capacity()` is constant. -/
theorem cap_reachable (cap : Nat) (h8 : cap % 8 = 0) (hpos : 0 < cap) (s : St)
    (h : model.Reachable (init cap) s) : s.cap = cap :=
  (model.inv_reachable (fun s => VInv s ∧ s.cap = cap) (init cap) ⟨inv_init cap h8 hpos, rfl⟩
    (fun s t a s' o hs hap =>
      ⟨inv_step s t a s' o hs.1 hap, (apply_mem_live s t a s' o hs.1 hap).1.trans hs.2⟩) s h).2

/-! ### Failures -/

/-- The producer's `done [0]` (back() returned nullptr) is entered only by one of the producer's two loads
    of `front_`, and only when the value loaded leaves less than `real_size` free bytes behind the local `back`. -/
theorem step_push_fail (s : St) (t : Tid) (r : St × Ev) (hr : step s t = some r)
    (hold : s.pp ≠ .done [0]) (hnew : r.1.pp = .done [0]) :
    t = 0 ∧ r.2 = evLd "front" s.front ∧ ∃ sz id b, (s.pp = .bLdFront sz id b ∨ s.pp = .wLdFront sz id b) ∧
      s.front + s.cap - b < realSize sz := by
  by_cases h0 : t = 0
  · subst h0
    refine ⟨rfl, ?_⟩
    unfold step at hr
    rw [if_pos rfl] at hr
    split at hr
    next sz id hpp =>
      split at hr <;> simp only [Option.some.injEq] at hr <;> subst hr
      · cases hnew
      · exact absurd hnew ((place_frame _ _ _ _).2.2.2.2.2 _)
    next sz id b hpp =>
      split at hr <;> simp only [Option.some.injEq] at hr <;> subst hr
      · exact ⟨rfl, sz, id, b, .inl hpp, by assumption⟩
      · exact absurd hnew ((place_frame _ _ _ _).2.2.2.2.2 _)
    next sz id b hpp =>
      split at hr <;> simp only [Option.some.injEq] at hr <;> subst hr
      · exact ⟨rfl, sz, id, b, .inr hpp, by assumption⟩
      · cases hnew
    all_goals
      (try split at hr) <;> simp only [Option.some.injEq, reduceCtorEq] at hr <;> subst hr <;> cases hnew
  · by_cases h1 : t = 1
    · subst h1
      rw [(step_cons_frame hr).2.2] at hnew
      exact absurd hnew hold
    · simp [step, h0, h1] at hr

theorem apply_push_fail (s : St) (t : Tid) (a : Act) (s' : St) (o : Obs)
    (hap : model.apply s t a = some (s', o)) (hold : s.pp ≠ .done [0]) (hnew : s'.pp = .done [0]) :
    t = 0 ∧ a = .step ∧ o = .ev (evLd "front" s.front) ∧
    ∃ sz id b, (s.pp = .bLdFront sz id b ∨ s.pp = .wLdFront sz id b) ∧ s.front + s.cap - b < realSize sz := by
  rcases Model.apply_cases hap with ⟨op, rfl, hs, -⟩ | ⟨e, rfl, hs, rfl⟩ | ⟨r, rfl, hs, -⟩
  · have hf := invoke_frame s t op s' hs
    by_cases ht : t = 0
    · exact absurd hnew ((hf.2.2.1 ht).2 _)
    · rw [(hf.2.2.2 ht).1] at hnew; exact absurd hnew hold
  · obtain ⟨ht, he, hrest⟩ := step_push_fail s t (s', e) hs hold hnew
    exact ⟨ht, rfl, congrArg Obs.ev he, hrest⟩
  · have hf := result_frame s t (s', r) hs
    by_cases ht : t = 0
    · rw [(hf.2.2.1 ht).2] at hnew; simp at hnew
    · rw [(hf.2.2.2 ht).1] at hnew; exact absurd hnew hold

/-- The consumer's `done [0]` (front() returned nullptr) is entered only by one of the two reloads of
    `back_` in front(), and only when the value loaded is less than a header word ahead of `front`. -/
theorem step_pop_fail (s : St) (t : Tid) (r : St × Ev) (hr : step s t = some r)
    (hold : s.cp ≠ .done [0]) (hnew : r.1.cp = .done [0]) :
    t = 1 ∧ r.2 = evLd "back" s.back ∧ ∃ op f, (s.cp = .fLdBack op f ∨ s.cp = .gLdBack op f) ∧ s.back - f < 8 := by
  by_cases h0 : t = 0
  · subst h0
    rw [(step_prod_frame hr).2] at hnew
    exact absurd hnew hold
  · by_cases h1 : t = 1
    · subst h1
      refine ⟨rfl, ?_⟩
      unfold step at hr
      rw [if_neg (by decide), if_pos rfl] at hr
      split at hr
      next =>
        split at hr <;> simp only [Option.some.injEq] at hr <;> subst hr
        · cases hnew
        · exact absurd hnew (readHdr_frame _ _ _).2.2.2.2.2
      next op f hcp =>
        split at hr <;> simp only [Option.some.injEq] at hr <;> subst hr
        · exact ⟨rfl, op, f, .inl hcp, by assumption⟩
        · exact absurd hnew (readHdr_frame _ _ _).2.2.2.2.2
      next => split at hr <;> simp only [Option.some.injEq] at hr <;> subst hr <;> cases hnew
      next => split at hr <;> simp only [Option.some.injEq] at hr <;> subst hr <;> cases hnew
      next => simp only [Option.some.injEq] at hr; subst hr; cases hnew
      next =>
        split at hr <;> simp only [Option.some.injEq] at hr <;> subst hr
        · cases hnew
        · exact absurd hnew (deliver_frame _ _ _ _).2.2.2.2.2
      next op f hcp =>
        split at hr <;> simp only [Option.some.injEq] at hr <;> subst hr
        · exact ⟨rfl, op, f, .inr hcp, by assumption⟩
        · exact absurd hnew (deliver_frame _ _ _ _).2.2.2.2.2
      all_goals
        (try split at hr) <;> simp only [Option.some.injEq, reduceCtorEq] at hr <;> subst hr <;> cases hnew
    · simp [step, h0, h1] at hr

theorem apply_pop_fail (s : St) (t : Tid) (a : Act) (s' : St) (o : Obs)
    (hap : model.apply s t a = some (s', o)) (hold : s.cp ≠ .done [0]) (hnew : s'.cp = .done [0]) :
    t = 1 ∧ a = .step ∧ o = .ev (evLd "back" s.back) ∧
    ∃ op f, (s.cp = .fLdBack op f ∨ s.cp = .gLdBack op f) ∧ s.back - f < 8 := by
  rcases Model.apply_cases hap with ⟨op, rfl, hs, -⟩ | ⟨e, rfl, hs, rfl⟩ | ⟨r, rfl, hs, -⟩
  · have hf := invoke_frame s t op s' hs
    by_cases ht : t = 0
    · rw [(hf.2.2.1 ht).1] at hnew; exact absurd hnew hold
    · exact absurd hnew ((hf.2.2.2 ht).2 _)
  · obtain ⟨ht, he, hrest⟩ := step_pop_fail s t (s', e) hs hold hnew
    exact ⟨ht, rfl, congrArg Obs.ev he, hrest⟩
  · have hf := result_frame s t (s', r) hs
    by_cases ht : t = 0
    · rw [(hf.2.2.1 ht).1] at hnew; exact absurd hnew hold
    · rw [(hf.2.2.2 ht).2] at hnew; simp at hnew

/-- back(), first reload of `front_`: it gives up iff the value loaded leaves less than `real_size` free bytes
    behind the local `back`. -/
theorem step_bLdFront {s s' : St} {e : Ev} {sz : Nat} {id : Int} {b : Nat} (hpp : s.pp = .bLdFront sz id b)
    (hst : step s 0 = some (s', e)) : s'.pp = .done [0] ↔ s.front + s.cap - b < realSize sz := by
  simp only [step, hpp, if_true] at hst
  split at hst
  · next hlt =>
    obtain ⟨rfl, -⟩ := Prod.mk.inj (Option.some.inj hst)
    exact ⟨fun _ => hlt, fun _ => rfl⟩
  · next hge =>
    obtain ⟨rfl, -⟩ := Prod.mk.inj (Option.some.inj hst)
    exact ⟨fun hd => absurd hd ((place_frame _ _ _ _).2.2.2.2.2 _), fun hlt => absurd hlt hge⟩

/-- back(), reload of `front_` on the wrap path: the same test with the advanced local `back`; otherwise the
    marker is published next. -/
theorem step_wLdFront {s s' : St} {e : Ev} {sz : Nat} {id : Int} {b : Nat} (hpp : s.pp = .wLdFront sz id b)
    (hst : step s 0 = some (s', e)) :
    (s'.pp = .done [0] ↔ s.front + s.cap - b < realSize sz) ∧ (s'.pp ≠ .done [0] → s'.pp = .wStBack sz id b) := by
  simp only [step, hpp, if_true] at hst
  split at hst
  · next hlt =>
    obtain ⟨rfl, -⟩ := Prod.mk.inj (Option.some.inj hst)
    exact ⟨⟨fun _ => hlt, fun _ => rfl⟩, fun hne => absurd rfl hne⟩
  · next hge =>
    obtain ⟨rfl, -⟩ := Prod.mk.inj (Option.some.inj hst)
    exact ⟨⟨fun hd => PPC.noConfusion hd, fun hlt => absurd hlt hge⟩, fun _ => rfl⟩

/-! ### Consequences of the invariant -/

theorem in_flight_le_cap (s : St) (h : VInv s) : s.front ≤ s.back ∧ s.back - s.front ≤ s.cap := by
  have := h.pfront_le; have := h.front_le; have := h.cback_le; have := h.back_le
  omega

/-- The bytes a record needs at the producer's position: its real size, plus the unusable tail when it does
    not fit before the end of the buffer (`Void.need` of the sequential model). -/
def need (s : St) (sz : Nat) : Nat :=
  if s.cap - s.back % s.cap < realSize sz then s.cap - s.back % s.cap + realSize sz else realSize sz

theorem realSize_le_need (s : St) (sz : Nat) : realSize sz ≤ need s sz := by
  unfold need; split <;> omega

/-- `recsOf` of a region whose oldest segment is a record. -/
theorem recsOf_head {l : List Seg} {sz : Nat} {id : Int} (h : l.head? = some (.data sz id)) :
    ∃ rest, recsOf l = (sz, id) :: rest := by
  obtain ⟨l', rfl⟩ := List.head?_eq_some_iff.mp h
  exact ⟨recsOf l', rfl⟩

/-- The cell behind the live region always has room for a header word (the repaired defect: with a capacity
    that is not a multiple of 8 the tail could be shorter than the marker written into it). -/
theorem header_fits (s : St) (h : VInv s) : s.back % s.cap + 8 ≤ s.cap := by
  have h8 := mod_cap_mod8 h.cap8 s.back
  have hb := h.back8
  have hc := h.cap8
  have hlt : s.back % s.cap < s.cap := Nat.mod_lt _ h.cap_pos
  omega

end CdsVerif.Algo.VoidRing
