/-
  Linearizability of the OptimisticQueue model (property C06).

  Linearization points: the successful CAS on `m_pTail` of `enqueue`; the successful CAS on `m_pHead` of a non-empty
  `dequeue`; for an empty `dequeue` the validating load of `m_pTail` that returns the node `h` read from `m_pHead`
  before.  The last one is a hindsight linearization point: the result `[0]` becomes definitive only at the later
  re-validation `pHead == m_pHead.load()`, which can fail and restart the loop; the tentative log entry is then
  withdrawn (`Algo/QueueLin/Ghost.lean`).  `Steps.lean` shows that each linearization point is exactly the `fifo`
  transition of the operation on the abstract queue and that every other step — all of `fix_list`, every store to
  `m_pPrev` — leaves the abstract queue unchanged.
-/
import CdsVerif.Algo.Optimistic.Steps
import CdsVerif.Algo.QueueLin.Ghost
namespace CdsVerif.Algo.Optimistic
open CdsVerif.Machine CdsVerif.Spec CdsVerif.Lin CdsVerif.Algo.QueueLin

/-! ### Preservation: invocation and return -/

structure InvokeEff (s : St) (t : Tid) (op : GOp) (s' : St) (R : List Nat) : Prop where
  frame : ∀ t2, t2 ≠ t → s'.pc t2 = s.pc t2
  ops : ∀ t2, t2 ≠ t → opOf s'.val (s.pc t2) = opOf s.val (s.pc t2)
  was : s.pc t = .idle
  now : opOf s'.val (s'.pc t) = some op ∧ lpRet (s'.pc t) = none
  abs : qOf s'.val R = qOf s.val R

theorem sinvl_invoke {s s' : St} {t : Tid} {op : GOp} {R G : List Nat}
    (h : SInvL s R G) (hs : invoke s t op = some s') : SInvL s' R G ∧ InvokeEff s t op s' R := by
  obtain ⟨name, args⟩ := op
  unfold invoke at hs
  split at hs
  next v hpc hname hargs =>
    obtain rfl := Option.some.inj hs
    dsimp only at hname hargs
    subst hname hargs
    -- the value of the fresh node `s.cnt` is written; no thread owns it and it is not in the queue
    have hold : ∀ a, a < s.cnt → upd s.val s.cnt v a = s.val a := fun a ha => upd_other _ _ _ _ (Nat.ne_of_lt ha)
    exact ⟨h.alloc ⟨fun n e => by cases e; exact ⟨Nat.lt_succ_self _, h.cnt_not_mem⟩, nofun, nofun, nofun, nofun, nofun⟩
        (fun n e => by cases e; rfl),
      { frame := fun u hu => upd_other _ _ _ _ hu
        ops := fun u _ => opOf_congr (fun n e => hold n ((h.thread u).priv n e).1)
        was := hpc
        now := by simp [upd, opOf, lpRet]
        abs := List.map_congr_left fun a ha =>
          hold a (h.mem.alloc a (List.mem_append_left _
            ((List.dropLast_sublist R).subset (List.mem_reverse.mp ha)))) }⟩
  next hpc hname hargs =>
    obtain rfl := Option.some.inj hs
    dsimp only at hname hargs
    subst hname hargs
    exact ⟨h.move hpc .restart nofun,
      { frame := fun u hu => upd_other _ _ _ _ hu
        ops := fun _ _ => rfl
        was := hpc
        now := by simp [upd, opOf, lpRet]
        abs := rfl }⟩
  next => cases hs

theorem sinvl_result {s s' : St} {t : Tid} {r : GRet} {R G : List Nat}
    (h : SInvL s R G) (hs : result s t = some (s', r)) :
    SInvL s' R G ∧ s.pc t = .done r ∧ s'.pc t = .idle ∧ (∀ t2, t2 ≠ t → s'.pc t2 = s.pc t2) ∧ s'.val = s.val := by
  unfold result at hs
  split at hs
  next r' hpc =>
    obtain ⟨rfl, rfl⟩ := Prod.mk.inj (Option.some.inj hs)
    exact ⟨h.move hpc .idle nofun, hpc, upd_same _ _ _, fun u hu => upd_other _ _ _ _ hu, rfl⟩
  next => cases hs

/-! ### The instance of the generic construction -/

/-- In state `s1` thread `t` is about to perform the validating load of `m_pTail` that returns the node `h` it has
    read from `m_pHead`: `h` is both `head` and `tail`, the queue is empty. -/
def EmptyAt (s1 : St) (t : Tid) : Prop :=
  ∃ h, s1.pc t = .deqLdT2 h h ∧ s1.tail = h ∧ s1.head = h ∧ absNodes s1 = [h] ∧ absQueue s1 = []

def qsys : QSys St where
  model := model
  init := init
  Inv := SInv
  absQ := absQueue
  lpRet := fun s t => lpRet (s.pc t)
  postRet := fun s t => postRet (s.pc t)
  opOf := fun s t => opOf s.val (s.pc t)
  EmptyAt := EmptyAt

theorem opOf_none_of_post {val : Nat → Int} {pc : PC} {r : GRet} (h : postRet pc = some r) : opOf val pc = none := by
  cases pc <;> simp_all [postRet, opOf]

theorem lpRet_of_post {pc : PC} {r : GRet} (h : postRet pc = some r) : lpRet pc = some r := by
  cases pc <;> simp_all [postRet, lpRet]

theorem postRet_of_lp {pc : PC} {r : GRet} (h : lpRet pc = some r) (hr : r ≠ [0]) : postRet pc = some r := by
  cases pc <;> simp_all [postRet, lpRet] <;> (split at h <;> simp_all)

theorem SInvL.absQ {s : St} {R G : List Nat} (h : SInvL s R G) : absQueue s = qOf s.val R := h.absQueue_eq

theorem qsys_ok : qsys.OK where
  inv_init := ⟨[dummy], [], sinv_init⟩
  abs_init := by simp [qsys, absQueue, absNodes, init, segTo, dummy]
  lp_init := by intro t; simp [qsys, init, lpRet]
  op_init := by intro t; simp [qsys, init, opOf]
  post_lp := by intro s t r h; exact lpRet_of_post h
  post_op := by intro s t r h; exact opOf_none_of_post h
  lp_post := by intro s t r h hr; exact postRet_of_lp h hr
  empty_abs := by intro s t ⟨_, _, _, _, _, h⟩; exact h
  invoke := by
    intro s t op s' ⟨R, G, hl⟩ hs
    obtain ⟨hl', he⟩ := sinvl_invoke hl hs
    refine ⟨⟨R, G, hl'⟩, ⟨?_, ?_⟩, ?_, he.now.1, he.now.2, ?_⟩
    · intro t2 ht; simp only [qsys]; rw [he.frame t2 ht]
    · intro t2 ht; simp only [qsys]; rw [he.frame t2 ht, he.ops t2 ht]
    · simp [qsys, he.was, lpRet]
    · simp only [qsys]; rw [hl.absQ, hl'.absQ, he.abs]
  step := by
    intro s t s' ev ⟨R, G, hl⟩ hs
    obtain ⟨R', G', hl', he⟩ := sinvl_step hl hs
    refine ⟨⟨R', G', hl'⟩, ⟨?_, ?_⟩, ?_, ?_, he.keep, he.op, ?_⟩
    · intro t2 ht; simp only [qsys]; rw [he.frame t2 ht]
    · intro t2 ht; simp only [qsys]; rw [he.frame t2 ht, he.val]
    · simp only [qsys]; rw [hl.absQ, hl'.absQ, he.val]; exact he.lp
    · simp only [qsys]; rw [hl.absQ, hl'.absQ, he.val]; intro hc; rw [he.nolp hc]
    · intro h1 h2
      obtain ⟨h, e1, e2, e3, e4⟩ := he.emp h1 h2
      exact ⟨h, e1, e2, e3, by rw [hl.absNodes_eq, e4], by rw [hl.absQ, e4]; rfl⟩
  result := by
    intro s t s' r ⟨R, G, hl⟩ hs
    obtain ⟨hl', hdone, hidl, hframe, hval⟩ := sinvl_result hl hs
    refine ⟨⟨R, G, hl'⟩, ⟨?_, ?_⟩, ?_, ?_, ?_, ?_⟩
    · intro t2 ht; simp only [qsys]; rw [hframe t2 ht]
    · intro t2 ht; simp only [qsys]; rw [hframe t2 ht, hval]
    · simp [qsys, hdone, lpRet]
    · simp [qsys, hidl, lpRet]
    · simp [qsys, hidl, opOf]
    · simp only [qsys]; rw [hl.absQ, hl'.absQ, hval]

theorem sinv_reachable (s : St) (h : model.Reachable init s) : SInv s :=
  inv_reachable qsys_ok s h

/-! ### Main theorems (instances of `Algo/QueueLin/Ghost.lean`) -/

/-- **Linearizability of OptimisticQueue** (Herlihy–Wing, with completion of pending operations). -/
theorem optimistic_linearizable (sched : List (Tid × Act)) (s : St) (os : List (Tid × Obs))
    (h : model.run init sched = some (s, os)) :
    ∃ extra : List (OpRec GOp GRet),
      (∀ e ∈ extra, pendingOf os e.tid = some (e.op, e.inv) ∧ e.res = os.length ∧
          postRet (s.pc e.tid) = some e.ret) ∧
      extra.Pairwise (fun a b => a.tid ≠ b.tid) ∧
      Linearizable fifo (historyOf os ++ extra) :=
  linearizable qsys_ok sched s os h

theorem optimistic_linearizable_no_effect_pending (sched : List (Tid × Act)) (s : St) (os : List (Tid × Obs))
    (h : model.run init sched = some (s, os)) (hq : ∀ t, postRet (s.pc t) = none) :
    Linearizable fifo (historyOf os) :=
  linearizable_no_effect_pending qsys_ok sched s os h hq

theorem optimistic_linearizable_complete_runs (sched : List (Tid × Act)) (s : St) (os : List (Tid × Obs))
    (h : model.run init sched = some (s, os)) (hq : ∀ t, s.pc t = .idle) :
    Linearizable fifo (historyOf os) :=
  optimistic_linearizable_no_effect_pending sched s os h (fun t => by simp [hq t, postRet])

theorem optimistic_no_invention (sched : List (Tid × Act)) (s : St) (os : List (Tid × Obs))
    (h : model.run init sched = some (s, os)) (r : OpRec GOp GRet) (hr : r ∈ historyOf os)
    (hop : r.op = ⟨"deq", []⟩) (v : Int) (hret : r.ret = [1, v]) :
    ∃ i t', i < r.res ∧ os[i]? = some (t', .call ⟨"enq", [v]⟩) :=
  no_invention qsys_ok sched s os h r hr hop v hret

theorem optimistic_no_duplication (sched : List (Tid × Act)) (s : St) (os : List (Tid × Obs))
    (h : model.run init sched = some (s, os)) :
    ∃ extra : List (OpRec GOp GRet),
      (∀ e ∈ extra, pendingOf os e.tid = some (e.op, e.inv) ∧ e.res = os.length ∧
          postRet (s.pc e.tid) = some e.ret) ∧
      extra.Pairwise (fun a b => a.tid ≠ b.tid) ∧
      ∀ v, (historyOf os).countP (isDeqOf v) ≤ (historyOf os ++ extra).countP (isEnq v) :=
  no_duplication qsys_ok sched s os h

/-- **Hindsight for the empty dequeue, on runs.** -/
theorem optimistic_empty_hindsight (sched : List (Tid × Act)) (s : St) (os : List (Tid × Obs))
    (h : model.run init sched = some (s, os)) (r : OpRec GOp GRet) (hr : r ∈ historyOf os) (hret : r.ret = [0]) :
    ∃ j s1, r.inv < j ∧ j < r.res ∧ model.run init (sched.take j) = some (s1, os.take j) ∧
      EmptyAt s1 r.tid ∧ absQueue s1 = [] :=
  empty_hindsight qsys_ok sched s os h r hr hret

/-- Refinement, on `absQueue`. -/
theorem step_refines {s s' : St} {t : Tid} {ev : Ev} (h : SInv s) (hs : step s t = some (s', ev)) :
    (lpRet (s.pc t) = none → ∀ r, lpRet (s'.pc t) = some r →
      ∃ op, opOf s.val (s.pc t) = some op ∧ fifo.next (absQueue s) op r = some (absQueue s')) ∧
    ((lpRet (s.pc t) ≠ none ∨ lpRet (s'.pc t) = none) → absQueue s' = absQueue s) := by
  have := qsys_ok.step s t s' ev h hs
  exact ⟨this.lp, this.nolp⟩

/-- `fix_list` never dereferences a null pointer: no reachable state has a thread at the program point `crash`. -/
theorem no_crash (s : St) (h : model.Reachable init s) (t : Tid) : s.pc t ≠ .crash := by
  obtain ⟨sched, os, hr⟩ := h
  -- invariant: SInv ∧ nobody crashed
  have key : ∀ (sched : List (Tid × Act)) (s0 s1 : St) (os : List (Tid × Obs)),
      (SInv s0 ∧ ∀ t, s0.pc t ≠ .crash) → model.run s0 sched = some (s1, os) → (SInv s1 ∧ ∀ t, s1.pc t ≠ .crash) := by
    apply model.inv_of_inductive (fun s => SInv s ∧ ∀ t, s.pc t ≠ .crash)
    intro s0 t0 a s1 o ⟨⟨R, G, hl⟩, hnc⟩ hap
    rcases Model.apply_cases hap with ⟨op, -, hs2, -⟩ | ⟨e, -, hs2, -⟩ | ⟨r, -, hs2, -⟩
    · obtain ⟨hl', he⟩ := sinvl_invoke hl hs2
      refine ⟨⟨R, G, hl'⟩, fun t2 => ?_⟩
      by_cases ht : t2 = t0
      · subst ht; intro hc
        obtain ⟨name, args⟩ := op
        simp only [model] at hs2
        unfold invoke at hs2
        split at hs2 <;> simp at hs2
        all_goals (subst hs2; simp [upd] at hc)
      · rw [he.frame t2 ht]; exact hnc t2
    · obtain ⟨R', G', hl', he⟩ := sinvl_step hl hs2
      refine ⟨⟨R', G', hl'⟩, fun t2 => ?_⟩
      by_cases ht : t2 = t0
      · subst ht; exact he.nocrash
      · rw [he.frame t2 ht]; exact hnc t2
    · obtain ⟨hl', -, hidl, hframe, -⟩ := sinvl_result hl hs2
      refine ⟨⟨R, G, hl'⟩, fun t2 => ?_⟩
      by_cases ht : t2 = t0
      · subst ht; rw [hidl]; simp
      · rw [hframe t2 ht]; exact hnc t2
  exact (key sched init s os ⟨⟨[dummy], [], sinv_init⟩, fun t => by simp [init]⟩ hr).2 t

/-- Structure of the reachable states: following `m_pNext` from `m_pTail` one reaches `m_pHead`; the nodes on the way
    (`absNodes`: `tail` first, `head` last) are distinct. -/
theorem reachable_segment (s : St) (h : model.Reachable init s) :
    (absNodes s).Nodup ∧ (∃ r, absNodes s = s.tail :: r) ∧ (absNodes s).getLast? = some s.head ∧
    (s.tail = s.head → absQueue s = []) := by
  obtain ⟨R, G, hl⟩ := sinv_reachable s h
  rw [hl.absQ, hl.absNodes_eq]
  refine ⟨(List.nodup_append.mp hl.nodup).1, hl.tail_cons, hl.rlast, fun e => ?_⟩
  rw [hl.tail_eq_head e]; rfl

end CdsVerif.Algo.Optimistic
