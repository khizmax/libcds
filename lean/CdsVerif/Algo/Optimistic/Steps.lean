/-
  OptimisticQueue model: every atomic step preserves the structural invariant `SInvL` and has the effect `StepEff`
  on the abstract queue.  For each program point the proof names the kind of memory change (`Thread.lean`) and gives
  the thread's clauses at the new program point as an update of those at the old one.
-/
import CdsVerif.Algo.Optimistic.Thread
namespace CdsVerif.Algo.Optimistic
open CdsVerif.Machine CdsVerif.Spec CdsVerif.Lin CdsVerif.Algo.QueueLin

theorem mem_wnodes_deqPv2 {hd tl x : Nat} {p : Option Nat} : x ∈ wnodes (.deqPv2 hd tl p) ↔ x = tl ∨ p = some x := by
  cases p <;> simp [wnodes, eq_comm]

theorem wnodes_deqChk (hd tl : Nat) (p : Option Nat) : wnodes (.deqChk hd tl p) = wnodes (.deqPv2 hd tl p) := by
  cases p <;> rfl

/-- The result of a tentatively linearized dequeue is "empty". -/
theorem ret_of_tentative {c : Prop} [Decidable c] {r : GRet} (e : (if c then some [0] else none) = some r) :
    r = [0] := by
  split at e
  · exact (Option.some.inj e).symm
  · cases e

theorem qOf_cons {val : Nat → Int} {n : Nat} {R : List Nat} (hR : R ≠ []) :
    qOf val (n :: R) = qOf val R ++ [val n] := by
  cases R with
  | nil => exact absurd rfl hR
  | cons a r => simp [qOf]

theorem qOf_deq {val : Nat → Int} {R0 : List Nat} {f hd : Nat} :
    fifo.next (qOf val (R0 ++ [f, hd])) ⟨"deq", []⟩ [1, val f] = some (qOf val (R0 ++ [f])) := by
  have e1 : (R0 ++ [f, hd]).dropLast = R0 ++ [f] := by
    have : R0 ++ [f, hd] = (R0 ++ [f]) ++ [hd] := by simp
    rw [this, List.dropLast_concat]
  have e2 : (R0 ++ [f]).dropLast = R0 := List.dropLast_concat
  have e3 : (R0 ++ [f]).reverse = f :: R0.reverse := by simp
  unfold qOf
  rw [e1, e2, e3, List.map_cons]
  exact fifo_deq_some _ _

theorem sinvl_step {s s' : St} {t : Tid} {ev : Ev} {R G : List Nat}
    (h : SInvL s R G) (hs : step s t = some (s', ev)) : ∃ R' G', SInvL s' R' G' ∧ StepEff s t s' R R' := by
  have hT := h.thread t
  cases hpc : s.pc t with
    (rw [hpc] at hT
     simp only [step, hpc] at hs)
  | idle | done r | crash => cases hs
  | enqLd1 n =>
    obtain ⟨rfl, -⟩ := Prod.mk.inj (Option.some.inj hs)
    exact h.quiet_move hpc { hT with } (fun _ e => e) rfl (fun _ => rfl) nofun
  | enqLd2 n p =>
    split at hs
    all_goals
      obtain ⟨rfl, -⟩ := Prod.mk.inj (Option.some.inj hs)
      exact h.quiet_move hpc { hT with } (fun _ e => e) rfl (fun _ => rfl) nofun
  | enqSetNext n a =>
    obtain ⟨rfl, -⟩ := Prod.mk.inj (Option.some.inj hs)
    exact ⟨R, G,
      h.set_next hpc rfl { hT with link := fun b v e => by cases e; exact upd_same _ _ _ } (fun _ e => e),
      .quiet hpc rfl rfl rfl rfl (fun _ => rfl) nofun⟩
  | enqCas n a =>
    have hnn : s.next n = some a := hT.link n (some a) rfl
    split at hs
    next heq =>
      obtain ⟨rfl, -⟩ := Prod.mk.inj (Option.some.inj hs)
      obtain ⟨r0, hr0⟩ := h.tail_cons
      have hlp : fifo.next (qOf s.val R) ⟨"enq", [s.val n]⟩ [1] = some (qOf s.val (n :: R)) := by
        rw [qOf_cons (by rw [hr0]; nofun)]; exact fifo_enq _ _
      exact ⟨n :: R, G,
        h.enqueue hpc rfl (heq ▸ hnn)
          ⟨nofun, nofun, nofun, fun x e => List.mem_singleton.mp e ▸ List.mem_cons_self, nofun, nofun⟩ rfl,
        .linearize hpc rfl rfl rfl rfl rfl rfl hlp nofun (fun e => by simp at e) nofun⟩
    next hne =>
      obtain ⟨rfl, -⟩ := Prod.mk.inj (Option.some.inj hs)
      exact h.quiet_move hpc { hT with link := nofun } (fun _ e => e) rfl (fun _ => rfl) nofun
  | enqSetPrev n a =>
    obtain ⟨rfl, -⟩ := Prod.mk.inj (Option.some.inj hs)
    exact ⟨R, G, h.set_prev hpc (hT.inw n (List.mem_singleton.mpr rfl)) (.done _) nofun,
      .quiet hpc rfl rfl rfl rfl nofun nofun⟩
  | deqLdH1 =>
    obtain ⟨rfl, -⟩ := Prod.mk.inj (Option.some.inj hs)
    exact h.quiet_move hpc { hT with } (fun _ e => e) rfl (fun _ => rfl) nofun
  | deqLdH2 p =>
    split at hs
    next heq =>
      obtain ⟨rfl, -⟩ := Prod.mk.inj (Option.some.inj hs)
      have hpR : p ∈ R := heq ▸ h.head_mem
      exact h.quiet_move hpc
        { hT with deqh := fun x e => by cases e; exact ⟨List.mem_append_left _ hpR, fun _ => heq⟩ }
        (fun _ e => e) rfl (fun _ => rfl) nofun
    next hne =>
      obtain ⟨rfl, -⟩ := Prod.mk.inj (Option.some.inj hs)
      exact h.quiet_move hpc { hT with } (fun _ e => e) rfl (fun _ => rfl) nofun
  | deqLdT1 hd =>
    obtain ⟨rfl, -⟩ := Prod.mk.inj (Option.some.inj hs)
    exact h.quiet_move hpc { hT with } (fun _ e => e) rfl (fun _ => rfl) nofun
  | deqLdT2 hd p =>
    split at hs
    next heq =>
      obtain ⟨rfl, -⟩ := Prod.mk.inj (Option.some.inj hs)
      obtain ⟨r0, hr0⟩ := h.tail_cons
      have hpR : p ∈ R := by rw [hr0, heq]; exact List.mem_cons_self
      have hT' : TInv s.mem R G (.deqPv1 hd p) :=
        { hT with
          inw := fun x e => List.mem_singleton.mp e ▸ List.mem_append_left _ hpR
          seg := fun x y e _ => by cases e; exact hpR }
      by_cases hph : p = hd
      · -- the tail is the node read from `head`: it is still `head`, the queue is empty
        subst hph
        have hhd : s.head = p := (hT.deqh p rfl).2 hpR
        have hR : R = [p] := by rw [← hhd]; exact h.tail_eq_head (heq.trans hhd.symm)
        exact ⟨R, G, h.move hpc hT' nofun,
          .linearize hpc rfl rfl rfl rfl (if_pos rfl) rfl (hR ▸ fifo_deq_none) (fun _ => rfl)
            (fun _ => ⟨p, rfl, heq, hhd, hR⟩) nofun⟩
      · exact h.quiet_move hpc hT' nofun (if_neg hph) (fun _ => rfl) nofun
    next hne =>
      obtain ⟨rfl, -⟩ := Prod.mk.inj (Option.some.inj hs)
      exact h.quiet_move hpc { hT with } nofun rfl (fun _ => rfl) nofun
  | deqPv1 hd tl =>
    obtain ⟨rfl, -⟩ := Prod.mk.inj (Option.some.inj hs)
    exact h.quiet_move hpc
      { hT with
        inw := fun x e => (mem_wnodes_deqPv2.mp e).elim
          (fun ex => ex ▸ hT.inw tl (List.mem_singleton.mpr rfl)) (h.mem.prevw hd x) }
      nofun rfl (fun _ => rfl) nofun
  | deqPv2 hd tl p =>
    split at hs
    · obtain ⟨rfl, -⟩ := Prod.mk.inj (Option.some.inj hs)
      exact h.quiet_move hpc { hT with inw := fun x e => hT.inw x (wnodes_deqChk hd tl p ▸ e) }
        nofun rfl (fun _ => rfl) nofun
    · obtain ⟨rfl, -⟩ := Prod.mk.inj (Option.some.inj hs)
      exact h.quiet_move hpc
        { hT with inw := fun x e => hT.inw x (mem_wnodes_deqPv2.mpr (Or.inl (List.mem_singleton.mp e))) }
        nofun rfl (fun _ => rfl) nofun
  | deqChk hd tl fp =>
    split at hs
    next heq =>
      split at hs
      next hba =>
        -- the tentative result "empty" becomes definitive
        obtain ⟨rfl, -⟩ := Prod.mk.inj (Option.some.inj hs)
        exact ⟨R, G, h.move hpc (.done _) nofun,
          .stay hpc rfl rfl rfl (fun r e => (if_pos hba).trans e) (fun r e => Or.inl ((if_pos hba).symm.trans e))
            nofun nofun⟩
      next hba =>
        split at hs
        next =>
          obtain ⟨rfl, -⟩ := Prod.mk.inj (Option.some.inj hs)
          exact h.quiet_move hpc { hT with fixne := fun x y e => by cases e; exact hba }
            nofun (if_neg hba).symm (fun _ => rfl) nofun
        next f =>
          obtain ⟨rfl, -⟩ := Prod.mk.inj (Option.some.inj hs)
          exact h.quiet_move hpc { hT with fixne := fun x y e => by cases e; exact hba }
            nofun (if_neg hba).symm (fun _ => rfl) nofun
    next hne =>
      -- a tentative result "empty" is withdrawn
      obtain ⟨rfl, -⟩ := Prod.mk.inj (Option.some.inj hs)
      exact ⟨R, G, h.move hpc .restart nofun,
        .stay hpc rfl rfl rfl nofun (fun r e => Or.inr ⟨ret_of_tentative e, rfl⟩) (fun _ => rfl) nofun⟩
  | deqFpNext hd tl f =>
    split at hs
    next hnx =>
      obtain ⟨rfl, -⟩ := Prod.mk.inj (Option.some.inj hs)
      exact h.quiet_move hpc
        { hT with
          link := fun x v e => by cases e; exact hnx
          inw := fun x e => hT.inw x (List.mem_cons_of_mem _ e)
          seg := nofun
          fixne := nofun }
        nofun rfl (fun _ => rfl) nofun
    next hnx =>
      obtain ⟨rfl, -⟩ := Prod.mk.inj (Option.some.inj hs)
      exact h.quiet_move hpc
        { hT with inw := fun x e => hT.inw x (List.mem_singleton.mp e ▸ List.mem_cons_self) }
        nofun rfl (fun _ => rfl) nofun
  | deqCas hd f =>
    have hfn : s.next f = some hd := hT.link f (some hd) rfl
    have hfW : f ∈ R ++ G := hT.inw f (List.mem_singleton.mpr rfl)
    split at hs
    next heq =>
      obtain ⟨rfl, -⟩ := Prod.mk.inj (Option.some.inj hs)
      -- `f`, whose `next` is `head`, is the second-to-last node of `R`
      obtain ⟨R0, hR0⟩ := h.first_node hfW (heq ▸ hfn)
      exact ⟨R0 ++ [f], s.head :: G, h.dequeue hpc hR0 (.done _) nofun,
        .linearize hpc rfl rfl rfl rfl rfl rfl (hR0 ▸ qOf_deq) nofun (fun e => by simp at e) nofun⟩
    next hne =>
      obtain ⟨rfl, -⟩ := Prod.mk.inj (Option.some.inj hs)
      exact h.quiet_move hpc .restart nofun rfl (fun _ => rfl) nofun
  | fixNx1 hd c =>
    obtain ⟨rfl, -⟩ := Prod.mk.inj (Option.some.inj hs)
    exact h.quiet_move hpc { hT with } nofun rfl (fun _ => rfl) nofun
  | fixNx2 hd c v =>
    split at hs
    next heq =>
      obtain ⟨rfl, -⟩ := Prod.mk.inj (Option.some.inj hs)
      exact h.quiet_move hpc { hT with link := fun x w e => by cases e; exact heq } nofun rfl (fun _ => rfl) nofun
    next hne =>
      obtain ⟨rfl, -⟩ := Prod.mk.inj (Option.some.inj hs)
      exact h.quiet_move hpc { hT with } nofun rfl (fun _ => rfl) nofun
  | fixChk hd c v =>
    have hcv : s.next c = v := hT.link c v rfl
    have hcW : c ∈ R ++ G := hT.inw c (List.mem_singleton.mpr rfl)
    split at hs
    next heq =>
      split at hs
      next nx =>
        obtain ⟨rfl, -⟩ := Prod.mk.inj (Option.some.inj hs)
        exact h.quiet_move hpc
          { hT with
            inw := fun x e => (List.mem_cons.mp e).elim (fun ex => ex ▸ hcW)
              (fun ex => List.mem_singleton.mp ex ▸ h.next_mem hcW hcv) }
          nofun rfl (fun _ => rfl) nofun
      next =>
        -- impossible: `c` is in the queue and is not `head`, so its `next` is not null
        exfalso
        obtain ⟨x, hx, -⟩ := seg_succ h.chain h.rlast (hT.seg hd c rfl heq) (heq ▸ hT.fixne hd c rfl)
        cases hx.symm.trans hcv
    next hne =>
      obtain ⟨rfl, -⟩ := Prod.mk.inj (Option.some.inj hs)
      exact h.quiet_move hpc .restart nofun rfl (fun _ => rfl) nofun
  | fixSt hd c nx =>
    have hcv : s.next c = some nx := hT.link c (some nx) rfl
    have hcW : c ∈ R ++ G := hT.inw c List.mem_cons_self
    have hnxW : nx ∈ R ++ G := h.next_mem hcW hcv
    -- while `hd` is `head`, the successor of the queue node `c ≠ hd` is in the queue
    have hnxR : s.head = hd → nx ∈ R := fun heq => by
      obtain ⟨x, hx, hxR⟩ := seg_succ h.chain h.rlast (hT.seg hd c rfl heq) (heq ▸ hT.fixne hd c rfl)
      cases hx.symm.trans hcv
      exact hxR
    by_cases hnx : nx = hd
    · rw [if_pos hnx] at hs
      obtain ⟨rfl, -⟩ := Prod.mk.inj (Option.some.inj hs)
      exact ⟨R, G, h.set_prev hpc hcW .restart nofun, .quiet hpc rfl rfl rfl rfl (fun _ => rfl) nofun⟩
    · rw [if_neg hnx] at hs
      obtain ⟨rfl, -⟩ := Prod.mk.inj (Option.some.inj hs)
      exact ⟨R, G,
        h.set_prev hpc hcW
          { hT with
            link := nofun
            inw := fun x e => List.mem_singleton.mp e ▸ hnxW
            seg := fun x y e heq => by cases e; exact hnxR heq
            fixne := fun x y e => by cases e; exact hnx }
          nofun,
        .quiet hpc rfl rfl rfl rfl (fun _ => rfl) nofun⟩

end CdsVerif.Algo.Optimistic
