/-
  Structural invariant of the OptimisticQueue model and the refinement of the abstract queue.

  * `Chain s.next (some s.tail) (R ++ G)` : following `m_pNext` from `m_pTail` visits first the nodes `R` — the queue:
    `R` starts with `tail` and ENDS with `head` (the current dummy) — then the nodes `G` that have already been
    dequeued (old dummies), and then null.  The list is duplicate-free and consists of published nodes.
  * `absQueue s` : the values of the nodes of `R` without `head`, in reverse (oldest first).
  * The `m_pPrev` links are only HINTS: the invariant says nothing about them except that they point to published
    nodes (`prevw`).  Safety never relies on them: a dequeuer swings `head` from `h` to `f = h->m_pPrev` only after
    it has seen `f->m_pNext == h` itself (`link`, at `deqCas`), and there is exactly one published node whose `m_pNext` is `h`.
  * Linearization points.  `enqueue`: the successful CAS on `m_pTail`.  Non-empty `dequeue`: the successful CAS on
    `m_pHead`.  Empty `dequeue`: the validating load of `m_pTail` that returns the node `h` read from `m_pHead`
    before — at that instant `h` is still `head` (`tail` is never an old dummy), so the queue is empty; the result
    becomes definitive only at the later re-validation `pHead == m_pHead.load()`, which may fail: `lpRet`
    distinguishes the TENTATIVE linearization (program points `deqPv1`, `deqPv2`, `deqChk` with `t = h`) from the
    definitive one (`postRet`), as for the Michael–Scott queue.
-/
import CdsVerif.Algo.Optimistic.Model
import CdsVerif.Algo.QueueLin.Chain
import CdsVerif.Algo.QueueLin.History
namespace CdsVerif.Algo.Optimistic
open CdsVerif.Machine CdsVerif.Spec CdsVerif.Lin CdsVerif.Algo.QueueLin

/-! ### The segment of the `next` chain from `tail` to `head` -/

/-- Follow `nx` from `a` up to and including `stop` (fuel: number of nodes). -/
def segTo (nx : Nat → Option Nat) (stop : Nat) : Nat → Nat → List Nat
  | 0, a => [a]
  | f + 1, a => if a = stop then [a] else match nx a with
    | some b => a :: segTo nx stop f b
    | none => [a]

theorem segTo_eq {nx : Nat → Option Nat} {stop : Nat} : ∀ (R G : List Nat) (a fuel : Nat),
    Chain nx (some a) (R ++ G) → R.getLast? = some stop → stop ∉ R.dropLast → R.length ≤ fuel + 1 →
    segTo nx stop fuel a = R
  | [], _, _, _, _, h, _, _ => by simp at h
  | [x], G, a, fuel, hc, hl, _, _ => by
    simp only [List.cons_append, List.nil_append, Chain, Option.some.injEq] at hc
    simp at hl
    obtain ⟨rfl, -⟩ := hc
    subst hl
    cases fuel <;> simp [segTo]
  | x :: y :: r, G, a, fuel, hc, hl, hn, hf => by
    simp only [List.cons_append, Chain, Option.some.injEq] at hc
    obtain ⟨rfl, hxy, hc2⟩ := hc
    have hne : a ≠ stop := by
      intro e; apply hn; simp [List.dropLast, e]
    cases fuel with
    | zero => simp at hf
    | succ f =>
      simp only [segTo, hne, if_false, hxy]
      have := segTo_eq (y :: r) G y f (by simp only [List.cons_append, Chain]; exact ⟨trivial, hc2⟩)
        (by simpa [List.getLast?_cons_cons] using hl)
        (by intro hm; apply hn; simp only [List.dropLast_cons_cons]; exact List.mem_cons_of_mem _ hm)
        (by simp at hf ⊢; omega)
      rw [this]

/-- The nodes of the queue: `tail` first, `head` (the current dummy) last. -/
def absNodes (s : St) : List Nat := segTo s.next s.head s.cnt s.tail
/-- The abstract queue: the values of the nodes between `head` (excluded) and `tail` (included), oldest first. -/
def absQueue (s : St) : List Int := (absNodes s).dropLast.reverse.map s.val

/-! ### The structural invariant -/

/-- The node an enqueuer still owns privately (before its successful CAS on `m_pTail`). -/
def enqNode : PC → Option Nat
  | .enqLd1 n => some n
  | .enqLd2 n _ => some n
  | .enqSetNext n _ => some n
  | .enqCas n _ => some n
  | _ => none

/-- The head candidate `h` held by a dequeuer. -/
def deqH : PC → Option Nat
  | .deqLdT1 h => some h
  | .deqLdT2 h _ => some h
  | .deqPv1 h _ => some h
  | .deqPv2 h _ _ => some h
  | .deqChk h _ _ => some h
  | .deqFpNext h _ _ => some h
  | .deqCas h _ => some h
  | .fixNx1 h _ => some h
  | .fixNx2 h _ _ => some h
  | .fixChk h _ _ => some h
  | .fixSt h _ _ => some h
  | _ => none

/-- Node values held by a thread that it will dereference or store: they are published nodes. -/
def wnodes : PC → List Nat
  | .enqSetPrev n _ => [n]
  | .deqPv1 _ a => [a]
  | .deqPv2 _ a none => [a]
  | .deqPv2 _ a (some f) => [a, f]
  | .deqChk _ a none => [a]
  | .deqChk _ a (some f) => [a, f]
  | .deqFpNext _ a f => [a, f]
  | .deqCas _ f => [f]
  | .fixNx1 _ c => [c]
  | .fixNx2 _ c _ => [c]
  | .fixChk _ c _ => [c]
  | .fixSt _ c nx => [c, nx]
  | _ => []

/-- A link `a.next = v` that the thread has observed (or written into its own node) and relies on. -/
def linkOf : PC → Option (Nat × Option Nat)
  | .enqCas n a => some (n, some a)
  | .deqCas h f => some (f, some h)
  | .fixChk _ c v => some (c, v)
  | .fixSt _ c nx => some (c, some nx)
  | _ => none

/-- `(h, x)`: while `h` is still `head`, the node `x` (read from `m_pTail` after `h` was read from `m_pHead`, or reached
    by `fix_list` from there) is in the queue. -/
def segNode : PC → Option (Nat × Nat)
  | .deqPv1 h a => some (h, a)
  | .deqPv2 h a _ => some (h, a)
  | .deqChk h a _ => some (h, a)
  | .deqFpNext h a _ => some (h, a)
  | .fixNx1 h c => some (h, c)
  | .fixNx2 h c _ => some (h, c)
  | .fixChk h c _ => some (h, c)
  | .fixSt h c _ => some (h, c)
  | _ => none

/-- `(h, c)`: a node `c` that the thread knows to differ from `h` (the current node of `fix_list`: the loop
    condition; the tail value after the test `pTail != pHead`). -/
def fixCur : PC → Option (Nat × Nat)
  | .deqFpNext h a _ => some (h, a)
  | .fixNx1 h c => some (h, c)
  | .fixNx2 h c _ => some (h, c)
  | .fixChk h c _ => some (h, c)
  | .fixSt h c _ => some (h, c)
  | _ => none

/-! ### The structural invariant, thread by thread

  The invariant has clauses about the shared memory alone (`MInv`), about the memory and the program counter of ONE
  thread (`TInv`), and about the program counters of TWO threads (`Excl`).  The program counter enters `TInv` through
  the classifying functions above only, so that the clauses of two program counters with the same classification are
  the same propositions up to computation. -/

/-- The shared memory of a state: everything but the program counters. -/
structure Mem where
  head : Nat
  tail : Nat
  next : Nat → Option Nat
  prev : Nat → Option Nat
  val : Nat → Int
  cnt : Nat

def St.mem (s : St) : Mem := ⟨s.head, s.tail, s.next, s.prev, s.val, s.cnt⟩

structure MInv (m : Mem) (R G : List Nat) : Prop where
  chain : Chain m.next (some m.tail) (R ++ G)
  nodup : (R ++ G).Nodup
  rlast : R.getLast? = some m.head
  alloc : ∀ a, a ∈ R ++ G → a < m.cnt
  prevw : ∀ a x, m.prev a = some x → x ∈ R ++ G

/-- What the invariant says about a thread at program counter `pc`.  It reads `head`, `next` and `cnt` only. -/
structure TInv (m : Mem) (R G : List Nat) (pc : PC) : Prop where
  priv : ∀ n, enqNode pc = some n → n < m.cnt ∧ n ∉ R ++ G
  link : ∀ a v, linkOf pc = some (a, v) → m.next a = v
  deqh : ∀ h, deqH pc = some h → h ∈ R ++ G ∧ (h ∈ R → m.head = h)
  inw : ∀ a, a ∈ wnodes pc → a ∈ R ++ G
  seg : ∀ h x, segNode pc = some (h, x) → m.head = h → x ∈ R
  fixne : ∀ h c, fixCur pc = some (h, c) → c ≠ h

/-- Two threads at `p` and `q` do not own the same private node. -/
def Excl (p q : PC) : Prop := ∀ n, enqNode p = some n → enqNode q ≠ some n

structure SInvL (s : St) (R G : List Nat) : Prop where
  mem : MInv s.mem R G
  thread : ∀ t, TInv s.mem R G (s.pc t)
  excl : ∀ t u, t ≠ u → Excl (s.pc t) (s.pc u)

def SInv (s : St) : Prop := ∃ R G, SInvL s R G

theorem SInvL.chain {s : St} {R G : List Nat} (h : SInvL s R G) : Chain s.next (some s.tail) (R ++ G) := h.mem.chain
theorem SInvL.nodup {s : St} {R G : List Nat} (h : SInvL s R G) : (R ++ G).Nodup := h.mem.nodup
theorem SInvL.rlast {s : St} {R G : List Nat} (h : SInvL s R G) : R.getLast? = some s.head := h.mem.rlast

/-- `R` is not empty and starts with `tail`. -/
theorem SInvL.tail_cons {s : St} {R G : List Nat} (h : SInvL s R G) : ∃ r, R = s.tail :: r := by
  have hc := h.chain
  have hl := h.rlast
  cases R with
  | nil => simp at hl
  | cons a r => simp only [List.cons_append, Chain, Option.some.injEq] at hc; exact ⟨r, by rw [hc.1]⟩

theorem getLast?_mem {l : List Nat} {a : Nat} (h : l.getLast? = some a) : a ∈ l :=
  List.mem_of_getLast? h

theorem SInvL.head_mem {s : St} {R G : List Nat} (h : SInvL s R G) : s.head ∈ R := getLast?_mem h.rlast

theorem SInvL.absNodes_eq {s : St} {R G : List Nat} (h : SInvL s R G) : absNodes s = R := by
  have hlen : (R ++ G).length ≤ s.cnt :=
    length_le_of_nodup_lt h.nodup h.mem.alloc
  have hnd : R.Nodup := (List.nodup_append.mp h.nodup).1
  apply segTo_eq R G _ _ h.chain h.rlast
  · intro hm
    obtain ⟨R0, rfl⟩ : ∃ R0, R = R0 ++ [s.head] := by
      have := h.rlast
      rcases List.eq_nil_or_concat R with e | ⟨R0, b, e⟩
      · simp [e] at this
      · subst e; simp at this; subst this; exact ⟨R0, by simp⟩
    simp at hm
    have := List.nodup_append.mp hnd
    exact this.2.2 _ hm _ (by simp) rfl
  · simp at hlen; omega

theorem SInvL.absQueue_eq {s : St} {R G : List Nat} (h : SInvL s R G) :
    absQueue s = R.dropLast.reverse.map s.val := by
  simp [absQueue, h.absNodes_eq]

theorem TInv.idle {m : Mem} {R G : List Nat} : TInv m R G .idle :=
  ⟨nofun, nofun, nofun, nofun, nofun, nofun⟩

theorem sinv_init : SInvL init [dummy] [] where
  mem := ⟨⟨rfl, rfl⟩, List.pairwise_singleton _ _, rfl, fun _ ha => List.mem_singleton.mp ha ▸ Nat.zero_lt_one, nofun⟩
  thread := fun _ => .idle
  excl := fun _ _ _ => nofun

/-! ### List facts -/

/-- In a chain, the node after `f` is `f`'s `next`. -/
theorem Chain.after {nx : Nat → Option Nat} {f h : Nat} : ∀ {p : Option Nat} {X Y : List Nat},
    Chain nx p (X ++ f :: Y) → nx f = some h → ∃ Y', Y = h :: Y'
  | _, [], Y, hc, hf => by
    simp only [List.nil_append, Chain] at hc
    rw [hf] at hc
    cases Y with
    | nil => simp [Chain] at hc
    | cons y Y' => simp only [Chain, Option.some.injEq] at hc; exact ⟨Y', by rw [hc.2.1]⟩
  | _, x :: X, Y, hc, hf => by
    simp only [List.cons_append, Chain] at hc
    exact Chain.after hc.2 hf

theorem append_cons_unique {h : Nat} : ∀ {X1 X2 Y1 Y2 : List Nat}, h ∉ X1 → h ∉ X2 →
    X1 ++ h :: Y1 = X2 ++ h :: Y2 → X1 = X2 ∧ Y1 = Y2
  | [], [], _, _, _, _, e => by simpa using e
  | [], x :: X2, _, _, _, h2, e => by simp at e; exact absurd (by simp [e.1]) h2
  | x :: X1, [], _, _, h1, _, e => by simp at e; exact absurd (by simp [e.1]) h1
  | x :: X1, y :: X2, Y1, Y2, h1, h2, e => by
    simp only [List.cons_append, List.cons.injEq] at e
    obtain ⟨rfl, e2⟩ := e
    have := append_cons_unique (fun hm => h1 (List.mem_cons_of_mem _ hm)) (fun hm => h2 (List.mem_cons_of_mem _ hm)) e2
    exact ⟨by rw [this.1], this.2⟩

/-- The unique published node whose `next` is `head` is the second-to-last node of `R`. -/
theorem SInvL.first_node {s : St} {R G : List Nat} {f : Nat} (h : SInvL s R G)
    (hf : f ∈ R ++ G) (hn : s.next f = some s.head) : ∃ R0, R = R0 ++ [f, s.head] := by
  obtain ⟨X, Y, hXY⟩ := List.append_of_mem hf
  have hc := h.chain
  rw [hXY] at hc
  obtain ⟨Y', rfl⟩ := Chain.after hc hn
  obtain ⟨R0, hR0⟩ : ∃ R0, R = R0 ++ [s.head] := by
    have := h.rlast
    rcases List.eq_nil_or_concat R with e | ⟨R0, b, e⟩
    · simp [e] at this
    · subst e; simp at this; subst this; exact ⟨R0, by simp⟩
  have hnd := h.nodup
  have e1 : R0 ++ s.head :: G = (X ++ [f]) ++ s.head :: Y' := by
    rw [hR0] at hXY; simpa using hXY
  have hnd1 : (R0 ++ s.head :: G).Nodup := by rw [hR0] at hnd; simpa using hnd
  have hn1 : s.head ∉ R0 := by
    intro hm
    have := (List.nodup_append.mp hnd1).2.2 _ hm s.head (by simp)
    exact this rfl
  have hn2 : s.head ∉ X ++ [f] := by
    intro hm
    rw [e1] at hnd1
    have := (List.nodup_append.mp hnd1).2.2 _ hm s.head (by simp)
    exact this rfl
  obtain ⟨e2, -⟩ := append_cons_unique hn1 hn2 e1
  exact ⟨X, by rw [hR0, e2]; simp⟩

/-- `tail = head` means that the queue is empty. -/
theorem SInvL.tail_eq_head {s : St} {R G : List Nat} (h : SInvL s R G) (e : s.tail = s.head) : R = [s.head] := by
  obtain ⟨r, hr⟩ := h.tail_cons
  have hl := h.rlast
  have hnd : R.Nodup := (List.nodup_append.mp h.nodup).1
  rw [hr] at hl hnd
  cases r with
  | nil => rw [hr, e]
  | cons y r' =>
    exfalso
    rw [List.getLast?_cons_cons] at hl
    have hm := getLast?_mem hl
    rw [← e] at hm
    exact (List.nodup_cons.mp hnd).1 hm

/-- The successor of a chain node is on the chain. -/
theorem SInvL.next_mem {s : St} {R G : List Nat} {c x : Nat} (h : SInvL s R G)
    (hc : c ∈ R ++ G) (hx : s.next c = some x) : x ∈ R ++ G :=
  List.mem_of_mem_tail (Chain.succ_mem h.chain hc hx)

/-- A node of the segment other than its last node has its successor in the segment. -/
theorem seg_succ {nx : Nat → Option Nat} {hd c : Nat} : ∀ {p : Option Nat} {R G : List Nat},
    Chain nx p (R ++ G) → R.getLast? = some hd → c ∈ R → c ≠ hd → ∃ x, nx c = some x ∧ x ∈ R
  | _, [], _, _, _, hc, _ => by simp at hc
  | _, [a], _, _, hl, hc, hne => by simp at hl hc; exact absurd (hc.trans hl) hne
  | _, a :: b :: r, G, hch, hl, hc, hne => by
    simp only [List.cons_append, Chain] at hch
    obtain ⟨-, hab, hch2⟩ := hch
    by_cases e : c = a
    · subst e; exact ⟨b, hab, by simp⟩
    · have hc2 : c ∈ b :: r := by simpa [e] using hc
      have hch3 : Chain nx (some b) ((b :: r) ++ G) := by
        simp only [List.cons_append, Chain]; exact ⟨trivial, hch2⟩
      obtain ⟨x, h1, h2⟩ := seg_succ hch3 (by simpa [List.getLast?_cons_cons] using hl) hc2 hne
      exact ⟨x, h1, List.mem_cons_of_mem _ h2⟩

/-! ### Linearization-point bookkeeping on program counters -/

def postRet : PC → Option GRet
  | .enqSetPrev _ _ => some [1]
  | .done r => some r
  | _ => none

def lpRet : PC → Option GRet
  | .enqSetPrev _ _ => some [1]
  | .deqPv1 h a => if a = h then some [0] else none
  | .deqPv2 h a _ => if a = h then some [0] else none
  | .deqChk h a _ => if a = h then some [0] else none
  | .done r => some r
  | _ => none

def opOf (val : Nat → Int) : PC → Option GOp
  | .enqLd1 n => some ⟨"enq", [val n]⟩
  | .enqLd2 n _ => some ⟨"enq", [val n]⟩
  | .enqSetNext n _ => some ⟨"enq", [val n]⟩
  | .enqCas n _ => some ⟨"enq", [val n]⟩
  | .deqLdH1 => some ⟨"deq", []⟩
  | .deqLdH2 _ => some ⟨"deq", []⟩
  | .deqLdT1 _ => some ⟨"deq", []⟩
  | .deqLdT2 _ _ => some ⟨"deq", []⟩
  | .deqPv1 _ _ => some ⟨"deq", []⟩
  | .deqPv2 _ _ _ => some ⟨"deq", []⟩
  | .deqChk _ _ _ => some ⟨"deq", []⟩
  | .deqFpNext _ _ _ => some ⟨"deq", []⟩
  | .deqCas _ _ => some ⟨"deq", []⟩
  | .fixNx1 _ _ => some ⟨"deq", []⟩
  | .fixNx2 _ _ _ => some ⟨"deq", []⟩
  | .fixChk _ _ _ => some ⟨"deq", []⟩
  | .fixSt _ _ _ => some ⟨"deq", []⟩
  | .crash => some ⟨"deq", []⟩
  | _ => none

/-- The abstract queue of a segment `R` (tail first, head last). -/
def qOf (val : Nat → Int) (R : List Nat) : List Int := R.dropLast.reverse.map val

structure StepEff (s : St) (t : Tid) (s' : St) (R R' : List Nat) : Prop where
  frame : ∀ t2, t2 ≠ t → s'.pc t2 = s.pc t2
  val : s'.val = s.val
  cnt : s'.cnt = s.cnt
  lp : lpRet (s.pc t) = none → ∀ r, lpRet (s'.pc t) = some r →
        ∃ op, opOf s.val (s.pc t) = some op ∧ fifo.next (qOf s.val R) op r = some (qOf s.val R')
  nolp : (lpRet (s.pc t) ≠ none ∨ lpRet (s'.pc t) = none) → R' = R
  keep : ∀ r, lpRet (s.pc t) = some r → lpRet (s'.pc t) = some r ∨ (r = [0] ∧ lpRet (s'.pc t) = none)
  op : postRet (s'.pc t) = none → opOf s'.val (s'.pc t) = opOf s.val (s.pc t)
  emp : lpRet (s.pc t) = none → lpRet (s'.pc t) = some [0] →
        ∃ h, s.pc t = .deqLdT2 h h ∧ s.tail = h ∧ s.head = h ∧ R = [h]
  nocrash : s'.pc t ≠ .crash

end CdsVerif.Algo.Optimistic
