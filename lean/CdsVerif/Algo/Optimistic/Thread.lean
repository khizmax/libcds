/-
  Preservation of the OptimisticQueue invariant, by kind of step.

  A step of thread `t` rewrites `s.pc t` only, so after it
    * the other threads' `TInv` has to survive the change of the memory (nothing to prove if the memory is unchanged),
    * `TInv` has to be established for the new program counter of `t`,
    * `Excl` is inherited if the new program counter owns no node the old one did not.
  `SInvL.frame` is this rule.  The steps change the memory in five ways only, and for each there is one corollary:
  `SInvL.move` (no change), `SInvL.set_next` (store into a private node), `SInvL.set_prev` (store of a hint),
  `SInvL.enqueue` (the CAS on `m_pTail`), `SInvL.dequeue` (the CAS on `m_pHead`); `SInvL.alloc` is for `invoke`.
-/
import CdsVerif.Algo.Optimistic.Inv
namespace CdsVerif.Algo.Optimistic
open CdsVerif.Machine CdsVerif.Spec CdsVerif.Lin CdsVerif.Algo.QueueLin

theorem Excl.symm {p q : PC} (h : Excl p q) : Excl q p := fun n hq hp => h n hp hq

/-- Exclusion is inherited by a program counter that owns no more. -/
theorem Excl.mono {p p' q : PC} (h : Excl p q) (hown : ∀ n, enqNode p' = some n → enqNode p = some n) : Excl p' q :=
  fun n e => h n (hown n e)

/-- The rule for one step of thread `t` to the program counter `q`. -/
theorem SInvL.frame {s s' : St} {R G R' G' : List Nat} {t : Tid} {q : PC} (h : SInvL s R G)
    (hpc : s'.pc = upd s.pc t q)
    (hM : MInv s'.mem R' G')
    (hT : TInv s'.mem R' G' q)
    (hO : ∀ u, u ≠ t → TInv s'.mem R' G' (s.pc u))
    (hE : ∀ u, u ≠ t → Excl q (s.pc u)) : SInvL s' R' G' :=
  ⟨hM, hpc ▸ forall_upd hT hO, fun _ _ huv => hpc ▸ pairs_upd @Excl.symm h.excl hE huv⟩

/-- Exclusion of the other threads against a new program counter of `t` that owns no more than the old one. -/
theorem SInvL.excl_of_own {s : St} {R G : List Nat} {t : Tid} {p q : PC} (h : SInvL s R G) (hpc : s.pc t = p)
    (hown : ∀ n, enqNode q = some n → enqNode p = some n) (u : Tid) (hu : u ≠ t) : Excl q (s.pc u) :=
  (h.excl _ _ (Ne.symm hu)).mono (hpc ▸ hown)

/-- A step that only moves the program counter of `t` from `p` to a `q` that owns no more. -/
theorem SInvL.move {s : St} {R G : List Nat} {t : Tid} {p q : PC} (h : SInvL s R G) (hpc : s.pc t = p)
    (hT : TInv s.mem R G q) (hown : ∀ n, enqNode q = some n → enqNode p = some n) :
    SInvL { s with pc := upd s.pc t q } R G :=
  h.frame (s' := { s with pc := upd s.pc t q }) rfl h.mem hT (fun u _ => h.thread u) (h.excl_of_own hpc hown)

/-- A dequeuer about to start over holds nothing. -/
theorem TInv.restart {m : Mem} {R G : List Nat} : TInv m R G .deqLdH1 :=
  ⟨nofun, nofun, nofun, nofun, nofun, nofun⟩

theorem TInv.done {m : Mem} {R G : List Nat} (r : GRet) : TInv m R G (.done r) :=
  ⟨nofun, nofun, nofun, nofun, nofun, nofun⟩

/-! ### Allocation -/

theorem TInv.alloc {m : Mem} {R G : List Nat} {q : PC} (h : TInv m R G q) {val' : Nat → Int} :
    TInv ⟨m.head, m.tail, m.next, m.prev, val', m.cnt + 1⟩ R G q :=
  { h with priv := fun n e => ⟨Nat.lt_succ_of_lt (h.priv n e).1, (h.priv n e).2⟩ }

/-- Thread `t` allocates the node `s.cnt` and moves to a `q` that owns it. -/
theorem SInvL.alloc {s : St} {R G : List Nat} {t : Tid} {q : PC} {val' : Nat → Int} (h : SInvL s R G)
    (hT : TInv ⟨s.head, s.tail, s.next, s.prev, val', s.cnt + 1⟩ R G q)
    (hq : ∀ n, enqNode q = some n → n = s.cnt) :
    SInvL { s with val := val', cnt := s.cnt + 1, pc := upd s.pc t q } R G :=
  h.frame (s' := { s with val := val', cnt := s.cnt + 1, pc := upd s.pc t q }) rfl
    { h.mem with alloc := fun a ha => Nat.lt_succ_of_lt (h.mem.alloc a ha) } hT (fun u _ => (h.thread u).alloc)
    (fun u _ n e e' => Nat.lt_irrefl _ (hq n e ▸ ((h.thread u).priv n e').1))

/-- The fresh node is not in the queue. -/
theorem SInvL.cnt_not_mem {s : St} {R G : List Nat} (h : SInvL s R G) : s.cnt ∉ R ++ G :=
  fun hm => Nat.lt_irrefl _ (h.mem.alloc _ hm)

/-! ### Stores into the nodes -/

/-- The source of an observed link is the thread's own private node or a published node it holds. -/
theorem link_src {pc : PC} {a : Nat} {v : Option Nat} (h : linkOf pc = some (a, v)) :
    enqNode pc = some a ∨ a ∈ wnodes pc := by
  cases pc <;> simp_all [linkOf, enqNode, wnodes]

/-- A store into the `m_pNext` of a node that is private to another thread. -/
theorem TInv.set_next {m : Mem} {R G : List Nat} {q : PC} (h : TInv m R G q) {n : Nat} {v : Option Nat}
    (hn : n ∉ R ++ G) (hq : enqNode q ≠ some n) : TInv ⟨m.head, m.tail, upd m.next n v, m.prev, m.val, m.cnt⟩ R G q :=
  { h with
    link := fun a w e => by
      have han : a ≠ n := by
        rintro rfl
        exact (link_src e).elim hq (fun hw => hn (h.inw a hw))
      exact (upd_other _ _ _ _ han).trans (h.link a w e) }

/-- Thread `t` stores into the `m_pNext` of its private node `n`. -/
theorem SInvL.set_next {s : St} {R G : List Nat} {t : Tid} {p q : PC} {n : Nat} {v : Option Nat} (h : SInvL s R G)
    (hpc : s.pc t = p) (hn : enqNode p = some n)
    (hT : TInv ⟨s.head, s.tail, upd s.next n v, s.prev, s.val, s.cnt⟩ R G q)
    (hown : ∀ n', enqNode q = some n' → enqNode p = some n') :
    SInvL { s with next := upd s.next n v, pc := upd s.pc t q } R G := by
  have hnW : n ∉ R ++ G := ((h.thread t).priv n (hpc ▸ hn)).2
  exact h.frame (s' := { s with next := upd s.next n v, pc := upd s.pc t q }) rfl
    { h.mem with chain := Chain.upd hnW h.chain } hT
    (fun u hu => (h.thread u).set_next hnW (h.excl _ _ (Ne.symm hu) n (hpc ▸ hn)))
    (h.excl_of_own hpc hown)

/-- Thread `t` stores a published node into an `m_pPrev`. -/
theorem SInvL.set_prev {s : St} {R G : List Nat} {t : Tid} {p q : PC} {a x : Nat} (h : SInvL s R G)
    (hpc : s.pc t = p) (hx : x ∈ R ++ G)
    (hT : TInv s.mem R G q) (hown : ∀ n, enqNode q = some n → enqNode p = some n) :
    SInvL { s with prev := upd s.prev a (some x), pc := upd s.pc t q } R G :=
  h.frame (s' := { s with prev := upd s.prev a (some x), pc := upd s.pc t q }) rfl
    { h.mem with
      prevw := fun b y e => by
        by_cases hb : b = a
        · rw [hb] at e
          exact Option.some.inj ((upd_same _ _ _).symm.trans e) ▸ hx
        · exact h.mem.prevw b y ((upd_other _ _ _ _ hb).symm.trans e) }
    { hT with } (fun u _ => { h.thread u with }) (h.excl_of_own hpc hown)

/-! ### The CAS on `m_pTail` -/

/-- A new node `n` at the front of `R`. -/
theorem TInv.enqueue {m : Mem} {R G : List Nat} {q : PC} (h : TInv m R G q) {n : Nat}
    (hn : n ∉ R ++ G) (hq : enqNode q ≠ some n) : TInv ⟨m.head, n, m.next, m.prev, m.val, m.cnt⟩ (n :: R) G q where
  priv := fun k e =>
    ⟨(h.priv k e).1, fun hm => (List.mem_cons.mp hm).elim (fun ek => hq (ek ▸ e)) (h.priv k e).2⟩
  link := h.link
  deqh := fun x e =>
    ⟨List.mem_cons_of_mem _ (h.deqh x e).1,
     fun hm => (List.mem_cons.mp hm).elim (fun ex => absurd (ex ▸ (h.deqh x e).1) hn) (h.deqh x e).2⟩
  inw := fun a e => List.mem_cons_of_mem _ (h.inw a e)
  seg := fun x y e hh => List.mem_cons_of_mem _ (h.seg x y e hh)
  fixne := h.fixne

/-- Thread `t` swings `m_pTail` to its private node `n`, whose `m_pNext` is the old tail. -/
theorem SInvL.enqueue {s : St} {R G : List Nat} {t : Tid} {p q : PC} {n : Nat} (h : SInvL s R G)
    (hpc : s.pc t = p) (hn : enqNode p = some n) (hl : s.next n = some s.tail)
    (hT : TInv ⟨s.head, n, s.next, s.prev, s.val, s.cnt⟩ (n :: R) G q) (hq : enqNode q = none) :
    SInvL { s with tail := n, pc := upd s.pc t q } (n :: R) G := by
  obtain ⟨hnc, hnW⟩ := (h.thread t).priv n (hpc ▸ hn)
  obtain ⟨r, hr⟩ := h.tail_cons
  have hM : MInv ⟨s.head, n, s.next, s.prev, s.val, s.cnt⟩ (n :: R) G := {
    chain := ⟨rfl, (hl ▸ h.chain : Chain s.next (s.next n) (R ++ G))⟩
    nodup := List.nodup_cons.mpr ⟨hnW, h.nodup⟩
    rlast := by rw [hr, List.getLast?_cons_cons, ← hr]; exact h.rlast
    alloc := fun a ha => (List.mem_cons.mp ha).elim (fun e => e ▸ hnc) (fun ha' => h.mem.alloc a ha')
    prevw := fun a x e => List.mem_cons_of_mem _ (h.mem.prevw a x e) }
  exact h.frame (s' := { s with tail := n, pc := upd s.pc t q }) rfl hM hT
    (fun u hu => (h.thread u).enqueue hnW (h.excl _ _ (Ne.symm hu) n (hpc ▸ hn)))
    (fun u _ k e => by rw [hq] at e; cases e)

/-! ### The CAS on `m_pHead` -/

theorem seg_deqH {pc : PC} {h x : Nat} (hs : segNode pc = some (h, x)) : deqH pc = some h := by
  cases pc <;> simp_all [segNode, deqH]

/-- `head` moves to `f`: the old head leaves `R` for `G`.  No thread holds `f` as its head candidate yet. -/
theorem TInv.dequeue {m : Mem} {R G R' G' : List Nat} {q : PC} (h : TInv m R G q) {f : Nat}
    (hW : R' ++ G' = R ++ G) (hsub : ∀ c, c ∈ R' → c ∈ R) (hnh : m.head ∉ R') (hf : f ∈ R') :
    TInv ⟨f, m.tail, m.next, m.prev, m.val, m.cnt⟩ R' G' q where
  priv := fun k e => hW ▸ h.priv k e
  link := h.link
  deqh := fun x e =>
    ⟨hW ▸ (h.deqh x e).1, fun hm => absurd ((h.deqh x e).2 (hsub x hm) ▸ hm) hnh⟩
  inw := fun a e => hW ▸ h.inw a e
  seg := fun x y e hh => by
    have hx : m.head = f := (h.deqh f (seg_deqH (hh ▸ e))).2 (hsub f hf)
    exact absurd (hx ▸ hf) hnh
  fixne := h.fixne

/-- Thread `t` swings `m_pHead` from the last node of `R` to the node `f` before it. -/
theorem SInvL.dequeue {s : St} {R G R0 : List Nat} {t : Tid} {p q : PC} {f : Nat} (h : SInvL s R G)
    (hpc : s.pc t = p) (hR : R = R0 ++ [f, s.head])
    (hT : TInv ⟨f, s.tail, s.next, s.prev, s.val, s.cnt⟩ (R0 ++ [f]) (s.head :: G) q)
    (hown : ∀ n, enqNode q = some n → enqNode p = some n) :
    SInvL { s with head := f, pc := upd s.pc t q } (R0 ++ [f]) (s.head :: G) := by
  have hW : (R0 ++ [f]) ++ (s.head :: G) = R ++ G := by rw [hR]; simp
  have hnh : s.head ∉ R0 ++ [f] := by
    intro hm
    have hnd : ((R0 ++ [f]) ++ [s.head]).Nodup := by
      have := (List.nodup_append.mp h.nodup).1
      rw [hR] at this
      simpa using this
    exact (List.nodup_append.mp hnd).2.2 _ hm _ (List.mem_singleton.mpr rfl) rfl
  have hsub : ∀ c, c ∈ R0 ++ [f] → c ∈ R := fun c hc => by
    rw [hR]
    have : R0 ++ [f, s.head] = (R0 ++ [f]) ++ [s.head] := by simp
    rw [this]
    exact List.mem_append_left _ hc
  have hM : MInv ⟨f, s.tail, s.next, s.prev, s.val, s.cnt⟩ (R0 ++ [f]) (s.head :: G) := {
    chain := hW ▸ h.chain
    nodup := hW ▸ h.nodup
    rlast := List.getLast?_concat
    alloc := fun a ha => h.mem.alloc a (hW ▸ ha)
    prevw := fun a x e => hW ▸ h.mem.prevw a x e }
  exact h.frame (s' := { s with head := f, pc := upd s.pc t q }) rfl hM hT
    (fun u _ => (h.thread u).dequeue hW hsub hnh (by simp)) (h.excl_of_own hpc hown)

/-! ### The effect on the abstract queue -/

/-- `opOf` reads the value of the thread's private node only. -/
theorem opOf_congr {val val' : Nat → Int} {pc : PC} (hv : ∀ n, enqNode pc = some n → val' n = val n) :
    opOf val' pc = opOf val pc := by
  cases pc with
  | enqLd1 n | enqLd2 n _ | enqSetNext n _ | enqCas n _ =>
    exact congrArg (fun x => some (GOp.mk "enq" [x])) (hv n rfl)
  | _ => rfl

/-- A step of `t` from `p` to `q` that passes no linearization point. -/
theorem StepEff.stay {s s' : St} {t : Tid} {p q : PC} {R : List Nat} (hpc : s.pc t = p)
    (hpc' : s'.pc = upd s.pc t q) (hval : s'.val = s.val) (hcnt : s'.cnt = s.cnt)
    (hlp : ∀ r, lpRet q = some r → lpRet p = some r)
    (hkeep : ∀ r, lpRet p = some r → lpRet q = some r ∨ (r = [0] ∧ lpRet q = none))
    (hop : postRet q = none → opOf s.val q = opOf s.val p) (hnc : q ≠ .crash) : StepEff s t s' R R := by
  have hq : s'.pc t = q := by rw [hpc']; exact upd_same _ _ _
  have hnew : ∀ r, lpRet p = none → lpRet q = some r → False := fun r h0 h1 => by
    rw [hlp r h1] at h0; cases h0
  exact {
    frame := fun u hu => by rw [hpc']; exact upd_other _ _ _ _ hu
    val := hval
    cnt := hcnt
    lp := fun h0 r h1 => (hnew r (hpc ▸ h0) (hq ▸ h1)).elim
    nolp := fun _ => rfl
    keep := fun r h0 => hq ▸ hkeep r (hpc ▸ h0)
    op := fun h0 => by rw [hq, hval, hpc]; exact hop (hq ▸ h0)
    emp := fun h0 h1 => (hnew _ (hpc ▸ h0) (hq ▸ h1)).elim
    nocrash := hq ▸ hnc }

/-- A step of `t` from `p` to `q` with the same linearization status. -/
theorem StepEff.quiet {s s' : St} {t : Tid} {p q : PC} {R : List Nat} (hpc : s.pc t = p)
    (hpc' : s'.pc = upd s.pc t q) (hval : s'.val = s.val) (hcnt : s'.cnt = s.cnt)
    (hlp : lpRet q = lpRet p) (hop : postRet q = none → opOf s.val q = opOf s.val p) (hnc : q ≠ .crash) :
    StepEff s t s' R R :=
  StepEff.stay hpc hpc' hval hcnt (fun _ e => hlp ▸ e) (fun _ e => Or.inl (hlp ▸ e)) hop hnc

/-- A step of `t` from `p` to `q` that is the linearization point of `op` with result `r`. -/
theorem StepEff.linearize {s s' : St} {t : Tid} {p q : PC} {R R' : List Nat} {op : GOp} {r : GRet}
    (hpc : s.pc t = p) (hpc' : s'.pc = upd s.pc t q) (hval : s'.val = s.val) (hcnt : s'.cnt = s.cnt)
    (hp : lpRet p = none) (hq : lpRet q = some r) (hop : opOf s.val p = some op)
    (hfifo : fifo.next (qOf s.val R) op r = some (qOf s.val R'))
    (hpost : postRet q = none → opOf s.val q = some op)
    (hemp : r = [0] → ∃ h, p = .deqLdT2 h h ∧ s.tail = h ∧ s.head = h ∧ R = [h])
    (hnc : q ≠ .crash) : StepEff s t s' R R' := by
  have hq' : s'.pc t = q := by rw [hpc']; exact upd_same _ _ _
  have hr : ∀ r', lpRet (s'.pc t) = some r' → r' = r := fun r' e =>
    Option.some.inj (e.symm.trans (hq' ▸ hq))
  exact {
    frame := fun u hu => by rw [hpc']; exact upd_other _ _ _ _ hu
    val := hval
    cnt := hcnt
    lp := fun _ r' h1 => ⟨op, hpc ▸ hop, hr r' h1 ▸ hfifo⟩
    nolp := fun h0 => by
      rw [hpc, hq', hp, hq] at h0
      exact h0.elim (fun e => absurd rfl e) nofun
    keep := fun r' h0 => by rw [hpc, hp] at h0; cases h0
    op := fun h0 => by rw [hq', hval, hpc, hop]; exact hpost (hq' ▸ h0)
    emp := fun _ h1 => hpc ▸ hemp (hr _ h1).symm
    nocrash := hq' ▸ hnc }

/-- A step that only moves the program counter of `t` and keeps its linearization status. -/
theorem SInvL.quiet_move {s : St} {R G : List Nat} {t : Tid} {p q : PC} (h : SInvL s R G) (hpc : s.pc t = p)
    (hT : TInv s.mem R G q) (hown : ∀ n, enqNode q = some n → enqNode p = some n) (hlp : lpRet q = lpRet p)
    (hop : postRet q = none → opOf s.val q = opOf s.val p) (hnc : q ≠ .crash) :
    ∃ R' G', SInvL { s with pc := upd s.pc t q } R' G' ∧ StepEff s t { s with pc := upd s.pc t q } R R' :=
  ⟨R, G, h.move hpc hT hown, .quiet hpc rfl rfl rfl hlp hop hnc⟩

end CdsVerif.Algo.Optimistic
