/-
  The rules by which one step of thread `t` preserves the split-list invariant and produces its effect summary.

  `SInvL` is a conjunction of clauses about the shared memory (`GOk`), about the memory and ONE program counter (`TOk`)
  and about the program counters of two threads (`Own`).  A step of `t` rewrites `s.pc t` and a little memory, so after it
    * `GOk` and the other threads' `TOk` have to survive the change of the memory (`Mono.lean`; nothing to prove if the
      memory is unchanged),
    * `TOk` has to be established for the new program counter of `t`,
    * `Own` is inherited if the new program counter owns nothing the old one did not (`OwnLe`).
  `SInvL.frame` is this rule, `SInvL.move` its instance for a step that leaves the memory alone.  In the same way the
  clauses of `StepEff` about the linearization of `t`'s operation are collected in `LinMove`; `StepEff.words` is the
  effect of a step that leaves keys and payloads alone, `StepEff.nodes` of one that writes pointer words only,
  `StepEff.move` of one that writes none; `SInvL.pc_step` is the whole rule for a step that writes its program counter only.

  `TOk` refers to the program counter through classifying functions (`pcTop`, `pcPrev`, …) only, `icas` excepted.  So the
  clauses of two program counters are the same propositions up to computation, and `{ h with icas := nofun, … }` turns
  `h : TOk c m L p` into `TOk c m L q` by stating the clauses that differ.
-/
import CdsVerif.Algo.SplitList.Mono
namespace CdsVerif.Algo.SplitList
open CdsVerif.Machine CdsVerif.Spec CdsVerif.Lin
open CdsVerif.Algo.Michael (LPok isRO)

/-! ### Ownership -/

/-- `q` owns no private node that `p` does not own, and is not about to unlink a node. -/
structure OwnLe (q p : PC) : Prop where
  item : ∀ n, pcTop q = some (.ins n) → pcTop p = some (.ins n)
  dum : ∀ x, pcDum q = some x → pcDum p = some x
  unl : ∀ k pr a x, q ≠ .eUnl k pr a x

theorem Own.move {pc : Tid → PC} (h : Own pc) {t : Tid} {p q : PC} (hp : pc t = p) (ho : OwnLe q p) :
    Own (Machine.upd pc t q) :=
  h.upd t q (fun n e => Or.inl (hp ▸ ho.item n e)) (fun x e => Or.inl (hp ▸ ho.dum x e))
    (fun k pr a x e => absurd e (ho.unl k pr a x))

/-! ### The invariant -/

/-- The rule for one step of thread `t` from `p` to `q`. -/
theorem SInvL.frame {c : Cfg} {s s' : St} {L L' : List Nat} {t : Tid} {p q : PC} (h : SInvL c s L) (hp : s.pc t = p)
    (hpc : s'.pc = upd s.pc t q)
    (hG : GOk c (mem! s') s'.table s'.cnt2 L')
    (hO : ∀ u, u ≠ t → TOk c (mem! s') L' (s.pc u))
    (hT : TOk c (mem! s') L' q)
    (ho : OwnLe q p) : SInvL c s' L' :=
  ⟨hG, hpc ▸ forall_upd hT hO, hpc ▸ h.own.move hp ho⟩

/-- A step that writes no word the invariant reads.  `maxc` and `items` are not read: with `mx`, `it` left open the
    statement also covers `{ s with pc := … }`, which is the same constructor application. -/
theorem SInvL.move {c : Cfg} {s : St} {L : List Nat} {t : Tid} {p q : PC} {mx it : Nat} (h : SInvL c s L)
    (hp : s.pc t = p) (hT : TOk c (mem! s) L q) (ho : OwnLe q p) :
    SInvL c { s with maxc := mx, items := it, pc := upd s.pc t q } L :=
  h.frame hp rfl h.g (fun u _ => h.thr u) hT ho

/-! ### The effect -/

/-- The clauses of `StepEff` about the linearization of the operation of the thread that moves from `p` to `q`, for a
    step that leaves keys and payloads alone; `H` and `H'` are the abstract map before and after. -/
structure LinMove (c : Cfg) (so : Nat → Nat) (uk val : Nat → Int) (H H' : Int → Int → Prop) (p q : PC) : Prop where
  lp : lpRet c so uk val p = none → ∀ r, lpRet c so uk val q = some r →
    ∃ op, opOf uk val p = some op ∧ LPok H op r H'
  nolp : (lpRet c so uk val p ≠ none ∨ lpRet c so uk val q = none) → ∀ k v, H' k v ↔ H k v
  keep : ∀ r, lpRet c so uk val p = some r → lpRet c so uk val q = some r ∨
    ((∃ op, opOf uk val p = some op ∧ isRO op r = true) ∧ lpRet c so uk val q = none)
  pkeep : ∀ r, postRet val p = some r → postRet val q = some r
  op : postRet val q = none → opOf uk val q = opOf uk val p
  busy : p ≠ .idle ∧ q ≠ .idle

theorem ne_idle_of_op {uk val : Nat → Int} {pc : PC} {op : GOp} (h : opOf uk val pc = some op) : pc ≠ .idle :=
  fun e => by rw [e] at h; cases h

theorem ne_idle_of_post {val : Nat → Int} {pc : PC} {r : GRet} (h : postRet val pc = some r) : pc ≠ .idle :=
  fun e => by rw [e] at h; cases h

section
variable {c : Cfg} {so : Nat → Nat} {uk val : Nat → Int} {H H' : Int → Int → Prop} {p q : PC} {op : GOp}

/-- The operation `op` has not answered before the step: whatever answer `q` holds, definitive or tentative, is given
    by this step. -/
theorem LinMove.pending (hp : lpRet c so uk val p = none) (hpp : postRet val p = none) (hpo : opOf uk val p = some op)
    (hop : postRet val q = none → opOf uk val q = some op)
    (hok : ∀ r, lpRet c so uk val q = some r → LPok H op r H')
    (hno : lpRet c so uk val q = none → ∀ k v, H' k v ↔ H k v) : LinMove c so uk val H H' p q where
  lp := fun _ r e => ⟨op, hpo, hok r e⟩
  nolp := fun e => e.elim (fun e => absurd hp e) hno
  keep := fun r e => by rw [hp] at e; cases e
  pkeep := fun r e => by rw [hpp] at e; cases e
  op := fun e => (hop e).trans hpo.symm
  busy := ⟨ne_idle_of_op hpo, fun e => ne_idle_of_op (hop (by rw [e]; rfl)) e⟩

/-- Neither end of the step is a linearization point. -/
theorem LinMove.silent (hp : lpRet c so uk val p = none) (hq : lpRet c so uk val q = none) (hpp : postRet val p = none)
    (hpo : opOf uk val p = some op) (hop : opOf uk val q = some op) : LinMove c so uk val H H p q :=
  .pending hp hpp hpo (fun _ => hop) (fun r e => by rw [hq] at e; cases e) (fun _ _ _ => Iff.rfl)

/-- The answer, tentative before the step, stays as it is. -/
theorem LinMove.kept (hq : lpRet c so uk val q = lpRet c so uk val p) (hpp : postRet val p = none)
    (hpo : opOf uk val p = some op) (hop : postRet val q = none → opOf uk val q = some op) :
    LinMove c so uk val H H p q where
  lp := fun e r e' => by rw [hq, e] at e'; cases e'
  nolp := fun _ _ _ => Iff.rfl
  keep := fun r e => Or.inl (hq ▸ e)
  pkeep := fun r e => by rw [hpp] at e; cases e
  op := fun e => (hop e).trans hpo.symm
  busy := ⟨ne_idle_of_op hpo, fun e => ne_idle_of_op (hop (by rw [e]; rfl)) e⟩

/-- The answer `r`, definitive before the step, stays. -/
theorem LinMove.after {r : GRet} (hp : lpRet c so uk val p = some r) (hq : lpRet c so uk val q = some r)
    (hpp : postRet val p = some r) (hpq : postRet val q = some r) : LinMove c so uk val H H p q where
  lp := fun e => by rw [hp] at e; cases e
  nolp := fun _ _ _ => Iff.rfl
  keep := fun r' e => Or.inl (by rw [← e, hp, hq])
  pkeep := fun r' e => by rw [← e, hpp, hpq]
  op := fun e => by rw [hpq] at e; cases e
  busy := ⟨ne_idle_of_post hpp, ne_idle_of_post hpq⟩

end

/-- The representations of the abstract map before and after the step may be replaced by equivalent ones. -/
theorem LinMove.congr {c : Cfg} {so : Nat → Nat} {uk val : Nat → Int} {H H1 H' H1' : Int → Int → Prop} {p q : PC}
    (h : LinMove c so uk val H1 H1' p q) (he : ∀ k v, H k v ↔ H1 k v) (he' : ∀ k v, H' k v ↔ H1' k v) :
    LinMove c so uk val H H' p q where
  lp := fun e r e' => by
    obtain ⟨op, h1, h2⟩ := h.lp e r e'
    refine ⟨op, h1, fun m hm => ?_⟩
    obtain ⟨m', h3, h4⟩ := h2 m (fun k v => (hm k v).trans (he k v))
    exact ⟨m', h3, fun k v => (h4 k v).trans (he' k v).symm⟩
  nolp := fun e k v => ((he' k v).trans (h.nolp e k v)).trans (he k v).symm
  keep := h.keep
  pkeep := h.pkeep
  op := h.op
  busy := h.busy

/-- `StepEff` of a step of `t` from `p` to `q`, stated with these in place of `s.pc t` and `s'.pc t`. -/
theorem StepEff.of_pcs {c : Cfg} {s s' : St} {L L' : List Nat} {t : Tid} {p q : PC} (hp : s.pc t = p)
    (hq : s'.pc = upd s.pc t q)
    (lps : ∀ u, u ≠ t → lpRet c s'.so s'.uk s'.val (s.pc u) = lpRet c s.so s.uk s.val (s.pc u))
    (ops : ∀ u, u ≠ t → opOf s'.uk s'.val (s.pc u) = opOf s.uk s.val (s.pc u))
    (lp : lpRet c s.so s.uk s.val p = none → ∀ r, lpRet c s'.so s'.uk s'.val q = some r →
      ∃ op, opOf s.uk s.val p = some op ∧ LPok (Has s.mark s.uk s.val L) op r (Has s'.mark s'.uk s'.val L'))
    (nolp : (lpRet c s.so s.uk s.val p ≠ none ∨ lpRet c s'.so s'.uk s'.val q = none) →
      ∀ k v, Has s'.mark s'.uk s'.val L' k v ↔ Has s.mark s.uk s.val L k v)
    (keep : ∀ r, lpRet c s.so s.uk s.val p = some r → lpRet c s'.so s'.uk s'.val q = some r ∨
      ((∃ op, opOf s.uk s.val p = some op ∧ isRO op r = true) ∧ lpRet c s'.so s'.uk s'.val q = none))
    (pkeep : ∀ r, postRet s.val p = some r → postRet s'.val q = some r)
    (op : postRet s'.val q = none → opOf s'.uk s'.val q = opOf s.uk s.val p)
    (busy : p ≠ .idle ∧ q ≠ .idle)
    (mono : ∀ a, (a ∈ L ∨ s.mark a = true) → (a ∈ L' ∨ s'.mark a = true))
    (frz : ∀ a, s.mark a = true → s'.mark a = true ∧ s'.next a = s.next a)
    (marks : ∀ a, s.mark a = false → s'.mark a = true →
      ∃ k d pr x, p = .eMark k d pr a x ∧ q = .eUnl k pr a x ∧ s.uk a = k ∧ a ∈ L ∧ a % 2 = 1)
    (keys : ∀ a, Alloc (mem! s) a → s'.so a = s.so a ∧ s'.uk a = s.uk a ∧ s'.val a = s.val a)
    (tabmono : ∀ b d, s.table b = some d → s'.table b = some d)
    (grow : s'.cnt2 ≠ s.cnt2 → L' = L ∧ s'.next = s.next ∧ s'.mark = s.mark ∧ s'.table = s.table ∧
      s'.cnt2 = s.cnt2 + 1 ∧ postRet s.val p = some [1] ∧ postRet s'.val q = some [1])
    (publish : ∀ b, s'.table b ≠ s.table b → L' = L ∧ s'.next = s.next ∧ s'.mark = s.mark ∧ s'.cnt2 = s.cnt2 ∧
      lpRet c s.so s.uk s.val p = none ∧ lpRet c s'.so s'.uk s'.val q = none) :
    StepEff c s t s' L L' := by
  have hqt : s'.pc t = q := by rw [hq]; exact upd_same _ _ _
  subst hqt hp
  exact ⟨fun u hu => by rw [hq]; exact upd_other _ _ _ _ hu, lps, ops, lp, nolp, keep, pkeep, op, busy, mono, frz, marks,
    keys, tabmono, grow, publish⟩

/-- The effect of a step of `t` from `p` to `q` that leaves keys and payloads alone. -/
theorem StepEff.words {c : Cfg} {s : St} {L L' : List Nat} {t : Tid} {p q : PC} {next' : Nat → Option Nat}
    {mark' : Nat → Bool} {tb' : Nat → Option Nat} {k2' mx it : Nat} (hp : s.pc t = p)
    (hl : LinMove c s.so s.uk s.val (Has s.mark s.uk s.val L) (Has mark' s.uk s.val L') p q)
    (mono : ∀ a, (a ∈ L ∨ s.mark a = true) → (a ∈ L' ∨ mark' a = true))
    (frz : ∀ a, s.mark a = true → mark' a = true ∧ next' a = s.next a)
    (marks : ∀ a, s.mark a = false → mark' a = true →
      ∃ k d pr x, p = .eMark k d pr a x ∧ q = .eUnl k pr a x ∧ s.uk a = k ∧ a ∈ L ∧ a % 2 = 1)
    (tabmono : ∀ b d, s.table b = some d → tb' b = some d)
    (grow : k2' ≠ s.cnt2 → L' = L ∧ next' = s.next ∧ mark' = s.mark ∧ tb' = s.table ∧ k2' = s.cnt2 + 1 ∧
      postRet s.val p = some [1] ∧ postRet s.val q = some [1])
    (publish : ∀ b, tb' b ≠ s.table b → L' = L ∧ next' = s.next ∧ mark' = s.mark ∧ k2' = s.cnt2 ∧
      lpRet c s.so s.uk s.val p = none ∧ lpRet c s.so s.uk s.val q = none) :
    StepEff c s t
      { s with next := next', mark := mark', table := tb', cnt2 := k2', maxc := mx, items := it, pc := upd s.pc t q }
      L L' :=
  .of_pcs hp rfl (fun _ _ => rfl) (fun _ _ => rfl) hl.lp hl.nolp hl.keep hl.pkeep hl.op hl.busy mono frz marks
    (fun _ _ => ⟨rfl, rfl, rfl⟩) tabmono grow publish

/-- The effect of a step of `t` from `p` to `q` that writes pointer words only. -/
theorem StepEff.nodes {c : Cfg} {s : St} {L L' : List Nat} {t : Tid} {p q : PC} {next' : Nat → Option Nat}
    {mark' : Nat → Bool} {mx it : Nat} (hp : s.pc t = p)
    (hl : LinMove c s.so s.uk s.val (Has s.mark s.uk s.val L) (Has mark' s.uk s.val L') p q)
    (mono : ∀ a, (a ∈ L ∨ s.mark a = true) → (a ∈ L' ∨ mark' a = true))
    (frz : ∀ a, s.mark a = true → mark' a = true ∧ next' a = s.next a)
    (marks : ∀ a, s.mark a = false → mark' a = true →
      ∃ k d pr x, p = .eMark k d pr a x ∧ q = .eUnl k pr a x ∧ s.uk a = k ∧ a ∈ L ∧ a % 2 = 1) :
    StepEff c s t { s with next := next', mark := mark', maxc := mx, items := it, pc := upd s.pc t q } L L' :=
  .words hp hl mono frz marks (fun _ _ e => e) (fun e => absurd rfl e) (fun _ e => absurd rfl e)

/-- The effect of a step that writes no word the effect reads. -/
theorem StepEff.move {c : Cfg} {s : St} {L : List Nat} {t : Tid} {p q : PC} {mx it : Nat} (hp : s.pc t = p)
    (hl : LinMove c s.so s.uk s.val (Has s.mark s.uk s.val L) (Has s.mark s.uk s.val L) p q) :
    StepEff c s t { s with maxc := mx, items := it, pc := upd s.pc t q } L L :=
  StepEff.nodes hp hl (fun _ e => e) (fun _ e => ⟨e, rfl⟩) (fun a e e' => by rw [e] at e'; cases e')

/-- A step of `t` from `p` to `q` that writes its program counter only (or `maxc`, `items`, which nothing here reads):
    `q` satisfies its clauses on the unchanged memory and owns no more than `p`. -/
theorem SInvL.pc_step {c : Cfg} {s : St} {L : List Nat} {t : Tid} {p q : PC} {mx it : Nat} (h : SInvL c s L)
    (hp : s.pc t = p) (hT : TOk c (mem! s) L q) (ho : OwnLe q p)
    (hl : LinMove c s.so s.uk s.val (Has s.mark s.uk s.val L) (Has s.mark s.uk s.val L) p q) :
    ∃ L', SInvL c { s with maxc := mx, items := it, pc := upd s.pc t q } L' ∧
      StepEff c s t { s with maxc := mx, items := it, pc := upd s.pc t q } L L' :=
  ⟨L, h.move hp hT ho, .move hp hl⟩

end CdsVerif.Algo.SplitList
