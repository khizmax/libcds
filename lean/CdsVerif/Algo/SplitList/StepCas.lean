/-
  Preservation of the split-list invariant, and the effect on the abstract map, by the steps that write list nodes:
  the helping CAS of `search`, `link_node` (store, CAS, store) and `unlink_node` (marking CAS, unlink CAS).
-/
import CdsVerif.Algo.SplitList.Search
namespace CdsVerif.Algo.SplitList
open CdsVerif.Machine CdsVerif.Spec CdsVerif.Lin
open CdsVerif.Algo.Michael (LPok isRO)

theorem has_mark_same {mark : Nat → Bool} {uk val : Nat → Int} {L : List Nat} {n : Nat} (hn : n ∉ L) (k v : Int) :
    Has (upd mark n false) uk val L k v ↔ Has mark uk val L k v := by
  unfold Has
  constructor
  · rintro ⟨a, ha, h0, h1, h2⟩
    exact ⟨a, ha, h0, by rwa [upd_other _ _ _ _ (fun (e : a = n) => hn (e ▸ ha))] at h1, h2⟩
  · rintro ⟨a, ha, h0, h1, h2⟩
    exact ⟨a, ha, h0, by rwa [upd_other _ _ _ _ (fun (e : a = n) => hn (e ▸ ha))], h2⟩

/-- The node `link_node` links is private, unmarked, and carries the key searched for. -/
theorem TOk.own_node {c : Cfg} {m : Mem} {tb : Nat → Option Nat} {k2 : Nat} {L : List Nat} {pc : PC} {w : OpK} {n : Nat}
    (h : TOk c m L pc) (g : GOk c m tb k2 L) (hw : wnode w = some n) (ht : pcTop pc = some (wtop w))
    (hd : pcDum pc = wdum w) :
    Alloc m n ∧ n ∉ L ∧ m.mark n = false ∧ okeyS c m.so w = m.so n ∧ okeyU m.uk w = m.uk n := by
  cases w with
  | dum x o stk =>
    cases hw
    have := h.dumPriv n hd
    exact ⟨this.2.1, this.2.2, g.dmark n this.1, rfl, rfl⟩
  | top o =>
    cases o <;> cases hw
    have := h.item n ht
    exact ⟨this.2.1, this.2.2.1, this.2.2.2, rfl, rfl⟩

/-- The effect of a store into the private node `n`. -/
theorem StepEff.priv {c : Cfg} {s : St} {L : List Nat} {t : Tid} {p q : PC} {n : Nat} {x : Option Nat} {op : GOp}
    (hp : s.pc t = p) (hn : n ∉ L) (hnm : s.mark n = false) (h1 : lpRet c s.so s.uk s.val p = none)
    (h2 : lpRet c s.so s.uk s.val q = none) (h3 : postRet s.val p = none) (h4 : opOf s.uk s.val p = some op)
    (h5 : opOf s.uk s.val q = some op) :
    StepEff c s t { s with next := upd s.next n x, mark := upd s.mark n false, pc := upd s.pc t q } L L :=
  .nodes hp ((LinMove.silent h1 h2 h3 h4 h5).congr (fun _ _ => Iff.rfl) (has_mark_same hn))
    (fun a ha => ha.imp id (fun hm => (upd_other _ _ _ _ (ne_of_mark hm hnm)).trans hm))
    (fun a hm =>
      have hne := ne_of_mark hm hnm
      ⟨(upd_other _ _ _ _ hne).trans hm, upd_other _ _ _ _ hne⟩)
    (fun a hm hm' => by
      by_cases e : a = n
      · rw [e, upd_same] at hm'; cases hm'
      · rw [upd_other _ _ _ _ e, hm] at hm'; cases hm')

theorem sinvl_step_iSt {c : Cfg} {s s' : St} {t : Tid} {ev : Ev} {L : List Nat} {w : OpK} {d prev : Nat} {cur : Option Nat}
    (h : SInvL c s L) (hpc : s.pc t = .iSt w d prev cur) (hs : step c s t = some (s', ev)) :
    ∃ L', SInvL c s' L' ∧ StepEff c s t s' L L' := by
  have ht := h.thr t
  rw [hpc] at ht
  simp only [step, hpc] at hs
  split at hs
  next => cases hs
  next n hw =>
    simp only [Option.some.injEq, Prod.mk.injEq] at hs
    obtain ⟨rfl, -⟩ := hs
    obtain ⟨hna, hnL, hnm, -⟩ := ht.own_node h.g hw rfl rfl
    have hown := wnode_own hw (s.pc t) (by rw [hpc]; rfl) (by rw [hpc]; rfl)
    exact ⟨L,
      h.frame hpc rfl (h.g.upd_priv cur hnL hnm hna)
        (fun u hu => (h.thr u).upd_priv cur hnm (icas_ne (h.other_ne hu hown)))
        { ht.upd_priv cur hnm nofun with
          icas := fun w' d' p' y n' e hw' => by
            cases e
            cases hw.symm.trans hw'
            exact upd_same _ _ _ }
        (.same rfl rfl nofun),
      .priv hpc hnL hnm rfl rfl rfl rfl rfl⟩

theorem sinvl_step_iClr {c : Cfg} {s s' : St} {t : Tid} {ev : Ev} {L : List Nat} {w : OpK} {d : Nat}
    (h : SInvL c s L) (hpc : s.pc t = .iClr w d) (hs : step c s t = some (s', ev)) :
    ∃ L', SInvL c s' L' ∧ StepEff c s t s' L L' := by
  have ht := h.thr t
  rw [hpc] at ht
  simp only [step, hpc] at hs
  split at hs
  next => cases hs
  next n hw =>
    simp only [Option.some.injEq, Prod.mk.injEq] at hs
    obtain ⟨rfl, -⟩ := hs
    obtain ⟨hna, hnL, hnm, -⟩ := ht.own_node h.g hw rfl rfl
    have hown := wnode_own hw (s.pc t) (by rw [hpc]; rfl) (by rw [hpc]; rfl)
    exact ⟨L,
      h.frame hpc rfl (h.g.upd_priv none hnL hnm hna)
        (fun u hu => (h.thr u).upd_priv none hnm (icas_ne (h.other_ne hu hown)))
        { ht.upd_priv none hnm nofun with icas := nofun } (.same rfl rfl nofun),
      .priv hpc hnL hnm rfl rfl rfl rfl rfl⟩

theorem sinvl_step_eMark {c : Cfg} {s s' : St} {t : Tid} {ev : Ev} {L : List Nat} {k : Int} {d prev cur : Nat}
    {nx : Option Nat}
    (hc : SOHyp c) (h : SInvL c s L) (hpc : s.pc t = .eMark k d prev cur nx) (hs : step c s t = some (s', ev)) :
    ∃ L', SInvL c s' L' ∧ StepEff c s t s' L L' := by
  have ht := h.thr t
  rw [hpc] at ht
  simp only [step, hpc] at hs
  split at hs
  next hv =>
    simp only [Option.some.injEq, Prod.mk.injEq] at hs
    obtain ⟨rfl, -⟩ := hs
    have hcL : cur ∈ L := (ht.lkCur cur rfl).resolve_right (ne_true_of_eq_false hv.2)
    have hkeq := ht.keyEq cur k rfl
    have hodd : cur % 2 = 1 := h.g.odd_of_so (h.g.alloc cur hcL) (hkeq.1 ▸ hc.regOdd _)
    -- nobody has marked `cur` before
    have hnoe : ∀ u k2 p2 x2, s.pc u ≠ .eUnl k2 p2 cur x2 := fun u k2 p2 x2 e =>
      Bool.false_ne_true (hv.2.symm.trans ((h.thr u).frozen cur x2 (by rw [e]; rfl)).2)
    have hlpok : LPok (Has s.mark s.uk s.val L) ⟨"erase", [k]⟩ [1, s.val cur] (Has (upd s.mark cur true) s.uk s.val L) :=
      Michael.LPok.era_ok (v := s.val cur) ⟨cur, hcL, hodd, hv.2, hkeq.2, rfl⟩
        (fun j w => by rw [h.g.has_mark hcL hodd j w, hkeq.2])
    refine ⟨L,
      ⟨h.g.markit hcL hodd,
       forall_upd (T := fun _ => TOk c _ L) ?tok (fun u _ => (h.thr u).markit hcL),
       h.own.upd t _ nofun nofun (fun k' p' a x e => Or.inr (by cases e; exact hnoe))⟩,
      .nodes hpc (.pending rfl rfl rfl nofun (fun r e => by cases e; exact hlpok) nofun)
        (fun a ha => ha.imp id upd_true) (fun a hm => ⟨upd_true hm, rfl⟩) (fun a hm hm' => ?marks)⟩
    case tok =>
      exact { ht.markit hcL with
          item := nofun
          frozen := fun a x e => by
            cases e
            exact ⟨hv.1, upd_same _ _ _⟩
          keyEq := nofun
          start := nofun
          stkPre := nofun
          bkt := nofun
          icas := nofun }
    case marks =>
      by_cases e : a = cur
      · subst e
        exact ⟨k, d, prev, nx, rfl, rfl, hkeq.2, hcL, hodd⟩
      · rw [upd_other _ _ _ _ e, hm] at hm'
        cases hm'
  next =>
    simp only [Option.some.injEq, Prod.mk.injEq] at hs
    obtain ⟨rfl, -⟩ := hs
    exact h.pc_step hpc
      { ht with lkPrev := nofun, lkCur := nofun, lkNx := nofun, keyPrev := nofun, keyEq := nofun, icas := nofun }
      (.same rfl rfl nofun)
      (.silent rfl rfl rfl rfl rfl)

/-- The CAS that unlinks the marked node `cur` behind the unmarked chain node `prev` has succeeded. -/
theorem SInvL.unlink {c : Cfg} {s : St} {L : List Nat} {t : Tid} {p q : PC} {prev cur : Nat} {nx : Option Nat}
    (h : SInvL c s L) (hp : s.pc t = p) (hpL : prev ∈ L) (hv : s.next prev = some cur ∧ s.mark prev = false)
    (hf : s.next cur = nx ∧ s.mark cur = true)
    (hT : TOk c ⟨upd s.next prev nx, s.mark, s.so, s.uk, s.val, s.cnt, s.acnt⟩ (L.erase cur) p →
      TOk c ⟨upd s.next prev nx, s.mark, s.so, s.uk, s.val, s.cnt, s.acnt⟩ (L.erase cur) q)
    (ho : OwnLe q p) : SInvL c { s with next := upd s.next prev nx, pc := upd s.pc t q } (L.erase cur) := by
  obtain ⟨rfl, hcm⟩ := hf
  exact h.frame hp rfl (h.g.unlink hpL hv.2 hv.1 hcm) (fun u _ => (h.thr u).unlink h.g hpL hv.2 hcm)
    (hT (hp ▸ (h.thr t).unlink h.g hpL hv.2 hcm)) ho

theorem StepEff.unlink {c : Cfg} {s : St} {L : List Nat} {t : Tid} {p q : PC} {prev cur : Nat} {nx : Option Nat}
    (hp : s.pc t = p) (hnd : L.Nodup) (hpm : s.mark prev = false) (hcm : s.mark cur = true)
    (hl : LinMove c s.so s.uk s.val (Has s.mark s.uk s.val (L.erase cur)) (Has s.mark s.uk s.val (L.erase cur)) p q) :
    StepEff c s t { s with next := upd s.next prev nx, pc := upd s.pc t q } L (L.erase cur) :=
  .nodes hp (hl.congr (fun k v => (has_erase hnd hcm k v).symm) (fun _ _ => Iff.rfl))
    (fun _ ha => lk_erase hnd hcm ha)
    (fun a hm => ⟨hm, upd_other _ _ _ _ (ne_of_mark hm hpm)⟩)
    (fun a hm hm' => by rw [hm] at hm'; cases hm')

theorem sinvl_step_sHelp {c : Cfg} {s s' : St} {t : Tid} {ev : Ev} {L : List Nat} {w : OpK} {d prev cur : Nat}
    {nx : Option Nat}
    (h : SInvL c s L) (hpc : s.pc t = .sHelp w d prev cur nx) (hs : step c s t = some (s', ev)) :
    ∃ L', SInvL c s' L' ∧ StepEff c s t s' L L' := by
  have ht := h.thr t
  rw [hpc] at ht
  simp only [step, hpc] at hs
  split at hs
  next hv =>
    simp only [Option.some.injEq, Prod.mk.injEq] at hs
    obtain ⟨rfl, -⟩ := hs
    have hpL : prev ∈ L := (ht.lkPrev prev rfl).resolve_right (ne_true_of_eq_false hv.2)
    have hf := ht.frozen cur nx rfl
    have h' := h.unlink (q := advance w d prev nx) hpc hpL hv hf
      (fun ht' =>
        TOk.advance { ht' with lkPrev := nofun, lkCur := nofun, lkNx := nofun, keyPrev := nofun, frozen := nofun, icas := nofun }
          (ht'.lkPrev prev rfl) (ht'.keyPrev prev rfl) ht'.lkNx)
      (.advance rfl rfl)
    exact ⟨L.erase cur, h',
      .unlink hpc h.g.nodup hv.2 hf.2
        (.advance h'.g rfl rfl rfl ((List.Nodup.mem_erase_iff h.g.nodup).mpr ⟨(ne_of_mark hf.2 hv.2).symm, hpL⟩)
          (ht.keyPrev prev rfl) (upd_same _ _ _))⟩
  next =>
    simp only [Option.some.injEq, Prod.mk.injEq] at hs
    obtain ⟨rfl, -⟩ := hs
    exact h.pc_step hpc
      { ht with lkPrev := nofun, lkCur := nofun, lkNx := nofun, keyPrev := nofun, frozen := nofun, icas := nofun }
      (.same rfl rfl nofun)
      (.silent rfl rfl rfl rfl rfl)

theorem sinvl_step_eUnl {c : Cfg} {s s' : St} {t : Tid} {ev : Ev} {L : List Nat} {k : Int} {prev cur : Nat}
    {nx : Option Nat}
    (h : SInvL c s L) (hpc : s.pc t = .eUnl k prev cur nx) (hs : step c s t = some (s', ev)) :
    ∃ L', SInvL c s' L' ∧ StepEff c s t s' L L' := by
  have ht := h.thr t
  rw [hpc] at ht
  simp only [step, hpc] at hs
  split at hs
  next hv =>
    simp only [Option.some.injEq, Prod.mk.injEq] at hs
    obtain ⟨rfl, -⟩ := hs
    have hpL : prev ∈ L := (ht.lkPrev prev rfl).resolve_right (ne_true_of_eq_false hv.2)
    have hf := ht.frozen cur nx rfl
    exact ⟨L.erase cur,
      h.unlink hpc hpL hv hf (fun _ => { tok_idle c _ _ with icas := nofun }) ⟨nofun, nofun, nofun⟩,
      .unlink hpc h.g.nodup hv.2 hf.2 (.after rfl rfl rfl rfl)⟩
  next =>
    simp only [Option.some.injEq, Prod.mk.injEq] at hs
    obtain ⟨rfl, -⟩ := hs
    exact h.pc_step hpc { tok_idle c _ L with icas := nofun } ⟨nofun, nofun, nofun⟩
      (.after rfl rfl rfl rfl)

section
variable {c : Cfg} {m : Mem} {tb : Nat → Option Nat} {k2 : Nat} {L : List Nat} {w : OpK} {d prev n : Nat}
  {cur : Option Nat}

/-- After the linking CAS: the client counts the item, `init_bucket` publishes the dummy node. -/
theorem TOk.linked {next' : Nat → Option Nat} (ht : TOk c m L (.iCas w d prev cur)) (hw : wnode w = some n)
    (hp : prev ∈ L) : TOk c { m with next := next' } (Michael.insAfter prev n L) (linked w) := by
  cases w with
  | top o => exact { tok_idle c _ _ with icas := nofun }
  | dum x o stk =>
    cases hw
    have hd := ht.dumPriv n rfl
    exact { tok_idle c _ _ with
      item := fun n0 e =>
        have hi := ht.item n0 e
        ⟨hi.1, hi.2.1, fun hm => ((Michael.mem_insAfter hp).mp hm).elim hi.2.2.1 (fun e' => by omega), hi.2.2.2⟩
      dumKey := nofun
      dumStk := nofun
      icas := nofun
      stkPre := ht.stkPre
      stkPar := ht.stkPar
      bkt := nofun
      pp := nofun
      pub := fun a b rest e hs => by
        cases e
        exact ⟨(Michael.mem_insAfter hp).mpr (Or.inr rfl), hd.1, ht.dumKey n b rest rfl hs⟩ }

theorem OwnLe.linked : OwnLe (linked w) (.iCas w d prev cur) := by
  cases w with
  | top o => exact ⟨nofun, nofun, nofun⟩
  | dum x o stk => exact ⟨fun _ e => e, nofun, nofun⟩

/-- Linking an item is the linearization point of the successful insert; linking a dummy node is none. -/
theorem LinMove.linked (g : GOk c m tb k2 L) (ht : TOk c m L (.iCas w d prev cur)) (hw : wnode w = some n)
    (hp : prev ∈ L) (hpn : KLt m.so m.uk prev n) (hnc : ∀ x, m.next prev = some x → KLt m.so m.uk n x) :
    LinMove c m.so m.uk m.val (Has m.mark m.uk m.val L) (Has m.mark m.uk m.val (Michael.insAfter prev n L))
      (.iCas w d prev cur) (linked w) := by
  obtain ⟨hna, -, hnm, -⟩ := ht.own_node g hw rfl rfl
  have hhas := has_insert (mark := m.mark) (uk := m.uk) (val := m.val) (n := n) hp hnm
  cases w with
  | dum x o stk =>
    cases hw
    have hd := ht.dumPriv n rfl
    -- a dummy node is no item
    exact (LinMove.silent rfl rfl rfl rfl rfl).congr (fun _ _ => Iff.rfl)
      (fun j v => (hhas j v).trans ⟨fun e => e.elim id (fun e' => by omega), Or.inl⟩)
  | top o =>
    cases o <;> cases hw
    have hodd := (ht.item n rfl).1
    have hrs := g.regso n hodd hna
    refine .pending rfl rfl rfl nofun (fun r e => ?_) nofun
    cases e
    refine Michael.LPok.ins_ok (g.absent hp (hrs ▸ hpn) (fun x hx => hrs ▸ hnc x hx)) (fun j v => ?_)
    rw [hhas j v]
    simp [hodd]

end

theorem sinvl_step_iCas {c : Cfg} {s s' : St} {t : Tid} {ev : Ev} {L : List Nat} {w : OpK} {d prev : Nat}
    {cur : Option Nat}
    (h : SInvL c s L) (hpc : s.pc t = .iCas w d prev cur) (hs : step c s t = some (s', ev)) :
    ∃ L', SInvL c s' L' ∧ StepEff c s t s' L L' := by
  have ht := h.thr t
  rw [hpc] at ht
  simp only [step, hpc] at hs
  split at hs
  next => cases hs
  next n hw =>
    split at hs
    next hv =>
      simp only [Option.some.injEq, Prod.mk.injEq] at hs
      obtain ⟨rfl, -⟩ := hs
      obtain ⟨hna, hnL, hnm, hkS, hkU⟩ := ht.own_node h.g hw rfl rfl
      have hown := wnode_own hw (s.pc t) (by rw [hpc]; rfl) (by rw [hpc]; rfl)
      have hpL : prev ∈ L := (ht.lkPrev prev rfl).resolve_right (ne_true_of_eq_false hv.2)
      -- the new node sorts between `prev` and the successor of `prev`
      have hpn : KLt s.so s.uk prev n := by
        have : klt (s.so prev) (s.uk prev) (okeyS c s.so w) (okeyU s.uk w) := ht.keyPrev prev rfl
        rwa [hkS, hkU] at this
      have hnc : ∀ x, s.next prev = some x → KLt s.so s.uk n x := fun x hx => by
        have : klt (okeyS c s.so w) (okeyU s.uk w) (s.so x) (s.uk x) := ht.keyGt x (hv.1.symm.trans hx)
        rwa [hkS, hkU] at this
      exact ⟨Michael.insAfter prev n L,
        h.frame hpc rfl (h.g.link hpL hnL hna hnm ((ht.icas w d prev cur n rfl hw).trans hv.1.symm) hpn hnc)
          (fun u hu => (h.thr u).link hpL hv.2 (h.other_ne hu hown)) (ht.linked hw hpL) .linked,
        .nodes hpc (.linked h.g ht hw hpL hpn hnc)
          (fun a ha => ha.imp (fun hL => (Michael.mem_insAfter hpL).mpr (Or.inl hL)) id)
          (fun a hm => ⟨hm, upd_other _ _ _ _ (ne_of_mark hm hv.2)⟩) (fun a hm hm' => by rw [hm] at hm'; cases hm')⟩
    next =>
      simp only [Option.some.injEq, Prod.mk.injEq] at hs
      obtain ⟨rfl, -⟩ := hs
      exact h.pc_step hpc { ht with lkPrev := nofun, lkCur := nofun, keyPrev := nofun, keyGt := nofun, icas := nofun }
        (.same rfl rfl nofun)
        (.silent rfl rfl rfl rfl rfl)

end CdsVerif.Algo.SplitList
