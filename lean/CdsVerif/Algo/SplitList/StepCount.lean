/-
  Preservation of the split-list invariant by the steps of `inc_item_count` and by `--m_ItemCounter`: none of them
  touches the list, the table of bucket pointers or a linearization point; `cGrow` doubles the bucket count.
-/
import CdsVerif.Algo.SplitList.Search
namespace CdsVerif.Algo.SplitList
open CdsVerif.Machine CdsVerif.Spec CdsVerif.Lin
open CdsVerif.Algo.Michael (LPok isRO)

theorem sinvl_step_cLd1 {c : Cfg} {s s' : St} {t : Tid} {ev : Ev} {L : List Nat}
    (h : SInvL c s L) (hpc : s.pc t = .cLd1) (hs : step c s t = some (s', ev)) :
    ∃ L', SInvL c s' L' ∧ StepEff c s t s' L L' := by
  simp only [step, hpc, Option.some.injEq, Prod.mk.injEq] at hs
  obtain ⟨rfl, -⟩ := hs
  exact h.pc_step hpc { tok_idle c _ L with icas := nofun } ⟨nofun, nofun, nofun⟩
    (.after rfl rfl rfl rfl)

theorem sinvl_step_cAdd {c : Cfg} {s s' : St} {t : Tid} {ev : Ev} {L : List Nat} {mx : Nat}
    (h : SInvL c s L) (hpc : s.pc t = .cAdd mx) (hs : step c s t = some (s', ev)) :
    ∃ L', SInvL c s' L' ∧ StepEff c s t s' L L' := by
  simp only [step, hpc, Option.some.injEq, Prod.mk.injEq] at hs
  obtain ⟨rfl, -⟩ := hs
  unfold afterAdd
  split <;>
    exact h.pc_step hpc { tok_idle c _ L with icas := nofun } ⟨nofun, nofun, nofun⟩
      (.after rfl rfl rfl rfl)

theorem sinvl_step_cCnt {c : Cfg} (hc : SOHyp c) {s s' : St} {t : Tid} {ev : Ev} {L : List Nat} {mx : Nat}
    (h : SInvL c s L) (hpc : s.pc t = .cCnt mx) (hs : step c s t = some (s', ev)) :
    ∃ L', SInvL c s' L' ∧ StepEff c s t s' L L' := by
  simp only [step, hpc, Option.some.injEq, Prod.mk.injEq] at hs
  obtain ⟨rfl, -⟩ := hs
  unfold afterCnt
  split
  · rename_i hcap
    split
    · exact h.pc_step hpc { tok_idle c _ L with icas := nofun } ⟨nofun, nofun, nofun⟩
        (.after rfl rfl rfl rfl)
    · exact h.pc_step hpc { tok_idle c _ L with icas := nofun, szb := fun _ e => Option.some.inj e ▸ grow_bound hc hcap }
          ⟨nofun, nofun, nofun⟩
        (.after rfl rfl rfl rfl)
  · exact h.pc_step hpc { tok_idle c _ L with icas := nofun } ⟨nofun, nofun, nofun⟩
      (.after rfl rfl rfl rfl)

theorem sinvl_step_cMax {c : Cfg} {s s' : St} {t : Tid} {ev : Ev} {L : List Nat} {mx sz : Nat}
    (h : SInvL c s L) (hpc : s.pc t = .cMax mx sz) (hs : step c s t = some (s', ev)) :
    ∃ L', SInvL c s' L' ∧ StepEff c s t s' L L' := by
  have ht := h.thr t
  rw [hpc] at ht
  simp only [step, hpc, Option.some.injEq, Prod.mk.injEq] at hs
  obtain ⟨rfl, -⟩ := hs
  exact h.pc_step hpc { ht with icas := nofun } ⟨nofun, nofun, nofun⟩
    (.after rfl rfl rfl rfl)

theorem sinvl_step_cGrow {c : Cfg} {s s' : St} {t : Tid} {ev : Ev} {L : List Nat} {sz : Nat}
    (h : SInvL c s L) (hpc : s.pc t = .cGrow sz) (hs : step c s t = some (s', ev)) :
    ∃ L', SInvL c s' L' ∧ StepEff c s t s' L L' := by
  have hszb := (h.thr t).szb sz (by rw [hpc]; rfl)
  have hcb : (if s.cnt2 = sz then sz + 1 else s.cnt2) ≤ c.maxLog := by
    split
    · exact hszb
    · exact h.g.cntb
  simp only [step, hpc, Option.some.injEq, Prod.mk.injEq] at hs
  obtain ⟨rfl, -⟩ := hs
  refine ⟨L,
    h.frame hpc rfl { h.g with cntb := hcb } (fun u _ => h.thr u) { tok_idle c _ L with icas := nofun }
      ⟨nofun, nofun, nofun⟩,
    .words hpc (.after rfl rfl rfl rfl) (fun _ e => e) (fun _ e => ⟨e, rfl⟩)
      (fun a e e' => by rw [e] at e'; cases e') (fun _ _ e => e) (fun hg => ⟨rfl, rfl, rfl, rfl, ?_, rfl, rfl⟩)
      (fun _ e => absurd rfl e)⟩
  split
  · rename_i e; rw [e]
  · rename_i e; exact absurd (if_neg e) hg

theorem sinvl_step_cSat {c : Cfg} {s s' : St} {t : Tid} {ev : Ev} {L : List Nat}
    (h : SInvL c s L) (hpc : s.pc t = .cSat) (hs : step c s t = some (s', ev)) :
    ∃ L', SInvL c s' L' ∧ StepEff c s t s' L L' := by
  simp only [step, hpc, Option.some.injEq, Prod.mk.injEq] at hs
  obtain ⟨rfl, -⟩ := hs
  exact h.pc_step hpc { tok_idle c _ L with icas := nofun } ⟨nofun, nofun, nofun⟩
    (.after rfl rfl rfl rfl)

theorem sinvl_step_cSub {c : Cfg} {s s' : St} {t : Tid} {ev : Ev} {L : List Nat} {v : Int}
    (h : SInvL c s L) (hpc : s.pc t = .cSub v) (hs : step c s t = some (s', ev)) :
    ∃ L', SInvL c s' L' ∧ StepEff c s t s' L L' := by
  simp only [step, hpc, Option.some.injEq, Prod.mk.injEq] at hs
  obtain ⟨rfl, -⟩ := hs
  exact h.pc_step hpc { tok_idle c _ L with icas := nofun } ⟨nofun, nofun, nofun⟩
    (.after rfl rfl rfl rfl)

end CdsVerif.Algo.SplitList
