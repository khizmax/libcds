/-
  C18, SplitListSet machine: every linked dummy node is published or about to be published.

  * `grow_step` : the only step that puts a new node on the chain is the successful CAS of `link_node` (`iCas`), and it puts
    the node `wnode w` there; after it the thread is at `linked w` — `iPub` for a dummy node.
  * `PubOk`: a linked dummy node is referred to by the bucket table, or some thread is at `iPub` with it.
  * `BOk`: every bucket number a thread works with, and every bucket whose table entry is set, is below
    the current bucket count `2 ^ m_nBucketCountLog2`.
  Consequence at quiescent states: the bucket table (below the bucket count) refers to exactly the linked dummy nodes
  (`Published`, `Algo/SplitList/Snap.lean`), so the dump that tells dummies by the table is the dump that tells them
  by the kind of the node.
-/
import CdsVerif.Algo.SplitList.Reach
namespace CdsVerif.Algo.SplitList
open CdsVerif.Machine CdsVerif.Spec CdsVerif.Lin
open CdsVerif.Algo.Michael (Chain)

/-! ### Which nodes a step can put on the chain -/

theorem chain_sub {f : Nat → Option Nat} {S : Nat → Prop} (hS : ∀ a b, S a → f a = some b → S b) :
    ∀ {p : Option Nat} {l : List Nat}, Chain f p l → (∀ a, p = some a → S a) → ∀ x, x ∈ l → S x
  | _, [], _, _, x, hx => by simp at hx
  | _, a :: l, hc, hp, x, hx => by
    simp only [Chain] at hc
    have ha : S a := hp a hc.1
    rcases List.mem_cons.1 hx with rfl | hx
    · exact ha
    · exact chain_sub hS hc.2 (fun b hb => hS a b ha hb) x hx

/-- What a step does to the pointers. -/
def MemEff (s s' : St) (t : Tid) : Prop :=
  s'.next = s.next ∨
  (∃ n v, s'.next = upd s.next n v ∧ (pcTop (s.pc t) = some (.ins n) ∨ pcDum (s.pc t) = some n)) ∨
  (∃ prev cur nx, s'.next = upd s.next prev nx ∧ s.next prev = some cur ∧ s.mark prev = false ∧
    pcPrev (s.pc t) = some prev ∧ pcFrozen (s.pc t) = some (cur, nx, true)) ∨
  (∃ w d p cur n, s.pc t = .iCas w d p cur ∧ wnode w = some n ∧ s.next p = cur ∧ s.mark p = false ∧
    s'.next = upd s.next p (some n) ∧ s'.pc t = linked w)

theorem memEff_step {c : Cfg} {s s' : St} {t : Tid} {ev : Ev} (hs : step c s t = some (s', ev)) : MemEff s s' t := by
  cases hpc : s.pc t with
  | iCas w d prev cur =>
    simp only [step, hpc] at hs
    split at hs
    · cases hs
    · rename_i n heq
      split at hs
      · rename_i hcond
        simp only [Option.some.injEq, Prod.mk.injEq] at hs; obtain ⟨rfl, -⟩ := hs
        exact Or.inr (Or.inr (Or.inr ⟨w, d, prev, cur, n, hpc, heq, hcond.1, hcond.2, rfl, upd_same _ _ _⟩))
      · simp only [Option.some.injEq, Prod.mk.injEq] at hs; obtain ⟨rfl, -⟩ := hs
        exact Or.inl rfl
  | sHelp w d prev cur nx =>
    simp only [step, hpc] at hs
    split at hs
    · rename_i hcond
      simp only [Option.some.injEq, Prod.mk.injEq] at hs; obtain ⟨rfl, -⟩ := hs
      exact Or.inr (Or.inr (Or.inl ⟨prev, cur, nx, rfl, hcond.1, hcond.2, by rw [hpc]; rfl, by rw [hpc]; rfl⟩))
    · simp only [Option.some.injEq, Prod.mk.injEq] at hs; obtain ⟨rfl, -⟩ := hs
      exact Or.inl rfl
  | eUnl k prev cur nx =>
    simp only [step, hpc] at hs
    split at hs
    · rename_i hcond
      simp only [Option.some.injEq, Prod.mk.injEq] at hs; obtain ⟨rfl, -⟩ := hs
      exact Or.inr (Or.inr (Or.inl ⟨prev, cur, nx, rfl, hcond.1, hcond.2, by rw [hpc]; rfl, by rw [hpc]; rfl⟩))
    · simp only [Option.some.injEq, Prod.mk.injEq] at hs; obtain ⟨rfl, -⟩ := hs
      exact Or.inl rfl
  | iSt w d prev cur =>
    simp only [step, hpc] at hs
    split at hs
    · cases hs
    · rename_i n heq
      simp only [Option.some.injEq, Prod.mk.injEq] at hs; obtain ⟨rfl, -⟩ := hs
      refine Or.inr (Or.inl ⟨n, cur, rfl, ?_⟩)
      cases w with
      | top o => cases o <;> simp [wnode] at heq; subst heq; exact Or.inl (by rw [hpc]; rfl)
      | dum m o stk => simp [wnode] at heq; subst heq; exact Or.inr (by rw [hpc]; rfl)
  | iClr w d =>
    simp only [step, hpc] at hs
    split at hs
    · cases hs
    · rename_i n heq
      simp only [Option.some.injEq, Prod.mk.injEq] at hs; obtain ⟨rfl, -⟩ := hs
      refine Or.inr (Or.inl ⟨n, none, rfl, ?_⟩)
      cases w with
      | top o => cases o <;> simp [wnode] at heq; subst heq; exact Or.inl (by rw [hpc]; rfl)
      | dum m o stk => simp [wnode] at heq; subst heq; exact Or.inr (by rw [hpc]; rfl)
  | _ =>
    simp only [step, hpc] at hs
    all_goals (try (split at hs))
    all_goals (try (split at hs))
    all_goals first
      | (cases hs; done)
      | (simp only [Option.some.injEq, Prod.mk.injEq] at hs; obtain ⟨rfl, -⟩ := hs; exact Or.inl rfl)

/-- The nodes on the chain after a step: those before, and the node linked by a successful `iCas`. -/
theorem grow_step {c : Cfg} {s s' : St} {t : Tid} {ev : Ev} {L L' : List Nat} (hl : SInvL c s L)
    (hl' : SInvL c s' L') (hs : step c s t = some (s', ev)) :
    ∀ x, x ∈ L' → x ∈ L ∨ ∃ w d p cur, s.pc t = .iCas w d p cur ∧ wnode w = some x ∧ s'.pc t = linked w := by
  have h0 : (0 : Nat) ∈ L := hl.g.zero_mem
  have hch' : Chain s'.next (some 0) L' := hl'.g.chain
  have hnm : ∀ a b, a ∈ L → s.next a = some b → b ∈ L := fun a b ha hb => hl.g.next_mem ha hb
  have ht := hl.thr t
  rcases memEff_step hs with e | ⟨n, v, e, hn⟩ | ⟨prev, cur, nx, e, h1, h2, h3, h4⟩ | ⟨w, d, p, cur, n, hpc, hw, h1, h2, e, hpc'⟩
  · intro x hx
    refine Or.inl (chain_sub (S := fun a => a ∈ L) ?_ hch' (fun a ha => by cases ha; exact h0) x hx)
    intro a b ha hb; rw [e] at hb; exact hnm a b ha hb
  · have hnL : n ∉ L := by
      rcases hn with hn | hn
      · exact (ht.item n hn).2.2.1
      · exact (ht.dumPriv n hn).2.2
    intro x hx
    refine Or.inl (chain_sub (S := fun a => a ∈ L) ?_ hch' (fun a ha => by cases ha; exact h0) x hx)
    intro a b ha hb
    have hne : a ≠ n := fun e2 => hnL (e2 ▸ ha)
    rw [e, upd_other _ _ _ _ hne] at hb
    exact hnm a b ha hb
  · have hpL : prev ∈ L := (ht.lkPrev prev h3).resolve_right (by simp [h2])
    have hcL : cur ∈ L := hnm prev cur hpL h1
    have hfr := ht.frozen cur nx h4
    intro x hx
    refine Or.inl (chain_sub (S := fun a => a ∈ L) ?_ hch' (fun a ha => by cases ha; exact h0) x hx)
    intro a b ha hb
    rw [e] at hb
    by_cases hap : a = prev
    · subst hap
      rw [upd_same] at hb
      exact hnm cur b hcL (hfr.1.trans hb)
    · rw [upd_other _ _ _ _ hap] at hb
      exact hnm a b ha hb
  · have hpL : p ∈ L := (ht.lkPrev p (by rw [hpc]; rfl)).resolve_right (by simp [h2])
    have hnL : n ∉ L := by
      cases w with
      | top o =>
        cases o <;> simp [wnode] at hw
        subst hw
        exact (ht.item _ (by rw [hpc]; rfl)).2.2.1
      | dum m o stk =>
        simp [wnode] at hw; subst hw
        exact (ht.dumPriv _ (by rw [hpc]; rfl)).2.2
    have hic : s.next n = cur := ht.icas w d p cur n hpc hw
    intro x hx
    have := chain_sub (S := fun a => a ∈ L ∨ a = n) ?_ hch' (fun a ha => by cases ha; exact Or.inl h0) x hx
    · rcases this with h | h
      · exact Or.inl h
      · subst h; exact Or.inr ⟨w, d, p, cur, hpc, hw, hpc'⟩
    · intro a b ha hb
      rw [e] at hb
      rcases ha with ha | ha
      · by_cases hap : a = p
        · subst hap; rw [upd_same] at hb; cases hb; exact Or.inr rfl
        · rw [upd_other _ _ _ _ hap] at hb; exact Or.inl (hnm a b ha hb)
      · subst ha
        have hne : a ≠ p := fun e2 => hnL (e2 ▸ hpL)
        rw [upd_other _ _ _ _ hne, hic, ← h1] at hb
        exact Or.inl (hnm p b hpL hb)

/-! ### A linked dummy node is published, or its `init_bucket` is about to publish it -/

def PubOk (s : St) (L : List Nat) : Prop :=
  ∀ d, d ∈ L → d % 2 = 0 → (∃ b, s.table b = some d) ∨ ∃ t, pcPub (s.pc t) = some d

theorem pcPub_spec {pc : PC} {d : Nat} (h : pcPub pc = some d) : ∃ o stk, pc = .iPub o stk d := by
  cases pc <;> simp_all [pcPub]

theorem pubOk_init (c : Cfg) : PubOk (init c) [0] := by
  intro d hd _
  simp only [List.mem_singleton] at hd; subst hd
  exact Or.inl ⟨0, by simp [init]⟩

theorem publish_store {c : Cfg} {s s' : St} {t : Tid} {ev : Ev} {o : Top} {stk : List Nat} {d : Nat}
    (hs : step c s t = some (s', ev)) (hpc : s.pc t = .iPub o stk d) : ∃ b, s'.table b = some d := by
  simp only [step, hpc] at hs
  split at hs
  · cases hs
  · rename_i b rest
    simp only [Option.some.injEq, Prod.mk.injEq] at hs; obtain ⟨rfl, -⟩ := hs
    exact ⟨b, upd_same _ _ _⟩

theorem pubOk_step {c : Cfg} {s s' : St} {t : Tid} {ev : Ev} {L L' : List Nat} (hl : SInvL c s L)
    (hl' : SInvL c s' L') (he : StepEff c s t s' L L') (hP : PubOk s L) (hs : step c s t = some (s', ev)) :
    PubOk s' L' := by
  intro d hd hev
  rcases grow_step hl hl' hs d hd with hdL | ⟨w, dd, p, cur, hpc, hw, hpc'⟩
  · rcases hP d hdL hev with ⟨b, hb⟩ | ⟨t2, ht2⟩
    · exact Or.inl ⟨b, he.tabmono b d hb⟩
    · by_cases e : t2 = t
      · subst e
        obtain ⟨o, stk, hpc⟩ := pcPub_spec ht2
        exact Or.inl (publish_store hs hpc)
      · exact Or.inr ⟨t2, by rw [he.frame t2 e]; exact ht2⟩
  · cases w with
    | top o =>
      cases o <;> simp [wnode] at hw
      subst hw
      have := ((hl.thr t).item _ (by rw [hpc]; rfl)).1
      omega
    | dum m o stk =>
      simp [wnode] at hw; subst hw
      exact Or.inr ⟨t, by rw [hpc']; rfl⟩

theorem pubOk_invoke {c : Cfg} {s s' : St} {t : Tid} {op : GOp} {L : List Nat} (he : InvokeEff c s t op s' L)
    (hP : PubOk s L) : PubOk s' L := by
  intro d hd hev
  rcases hP d hd hev with ⟨b, hb⟩ | ⟨t2, ht2⟩
  · exact Or.inl ⟨b, by rw [he.table]; exact hb⟩
  · have e : t2 ≠ t := by intro e; rw [e, he.was] at ht2; simp [pcPub] at ht2
    exact Or.inr ⟨t2, by rw [he.frame t2 e]; exact ht2⟩

/-! ### Bucket numbers stay below the bucket count -/

/-- The bucket numbers a thread works with are below `2 ^ k2`. -/
def BOk (k2 : Nat) (pc : PC) : Prop := (∀ b, b ∈ pcStk pc → b < 2 ^ k2) ∧ (∀ b, pcBkt pc = some b → b < 2 ^ k2)

def StkSub (pc' : PC) (stk : List Nat) : Prop := (∀ b, b ∈ pcStk pc' → b ∈ stk) ∧ pcBkt pc' = none

theorem bok_of_sub {k2 : Nat} {pc pc' : PC} (h : BOk k2 pc) (hs : StkSub pc' (pcStk pc)) : BOk k2 pc' :=
  ⟨fun b hb => h.1 b (hs.1 b hb), fun b hb => by rw [hs.2] at hb; cases hb⟩

theorem bok_mono {k2 k2' : Nat} {pc : PC} (h : BOk k2 pc) (hk : k2 ≤ k2') : BOk k2' pc :=
  have : 2 ^ k2 ≤ 2 ^ k2' := Nat.pow_le_pow_right (by decide) hk
  ⟨fun b hb => Nat.lt_of_lt_of_le (h.1 b hb) this, fun b hb => Nat.lt_of_lt_of_le (h.2 b hb) this⟩

theorem stk_initRet (o : Top) (stk : List Nat) (d : Nat) : StkSub (initRet o stk d) stk := by
  unfold initRet; split
  · exact ⟨fun b hb => by simp [pcStk, wstk] at hb, rfl⟩
  · exact ⟨fun b hb => by simp [pcStk, wstk] at hb, rfl⟩
  · exact ⟨fun b hb => List.mem_cons_of_mem _ hb, rfl⟩

theorem stk_notFound (w : OpK) (d prev : Nat) (cur : Option Nat) : StkSub (notFound w d prev cur) (wstk w) := by
  cases w with
  | dum m o stk => exact ⟨fun b hb => hb, rfl⟩
  | top o => cases o <;> exact ⟨fun b hb => by simp [notFound, pcStk, wstk] at hb, rfl⟩

theorem stk_found (val : Nat → Int) (w : OpK) (d prev cur : Nat) (nx : Option Nat) :
    StkSub (found val w d prev cur nx) (wstk w) := by
  cases w with
  | dum m o stk => exact ⟨fun b hb => hb, rfl⟩
  | top o => cases o <;> exact ⟨fun b hb => by simp [found, pcStk] at hb, rfl⟩

theorem stk_advance (w : OpK) (d prev : Nat) (nx : Option Nat) : StkSub (advance w d prev nx) (wstk w) := by
  unfold advance; split
  · exact stk_notFound w d prev none
  · exact ⟨fun b hb => hb, rfl⟩

theorem stk_afterHd (c : Cfg) (so : Nat → Nat) (uk : Nat → Int) (w : OpK) (d : Nat) (nx : Option Nat) (mk : Bool) :
    StkSub (afterHd c so uk w d nx mk) (wstk w) := by
  unfold afterHd; split
  · exact ⟨fun b hb => hb, rfl⟩
  · split
    · exact stk_advance w d d nx
    · exact ⟨fun b hb => hb, rfl⟩

theorem stk_afterChk (c : Cfg) (so : Nat → Nat) (uk val : Nat → Int) (w : OpK) (d prev cur : Nat) (nx : Option Nat)
    (mk : Bool) : StkSub (afterChk c so uk val w d prev cur nx mk) (wstk w) := by
  unfold afterChk; split
  · exact ⟨fun b hb => hb, rfl⟩
  · split
    · exact stk_found val w d prev cur nx
    · split
      · exact stk_notFound w d prev (some cur)
      · exact stk_advance w d cur nx

theorem stk_linked (w : OpK) : StkSub (linked w) (wstk w) := by
  cases w with
  | dum m o stk => exact ⟨fun b hb => hb, rfl⟩
  | top o => exact ⟨fun b hb => by simp [linked, pcStk] at hb, rfl⟩

theorem stk_afterAdd (items mx : Nat) (l : List Nat) : StkSub (afterAdd items mx) l := by
  unfold afterAdd; split <;> exact ⟨fun b hb => by simp [pcStk] at hb, rfl⟩

theorem stk_afterCnt (c : Cfg) (sz mx : Nat) (l : List Nat) : StkSub (afterCnt c sz mx) l := by
  unfold afterCnt; split
  · split <;> exact ⟨fun b hb => by simp [pcStk] at hb, rfl⟩
  · exact ⟨fun b hb => by simp [pcStk] at hb, rfl⟩

theorem parent_le (b : Nat) : parent b ≤ b := Nat.sub_le _ _

theorem bkt_step {c : Cfg} {s s' : St} {t : Tid} {ev : Ev} (hs : step c s t = some (s', ev))
    (hb : BOk s.cnt2 (s.pc t)) (htab : ∀ b d, s.table b = some d → b < 2 ^ s.cnt2) :
    s.cnt2 ≤ s'.cnt2 ∧ BOk s'.cnt2 (s'.pc t) ∧ ∀ b d, s'.table b = some d → b < 2 ^ s'.cnt2 := by
  cases hpc : s.pc t with
  | gCnt o =>
    simp only [step, hpc] at hs
    simp only [Option.some.injEq, Prod.mk.injEq] at hs; obtain ⟨rfl, -⟩ := hs
    refine ⟨Nat.le_refl _, ?_, htab⟩
    dsimp only; rw [upd_same]
    refine ⟨fun b hb => by simp [pcStk] at hb, fun b hb => ?_⟩
    simp only [pcBkt, Option.some.injEq] at hb
    rw [← hb]; exact Nat.mod_lt _ (Nat.two_pow_pos _)
  | gTab o b =>
    rw [hpc] at hb
    have hbb := hb.2 b rfl
    simp only [step, hpc] at hs
    split at hs
    all_goals
      simp only [Option.some.injEq, Prod.mk.injEq] at hs; obtain ⟨rfl, -⟩ := hs
      refine ⟨Nat.le_refl _, ?_, htab⟩
      dsimp only; rw [upd_same]
      refine ⟨fun x hx => ?_, fun x hx => by simp [pcBkt] at hx⟩
      simp [pcStk, wstk] at hx
      try (subst hx; exact hbb)
  | iPar o stk =>
    rw [hpc] at hb
    simp only [step, hpc] at hs
    split at hs
    · cases hs
    · rename_i b rest
      split at hs
      all_goals
        simp only [Option.some.injEq, Prod.mk.injEq] at hs; obtain ⟨rfl, -⟩ := hs
        refine ⟨Nat.le_refl _, ?_, htab⟩
        dsimp only; rw [upd_same]
        refine ⟨fun x hx => ?_, fun x hx => by simp [pcBkt] at hx⟩
        simp only [pcStk, List.mem_cons] at hx
        have h1 := hb.1 b (by simp [pcStk])
        rcases hx with hx | hx
        · first
            | (subst hx; exact Nat.lt_of_le_of_lt (parent_le b) h1)
            | (subst hx; exact h1)
        · exact hb.1 x (by simp only [pcStk, List.mem_cons]; first | exact hx | exact Or.inr hx)
  | iPub o stk m =>
    rw [hpc] at hb
    simp only [step, hpc] at hs
    split at hs
    · cases hs
    · rename_i b rest
      simp only [Option.some.injEq, Prod.mk.injEq] at hs; obtain ⟨rfl, -⟩ := hs
      refine ⟨Nat.le_refl _, ?_, ?_⟩
      · dsimp only; rw [upd_same]; exact bok_of_sub hb (stk_initRet _ _ _)
      · intro x d hx
        dsimp only at hx
        unfold upd at hx
        split at hx
        · rename_i e; rw [e]; exact hb.1 b (by simp [pcStk])
        · exact htab x d hx
  | cGrow sz =>
    simp only [step, hpc] at hs
    simp only [Option.some.injEq, Prod.mk.injEq] at hs; obtain ⟨rfl, -⟩ := hs
    have hle : s.cnt2 ≤ (if s.cnt2 = sz then sz + 1 else s.cnt2) := by split <;> omega
    refine ⟨hle, ?_, fun b d hx => Nat.lt_of_lt_of_le (htab b d hx) (Nat.pow_le_pow_right (by decide) hle)⟩
    dsimp only; rw [upd_same]
    exact ⟨fun b hb => by simp [pcStk] at hb, fun b hb => by simp [pcBkt] at hb⟩
  | _ =>
    rw [hpc] at hb
    simp only [step, hpc] at hs
    all_goals (try (split at hs))
    all_goals (try (split at hs))
    all_goals first
      | (cases hs; done)
      | (simp only [Option.some.injEq, Prod.mk.injEq] at hs; obtain ⟨rfl, -⟩ := hs
         refine ⟨Nat.le_refl _, ?_, htab⟩
         dsimp only; rw [upd_same]
         first
           | exact bok_of_sub hb ⟨fun b hb => hb, rfl⟩
           | exact bok_of_sub hb ⟨fun b hb => by simp [pcStk, wstk] at hb, rfl⟩
           | exact bok_of_sub hb (stk_initRet _ _ _)
           | exact bok_of_sub hb (stk_afterHd _ _ _ _ _ _ _)
           | exact bok_of_sub hb (stk_afterChk _ _ _ _ _ _ _ _ _ _)
           | exact bok_of_sub hb (stk_advance _ _ _ _)
           | exact bok_of_sub hb (stk_linked _)
           | exact bok_of_sub hb (stk_afterAdd _ _ _)
           | exact bok_of_sub hb (stk_afterCnt _ _ _ _))

/-! ### The combined invariant -/

/-- Structural invariant, publication invariant and bucket-number bounds. -/
def PBInv (c : Cfg) (s : St) : Prop :=
  ∃ L, SInvL c s L ∧ PubOk s L ∧ (∀ t, BOk s.cnt2 (s.pc t)) ∧ ∀ b d, s.table b = some d → b < 2 ^ s.cnt2

theorem bok_idle (k2 : Nat) : BOk k2 .idle := ⟨fun b hb => by simp [pcStk] at hb, fun b hb => by simp [pcBkt] at hb⟩

theorem invoke_bok {c : Cfg} {s s' : St} {t : Tid} {op : GOp} (hs : invoke c s t op = some s') (k2 : Nat) :
    BOk k2 (s'.pc t) := by
  unfold invoke at hs
  split at hs
  all_goals first
    | (simp only [Option.some.injEq] at hs; subst hs; dsimp only; rw [upd_same]
       exact ⟨fun b hb => by simp [pcStk] at hb, fun b hb => by simp [pcBkt] at hb⟩)
    | (cases hs; done)

theorem pbinv_init (c : Cfg) (hc : SOHyp c) : PBInv c (init c) := by
  refine ⟨[0], sinv_init c hc, pubOk_init c, fun t => bok_idle _, ?_⟩
  intro b d h
  simp only [init] at h ⊢
  split at h
  · rename_i e; rw [e]; decide
  · cases h

theorem pbinv_apply {c : Cfg} (hc : SOHyp c) {s s' : St} {t : Tid} {a : Act} {o : Obs} (h : PBInv c s)
    (hap : (model c).apply s t a = some (s', o)) : PBInv c s' := by
  obtain ⟨L, hl, hP, hB, hT⟩ := h
  rcases Model.apply_cases hap with ⟨op, -, hs1, -⟩ | ⟨e, -, hs1, -⟩ | ⟨r, -, hs1, -⟩
  · obtain ⟨hl', he⟩ := sinvl_invoke hl hs1
    refine ⟨L, hl', pubOk_invoke he hP, fun t2 => ?_, fun b d hb => by rw [he.cnt2]; rw [he.table] at hb; exact hT b d hb⟩
    by_cases e : t2 = t
    · subst e; exact invoke_bok hs1 _
    · rw [he.frame t2 e, he.cnt2]; exact hB t2
  · obtain ⟨L', hl', he⟩ := sinvl_step hc hl hs1
    obtain ⟨hle, hb1, ht1⟩ := bkt_step hs1 (hB t) hT
    refine ⟨L', hl', pubOk_step hl hl' he hP hs1, fun t2 => ?_, ht1⟩
    by_cases e : t2 = t
    · subst e; exact hb1
    · rw [he.frame t2 e]; exact bok_mono (hB t2) hle
  · obtain ⟨hl', hd, hi, hfr, -, -, -, -, -, etab, ecnt⟩ := sinvl_result hl hs1
    refine ⟨L, hl', ?_, fun t2 => ?_, fun b d hb => by rw [ecnt]; rw [etab] at hb; exact hT b d hb⟩
    · intro d hdL hev
      rcases hP d hdL hev with ⟨b, hb⟩ | ⟨t2, ht2⟩
      · exact Or.inl ⟨b, by rw [etab]; exact hb⟩
      · have e : t2 ≠ t := by intro e; rw [e, hd] at ht2; simp [pcPub] at ht2
        exact Or.inr ⟨t2, by rw [hfr t2 e]; exact ht2⟩
    · by_cases e : t2 = t
      · subst e; rw [hi]; exact bok_idle _
      · rw [hfr t2 e, ecnt]; exact hB t2

theorem pbinv_reachable {c : Cfg} (hc : SOHyp c) (s : St) (h : (model c).Reachable (init c) s) : PBInv c s :=
  (model c).inv_reachable (PBInv c) (init c) (pbinv_init c hc) (fun _ _ _ _ _ hi hap => pbinv_apply hc hi hap) s h

end CdsVerif.Algo.SplitList
