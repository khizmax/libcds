/-
  Structural invariant of the split-list model and the refinement of the abstract map: definitions and the lemmas shared
  by the step proofs (`Step*.lean`); reachability and its consequences are in `Reach.lean`.

  * `Chain s.next (some 0) L` : following the pointers from node 0 (the dummy of bucket 0, where `m_pHead` points for
    ever) visits exactly `L` and then null.  ALL linked nodes are on `L`: dummies, items, marked or not.
  * `SInvL c s L` : `L` is strictly sorted by ( split-order hash, user key ) (`KLt`), hence duplicate-free; dummy nodes
    (even ids) are never marked (`dmark`), carry an even split-order key (`dumso`), items (odd ids) the key
    `regular_hash( hash( user key ))` (`regso`); every published bucket pointer points to a linked dummy node carrying
    the dummy key of that bucket (`tab`); the dummy a MichaelList operation starts from is linked and sorts before the
    key searched for (`start`); the buckets `init_bucket` works on are buckets of the operation's hash for smaller
    tables, each the parent of the one below it on the recursion stack (`stkPre`, `stkPar`); plus the MichaelList
    clauses of `Algo/Michael/Inv.lean`.
  * The abstract map: `Has mark uk val L k v` — some unmarked ITEM on `L` carries `(k, v)`.
  * Linearization points: as for the MichaelList (`lpRet`, `postRet`, `tent`); linking a dummy node, publishing a
    bucket pointer and growing the table are not linearization points of anything: they leave the abstract map alone.
-/
import CdsVerif.Algo.SplitList.Lemmas
namespace CdsVerif.Algo.SplitList
open CdsVerif.Machine CdsVerif.Spec CdsVerif.Lin
open CdsVerif.Algo.Michael (LPok isRO)

/-! ### Projections of program counters -/

def wtop : OpK → Top
  | .top o => o
  | .dum _ o _ => o

def wstk : OpK → List Nat
  | .top _ => []
  | .dum _ _ stk => stk

def wdum : OpK → Option Nat
  | .top _ => none
  | .dum m _ _ => some m

def gop (uk val : Nat → Int) : Top → GOp
  | .ins n => ⟨"insert", [uk n, val n]⟩
  | .era k => ⟨"erase", [k]⟩
  | .fnd k => ⟨"find", [k]⟩
  | .con k => ⟨"contains", [k]⟩

def foundRet (val : Nat → Int) (o : Top) (cur : Nat) : Option GRet :=
  match o with
  | .ins _ => some [0]
  | .era _ => none
  | .fnd _ => some [1, val cur]
  | .con _ => some [1]

def absentRet (o : Top) : Option GRet :=
  match o with
  | .ins _ => none
  | .era _ => some [0]
  | .fnd _ => some [0]
  | .con _ => some [0]

/-- The TENTATIVE result of a client's traversal that has just validated `pNext = pCur->m_pNext` (unmarked); see
    `Algo/Michael/Inv.lean`.  The traversal that links a dummy node has no result. -/
def tent (c : Cfg) (so : Nat → Nat) (uk val : Nat → Int) (w : OpK) (cur : Nat) (nx : Option Nat) (mk : Bool) :
    Option GRet :=
  match w with
  | .dum _ _ _ => none
  | .top o =>
    if mk = true then none
    else if so cur = okeyS c so (.top o) ∧ uk cur = okeyU uk (.top o) then foundRet val o cur
    else if klt (so cur) (uk cur) (okeyS c so (.top o)) (okeyU uk (.top o)) ∧ nx = none then absentRet o
    else none

/-- The client operation, while its result is not definitive. -/
def pcTop : PC → Option Top
  | .idle => none
  | .gCnt o => some o
  | .gTab o _ => some o
  | .iPar o _ => some o
  | .iBkt o _ _ => some o
  | .iAl1 o _ _ => some o
  | .iAl2 o _ _ => some o
  | .iPub o _ _ => some o
  | .iWait o _ => some o
  | .sHd1 w _ => some (wtop w)
  | .sHd2 w _ _ _ => some (wtop w)
  | .sNx1 w _ _ _ => some (wtop w)
  | .sNx2 w _ _ _ _ _ => some (wtop w)
  | .sChk w _ _ _ _ _ => some (wtop w)
  | .sHelp w _ _ _ _ => some (wtop w)
  | .iSt w _ _ _ => some (wtop w)
  | .iCas w _ _ _ => some (wtop w)
  | .iClr w _ => some (wtop w)
  | .eMark k _ _ _ _ => some (.era k)
  | .eUnl _ _ _ _ => none
  | .cLd1 => none
  | .cAdd _ => none
  | .cCnt _ => none
  | .cMax _ _ => none
  | .cGrow _ => none
  | .cSat => none
  | .cSub _ => none
  | .done _ => none

/-- The stack of `init_bucket` calls in progress (innermost first). -/
def pcStk : PC → List Nat
  | .idle => []
  | .gCnt _ => []
  | .gTab _ _ => []
  | .iPar _ stk => stk
  | .iBkt _ stk _ => stk
  | .iAl1 _ stk _ => stk
  | .iAl2 _ stk _ => stk
  | .iPub _ stk _ => stk
  | .iWait _ stk => stk
  | .sHd1 w _ => wstk w
  | .sHd2 w _ _ _ => wstk w
  | .sNx1 w _ _ _ => wstk w
  | .sNx2 w _ _ _ _ _ => wstk w
  | .sChk w _ _ _ _ _ => wstk w
  | .sHelp w _ _ _ _ => wstk w
  | .iSt w _ _ _ => wstk w
  | .iCas w _ _ _ => wstk w
  | .iClr w _ => wstk w
  | .eMark _ _ _ _ _ => []
  | .eUnl _ _ _ _ => []
  | .cLd1 => []
  | .cAdd _ => []
  | .cCnt _ => []
  | .cMax _ _ => []
  | .cGrow _ => []
  | .cSat => []
  | .cSub _ => []
  | .done _ => []

/-- The dummy node `init_bucket` is linking (still private). -/
def pcDum : PC → Option Nat
  | .idle => none
  | .gCnt _ => none
  | .gTab _ _ => none
  | .iPar _ _ => none
  | .iBkt _ _ _ => none
  | .iAl1 _ _ _ => none
  | .iAl2 _ _ _ => none
  | .iPub _ _ _ => none
  | .iWait _ _ => none
  | .sHd1 w _ => wdum w
  | .sHd2 w _ _ _ => wdum w
  | .sNx1 w _ _ _ => wdum w
  | .sNx2 w _ _ _ _ _ => wdum w
  | .sChk w _ _ _ _ _ => wdum w
  | .sHelp w _ _ _ _ => wdum w
  | .iSt w _ _ _ => wdum w
  | .iCas w _ _ _ => wdum w
  | .iClr w _ => wdum w
  | .eMark _ _ _ _ _ => none
  | .eUnl _ _ _ _ => none
  | .cLd1 => none
  | .cAdd _ => none
  | .cCnt _ => none
  | .cMax _ _ => none
  | .cGrow _ => none
  | .cSat => none
  | .cSub _ => none
  | .done _ => none

/-- The dummy node the MichaelList operation starts from (`refHead`). -/
def pcStart : PC → Option Nat
  | .idle => none
  | .gCnt _ => none
  | .gTab _ _ => none
  | .iPar _ _ => none
  | .iBkt _ _ _ => none
  | .iAl1 _ _ _ => none
  | .iAl2 _ _ _ => none
  | .iPub _ _ _ => none
  | .iWait _ _ => none
  | .sHd1 _ d => some d
  | .sHd2 _ d _ _ => some d
  | .sNx1 _ d _ _ => some d
  | .sNx2 _ d _ _ _ _ => some d
  | .sChk _ d _ _ _ _ => some d
  | .sHelp _ d _ _ _ => some d
  | .iSt _ d _ _ => some d
  | .iCas _ d _ _ => some d
  | .iClr _ d => some d
  | .eMark _ d _ _ _ => some d
  | .eUnl _ _ _ _ => none
  | .cLd1 => none
  | .cAdd _ => none
  | .cCnt _ => none
  | .cMax _ _ => none
  | .cGrow _ => none
  | .cSat => none
  | .cSub _ => none
  | .done _ => none

/-- The node `pPrev` points into. -/
def pcPrev : PC → Option Nat
  | .idle => none
  | .gCnt _ => none
  | .gTab _ _ => none
  | .iPar _ _ => none
  | .iBkt _ _ _ => none
  | .iAl1 _ _ _ => none
  | .iAl2 _ _ _ => none
  | .iPub _ _ _ => none
  | .iWait _ _ => none
  | .sHd1 _ _ => none
  | .sHd2 _ _ _ _ => none
  | .sNx1 _ _ prev _ => some prev
  | .sNx2 _ _ prev _ _ _ => some prev
  | .sChk _ _ prev _ _ _ => some prev
  | .sHelp _ _ prev _ _ => some prev
  | .iSt _ _ prev _ => some prev
  | .iCas _ _ prev _ => some prev
  | .iClr _ _ => none
  | .eMark _ _ prev _ _ => some prev
  | .eUnl _ prev _ _ => some prev
  | .cLd1 => none
  | .cAdd _ => none
  | .cCnt _ => none
  | .cMax _ _ => none
  | .cGrow _ => none
  | .cSat => none
  | .cSub _ => none
  | .done _ => none

/-- The node `pCur`. -/
def pcCur : PC → Option Nat
  | .idle => none
  | .gCnt _ => none
  | .gTab _ _ => none
  | .iPar _ _ => none
  | .iBkt _ _ _ => none
  | .iAl1 _ _ _ => none
  | .iAl2 _ _ _ => none
  | .iPub _ _ _ => none
  | .iWait _ _ => none
  | .sHd1 _ _ => none
  | .sHd2 _ _ _ _ => none
  | .sNx1 _ _ _ cur => some cur
  | .sNx2 _ _ _ cur _ _ => some cur
  | .sChk _ _ _ cur _ _ => some cur
  | .sHelp _ _ _ cur _ => some cur
  | .iSt _ _ _ cur => cur
  | .iCas _ _ _ cur => cur
  | .iClr _ _ => none
  | .eMark _ _ _ cur _ => some cur
  | .eUnl _ _ cur _ => some cur
  | .cLd1 => none
  | .cAdd _ => none
  | .cCnt _ => none
  | .cMax _ _ => none
  | .cGrow _ => none
  | .cSat => none
  | .cSub _ => none
  | .done _ => none

/-- The node `pNext`. -/
def pcNx : PC → Option Nat
  | .idle => none
  | .gCnt _ => none
  | .gTab _ _ => none
  | .iPar _ _ => none
  | .iBkt _ _ _ => none
  | .iAl1 _ _ _ => none
  | .iAl2 _ _ _ => none
  | .iPub _ _ _ => none
  | .iWait _ _ => none
  | .sHd1 _ _ => none
  | .sHd2 _ _ nx _ => nx
  | .sNx1 _ _ _ _ => none
  | .sNx2 _ _ _ _ nx _ => nx
  | .sChk _ _ _ _ nx _ => nx
  | .sHelp _ _ _ _ nx => nx
  | .iSt _ _ _ _ => none
  | .iCas _ _ _ _ => none
  | .iClr _ _ => none
  | .eMark _ _ _ _ nx => nx
  | .eUnl _ _ _ nx => nx
  | .cLd1 => none
  | .cAdd _ => none
  | .cCnt _ => none
  | .cMax _ _ => none
  | .cGrow _ => none
  | .cSat => none
  | .cSub _ => none
  | .done _ => none

/-- The node an eraser is about to mark, and the key it erases. -/
def pcEq : PC → Option (Nat × Int)
  | .idle => none
  | .gCnt _ => none
  | .gTab _ _ => none
  | .iPar _ _ => none
  | .iBkt _ _ _ => none
  | .iAl1 _ _ _ => none
  | .iAl2 _ _ _ => none
  | .iPub _ _ _ => none
  | .iWait _ _ => none
  | .sHd1 _ _ => none
  | .sHd2 _ _ _ _ => none
  | .sNx1 _ _ _ _ => none
  | .sNx2 _ _ _ _ _ _ => none
  | .sChk _ _ _ _ _ _ => none
  | .sHelp _ _ _ _ _ => none
  | .iSt _ _ _ _ => none
  | .iCas _ _ _ _ => none
  | .iClr _ _ => none
  | .eMark k _ _ cur _ => some (cur, k)
  | .eUnl _ _ _ _ => none
  | .cLd1 => none
  | .cAdd _ => none
  | .cCnt _ => none
  | .cMax _ _ => none
  | .cGrow _ => none
  | .cSat => none
  | .cSub _ => none
  | .done _ => none

/-- A link `a.next = ( x, m )` the thread has read (or written); relied upon when `m = 1`. -/
def pcFrozen : PC → Option (Nat × Option Nat × Bool)
  | .idle => none
  | .gCnt _ => none
  | .gTab _ _ => none
  | .iPar _ _ => none
  | .iBkt _ _ _ => none
  | .iAl1 _ _ _ => none
  | .iAl2 _ _ _ => none
  | .iPub _ _ _ => none
  | .iWait _ _ => none
  | .sHd1 _ _ => none
  | .sHd2 _ _ _ _ => none
  | .sNx1 _ _ _ _ => none
  | .sNx2 _ _ _ cur nx mk => some (cur, nx, mk)
  | .sChk _ _ _ cur nx mk => some (cur, nx, mk)
  | .sHelp _ _ _ cur nx => some (cur, nx, true)
  | .iSt _ _ _ _ => none
  | .iCas _ _ _ _ => none
  | .iClr _ _ => none
  | .eMark _ _ _ _ _ => none
  | .eUnl _ _ cur nx => some (cur, nx, true)
  | .cLd1 => none
  | .cAdd _ => none
  | .cCnt _ => none
  | .cMax _ _ => none
  | .cGrow _ => none
  | .cSat => none
  | .cSub _ => none
  | .done _ => none

/-- The parent bucket's dummy held by `init_bucket`. -/
def pcPP : PC → Option Nat
  | .idle => none
  | .gCnt _ => none
  | .gTab _ _ => none
  | .iPar _ _ => none
  | .iBkt _ _ pp => some pp
  | .iAl1 _ _ pp => some pp
  | .iAl2 _ _ pp => some pp
  | .iPub _ _ _ => none
  | .iWait _ _ => none
  | .sHd1 _ _ => none
  | .sHd2 _ _ _ _ => none
  | .sNx1 _ _ _ _ => none
  | .sNx2 _ _ _ _ _ _ => none
  | .sChk _ _ _ _ _ _ => none
  | .sHelp _ _ _ _ _ => none
  | .iSt _ _ _ _ => none
  | .iCas _ _ _ _ => none
  | .iClr _ _ => none
  | .eMark _ _ _ _ _ => none
  | .eUnl _ _ _ _ => none
  | .cLd1 => none
  | .cAdd _ => none
  | .cCnt _ => none
  | .cMax _ _ => none
  | .cGrow _ => none
  | .cSat => none
  | .cSub _ => none
  | .done _ => none

/-- The linked dummy `init_bucket` is about to publish. -/
def pcPub : PC → Option Nat
  | .idle => none
  | .gCnt _ => none
  | .gTab _ _ => none
  | .iPar _ _ => none
  | .iBkt _ _ _ => none
  | .iAl1 _ _ _ => none
  | .iAl2 _ _ _ => none
  | .iPub _ _ m => some m
  | .iWait _ _ => none
  | .sHd1 _ _ => none
  | .sHd2 _ _ _ _ => none
  | .sNx1 _ _ _ _ => none
  | .sNx2 _ _ _ _ _ _ => none
  | .sChk _ _ _ _ _ _ => none
  | .sHelp _ _ _ _ _ => none
  | .iSt _ _ _ _ => none
  | .iCas _ _ _ _ => none
  | .iClr _ _ => none
  | .eMark _ _ _ _ _ => none
  | .eUnl _ _ _ _ => none
  | .cLd1 => none
  | .cAdd _ => none
  | .cCnt _ => none
  | .cMax _ _ => none
  | .cGrow _ => none
  | .cSat => none
  | .cSub _ => none
  | .done _ => none

/-- The bucket number computed by `get_bucket`. -/
def pcBkt : PC → Option Nat
  | .idle => none
  | .gCnt _ => none
  | .gTab _ b => some b
  | .iPar _ _ => none
  | .iBkt _ _ _ => none
  | .iAl1 _ _ _ => none
  | .iAl2 _ _ _ => none
  | .iPub _ _ _ => none
  | .iWait _ _ => none
  | .sHd1 _ _ => none
  | .sHd2 _ _ _ _ => none
  | .sNx1 _ _ _ _ => none
  | .sNx2 _ _ _ _ _ _ => none
  | .sChk _ _ _ _ _ _ => none
  | .sHelp _ _ _ _ _ => none
  | .iSt _ _ _ _ => none
  | .iCas _ _ _ _ => none
  | .iClr _ _ => none
  | .eMark _ _ _ _ _ => none
  | .eUnl _ _ _ _ => none
  | .cLd1 => none
  | .cAdd _ => none
  | .cCnt _ => none
  | .cMax _ _ => none
  | .cGrow _ => none
  | .cSat => none
  | .cSub _ => none
  | .done _ => none

/-- The table size (log2) `inc_item_count` is about to increase. -/
def pcSz : PC → Option Nat
  | .idle => none
  | .gCnt _ => none
  | .gTab _ _ => none
  | .iPar _ _ => none
  | .iBkt _ _ _ => none
  | .iAl1 _ _ _ => none
  | .iAl2 _ _ _ => none
  | .iPub _ _ _ => none
  | .iWait _ _ => none
  | .sHd1 _ _ => none
  | .sHd2 _ _ _ _ => none
  | .sNx1 _ _ _ _ => none
  | .sNx2 _ _ _ _ _ _ => none
  | .sChk _ _ _ _ _ _ => none
  | .sHelp _ _ _ _ _ => none
  | .iSt _ _ _ _ => none
  | .iCas _ _ _ _ => none
  | .iClr _ _ => none
  | .eMark _ _ _ _ _ => none
  | .eUnl _ _ _ _ => none
  | .cLd1 => none
  | .cAdd _ => none
  | .cCnt _ => none
  | .cMax _ sz => some sz
  | .cGrow sz => some sz
  | .cSat => none
  | .cSub _ => none
  | .done _ => none

/-- The key the thread's traversal is looking for: split-order part … -/
def skeyS (c : Cfg) (so : Nat → Nat) : PC → Nat
  | .idle => 0
  | .gCnt _ => 0
  | .gTab _ _ => 0
  | .iPar _ _ => 0
  | .iBkt _ _ _ => 0
  | .iAl1 _ _ _ => 0
  | .iAl2 _ _ _ => 0
  | .iPub _ _ _ => 0
  | .iWait _ _ => 0
  | .sHd1 w _ => okeyS c so w
  | .sHd2 w _ _ _ => okeyS c so w
  | .sNx1 w _ _ _ => okeyS c so w
  | .sNx2 w _ _ _ _ _ => okeyS c so w
  | .sChk w _ _ _ _ _ => okeyS c so w
  | .sHelp w _ _ _ _ => okeyS c so w
  | .iSt w _ _ _ => okeyS c so w
  | .iCas w _ _ _ => okeyS c so w
  | .iClr w _ => okeyS c so w
  | .eMark k _ _ _ _ => c.reg (c.hash k)
  | .eUnl k _ _ _ => c.reg (c.hash k)
  | .cLd1 => 0
  | .cAdd _ => 0
  | .cCnt _ => 0
  | .cMax _ _ => 0
  | .cGrow _ => 0
  | .cSat => 0
  | .cSub _ => 0
  | .done _ => 0

/-- … and user-key part. -/
def skeyU (uk : Nat → Int) : PC → Int
  | .idle => 0
  | .gCnt _ => 0
  | .gTab _ _ => 0
  | .iPar _ _ => 0
  | .iBkt _ _ _ => 0
  | .iAl1 _ _ _ => 0
  | .iAl2 _ _ _ => 0
  | .iPub _ _ _ => 0
  | .iWait _ _ => 0
  | .sHd1 w _ => okeyU uk w
  | .sHd2 w _ _ _ => okeyU uk w
  | .sNx1 w _ _ _ => okeyU uk w
  | .sNx2 w _ _ _ _ _ => okeyU uk w
  | .sChk w _ _ _ _ _ => okeyU uk w
  | .sHelp w _ _ _ _ => okeyU uk w
  | .iSt w _ _ _ => okeyU uk w
  | .iCas w _ _ _ => okeyU uk w
  | .iClr w _ => okeyU uk w
  | .eMark k _ _ _ _ => k
  | .eUnl k _ _ _ => k
  | .cLd1 => 0
  | .cAdd _ => 0
  | .cCnt _ => 0
  | .cMax _ _ => 0
  | .cGrow _ => 0
  | .cSat => 0
  | .cSub _ => 0
  | .done _ => 0

/-- The result fixed definitively, for a thread that has passed its linearization point for good. -/
def postRet (val : Nat → Int) : PC → Option GRet
  | .idle => none
  | .gCnt _ => none
  | .gTab _ _ => none
  | .iPar _ _ => none
  | .iBkt _ _ _ => none
  | .iAl1 _ _ _ => none
  | .iAl2 _ _ _ => none
  | .iPub _ _ _ => none
  | .iWait _ _ => none
  | .sHd1 _ _ => none
  | .sHd2 _ _ _ _ => none
  | .sNx1 _ _ _ _ => none
  | .sNx2 _ _ _ _ _ _ => none
  | .sChk _ _ _ _ _ _ => none
  | .sHelp _ _ _ _ _ => none
  | .iSt _ _ _ _ => none
  | .iCas _ _ _ _ => none
  | .iClr _ _ => none
  | .eMark _ _ _ _ _ => none
  | .eUnl _ _ cur _ => some [1, val cur]
  | .cLd1 => some [1]
  | .cAdd _ => some [1]
  | .cCnt _ => some [1]
  | .cMax _ _ => some [1]
  | .cGrow _ => some [1]
  | .cSat => some [1]
  | .cSub v => some [1, v]
  | .done r => some r

/-- The result of the thread's current (definitive or tentative) linearization. -/
def lpRet (c : Cfg) (so : Nat → Nat) (uk val : Nat → Int) : PC → Option GRet
  | .idle => none
  | .gCnt _ => none
  | .gTab _ _ => none
  | .iPar _ _ => none
  | .iBkt _ _ _ => none
  | .iAl1 _ _ _ => none
  | .iAl2 _ _ _ => none
  | .iPub _ _ _ => none
  | .iWait _ _ => none
  | .sHd1 _ _ => none
  | .sHd2 _ _ _ _ => none
  | .sNx1 _ _ _ _ => none
  | .sNx2 _ _ _ _ _ _ => none
  | .sChk w _ _ cur nx mk => tent c so uk val w cur nx mk
  | .sHelp _ _ _ _ _ => none
  | .iSt _ _ _ _ => none
  | .iCas _ _ _ _ => none
  | .iClr _ _ => none
  | .eMark _ _ _ _ _ => none
  | .eUnl _ _ cur _ => some [1, val cur]
  | .cLd1 => some [1]
  | .cAdd _ => some [1]
  | .cCnt _ => some [1]
  | .cMax _ _ => some [1]
  | .cGrow _ => some [1]
  | .cSat => some [1]
  | .cSub v => some [1, v]
  | .done r => some r

/-- The operation a thread is executing, while its result is not definitive. -/
def opOf (uk val : Nat → Int) : PC → Option GOp
  | .idle => none
  | .gCnt o => some (gop uk val o)
  | .gTab o _ => some (gop uk val o)
  | .iPar o _ => some (gop uk val o)
  | .iBkt o _ _ => some (gop uk val o)
  | .iAl1 o _ _ => some (gop uk val o)
  | .iAl2 o _ _ => some (gop uk val o)
  | .iPub o _ _ => some (gop uk val o)
  | .iWait o _ => some (gop uk val o)
  | .sHd1 w _ => some (gop uk val (wtop w))
  | .sHd2 w _ _ _ => some (gop uk val (wtop w))
  | .sNx1 w _ _ _ => some (gop uk val (wtop w))
  | .sNx2 w _ _ _ _ _ => some (gop uk val (wtop w))
  | .sChk w _ _ _ _ _ => some (gop uk val (wtop w))
  | .sHelp w _ _ _ _ => some (gop uk val (wtop w))
  | .iSt w _ _ _ => some (gop uk val (wtop w))
  | .iCas w _ _ _ => some (gop uk val (wtop w))
  | .iClr w _ => some (gop uk val (wtop w))
  | .eMark k _ _ _ _ => some (gop uk val (.era k))
  | .eUnl _ _ _ _ => none
  | .cLd1 => none
  | .cAdd _ => none
  | .cCnt _ => none
  | .cMax _ _ => none
  | .cGrow _ => none
  | .cSat => none
  | .cSub _ => none
  | .done _ => none

/-- The successor the new node of `link_node` is going to get. -/
def pcGtCur : PC → Option Nat
  | .idle => none
  | .gCnt _ => none
  | .gTab _ _ => none
  | .iPar _ _ => none
  | .iBkt _ _ _ => none
  | .iAl1 _ _ _ => none
  | .iAl2 _ _ _ => none
  | .iPub _ _ _ => none
  | .iWait _ _ => none
  | .sHd1 _ _ => none
  | .sHd2 _ _ _ _ => none
  | .sNx1 _ _ _ _ => none
  | .sNx2 _ _ _ _ _ _ => none
  | .sChk _ _ _ _ _ _ => none
  | .sHelp _ _ _ _ _ => none
  | .iSt _ _ _ cur => cur
  | .iCas _ _ _ cur => cur
  | .iClr _ _ => none
  | .eMark _ _ _ _ _ => none
  | .eUnl _ _ _ _ => none
  | .cLd1 => none
  | .cAdd _ => none
  | .cCnt _ => none
  | .cMax _ _ => none
  | .cGrow _ => none
  | .cSat => none
  | .cSub _ => none
  | .done _ => none

/-! ### The structural invariant -/

/-- The part of the state the per-thread clauses talk about. -/
structure Mem where
  next : Nat → Option Nat
  mark : Nat → Bool
  so : Nat → Nat
  uk : Nat → Int
  val : Nat → Int
  cnt : Nat
  acnt : Nat

/-- The memory part of a state (a notation, not a function: two states are never compared as a whole). -/
macro "mem!" s:term:max : term => `(Mem.mk ($s).next ($s).mark ($s).so ($s).uk ($s).val ($s).cnt ($s).acnt)

/-- Node `a` has been handed out: items by `insert` (odd ids), dummy nodes by `alloc_aux_node` (even ids). -/
def Alloc (m : Mem) (a : Nat) : Prop := (a % 2 = 1 ∧ a < 2 * m.cnt + 1) ∨ (a % 2 = 0 ∧ a < 2 * m.acnt)

/-- Clauses about the shared memory alone. -/
structure GOk (c : Cfg) (m : Mem) (tb : Nat → Option Nat) (k2 : Nat) (L : List Nat) : Prop where
  chain : Michael.Chain m.next (some 0) L
  sorted : L.Pairwise (KLt m.so m.uk)
  alloc : ∀ a, a ∈ L → Alloc m a
  unalloc : ∀ a, ¬ Alloc m a → m.next a = none ∧ m.mark a = false
  dmark : ∀ a, a % 2 = 0 → m.mark a = false
  regso : ∀ a, a % 2 = 1 → Alloc m a → m.so a = c.reg (c.hash (m.uk a))
  dumso : ∀ a, a % 2 = 0 → Alloc m a → m.so a % 2 = 0
  succ : ∀ a b, m.mark a = true → m.next a = some b → (b ∈ L ∨ m.mark b = true)
  tab : ∀ b d, tb b = some d → d ∈ L ∧ d % 2 = 0 ∧ m.so d = c.dum b ∧ m.uk d = 0
  tab0 : tb 0 = some 0
  cntb : k2 ≤ c.maxLog

/-- Each bucket on the recursion stack of `init_bucket` is the parent of the one below it. -/
def ParChain : List Nat → Prop
  | [] => True
  | [_] => True
  | b' :: b :: rest => b' = parent b ∧ ParChain (b :: rest)

/-- Clauses about one thread's program counter. -/
structure TOk (c : Cfg) (m : Mem) (L : List Nat) (pc : PC) : Prop where
  item : ∀ n, pcTop pc = some (.ins n) → n % 2 = 1 ∧ Alloc m n ∧ n ∉ L ∧ m.mark n = false
  dumPriv : ∀ x, pcDum pc = some x → x % 2 = 0 ∧ Alloc m x ∧ x ∉ L
  dumKey : ∀ x b rest, pcDum pc = some x → pcStk pc = b :: rest → m.so x = c.dum b ∧ m.uk x = 0
  dumStk : ∀ x, pcDum pc = some x → pcStk pc ≠ []
  lkPrev : ∀ a, pcPrev pc = some a → a ∈ L ∨ m.mark a = true
  lkCur : ∀ a, pcCur pc = some a → a ∈ L ∨ m.mark a = true
  lkNx : ∀ a, pcNx pc = some a → a ∈ L ∨ m.mark a = true
  keyPrev : ∀ a, pcPrev pc = some a → klt (m.so a) (m.uk a) (skeyS c m.so pc) (skeyU m.uk pc)
  keyGt : ∀ a, pcGtCur pc = some a → klt (skeyS c m.so pc) (skeyU m.uk pc) (m.so a) (m.uk a)
  keyEq : ∀ a k, pcEq pc = some (a, k) → m.so a = c.reg (c.hash k) ∧ m.uk a = k
  frozen : ∀ a x, pcFrozen pc = some (a, x, true) → m.next a = x ∧ m.mark a = true
  icas : ∀ w d p x n, pc = .iCas w d p x → wnode w = some n → m.next n = x
  start : ∀ d, pcStart pc = some d → d ∈ L ∧ d % 2 = 0 ∧ klt (m.so d) (m.uk d) (skeyS c m.so pc) (skeyU m.uk pc)
  szb : ∀ sz, pcSz pc = some sz → sz + 1 ≤ c.maxLog
  stkPre : ∀ o b, pcTop pc = some o → b ∈ pcStk pc → 0 < b ∧ Pre c (c.hash (tkey m.uk o)) b
  stkPar : ParChain (pcStk pc)
  bkt : ∀ o b, pcTop pc = some o → pcBkt pc = some b → Pre c (c.hash (tkey m.uk o)) b
  pp : ∀ p b rest, pcPP pc = some p → pcStk pc = b :: rest →
    p ∈ L ∧ p % 2 = 0 ∧ m.so p = c.dum (parent b) ∧ m.uk p = 0
  pub : ∀ x b rest, pcPub pc = some x → pcStk pc = b :: rest → x ∈ L ∧ x % 2 = 0 ∧ m.so x = c.dum b ∧ m.uk x = 0

/-- Clauses about pairs of threads: a private node has one owner; a node has been marked by one eraser. -/
structure Own (pc : Tid → PC) : Prop where
  item : ∀ t1 t2 n, pcTop (pc t1) = some (.ins n) → pcTop (pc t2) = some (.ins n) → t1 = t2
  dum : ∀ t1 t2 x, pcDum (pc t1) = some x → pcDum (pc t2) = some x → t1 = t2
  eunl : ∀ t1 t2 k1 p1 a x1 k2 p2 x2, pc t1 = .eUnl k1 p1 a x1 → pc t2 = .eUnl k2 p2 a x2 → t1 = t2

structure SInvL (c : Cfg) (s : St) (L : List Nat) : Prop where
  g : GOk c (mem! s) s.table s.cnt2 L
  thr : ∀ t, TOk c (mem! s) L (s.pc t)
  own : Own s.pc

def SInv (c : Cfg) (s : St) : Prop := ∃ L, SInvL c s L

theorem tok_idle (c : Cfg) (m : Mem) (L : List Nat) : TOk c m L .idle :=
  ⟨nofun, nofun, nofun, nofun, nofun, nofun, nofun, nofun, nofun, nofun, nofun, nofun, nofun, nofun, nofun, trivial,
   nofun, nofun, nofun⟩

theorem sinv_init (c : Cfg) (hc : SOHyp c) : SInvL c (init c) [0] := by
  refine ⟨?_, fun t => tok_idle _ _ _, ?_⟩
  · constructor <;> simp [init, Michael.Chain, Alloc, hc.dum0]
    all_goals first | exact hc.log1 | (intro a h; omega) | (intro b d h; split at h <;> simp_all [hc.dum0])
  · constructor <;> simp [init, pcTop, pcDum]

/-- Thread `t` moves to `pc'`: ownership is preserved if `pc'` owns nothing that `t` did not own before, unless
    nobody owned it. -/
theorem Own.upd {pc : Tid → PC} (h : Own pc) (t : Tid) (pc' : PC)
    (hi : ∀ n, pcTop pc' = some (.ins n) → pcTop (pc t) = some (.ins n) ∨ ∀ t2, pcTop (pc t2) ≠ some (.ins n))
    (hd : ∀ x, pcDum pc' = some x → pcDum (pc t) = some x ∨ ∀ t2, pcDum (pc t2) ≠ some x)
    (he : ∀ k p a x, pc' = .eUnl k p a x →
      (∃ k0 p0 x0, pc t = .eUnl k0 p0 a x0) ∨ ∀ t2 k2 p2 x2, pc t2 ≠ .eUnl k2 p2 a x2) :
    Own (Machine.upd pc t pc') := by
  -- each clause says that two different threads do not hold the same thing: `Machine.pairs_upd`
  refine ⟨fun t1 t2 n h1 h2 => Classical.byContradiction fun hne => ?_,
    fun t1 t2 x h1 h2 => Classical.byContradiction fun hne => ?_,
    fun t1 t2 k1 p1 a x1 k2 p2 x2 h1 h2 => Classical.byContradiction fun hne => ?_⟩
  · exact pairs_upd (E := fun p q => ∀ n, pcTop p = some (.ins n) → pcTop q ≠ some (.ins n))
      (fun hpq n hq hp => hpq n hp hq) (fun u v huv n hu hv => huv (h.item u v n hu hv))
      (fun u hu n hw hun => (hi n hw).elim (fun ht => hu (h.item u t n hun ht)) (fun hnone => hnone u hun))
      hne n h1 h2
  · exact pairs_upd (E := fun p q => ∀ x, pcDum p = some x → pcDum q ≠ some x)
      (fun hpq x hq hp => hpq x hp hq) (fun u v huv x hu hv => huv (h.dum u v x hu hv))
      (fun u hu x hw hun => (hd x hw).elim (fun ht => hu (h.dum u t x hun ht)) (fun hnone => hnone u hun))
      hne x h1 h2
  · exact pairs_upd (E := fun p q : PC => ∀ k1 p1 a x1 k2 p2 x2, p = .eUnl k1 p1 a x1 → q ≠ .eUnl k2 p2 a x2)
      (fun hpq k1 p1 a x1 k2 p2 x2 hq hp => hpq k2 p2 a x2 k1 p1 x1 hp hq)
      (fun u v huv k1 p1 a x1 k2 p2 x2 hu hv => huv (h.eunl u v k1 p1 a x1 k2 p2 x2 hu hv))
      (fun u hu k1 p1 a x1 k2 p2 x2 hw hun => (he k1 p1 a x1 hw).elim
        (fun ⟨k0, p0, x0, ht⟩ => hu (h.eunl u t k2 p2 a x2 k0 p0 x0 hun ht)) (fun hnone => hnone u k2 p2 x2 hun))
      hne k1 p1 a x1 k2 p2 x2 h1 h2

theorem SInvL.unique {c : Cfg} {s : St} {L1 L2 : List Nat} (h1 : SInvL c s L1) (h2 : SInvL c s L2) : L1 = L2 :=
  Michael.Chain.functional h1.g.chain h2.g.chain

theorem GOk.head_cons {c : Cfg} {m : Mem} {tb : Nat → Option Nat} {k2 : Nat} {L : List Nat} (h : GOk c m tb k2 L) :
    ∃ l, L = 0 :: l := by
  have hc := h.chain
  cases L with
  | nil => simp [Michael.Chain] at hc
  | cons a r => simp only [Michael.Chain, Option.some.injEq] at hc; exact ⟨r, by rw [hc.1]⟩

theorem GOk.zero_mem {c : Cfg} {m : Mem} {tb : Nat → Option Nat} {k2 : Nat} {L : List Nat} (h : GOk c m tb k2 L) :
    0 ∈ L := by
  obtain ⟨l, rfl⟩ := h.head_cons; simp

theorem GOk.nodup {c : Cfg} {m : Mem} {tb : Nat → Option Nat} {k2 : Nat} {L : List Nat} (h : GOk c m tb k2 L) :
    L.Nodup := sorted_nodup h.sorted

/-- The successor of a linked node is linked. -/
theorem GOk.next_mem {c : Cfg} {m : Mem} {tb : Nat → Option Nat} {k2 : Nat} {L : List Nat} (h : GOk c m tb k2 L)
    {a b : Nat} (ha : a ∈ L) (hb : m.next a = some b) : b ∈ L :=
  List.mem_of_mem_tail (Michael.Chain.succ_mem h.chain ha hb)

/-- The successor of a node that is linked or marked is linked or marked. -/
theorem GOk.next_lk {c : Cfg} {m : Mem} {tb : Nat → Option Nat} {k2 : Nat} {L : List Nat} (h : GOk c m tb k2 L)
    {a b : Nat} (ha : a ∈ L ∨ m.mark a = true) (hb : m.next a = some b) : b ∈ L ∨ m.mark b = true := by
  rcases ha with ha | ha
  · exact Or.inl (h.next_mem ha hb)
  · exact h.succ a b ha hb

theorem GOk.lk_alloc {c : Cfg} {m : Mem} {tb : Nat → Option Nat} {k2 : Nat} {L : List Nat} (h : GOk c m tb k2 L)
    {a : Nat} (ha : a ∈ L ∨ m.mark a = true) : Alloc m a := by
  rcases ha with ha | ha
  · exact h.alloc a ha
  · apply Classical.byContradiction
    intro hn
    have := (h.unalloc a hn).2
    rw [this] at ha; simp at ha

/-- A node with an odd split-order key is an item. -/
theorem GOk.odd_of_so {c : Cfg} {m : Mem} {tb : Nat → Option Nat} {k2 : Nat} {L : List Nat} (h : GOk c m tb k2 L)
    {a : Nat} (ha : Alloc m a) (ho : m.so a % 2 = 1) : a % 2 = 1 := by
  apply Classical.byContradiction
  intro hn
  have := h.dumso a (by omega) ha
  omega

/-! ### The abstract map -/

/-- Some unmarked item on the chain carries `(k, v)`. -/
def Has (mark : Nat → Bool) (uk val : Nat → Int) (L : List Nat) (k v : Int) : Prop :=
  ∃ a, a ∈ L ∧ a % 2 = 1 ∧ mark a = false ∧ uk a = k ∧ val a = v

/-- No node on the chain has the key `( K1, K2 )`, when that key lies strictly between the key of a chain node `p`
    and the key of the successor of `p`. -/
theorem GOk.gap {c : Cfg} {s : Mem} {tb : Nat → Option Nat} {k2 : Nat} {L : List Nat} (h : GOk c s tb k2 L) {p : Nat} {K1 : Nat} {K2 : Int} (hp : p ∈ L)
    (hpk : klt (s.so p) (s.uk p) K1 K2) (hck : ∀ x, s.next p = some x → klt K1 K2 (s.so x) (s.uk x)) :
    ∀ a, a ∈ L → ¬ (s.so a = K1 ∧ s.uk a = K2) := by
  intro a ha hk
  rcases Michael.Chain.around h.chain h.sorted hp a ha with e | hlt | ⟨x, hx, e | hlt⟩
  · subst e; unfold klt at hpk; omega
  · unfold KLt klt at hlt; unfold klt at hpk; omega
  · subst e; have := hck a hx; unfold klt at this; omega
  · unfold KLt klt at hlt; have := hck x hx; unfold klt at this; omega

theorem GOk.absent {c : Cfg} {s : Mem} {tb : Nat → Option Nat} {k2 : Nat} {L : List Nat} (h : GOk c s tb k2 L) {p : Nat} {k : Int} (hp : p ∈ L)
    (hpk : klt (s.so p) (s.uk p) (c.reg (c.hash k)) k)
    (hck : ∀ x, s.next p = some x → klt (c.reg (c.hash k)) k (s.so x) (s.uk x)) :
    ∀ w, ¬ Has s.mark s.uk s.val L k w := by
  rintro w ⟨a, ha, hodd, -, hk, -⟩
  refine h.gap hp hpk hck a ha ⟨?_, hk⟩
  rw [h.regso a hodd (h.alloc a ha), hk]

/-- The key is absent: the operation (other than an insert) answers `[0]` and the map does not change. -/
theorem GOk.lp_absent {c : Cfg} {s : Mem} {tb : Nat → Option Nat} {k2 : Nat} {L : List Nat} (h : GOk c s tb k2 L) {p : Nat} {o : Top} {r : GRet} (hp : p ∈ L)
    (hpk : klt (s.so p) (s.uk p) (okeyS c s.so (.top o)) (okeyU s.uk (.top o)))
    (hck : ∀ x, s.next p = some x → klt (okeyS c s.so (.top o)) (okeyU s.uk (.top o)) (s.so x) (s.uk x))
    (hr : absentRet o = some r) :
    LPok (Has s.mark s.uk s.val L) (gop s.uk s.val o) r (Has s.mark s.uk s.val L) := by
  cases o <;> simp [absentRet] at hr <;> subst hr
  · exact Michael.LPok.ro_none (h.absent hp hpk hck) (fun _ _ => Iff.rfl) (Or.inl rfl)
  · exact Michael.LPok.ro_none (h.absent hp hpk hck) (fun _ _ => Iff.rfl) (Or.inr (Or.inl rfl))
  · exact Michael.LPok.ro_none (h.absent hp hpk hck) (fun _ _ => Iff.rfl) (Or.inr (Or.inr rfl))

/-- The key is present in the unmarked chain node `a`: a failing insert, a find, a contains. -/
theorem GOk.lp_present {c : Cfg} {s : Mem} {tb : Nat → Option Nat} {k2 : Nat} {L : List Nat} (h : GOk c s tb k2 L) (hc : SOHyp c) {a : Nat} {o : Top} {r : GRet}
    (ha : a ∈ L) (hm : s.mark a = false) (hs : s.so a = okeyS c s.so (.top o)) (hu : s.uk a = okeyU s.uk (.top o))
    (hitem : ∀ n, o = .ins n → Alloc s n ∧ n % 2 = 1)
    (hr : foundRet s.val o a = some r) :
    LPok (Has s.mark s.uk s.val L) (gop s.uk s.val o) r (Has s.mark s.uk s.val L) := by
  have hodd : a % 2 = 1 := by
    apply h.odd_of_so (h.alloc a ha)
    cases o with
    | ins n =>
      have := hitem n rfl
      rw [hs]; simp only [okeyS]; rw [h.regso n this.2 this.1]; exact hc.regOdd _
    | era k => rw [hs]; exact hc.regOdd _
    | fnd k => rw [hs]; exact hc.regOdd _
    | con k => rw [hs]; exact hc.regOdd _
  have hhas : Has s.mark s.uk s.val L (okeyU s.uk (.top o)) (s.val a) := ⟨a, ha, hodd, hm, hu, rfl⟩
  cases o <;> simp [foundRet] at hr <;> subst hr
  · exact Michael.LPok.ro_some hhas (fun _ _ => Iff.rfl) (Or.inl ⟨_, rfl, rfl⟩)
  · exact Michael.LPok.ro_some hhas (fun _ _ => Iff.rfl) (Or.inr (Or.inl ⟨rfl, rfl⟩))
  · exact Michael.LPok.ro_some hhas (fun _ _ => Iff.rfl) (Or.inr (Or.inr ⟨rfl, rfl⟩))

/-- Unlinking a marked node does not change the abstract map. -/
theorem has_erase {mark : Nat → Bool} {uk val : Nat → Int} {L : List Nat} {x : Nat} (hnd : L.Nodup)
    (hm : mark x = true) (k v : Int) : Has mark uk val (L.erase x) k v ↔ Has mark uk val L k v := by
  unfold Has
  constructor
  · rintro ⟨a, ha, h⟩
    exact ⟨a, (List.Nodup.mem_erase_iff hnd).mp ha |>.2, h⟩
  · rintro ⟨a, ha, h0, h1, h2⟩
    refine ⟨a, (List.Nodup.mem_erase_iff hnd).mpr ⟨?_, ha⟩, h0, h1, h2⟩
    intro e; rw [e, hm] at h1; simp at h1

/-- Linking an unmarked item adds its pair to the abstract map; linking a dummy node adds nothing. -/
theorem has_insert {mark : Nat → Bool} {uk val : Nat → Int} {L : List Nat} {p n : Nat} (hp : p ∈ L)
    (hnm : mark n = false) (j w : Int) :
    Has mark uk val (Michael.insAfter p n L) j w ↔ (Has mark uk val L j w ∨ (n % 2 = 1 ∧ j = uk n ∧ w = val n)) := by
  unfold Has
  constructor
  · rintro ⟨a, ha, h0, h1, h2, h3⟩
    rcases (Michael.mem_insAfter hp).mp ha with hm | e
    · exact Or.inl ⟨a, hm, h0, h1, h2, h3⟩
    · subst e; exact Or.inr ⟨h0, h2.symm, h3.symm⟩
  · rintro (⟨a, ha, h⟩ | ⟨e0, e1, e2⟩)
    · exact ⟨a, (Michael.mem_insAfter hp).mpr (Or.inl ha), h⟩
    · exact ⟨n, (Michael.mem_insAfter hp).mpr (Or.inr rfl), e0, hnm, e1.symm, e2.symm⟩

/-- Marking a chain item removes its user key from the abstract map. -/
theorem GOk.has_mark {c : Cfg} {s : Mem} {tb : Nat → Option Nat} {k2 : Nat} {L : List Nat} (h : GOk c s tb k2 L) {x : Nat} (hx : x ∈ L) (hodd : x % 2 = 1)
    (j w : Int) :
    Has (upd s.mark x true) s.uk s.val L j w ↔ (Has s.mark s.uk s.val L j w ∧ j ≠ s.uk x) := by
  unfold Has
  constructor
  · rintro ⟨a, ha, h0, h1, h2, h3⟩
    have hax : a ≠ x := by intro e; rw [e] at h1; simp [upd] at h1
    rw [upd_other _ _ _ _ hax] at h1
    refine ⟨⟨a, ha, h0, h1, h2, h3⟩, ?_⟩
    intro e
    refine hax (sorted_inj h.sorted a x ha hx ?_ (h2.trans e))
    rw [h.regso a h0 (h.alloc a ha), h.regso x hodd (h.alloc x hx), h2, e]
  · rintro ⟨⟨a, ha, h0, h1, h2, h3⟩, hne⟩
    have hax : a ≠ x := by intro e; rw [e] at h2; exact hne h2.symm
    exact ⟨a, ha, h0, by rw [upd_other _ _ _ _ hax]; exact h1, h2, h3⟩

/-- A tentative result never changes the sequential map. -/
theorem tent_ro {c : Cfg} {so : Nat → Nat} {uk val : Nat → Int} {w : OpK} {x : Nat} {nx : Option Nat} {mk : Bool}
    {r : GRet} (h : tent c so uk val w x nx mk = some r) : isRO (gop uk val (wtop w)) r = true := by
  cases w with
  | dum m o stk => simp [tent] at h
  | top o =>
    simp only [tent] at h
    split at h
    · simp at h
    · split at h
      · cases o <;> simp [foundRet] at h <;> subst h <;> simp [isRO, gop, wtop]
      · split at h
        · cases o <;> simp [absentRet] at h <;> subst h <;> simp [isRO, gop, wtop]
        · simp at h

/-! ### Keys and payloads of allocated nodes are immutable: what a program counter refers to is unaffected by an allocation -/

theorem okeyS_congr {c : Cfg} {so so' : Nat → Nat} {w : OpK} (h : ∀ n, wnode w = some n → so' n = so n) :
    okeyS c so' w = okeyS c so w := by
  cases w with
  | top o => cases o <;> simp_all [okeyS, wnode]
  | dum m o stk => simp_all [okeyS, wnode]

theorem okeyU_congr {uk uk' : Nat → Int} {w : OpK} (h : ∀ n, wnode w = some n → uk' n = uk n) :
    okeyU uk' w = okeyU uk w := by
  cases w with
  | top o => cases o <;> simp_all [okeyU, wnode]
  | dum m o stk => simp_all [okeyU, wnode]

/-- The nodes whose fields a program counter's bookkeeping reads. -/
def pcRefs (pc : PC) (a : Nat) : Prop :=
  pcTop pc = some (.ins a) ∨ pcDum pc = some a ∨ pcCur pc = some a

theorem wnode_refs {w : OpK} {n : Nat} (h : wnode w = some n) : wtop w = .ins n ∨ wdum w = some n := by
  cases w with
  | top o => cases o <;> simp_all [wnode, wtop]
  | dum m o stk => simp_all [wnode, wdum]

theorem skeyS_congr {c : Cfg} {so so' : Nat → Nat} {pc : PC} (h : ∀ a, pcRefs pc a → so' a = so a) :
    skeyS c so' pc = skeyS c so pc := by
  cases pc <;> simp only [skeyS] <;> first
    | rfl
    | (apply okeyS_congr; intro n hn; apply h; rcases wnode_refs hn with e | e <;> simp [pcRefs, pcTop, pcDum, e])

theorem skeyU_congr {uk uk' : Nat → Int} {pc : PC} (h : ∀ a, pcRefs pc a → uk' a = uk a) :
    skeyU uk' pc = skeyU uk pc := by
  cases pc <;> simp only [skeyU] <;> first
    | rfl
    | (apply okeyU_congr; intro n hn; apply h; rcases wnode_refs hn with e | e <;> simp [pcRefs, pcTop, pcDum, e])

theorem gop_congr {uk uk' val val' : Nat → Int} {o : Top}
    (h : ∀ n, o = .ins n → uk' n = uk n ∧ val' n = val n) : gop uk' val' o = gop uk val o := by
  cases o <;> simp_all [gop]

theorem tkey_congr {uk uk' : Nat → Int} {o : Top} (h : ∀ n, o = .ins n → uk' n = uk n) : tkey uk' o = tkey uk o := by
  cases o <;> simp_all [tkey]

theorem opOf_congr {uk uk' val val' : Nat → Int} {pc : PC}
    (h : ∀ a, pcRefs pc a → uk' a = uk a ∧ val' a = val a) : opOf uk' val' pc = opOf uk val pc := by
  cases pc <;> simp only [opOf] <;> first
    | rfl
    | (apply congrArg some; apply gop_congr; intro n hn; apply h; simp [pcRefs, pcTop, hn])

theorem lpRet_congr {c : Cfg} {so so' : Nat → Nat} {uk uk' val val' : Nat → Int} {pc : PC}
    (h : ∀ a, pcRefs pc a → so' a = so a ∧ uk' a = uk a ∧ val' a = val a) :
    lpRet c so' uk' val' pc = lpRet c so uk val pc := by
  cases pc <;> simp only [lpRet]
  case sChk w d p x nx mk =>
    have h1 := h x (by simp [pcRefs, pcCur])
    cases w with
    | dum m o stk => simp [tent]
    | top o =>
      have h2 : okeyS c so' (.top o) = okeyS c so (.top o) := okeyS_congr (fun n hn => by
        rcases wnode_refs hn with e | e
        · exact (h n (by simp [pcRefs, pcTop, e])).1
        · simp [wdum] at e)
      have h3 : okeyU uk' (.top o) = okeyU uk (.top o) := okeyU_congr (fun n hn => by
        rcases wnode_refs hn with e | e
        · exact (h n (by simp [pcRefs, pcTop, e])).2.1
        · simp [wdum] at e)
      cases o <;> simp [tent, foundRet, absentRet, h1, h2, h3]
  case eUnl k p x nx =>
    have := h x (by simp [pcRefs, pcCur])
    simp_all

theorem postRet_congr {val val' : Nat → Int} {pc : PC}
    (hc : ∀ a, pcCur pc = some a → val' a = val a) : postRet val' pc = postRet val pc := by
  cases pc <;> simp only [postRet]
  case eUnl k p x nx =>
    have := hc x (by simp [pcCur])
    simp_all

structure StepEff (c : Cfg) (s : St) (t : Tid) (s' : St) (L L' : List Nat) : Prop where
  frame : ∀ t2, t2 ≠ t → s'.pc t2 = s.pc t2
  lps : ∀ t2, t2 ≠ t → lpRet c s'.so s'.uk s'.val (s.pc t2) = lpRet c s.so s.uk s.val (s.pc t2)
  ops : ∀ t2, t2 ≠ t → opOf s'.uk s'.val (s.pc t2) = opOf s.uk s.val (s.pc t2)
  lp : lpRet c s.so s.uk s.val (s.pc t) = none → ∀ r, lpRet c s'.so s'.uk s'.val (s'.pc t) = some r →
        ∃ op, opOf s.uk s.val (s.pc t) = some op ∧ LPok (Has s.mark s.uk s.val L) op r (Has s'.mark s'.uk s'.val L')
  nolp : (lpRet c s.so s.uk s.val (s.pc t) ≠ none ∨ lpRet c s'.so s'.uk s'.val (s'.pc t) = none) →
        ∀ k v, Has s'.mark s'.uk s'.val L' k v ↔ Has s.mark s.uk s.val L k v
  keep : ∀ r, lpRet c s.so s.uk s.val (s.pc t) = some r → lpRet c s'.so s'.uk s'.val (s'.pc t) = some r ∨
          ((∃ op, opOf s.uk s.val (s.pc t) = some op ∧ isRO op r = true) ∧
            lpRet c s'.so s'.uk s'.val (s'.pc t) = none)
  pkeep : ∀ r, postRet s.val (s.pc t) = some r → postRet s'.val (s'.pc t) = some r
  op : postRet s'.val (s'.pc t) = none → opOf s'.uk s'.val (s'.pc t) = opOf s.uk s.val (s.pc t)
  busy : s.pc t ≠ .idle ∧ s'.pc t ≠ .idle
  mono : ∀ a, (a ∈ L ∨ s.mark a = true) → (a ∈ L' ∨ s'.mark a = true)
  frz : ∀ a, s.mark a = true → s'.mark a = true ∧ s'.next a = s.next a
  marks : ∀ a, s.mark a = false → s'.mark a = true →
    ∃ k d p x, s.pc t = .eMark k d p a x ∧ s'.pc t = .eUnl k p a x ∧ s.uk a = k ∧ a ∈ L ∧ a % 2 = 1
  keys : ∀ a, Alloc (mem! s) a → s'.so a = s.so a ∧ s'.uk a = s.uk a ∧ s'.val a = s.val a
  tabmono : ∀ b d, s.table b = some d → s'.table b = some d
  grow : s'.cnt2 ≠ s.cnt2 → L' = L ∧ s'.next = s.next ∧ s'.mark = s.mark ∧ s'.table = s.table ∧
    s'.cnt2 = s.cnt2 + 1 ∧ postRet s.val (s.pc t) = some [1] ∧ postRet s'.val (s'.pc t) = some [1]
  publish : ∀ b, s'.table b ≠ s.table b → L' = L ∧ s'.next = s.next ∧ s'.mark = s.mark ∧ s'.cnt2 = s.cnt2 ∧
    lpRet c s.so s.uk s.val (s.pc t) = none ∧ lpRet c s'.so s'.uk s'.val (s'.pc t) = none

end CdsVerif.Algo.SplitList
