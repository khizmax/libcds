/-
  Preservation of the split-list invariant by the steps of `get_bucket` / `init_bucket` (loads of the bucket count and of
  bucket pointers, allocation of a dummy node, publication of a bucket pointer, waiting for another thread's
  publication).  The insertion of the dummy node itself is a MichaelList insertion: `StepSearch.lean`, `StepCas.lean`.
-/
import CdsVerif.Algo.SplitList.Search
namespace CdsVerif.Algo.SplitList
open CdsVerif.Machine CdsVerif.Spec CdsVerif.Lin
open CdsVerif.Algo.Michael (LPok isRO)

/-- The key a client's traversal looks for is `( regular_hash( hash( key )), key )`. -/
theorem okey_top {c : Cfg} {m : Mem} {tb : Nat → Option Nat} {k2 : Nat} {L : List Nat} (g : GOk c m tb k2 L) {o : Top}
    (hitem : ∀ n, o = .ins n → n % 2 = 1 ∧ Alloc m n) :
    okeyS c m.so (.top o) = c.reg (c.hash (tkey m.uk o)) ∧ okeyU m.uk (.top o) = tkey m.uk o := by
  cases o with
  | ins n => have := hitem n rfl; simp [okeyS, okeyU, tkey, g.regso n this.1 this.2]
  | era k => simp [okeyS, okeyU, tkey]
  | fnd k => simp [okeyS, okeyU, tkey]
  | con k => simp [okeyS, okeyU, tkey]

section
variable {c : Cfg} {m : Mem} {tb : Nat → Option Nat} {k2 : Nat} {L : List Nat} {o : Top} {b d : Nat} {rest : List Nat}

/-- `get_bucket` hands the dummy `d` of bucket `b` to the client's MichaelList operation. -/
theorem tok_start (hc : SOHyp c) (g : GOk c m tb k2 L)
    (hitem : ∀ n, o = .ins n → n % 2 = 1 ∧ Alloc m n ∧ n ∉ L ∧ m.mark n = false)
    (hpre : Pre c (c.hash (tkey m.uk o)) b)
    (hd : d ∈ L ∧ d % 2 = 0 ∧ m.so d = c.dum b ∧ m.uk d = 0) : TOk c m L (.sHd1 (.top o) d) :=
  have hk := okey_top g (o := o) (fun n e => ⟨(hitem n e).1, (hitem n e).2.1⟩)
  have hlt : m.so d < okeyS c m.so (.top o) := by rw [hd.2.2.1, hk.1]; exact hc.dumReg _ _ hpre
  { tok_idle c m L with
    item := fun n e => hitem n (Option.some.inj e)
    keyPrev := nofun
    keyGt := nofun
    icas := nofun
    start := fun _ e => Option.some.inj e ▸ ⟨hd.1, hd.2.1, Or.inl hlt⟩
    stkPre := nofun
    bkt := nofun }

/-- `init_bucket( b )` returns the dummy `d` of bucket `b`. -/
theorem tok_initRet (hc : SOHyp c) (g : GOk c m tb k2 L)
    (hitem : ∀ n, o = .ins n → n % 2 = 1 ∧ Alloc m n ∧ n ∉ L ∧ m.mark n = false)
    (hpre : ∀ x, x ∈ b :: rest → 0 < x ∧ Pre c (c.hash (tkey m.uk o)) x)
    (hpar : ParChain (b :: rest))
    (hd : d ∈ L ∧ d % 2 = 0 ∧ m.so d = c.dum b ∧ m.uk d = 0) : TOk c m L (initRet o (b :: rest) d) := by
  cases rest with
  | nil => exact tok_start hc g hitem (hpre b (List.mem_cons_self ..)).2 hd
  | cons b2 r =>
    exact { tok_idle c m L with
      item := fun n e => hitem n (Option.some.inj e)
      dumKey := nofun
      dumStk := nofun
      icas := nofun
      stkPre := fun o' x e hx => Option.some.inj e ▸ hpre x (List.mem_cons_of_mem _ hx)
      stkPar := hpar.2
      bkt := nofun
      pp := fun p b' rest' e e' => by
        cases e
        cases e'
        exact hpar.1 ▸ hd
      pub := nofun }

theorem ownLe_initRet {p : PC} {stk : List Nat} (ht : pcTop p = some o) : OwnLe (initRet o stk d) p := by
  unfold initRet
  split <;> exact ⟨fun _ e => ht.trans e, nofun, nofun⟩

theorem LinMove.initRet {so : Nat → Nat} {uk val : Nat → Int} {H : Int → Int → Prop} {p : PC} {stk : List Nat}
    (hp : lpRet c so uk val p = none) (hpp : postRet val p = none) (hpo : opOf uk val p = some (gop uk val o)) :
    LinMove c so uk val H H p (initRet o stk d) := by
  unfold SplitList.initRet
  split <;> exact .silent hp rfl hpp hpo rfl

end

theorem sinvl_step_gCnt {c : Cfg} {s s' : St} {t : Tid} {ev : Ev} {L : List Nat} {o : Top}
    (h : SInvL c s L) (hpc : s.pc t = .gCnt o) (hs : step c s t = some (s', ev)) :
    ∃ L', SInvL c s' L' ∧ StepEff c s t s' L L' := by
  have ht := h.thr t
  rw [hpc] at ht
  simp only [step, hpc, Option.some.injEq, Prod.mk.injEq] at hs
  obtain ⟨rfl, -⟩ := hs
  exact h.pc_step hpc
    { ht with
      bkt := fun o' b e e' => Option.some.inj e ▸ Option.some.inj e' ▸ pre_mod h.g.cntb
      icas := nofun }
    (.same rfl rfl nofun)
    (.silent rfl rfl rfl rfl rfl)

theorem sinvl_step_gTab {c : Cfg} (hc : SOHyp c) {s s' : St} {t : Tid} {ev : Ev} {L : List Nat} {o : Top} {b : Nat}
    (h : SInvL c s L) (hpc : s.pc t = .gTab o b) (hs : step c s t = some (s', ev)) :
    ∃ L', SInvL c s' L' ∧ StepEff c s t s' L L' := by
  have ht := h.thr t
  rw [hpc] at ht
  have hbk := ht.bkt o b rfl rfl
  simp only [step, hpc] at hs
  split at hs
  next d hd =>
    simp only [Option.some.injEq, Prod.mk.injEq] at hs
    obtain ⟨rfl, -⟩ := hs
    exact h.pc_step hpc (tok_start hc h.g (fun n e => ht.item n (congrArg some e)) hbk (h.g.tab b d hd)) (.same rfl rfl nofun)
      (.silent rfl rfl rfl rfl rfl)
  next hd =>
    simp only [Option.some.injEq, Prod.mk.injEq] at hs
    obtain ⟨rfl, -⟩ := hs
    -- bucket 0 is always initialised
    have hb0 : 0 < b := Nat.pos_of_ne_zero (fun e => by rw [e, h.g.tab0] at hd; cases hd)
    exact h.pc_step hpc
      { ht with
        dumKey := nofun
        dumStk := nofun
        stkPre := fun o' x e hx => by
          cases e
          cases List.mem_singleton.mp hx
          exact ⟨hb0, hbk⟩
        stkPar := trivial
        bkt := nofun
        pp := nofun
        pub := nofun
        icas := nofun }
      (.same rfl rfl nofun)
      (.silent rfl rfl rfl rfl rfl)

theorem sinvl_step_iPar {c : Cfg} {s s' : St} {t : Tid} {ev : Ev} {L : List Nat} {o : Top} {b : Nat} {rest : List Nat}
    (h : SInvL c s L) (hpc : s.pc t = .iPar o (b :: rest)) (hs : step c s t = some (s', ev)) :
    ∃ L', SInvL c s' L' ∧ StepEff c s t s' L L' := by
  have ht := h.thr t
  rw [hpc] at ht
  simp only [step, hpc] at hs
  split at hs
  next pp hd =>
    simp only [Option.some.injEq, Prod.mk.injEq] at hs
    obtain ⟨rfl, -⟩ := hs
    exact h.pc_step hpc
      { ht with
        pp := fun p b' rest' e e' => by
          cases e
          cases e'
          exact h.g.tab (parent b) pp hd
        icas := nofun }
      (.same rfl rfl nofun)
      (.silent rfl rfl rfl rfl rfl)
  next hd =>
    simp only [Option.some.injEq, Prod.mk.injEq] at hs
    obtain ⟨rfl, -⟩ := hs
    have hb := ht.stkPre o b rfl (List.mem_cons_self ..)
    -- bucket 0 is always initialised
    have hp0 : 0 < parent b := Nat.pos_of_ne_zero (fun e => by rw [e, h.g.tab0] at hd; cases hd)
    exact h.pc_step hpc
      { ht with
        dumKey := nofun
        dumStk := nofun
        stkPre := fun o' x e hx => by
          cases e
          rcases List.mem_cons.mp hx with rfl | hx
          · exact ⟨hp0, pre_parent hb.2 hb.1⟩
          · exact ht.stkPre o x rfl hx
        stkPar := ⟨rfl, ht.stkPar⟩
        pp := nofun
        pub := nofun
        icas := nofun }
      (.same rfl rfl nofun)
      (.silent rfl rfl rfl rfl rfl)

theorem sinvl_step_iBkt {c : Cfg} (hc : SOHyp c) {s s' : St} {t : Tid} {ev : Ev} {L : List Nat} {o : Top} {b pp : Nat}
    {rest : List Nat}
    (h : SInvL c s L) (hpc : s.pc t = .iBkt o (b :: rest) pp) (hs : step c s t = some (s', ev)) :
    ∃ L', SInvL c s' L' ∧ StepEff c s t s' L L' := by
  have ht := h.thr t
  rw [hpc] at ht
  simp only [step, hpc] at hs
  split at hs
  next d hd =>
    simp only [Option.some.injEq, Prod.mk.injEq] at hs
    obtain ⟨rfl, -⟩ := hs
    exact h.pc_step hpc
      (tok_initRet hc h.g (fun n e => ht.item n (congrArg some e)) (fun x hx => ht.stkPre o x rfl hx) ht.stkPar
        (h.g.tab b d hd))
      (ownLe_initRet rfl)
      (.initRet rfl rfl rfl)
  next hd =>
    simp only [Option.some.injEq, Prod.mk.injEq] at hs
    obtain ⟨rfl, -⟩ := hs
    exact h.pc_step hpc { ht with icas := nofun } (.same rfl rfl nofun)
      (.silent rfl rfl rfl rfl rfl)

theorem sinvl_step_iAl1 {c : Cfg} {s s' : St} {t : Tid} {ev : Ev} {L : List Nat} {o : Top} {pp : Nat} {stk : List Nat}
    (h : SInvL c s L) (hpc : s.pc t = .iAl1 o stk pp) (hs : step c s t = some (s', ev)) :
    ∃ L', SInvL c s' L' ∧ StepEff c s t s' L L' := by
  have ht := h.thr t
  rw [hpc] at ht
  simp only [step, hpc, Option.some.injEq, Prod.mk.injEq] at hs
  obtain ⟨rfl, -⟩ := hs
  exact h.pc_step hpc { ht with icas := nofun } (.same rfl rfl nofun)
    (.silent rfl rfl rfl rfl rfl)

theorem sinvl_step_iWait {c : Cfg} (hc : SOHyp c) {s s' : St} {t : Tid} {ev : Ev} {L : List Nat} {o : Top} {b : Nat}
    {rest : List Nat}
    (h : SInvL c s L) (hpc : s.pc t = .iWait o (b :: rest)) (hs : step c s t = some (s', ev)) :
    ∃ L', SInvL c s' L' ∧ StepEff c s t s' L L' := by
  have ht := h.thr t
  rw [hpc] at ht
  simp only [step, hpc] at hs
  split at hs
  next d hd =>
    simp only [Option.some.injEq, Prod.mk.injEq] at hs
    obtain ⟨rfl, -⟩ := hs
    exact h.pc_step hpc
      (tok_initRet hc h.g (fun n e => ht.item n (congrArg some e)) (fun x hx => ht.stkPre o x rfl hx) ht.stkPar
        (h.g.tab b d hd))
      (ownLe_initRet rfl)
      (.initRet rfl rfl rfl)
  next hd =>
    simp only [Option.some.injEq, Prod.mk.injEq] at hs
    obtain ⟨rfl, -⟩ := hs
    exact h.pc_step hpc ht (.same rfl rfl nofun) (.silent rfl rfl rfl rfl rfl)

theorem sinvl_step_iPub {c : Cfg} (hc : SOHyp c) {s s' : St} {t : Tid} {ev : Ev} {L : List Nat} {o : Top} {b m : Nat}
    {rest : List Nat}
    (h : SInvL c s L) (hpc : s.pc t = .iPub o (b :: rest) m) (hs : step c s t = some (s', ev)) :
    ∃ L', SInvL c s' L' ∧ StepEff c s t s' L L' := by
  have ht := h.thr t
  rw [hpc] at ht
  have hpub := ht.pub m b rest rfl rfl
  have hb0 := (ht.stkPre o b rfl (List.mem_cons_self ..)).1
  simp only [step, hpc, Option.some.injEq, Prod.mk.injEq] at hs
  obtain ⟨rfl, -⟩ := hs
  -- a bucket pointer published before is the pointer to the same dummy node: its key is the bucket's
  have hsame : ∀ d2, s.table b = some d2 → d2 = m := fun d2 e =>
    have hd2 := h.g.tab b d2 e
    sorted_inj h.g.sorted d2 m hd2.1 hpub.1 (hd2.2.2.1.trans hpub.2.2.1.symm) (hd2.2.2.2.trans hpub.2.2.2.symm)
  have htab : ∀ b2 d2, upd s.table b (some m) b2 = some d2 →
      d2 ∈ L ∧ d2 % 2 = 0 ∧ s.so d2 = c.dum b2 ∧ s.uk d2 = 0 := fun b2 d2 e => by
    by_cases eb : b2 = b
    · rw [eb, upd_same] at e
      cases e
      exact eb ▸ hpub
    · rw [upd_other _ _ _ _ eb] at e
      exact h.g.tab b2 d2 e
  have hmono : ∀ b2 d2, s.table b2 = some d2 → upd s.table b (some m) b2 = some d2 := fun b2 d2 e => by
    by_cases eb : b2 = b
    · rw [eb] at e ⊢
      rw [hsame d2 e, upd_same]
    · rw [upd_other _ _ _ _ eb]
      exact e
  exact ⟨L,
    h.frame hpc rfl { h.g with tab := htab, tab0 := (upd_other _ _ _ _ (Nat.ne_of_lt hb0)).trans h.g.tab0 }
      (fun u _ => h.thr u)
      (tok_initRet hc h.g (fun n e => ht.item n (congrArg some e)) (fun x hx => ht.stkPre o x rfl hx) ht.stkPar hpub)
      (ownLe_initRet rfl),
    .words hpc (.initRet rfl rfl rfl) (fun _ e => e) (fun _ e => ⟨e, rfl⟩) (fun a e e' => by rw [e] at e'; cases e')
      hmono (fun e => absurd rfl e) (fun _ _ => ⟨rfl, rfl, rfl, rfl, rfl, by cases rest <;> rfl⟩)⟩

theorem has_congr_L {mark : Nat → Bool} {uk uk' val val' : Nat → Int} {L : List Nat}
    (h : ∀ a, a ∈ L → uk' a = uk a ∧ val' a = val a) (k v : Int) : Has mark uk' val' L k v ↔ Has mark uk val L k v := by
  unfold Has
  constructor
  · rintro ⟨a, ha, h0, h1, h2, h3⟩
    exact ⟨a, ha, h0, h1, by rw [← (h a ha).1]; exact h2, by rw [← (h a ha).2]; exact h3⟩
  · rintro ⟨a, ha, h0, h1, h2, h3⟩
    exact ⟨a, ha, h0, h1, by rw [(h a ha).1]; exact h2, by rw [(h a ha).2]; exact h3⟩

/-- What a thread's bookkeeping reads is allocated. -/
theorem TOk.refs_alloc {c : Cfg} {m : Mem} {tb : Nat → Option Nat} {k2 : Nat} {L : List Nat} {pc : PC}
    (h : TOk c m L pc) (g : GOk c m tb k2 L) {a : Nat} (ha : pcRefs pc a) : Alloc m a := by
  rcases ha with e | e | e
  · exact (h.item a e).2.1
  · exact (h.dumPriv a e).2.1
  · exact g.lk_alloc (h.lkCur a e)

theorem sinvl_step_iAl2 {c : Cfg} (hc : SOHyp c) {s s' : St} {t : Tid} {ev : Ev} {L : List Nat} {o : Top} {b pp : Nat}
    {rest : List Nat}
    (h : SInvL c s L) (hpc : s.pc t = .iAl2 o (b :: rest) pp) (hs : step c s t = some (s', ev)) :
    ∃ L', SInvL c s' L' ∧ StepEff c s t s' L L' := by
  have ht := h.thr t
  rw [hpc] at ht
  have hpp : pp ∈ L ∧ pp % 2 = 0 ∧ s.so pp = c.dum (parent b) ∧ s.uk pp = 0 := ht.pp pp b rest rfl rfl
  have hpre := ht.stkPre o b rfl (List.mem_cons_self ..)
  -- the node handed out is fresh: nothing refers to it
  have hf : ¬ Alloc (mem! s) (2 * s.acnt) := by unfold Alloc; dsimp only; omega
  have hfa : ∀ a, Alloc (mem! s) a → a ≠ 2 * s.acnt := fun a ha e => hf (e ▸ ha)
  have hso : ∀ a, a ≠ 2 * s.acnt → upd s.so (2 * s.acnt) (c.dum b) a = s.so a := fun a e => upd_other _ _ _ _ e
  have huk : ∀ a, a ≠ 2 * s.acnt → upd s.uk (2 * s.acnt) 0 a = s.uk a := fun a e => upd_other _ _ _ _ e
  have hal : ∀ a, Alloc ⟨s.next, s.mark, upd s.so (2 * s.acnt) (c.dum b), upd s.uk (2 * s.acnt) 0, s.val, s.cnt, s.acnt + 1⟩ a ↔
      (Alloc (mem! s) a ∨ a = 2 * s.acnt) := by
    intro a; unfold Alloc; dsimp only; omega
  have hppf := hfa pp (h.g.alloc pp hpp.1)
  simp only [step, hpc, Option.some.injEq, Prod.mk.injEq] at hs
  obtain ⟨rfl, -⟩ := hs
  have thr' : ∀ u, TOk c ⟨s.next, s.mark, upd s.so (2 * s.acnt) (c.dum b), upd s.uk (2 * s.acnt) 0, s.val, s.cnt, s.acnt + 1⟩
      L (s.pc u) := fun u => (h.thr u).allocNode h.g hf rfl rfl hso huk (fun a ha => (hal a).mpr (Or.inl ha))
  have ht' := thr' t
  rw [hpc] at ht'
  have hgop : gop (upd s.uk (2 * s.acnt) 0) s.val o = gop s.uk s.val o :=
    gop_congr (fun n e => ⟨huk n (hfa n (ht.item n (congrArg some e)).2.1), rfl⟩)
  refine ⟨L,
    ⟨h.g.allocNode hf rfl rfl hso huk hal (by intro e; omega)
      (by intro _; dsimp only; rw [upd_same]; exact hc.dumEven b),
     forall_upd (T := fun _ => TOk c _ L) ?tok (fun u _ => thr' u),
     h.own.upd t _ (fun _ e => Or.inl (hpc ▸ e))
       (fun x e => Or.inr (fun u e' => hf ((Option.some.inj e) ▸ ((h.thr u).dumPriv x e').2.1))) nofun⟩,
    .of_pcs hpc rfl
      (lps := fun u _ => lpRet_congr (fun a ha =>
        have := hfa a ((h.thr u).refs_alloc h.g ha)
        ⟨hso a this, huk a this, rfl⟩))
      (ops := fun u _ => opOf_congr (fun a ha =>
        have := hfa a ((h.thr u).refs_alloc h.g ha)
        ⟨huk a this, rfl⟩))
      (lp := nofun)
      (nolp := fun _ => has_congr_L (fun a ha => ⟨huk a (hfa a (h.g.alloc a ha)), rfl⟩))
      (keep := nofun) (pkeep := nofun) (op := fun _ => congrArg some hgop) (busy := ⟨nofun, nofun⟩)
      (mono := fun _ e => e) (frz := fun _ e => ⟨e, rfl⟩) (marks := fun a e e' => by rw [e] at e'; cases e')
      (keys := fun a ha => ⟨hso a (hfa a ha), huk a (hfa a ha), rfl⟩) (tabmono := fun _ _ e => e)
      (grow := fun e => absurd rfl e) (publish := fun _ e => absurd rfl e)⟩
  exact { ht' with
    dumPriv := fun x e => by
      cases e
      exact ⟨Nat.mul_mod_right 2 _, (hal _).mpr (Or.inr rfl), fun hm => hf (h.g.alloc _ hm)⟩
    dumKey := fun x b' rest' e e' => by
      cases e
      cases e'
      exact ⟨upd_same _ _ _, upd_same _ _ _⟩
    dumStk := fun x _ => nofun
    keyPrev := nofun
    keyGt := nofun
    icas := nofun
    start := fun d e => by
      cases e
      refine ⟨hpp.1, hpp.2.1, Or.inl ?_⟩
      show upd s.so (2 * s.acnt) (c.dum b) pp < upd s.so (2 * s.acnt) (c.dum b) (2 * s.acnt)
      rw [upd_same, hso pp hppf, hpp.2.2.1]
      exact hc.parDum _ _ hpre.2 hpre.1
    pp := nofun }

end CdsVerif.Algo.SplitList
