/-
  What the loop of `search` maintains, as lemmas about its exits.

  A run `w` of the MichaelList code from the dummy `d` keeps, whatever it has loaded, the clauses `TOk` states for
  `sHd1 w d` (its private node, the recursion stack of `init_bucket`, `d` linked and below the key searched for).  On
  top of these the loop holds a position: `prev` linked or marked with its key below the key searched for, `cur` and
  `nx` linked or marked.  Each exit of the loop (`advance`, `notFound`, `found`, and the decisions `afterHd`, `afterChk`
  that lead to them) gets: the clauses `TOk` of the program counter it yields, from the position; what that program
  counter owns (`OwnLe`); and the linearization bookkeeping of the step that takes the exit (`LinMove`).

  A client's traversal answers "absent" at the load that finds the key strictly between `prev` and its successor
  (`LinMove.notFound`), and tentatively at the validated load of `cur->m_pNext` (`tent`, `GOk.lp_tent`); the tentative
  answer is what `afterChk` returns when the validation of `prev` succeeds (`lpRet_found`, `lpRet_advance`).
-/
import CdsVerif.Algo.SplitList.Thread
namespace CdsVerif.Algo.SplitList
open CdsVerif.Machine CdsVerif.Spec CdsVerif.Lin
open CdsVerif.Algo.Michael (LPok isRO)

theorem klt_of_not {a1 b1 : Nat} {a2 b2 : Int} (he : ¬ (a1 = b1 ∧ a2 = b2)) (hg : ¬ klt b1 b2 a1 a2) : klt a1 a2 b1 b2 := by
  unfold klt at *; omega

theorem klt_asymm {a1 b1 : Nat} {a2 b2 : Int} (h : klt a1 a2 b1 b2) : ¬ klt b1 b2 a1 a2 := by
  unfold klt at *; omega

theorem klt_ne {a1 b1 : Nat} {a2 b2 : Int} (h : klt a1 a2 b1 b2) : ¬ (a1 = b1 ∧ a2 = b2) := by
  unfold klt at *; omega

/-! ### Program counters without a list position -/

theorem tok_done (c : Cfg) (m : Mem) (L : List Nat) (r : GRet) : TOk c m L (.done r) :=
  { tok_idle c m L with icas := nofun }

section
variable {c : Cfg} {m : Mem} {tb : Nat → Option Nat} {k2 : Nat} {L : List Nat} {w : OpK} {d prev cur : Nat}
  {nx : Option Nat}

/-! ### The clauses of the program counters the loop yields -/

theorem TOk.sNx1 (hb : TOk c m L (.sHd1 w d)) (hp : prev ∈ L ∨ m.mark prev = true)
    (hk : klt (m.so prev) (m.uk prev) (okeyS c m.so w) (okeyU m.uk w)) (hc : cur ∈ L ∨ m.mark cur = true) :
    TOk c m L (.sNx1 w d prev cur) :=
  { hb with
    lkPrev := fun _ e => Option.some.inj e ▸ hp
    lkCur := fun _ e => Option.some.inj e ▸ hc
    keyPrev := fun _ e => Option.some.inj e ▸ hk
    icas := nofun }

theorem TOk.notFound {cur : Option Nat} (hb : TOk c m L (.sHd1 w d)) (hp : prev ∈ L ∨ m.mark prev = true)
    (hk : klt (m.so prev) (m.uk prev) (okeyS c m.so w) (okeyU m.uk w))
    (hc : ∀ a, cur = some a →
      (a ∈ L ∨ m.mark a = true) ∧ klt (okeyS c m.so w) (okeyU m.uk w) (m.so a) (m.uk a)) :
    TOk c m L (notFound w d prev cur) := by
  have hi : TOk c m L (.iSt w d prev cur) :=
    { hb with
      lkPrev := fun _ e => Option.some.inj e ▸ hp
      lkCur := fun a e => (hc a e).1
      keyPrev := fun _ e => Option.some.inj e ▸ hk
      keyGt := fun a e => (hc a e).2
      icas := nofun }
  cases w with
  | dum x o stk => exact hi
  | top o =>
    cases o with
    | ins n => exact hi
    | era k => exact tok_done c m L _
    | fnd k => exact tok_done c m L _
    | con k => exact tok_done c m L _

theorem TOk.found (hb : TOk c m L (.sHd1 w d)) (hp : prev ∈ L ∨ m.mark prev = true)
    (hk : klt (m.so prev) (m.uk prev) (okeyS c m.so w) (okeyU m.uk w)) (hc : cur ∈ L ∨ m.mark cur = true)
    (hnx : ∀ a, nx = some a → a ∈ L ∨ m.mark a = true)
    (he : m.so cur = okeyS c m.so w ∧ m.uk cur = okeyU m.uk w) :
    TOk c m L (found m.val w d prev cur nx) := by
  cases w with
  | dum x o stk =>
    exact { hb with
      dumPriv := nofun, dumKey := nofun, dumStk := nofun, keyPrev := nofun, keyGt := nofun, start := nofun, icas := nofun }
  | top o =>
    cases o with
    | ins n => exact tok_done c m L _
    | era k =>
      exact { hb with
        lkPrev := fun _ e => Option.some.inj e ▸ hp
        lkCur := fun _ e => Option.some.inj e ▸ hc
        lkNx := hnx
        keyPrev := fun _ e => Option.some.inj e ▸ hk
        keyEq := fun a k' e => by cases e; exact he
        icas := nofun }
    | fnd k => exact tok_done c m L _
    | con k => exact tok_done c m L _

theorem TOk.advance (hb : TOk c m L (.sHd1 w d)) (hp : prev ∈ L ∨ m.mark prev = true)
    (hk : klt (m.so prev) (m.uk prev) (okeyS c m.so w) (okeyU m.uk w))
    (hnx : ∀ a, nx = some a → a ∈ L ∨ m.mark a = true) : TOk c m L (advance w d prev nx) := by
  cases nx with
  | none => exact hb.notFound hp hk nofun
  | some x => exact hb.sNx1 hp hk (hnx x rfl)

theorem TOk.afterHd {mk : Bool} (h : TOk c m L (.sHd2 w d nx mk)) : TOk c m L (afterHd c m.so m.uk w d nx mk) := by
  have hb : TOk c m L (.sHd1 w d) := { h with lkNx := nofun, icas := nofun }
  unfold SplitList.afterHd
  split
  · exact hb
  · split
    · rename_i hk
      exact hb.advance (Or.inl (h.start d rfl).1) hk h.lkNx
    · exact hb

theorem TOk.afterChk {mk : Bool} (h : TOk c m L (.sChk w d prev cur nx mk)) :
    TOk c m L (afterChk c m.so m.uk m.val w d prev cur nx mk) := by
  have hb : TOk c m L (.sHd1 w d) :=
    { h with lkPrev := nofun, lkCur := nofun, lkNx := nofun, keyPrev := nofun, frozen := nofun, icas := nofun }
  unfold SplitList.afterChk
  split
  · rename_i hmk
    subst hmk
    exact { h with icas := nofun }
  · split
    · rename_i he
      exact hb.found (h.lkPrev prev rfl) (h.keyPrev prev rfl) (h.lkCur cur rfl) h.lkNx he
    · split
      · rename_i hgt
        exact hb.notFound (h.lkPrev prev rfl) (h.keyPrev prev rfl)
          (fun a e => by cases e; exact ⟨h.lkCur cur rfl, hgt⟩)
      · rename_i he hgt
        exact hb.advance (h.lkCur cur rfl) (klt_of_not he hgt) h.lkNx

/-! ### What they own -/

theorem OwnLe.same {q p : PC} (ht : pcTop p = pcTop q) (hd : pcDum p = pcDum q) (hu : ∀ k pr a x, q ≠ .eUnl k pr a x) :
    OwnLe q p :=
  ⟨fun _ e => ht.trans e, fun _ e => hd.trans e, hu⟩

theorem OwnLe.notFound {p : PC} {cur : Option Nat} (ht : pcTop p = some (wtop w)) (hd : pcDum p = wdum w) :
    OwnLe (notFound w d prev cur) p := by
  cases w with
  | dum x o stk => exact .same ht hd nofun
  | top o =>
    cases o with
    | ins n => exact .same ht hd nofun
    | era k => exact ⟨nofun, nofun, nofun⟩
    | fnd k => exact ⟨nofun, nofun, nofun⟩
    | con k => exact ⟨nofun, nofun, nofun⟩

theorem OwnLe.found {p : PC} {val : Nat → Int} (ht : pcTop p = some (wtop w)) (hd : pcDum p = wdum w) :
    OwnLe (found val w d prev cur nx) p := by
  cases w with
  | dum x o stk => exact ⟨fun _ e => ht.trans e, nofun, nofun⟩
  | top o =>
    cases o with
    | ins n => exact ⟨nofun, nofun, nofun⟩
    | era k => exact .same ht hd nofun
    | fnd k => exact ⟨nofun, nofun, nofun⟩
    | con k => exact ⟨nofun, nofun, nofun⟩

theorem OwnLe.advance {p : PC} (ht : pcTop p = some (wtop w)) (hd : pcDum p = wdum w) :
    OwnLe (advance w d prev nx) p := by
  cases nx with
  | none => exact .notFound ht hd
  | some x => exact .same ht hd nofun

theorem OwnLe.afterHd {p : PC} {so : Nat → Nat} {uk : Nat → Int} {mk : Bool} (ht : pcTop p = some (wtop w))
    (hd : pcDum p = wdum w) : OwnLe (afterHd c so uk w d nx mk) p := by
  unfold SplitList.afterHd
  split
  · exact .same ht hd nofun
  · split
    · exact .advance ht hd
    · exact .same ht hd nofun

theorem OwnLe.afterChk {p : PC} {so : Nat → Nat} {uk val : Nat → Int} {mk : Bool} (ht : pcTop p = some (wtop w))
    (hd : pcDum p = wdum w) : OwnLe (afterChk c so uk val w d prev cur nx mk) p := by
  unfold SplitList.afterChk
  split
  · exact .same ht hd nofun
  · split
    · exact .found ht hd
    · split
      · exact .notFound ht hd
      · exact .advance ht hd

end

/-! ### The linearization bookkeeping -/

section
variable {c : Cfg} {so : Nat → Nat} {uk val : Nat → Int} {w : OpK} {d prev cur : Nat} {nx : Option Nat}

theorem opOf_notFound {cur : Option Nat} (e : postRet val (notFound w d prev cur) = none) :
    opOf uk val (notFound w d prev cur) = some (gop uk val (wtop w)) := by
  cases w with
  | dum x o stk => rfl
  | top o => cases o <;> first | rfl | cases e

theorem opOf_found (e : postRet val (found val w d prev cur nx) = none) :
    opOf uk val (found val w d prev cur nx) = some (gop uk val (wtop w)) := by
  cases w with
  | dum x o stk => rfl
  | top o => cases o <;> first | rfl | cases e

theorem opOf_advance (e : postRet val (advance w d prev nx) = none) :
    opOf uk val (advance w d prev nx) = some (gop uk val (wtop w)) := by
  cases nx with
  | none => exact opOf_notFound e
  | some x => rfl

theorem tent_marked : tent c so uk val w cur nx true = none := by
  cases w <;> simp [tent]

/-- The key is above the key of `cur`: no tentative answer. -/
theorem tent_gt (h : klt (okeyS c so w) (okeyU uk w) (so cur) (uk cur)) : tent c so uk val w cur nx false = none := by
  cases w with
  | dum x o stk => rfl
  | top o =>
    have he : ¬ (so cur = okeyS c so (.top o) ∧ uk cur = okeyU uk (.top o)) := fun e => klt_ne h ⟨e.1.symm, e.2.symm⟩
    simp [tent, he, klt_asymm h]

/-- `cur` has the key: the tentative answer is the one `found` gives. -/
theorem lpRet_found (h : so cur = okeyS c so w ∧ uk cur = okeyU uk w) :
    lpRet c so uk val (found val w d prev cur nx) = tent c so uk val w cur nx false := by
  cases w with
  | dum x o stk => rfl
  | top o => cases o <;> simp [tent, h, found, lpRet, foundRet]

/-- The key is below the key of `cur`: the tentative answer is the one the traversal gives when it goes on. -/
theorem lpRet_advance (he : ¬ (so cur = okeyS c so w ∧ uk cur = okeyU uk w))
    (hg : ¬ klt (okeyS c so w) (okeyU uk w) (so cur) (uk cur)) :
    lpRet c so uk val (advance w d cur nx) = tent c so uk val w cur nx false := by
  have hlt := klt_of_not he hg
  cases w with
  | dum x o stk => cases nx <;> rfl
  | top o =>
    cases nx with
    | none => cases o <;> simp [tent, he, hlt, advance, notFound, lpRet, absentRet]
    | some x => simp [tent, he, advance, lpRet]

end

section
variable {c : Cfg} {m : Mem} {tb : Nat → Option Nat} {k2 : Nat} {L : List Nat} {w : OpK} {d prev cur : Nat}
  {nx : Option Nat} {p : PC}

/-- The key lies strictly between the key of the linked node `prev` and the key of its successor. -/
theorem LinMove.notFound {cur : Option Nat} (g : GOk c m tb k2 L) (hlp : lpRet c m.so m.uk m.val p = none)
    (hpp : postRet m.val p = none) (hop : opOf m.uk m.val p = some (gop m.uk m.val (wtop w)))
    (hp : prev ∈ L) (hk : klt (m.so prev) (m.uk prev) (okeyS c m.so w) (okeyU m.uk w))
    (hgap : ∀ x, m.next prev = some x → klt (okeyS c m.so w) (okeyU m.uk w) (m.so x) (m.uk x)) :
    LinMove c m.so m.uk m.val (Has m.mark m.uk m.val L) (Has m.mark m.uk m.val L) p (notFound w d prev cur) := by
  refine .pending hlp hpp hop opOf_notFound (fun r e => ?_) (fun _ _ _ => Iff.rfl)
  cases w with
  | dum x o stk => cases e
  | top o => exact g.lp_absent hp hk hgap (by cases o <;> first | exact e | cases e)

theorem LinMove.advance (g : GOk c m tb k2 L) (hlp : lpRet c m.so m.uk m.val p = none)
    (hpp : postRet m.val p = none) (hop : opOf m.uk m.val p = some (gop m.uk m.val (wtop w)))
    (hp : prev ∈ L) (hk : klt (m.so prev) (m.uk prev) (okeyS c m.so w) (okeyU m.uk w)) (hnx : m.next prev = nx) :
    LinMove c m.so m.uk m.val (Has m.mark m.uk m.val L) (Has m.mark m.uk m.val L) p (advance w d prev nx) := by
  cases nx with
  | none => exact .notFound g hlp hpp hop hp hk (fun x e => by rw [hnx] at e; cases e)
  | some x => exact .silent hlp rfl hpp hop rfl

theorem LinMove.afterHd {mk : Bool} (g : GOk c m tb k2 L) (hd : d ∈ L) (hv : m.next d = nx) :
    LinMove c m.so m.uk m.val (Has m.mark m.uk m.val L) (Has m.mark m.uk m.val L) (.sHd2 w d nx mk)
      (afterHd c m.so m.uk w d nx mk) := by
  unfold SplitList.afterHd
  split
  · exact .silent rfl rfl rfl rfl rfl
  · split
    · rename_i hk
      exact .advance g rfl rfl rfl hd hk hv
    · exact .silent rfl rfl rfl rfl rfl

/-- The validated load of `cur->m_pNext`: a client's traversal answers tentatively. -/
theorem GOk.lp_tent (g : GOk c m tb k2 L) (hc : SOHyp c) {mk : Bool} {r : GRet} (hcur : cur ∈ L ∨ m.mark cur = true)
    (hnx : m.next cur = nx) (hmk : m.mark cur = mk) (hitem : ∀ n, wtop w = .ins n → Alloc m n ∧ n % 2 = 1)
    (ht : tent c m.so m.uk m.val w cur nx mk = some r) :
    LPok (Has m.mark m.uk m.val L) (gop m.uk m.val (wtop w)) r (Has m.mark m.uk m.val L) := by
  cases w with
  | dum x o stk => cases ht
  | top o =>
    simp only [tent] at ht
    split at ht
    · cases ht
    · rename_i hm
      have hmf : m.mark cur = false := by rw [hmk]; simpa using hm
      have hcL : cur ∈ L := hcur.resolve_right (by rw [hmf]; nofun)
      split at ht
      · rename_i he
        exact g.lp_present hc hcL hmf he.1 he.2 hitem ht
      · split at ht
        · rename_i hlt
          exact g.lp_absent hcL hlt.1 (fun x e => by rw [hnx, hlt.2] at e; cases e) ht
        · cases ht

/-- The validation `pPrev->load() == pCur` has succeeded: `cur` is the successor of the unmarked, hence linked, node
    `prev`.  The tentative answer becomes definitive; a traversal without one answers "absent" if the key is below
    the key of `cur`. -/
theorem LinMove.afterChk {mk : Bool} (g : GOk c m tb k2 L) (h : TOk c m L (.sChk w d prev cur nx mk))
    (hv : m.next prev = some cur ∧ m.mark prev = false) :
    LinMove c m.so m.uk m.val (Has m.mark m.uk m.val L) (Has m.mark m.uk m.val L) (.sChk w d prev cur nx mk)
      (afterChk c m.so m.uk m.val w d prev cur nx mk) := by
  have hpL : prev ∈ L := (h.lkPrev prev rfl).resolve_right (by rw [hv.2]; nofun)
  unfold SplitList.afterChk
  split
  · rename_i hmk
    subst hmk
    exact .kept tent_marked.symm rfl rfl (fun _ => rfl)
  · rename_i hmk
    have hmf : mk = false := by simpa using hmk
    subst hmf
    split
    · rename_i he
      exact .kept (lpRet_found he) rfl rfl opOf_found
    · split
      · rename_i hgt
        exact .notFound g (tent_gt hgt) rfl rfl hpL (h.keyPrev prev rfl) (fun x e => by rw [hv.1] at e; cases e; exact hgt)
      · rename_i he hgt
        exact .kept (lpRet_advance he hgt) rfl rfl opOf_advance

end

end CdsVerif.Algo.SplitList
