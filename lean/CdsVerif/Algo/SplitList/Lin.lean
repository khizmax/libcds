/-
  Linearizability of the split-list model (property C14: `cds::intrusive::SplitListSet<HP>` over `MichaelList<HP>`,
  dynamic bucket table: insert, erase, find, contains) with respect to the sequential map `Spec.map`.

  The linearization points are those of the underlying MichaelList operation (`Algo/Michael/Lin.lean`), started from
  the bucket's dummy node instead of the list head: the successful CAS of `link_node` / the marking CAS of
  `unlink_node`; for the answers "found" / "absent" the validating loads, TENTATIVELY when the traversal's later
  validation `pPrev->load() == pCur` may still fail (hindsight).  Everything `get_bucket`, `init_bucket` (including the
  linking of dummy nodes and the publication of bucket pointers) and `inc_item_count` (including the growth of the table)
  do is invisible in the abstract map.  As for the MichaelList, the conclusions are those of the ghost-log
  construction of `Base/LPLin.lean`.
-/
import CdsVerif.Algo.SplitList.Reach
import CdsVerif.Algo.Michael.Lin
namespace CdsVerif.Algo.SplitList
open CdsVerif.Machine CdsVerif.Spec CdsVerif.Lin
open CdsVerif.Algo.Michael (LPok isRO map_ro answers_absent answers_present)

/-! ### The history of a run -/

/-- Per thread: the operation in progress and the index of its `call` observation. -/
abbrev Pend := Tid → Option (GOp × Nat)

/-- Scan the observations (the head has index `i`): every `ret` closes the operation its thread has in progress. -/
def histAux : Nat → Pend → List (Tid × Obs) → List (OpRec GOp GRet)
  | _, _, [] => []
  | i, pend, (t, .call op) :: os => histAux (i + 1) (upd pend t (some (op, i))) os
  | i, pend, (_, .ev _) :: os => histAux (i + 1) pend os
  | i, pend, (t, .ret r) :: os =>
    match pend t with
    | some (op, k) => ⟨t, op, r, k, i⟩ :: histAux (i + 1) (upd pend t none) os
    | none => histAux (i + 1) pend os

/-- The operations still in progress after the observations. -/
def pendAux : Nat → Pend → List (Tid × Obs) → Pend
  | _, pend, [] => pend
  | i, pend, (t, .call op) :: os => pendAux (i + 1) (upd pend t (some (op, i))) os
  | i, pend, (_, .ev _) :: os => pendAux (i + 1) pend os
  | i, pend, (t, .ret _) :: os =>
    match pend t with
    | some _ => pendAux (i + 1) (upd pend t none) os
    | none => pendAux (i + 1) pend os

/-- The complete history of a run: one record per operation that has both its `call` and its `ret` observation,
    `inv` / `res` = the indices of these observations in `os`.  Operations pending at the end are dropped. -/
def historyOf (os : List (Tid × Obs)) : List (OpRec GOp GRet) := histAux 0 (fun _ => none) os

/-- The operations pending at the end of a run: thread ↦ (operation, index of its `call`). -/
def pendingOf (os : List (Tid × Obs)) : Pend := pendAux 0 (fun _ => none) os

theorem historyOf_eq (os : List (Tid × Obs)) : historyOf os = SeqHistory.historyOf os := by
  delta historyOf SeqHistory.historyOf histAux SeqHistory.histAux
  rfl

theorem pendingOf_eq (os : List (Tid × Obs)) : pendingOf os = SeqHistory.pendingOf os := by
  delta pendingOf SeqHistory.pendingOf pendAux SeqHistory.pendAux
  rfl

/-- Every record of `historyOf os` is an operation of `os`: `inv` is the index of its call, `res` the index of its
    return, and the call precedes the return. -/
theorem historyOf_sound (os : List (Tid × Obs)) (r : OpRec GOp GRet) (h : r ∈ historyOf os) :
    os[r.inv]? = some (r.tid, .call r.op) ∧ os[r.res]? = some (r.tid, .ret r.ret) ∧ r.inv < r.res :=
  SeqHistory.historyOf_sound os r (historyOf_eq os ▸ h)

/-- A pending operation of `pendingOf os` is an operation of `os`: its `call` observation is at the recorded index. -/
theorem pendingOf_sound (os : List (Tid × Obs)) (t : Tid) (op : GOp) (k : Nat)
    (h : pendingOf os t = some (op, k)) : os[k]? = some (t, .call op) :=
  SeqHistory.pendingOf_sound os t op k (pendingOf_eq os ▸ h)

/-! ### The machine as an instance of `Base/LPLin.lean` -/

theorem opOf_none_of_post {uk val : Nat → Int} {pc : PC} {r : GRet} (h : postRet val pc = some r) :
    opOf uk val pc = none := by
  cases pc <;> simp_all [postRet, opOf]

theorem lpRet_of_post {c : Cfg} {so : Nat → Nat} {uk val : Nat → Int} {pc : PC} {r : GRet} (h : postRet val pc = some r) :
    lpRet c so uk val pc = some r := by
  cases pc <;> simp_all [postRet, lpRet]

theorem postRet_none_of_lp {c : Cfg} {so : Nat → Nat} {uk val : Nat → Int} {pc : PC} (h : lpRet c so uk val pc = none) :
    postRet val pc = none := by
  cases hp : postRet val pc with
  | none => rfl
  | some r => rw [lpRet_of_post (c := c) (so := so) (uk := uk) hp] at h; simp at h

/-- A tentative result belongs to a read-only operation. -/
theorem ro_of_tentative {c : Cfg} {so : Nat → Nat} {uk val : Nat → Int} {pc : PC} {r : GRet}
    (h : lpRet c so uk val pc = some r) (hp : postRet val pc = none) :
    ∃ op, opOf uk val pc = some op ∧ isRO op r = true := by
  cases pc <;> simp_all [postRet, lpRet, opOf]
  exact tent_ro h

/-- A specification state represents the machine state if it holds exactly the pairs of the abstract map; results
    of read-only operations are inert. -/
def sys (c : Cfg) : LPLin.Sys St MapSt where
  spec := Spec.map
  model := model c
  init := init c
  Inv := SInv c
  Abs := fun m s => ∀ k v, mfind m k = some v ↔ (k, v) ∈ absMap s
  lpRet := fun s t => lpRet c s.so s.uk s.val (s.pc t)
  postRet := fun s t => postRet s.val (s.pc t)
  opOf := fun s t => opOf s.uk s.val (s.pc t)
  inert := isRO

theorem sys_ok {c : Cfg} (hc : SOHyp c) : (sys c).OK where
  inert_ok := fun _ _ hro _ _ hn => map_ro hn hro
  inv_init := ⟨[0], sinv_init c hc⟩
  abs_init := by
    intro k v
    show mfind Spec.map.init k = some v ↔ (k, v) ∈ absMap (init c)
    rw [← (sinv_init c hc).has_iff]
    simp [Spec.map, detSpec, init, Has, mfind]
  lp_init := by intro t; simp [sys, init, lpRet]
  op_init := by intro t; simp [sys, init, opOf]
  post_op := by intro s t r _ h; exact opOf_none_of_post h
  lp_post := by
    intro s t r _ h
    cases hp : postRet s.val (s.pc t) with
    | some r' => exact .inl (hp.trans ((lpRet_of_post (c := c) (so := s.so) (uk := s.uk) hp).symm.trans h))
    | none =>
      obtain ⟨op, ho, hro⟩ := ro_of_tentative h hp
      exact .inr (.of_op ho hro)
  invoke := by
    intro s t op s' ⟨L, hl⟩ hs
    obtain ⟨hl', he⟩ := sinvl_invoke hl hs
    refine ⟨⟨L, hl'⟩, ⟨?_, ?_⟩, ?_, he.now.1, he.now.2, ?_⟩
    · intro t2 ht; simp only [sys]; rw [he.frame t2 ht, he.lps t2 ht]
    · intro t2 ht; simp only [sys]; rw [he.frame t2 ht, he.ops t2 ht]
    · simp [sys, he.was, lpRet]
    · intro m hm k v
      exact ((hm k v).trans (hl.has_iff k v).symm).trans ((he.abs k v).symm.trans (hl'.has_iff k v))
  step := by
    intro s t s' ev ⟨L, hl⟩ hs
    obtain ⟨L', hl', he⟩ := sinvl_step hc hl hs
    refine ⟨⟨L', hl'⟩, ⟨?_, ?_⟩, ?_, ?_, ?_, he.op⟩
    · intro t2 ht; simp only [sys]; rw [he.frame t2 ht, he.lps t2 ht]
    · intro t2 ht; simp only [sys]; rw [he.frame t2 ht, he.ops t2 ht]
    · intro h1 r h2
      obtain ⟨op, ho, hok⟩ := he.lp h1 r h2
      refine ⟨op, ho, fun m hm => ?_⟩
      obtain ⟨m', hm1, hm2⟩ := hok m (fun k v => (hm k v).trans (hl.has_iff k v).symm)
      exact ⟨m', hm1, fun k v => (hm2 k v).trans (hl'.has_iff k v)⟩
    · intro hc m hm k v
      exact ((hm k v).trans (hl.has_iff k v).symm).trans ((he.nolp hc k v).symm.trans (hl'.has_iff k v))
    · intro r hr
      exact (he.keep r hr).imp id (fun ⟨⟨op, ho, hro⟩, hn⟩ => ⟨.of_op ho hro, hn⟩)
  result := by
    intro s t s' r ⟨L, hl⟩ hs
    obtain ⟨hl', hdone, hidl, hframe, hso, huk, hval, hmark, -, -, -⟩ := sinvl_result hl hs
    refine ⟨⟨L, hl'⟩, ⟨?_, ?_⟩, ?_, ?_, ?_, ?_⟩
    · intro t2 ht; simp only [sys]; rw [hframe t2 ht, hso, huk, hval]
    · intro t2 ht; simp only [sys]; rw [hframe t2 ht, huk, hval]
    · simp [sys, hdone, lpRet]
    · simp [sys, hidl, lpRet]
    · simp [sys, hidl, opOf]
    · intro m hm k v
      have := hl'.has_iff k v
      rw [huk, hval, hmark] at this
      exact ((hm k v).trans (hl.has_iff k v).symm).trans this

/-! ### Main theorems -/

/-- **Linearizability of the split list** (Herlihy–Wing, with completion of pending operations).
    For every run of the model, the history of the completed operations, extended by response records `extra` for
    SOME of the operations still pending at the end (operations that have passed their linearization point
    definitively — `postRet` — and change the map: successful inserts and erases; they get the result fixed there
    and the response time "end of the run"; at most one per thread), is linearizable to the sequential map.  All other
    pending operations are dropped (among them all pending read-only operations, tentative or not). -/
theorem splitlist_linearizable {c : Cfg} (hc : SOHyp c) (sched : List (Tid × Act)) (s : St) (os : List (Tid × Obs))
    (h : (model c).run (init c) sched = some (s, os)) :
    ∃ extra : List (OpRec GOp GRet),
      (∀ e ∈ extra, pendingOf os e.tid = some (e.op, e.inv) ∧ e.res = os.length ∧
          postRet s.val (s.pc e.tid) = some e.ret) ∧
      extra.Pairwise (fun a b => a.tid ≠ b.tid) ∧
      Linearizable Spec.map (historyOf os ++ extra) := by
  rw [historyOf_eq, pendingOf_eq]
  exact LPLin.linearizable (sys_ok hc) sched s os h

/-- If no thread is between its (definitive) linearization point and its return at the end of the run (threads may
    be idle or in the middle of an operation that has not taken effect), the history of the completed operations
    is linearizable as it is. -/
theorem splitlist_linearizable_no_effect_pending {c : Cfg} (hc : SOHyp c) (sched : List (Tid × Act)) (s : St) (os : List (Tid × Obs))
    (h : (model c).run (init c) sched = some (s, os)) (hq : ∀ t, postRet s.val (s.pc t) = none) :
    Linearizable Spec.map (historyOf os) :=
  historyOf_eq os ▸ LPLin.linearizable_no_effect_pending (sys_ok hc) sched s os h hq

/-- Runs in which every invoked operation has returned. -/
theorem splitlist_linearizable_complete_runs {c : Cfg} (hc : SOHyp c) (sched : List (Tid × Act)) (s : St) (os : List (Tid × Obs))
    (h : (model c).run (init c) sched = some (s, os)) (hq : ∀ t, s.pc t = .idle) :
    Linearizable Spec.map (historyOf os) :=
  splitlist_linearizable_no_effect_pending hc sched s os h (fun t => by simp [hq t, postRet])

/-- Every history record of a run is well formed (`inv < res`): the executable checker `linCheck` decides
    linearizability of such histories (`Lin.linCheck_iff`). -/
theorem historyOf_wf (os : List (Tid × Obs)) : ∀ r ∈ historyOf os, r.inv ≤ r.res :=
  fun r hr => Nat.le_of_lt (historyOf_sound os r hr).2.2

/-- **Every completed operation takes effect inside its interval.**  For every run and every completed operation
    `r` of its history there is an instant `j` strictly between the call (observation `r.inv`) and the return
    (observation `r.res`) such that in the state `s1` reached by the first `j` actions of the run the abstract map
    `absMap s1` answers `r.op` with `r.ret` according to the sequential specification.  For the hindsight points this
    is the classic statement: a key reported absent was absent at some instant during the operation, a key reported
    present was present. -/
theorem splitlist_effect_instant {c : Cfg} (hc : SOHyp c) (sched : List (Tid × Act)) (s : St) (os : List (Tid × Obs))
    (h : (model c).run (init c) sched = some (s, os)) (r : OpRec GOp GRet) (hr : r ∈ historyOf os) :
    ∃ j s1, r.inv < j ∧ j < r.res ∧ (model c).run (init c) (sched.take j) = some (s1, os.take j) ∧
      ∃ m', Spec.map.next (absMap s1) r.op r.ret = some m' := by
  obtain ⟨j, s1, e1, e2, e3, ⟨L, hl⟩, hop, h1, s2, ev, hs, h2⟩ :=
    LPLin.lp_hindsight (sys_ok hc) sched s os h r (historyOf_eq os ▸ hr)
  obtain ⟨L', -, he⟩ := sinvl_step hc hl hs
  obtain ⟨op, ho, hok⟩ := he.lp h1 _ h2
  obtain ⟨m', hm, -⟩ := hok (absMap s1) hl.mfind_absMap
  have : op = r.op := Option.some.inj (ho.symm.trans hop)
  exact ⟨j, s1, e1, e2, e3, m', this ▸ hm⟩

/-- Hindsight for "key absent": a completed `erase k` / `find k` / `contains k` that answered `[0]` has an instant
    strictly inside its interval at which no unmarked linked node carried the key `k`. -/
theorem splitlist_absent_hindsight {c : Cfg} (hc : SOHyp c) (sched : List (Tid × Act)) (s : St) (os : List (Tid × Obs))
    (h : (model c).run (init c) sched = some (s, os)) (r : OpRec GOp GRet) (hr : r ∈ historyOf os) (k : Int)
    (hop : r.op = ⟨"erase", [k]⟩ ∨ r.op = ⟨"find", [k]⟩ ∨ r.op = ⟨"contains", [k]⟩) (hret : r.ret = [0]) :
    ∃ j s1, r.inv < j ∧ j < r.res ∧ (model c).run (init c) (sched.take j) = some (s1, os.take j) ∧
      ∀ v, (k, v) ∉ absMap s1 := by
  obtain ⟨j, s1, h1, h2, h3, h4⟩ := splitlist_effect_instant hc sched s os h r hr
  refine ⟨j, s1, h1, h2, h3, ?_⟩
  obtain ⟨L, hl⟩ := sinv_reachable hc s1 ⟨_, _, h3⟩
  intro v hv
  have := (hl.mfind_absMap k v).mpr ((hl.has_iff k v).mpr hv)
  rw [answers_absent (hret ▸ h4) hop] at this
  simp at this

/-- Hindsight for "key present": a completed failing `insert k _`, a successful `find k` (→ `[1, v]`), a successful
    `contains k` or a successful `erase k` (→ `[1, v]`) has an instant strictly inside its interval at which an
    unmarked linked node carried the key `k` (with the payload `v` reported, if one is reported). -/
theorem splitlist_present_hindsight {c : Cfg} (hc : SOHyp c) (sched : List (Tid × Act)) (s : St) (os : List (Tid × Obs))
    (h : (model c).run (init c) sched = some (s, os)) (r : OpRec GOp GRet) (hr : r ∈ historyOf os) (k : Int)
    (hop : (∃ v, r.op = ⟨"insert", [k, v]⟩ ∧ r.ret = [0]) ∨ (∃ v, r.op = ⟨"find", [k]⟩ ∧ r.ret = [1, v]) ∨
      (r.op = ⟨"contains", [k]⟩ ∧ r.ret = [1]) ∨ (∃ v, r.op = ⟨"erase", [k]⟩ ∧ r.ret = [1, v])) :
    ∃ j s1 v, r.inv < j ∧ j < r.res ∧ (model c).run (init c) (sched.take j) = some (s1, os.take j) ∧
      (k, v) ∈ absMap s1 ∧ ∀ w, r.ret = [1, w] → w = v := by
  obtain ⟨j, s1, h1, h2, h3, h4⟩ := splitlist_effect_instant hc sched s os h r hr
  obtain ⟨v, hv1, hv2⟩ := answers_present h4 hop
  obtain ⟨L, hl⟩ := sinv_reachable hc s1 ⟨_, _, h3⟩
  exact ⟨j, s1, v, h1, h2, h3, (hl.has_iff k v).mp ((hl.mfind_absMap k v).mp hv1), hv2⟩

end CdsVerif.Algo.SplitList
