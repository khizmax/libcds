/-
  The split-list invariant holds in every reachable state; consequences (structure of the list and of the bucket
  table, growth, the abstract map computed).
-/
import CdsVerif.Algo.SplitList.StepInit
import CdsVerif.Algo.SplitList.StepCount
import CdsVerif.Algo.SplitList.StepSearch
import CdsVerif.Algo.SplitList.StepCas
namespace CdsVerif.Algo.SplitList
open CdsVerif.Machine CdsVerif.Spec CdsVerif.Lin
open CdsVerif.Algo.Michael (LPok isRO)

structure InvokeEff (c : Cfg) (s : St) (t : Tid) (op : GOp) (s' : St) (L : List Nat) : Prop where
  frame : ∀ t2, t2 ≠ t → s'.pc t2 = s.pc t2
  ops : ∀ t2, t2 ≠ t → opOf s'.uk s'.val (s.pc t2) = opOf s.uk s.val (s.pc t2)
  lps : ∀ t2, t2 ≠ t → lpRet c s'.so s'.uk s'.val (s.pc t2) = lpRet c s.so s.uk s.val (s.pc t2)
  was : s.pc t = .idle
  now : opOf s'.uk s'.val (s'.pc t) = some op ∧ lpRet c s'.so s'.uk s'.val (s'.pc t) = none
  abs : ∀ k v, Has s'.mark s'.uk s'.val L k v ↔ Has s.mark s.uk s.val L k v
  mark : s'.mark = s.mark
  next : s'.next = s.next
  table : s'.table = s.table
  cnt2 : s'.cnt2 = s.cnt2
  keys : ∀ a, Alloc (mem! s) a → s'.so a = s.so a ∧ s'.uk a = s.uk a ∧ s'.val a = s.val a

/-- An operation that brings no node starts. -/
theorem sinvl_invoke_plain {c : Cfg} {s : St} {t : Tid} {L : List Nat} {o : Top} (h : SInvL c s L)
    (hpc : s.pc t = .idle) (ho : ∀ n, o ≠ .ins n) :
    SInvL c { s with pc := upd s.pc t (.gCnt o) } L ∧
      InvokeEff c s t (gop s.uk s.val o) { s with pc := upd s.pc t (.gCnt o) } L :=
  ⟨h.move hpc
      { tok_idle c _ L with
        item := fun n e => absurd (Option.some.inj e) (ho n), stkPre := nofun, bkt := nofun, icas := nofun }
      ⟨fun n e => absurd (Option.some.inj e) (ho n), nofun, nofun⟩,
    { frame := fun u hu => upd_other _ _ _ _ hu
      ops := fun _ _ => rfl
      lps := fun _ _ => rfl
      was := hpc
      now := by rw [show St.pc _ t = .gCnt o from upd_same _ _ _]; exact ⟨rfl, rfl⟩
      abs := fun _ _ => Iff.rfl
      mark := rfl
      next := rfl
      table := rfl
      cnt2 := rfl
      keys := fun _ _ => ⟨rfl, rfl, rfl⟩ }⟩

theorem sinvl_invoke {c : Cfg} {s s' : St} {t : Tid} {op : GOp} {L : List Nat}
    (h : SInvL c s L) (hs : invoke c s t op = some s') : SInvL c s' L ∧ InvokeEff c s t op s' L := by
  obtain ⟨name, args⟩ := op
  unfold invoke at hs
  split at hs
  next k v hpc hname hargs =>
    simp only [Option.some.injEq] at hs; subst hs
    dsimp only at hname hargs; subst hname hargs
    -- the item brought is fresh: nothing refers to it
    have hf : ¬ Alloc (mem! s) (2 * s.cnt + 1) := by unfold Alloc; dsimp only; omega
    have hfa : ∀ a, Alloc (mem! s) a → a ≠ 2 * s.cnt + 1 := fun a ha e => hf (e ▸ ha)
    have hso : ∀ a, a ≠ 2 * s.cnt + 1 → upd s.so (2 * s.cnt + 1) (c.reg (c.hash k)) a = s.so a := fun a e => upd_other _ _ _ _ e
    have huk : ∀ a, a ≠ 2 * s.cnt + 1 → upd s.uk (2 * s.cnt + 1) k a = s.uk a := fun a e => upd_other _ _ _ _ e
    have hvl : ∀ a, a ≠ 2 * s.cnt + 1 → upd s.val (2 * s.cnt + 1) v a = s.val a := fun a e => upd_other _ _ _ _ e
    have hal : ∀ a, Alloc ⟨s.next, s.mark, upd s.so (2 * s.cnt + 1) (c.reg (c.hash k)), upd s.uk (2 * s.cnt + 1) k,
        upd s.val (2 * s.cnt + 1) v, s.cnt + 1, s.acnt⟩ a ↔ (Alloc (mem! s) a ∨ a = 2 * s.cnt + 1) := by
      intro a; unfold Alloc; dsimp only; omega
    refine ⟨⟨h.g.allocNode hf rfl rfl hso huk hal (by intro _; dsimp only; rw [upd_same, upd_same]) (by intro e; omega),
        forall_upd (T := fun _ => TOk c _ L) ?tok
          (fun u _ => (h.thr u).allocNode h.g hf rfl rfl hso huk (fun a ha => (hal a).mpr (Or.inl ha))),
        h.own.upd t _ (fun n e => Or.inr (fun u e' => by cases e; exact hf ((h.thr u).item _ e').2.1)) nofun nofun⟩,
      ?eff⟩
    case tok =>
      exact { tok_idle c _ L with
        item := fun n e => by
          cases e
          exact ⟨by omega, (hal _).mpr (Or.inr rfl), fun hm => hf (h.g.alloc _ hm), (h.g.unalloc _ hf).2⟩
        stkPre := nofun
        bkt := nofun
        icas := nofun }
    case eff =>
      exact {
        frame := fun u hu => upd_other _ _ _ _ hu
        ops := fun u _ => opOf_congr (fun a ha =>
          have := hfa a ((h.thr u).refs_alloc h.g ha)
          ⟨huk a this, hvl a this⟩)
        lps := fun u _ => lpRet_congr (fun a ha =>
          have := hfa a ((h.thr u).refs_alloc h.g ha)
          ⟨hso a this, huk a this, hvl a this⟩)
        was := hpc
        now := by
          rw [show St.pc _ t = .gCnt (.ins (2 * s.cnt + 1)) from upd_same _ _ _]
          exact ⟨by simp only [opOf, gop, upd_same], rfl⟩
        abs := has_congr_L (fun a ha => ⟨huk a (hfa a (h.g.alloc a ha)), hvl a (hfa a (h.g.alloc a ha))⟩)
        mark := rfl
        next := rfl
        table := rfl
        cnt2 := rfl
        keys := fun a ha => ⟨hso a (hfa a ha), huk a (hfa a ha), hvl a (hfa a ha)⟩ }
  next k hpc hname hargs =>
    simp only [Option.some.injEq] at hs; subst hs
    dsimp only at hname hargs; subst hname hargs
    exact sinvl_invoke_plain (o := .era k) h hpc nofun
  next k hpc hname hargs =>
    simp only [Option.some.injEq] at hs; subst hs
    dsimp only at hname hargs; subst hname hargs
    exact sinvl_invoke_plain (o := .fnd k) h hpc nofun
  next k hpc hname hargs =>
    simp only [Option.some.injEq] at hs; subst hs
    dsimp only at hname hargs; subst hname hargs
    exact sinvl_invoke_plain (o := .con k) h hpc nofun
  next => simp at hs

theorem sinvl_result {c : Cfg} {s s' : St} {t : Tid} {r : GRet} {L : List Nat}
    (h : SInvL c s L) (hs : result s t = some (s', r)) :
    SInvL c s' L ∧ s.pc t = .done r ∧ s'.pc t = .idle ∧ (∀ t2, t2 ≠ t → s'.pc t2 = s.pc t2) ∧
      s'.so = s.so ∧ s'.uk = s.uk ∧ s'.val = s.val ∧ s'.mark = s.mark ∧ s'.next = s.next ∧ s'.table = s.table ∧
      s'.cnt2 = s.cnt2 := by
  unfold result at hs
  split at hs
  next r' hpc =>
    simp only [Option.some.injEq, Prod.mk.injEq] at hs; obtain ⟨rfl, rfl⟩ := hs
    exact ⟨h.move hpc (tok_idle c _ L) ⟨nofun, nofun, nofun⟩, hpc, upd_same _ _ _,
      fun t2 h2 => upd_other _ _ _ _ h2, rfl, rfl, rfl, rfl, rfl, rfl, rfl⟩
  next => simp at hs

theorem sinvl_step {c : Cfg} (hc : SOHyp c) {s s' : St} {t : Tid} {ev : Ev} {L : List Nat}
    (h : SInvL c s L) (hs : step c s t = some (s', ev)) : ∃ L', SInvL c s' L' ∧ StepEff c s t s' L L' := by
  cases hpc : s.pc t with
  | idle => simp [step, hpc] at hs
  | done r => simp [step, hpc] at hs
  | gCnt o => exact sinvl_step_gCnt h hpc hs
  | gTab o b => exact sinvl_step_gTab hc h hpc hs
  | iPar o stk =>
    cases stk with
    | nil => simp [step, hpc] at hs
    | cons b rest => exact sinvl_step_iPar h hpc hs
  | iBkt o stk pp =>
    cases stk with
    | nil => simp [step, hpc] at hs
    | cons b rest => exact sinvl_step_iBkt hc h hpc hs
  | iAl1 o stk pp => exact sinvl_step_iAl1 h hpc hs
  | iAl2 o stk pp =>
    cases stk with
    | nil => simp [step, hpc] at hs
    | cons b rest => exact sinvl_step_iAl2 hc h hpc hs
  | iPub o stk m =>
    cases stk with
    | nil => simp [step, hpc] at hs
    | cons b rest => exact sinvl_step_iPub hc h hpc hs
  | iWait o stk =>
    cases stk with
    | nil => simp [step, hpc] at hs
    | cons b rest => exact sinvl_step_iWait hc h hpc hs
  | sHd1 w d => exact sinvl_step_sHd1 h hpc hs
  | sHd2 w d nx mk => exact sinvl_step_sHd2 h hpc hs
  | sNx1 w d p x => exact sinvl_step_sNx1 h hpc hs
  | sNx2 w d p x nx mk => exact sinvl_step_sNx2 hc h hpc hs
  | sChk w d p x nx mk => exact sinvl_step_sChk h hpc hs
  | sHelp w d p x nx => exact sinvl_step_sHelp h hpc hs
  | iSt w d p x => exact sinvl_step_iSt h hpc hs
  | iCas w d p x => exact sinvl_step_iCas h hpc hs
  | iClr w d => exact sinvl_step_iClr h hpc hs
  | eMark k d p x nx => exact sinvl_step_eMark hc h hpc hs
  | eUnl k p x nx => exact sinvl_step_eUnl h hpc hs
  | cLd1 => exact sinvl_step_cLd1 h hpc hs
  | cAdd mx => exact sinvl_step_cAdd h hpc hs
  | cCnt mx => exact sinvl_step_cCnt hc h hpc hs
  | cMax mx sz => exact sinvl_step_cMax h hpc hs
  | cGrow sz => exact sinvl_step_cGrow h hpc hs
  | cSat => exact sinvl_step_cSat h hpc hs
  | cSub v => exact sinvl_step_cSub h hpc hs

theorem sinv_apply {c : Cfg} (hc : SOHyp c) {s s' : St} {t : Tid} {a : Act} {o : Obs} (h : SInv c s)
    (hap : (model c).apply s t a = some (s', o)) : SInv c s' := by
  obtain ⟨L, hl⟩ := h
  rcases Model.apply_cases hap with ⟨op, -, hs1, -⟩ | ⟨e, -, hs1, -⟩ | ⟨r, -, hs1, -⟩
  · exact ⟨L, (sinvl_invoke hl hs1).1⟩
  · obtain ⟨L', hl', -⟩ := sinvl_step hc hl hs1
    exact ⟨L', hl'⟩
  · exact ⟨L, (sinvl_result hl hs1).1⟩

theorem sinv_reachable {c : Cfg} (hc : SOHyp c) (s : St) (h : (model c).Reachable (init c) s) : SInv c s :=
  (model c).inv_reachable (SInv c) (init c) ⟨[0], sinv_init c hc⟩ (fun _ _ _ _ _ hi hap => sinv_apply hc hi hap) s h

/-! ### Every action: what happens to marked nodes, to linked nodes, to keys and to the bucket table -/

structure ApplyEff (s s' : St) (L L' : List Nat) : Prop where
  frz : ∀ a, s.mark a = true → s'.mark a = true ∧ s'.next a = s.next a
  mono : ∀ a, (a ∈ L ∨ s.mark a = true) → (a ∈ L' ∨ s'.mark a = true)
  keys : ∀ a, Alloc (mem! s) a → s'.so a = s.so a ∧ s'.uk a = s.uk a ∧ s'.val a = s.val a
  tabmono : ∀ b d, s.table b = some d → s'.table b = some d

theorem sinvl_apply {c : Cfg} (hc : SOHyp c) {s s' : St} {t : Tid} {a : Act} {o : Obs} {L : List Nat} (hl : SInvL c s L)
    (hap : (model c).apply s t a = some (s', o)) : ∃ L', SInvL c s' L' ∧ ApplyEff s s' L L' := by
  rcases Model.apply_cases hap with ⟨op, -, hs1, -⟩ | ⟨e, -, hs1, -⟩ | ⟨r, -, hs1, -⟩
  · obtain ⟨h1, h2⟩ := sinvl_invoke hl hs1
    exact ⟨L, h1, ⟨fun a ha => by rw [h2.mark, h2.next]; exact ⟨ha, rfl⟩, fun a ha => by rw [h2.mark]; exact ha,
      h2.keys, fun b d hd => by rw [h2.table]; exact hd⟩⟩
  · obtain ⟨L', hl', he⟩ := sinvl_step hc hl hs1
    exact ⟨L', hl', ⟨he.frz, he.mono, he.keys, he.tabmono⟩⟩
  · obtain ⟨h1, -, -, -, h4, h5, h6, h7, h8, h9, -⟩ := sinvl_result hl hs1
    exact ⟨L, h1, ⟨fun a ha => by rw [h7, h8]; exact ⟨ha, rfl⟩, fun a ha => by rw [h7]; exact ha,
      fun a _ => by rw [h4, h5, h6]; exact ⟨rfl, rfl, rfl⟩, fun b d hd => by rw [h9]; exact hd⟩⟩

/-! ### The abstract state, computed -/

/-- All linked nodes (dummy nodes and items, marked or not), in list order; the first one is the dummy of bucket 0
    (fuel: the number of nodes ever allocated). -/
def absNodes (s : St) : List Nat := Michael.walk s.next (2 * (s.cnt + s.acnt) + 1) (some 0)

/-- The abstract map: the `(key, payload)` pairs of the unmarked linked ITEMS, in list (= split) order. -/
def absMap (s : St) : List (Int × Int) :=
  ((absNodes s).filter (fun a => a % 2 == 1 && !s.mark a)).map (fun a => (s.uk a, s.val a))

theorem SInvL.absNodes_eq {c : Cfg} {s : St} {L : List Nat} (h : SInvL c s L) : absNodes s = L := by
  refine Michael.walk_of_chain h.g.chain (Michael.length_le_of_nodup_lt h.g.nodup (fun a ha => ?_))
  have := h.g.alloc a ha
  unfold Alloc at this; dsimp only at this; omega

theorem SInvL.has_iff {c : Cfg} {s : St} {L : List Nat} (h : SInvL c s L) (k v : Int) :
    Has s.mark s.uk s.val L k v ↔ (k, v) ∈ absMap s := by
  simp only [Has, absMap, h.absNodes_eq, List.mem_map, List.mem_filter, Prod.mk.injEq, Bool.and_eq_true, beq_iff_eq,
    Bool.not_eq_true']
  constructor
  · rintro ⟨a, ha, h0, h1, h2, h3⟩
    exact ⟨a, ⟨ha, h0, h1⟩, h2, h3⟩
  · rintro ⟨a, ⟨ha, h0, h1⟩, h2, h3⟩
    exact ⟨a, ha, h0, h1, h2, h3⟩

/-- No key is present twice. -/
theorem SInvL.absMap_nodup {c : Cfg} {s : St} {L : List Nat} (h : SInvL c s L) :
    (absMap s).Pairwise (fun p q => p.1 ≠ q.1) := by
  unfold absMap
  rw [List.pairwise_map, h.absNodes_eq]
  have hs : L.Pairwise (fun a b => (a % 2 == 1 && !s.mark a) = true → (b % 2 == 1 && !s.mark b) = true → s.uk a ≠ s.uk b) := by
    refine List.Pairwise.imp_of_mem ?_ h.g.sorted
    intro a b ha hb hab h1 h2 e
    simp only [Bool.and_eq_true, beq_iff_eq] at h1 h2
    have e1 := h.g.regso a h1.1 (h.g.alloc a ha)
    have e2 := h.g.regso b h2.1 (h.g.alloc b hb)
    dsimp only at e1 e2
    unfold KLt klt at hab
    dsimp only at hab
    rw [e1, e2, e] at hab
    omega
  exact (List.pairwise_filter.mpr (hs.imp (fun hab h1 h2 => hab h1 h2)))

theorem mfind_iff_mem : ∀ {m : MapSt}, m.Pairwise (fun p q => p.1 ≠ q.1) → ∀ k v, mfind m k = some v ↔ (k, v) ∈ m
  | [], _, k, v => by simp [mfind]
  | (k1, v1) :: m, hpw, k, v => by
    have hpw' := List.pairwise_cons.mp hpw
    rw [Michael.mfind_cons, List.mem_cons]
    by_cases e : k = k1
    · subst e
      simp only [if_true, Option.some.injEq, Prod.mk.injEq, true_and]
      constructor
      · intro h; exact Or.inl h.symm
      · rintro (h | h)
        · exact h.symm
        · exact absurd rfl (hpw'.1 (k, v) h)
    · simp only [e, if_false, Prod.mk.injEq, false_and, false_or]
      exact mfind_iff_mem hpw'.2 k v

theorem SInvL.mfind_absMap {c : Cfg} {s : St} {L : List Nat} (h : SInvL c s L) (k v : Int) :
    mfind (absMap s) k = some v ↔ Has s.mark s.uk s.val L k v := by
  rw [h.has_iff]
  exact mfind_iff_mem h.absMap_nodup k v

/-- In a sorted duplicate-free list, a node that sorts before another one precedes it. -/
theorem sorted_before {so : Nat → Nat} {uk : Nat → Int} : ∀ {L : List Nat}, L.Pairwise (KLt so uk) → ∀ d a, d ∈ L → a ∈ L →
    KLt so uk d a → ∃ l1 l2, L = l1 ++ d :: l2 ∧ a ∈ l2
  | [], _, _, _, hd, _, _ => by simp at hd
  | x :: L, hs, d, a, hd, ha, hlt => by
    have hs' := List.pairwise_cons.mp hs
    rcases List.mem_cons.mp hd with e | hdL
    · subst e
      rcases List.mem_cons.mp ha with e2 | haL
      · subst e2; exact absurd hlt (KLt.irrefl _)
      · exact ⟨[], L, rfl, haL⟩
    · rcases List.mem_cons.mp ha with e2 | haL
      · subst e2
        exact absurd (KLt.trans _ _ _ (hs'.1 d hdL) hlt) (KLt.irrefl _)
      · obtain ⟨l1, l2, e, h2⟩ := sorted_before hs'.2 d a hdL haL hlt
        exact ⟨x :: l1, l2, by rw [e]; rfl, h2⟩

/-! ### Reachable states -/

/-- (1a) In every reachable state: following the pointers from the dummy of bucket 0 visits the finite list `absNodes`
    and ends in null; all visited nodes — dummy nodes and items, marked or not — are strictly sorted by
    ( split-order hash, user key ), hence pairwise different; dummy nodes are never marked (never erased) and carry an
    even split-order key, items carry `regular_hash( hash( key ))`. -/
theorem reachable_structure {c : Cfg} (hc : SOHyp c) (s : St) (h : (model c).Reachable (init c) s) :
    Michael.Chain s.next (some 0) (absNodes s) ∧ (absNodes s).Pairwise (KLt s.so s.uk) ∧ (absNodes s).Nodup ∧
      (∀ a, a % 2 = 0 → s.mark a = false) ∧
      (∀ a, a ∈ absNodes s → (a % 2 = 0 → s.so a % 2 = 0) ∧ (a % 2 = 1 → s.so a = c.reg (c.hash (s.uk a)))) := by
  obtain ⟨L, hl⟩ := sinv_reachable hc s h
  rw [hl.absNodes_eq]
  refine ⟨hl.g.chain, hl.g.sorted, hl.g.nodup, hl.g.dmark, fun a ha => ⟨fun e => ?_, fun e => ?_⟩⟩
  · exact hl.g.dumso a e (hl.g.alloc a ha)
  · exact hl.g.regso a e (hl.g.alloc a ha)

/-- (1b) Every published bucket pointer points to a linked, unmarked dummy node that carries the dummy key of that
    bucket; bucket 0 is always published. -/
theorem reachable_table {c : Cfg} (hc : SOHyp c) (s : St) (h : (model c).Reachable (init c) s) :
    s.table 0 = some 0 ∧ s.cnt2 ≤ c.maxLog ∧
    ∀ b d, s.table b = some d → d ∈ absNodes s ∧ d % 2 = 0 ∧ s.mark d = false ∧ s.so d = c.dum b ∧ s.uk d = 0 := by
  obtain ⟨L, hl⟩ := sinv_reachable hc s h
  rw [hl.absNodes_eq]
  refine ⟨hl.g.tab0, hl.g.cntb, fun b d hd => ?_⟩
  have := hl.g.tab b d hd
  exact ⟨this.1, this.2.1, hl.g.dmark d this.2.1, this.2.2⟩

/-- (1c) / (3b) A bucket's dummy precedes every key of the bucket — for EVERY table size: if the pointer of bucket `b` is
    published and the item `a` is linked with `hash( key a ) mod 2^j = b` for some `j ≤ maxLog`, then the dummy sorts
    before `a` and `a` is on the part of the list behind the dummy.  In particular a child bucket initialised lazily
    after a growth sees every key of its range that was inserted through the parent bucket. -/
theorem reachable_bucket_sees {c : Cfg} (hc : SOHyp c) (s : St) (h : (model c).Reachable (init c) s)
    (b d a j : Nat) (hb : s.table b = some d) (ha : a ∈ absNodes s) (hodd : a % 2 = 1) (hj : j ≤ c.maxLog)
    (hab : c.hash (s.uk a) % 2 ^ j = b) :
    KLt s.so s.uk d a ∧ ∃ l1 l2, absNodes s = l1 ++ d :: l2 ∧ a ∈ l2 := by
  obtain ⟨L, hl⟩ := sinv_reachable hc s h
  rw [hl.absNodes_eq] at ha ⊢
  have htab := hl.g.tab b d hb
  have hreg := hl.g.regso a hodd (hl.g.alloc a ha)
  dsimp only at htab hreg
  have hlt : KLt s.so s.uk d a := by
    unfold KLt klt
    left
    rw [htab.2.2.1, hreg]
    exact hc.dumReg _ _ ⟨j, hj, hab.symm⟩
  exact ⟨hlt, sorted_before hl.g.sorted d a htab.1 ha hlt⟩

/-- (1d) The dummy a MichaelList operation starts from is linked, unmarked, and sorts before the key searched for:
    the search from the dummy finds what a search from the head would. -/
theorem reachable_start {c : Cfg} (hc : SOHyp c) (s : St) (h : (model c).Reachable (init c) s) (t : Tid) (d : Nat)
    (hd : pcStart (s.pc t) = some d) :
    d ∈ absNodes s ∧ d % 2 = 0 ∧ s.mark d = false ∧
      klt (s.so d) (s.uk d) (skeyS c s.so (s.pc t)) (skeyU s.uk (s.pc t)) := by
  obtain ⟨L, hl⟩ := sinv_reachable hc s h
  rw [hl.absNodes_eq]
  have := (hl.thr t).start d hd
  exact ⟨this.1, this.2.1, hl.g.dmark d this.2.1, this.2.2⟩

/-- No key is present twice. -/
theorem reachable_no_duplicate_keys {c : Cfg} (hc : SOHyp c) (s : St) (h : (model c).Reachable (init c) s) :
    ((absMap s).map (·.1)).Nodup := by
  obtain ⟨L, hl⟩ := sinv_reachable hc s h
  rw [List.Nodup, List.pairwise_map]
  exact hl.absMap_nodup

/-- A marked (logically deleted) node is frozen; keys and payloads of allocated nodes never change; a published
    bucket pointer never changes. -/
theorem frozen_and_immutable {c : Cfg} (hc : SOHyp c) {s s' : St} {t : Tid} {a : Act} {o : Obs}
    (h : (model c).Reachable (init c) s) (hap : (model c).apply s t a = some (s', o)) :
    (∀ x, s.mark x = true → s'.mark x = true ∧ s'.next x = s.next x) ∧
    (∀ x, x ∈ absNodes s → s'.so x = s.so x ∧ s'.uk x = s.uk x ∧ s'.val x = s.val x) ∧
    (∀ b d, s.table b = some d → s'.table b = some d) ∧
    (∀ x, (x ∈ absNodes s ∨ s.mark x = true) → (x ∈ absNodes s' ∨ s'.mark x = true)) := by
  obtain ⟨L, hl⟩ := sinv_reachable hc s h
  obtain ⟨L', hl', he⟩ := sinvl_apply hc hl hap
  rw [hl.absNodes_eq, hl'.absNodes_eq]
  exact ⟨he.frz, fun x hx => he.keys x (hl.g.alloc x hx), he.tabmono, he.mono⟩

/-- (3a) Growth: the step that doubles the bucket count (the successful CAS on `m_nBucketCountLog2`) changes nothing
    else: the list, the marks, the bucket table and therefore the abstract map are untouched; it is performed by a
    thread that has already fixed its result `[1]` definitively (a successful insert) and keeps it, and no other
    thread's (tentative or definitive) result changes.  No other step changes the bucket count. -/
theorem growth_step {c : Cfg} (hc : SOHyp c) {s s' : St} {t : Tid} {ev : Ev} (h : (model c).Reachable (init c) s)
    (hs : step c s t = some (s', ev)) (hg : s'.cnt2 ≠ s.cnt2) :
    s'.cnt2 = s.cnt2 + 1 ∧ s'.next = s.next ∧ s'.mark = s.mark ∧ s'.table = s.table ∧ absNodes s' = absNodes s ∧
      absMap s' = absMap s ∧ postRet s.val (s.pc t) = some [1] ∧ postRet s'.val (s'.pc t) = some [1] ∧
      (∀ t2, t2 ≠ t → lpRet c s'.so s'.uk s'.val (s'.pc t2) = lpRet c s.so s.uk s.val (s.pc t2)) := by
  obtain ⟨L, hl⟩ := sinv_reachable hc s h
  obtain ⟨L', hl', he⟩ := sinvl_step hc hl hs
  obtain ⟨e1, e2, e3, e4, e5, e6, e7⟩ := he.grow hg
  have hn : absNodes s' = absNodes s := by rw [hl.absNodes_eq, hl'.absNodes_eq, e1]
  refine ⟨e5, e2, e3, e4, hn, ?_, e6, e7, ?_⟩
  · unfold absMap
    rw [hn, e3, hl.absNodes_eq]
    apply List.map_congr_left
    intro a ha
    have := he.keys a (hl.g.alloc a (List.mem_filter.mp ha).1)
    rw [this.2.1, this.2.2]
  · intro t2 ht
    rw [he.frame t2 ht, he.lps t2 ht]

/-- (3a') Publishing a bucket pointer (and, by `step_refines`, linking a dummy node) is not a linearization point of
    anything and leaves the list and the abstract map alone. -/
theorem publish_step {c : Cfg} (hc : SOHyp c) {s s' : St} {t : Tid} {ev : Ev} (h : (model c).Reachable (init c) s)
    (hs : step c s t = some (s', ev)) (b : Nat) (hb : s'.table b ≠ s.table b) :
    s'.next = s.next ∧ s'.mark = s.mark ∧ s'.cnt2 = s.cnt2 ∧ absNodes s' = absNodes s ∧
      lpRet c s.so s.uk s.val (s.pc t) = none ∧ lpRet c s'.so s'.uk s'.val (s'.pc t) = none ∧
      (∀ k v, (k, v) ∈ absMap s' ↔ (k, v) ∈ absMap s) := by
  obtain ⟨L, hl⟩ := sinv_reachable hc s h
  obtain ⟨L', hl', he⟩ := sinvl_step hc hl hs
  obtain ⟨e1, e2, e3, e4, e5, e6⟩ := he.publish b hb
  refine ⟨e2, e3, e4, by rw [hl.absNodes_eq, hl'.absNodes_eq, e1], e5, e6, fun k v => ?_⟩
  rw [← hl'.has_iff, ← hl.has_iff]
  exact he.nolp (Or.inr e6) k v

/-- Refinement on `absMap`: in a reachable state, the step at which thread `t` fixes its result `r` — tentatively
    for the hindsight points — is the `Spec.map` transition of `t`'s operation with result `r` from the abstract map
    before the step to (a representation of) the abstract map after the step; every other step — in particular
    every step of `get_bucket`, `init_bucket` and `inc_item_count` — leaves the abstract map unchanged. -/
theorem step_refines {c : Cfg} (hc : SOHyp c) {s s' : St} {t : Tid} {ev : Ev} (h : (model c).Reachable (init c) s)
    (hs : step c s t = some (s', ev)) :
    (lpRet c s.so s.uk s.val (s.pc t) = none → ∀ r, lpRet c s'.so s'.uk s'.val (s'.pc t) = some r →
      ∃ op m', opOf s.uk s.val (s.pc t) = some op ∧ Spec.map.next (absMap s) op r = some m' ∧
        ∀ k v, mfind m' k = some v ↔ (k, v) ∈ absMap s') ∧
    ((lpRet c s.so s.uk s.val (s.pc t) ≠ none ∨ lpRet c s'.so s'.uk s'.val (s'.pc t) = none) →
      ∀ k v, (k, v) ∈ absMap s' ↔ (k, v) ∈ absMap s) := by
  obtain ⟨L, hl⟩ := sinv_reachable hc s h
  obtain ⟨L', hl', he⟩ := sinvl_step hc hl hs
  constructor
  · intro h1 r h2
    obtain ⟨op, ho, hok⟩ := he.lp h1 r h2
    obtain ⟨m', hm1, hm2⟩ := hok (absMap s) hl.mfind_absMap
    exact ⟨op, m', ho, hm1, fun k v => (hm2 k v).trans (hl'.has_iff k v)⟩
  · intro hcnd k v
    rw [← hl'.has_iff, ← hl.has_iff]
    exact he.nolp hcnd k v

/-- A node is marked by exactly one `erase`, the one that returns success for it; only items are ever marked. -/
theorem erase_once {c : Cfg} (hc : SOHyp c) {s s' : St} {t : Tid} {ev : Ev} (h : (model c).Reachable (init c) s)
    (hs : step c s t = some (s', ev)) :
    (∀ a, s.mark a = false → s'.mark a = true →
      ∃ k d p x, s.pc t = .eMark k d p a x ∧ s'.pc t = .eUnl k p a x ∧ s.uk a = k ∧ a ∈ absNodes s ∧ a % 2 = 1 ∧
        postRet s'.val (s'.pc t) = some [1, s.val a]) ∧
    (∀ t1 t2 k1 p1 a x1 k2 p2 x2, s'.pc t1 = .eUnl k1 p1 a x1 → s'.pc t2 = .eUnl k2 p2 a x2 → t1 = t2) := by
  obtain ⟨L, hl⟩ := sinv_reachable hc s h
  obtain ⟨L', hl', he⟩ := sinvl_step hc hl hs
  refine ⟨?_, hl'.own.eunl⟩
  intro a h1 h2
  obtain ⟨k, d, p, x, e1, e2, e3, e4, e5⟩ := he.marks a h1 h2
  refine ⟨k, d, p, x, e1, e2, e3, by rw [hl.absNodes_eq]; exact e4, e5, ?_⟩
  rw [e2]; simp only [postRet]
  rw [(he.keys a (hl.g.alloc a e4)).2.2]

end CdsVerif.Algo.SplitList
