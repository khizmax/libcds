/-
  Preservation of the split-list invariant, and the effect on the abstract map, by the steps of `search` (loads and
  validation) — for a client operation and for the insertion of a dummy node alike.
-/
import CdsVerif.Algo.SplitList.Search
namespace CdsVerif.Algo.SplitList
open CdsVerif.Machine CdsVerif.Spec CdsVerif.Lin
open CdsVerif.Algo.Michael (LPok isRO)

theorem sinvl_step_sHd1 {c : Cfg} {s s' : St} {t : Tid} {ev : Ev} {L : List Nat} {w : OpK} {d : Nat}
    (h : SInvL c s L) (hpc : s.pc t = .sHd1 w d) (hs : step c s t = some (s', ev)) :
    ∃ L', SInvL c s' L' ∧ StepEff c s t s' L L' := by
  have ht := h.thr t
  rw [hpc] at ht
  simp only [step, hpc, Option.some.injEq, Prod.mk.injEq] at hs
  obtain ⟨rfl, -⟩ := hs
  exact h.pc_step hpc { ht with lkNx := fun a e => h.g.next_lk (Or.inl (ht.start d rfl).1) e, icas := nofun }
    (.same rfl rfl nofun)
    (.silent rfl rfl rfl rfl rfl)

theorem sinvl_step_sNx1 {c : Cfg} {s s' : St} {t : Tid} {ev : Ev} {L : List Nat} {w : OpK} {d prev cur : Nat}
    (h : SInvL c s L) (hpc : s.pc t = .sNx1 w d prev cur) (hs : step c s t = some (s', ev)) :
    ∃ L', SInvL c s' L' ∧ StepEff c s t s' L L' := by
  have ht := h.thr t
  rw [hpc] at ht
  simp only [step, hpc, Option.some.injEq, Prod.mk.injEq] at hs
  obtain ⟨rfl, -⟩ := hs
  exact h.pc_step hpc
    { ht with
      lkNx := fun a e => h.g.next_lk (ht.lkCur cur rfl) e
      frozen := fun a x e => by
        simp only [pcFrozen, Option.some.injEq, Prod.mk.injEq] at e
        obtain ⟨rfl, rfl, e⟩ := e
        exact ⟨rfl, e⟩
      icas := nofun }
    (.same rfl rfl nofun)
    (.silent rfl rfl rfl rfl rfl)

theorem sinvl_step_sHd2 {c : Cfg} {s s' : St} {t : Tid} {ev : Ev} {L : List Nat} {w : OpK} {d : Nat}
    {nx : Option Nat} {mk : Bool}
    (h : SInvL c s L) (hpc : s.pc t = .sHd2 w d nx mk) (hs : step c s t = some (s', ev)) :
    ∃ L', SInvL c s' L' ∧ StepEff c s t s' L L' := by
  have ht := h.thr t
  rw [hpc] at ht
  simp only [step, hpc] at hs
  split at hs
  next hv =>
    simp only [Option.some.injEq, Prod.mk.injEq] at hs
    obtain ⟨rfl, -⟩ := hs
    exact h.pc_step hpc ht.afterHd (.afterHd rfl rfl) (.afterHd h.g (ht.start d rfl).1 hv.1)
  next =>
    simp only [Option.some.injEq, Prod.mk.injEq] at hs
    obtain ⟨rfl, -⟩ := hs
    exact h.pc_step hpc { ht with lkNx := nofun, icas := nofun } (.same rfl rfl nofun)
      (.silent rfl rfl rfl rfl rfl)

theorem sinvl_step_sNx2 {c : Cfg} (hc : SOHyp c) {s s' : St} {t : Tid} {ev : Ev} {L : List Nat} {w : OpK} {d prev cur : Nat}
    {nx : Option Nat} {mk : Bool}
    (h : SInvL c s L) (hpc : s.pc t = .sNx2 w d prev cur nx mk) (hs : step c s t = some (s', ev)) :
    ∃ L', SInvL c s' L' ∧ StepEff c s t s' L L' := by
  have ht := h.thr t
  rw [hpc] at ht
  simp only [step, hpc] at hs
  split at hs
  next hv =>
    simp only [Option.some.injEq, Prod.mk.injEq] at hs
    obtain ⟨rfl, -⟩ := hs
    have hitem : ∀ n, wtop w = .ins n → Alloc (mem! s) n ∧ n % 2 = 1 := fun n e =>
      have := ht.item n (congrArg some e)
      ⟨this.2.1, this.1⟩
    exact h.pc_step hpc { ht with icas := nofun } (.same rfl rfl nofun)
      (.pending rfl rfl rfl (fun _ => rfl)
        (fun r e => h.g.lp_tent hc (ht.lkCur cur rfl) hv.1 hv.2 hitem e) (fun _ _ _ => Iff.rfl))
  next =>
    simp only [Option.some.injEq, Prod.mk.injEq] at hs
    obtain ⟨rfl, -⟩ := hs
    exact h.pc_step hpc { ht with lkNx := nofun, frozen := nofun, icas := nofun } (.same rfl rfl nofun)
      (.silent rfl rfl rfl rfl rfl)

theorem sinvl_step_sChk {c : Cfg} {s s' : St} {t : Tid} {ev : Ev} {L : List Nat} {w : OpK} {d prev cur : Nat}
    {nx : Option Nat} {mk : Bool}
    (h : SInvL c s L) (hpc : s.pc t = .sChk w d prev cur nx mk) (hs : step c s t = some (s', ev)) :
    ∃ L', SInvL c s' L' ∧ StepEff c s t s' L L' := by
  have ht := h.thr t
  rw [hpc] at ht
  simp only [step, hpc] at hs
  split at hs
  next hv =>
    simp only [Option.some.injEq, Prod.mk.injEq] at hs
    obtain ⟨rfl, -⟩ := hs
    exact h.pc_step hpc ht.afterChk (.afterChk rfl rfl) (.afterChk h.g ht hv)
  next =>
    simp only [Option.some.injEq, Prod.mk.injEq] at hs
    obtain ⟨rfl, -⟩ := hs
    refine h.pc_step hpc
      { ht with lkPrev := nofun, lkCur := nofun, lkNx := nofun, keyPrev := nofun, frozen := nofun, icas := nofun }
      (.same rfl rfl nofun)
      ?_
    -- a tentative answer given up is the answer of a read-only operation
    exact {
      lp := nofun
      nolp := fun _ _ _ => Iff.rfl
      keep := fun r e => Or.inr ⟨⟨_, rfl, tent_ro e⟩, rfl⟩
      pkeep := nofun
      op := fun _ => rfl
      busy := ⟨nofun, nofun⟩ }

end CdsVerif.Algo.SplitList
