/-
  Helper lemmas for the step proofs of the split-list invariant: how the six kinds of memory updates (store into a
  private node, physical unlink, link, mark, allocation of a dummy node / of an item) act on the global clauses `GOk`
  and on the clauses `TOk` of a thread that does not move.  Each is a structure update of the old clauses: the fields
  listed are those that read a word the update writes, or the list.
-/
import CdsVerif.Algo.SplitList.Inv
namespace CdsVerif.Algo.SplitList
open CdsVerif.Machine CdsVerif.Spec CdsVerif.Lin
open CdsVerif.Algo.Michael (LPok isRO)

theorem ne_of_mark {mark : Nat → Bool} {a n : Nat} (ha : mark a = true) (hn : mark n = false) : a ≠ n :=
  fun e => by rw [e, hn] at ha; cases ha

/-- A thread that does not own `n` is not about to link it. -/
theorem icas_ne {pc : PC} {n : Nat} (hne : pcTop pc ≠ some (.ins n) ∧ pcDum pc ≠ some n) :
    ∀ w d p y, pc = .iCas w d p y → wnode w ≠ some n := by
  intro w d p y e hw
  subst e
  rcases wnode_refs hw with e | e
  · exact hne.1 (congrArg some e)
  · exact hne.2 e

/-- When the marked node `x` is unlinked, a node that is linked or marked stays so. -/
theorem lk_erase {mark : Nat → Bool} {L : List Nat} {x a : Nat} (hnd : L.Nodup) (hxm : mark x = true)
    (ha : a ∈ L ∨ mark a = true) : a ∈ L.erase x ∨ mark a = true :=
  ha.elim (fun hL => if e : a = x then Or.inr (e ▸ hxm) else Or.inl ((List.Nodup.mem_erase_iff hnd).mpr ⟨e, hL⟩)) Or.inr

/-! ### The six ways the memory changes, and what they do to the global clauses and to another thread's clauses -/

section
variable {c : Cfg} {m : Mem} {tb : Nat → Option Nat} {k2 : Nat} {L : List Nat}

/-- K1: a store into a private node. -/
theorem GOk.upd_priv (g : GOk c m tb k2 L) {n : Nat} (x : Option Nat) (hn : n ∉ L) (hnm : m.mark n = false) (ha : Alloc m n) :
    GOk c { m with next := upd m.next n x, mark := upd m.mark n false } tb k2 L :=
  have hm : ∀ a, m.mark a = true → upd m.mark n false a = true := fun a e => (upd_other _ _ _ _ (ne_of_mark e hnm)).trans e
  have hm' : ∀ a, upd m.mark n false a = true → a ≠ n ∧ m.mark a = true := fun a e =>
    have hne : a ≠ n := fun e' => by rw [e', upd_same] at e; cases e
    ⟨hne, (upd_other _ _ _ _ hne).symm.trans e⟩
  { g with
    chain := Michael.Chain.upd hn g.chain
    unalloc := fun a hna =>
      have hne : a ≠ n := fun e => hna (e ▸ ha)
      ⟨(upd_other _ _ _ _ hne).trans (g.unalloc a hna).1, (upd_other _ _ _ _ hne).trans (g.unalloc a hna).2⟩
    dmark := fun a he => if e : a = n then e ▸ upd_same _ _ _ else (upd_other _ _ _ _ e).trans (g.dmark a he)
    succ := fun a b ea eb =>
      have ha' := hm' a ea
      (g.succ a b ha'.2 ((upd_other _ _ _ _ ha'.1).symm.trans eb)).imp id (hm b) }

/-- The node a thread is about to link is private to it. -/
theorem TOk.icas_priv {pc : PC} (h : TOk c m L pc) {w : OpK} {d q : Nat} {y : Option Nat} {n : Nat} (e : pc = .iCas w d q y)
    (hw : wnode w = some n) : n ∉ L := by
  subst e
  rcases wnode_refs hw with e | e
  · exact (h.item n (congrArg some e)).2.2.1
  · exact (h.dumPriv n e).2.2

theorem TOk.upd_priv {pc : PC} (h : TOk c m L pc) {n : Nat} (x : Option Nat) (hnm : m.mark n = false)
    (hic : ∀ w d p y, pc = .iCas w d p y → wnode w ≠ some n) :
    TOk c { m with next := upd m.next n x, mark := upd m.mark n false } L pc :=
  have lk : ∀ a, (a ∈ L ∨ m.mark a = true) → (a ∈ L ∨ upd m.mark n false a = true) := fun _ ha =>
    ha.imp id (fun hm => (upd_other _ _ _ _ (ne_of_mark hm hnm)).trans hm)
  { h with
    item := fun n' e => by
      obtain ⟨h1, h2, h3, h4⟩ := h.item n' e
      refine ⟨h1, h2, h3, ?_⟩
      by_cases e' : n' = n
      · exact e' ▸ upd_same _ _ _
      · exact (upd_other _ _ _ _ e').trans h4
    lkPrev := fun a e => lk a (h.lkPrev a e)
    lkCur := fun a e => lk a (h.lkCur a e)
    lkNx := fun a e => lk a (h.lkNx a e)
    frozen := fun a y e =>
      have ⟨h1, h2⟩ := h.frozen a y e
      have hne := ne_of_mark h2 hnm
      ⟨(upd_other _ _ _ _ hne).trans h1, (upd_other _ _ _ _ hne).trans h2⟩
    icas := fun w d p y n' e hw =>
      (upd_other _ _ _ _ (fun (e' : n' = n) => hic w d p y e (e' ▸ hw))).trans (h.icas w d p y n' e hw) }

/-- K2: the physical unlink of the marked node `x` behind the unmarked chain node `p`. -/
theorem GOk.unlink (g : GOk c m tb k2 L) {p x : Nat} (hp : p ∈ L) (_hpm : m.mark p = false) (hpx : m.next p = some x)
    (hxm : m.mark x = true) :
    GOk c { m with next := upd m.next p (m.next x) } tb k2 (L.erase x) :=
  have hnd := g.nodup
  { g with
    chain := Michael.Chain.unlink hpx g.chain hnd hp
    sorted := g.sorted.sublist List.erase_sublist
    alloc := fun a ha => g.alloc a (List.mem_of_mem_erase ha)
    unalloc := fun a hna =>
      have hne : a ≠ p := fun e => hna (e ▸ g.alloc p hp)
      ⟨(upd_other _ _ _ _ hne).trans (g.unalloc a hna).1, (g.unalloc a hna).2⟩
    succ := fun a b ea eb => lk_erase hnd hxm (g.succ a b ea ((upd_other _ _ _ _ (ne_of_mark ea _hpm)).symm.trans eb))
    tab := fun b d e =>
      have hd := g.tab b d e
      ⟨(List.Nodup.mem_erase_iff hnd).mpr ⟨(ne_of_mark hxm (g.dmark d hd.2.1)).symm, hd.1⟩, hd.2⟩ }

theorem TOk.unlink {pc : PC} (h : TOk c m L pc) (g : GOk c m tb k2 L) {p x : Nat} (hp : p ∈ L) (hpm : m.mark p = false)
    (hxm : m.mark x = true) :
    TOk c { m with next := upd m.next p (m.next x) } (L.erase x) pc :=
  have sub : ∀ a, a ∉ L → a ∉ L.erase x := fun _ ha hm => ha (List.mem_of_mem_erase hm)
  -- a dummy node is never unlinked
  have ev : ∀ a, a ∈ L → a % 2 = 0 → a ∈ L.erase x := fun a hL he =>
    (List.Nodup.mem_erase_iff g.nodup).mpr ⟨(ne_of_mark hxm (g.dmark a he)).symm, hL⟩
  { h with
    item := fun n e => have hi := h.item n e; ⟨hi.1, hi.2.1, sub n hi.2.2.1, hi.2.2.2⟩
    dumPriv := fun a e => have hi := h.dumPriv a e; ⟨hi.1, hi.2.1, sub a hi.2.2⟩
    lkPrev := fun a e => lk_erase g.nodup hxm (h.lkPrev a e)
    lkCur := fun a e => lk_erase g.nodup hxm (h.lkCur a e)
    lkNx := fun a e => lk_erase g.nodup hxm (h.lkNx a e)
    frozen := fun a y e =>
      have hf := h.frozen a y e
      ⟨(upd_other _ _ _ _ (ne_of_mark hf.2 hpm)).trans hf.1, hf.2⟩
    icas := fun w d q y n e hw =>
      (upd_other _ _ _ _ (fun (e' : n = p) => h.icas_priv e hw (e' ▸ hp))).trans (h.icas w d q y n e hw)
    start := fun d e => have hi := h.start d e; ⟨ev d hi.1 hi.2.1, hi.2⟩
    pp := fun a b rest e e' => have hi := h.pp a b rest e e'; ⟨ev a hi.1 hi.2.1, hi.2⟩
    pub := fun a b rest e e' => have hi := h.pub a b rest e e'; ⟨ev a hi.1 hi.2.1, hi.2⟩ }

/-- K3: the successful CAS of `link_node`. -/
theorem GOk.link (g : GOk c m tb k2 L) {p n : Nat} (hp : p ∈ L) (hn : n ∉ L) (hna : Alloc m n) (_hnm : m.mark n = false)
    (hnn : m.next n = m.next p) (hpn : KLt m.so m.uk p n) (hnc : ∀ x, m.next p = some x → KLt m.so m.uk n x) :
    GOk c { m with next := upd m.next p (some n) } tb k2 (Michael.insAfter p n L) :=
  have sub : ∀ a, a ∈ L → a ∈ Michael.insAfter p n L := fun _ ha => (Michael.mem_insAfter hp).mpr (Or.inl ha)
  { g with
    chain := Michael.Chain.insAfter hnn g.chain g.nodup hp hn
    sorted := Michael.pairwise_insAfter (nx := m.next) KLt.trans hpn hnc g.chain g.sorted hp
    alloc := fun a ha => ((Michael.mem_insAfter hp).mp ha).elim (g.alloc a) (fun e => e ▸ hna)
    unalloc := fun a hna' =>
      have hne : a ≠ p := fun e => hna' (e ▸ g.alloc p hp)
      ⟨(upd_other _ _ _ _ hne).trans (g.unalloc a hna').1, (g.unalloc a hna').2⟩
    succ := fun a b ea eb => by
      by_cases e : a = p
      · have eb' : some n = some b := (upd_same m.next p (some n)).symm.trans (e ▸ eb)
        cases eb'
        exact Or.inl ((Michael.mem_insAfter hp).mpr (Or.inr rfl))
      · exact (g.succ a b ea ((upd_other _ _ _ _ e).symm.trans eb)).imp (sub b) id
    tab := fun b d e => have hd := g.tab b d e; ⟨sub d hd.1, hd.2⟩ }

theorem TOk.link {pc : PC} (h : TOk c m L pc) {p n : Nat} (hp : p ∈ L) (hpm : m.mark p = false)
    (hne : pcTop pc ≠ some (.ins n) ∧ pcDum pc ≠ some n) :
    TOk c { m with next := upd m.next p (some n) } (Michael.insAfter p n L) pc :=
  have sub : ∀ a, a ∈ L → a ∈ Michael.insAfter p n L := fun _ ha => (Michael.mem_insAfter hp).mpr (Or.inl ha)
  have lk : ∀ a, (a ∈ L ∨ m.mark a = true) → (a ∈ Michael.insAfter p n L ∨ m.mark a = true) := fun a ha =>
    ha.imp (sub a) id
  { h with
    item := fun a e =>
      have hi := h.item a e
      ⟨hi.1, hi.2.1, fun hm => ((Michael.mem_insAfter hp).mp hm).elim hi.2.2.1 (fun e' => hne.1 (e' ▸ e)), hi.2.2.2⟩
    dumPriv := fun a e =>
      have hi := h.dumPriv a e
      ⟨hi.1, hi.2.1, fun hm => ((Michael.mem_insAfter hp).mp hm).elim hi.2.2 (fun e' => hne.2 (e' ▸ e))⟩
    lkPrev := fun a e => lk a (h.lkPrev a e)
    lkCur := fun a e => lk a (h.lkCur a e)
    lkNx := fun a e => lk a (h.lkNx a e)
    frozen := fun a y e =>
      have hf := h.frozen a y e
      ⟨(upd_other _ _ _ _ (ne_of_mark hf.2 hpm)).trans hf.1, hf.2⟩
    icas := fun w d q y a e hw =>
      (upd_other _ _ _ _ (fun (e' : a = p) => h.icas_priv e hw (e' ▸ hp))).trans (h.icas w d q y a e hw)
    start := fun d e => have hi := h.start d e; ⟨sub d hi.1, hi.2⟩
    pp := fun a b rest e e' => have hi := h.pp a b rest e e'; ⟨sub a hi.1, hi.2⟩
    pub := fun a b rest e e' => have hi := h.pub a b rest e e'; ⟨sub a hi.1, hi.2⟩ }

/-- K4: the marking CAS of `unlink_node`, on the chain item `x`. -/
theorem GOk.markit (g : GOk c m tb k2 L) {x : Nat} (hx : x ∈ L) (hodd : x % 2 = 1) :
    GOk c { m with mark := upd m.mark x true } tb k2 L :=
  { g with
    unalloc := fun a hna =>
      have hne : a ≠ x := fun e => hna (e ▸ g.alloc x hx)
      ⟨(g.unalloc a hna).1, (upd_other _ _ _ _ hne).trans (g.unalloc a hna).2⟩
    dmark := fun a he => (upd_other _ _ _ _ (fun (e : a = x) => by omega)).trans (g.dmark a he)
    succ := fun a b ea eb => by
      by_cases e : a = x
      · exact Or.inl (g.next_mem hx (e ▸ eb))
      · exact (g.succ a b ((upd_other _ _ _ _ e).symm.trans ea) eb).imp id upd_true }

theorem TOk.markit {pc : PC} (h : TOk c m L pc) {x : Nat} (hx : x ∈ L) :
    TOk c { m with mark := upd m.mark x true } L pc :=
  have lk : ∀ a, (a ∈ L ∨ m.mark a = true) → (a ∈ L ∨ upd m.mark x true a = true) := fun _ ha => ha.imp id upd_true
  { h with
    item := fun n e =>
      have hi := h.item n e
      ⟨hi.1, hi.2.1, hi.2.2.1, (upd_other _ _ _ _ (fun (e' : n = x) => hi.2.2.1 (e' ▸ hx))).trans hi.2.2.2⟩
    lkPrev := fun a e => lk a (h.lkPrev a e)
    lkCur := fun a e => lk a (h.lkCur a e)
    lkNx := fun a e => lk a (h.lkNx a e)
    frozen := fun a y e => have hf := h.frozen a y e; ⟨hf.1, upd_true hf.2⟩ }

theorem pcGtCur_cur {pc : PC} {a : Nat} (h : pcGtCur pc = some a) : pcCur pc = some a := by
  cases pc <;> simp_all [pcGtCur, pcCur]

theorem pcEq_cur {pc : PC} {a : Nat} {k : Int} (h : pcEq pc = some (a, k)) : pcCur pc = some a := by
  cases pc <;> simp_all [pcEq, pcCur]

/-- K5 / K6: allocation of the fresh node `f` (its key fields are written; nothing refers to it yet). -/
theorem TOk.allocNode {pc : PC} (h : TOk c m L pc) (g : GOk c m tb k2 L) {m' : Mem} {f : Nat} (hf : ¬ Alloc m f)
    (hnx : m'.next = m.next) (hmk : m'.mark = m.mark)
    (hso : ∀ a, a ≠ f → m'.so a = m.so a) (huk : ∀ a, a ≠ f → m'.uk a = m.uk a)
    (hal : ∀ a, Alloc m a → Alloc m' a) : TOk c m' L pc := by
  obtain ⟨nx', mk', so', uk', val', cnt', acnt'⟩ := m'
  dsimp only at hnx hmk hso huk
  subst hnx hmk
  -- whatever the clauses read of a node, the node is allocated, hence not the fresh one
  have hfa : ∀ a, Alloc m a → a ≠ f := fun a ha e => hf (e ▸ ha)
  have hL : ∀ a, a ∈ L → a ≠ f := fun a ha => hfa a (g.alloc a ha)
  have hlk : ∀ a, (a ∈ L ∨ m.mark a = true) → a ≠ f := fun a ha => hfa a (g.lk_alloc ha)
  have hrefs : ∀ a, pcRefs pc a → a ≠ f := fun a ha =>
    hfa a (ha.elim (fun e => (h.item a e).2.1) (fun ha => ha.elim (fun e => (h.dumPriv a e).2.1) (fun e => g.lk_alloc (h.lkCur a e))))
  have hsk : skeyS c so' pc = skeyS c m.so pc := skeyS_congr (fun a ha => hso a (hrefs a ha))
  have hsu : skeyU uk' pc = skeyU m.uk pc := skeyU_congr (fun a ha => huk a (hrefs a ha))
  have htk : ∀ o, pcTop pc = some o → tkey uk' o = tkey m.uk o := fun o ho =>
    tkey_congr (fun n e => huk n (hrefs n (Or.inl (by rw [ho, e]))))
  have key : ∀ a, a ≠ f → so' a = m.so a ∧ uk' a = m.uk a := fun a ha => ⟨hso a ha, huk a ha⟩
  exact { h with
    item := fun n e => have hi := h.item n e; ⟨hi.1, hal n hi.2.1, hi.2.2⟩
    dumPriv := fun x e => have hi := h.dumPriv x e; ⟨hi.1, hal x hi.2.1, hi.2.2⟩
    dumKey := fun x b rest e e' => by
      have hx := key x (hfa x (h.dumPriv x e).2.1)
      dsimp only
      rw [hx.1, hx.2]
      exact h.dumKey x b rest e e'
    keyPrev := fun a e => by
      have ha := key a (hlk a (h.lkPrev a e))
      dsimp only
      rw [ha.1, ha.2, hsk, hsu]
      exact h.keyPrev a e
    keyGt := fun a e => by
      have ha := key a (hlk a (h.lkCur a (pcGtCur_cur e)))
      dsimp only
      rw [ha.1, ha.2, hsk, hsu]
      exact h.keyGt a e
    keyEq := fun a k e => by
      have ha := key a (hlk a (h.lkCur a (pcEq_cur e)))
      dsimp only
      rw [ha.1, ha.2]
      exact h.keyEq a k e
    start := fun d e => by
      have hd := key d (hL d (h.start d e).1)
      dsimp only
      rw [hd.1, hd.2, hsk, hsu]
      exact h.start d e
    stkPre := fun o b e e' => by
      dsimp only
      rw [htk o e]
      exact h.stkPre o b e e'
    bkt := fun o b e e' => by
      dsimp only
      rw [htk o e]
      exact h.bkt o b e e'
    pp := fun p b rest e e' => by
      have hp := key p (hL p (h.pp p b rest e e').1)
      dsimp only
      rw [hp.1, hp.2]
      exact h.pp p b rest e e'
    pub := fun x b rest e e' => by
      have hx := key x (hL x (h.pub x b rest e e').1)
      dsimp only
      rw [hx.1, hx.2]
      exact h.pub x b rest e e' }

theorem GOk.allocNode (g : GOk c m tb k2 L) {m' : Mem} {f : Nat} (hf : ¬ Alloc m f)
    (hnx : m'.next = m.next) (hmk : m'.mark = m.mark)
    (hso : ∀ a, a ≠ f → m'.so a = m.so a) (huk : ∀ a, a ≠ f → m'.uk a = m.uk a)
    (hal : ∀ a, Alloc m' a ↔ (Alloc m a ∨ a = f))
    (hfo : f % 2 = 1 → m'.so f = c.reg (c.hash (m'.uk f))) (hfe : f % 2 = 0 → m'.so f % 2 = 0) :
    GOk c m' tb k2 L := by
  obtain ⟨nx', mk', so', uk', val', cnt', acnt'⟩ := m'
  dsimp only at hnx hmk hso huk hfo hfe
  subst hnx hmk
  have hLf : ∀ a, a ∈ L → a ≠ f := fun a ha e => hf (e ▸ g.alloc a ha)
  exact { g with
    sorted := g.sorted.imp_of_mem (fun {a b} ha hb hab => by
      unfold KLt at *
      dsimp only
      rw [hso a (hLf a ha), hso b (hLf b hb), huk a (hLf a ha), huk b (hLf b hb)]
      exact hab)
    alloc := fun a ha => (hal a).mpr (Or.inl (g.alloc a ha))
    unalloc := fun a hna => g.unalloc a (fun ha => hna ((hal a).mpr (Or.inl ha)))
    regso := fun a ho ha => by
      rcases (hal a).mp ha with ha | rfl
      · have hne : a ≠ f := fun e => hf (e ▸ ha)
        dsimp only
        rw [hso a hne, huk a hne]
        exact g.regso a ho ha
      · exact hfo ho
    dumso := fun a he ha => by
      rcases (hal a).mp ha with ha | rfl
      · dsimp only
        rw [hso a (fun e => hf (e ▸ ha))]
        exact g.dumso a he ha
      · exact hfe he
    tab := fun b d e => by
      have hd := g.tab b d e
      dsimp only
      rw [hso d (hLf d hd.1), huk d (hLf d hd.1)]
      exact hd }

end

/-- A node private to thread `t` is not private to another thread. -/
theorem SInvL.other_ne {c : Cfg} {s : St} {L : List Nat} (h : SInvL c s L) {t t2 : Tid} {n : Nat} (ht : t2 ≠ t)
    (hown : pcTop (s.pc t) = some (.ins n) ∨ pcDum (s.pc t) = some n) :
    pcTop (s.pc t2) ≠ some (.ins n) ∧ pcDum (s.pc t2) ≠ some n := by
  rcases hown with e | e
  · refine ⟨fun e2 => ht (h.own.item t2 t n e2 e), fun e2 => ?_⟩
    have h1 := ((h.thr t).item n e).1
    have h2 := ((h.thr t2).dumPriv n e2).1
    omega
  · refine ⟨fun e2 => ?_, fun e2 => ht (h.own.dum t2 t n e2 e)⟩
    have h1 := ((h.thr t).dumPriv n e).1
    have h2 := ((h.thr t2).item n e2).1
    omega

theorem wnode_own {w : OpK} {n : Nat} (h : wnode w = some n) (pc : PC) (hp : pcTop pc = some (wtop w)) (hd : pcDum pc = wdum w) :
    pcTop pc = some (.ins n) ∨ pcDum pc = some n := by
  rcases wnode_refs h with e | e
  · left; rw [hp, e]
  · right; rw [hd, e]

end CdsVerif.Algo.SplitList
