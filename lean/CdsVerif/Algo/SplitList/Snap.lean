/-
  C18 "reachable ⇒ well-formed", SplitListSet machine: the machine state rendered as the `SNAP split` dump of the real
  object (`harness/clients/snap.cpp`, `SplitSnap::dump`: follow `m_pNext.ptr()` of the underlying MichaelList from its
  head — the dummy node of bucket 0 — to null; per node `m_nHash`, "is a dummy", the user key (bucket number for a
  dummy), the mark bit of `m_pNext`), and the lemmas that connect the dump with the invariant `SInvL`
  (`Algo/SplitList/Inv.lean`, `Reach.lean`).  Property theorems are in `Props/C18Reach.lean`.

  "Is a dummy".  The machine knows the KIND of a node (dummy nodes come from the aux-node segment: even ids; items:
  odd ids); `snapOf` uses the kind.  The real dump has no kind tag to read and calls a node a dummy iff the bucket
  table refers to it: `tabSnapOf`.  The two differ between the CAS that links a new dummy node and the store that
  publishes it (`iPub`): there `tabSnapOf` shows an even split-order key with `isDummy = 0`, which is not well-formed.
  They coincide whenever every linked dummy node is published (`Published`, `tabSnapOf_eq`), and that is the case in
  every reachable state in which no thread is at the publishing store `iPub` (`published_of_noPub`, from the inductive
  invariants `PubOk` / `BOk` of `Algo/SplitList/Publish.lean`), in particular in every quiescent state.

  Two small inductive invariants are added here (`KeyOk`, by case analysis of `step`): every split-order key ever
  stored is 0 or a value of `regular_hash` / `dummy_hash` (so it fits the 64-bit word when these do, `Word64`), and the
  user key of a dummy node is 0 (so two linked dummies never share a split-order key).
-/
import CdsVerif.Algo.SplitList.Reach
import CdsVerif.Algo.SplitList.Publish
import CdsVerif.Algo.SplitList.Count
import CdsVerif.Algo.SplitList.Cfg64
import CdsVerif.Props.C18
namespace CdsVerif.Algo.SplitList
open CdsVerif.Machine CdsVerif.Spec CdsVerif.Snapshot

/-! ### The dump -/

/-- The bucket (below the current bucket count) whose table entry refers to node `a`; 0 if there is none. -/
def bucketOf (s : St) (a : Nat) : Nat :=
  ((List.range (2 ^ s.cnt2)).find? (fun b => s.table b == some a)).getD 0

/-- One dumped node, "is a dummy" by the kind of the node. -/
def snapNode (s : St) (a : Nat) : SONode :=
  ⟨s.so a, a % 2 == 0, if a % 2 = 0 then (bucketOf s a : Int) else s.uk a, s.mark a⟩

def snapOf (s : St) : SplitSnap := (absNodes s).map (snapNode s)

/-- The bucket table refers to node `a` (buckets below the current bucket count). -/
def inTable (s : St) (a : Nat) : Bool := (List.range (2 ^ s.cnt2)).any (fun b => s.table b == some a)

/-- One dumped node, "is a dummy" as the real dump decides it: the bucket table refers to the node. -/
def tabSnapNode (s : St) (a : Nat) : SONode :=
  ⟨s.so a, inTable s a, if inTable s a then (bucketOf s a : Int) else s.uk a, s.mark a⟩

def tabSnapOf (s : St) : SplitSnap := (absNodes s).map (tabSnapNode s)

/-- The table-based dump as the tokens of a `SNAP` line of the harness (`split so d k m …`; not wired into the driver). -/
def snapTokens (s : St) : List String :=
  "split" :: (tabSnapOf s).flatMap (fun n =>
    [toString n.so, if n.isDummy then "1" else "0", toString n.key, if n.marked then "1" else "0"])

/-- Every linked node is referred to by the bucket table iff it is a dummy node. -/
def Published (s : St) : Prop := ∀ a, a ∈ absNodes s → (inTable s a = true ↔ a % 2 = 0)

theorem tabSnapOf_eq {s : St} (h : Published s) : tabSnapOf s = snapOf s := by
  unfold tabSnapOf snapOf
  apply List.map_congr_left
  intro a ha
  have := h a ha
  unfold tabSnapNode snapNode
  by_cases e : a % 2 = 0
  · simp [e, this.2 e]
  · have h1 : inTable s a = false := by
      cases hh : inTable s a with
      | false => rfl
      | true => exact absurd (this.1 hh) e
    simp [e, h1]

/-- The abstract set as a list of keys (the keys of `absMap`, in split order). -/
def absKeys (s : St) : List Int := (absMap s).map (·.1)

theorem splitAbs_map_snapNode (s : St) : ∀ l : List Nat,
    splitAbs (l.map (snapNode s)) =
      ((l.filter (fun a => a % 2 == 1 && !s.mark a)).map (fun a => (s.uk a, s.val a))).map (·.1)
  | [] => rfl
  | a :: l => by
    have ih := splitAbs_map_snapNode s l
    unfold splitAbs at ih ⊢
    have hpar : a % 2 = 0 ∨ a % 2 = 1 := by omega
    rcases hpar with e | e <;> cases hm : s.mark a <;> simp [snapNode, e, hm] <;> simpa using ih

theorem splitAbs_snapOf (s : St) : splitAbs (snapOf s) = absKeys s := splitAbs_map_snapNode s (absNodes s)

/-! ### Keys ever stored -/

/-- `regular_hash` and `dummy_hash` produce 64-bit words. -/
def Word64 (c : Cfg) : Prop := (∀ h, c.reg h < 2 ^ 64) ∧ (∀ b, c.dum b < 2 ^ 64)

theorem cfg64_word64 (mode cap lf : Nat) : Word64 (cfg64 mode cap lf) := by
  have hr : ∀ n, rev64 n < 2 ^ 64 := fun n => by unfold rev64; exact BitVec.isLt _
  refine ⟨fun h => ?_, fun b => ?_⟩
  · show rev64 h ||| 1 < 2 ^ 64
    exact Nat.or_lt_two_pow (hr _) (by decide)
  · show rev64 b &&& (2 ^ 64 - 2) < 2 ^ 64
    exact Nat.lt_of_le_of_lt Nat.and_le_left (hr _)

structure KeyOk (c : Cfg) (s : St) : Prop where
  so : ∀ a, s.so a = 0 ∨ (∃ h, s.so a = c.reg h) ∨ ∃ b, s.so a = c.dum b
  uk : ∀ a, a % 2 = 0 → s.uk a = 0

theorem keyOk_init (c : Cfg) : KeyOk c (init c) := ⟨fun _ => Or.inl rfl, fun _ _ => rfl⟩

theorem KeyOk.congr {c : Cfg} {s s' : St} (h : KeyOk c s) (h1 : s'.so = s.so) (h2 : s'.uk = s.uk) : KeyOk c s' :=
  ⟨fun a => by rw [h1]; exact h.so a, fun a e => by rw [h2]; exact h.uk a e⟩

theorem KeyOk.upd_dum {c : Cfg} {s s' : St} (h : KeyOk c s) {x b : Nat} (_hx : x % 2 = 0)
    (h1 : s'.so = upd s.so x (c.dum b)) (h2 : s'.uk = upd s.uk x 0) : KeyOk c s' := by
  refine ⟨fun a => ?_, fun a e => ?_⟩
  · rw [h1]; unfold upd; split
    · exact Or.inr (Or.inr ⟨b, rfl⟩)
    · exact h.so a
  · rw [h2]; unfold upd; split
    · rfl
    · exact h.uk a e

theorem KeyOk.upd_reg {c : Cfg} {s s' : St} (h : KeyOk c s) {x hh : Nat} {k : Int} (hx : x % 2 = 1)
    (h1 : s'.so = upd s.so x (c.reg hh)) (h2 : s'.uk = upd s.uk x k) : KeyOk c s' := by
  refine ⟨fun a => ?_, fun a e => ?_⟩
  · rw [h1]; unfold upd; split
    · exact Or.inr (Or.inl ⟨hh, rfl⟩)
    · exact h.so a
  · rw [h2]; unfold upd; split
    · rename_i e2; omega
    · exact h.uk a e

theorem keyOk_invoke {c : Cfg} {s s' : St} {t : Tid} {op : GOp} (h : KeyOk c s) (hs : invoke c s t op = some s') :
    KeyOk c s' := by
  unfold invoke at hs
  split at hs
  · simp only [Option.some.injEq] at hs; subst hs
    exact h.upd_reg (x := 2 * s.cnt + 1) (by omega) rfl rfl
  all_goals first
    | (simp only [Option.some.injEq] at hs; subst hs; exact h.congr rfl rfl)
    | (cases hs; done)

theorem keyOk_result {c : Cfg} {s s' : St} {t : Tid} {r : GRet} (h : KeyOk c s) (hs : result s t = some (s', r)) :
    KeyOk c s' := by
  unfold result at hs
  split at hs
  · simp only [Option.some.injEq, Prod.mk.injEq] at hs; obtain ⟨rfl, -⟩ := hs; exact h.congr rfl rfl
  · cases hs

set_option maxHeartbeats 2000000 in
theorem keyOk_step {c : Cfg} {s s' : St} {t : Tid} {ev : Ev} (h : KeyOk c s) (hs : step c s t = some (s', ev)) :
    KeyOk c s' := by
  unfold step at hs
  repeat' split at hs
  all_goals first
    | (simp only [Option.some.injEq, Prod.mk.injEq] at hs; obtain ⟨rfl, -⟩ := hs; exact h.congr rfl rfl)
    | (simp only [Option.some.injEq, Prod.mk.injEq] at hs; obtain ⟨rfl, -⟩ := hs
       exact h.upd_dum (x := 2 * s.acnt) (by omega) rfl rfl)
    | (cases hs; done)

theorem keyOk_apply {c : Cfg} {s s' : St} {t : Tid} {a : Act} {o : Obs} (h : KeyOk c s)
    (hap : (model c).apply s t a = some (s', o)) : KeyOk c s' := by
  rcases Model.apply_cases hap with ⟨op, -, hs, -⟩ | ⟨e, -, hs, -⟩ | ⟨r, -, hs, -⟩
  · exact keyOk_invoke h hs
  · exact keyOk_step h hs
  · exact keyOk_result h hs

theorem keyOk_reachable {c : Cfg} (s : St) (h : (model c).Reachable (init c) s) : KeyOk c s :=
  (model c).inv_reachable (KeyOk c) (init c) (keyOk_init c) (fun _ _ _ _ _ hi hap => keyOk_apply hi hap) s h

theorem KeyOk.so_lt {c : Cfg} {s : St} (h : KeyOk c s) (hw : Word64 c) (a : Nat) : s.so a < 2 ^ 64 := by
  rcases h.so a with e | ⟨x, e⟩ | ⟨x, e⟩ <;> rw [e]
  · decide
  · exact hw.1 x
  · exact hw.2 x

/-! ### Well-formedness of the dump -/

theorem SInvL.snap_head {c : Cfg} {s : St} {L : List Nat} (h : SInvL c s L) (hc : SOHyp c) :
    ∃ l, absNodes s = 0 :: l ∧ s.so 0 = 0 := by
  rw [h.absNodes_eq]
  have hch := h.g.chain
  have h0 := h.g.tab 0 0 h.g.tab0
  have hso : s.so 0 = 0 := by have := h0.2.2.1; dsimp only at this; rw [this]; exact hc.dum0
  cases L with
  | nil => simp [Michael.Chain] at hch
  | cons a r =>
    simp only [Michael.Chain, Option.some.injEq] at hch
    exact ⟨r, by rw [hch.1], hso⟩

theorem SInvL.snap_parity {c : Cfg} {s : St} {L : List Nat} (h : SInvL c s L) (hc : SOHyp c) (hk : KeyOk c s)
    (hw : Word64 c) : ∀ a, a ∈ absNodes s → (snapNode s a).parityOk = true := by
  intro a ha
  rw [h.absNodes_eq] at ha
  have hal := h.g.alloc a ha
  have hlt := hk.so_lt hw a
  unfold SONode.parityOk snapNode
  simp only [Bool.and_eq_true, decide_eq_true_eq]
  refine ⟨?_, hlt⟩
  have hpar : a % 2 = 0 ∨ a % 2 = 1 := by omega
  rcases hpar with e | e
  · have := h.g.dumso a e hal; dsimp only at this
    simp [e, this]
  · have := h.g.regso a e hal; dsimp only at this
    have ho := hc.regOdd (c.hash (s.uk a))
    rw [← this] at ho
    simp [e, ho]

theorem SInvL.snap_sorted {c : Cfg} {s : St} {L : List Nat} (h : SInvL c s L) (hc : SOHyp c) (hk : KeyOk c s) :
    (snapOf s).Pairwise (fun x y => soLt x y = true) := by
  unfold snapOf
  rw [List.pairwise_map, h.absNodes_eq]
  refine List.Pairwise.imp_of_mem ?_ h.g.sorted
  intro a b ha hb hab
  have hala := h.g.alloc a ha
  have halb := h.g.alloc b hb
  unfold KLt klt at hab
  dsimp only at hab
  unfold soLt snapNode
  simp only [Bool.or_eq_true, Bool.and_eq_true, decide_eq_true_eq, beq_iff_eq, Bool.not_eq_true']
  rcases hab with hlt | ⟨heq, hlt⟩
  · exact Or.inl hlt
  · right
    have hpa : a % 2 = 0 ∨ a % 2 = 1 := by omega
    have hpb : b % 2 = 0 ∨ b % 2 = 1 := by omega
    have so_par : ∀ x, x ∈ L → (s.so x % 2 = 0 ↔ x % 2 = 0) := by
      intro x hx
      have hal := h.g.alloc x hx
      have hp : x % 2 = 0 ∨ x % 2 = 1 := by omega
      rcases hp with e | e
      · have := h.g.dumso x e hal; dsimp only at this
        exact ⟨fun _ => e, fun _ => this⟩
      · have := h.g.regso x e hal; dsimp only at this
        have ho := hc.regOdd (c.hash (s.uk x))
        rw [← this] at ho
        exact ⟨fun h0 => by omega, fun h0 => by omega⟩
    have h1 := so_par a ha
    have h2 := so_par b hb
    rcases hpa with ea | ea
    · -- two dummy nodes with one split-order key: both have user key 0
      have eb : b % 2 = 0 := h2.1 (by rw [← heq]; exact h1.2 ea)
      have := hk.uk a ea
      have := hk.uk b eb
      omega
    · have eb : b % 2 = 1 := by
        rcases hpb with eb | eb
        · have := h1.1 (by rw [heq]; exact h2.2 eb); omega
        · exact eb
      simp [ea, eb, heq, hlt]

theorem SInvL.snap_wf {c : Cfg} {s : St} {L : List Nat} (h : SInvL c s L) (hc : SOHyp c) (hk : KeyOk c s)
    (hw : Word64 c) : splitWf (snapOf s) = true := by
  obtain ⟨l, hl, hso⟩ := h.snap_head hc
  have hpar := h.snap_parity hc hk hw
  have hsorted := CdsVerif.Props.C18.chainB_of_pairwise soLt _ (h.snap_sorted hc hk)
  have hall : (snapOf s).all SONode.parityOk = true := by
    unfold snapOf
    rw [List.all_eq_true]
    intro x hx
    obtain ⟨a, ha, rfl⟩ := List.mem_map.1 hx
    exact hpar a ha
  unfold splitWf
  rw [hall, hsorted]
  unfold snapOf
  rw [hl]
  simp [snapNode, hso]

/-! ### The bucket table refers to exactly the linked dummy nodes, outside the publication windows -/

/-- No thread is between the CAS that links a dummy node and the store that publishes it. -/
def NoPub (s : St) : Prop := ∀ t, pcPub (s.pc t) = none

theorem noPub_of_idle {s : St} (h : ∀ t, s.pc t = .idle) : NoPub s := by
  intro t; rw [h t]; rfl

theorem published_of_noPub {c : Cfg} {s : St} {L : List Nat} (hl : SInvL c s L) (hP : PubOk s L)
    (hT : ∀ b d, s.table b = some d → b < 2 ^ s.cnt2) (hn : NoPub s) : Published s := by
  intro a ha
  rw [hl.absNodes_eq] at ha
  unfold inTable
  rw [List.any_eq_true]
  constructor
  · rintro ⟨b, -, hb⟩
    exact (hl.g.tab b a (by simpa using hb)).2.1
  · intro hev
    rcases hP a ha hev with ⟨b, hb⟩ | ⟨t, ht⟩
    · exact ⟨b, List.mem_range.2 (hT b a hb), by simp [hb]⟩
    · rw [hn t] at ht; cases ht

end CdsVerif.Algo.SplitList
