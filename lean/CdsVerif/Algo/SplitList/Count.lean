/-
  C18, SplitListSet machine: the item counter.  `m_ItemCounter` (`St.items`) is incremented (`cAdd`) after the linking CAS
  of a successful top-level `insert` and decremented (`cSub`) after the marking CAS of a successful `erase`.  Inductive
  invariant over all reachable states (`CntOk`, for a duplicate-free list `T` of threads outside which every thread is idle):

      items + #{ t ∈ T | pc t ∈ { cLd1, cAdd _ } }  ≡  |absMap| + #{ t ∈ T | pc t ∈ { eUnl …, cSub _ } }   (mod 2^64)

  Consequence at quiescent states: `items = |absMap| % 2^64`.  The change of `|absMap|` at a step is read off the
  refinement facts of `StepEff` (`lp` / `nolp`) and the sequential specification `Spec.map`.
-/
import CdsVerif.Algo.SplitList.Reach
namespace CdsVerif.Algo.SplitList
open CdsVerif.Machine CdsVerif.Spec CdsVerif.Lin
open CdsVerif.Algo.Michael (LPok isRO map_ro)

/-! ### Lengths of representations of the abstract map -/

theorem len_eq_of_mem_iff {α : Type} [DecidableEq α] {l1 l2 : List α} (h1 : l1.Nodup) (h2 : l2.Nodup)
    (h : ∀ x, x ∈ l1 ↔ x ∈ l2) : l1.length = l2.length :=
  ((List.perm_ext_iff_of_nodup h1 h2).2 h).length_eq

theorem nodup_of_keys {m : MapSt} (h : m.Pairwise (fun p q => p.1 ≠ q.1)) : m.Nodup :=
  h.imp (fun hne e => hne (by rw [e]))

theorem len_of_mfind_iff {m1 m2 : MapSt} (h1 : m1.Pairwise (fun p q => p.1 ≠ q.1))
    (h2 : m2.Pairwise (fun p q => p.1 ≠ q.1)) (h : ∀ k v, mfind m1 k = some v ↔ (k, v) ∈ m2) :
    m1.length = m2.length := by
  refine len_eq_of_mem_iff (nodup_of_keys h1) (nodup_of_keys h2) ?_
  rintro ⟨k, v⟩
  rw [← h k v, mfind_iff_mem h1]

theorem mfind_none_not_mem {m : MapSt} {k : Int} (h : mfind m k = none) : ∀ p ∈ m, p.1 ≠ k := by
  induction m with
  | nil => simp
  | cons a m ih =>
    obtain ⟨k1, v1⟩ := a
    rw [Michael.mfind_cons] at h
    by_cases e : k = k1
    · simp [e] at h
    · simp only [e, if_false] at h
      intro p hp
      rcases List.mem_cons.1 hp with rfl | hp
      · exact fun e2 => e e2.symm
      · exact ih h p hp

theorem merase_len {m : MapSt} (hm : m.Pairwise (fun p q => p.1 ≠ q.1)) {k v : Int} (h : mfind m k = some v) :
    (merase m k).length + 1 = m.length := by
  induction m with
  | nil => simp [mfind] at h
  | cons a m ih =>
    obtain ⟨k1, v1⟩ := a
    have hm' := List.pairwise_cons.1 hm
    by_cases e : k1 = k
    · subst e
      have : merase ((k1, v1) :: m) k1 = m := by
        simp only [merase, List.filter_cons, beq_self_eq_true, Bool.not_true]
        refine List.filter_eq_self.2 ?_
        intro p hp
        have := hm'.1 p hp
        simp only [Bool.not_eq_true', beq_eq_false_iff_ne, ne_eq]
        exact fun e2 => this e2.symm
      rw [this]; rfl
    · rw [Michael.mfind_cons] at h
      have e' : ¬ k = k1 := fun e2 => e e2.symm
      simp only [e', if_false] at h
      have : merase ((k1, v1) :: m) k = (k1, v1) :: merase m k := by simp [merase, e]
      rw [this]
      simp only [List.length_cons]
      have := ih hm'.2 h
      omega

theorem merase_keys {m : MapSt} (hm : m.Pairwise (fun p q => p.1 ≠ q.1)) (k : Int) :
    (merase m k).Pairwise (fun p q => p.1 ≠ q.1) := hm.filter _

/-- What a linearization step does to the number of elements. -/
theorem lpok_len {H H' : Int → Int → Prop} {op : GOp} {r : GRet} {m m2 : MapSt}
    (hm : m.Pairwise (fun p q => p.1 ≠ q.1)) (hm2 : m2.Pairwise (fun p q => p.1 ≠ q.1))
    (hH : ∀ k v, mfind m k = some v ↔ H k v) (hH' : ∀ k v, H' k v ↔ (k, v) ∈ m2) (h : LPok H op r H') :
    (isRO op r = true → m2.length = m.length) ∧
    (∀ k v, op = ⟨"insert", [k, v]⟩ → r = [1] → m2.length = m.length + 1) ∧
    (∀ k v, op = ⟨"erase", [k]⟩ → r = [1, v] → m2.length + 1 = m.length) := by
  obtain ⟨m', hn, hm'⟩ := h m hH
  have hiff : ∀ k v, mfind m' k = some v ↔ (k, v) ∈ m2 := fun k v => (hm' k v).trans (hH' k v)
  refine ⟨fun hro => ?_, fun k v e1 e2 => ?_, fun k v e1 e2 => ?_⟩
  · have := map_ro hn hro
    subst this
    exact (len_of_mfind_iff hm hm2 hiff).symm
  · subst e1 e2
    simp only [Spec.map, detSpec, mapStep] at hn
    cases hf : mfind m k with
    | some w => simp [hf] at hn
    | none =>
      simp only [hf, if_true, Option.some.injEq] at hn
      subst hn
      have hk : ((k, v) :: m).Pairwise (fun p q => p.1 ≠ q.1) :=
        List.pairwise_cons.2 ⟨fun p hp => fun e => mfind_none_not_mem hf p hp e.symm, hm⟩
      have := len_of_mfind_iff hk hm2 hiff
      simpa using this.symm
  · subst e1 e2
    simp only [Spec.map, detSpec, mapStep] at hn
    cases hf : mfind m k with
    | none => simp [hf] at hn
    | some w =>
      simp only [hf] at hn
      split at hn
      · simp only [Option.some.injEq] at hn
        subst hn
        have := len_of_mfind_iff (merase_keys hm k) hm2 hiff
        have := merase_len hm hf
        omega
      · simp at hn

theorem len_of_has_iff {c : Cfg} {s s' : St} {L L' : List Nat} (h : SInvL c s L) (h' : SInvL c s' L')
    (e : ∀ k v, Has s'.mark s'.uk s'.val L' k v ↔ Has s.mark s.uk s.val L k v) :
    (absMap s').length = (absMap s).length := by
  refine len_eq_of_mem_iff (nodup_of_keys h'.absMap_nodup) (nodup_of_keys h.absMap_nodup) ?_
  rintro ⟨k, v⟩
  rw [← h'.has_iff, ← h.has_iff]
  exact e k v

/-! ### Program points between a successful linking / marking CAS and the counter update -/

/-- linked, `++m_ItemCounter` still to come -/
def addP : PC → Bool
  | .idle => false | .gCnt _ => false | .gTab _ _ => false | .iPar _ _ => false | .iBkt _ _ _ => false
  | .iAl1 _ _ _ => false | .iAl2 _ _ _ => false | .iPub _ _ _ => false | .iWait _ _ => false | .sHd1 _ _ => false
  | .sHd2 _ _ _ _ => false | .sNx1 _ _ _ _ => false | .sNx2 _ _ _ _ _ _ => false | .sChk _ _ _ _ _ _ => false
  | .sHelp _ _ _ _ _ => false | .iSt _ _ _ _ => false | .iCas _ _ _ _ => false | .iClr _ _ => false
  | .eMark _ _ _ _ _ => false | .eUnl _ _ _ _ => false | .cLd1 => true | .cAdd _ => true | .cCnt _ => false
  | .cMax _ _ => false | .cGrow _ => false | .cSat => false | .cSub _ => false | .done _ => false

/-- marked, `--m_ItemCounter` still to come -/
def subP : PC → Bool
  | .idle => false | .gCnt _ => false | .gTab _ _ => false | .iPar _ _ => false | .iBkt _ _ _ => false
  | .iAl1 _ _ _ => false | .iAl2 _ _ _ => false | .iPub _ _ _ => false | .iWait _ _ => false | .sHd1 _ _ => false
  | .sHd2 _ _ _ _ => false | .sNx1 _ _ _ _ => false | .sNx2 _ _ _ _ _ _ => false | .sChk _ _ _ _ _ _ => false
  | .sHelp _ _ _ _ _ => false | .iSt _ _ _ _ => false | .iCas _ _ _ _ => false | .iClr _ _ => false
  | .eMark _ _ _ _ _ => false | .eUnl _ _ _ _ => true | .cLd1 => false | .cAdd _ => false | .cCnt _ => false
  | .cMax _ _ => false | .cGrow _ => false | .cSat => false | .cSub _ => true | .done _ => false

/-- The five kinds of steps, as far as the counter is concerned. -/
def Kind (c : Cfg) (s s' : St) (t : Tid) : Prop :=
  (s'.items = s.items ∧ addP (s'.pc t) = addP (s.pc t) ∧ subP (s'.pc t) = subP (s.pc t) ∧
    ((lpRet c s.so s.uk s.val (s.pc t) ≠ none ∨ lpRet c s'.so s'.uk s'.val (s'.pc t) = none) ∨
      ∃ op r, opOf s.uk s.val (s.pc t) = some op ∧ lpRet c s'.so s'.uk s'.val (s'.pc t) = some r ∧ isRO op r = true)) ∨
  (s'.items = s.items ∧ addP (s.pc t) = false ∧ addP (s'.pc t) = true ∧ subP (s.pc t) = false ∧ subP (s'.pc t) = false ∧
    lpRet c s.so s.uk s.val (s.pc t) = none ∧ lpRet c s'.so s'.uk s'.val (s'.pc t) = some [1] ∧
    ∃ k v, opOf s.uk s.val (s.pc t) = some ⟨"insert", [k, v]⟩) ∨
  (s'.items = incW s.items ∧ addP (s.pc t) = true ∧ addP (s'.pc t) = false ∧ subP (s.pc t) = false ∧
    subP (s'.pc t) = false ∧ lpRet c s.so s.uk s.val (s.pc t) ≠ none) ∨
  (s'.items = s.items ∧ addP (s.pc t) = false ∧ addP (s'.pc t) = false ∧ subP (s.pc t) = false ∧ subP (s'.pc t) = true ∧
    lpRet c s.so s.uk s.val (s.pc t) = none ∧
    ∃ k v, opOf s.uk s.val (s.pc t) = some ⟨"erase", [k]⟩ ∧ lpRet c s'.so s'.uk s'.val (s'.pc t) = some [1, v]) ∨
  (s'.items = decW s.items ∧ addP (s.pc t) = false ∧ addP (s'.pc t) = false ∧ subP (s.pc t) = true ∧
    subP (s'.pc t) = false ∧ lpRet c s.so s.uk s.val (s.pc t) ≠ none)

/-- A program point that is neither a counter-pending point nor a state-changing linearization of `op`. -/
def Quiet (c : Cfg) (so : Nat → Nat) (uk val : Nat → Int) (op : GOp) (pc : PC) : Prop :=
  addP pc = false ∧ subP pc = false ∧
    (lpRet c so uk val pc = none ∨ ∃ r, lpRet c so uk val pc = some r ∧ isRO op r = true)

theorem quiet_initRet {c : Cfg} {so : Nat → Nat} {uk val : Nat → Int} {op : GOp} (o : Top) (stk : List Nat) (d : Nat) :
    Quiet c so uk val op (initRet o stk d) := by
  unfold initRet; split <;> exact ⟨rfl, rfl, Or.inl rfl⟩

theorem quiet_notFound {c : Cfg} {so : Nat → Nat} {uk val : Nat → Int} (w : OpK) (d prev : Nat) (cur : Option Nat) :
    Quiet c so uk val (gop uk val (wtop w)) (notFound w d prev cur) := by
  cases w with
  | dum m o stk => exact ⟨rfl, rfl, Or.inl rfl⟩
  | top o =>
    cases o with
    | ins n => exact ⟨rfl, rfl, Or.inl rfl⟩
    | era k => exact ⟨rfl, rfl, Or.inr ⟨[0], rfl, by simp [isRO, gop, wtop]⟩⟩
    | fnd k => exact ⟨rfl, rfl, Or.inr ⟨[0], rfl, by simp [isRO, gop, wtop]⟩⟩
    | con k => exact ⟨rfl, rfl, Or.inr ⟨[0], rfl, by simp [isRO, gop, wtop]⟩⟩

theorem quiet_found {c : Cfg} {so : Nat → Nat} {uk val : Nat → Int} (w : OpK) (d prev cur : Nat) (nx : Option Nat) :
    Quiet c so uk val (gop uk val (wtop w)) (found val w d prev cur nx) := by
  cases w with
  | dum m o stk => exact ⟨rfl, rfl, Or.inl rfl⟩
  | top o =>
    cases o with
    | ins n => exact ⟨rfl, rfl, Or.inr ⟨[0], rfl, by simp [isRO, gop, wtop]⟩⟩
    | era k => exact ⟨rfl, rfl, Or.inl rfl⟩
    | fnd k => exact ⟨rfl, rfl, Or.inr ⟨[1, val cur], rfl, by simp [isRO, gop, wtop]⟩⟩
    | con k => exact ⟨rfl, rfl, Or.inr ⟨[1], rfl, by simp [isRO, gop, wtop]⟩⟩

theorem quiet_advance {c : Cfg} {so : Nat → Nat} {uk val : Nat → Int} (w : OpK) (d prev : Nat) (nx : Option Nat) :
    Quiet c so uk val (gop uk val (wtop w)) (advance w d prev nx) := by
  unfold advance; split
  · exact quiet_notFound w d prev none
  · exact ⟨rfl, rfl, Or.inl rfl⟩

theorem quiet_afterHd {c : Cfg} {so : Nat → Nat} {uk val : Nat → Int} (w : OpK) (d : Nat) (nx : Option Nat) (mk : Bool) :
    Quiet c so uk val (gop uk val (wtop w)) (afterHd c so uk w d nx mk) := by
  unfold afterHd; split
  · exact ⟨rfl, rfl, Or.inl rfl⟩
  · split
    · exact quiet_advance w d d nx
    · exact ⟨rfl, rfl, Or.inl rfl⟩

theorem quiet_afterChk {c : Cfg} {so : Nat → Nat} {uk val : Nat → Int} (w : OpK) (d prev cur : Nat) (nx : Option Nat)
    (mk : Bool) : Quiet c so uk val (gop uk val (wtop w)) (afterChk c so uk val w d prev cur nx mk) := by
  unfold afterChk; split
  · exact ⟨rfl, rfl, Or.inl rfl⟩
  · split
    · exact quiet_found w d prev cur nx
    · split
      · exact quiet_notFound w d prev (some cur)
      · exact quiet_advance w d cur nx

theorem quiet_sChk {c : Cfg} {so : Nat → Nat} {uk val : Nat → Int} (w : OpK) (d prev cur : Nat) (nx : Option Nat)
    (mk : Bool) : Quiet c so uk val (gop uk val (wtop w)) (.sChk w d prev cur nx mk) := by
  refine ⟨rfl, rfl, ?_⟩
  show tent c so uk val w cur nx mk = none ∨ _
  cases h : tent c so uk val w cur nx mk with
  | none => exact Or.inl rfl
  | some r => exact Or.inr ⟨r, by simp only [lpRet]; exact h, tent_ro h⟩

theorem kind_of_quiet {c : Cfg} {s s' : St} {t : Tid} {op : GOp} {pc' : PC} (hi : s'.items = s.items)
    (ha : addP (s.pc t) = false) (hb : subP (s.pc t) = false) (hop : opOf s.uk s.val (s.pc t) = some op)
    (hpc' : s'.pc t = pc') (hq : Quiet c s'.so s'.uk s'.val op pc') : Kind c s s' t := by
  subst hpc'
  obtain ⟨h1, h2, h3⟩ := hq
  refine Or.inl ⟨hi, by rw [h1, ha], by rw [h2, hb], ?_⟩
  rcases h3 with h3 | ⟨r, h3, h4⟩
  · exact Or.inl (Or.inr h3)
  · exact Or.inr ⟨op, r, hop, h3, h4⟩

theorem pend_afterAdd (items mx : Nat) : addP (afterAdd items mx) = false ∧ subP (afterAdd items mx) = false := by
  unfold afterAdd; split <;> exact ⟨rfl, rfl⟩

theorem pend_afterCnt (c : Cfg) (sz mx : Nat) : addP (afterCnt c sz mx) = false ∧ subP (afterCnt c sz mx) = false := by
  unfold afterCnt; split
  · split <;> exact ⟨rfl, rfl⟩
  · exact ⟨rfl, rfl⟩

theorem kind_step {c : Cfg} {s s' : St} {t : Tid} {ev : Ev} (hs : step c s t = some (s', ev)) : Kind c s s' t := by
  cases hpc : s.pc t with
  | iCas w d prev cur =>
    simp only [step, hpc] at hs
    split at hs
    · cases hs
    · rename_i n heq
      split at hs
      · simp only [Option.some.injEq, Prod.mk.injEq] at hs; obtain ⟨rfl, -⟩ := hs
        cases w with
        | dum m o stk =>
          exact kind_of_quiet rfl (by rw [hpc]; rfl) (by rw [hpc]; rfl) (by rw [hpc]; rfl) (upd_same _ _ _)
            ⟨rfl, rfl, Or.inl rfl⟩
        | top o =>
          cases o with
          | ins m =>
            unfold Kind; simp only [hpc]
            simp [upd, linked, addP, subP, lpRet, opOf, wtop, gop]
          | era k => simp [wnode] at heq
          | fnd k => simp [wnode] at heq
          | con k => simp [wnode] at heq
      · simp only [Option.some.injEq, Prod.mk.injEq] at hs; obtain ⟨rfl, -⟩ := hs
        unfold Kind; simp only [hpc]; simp [upd, addP, subP, lpRet, opOf]
  | eMark k d prev cur nx =>
    simp only [step, hpc] at hs
    split at hs
    · simp only [Option.some.injEq, Prod.mk.injEq] at hs; obtain ⟨rfl, -⟩ := hs
      unfold Kind; simp only [hpc]; simp [upd, addP, subP, lpRet, opOf, gop]
    · simp only [Option.some.injEq, Prod.mk.injEq] at hs; obtain ⟨rfl, -⟩ := hs
      unfold Kind; simp only [hpc]; simp [upd, addP, subP, lpRet, opOf]
  | cAdd mx =>
    simp only [step, hpc] at hs
    simp only [Option.some.injEq, Prod.mk.injEq] at hs; obtain ⟨rfl, -⟩ := hs
    have h1 := pend_afterAdd s.items mx
    exact Or.inr (Or.inr (Or.inl ⟨rfl, by rw [hpc]; rfl,
      by show addP (upd s.pc t _ t) = false; rw [upd_same]; exact h1.1, by rw [hpc]; rfl,
      by show subP (upd s.pc t _ t) = false; rw [upd_same]; exact h1.2, by rw [hpc]; simp [lpRet]⟩))
  | cCnt mx =>
    simp only [step, hpc] at hs
    simp only [Option.some.injEq, Prod.mk.injEq] at hs; obtain ⟨rfl, -⟩ := hs
    have h1 := pend_afterCnt c s.cnt2 mx
    exact Or.inl ⟨rfl, by show addP (upd s.pc t _ t) = addP (s.pc t); rw [upd_same, hpc]; exact h1.1,
      by show subP (upd s.pc t _ t) = subP (s.pc t); rw [upd_same, hpc]; exact h1.2,
      Or.inl (Or.inl (by rw [hpc]; simp [lpRet]))⟩
  | _ =>
    simp only [step, hpc] at hs
    all_goals (try (split at hs))
    all_goals (try (split at hs))
    all_goals first
      | (cases hs; done)
      | (simp only [Option.some.injEq, Prod.mk.injEq] at hs; obtain ⟨rfl, -⟩ := hs
         unfold Kind; simp only [hpc]; (try dsimp only); simp [upd, addP, subP, lpRet, opOf]; done)
      | (simp only [Option.some.injEq, Prod.mk.injEq] at hs; obtain ⟨rfl, -⟩ := hs
         refine kind_of_quiet rfl (by simp [hpc, addP]) (by simp [hpc, subP]) (by rw [hpc]; rfl) (upd_same _ _ _) ?_
         first
           | exact quiet_initRet _ _ _
           | exact quiet_afterHd _ _ _ _
           | exact quiet_sChk _ _ _ _ _ _
           | exact quiet_afterChk _ _ _ _ _ _
           | exact quiet_advance _ _ _ _)

/-! ### The counting invariant -/

/-- `T` lists (without repetition) all threads that are not idle; the counter, corrected by the threads that have
    linked / marked but not yet counted, is the number of elements of the abstract map, modulo the word size. -/
def CntOk (s : St) (T : List Tid) : Prop :=
  T.Nodup ∧ (∀ t, t ∉ T → s.pc t = .idle) ∧ s.items < 18446744073709551616 ∧
  (s.items + T.countP (fun t => addP (s.pc t))) % 18446744073709551616 =
    ((absMap s).length + T.countP (fun t => subP (s.pc t))) % 18446744073709551616

theorem countP_same {T : List Tid} {f f' : Tid → PC} (p : PC → Bool) (h : ∀ x, x ∈ T → f' x = f x) :
    T.countP (fun x => p (f' x)) = T.countP (fun x => p (f x)) :=
  List.countP_congr (fun x hx => by simp only [h x hx])

theorem countP_frame {f f' : Tid → PC} (p : PC → Bool) {t : Tid} (hfr : ∀ t2, t2 ≠ t → f' t2 = f t2) :
    ∀ {T : List Tid}, T.Nodup → t ∈ T →
    T.countP (fun x => p (f' x)) + (if p (f t) then 1 else 0) = T.countP (fun x => p (f x)) + (if p (f' t) then 1 else 0)
  | [], _, ht => by simp at ht
  | a :: T, hnd, ht => by
    have hnd' := List.nodup_cons.1 hnd
    rw [List.countP_cons, List.countP_cons]
    by_cases e : a = t
    · subst e
      have := countP_same (f := f) (f' := f') p (T := T) (fun x hx => hfr x (fun e2 => hnd'.1 (e2 ▸ hx)))
      rw [this]; omega
    · have ht' : t ∈ T := by
        rcases List.mem_cons.1 ht with e2 | e2
        · exact absurd e2.symm e
        · exact e2
      have ih := countP_frame p hfr hnd'.2 ht'
      rw [hfr a e]; omega

theorem cntOk_mem {s : St} {T : List Tid} (h : CntOk s T) (t : Tid) : ∃ T1, CntOk s T1 ∧ t ∈ T1 := by
  by_cases ht : t ∈ T
  · exact ⟨T, h, ht⟩
  · obtain ⟨h1, h2, h3, h4⟩ := h
    have hi := h2 t ht
    refine ⟨t :: T, ⟨List.nodup_cons.2 ⟨ht, h1⟩, fun x hx => h2 x (fun hx2 => hx (List.mem_cons_of_mem _ hx2)), h3, ?_⟩,
      List.mem_cons_self ..⟩
    rw [List.countP_cons, List.countP_cons, hi]
    simpa [addP, subP] using h4

theorem cntOk_init (c : Cfg) : CntOk (init c) [] := by
  refine ⟨List.nodup_nil, fun _ _ => rfl, by simp [init], ?_⟩
  have : absMap (init c) = [] := by
    simp [absMap, absNodes, init, Michael.walk]
  rw [this]; simp [init]

theorem cntOk_step {c : Cfg} (hc : SOHyp c) {s s' : St} {t : Tid} {ev : Ev} {L : List Nat} {T : List Tid}
    (hl : SInvL c s L) (hT : CntOk s T) (hs : step c s t = some (s', ev)) : ∃ T', CntOk s' T' := by
  obtain ⟨T1, ⟨h1, h2, h3, h4⟩, ht⟩ := cntOk_mem hT t
  obtain ⟨L', hl', he⟩ := sinvl_step hc hl hs
  have hk := kind_step hs
  refine ⟨T1, h1, fun x hx => ?_, ?_⟩
  · have hne : x ≠ t := fun e => hx (e ▸ ht)
    rw [he.frame x hne]; exact h2 x hx
  have hA := countP_frame addP (f := s.pc) (f' := s'.pc) he.frame h1 ht
  have hB := countP_frame subP (f := s.pc) (f' := s'.pc) he.frame h1 ht
  have hsame : (lpRet c s.so s.uk s.val (s.pc t) ≠ none ∨ lpRet c s'.so s'.uk s'.val (s'.pc t) = none) →
      (absMap s').length = (absMap s).length := fun hcond => len_of_has_iff hl hl' (he.nolp hcond)
  have hlp : lpRet c s.so s.uk s.val (s.pc t) = none → ∀ r, lpRet c s'.so s'.uk s'.val (s'.pc t) = some r →
      ∃ op, opOf s.uk s.val (s.pc t) = some op ∧
        (isRO op r = true → (absMap s').length = (absMap s).length) ∧
        (∀ k v, op = ⟨"insert", [k, v]⟩ → r = [1] → (absMap s').length = (absMap s).length + 1) ∧
        (∀ k v, op = ⟨"erase", [k]⟩ → r = [1, v] → (absMap s').length + 1 = (absMap s).length) := by
    intro hA0 r hB0
    obtain ⟨op, hop, hok⟩ := he.lp hA0 r hB0
    exact ⟨op, hop, lpok_len hl.absMap_nodup hl'.absMap_nodup hl.mfind_absMap hl'.has_iff hok⟩
  rcases hk with ⟨e1, e2, e3, e4⟩ | ⟨e1, e2, e3, e4, e5, e6, e7, k, v, e8⟩ | ⟨e1, e2, e3, e4, e5, e6⟩ |
      ⟨e1, e2, e3, e4, e5, e6, k, v, e7, e8⟩ | ⟨e1, e2, e3, e4, e5, e6⟩
  · have hN : (absMap s').length = (absMap s).length := by
      rcases e4 with e4 | ⟨op, r, e5, e6, e7⟩
      · exact hsame e4
      · cases hA0 : lpRet c s.so s.uk s.val (s.pc t) with
        | some r0 => exact hsame (Or.inl (by rw [hA0]; simp))
        | none =>
          obtain ⟨op', hop', hro, -, -⟩ := hlp hA0 r e6
          rw [e5] at hop'; cases hop'
          exact hro e7
    rw [e2] at hA; rw [e3] at hB
    refine ⟨by rw [e1]; exact h3, ?_⟩
    rw [e1, hN]
    have : List.countP (fun x => addP (s'.pc x)) T1 = List.countP (fun x => addP (s.pc x)) T1 := by omega
    have : List.countP (fun x => subP (s'.pc x)) T1 = List.countP (fun x => subP (s.pc x)) T1 := by omega
    omega
  · obtain ⟨op', hop', -, hins, -⟩ := hlp e6 [1] e7
    rw [e8] at hop'; cases hop'
    have hN := hins k v rfl rfl
    simp only [e2, e3, e4, e5] at hA hB
    refine ⟨by rw [e1]; exact h3, ?_⟩
    rw [e1, hN]
    simp at hA hB
    omega
  · have hN := hsame (Or.inl e6)
    simp only [e2, e3, e4, e5] at hA hB
    simp at hA hB
    refine ⟨by rw [e1]; unfold incW; omega, ?_⟩
    rw [e1, hN]; unfold incW
    omega
  · obtain ⟨op', hop', -, -, hera⟩ := hlp e6 [1, v] e8
    rw [e7] at hop'; cases hop'
    have hN := hera k v rfl rfl
    simp only [e2, e3, e4, e5] at hA hB
    simp at hA hB
    refine ⟨by rw [e1]; exact h3, ?_⟩
    rw [e1]
    omega
  · have hN := hsame (Or.inl e6)
    simp only [e2, e3, e4, e5] at hA hB
    simp at hA hB
    refine ⟨by rw [e1]; unfold decW; omega, ?_⟩
    rw [e1, hN]; unfold decW
    omega

theorem invoke_pend {c : Cfg} {s s' : St} {t : Tid} {op : GOp} (hs : invoke c s t op = some s') :
    s'.items = s.items ∧ addP (s'.pc t) = false ∧ subP (s'.pc t) = false := by
  unfold invoke at hs
  split at hs
  all_goals first
    | (simp only [Option.some.injEq] at hs; subst hs; exact ⟨rfl, by simp [upd, addP], by simp [upd, subP]⟩)
    | (cases hs; done)

theorem cntOk_invoke {c : Cfg} {s s' : St} {t : Tid} {op : GOp} {L : List Nat} {T : List Tid}
    (hl : SInvL c s L) (hT : CntOk s T) (hs : invoke c s t op = some s') : ∃ T', CntOk s' T' := by
  obtain ⟨T1, ⟨h1, h2, h3, h4⟩, ht⟩ := cntOk_mem hT t
  obtain ⟨hl', he⟩ := sinvl_invoke hl hs
  obtain ⟨e1, e2, e3⟩ := invoke_pend hs
  have hN := len_of_has_iff hl hl' he.abs
  have hA := countP_frame addP (f := s.pc) (f' := s'.pc) he.frame h1 ht
  have hB := countP_frame subP (f := s.pc) (f' := s'.pc) he.frame h1 ht
  simp only [he.was, e2, show addP PC.idle = false from rfl, Bool.false_eq_true, if_false, Nat.add_zero] at hA
  simp only [he.was, e3, show subP PC.idle = false from rfl, Bool.false_eq_true, if_false, Nat.add_zero] at hB
  refine ⟨T1, h1, fun x hx => ?_, by rw [e1]; exact h3, ?_⟩
  · have hne : x ≠ t := fun e => hx (e ▸ ht)
    rw [he.frame x hne]; exact h2 x hx
  · rw [e1, hN, hA, hB]; exact h4

theorem cntOk_result {c : Cfg} {s s' : St} {t : Tid} {r : GRet} {L : List Nat} {T : List Tid}
    (hl : SInvL c s L) (hT : CntOk s T) (hs : result s t = some (s', r)) : ∃ T', CntOk s' T' := by
  obtain ⟨T1, ⟨h1, h2, h3, h4⟩, ht⟩ := cntOk_mem hT t
  obtain ⟨hl', hd, hi, hfr, eso, euk, eval, emark, enext, -, -⟩ := sinvl_result hl hs
  have e1 : s'.items = s.items := by
    unfold result at hs
    split at hs
    · simp only [Option.some.injEq, Prod.mk.injEq] at hs; obtain ⟨rfl, -⟩ := hs; rfl
    · cases hs
  have hN : (absMap s').length = (absMap s).length :=
    len_of_has_iff hl hl' (fun k v => by rw [emark, euk, eval])
  have hA := countP_frame addP (f := s.pc) (f' := s'.pc) hfr h1 ht
  have hB := countP_frame subP (f := s.pc) (f' := s'.pc) hfr h1 ht
  simp only [hd, hi, show addP PC.idle = false from rfl, show addP (PC.done r) = false from rfl, Bool.false_eq_true,
    if_false, Nat.add_zero] at hA
  simp only [hd, hi, show subP PC.idle = false from rfl, show subP (PC.done r) = false from rfl, Bool.false_eq_true,
    if_false, Nat.add_zero] at hB
  refine ⟨T1, h1, fun x hx => ?_, by rw [e1]; exact h3, ?_⟩
  · have hne : x ≠ t := fun e => hx (e ▸ ht)
    rw [hfr x hne]; exact h2 x hx
  · rw [e1, hN, hA, hB]; exact h4

/-- The structural invariant together with the counting invariant. -/
def SCInv (c : Cfg) (s : St) : Prop := ∃ L, SInvL c s L ∧ ∃ T, CntOk s T

theorem scinv_apply {c : Cfg} (hc : SOHyp c) {s s' : St} {t : Tid} {a : Act} {o : Obs} (h : SCInv c s)
    (hap : (model c).apply s t a = some (s', o)) : SCInv c s' := by
  obtain ⟨L, hl, T, hT⟩ := h
  rcases Model.apply_cases hap with ⟨op, -, hs1, -⟩ | ⟨e, -, hs1, -⟩ | ⟨r, -, hs1, -⟩
  · exact ⟨L, (sinvl_invoke hl hs1).1, cntOk_invoke hl hT hs1⟩
  · obtain ⟨L', hl', -⟩ := sinvl_step hc hl hs1
    exact ⟨L', hl', cntOk_step hc hl hT hs1⟩
  · exact ⟨L, (sinvl_result hl hs1).1, cntOk_result hl hT hs1⟩

theorem scinv_reachable {c : Cfg} (hc : SOHyp c) (s : St) (h : (model c).Reachable (init c) s) : SCInv c s :=
  (model c).inv_reachable (SCInv c) (init c) ⟨[0], sinv_init c hc, [], cntOk_init c⟩
    (fun _ _ _ _ _ hi hap => scinv_apply hc hi hap) s h

/-- Every thread idle: the counter is the number of elements of the abstract map, modulo the word size. -/
theorem CntOk.quiescent {s : St} {T : List Tid} (h : CntOk s T) (hq : ∀ t, s.pc t = .idle) :
    s.items = (absMap s).length % 18446744073709551616 := by
  obtain ⟨-, -, h3, h4⟩ := h
  have hA : T.countP (fun t => addP (s.pc t)) = 0 := by
    rw [List.countP_eq_zero]; intro x _; rw [hq x]; simp [addP]
  have hB : T.countP (fun t => subP (s.pc t)) = 0 := by
    rw [List.countP_eq_zero]; intro x _; rw [hq x]; simp [subP]
  rw [hA, hB] at h4
  omega

end CdsVerif.Algo.SplitList
