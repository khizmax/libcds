/-
  Preservation of the SegmentedQueue invariant: steps of `enqueue` outside `create_tail`.
-/
import CdsVerif.Algo.Segmented.Kinds
namespace CdsVerif.Algo.Segmented
open CdsVerif.Machine CdsVerif.Spec

theorem step_enqLd1 {s s' : St} {t : Tid} {e : Ev} {x : Nat} {ps : List Nat} (h : Inv s)
    (hpc : s.pc t = .enqLd1 x ps) (hs : step s t = some (s', e)) : Inv s' := by
  have hL := h.loc hpc
  simp only [step, hpc] at hs
  cases hs
  exact inv_move h (loc_enqLd2 (hL.act nofun) (hL.item x rfl))

/-- An enqueue about to visit the cells `rest` of segment `g`, every other cell having been seen populated: the
    scan goes on, or ends with `create_tail`. -/
theorem loc_scanE {s : St} {t : Tid} {x : Nat} {ps : List Nat} {g : Nat} {rest : List Nat}
    (hact : s.tCall t < s.now) (hitem : s.used x = true ∧ s.owner x = t ∧ s.enqCnt x = 0) (hptr : g < s.nseg)
    (hfloor : s.floorN x ≤ g + 1) (hrest : ∀ j, j ∈ rest → j < s.K)
    (hseen : ∀ j, j < s.K → j ∈ rest ∨ s.cell g j ≠ .null) : Loc s t (scanE x ps g rest) := by
  cases rest with
  | nil =>
    refine loc_ctTry hact hitem (fun g' hg' => ?_)
    cases hg'
    exact ⟨hptr, hfloor, fun j hj => (hseen j hj).resolve_left nofun⟩
  | cons i r =>
    refine loc_enqRd hact hitem hptr hfloor
      ⟨hrest i List.mem_cons_self, fun j hj => hrest j (List.mem_cons_of_mem _ hj), fun j hj => ?_⟩
    rcases hseen j hj with h1 | h1
    · exact (List.mem_cons.mp h1).imp_right .inl
    · exact .inr (.inr h1)

/-- An enqueue starts a scan of segment `g` with a fresh permutation. -/
theorem loc_startE {s : St} {t : Tid} {x : Nat} {ps : List Nat} {g : Nat}
    (hact : s.tCall t < s.now) (hitem : s.used x = true ∧ s.owner x = t ∧ s.enqCnt x = 0) (hptr : g < s.nseg)
    (hfloor : s.floorN x ≤ g + 1) : Loc s t (scanE x (nextPerm s.K ps).2 g (nextPerm s.K ps).1) :=
  loc_scanE hact hitem hptr hfloor (nextPerm_lt s.K ps) (fun j hj => .inl (nextPerm_all s.K ps j hj))

theorem step_enqLd2 {s s' : St} {t : Tid} {e : Ev} {x : Nat} {ps : List Nat} {p : Option Nat} (h : Inv s)
    (hpc : s.pc t = .enqLd2 x ps p) (hs : step s t = some (s', e)) : Inv s' := by
  have hL := h.loc hpc
  have hact := hL.act nofun
  have hitem := hL.item x rfl
  simp only [step, hpc] at hs
  split at hs
  · rename_i htl
    split at hs
    · cases hs
      exact inv_move h (loc_ctTry hact hitem nofun)
    · rename_i g
      cases hs
      have hg := h.1.tail_some g htl
      have hfl := (h.1.used_t x hitem.1).2
      exact inv_move h (loc_startE hact hitem (by omega) (by omega))
  · cases hs
    exact inv_move h (loc_enqLd2 hact hitem)

/-- The scan of an enqueue moves on: cell `i` of segment `g` was seen populated. -/
theorem loc_scanE_next {s : St} {t : Tid} {x : Nat} {ps : List Nat} {g i : Nat} {rest : List Nat}
    (hact : s.tCall t < s.now) (hitem : s.used x = true ∧ s.owner x = t ∧ s.enqCnt x = 0) (hptr : g < s.nseg)
    (hfloor : s.floorN x ≤ g + 1)
    (hscan : i < s.K ∧ (∀ j, j ∈ rest → j < s.K) ∧ ∀ j, j < s.K → j = i ∨ j ∈ rest ∨ s.cell g j ≠ .null)
    (hc : s.cell g i ≠ .null) : Loc s t (scanE x ps g rest) := by
  refine loc_scanE hact hitem hptr hfloor hscan.2.1 (fun j hj => ?_)
  rcases hscan.2.2 j hj with h1 | h1 | h1
  · exact .inr (h1 ▸ hc)
  · exact .inl h1
  · exact .inr h1

theorem step_enqRd {s s' : St} {t : Tid} {e : Ev} {x : Nat} {ps : List Nat} {g i : Nat} {rest : List Nat} (h : Inv s)
    (hpc : s.pc t = .enqRd x ps g i rest) (hs : step s t = some (s', e)) : Inv s' := by
  have hL := h.loc hpc
  have hact := hL.act nofun
  have hitem := hL.item x rfl
  have hscan := hL.eRd x ps g i rest rfl
  have hptr := hL.ptr g rfl
  have hfloor := hL.floor x g rfl rfl
  simp only [step, hpc] at hs
  split at hs
  · cases hs
    exact inv_move h (loc_enqCas hact hitem hptr hfloor hscan)
  · rename_i hc
    cases hs
    exact inv_move h (loc_scanE_next hact hitem hptr hfloor hscan hc)

/-! ### The successful enqueue CAS -/

/-- The state after thread `t` has stored item `x` into cell `i` of segment `g`. -/
def afterEnq (s : St) (t : Tid) (x g i : Nat) : St :=
  { s with cell := upd2 s.cell g i (.item x), pc := upd s.pc t (.enqDone x), now := s.now + 1,
           enqCnt := upd s.enqCnt x (s.enqCnt x + 1), posS := upd s.posS x g, posI := upd s.posI x i,
           tCas := upd s.tCas x (some s.now) }

theorem glob_afterEnq {s : St} {t : Tid} {x g i : Nat} (G : Glob s) (hc : s.cell g i = .null)
    (hitem : s.used x = true ∧ s.owner x = t ∧ s.enqCnt x = 0) (hptr : g < s.nseg) (hi : i < s.K)
    (hfloor : s.floorN x ≤ g + 1) : Glob (afterEnq s t x g i) := by
  have hx0 := hitem.2.2
  have hx1 : ∀ g' i', s.cell g' i' ≠ .item x := by intro g' i' hh; have := G.item_pos g' i' x hh; omega
  have hx2 : ∀ g' i', s.cell g' i' ≠ .del x := by intro g' i' hh; have := G.del_pos g' i' x hh; omega
  have hx3 : s.tCas x = none := by
    cases hh : s.tCas x with
    | none => rfl
    | some c => have := G.cas_t x c hh; omega
  have hx4 := G.enq_zero x hx0
  have hx5 := (G.used_t x hitem.1).1
  have hx6 : s.tMark x = none := by
    cases hh : s.tMark x with
    | none => rfl
    | some m => have := G.mark_t x m hh; omega
  have hused := hitem.1
  clear hitem
  unfold afterEnq
  refine { glob_pcnow s t (.enqDone x) G with
    fresh := ?_, wide := ?_, dead := ?_, full := ?_, item_pos := ?_, del_pos := ?_, enq_le := ?_, enq_cell := ?_,
    enq_zero := ?_, enq_used := ?_, cas_t := ?_, cas_some := ?_, mark_cas := ?_, floor := ?_, order := ?_,
    quasi := ?_ }
  · intro g' i' hg'; have := G.fresh g' i' hg'; simp only; grind [upd2]
  · intro g' i' hi'; have := G.wide g' i' hi'; simp only; grind [upd2]
  · intro g' i' hg' hi'; have := G.dead g' i' hg' hi'; simp only at hg' hi' ⊢; grind [upd2, Cell.isDel]
  · intro g' i' hg' hi'; have := G.full g' i' hg' hi'; simp only; grind [upd2]
  · intro g' i' y hy
    have := G.item_pos g' i' y; have := hx1 g' i'
    simp only at hy ⊢; grind [upd, upd2]
  · intro g' i' y hy
    have := G.del_pos g' i' y; have := hx2 g' i'
    simp only at hy ⊢; grind [upd, upd2]
  · intro y; have := G.enq_le y; simp only; grind [upd]
  · intro y hy
    have := G.enq_cell y
    simp only at hy ⊢; grind [upd, upd2]
  · intro y hy; have := G.enq_zero y; simp only at hy ⊢; grind [upd]
  · intro y hy; have := G.enq_used y; simp only at hy ⊢; grind [upd]
  · intro y c hy; have := G.cas_t y c; simp only at hy ⊢; grind [upd]
  · intro y hy; have := G.cas_some y; simp only at hy ⊢; grind [upd]
  · intro y m c hm hy
    have := G.mark_cas y m c hm
    simp only at hm hy ⊢; grind [upd]
  · intro y z c hy hz hlt
    have := G.floor y z c hy
    have := G.used_t y hy
    simp only at hy hz hlt ⊢; grind [upd]
  · intro y z c hy hz hlt
    have := G.order y z c
    have := G.floor x z c hused
    have := G.used_t y
    have := G.enq_used y
    simp only at hy hz hlt ⊢; grind [upd]
  · intro y z m c hm hz hlt hmm
    have := G.quasi y z m c hm
    have := G.mark_t y m hm
    have := G.enq_used y
    have := G.enq_zero y
    have := G.enq_le y
    have := G.used_t y
    simp only at hm hz hlt hmm ⊢; grind [upd]

theorem frame_afterEnq {s : St} {t t' : Tid} {x g i : Nat} (G : Glob s) (hc : s.cell g i = .null)
    (hitem : s.used x = true ∧ s.owner x = t ∧ s.enqCnt x = 0) (ht' : t' ≠ t) (hL' : Loc s t' (s.pc t')) :
    Frame s (afterEnq s t x g i) t' (s.pc t') := by
  have hx3 : s.tCas x = none := by
    cases hh : s.tCas x with
    | none => rfl
    | some c => have := G.cas_t x c hh; omega
  have hmine := hL'.item
  clear hL'
  unfold afterEnq
  refine { frame_pcnow s t (.enqDone x) t' (s.pc t') with
    nn := ?_, item := ?_, del := ?_, isdel := ?_, cas := ?_, pos := ?_, mine := ?_, enq1 := ?_, casS := ?_ }
  · intro g' i' hh; simp only; grind [upd2]
  · intro g' i' y hh; simp only; grind [upd2]
  · intro g' i' y hh; simp only; grind [upd2]
  · intro g' i' hh; simp only; grind [upd2, Cell.isDel]
  · intro y c hh; simp only at hh ⊢; grind [upd]
  · intro y c hh; simp only; grind [upd]
  · intro y hy; have := hmine y hy; simp only; grind [upd]
  · intro y hy; simp only; grind [upd]
  · intro y c hy; simp only; grind [upd]

theorem step_enqCas {s s' : St} {t : Tid} {e : Ev} {x : Nat} {ps : List Nat} {g i : Nat} {rest : List Nat} (h : Inv s)
    (hpc : s.pc t = .enqCas x ps g i rest) (hs : step s t = some (s', e)) : Inv s' := by
  have hL := h.loc hpc
  have hact := hL.act nofun
  have hitem := hL.item x rfl
  have hscan := hL.eCas x ps g i rest rfl
  have hptr := hL.ptr g rfl
  have hfloor := hL.floor x g rfl rfl
  simp only [step, hpc] at hs
  split at hs
  · rename_i hc
    cases hs
    refine inv_of_step (s' := afterEnq s t x g i) h rfl (glob_afterEnq h.1 hc hitem hptr hscan.1 hfloor)
      (fun t' ht' => frame_afterEnq h.1 hc hitem ht' (h.2 t')) ?_
    refine loc_enqDone (Nat.lt_succ_of_lt hact) ?_ ⟨s.now, ?_, hact⟩
    · show upd s.enqCnt x (s.enqCnt x + 1) x = 1
      simp [upd, hitem.2.2]
    · show upd s.tCas x (some s.now) x = some s.now
      simp [upd]
  · rename_i hc
    cases hs
    exact inv_move h (loc_scanE_next hact hitem hptr hfloor hscan hc)

end CdsVerif.Algo.Segmented
