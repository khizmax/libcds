/-
  Preservation of the SegmentedQueue invariant: steps of `segment_list::remove_head`.
-/
import CdsVerif.Algo.Segmented.Kinds
import CdsVerif.Algo.Segmented.StepDeq
namespace CdsVerif.Algo.Segmented
open CdsVerif.Machine CdsVerif.Spec

/-- What a dequeuer knows about the argument of `remove_head` before the critical section decides: the segment
    exists, is not behind the first one, and was seen fully deleted. -/
theorem Loc.rhArg_facts {s : St} {t : Tid} {p : PC} {g : Nat} (hL : Loc s t p)
    (hptr : p.ptr = some g) (hdptr : p.dptr = some g) (harg : p.rhArg = some g) :
    g < s.nseg ∧ g ≤ s.lo ∧ ∀ j, j < s.K → (s.cell g j).isDel = true :=
  ⟨hL.ptr g hptr, hL.dptr g hdptr, fun j hj => hL.rhArg g j harg hj⟩

theorem step_rhTry {s s' : St} {t : Tid} {e : Ev} {ps : List Nat} {g : Nat} (h : Inv s)
    (hpc : s.pc t = .rhTry ps g) (hs : step s t = some (s', e)) : Inv s' := by
  have hL := h.loc hpc
  have hact := hL.act nofun
  obtain ⟨hptr, hdptr, hdel⟩ := hL.rhArg_facts (g := g) rfl rfl rfl
  simp only [step, hpc] at hs
  split at hs
  · cases hs
    exact inv_move h (loc_rhSpin hact hptr hdptr hdel)
  · rename_i hfree
    cases hs
    exact inv_acquire (q := .rhIn ps g) h (by simpa using hfree)
      fun hq => loc_rhIn (Nat.lt_succ_of_lt hact) hptr hdptr rfl hq hdel

theorem step_rhSpin {s s' : St} {t : Tid} {e : Ev} {ps : List Nat} {g : Nat} (h : Inv s)
    (hpc : s.pc t = .rhSpin ps g) (hs : step s t = some (s', e)) : Inv s' := by
  have hL := h.loc hpc
  have hact := hL.act nofun
  obtain ⟨hptr, hdptr, hdel⟩ := hL.rhArg_facts (g := g) rfl rfl rfl
  simp only [step, hpc] at hs
  split at hs
  · cases hs
    exact inv_move h (loc_rhSpin hact hptr hdptr hdel)
  · cases hs
    exact inv_move h (loc_rhTry hact hptr hdptr hdel)

theorem step_rhIn {s s' : St} {t : Tid} {e : Ev} {ps : List Nat} {g : Nat} (h : Inv s)
    (hpc : s.pc t = .rhIn ps g) (hs : step s t = some (s', e)) : Inv s' := by
  have hL := h.loc hpc
  have hact' := Nat.lt_succ_of_lt (hL.act nofun)
  have hhold := hL.cs rfl
  obtain ⟨hptr, hdptr, hdel⟩ := hL.rhArg_facts (g := g) rfl rfl rfl
  have G := h.1
  have hq : Quiet s := hL.qcs rfl
  simp only [step, hpc] at hs
  split at hs
  · rename_i hlt
    split at hs
    · -- `g` is the first segment: remove it
      rename_i hg
      have hdead' : ∀ g' i, g' < s.lo + 1 → i < s.K → (s.cell g' i).isDel = true := by
        intro g' i hg' hi
        by_cases hh : g' < s.lo
        · exact G.dead g' i hh hi
        · have : g' = g := by omega
          subst this; exact hdel i hi
      split at hs
      · rename_i hmore
        cases hs
        refine inv_setList (q := .rhUnlock ps (some (s.lo + 1))) (hd := some (s.lo + 1)) (tl := s.tail) (lo' := s.lo + 1)
          (n' := s.nseg) h hhold (by omega) (Nat.le_refl _) (by omega) ?_ nofun G.tail_some ?_ G.fresh hdead' G.full ?_
        · intro hd hh; cases hh; omega
        · intro hh; omega
        · refine loc_rhUnlock hact' hhold (quiet_setList.mpr ⟨?_, ?_⟩) ?_ nofun
          · intro _; exact ⟨rfl, (hq.1 hlt).2⟩
          · intro hh; omega
          · intro g' hg'; cases hg'
            exact ⟨hmore, Nat.le_refl _⟩
      · rename_i hmore
        cases hs
        refine inv_setList (q := .rhHead ps) (hd := s.head) (tl := none) (lo' := s.lo + 1)
          (n' := s.nseg) h hhold (by omega) (Nat.le_refl _) (by omega) ?_ ?_ nofun (fun _ => rfl) G.fresh hdead' G.full ?_
        · intro hd hh; have := G.head_some hd hh; omega
        · intro hh; have := G.head_none hh; omega
        · refine loc_rhHead hact' hhold (by show s.lo + 1 = s.nseg; omega) ?_
          intro y c hc _
          have hst := stored_facts G hc
          show (s.cell (s.posS y) (s.posI y)).isDel = true
          exact hdead' _ _ (by omega) hst.2.2
    · -- somebody else has removed it already
      rename_i hg
      cases hs
      refine inv_setPtrs (q := .rhUnlock ps (some s.lo)) (hd := some s.lo) (tl := s.tail) h hhold ?_ nofun
        G.tail_some G.tail_none ?_
      · intro hd hh; cases hh; exact ⟨Nat.le_refl _, hlt⟩
      · refine loc_rhUnlock hact' hhold (quiet_setList.mpr ⟨?_, ?_⟩) ?_ nofun
        · intro _; exact ⟨rfl, (hq.1 hlt).2⟩
        · intro hh; omega
        · intro g' hg'; cases hg'
          exact ⟨hlt, Nat.le_refl _⟩
  · -- the list is empty
    rename_i hlt
    cases hs
    have hlo : s.lo = s.nseg := by have := G.lo_le; omega
    refine inv_setPtrs (q := .rhHead ps) (hd := s.head) (tl := none) h hhold G.head_some G.head_none nofun
      (fun _ => rfl) ?_
    exact loc_rhHead hact' hhold hlo fun y c hc _ => all_marked_of_empty G hlo hc

theorem step_rhHead {s s' : St} {t : Tid} {e : Ev} {ps : List Nat} (h : Inv s)
    (hpc : s.pc t = .rhHead ps) (hs : step s t = some (s', e)) : Inv s' := by
  have hL := h.loc hpc
  have hact' := Nat.lt_succ_of_lt (hL.act nofun)
  have hhold := hL.cs rfl
  have hlo := hL.rhHead ps rfl
  have he3 := hL.e3 rfl
  have G := h.1
  simp only [step, hpc] at hs
  cases hs
  refine inv_setPtrs (q := .rhUnlock ps none) (hd := none) (tl := s.tail) h hhold nofun (fun _ => hlo)
    G.tail_some G.tail_none ?_
  refine loc_rhUnlock hact' hhold (quiet_setList.mpr ⟨?_, ?_⟩) nofun (fun _ => he3)
  · intro hh; omega
  · intro _; rfl

theorem step_rhUnlock {s s' : St} {t : Tid} {e : Ev} {ps : List Nat} {r : Option Nat} (h : Inv s)
    (hpc : s.pc t = .rhUnlock ps r) (hs : step s t = some (s', e)) : Inv s' := by
  have hL := h.loc hpc
  have hact' := Nat.lt_succ_of_lt (hL.act nofun)
  have hhold := hL.cs rfl
  have hq : Quiet s := hL.qcs rfl
  simp only [step, hpc] at hs
  split at hs
  · have he3 := hL.e3 rfl
    cases hs
    exact inv_release (q := .deqDone none) h hhold hq (loc_deqDone hact' nofun (fun _ => he3))
  · rename_i g
    have hptr := hL.ptr g rfl
    have hdptr := hL.dptr g rfl
    cases hs
    refine inv_release (q := scanD (nextPerm s.K ps).2 g false (nextPerm s.K ps).1) h hhold hq ?_
    exact loc_startD (s := setLock s t _ false none) (glob_setLock h.1 nofun (fun _ => hq)) hact' hptr hdptr

end CdsVerif.Algo.Segmented
