/-
  Preservation of the SegmentedQueue invariant: steps of `segment_list::create_tail`.
-/
import CdsVerif.Algo.Segmented.Kinds
import CdsVerif.Algo.Segmented.StepEnq
namespace CdsVerif.Algo.Segmented
open CdsVerif.Machine CdsVerif.Spec

/-- What an enqueuer knows about the argument of `create_tail` before the critical section decides: the segment
    exists, is not older than the enqueue, and was seen fully populated. -/
theorem Loc.ctArg_facts {s : St} {t : Tid} {p : PC} {x : Nat} {pt : Option Nat} (hL : Loc s t p)
    (hitem : p.enqItem = some x) (hptr : p.ptr = pt) (harg : p.ctArg = pt) :
    ∀ g, pt = some g → g < s.nseg ∧ s.floorN x ≤ g + 1 ∧ ∀ j, j < s.K → s.cell g j ≠ .null := by
  intro g hg
  subst hg
  exact ⟨hL.ptr g hptr, hL.floor x g hitem hptr, fun j hj => hL.ctArg g j harg hj⟩

theorem step_ctTry {s s' : St} {t : Tid} {e : Ev} {x : Nat} {ps : List Nat} {pt : Option Nat} (h : Inv s)
    (hpc : s.pc t = .ctTry x ps pt) (hs : step s t = some (s', e)) : Inv s' := by
  have hL := h.loc hpc
  have hact := hL.act nofun
  have hitem := hL.item x rfl
  have hpt := hL.ctArg_facts (x := x) rfl rfl rfl
  simp only [step, hpc] at hs
  split at hs
  · cases hs
    exact inv_move h (loc_ctSpin hact hitem hpt)
  · rename_i hfree
    cases hs
    exact inv_acquire (q := .ctIn x ps pt) h (by simpa using hfree)
      fun hq => loc_ctIn (Nat.lt_succ_of_lt hact) hitem rfl hq hpt

theorem step_ctSpin {s s' : St} {t : Tid} {e : Ev} {x : Nat} {ps : List Nat} {pt : Option Nat} (h : Inv s)
    (hpc : s.pc t = .ctSpin x ps pt) (hs : step s t = some (s', e)) : Inv s' := by
  have hL := h.loc hpc
  have hact := hL.act nofun
  have hitem := hL.item x rfl
  have hpt := hL.ctArg_facts (x := x) rfl rfl rfl
  simp only [step, hpc] at hs
  split at hs
  · cases hs
    exact inv_move h (loc_ctSpin hact hitem hpt)
  · cases hs
    exact inv_move h (loc_ctTry hact hitem hpt)

theorem step_ctIn {s s' : St} {t : Tid} {e : Ev} {x : Nat} {ps : List Nat} {pt : Option Nat} (h : Inv s)
    (hpc : s.pc t = .ctIn x ps pt) (hs : step s t = some (s', e)) : Inv s' := by
  have hL := h.loc hpc
  have hact' := Nat.lt_succ_of_lt (hL.act nofun)
  have hitem := hL.item x rfl
  have hhold := hL.cs rfl
  have hpt := hL.ctArg_facts (x := x) rfl rfl rfl
  have G := h.1
  have hfl := (G.used_t x hitem.1).2
  have hq : Quiet s := hL.qcs rfl
  simp only [step, hpc] at hs
  split at hs
  · rename_i hlt
    split at hs
    · -- `pt` is the last segment: append a new one
      rename_i hback
      cases hs
      have hfull := (hpt _ hback).2.2
      refine inv_setList (q := .ctUnlock x ps s.nseg) (hd := s.head) (tl := some s.nseg) (lo' := s.lo) (n' := s.nseg + 1)
        h hhold (Nat.le_refl _) (by omega) (by omega) ?_ ?_ ?_ ?_ ?_ G.dead ?_ ?_
      · intro hd hh; have := G.head_some hd hh; omega
      · intro hh; have := G.head_none hh; omega
      · intro p hp; cases hp; rfl
      · intro hh; omega
      · intro g i hg; exact G.fresh g i (by omega)
      · intro g i hg hi
        by_cases hg' : g + 1 < s.nseg
        · exact G.full g i hg' hi
        · have : g = s.nseg - 1 := by omega
          subst this; exact hfull i hi
      · refine loc_ctUnlock hact' hitem hhold (quiet_setList.mpr ⟨?_, ?_⟩) rfl (by show s.floorN x ≤ s.nseg + 1; omega)
        · intro _; exact ⟨(hq.1 hlt).1, by simp⟩
        · intro hh; omega
    · -- somebody else has appended already
      rename_i hback
      cases hs
      refine inv_setPtrs (q := .ctUnlock x ps (s.nseg - 1)) (hd := s.head) (tl := some (s.nseg - 1)) h hhold
        G.head_some G.head_none ?_ ?_ ?_
      · intro p hp; cases hp; omega
      · intro hh; omega
      · refine loc_ctUnlock hact' hitem hhold (quiet_setList.mpr ⟨?_, ?_⟩) (by show s.nseg - 1 + 1 = s.nseg; omega)
          (by show s.floorN x ≤ s.nseg - 1 + 1; omega)
        · intro _; exact ⟨(hq.1 hlt).1, rfl⟩
        · intro hh; omega
  · -- the list is empty
    rename_i hlt
    cases hs
    have hlo : s.lo = s.nseg := by have := G.lo_le; omega
    refine inv_setList (q := .ctTail x ps s.nseg) (hd := some s.nseg) (tl := s.tail) (lo' := s.lo) (n' := s.nseg + 1)
      h hhold (Nat.le_refl _) (by omega) (by omega) ?_ nofun ?_ ?_ ?_ G.dead ?_ ?_
    · intro hd hh; cases hh; omega
    · intro p hp; rw [G.tail_none hlo] at hp; cases hp
    · intro hh; omega
    · intro g i hg; exact G.fresh g i (by omega)
    · intro g i hg hi
      exact isDel_ne_null (G.dead g i (by omega) hi)
    · exact loc_ctTail hact' hitem hhold rfl hlo rfl (by show s.floorN x ≤ s.nseg + 1; omega)

theorem step_ctTail {s s' : St} {t : Tid} {e : Ev} {x : Nat} {ps : List Nat} {n : Nat} (h : Inv s)
    (hpc : s.pc t = .ctTail x ps n) (hs : step s t = some (s', e)) : Inv s' := by
  have hL := h.loc hpc
  have hact' := Nat.lt_succ_of_lt (hL.act nofun)
  have hitem := hL.item x rfl
  have hhold := hL.cs rfl
  have hn := hL.ctNew n rfl
  have hlo := hL.ctTail x ps n rfl
  have hfloor := hL.floor x n rfl rfl
  have hhd := hL.ctTailQ x ps n rfl
  have G := h.1
  simp only [step, hpc] at hs
  cases hs
  refine inv_setPtrs (q := .ctUnlock x ps n) (hd := s.head) (tl := some n) h hhold G.head_some G.head_none ?_ ?_ ?_
  · intro p hp; cases hp; exact hn
  · intro hh; omega
  · refine loc_ctUnlock hact' hitem hhold (quiet_setList.mpr ⟨?_, ?_⟩) hn hfloor
    · intro _; exact ⟨by rw [hhd, hlo], by congr 1; omega⟩
    · intro hh; omega

theorem step_ctUnlock {s s' : St} {t : Tid} {e : Ev} {x : Nat} {ps : List Nat} {n : Nat} (h : Inv s)
    (hpc : s.pc t = .ctUnlock x ps n) (hs : step s t = some (s', e)) : Inv s' := by
  have hL := h.loc hpc
  have hact' := Nat.lt_succ_of_lt (hL.act nofun)
  have hn := hL.ctNew n rfl
  simp only [step, hpc] at hs
  cases hs
  refine inv_release (q := scanE x (nextPerm s.K ps).2 n (nextPerm s.K ps).1) h (hL.cs rfl) (hL.qcs rfl) ?_
  exact loc_startE (s := setLock s t _ false none) hact' (hL.item x rfl) (by show n < s.nseg; omega)
    (hL.floor x n rfl rfl)

end CdsVerif.Algo.Segmented
