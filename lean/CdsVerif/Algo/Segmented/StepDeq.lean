/-
  Preservation of the SegmentedQueue invariant: steps of `do_dequeue` outside `remove_head`.
-/
import CdsVerif.Algo.Segmented.Kinds
namespace CdsVerif.Algo.Segmented
open CdsVerif.Machine CdsVerif.Spec

theorem step_deqLd1 {s s' : St} {t : Tid} {e : Ev} {ps : List Nat} (h : Inv s)
    (hpc : s.pc t = .deqLd1 ps) (hs : step s t = some (s', e)) : Inv s' := by
  have hL := h.loc hpc
  simp only [step, hpc] at hs
  cases hs
  exact inv_move h (loc_deqLd2 (hL.act nofun))

/-- A dequeue about to visit the cells `rest` of segment `g`, every other cell having been seen deleted (or, `hn`,
    some cell null): the scan goes on, or ends with EMPTY (`hn`) or with `remove_head`. -/
theorem loc_scanD {s : St} {t : Tid} {ps : List Nat} {g : Nat} {rest : List Nat} {hn : Bool} (G : Glob s)
    (hact : s.tCall t < s.now) (hptr : g < s.nseg) (hdptr : g ≤ s.lo) (hrest : ∀ j, j ∈ rest → j < s.K)
    (hseen : ∀ j, j < s.K → j ∈ rest ∨ (s.cell g j).isDel = true ∨ hn = true)
    (he1 : ∀ y c, s.tCas y = some c → c < s.tCall t → s.posS y = g →
      s.posI y ∈ rest ∨ (s.cell g (s.posI y)).isDel = true)
    (he2 : hn = true → ∀ y c, s.tCas y = some c → c < s.tCall t → s.posS y ≤ g) :
    Loc s t (scanD ps g hn rest) := by
  cases rest with
  | nil =>
    cases hn with
    | true =>
      refine loc_deqDone hact nofun (fun _ y c hc hlt => ?_)
      have hle := he2 rfl y c hc hlt
      by_cases hg : s.posS y = g
      · rcases he1 y c hc hlt hg with h1 | h1
        · cases h1
        · rw [hg]; exact h1
      · exact G.dead _ _ (by omega) (stored_facts G hc).2.2
    | false =>
      refine loc_rhTry hact hptr hdptr (fun j hj => ?_)
      rcases hseen j hj with h1 | h1 | h1
      · cases h1
      · exact h1
      · cases h1
  | cons i r =>
    refine loc_deqRd hact hptr hdptr
      ⟨hrest i List.mem_cons_self, fun j hj => hrest j (List.mem_cons_of_mem _ hj), fun j hj => ?_⟩
      (fun y c hc hlt hg => ?_) he2
    · rcases hseen j hj with h1 | h1
      · exact (List.mem_cons.mp h1).imp_right .inl
      · exact .inr (.inr h1)
    · rcases he1 y c hc hlt hg with h1 | h1
      · exact (List.mem_cons.mp h1).imp_right .inl
      · exact .inr (.inr h1)

/-- A dequeue starts a scan of segment `g` with a fresh permutation. -/
theorem loc_startD {s : St} {t : Tid} {ps : List Nat} {g : Nat} (G : Glob s)
    (hact : s.tCall t < s.now) (hptr : g < s.nseg) (hdptr : g ≤ s.lo) :
    Loc s t (scanD (nextPerm s.K ps).2 g false (nextPerm s.K ps).1) :=
  loc_scanD G hact hptr hdptr (nextPerm_lt s.K ps) (fun j hj => .inl (nextPerm_all s.K ps j hj))
    (fun _ _ hc _ _ => .inl (nextPerm_all s.K ps _ (stored_facts G hc).2.2)) nofun

theorem step_deqLd2 {s s' : St} {t : Tid} {e : Ev} {ps : List Nat} {p : Option Nat} (h : Inv s)
    (hpc : s.pc t = .deqLd2 ps p) (hs : step s t = some (s', e)) : Inv s' := by
  have hL := h.loc hpc
  have hact := hL.act nofun
  have G := h.1
  simp only [step, hpc] at hs
  split at hs
  · rename_i hhd
    split at hs
    · cases hs
      exact inv_move h (loc_deqDone hact nofun fun _ _ _ hc _ => all_marked_of_empty G (G.head_none hhd) hc)
    · rename_i g
      cases hs
      have hg := G.head_some g hhd
      exact inv_move h (loc_startD G hact hg.2 hg.1)
  · cases hs
    exact inv_move h (loc_deqLd2 hact)

/-- The scan of a dequeue moves on: cell `i` was seen deleted. -/
theorem loc_scanD_del {s : St} {t : Tid} {ps : List Nat} {g i : Nat} {rest : List Nat} {hn : Bool} (G : Glob s)
    (hact : s.tCall t < s.now) (hptr : g < s.nseg) (hdptr : g ≤ s.lo)
    (hscan : i < s.K ∧ (∀ j, j ∈ rest → j < s.K) ∧
      ∀ j, j < s.K → j = i ∨ j ∈ rest ∨ (s.cell g j).isDel = true ∨ hn = true)
    (he1 : ∀ y c, s.tCas y = some c → c < s.tCall t → s.posS y = g →
      s.posI y = i ∨ s.posI y ∈ rest ∨ (s.cell g (s.posI y)).isDel = true)
    (he2 : hn = true → ∀ y c, s.tCas y = some c → c < s.tCall t → s.posS y ≤ g)
    (hvis : (s.cell g i).isDel = true) : Loc s t (scanD ps g hn rest) := by
  refine loc_scanD G hact hptr hdptr hscan.2.1 (fun j hj => ?_) (fun y c hc hlt hg => ?_) he2
  · rcases hscan.2.2 j hj with h1 | h1 | h1
    · exact .inr (.inl (h1 ▸ hvis))
    · exact .inl h1
    · exact .inr h1
  · rcases he1 y c hc hlt hg with h1 | h1 | h1
    · exact .inr (h1 ▸ hvis)
    · exact .inl h1
    · exact .inr h1

/-- The scan of a dequeue moves on: cell `i` was seen null (so `g` is the last segment). -/
theorem loc_scanD_null {s : St} {t : Tid} {ps : List Nat} {g i : Nat} {rest : List Nat} {hn : Bool} (G : Glob s)
    (hact : s.tCall t < s.now) (hptr : g < s.nseg) (hdptr : g ≤ s.lo)
    (hscan : i < s.K ∧ (∀ j, j ∈ rest → j < s.K) ∧
      ∀ j, j < s.K → j = i ∨ j ∈ rest ∨ (s.cell g j).isDel = true ∨ hn = true)
    (he1 : ∀ y c, s.tCas y = some c → c < s.tCall t → s.posS y = g →
      s.posI y = i ∨ s.posI y ∈ rest ∨ (s.cell g (s.posI y)).isDel = true)
    (hvis : s.cell g i = .null) : Loc s t (scanD ps g true rest) := by
  have hlast : s.nseg ≤ g + 1 := Nat.le_of_not_lt fun hh => G.full g i hh hscan.1 hvis
  refine loc_scanD G hact hptr hdptr hscan.2.1 (fun _ _ => .inr (.inr rfl)) (fun y c hc hlt hg => ?_)
    (fun _ y c hc _ => ?_)
  · rcases he1 y c hc hlt hg with h1 | h1 | h1
    · -- no stored item has the null cell `i` as its place
      have := (stored_facts G hc).1
      rw [hg, h1, hvis] at this
      rcases this with h2 | h2 <;> cases h2
    · exact .inl h1
    · exact .inr h1
  · have := (stored_facts G hc).2.1
    omega

theorem step_deqRd {s s' : St} {t : Tid} {e : Ev} {ps : List Nat} {g i : Nat} {rest : List Nat} {hn : Bool} (h : Inv s)
    (hpc : s.pc t = .deqRd ps g i rest hn) (hs : step s t = some (s', e)) : Inv s' := by
  have hL := h.loc hpc
  have hact := hL.act nofun
  have hscan := hL.dRd ps g i rest hn rfl
  have hptr := hL.ptr g rfl
  have hdptr := hL.dptr g rfl
  have he1 := hL.e1Rd ps g i rest hn rfl
  have he2 : hn = true → ∀ y c, s.tCas y = some c → c < s.tCall t → s.posS y ≤ g := by
    intro hh; subst hh; exact hL.e2Rd ps g i rest rfl
  have G := h.1
  simp only [step, hpc] at hs
  split at hs
  · rename_i hc
    cases hs
    exact inv_move h (loc_scanD_null G hact hptr hdptr hscan he1 hc)
  · rename_i y hc
    cases hs
    exact inv_move h (loc_scanD_del G hact hptr hdptr hscan he1 he2 (by rw [hc]; rfl))
  · rename_i y hc
    cases hs
    exact inv_move h (loc_deqCas hact hptr hdptr (.inl hc) hscan he1 he2)

/-! ### The successful marking CAS -/

/-- The state after thread `t` has marked item `x` in cell `i` of segment `g` as deleted. -/
def afterDeq (s : St) (t : Tid) (x g i : Nat) : St :=
  { s with cell := upd2 s.cell g i (.del x), pc := upd s.pc t (.deqDone (some x)), now := s.now + 1,
           deqCnt := upd s.deqCnt x (s.deqCnt x + 1), tMark := upd s.tMark x (some s.now) }

theorem glob_afterDeq {s : St} {t : Tid} {x g i : Nat} (G : Glob s) (hc : s.cell g i = .item x) (hdptr : g ≤ s.lo) :
    Glob (afterDeq s t x g i) := by
  have hx := G.item_pos g i x hc
  have hx6 : s.tMark x = none := by
    cases hh : s.tMark x with
    | none => rfl
    | some m => have := G.mark_t x m hh; omega
  unfold afterDeq
  refine { glob_pcnow s t (.deqDone (some x)) G with
    fresh := ?_, wide := ?_, dead := ?_, full := ?_, item_pos := ?_, del_pos := ?_, enq_cell := ?_, enq_zero := ?_,
    mark_t := ?_, mark_cas := ?_, mark_some := ?_, quasi := ?_ }
  · intro g' i' hg'; have := G.fresh g' i' hg'; simp only; grind [upd2]
  · intro g' i' hi'; have := G.wide g' i' hi'; simp only; grind [upd2]
  · intro g' i' hg' hi'; have := G.dead g' i' hg' hi'; simp only at hg' hi' ⊢; grind [upd2, Cell.isDel]
  · intro g' i' hg' hi'; have := G.full g' i' hg' hi'; simp only; grind [upd2]
  · intro g' i' y hy
    have := G.item_pos g' i' y
    simp only at hy ⊢; grind [upd, upd2]
  · intro g' i' y hy
    have := G.del_pos g' i' y
    simp only at hy ⊢; grind [upd, upd2]
  · intro y hy
    have := G.enq_cell y hy
    simp only at hy ⊢; grind [upd2]
  · intro y hy; have := G.enq_zero y hy; simp only at hy ⊢; grind [upd]
  · intro y m hy; have := G.mark_t y m; simp only at hy ⊢; grind [upd]
  · intro y m c hm hy
    have := G.mark_cas y m c
    have := G.cas_t y c hy
    simp only at hm hy ⊢; grind [upd]
  · intro y hy; have := G.mark_some y; simp only at hy ⊢; grind [upd]
  · intro y z m c hm hz hlt hmm
    simp only at hm hz hlt hmm ⊢
    by_cases hyx : y = x
    · subst hyx
      have hm' : m = s.now := by simpa [upd] using hm.symm
      subst hm'
      by_cases hzx : z = y
      · subst hzx; rfl
      · have hzm : s.tMark z = none := by
          cases hh : s.tMark z with
          | none => rfl
          | some m' =>
            have h1 := (G.mark_t z m' hh).1
            have h2 := hmm m' (by simp [upd, hzx, hh])
            omega
        have hst := stored_facts G hz
        have hord := G.order y z c hx.1 hz hlt
        have hcell : s.cell (s.posS z) (s.posI z) = .item z := by
          rcases hst.1 with h1 | h1
          · exact h1
          · have := (G.del_pos _ _ z h1).2.2.2
            exact absurd (G.mark_some z this) (by simp [hzm])
        have hlo : s.lo ≤ s.posS z := by
          by_cases hh : s.posS z < s.lo
          · have := G.dead _ _ hh hst.2.2
            rw [hcell] at this; cases this
          · omega
        omega
    · have hm' : s.tMark y = some m := by simpa [upd, hyx] using hm
      refine G.quasi y z m c hm' hz hlt ?_
      intro m' hzm
      by_cases hzx : z = x
      · subst hzx; rw [hx6] at hzm; cases hzm
      · exact hmm m' (by simp [upd, hzx, hzm])

theorem frame_afterDeq {s : St} {t t' : Tid} {x g i : Nat} (G : Glob s) (hc : s.cell g i = .item x) :
    Frame s (afterDeq s t x g i) t' (s.pc t') := by
  have hx := G.item_pos g i x hc
  unfold afterDeq
  refine { frame_pcnow s t (.deqDone (some x)) t' (s.pc t') with
    nn := ?_, item := ?_, del := ?_, isdel := ?_, deq1 := ?_, markS := ?_ }
  · intro g' i' hh; simp only; grind [upd2]
  · intro g' i' y hh; simp only; grind [upd2]
  · intro g' i' y hh; simp only; grind [upd2]
  · intro g' i' hh; simp only; grind [upd2, Cell.isDel]
  · intro y hy; simp only; grind [upd]
  · intro y m hy
    have : y ≠ x := by
      intro hyx; subst hyx
      have := (G.mark_t y m hy).2; omega
    simp only; grind [upd]

theorem step_deqCas {s s' : St} {t : Tid} {e : Ev} {ps : List Nat} {g i x : Nat} {rest : List Nat} {hn : Bool}
    (h : Inv s) (hpc : s.pc t = .deqCas ps g i x rest hn) (hs : step s t = some (s', e)) : Inv s' := by
  have hL := h.loc hpc
  have hact := hL.act nofun
  have hscan := hL.dCas ps g i x rest hn rfl
  have hptr := hL.ptr g rfl
  have hdptr := hL.dptr g rfl
  have he1 := hL.e1Cas ps g i x rest hn rfl
  have he2 : hn = true → ∀ y c, s.tCas y = some c → c < s.tCall t → s.posS y ≤ g := by
    intro hh; subst hh; exact hL.e2Cas ps g i x rest rfl
  have G := h.1
  simp only [step, hpc] at hs
  split at hs
  · rename_i hc
    cases hs
    refine inv_of_step (s' := afterDeq s t x g i) h rfl (glob_afterDeq G hc hdptr) (fun t' _ => frame_afterDeq G hc) ?_
    refine loc_deqDone (Nat.lt_succ_of_lt hact) (fun y hy => ?_) nofun
    cases hy
    refine ⟨?_, s.now, ?_, hact⟩
    · show upd s.deqCnt x (s.deqCnt x + 1) x = 1
      simp [upd, (G.item_pos g i x hc).2.2.2]
    · show upd s.tMark x (some s.now) x = some s.now
      simp [upd]
  · rename_i hc
    cases hs
    have hdel : s.cell g i = .del x := hscan.2.2.1.resolve_left hc
    exact inv_move h (loc_scanD_del G hact hptr hdptr ⟨hscan.1, hscan.2.1, hscan.2.2.2⟩ he1 he2 (by rw [hdel]; rfl))

end CdsVerif.Algo.Segmented
