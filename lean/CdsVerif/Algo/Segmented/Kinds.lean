/-
  Preservation of the SegmentedQueue invariant by kind of step: a step that only moves the stepping thread, a step
  that changes only the lock, and a step of the lock holder that changes only the segment list (head, tail, lo,
  nseg).  Each kind is the pure move (`glob_pcnow`, `frame_pcnow`) with the clauses it affects overridden.
-/
import CdsVerif.Algo.Segmented.Inv
namespace CdsVerif.Algo.Segmented
open CdsVerif.Machine CdsVerif.Spec

/-! ### Reading the invariant -/

theorem Inv.loc {s : St} {t : Tid} {p : PC} (h : Inv s) (hpc : s.pc t = p) : Loc s t p :=
  hpc ▸ h.2 t

theorem isDel_ne_null {c : Cell} (h : c.isDel = true) : c ≠ .null := by
  cases c <;> simp_all [Cell.isDel]

/-- An item that was stored once sits, plain or marked, in the cell recorded for it, and that cell exists. -/
theorem stored_of_enq {s : St} (G : Glob s) {y : Nat} (h1 : s.enqCnt y = 1) :
    (s.cell (s.posS y) (s.posI y) = .item y ∨ s.cell (s.posS y) (s.posI y) = .del y) ∧
    s.posS y < s.nseg ∧ s.posI y < s.K := by
  have h2 := G.enq_cell y h1
  refine ⟨h2, Nat.lt_of_not_le fun hh => ?_, Nat.lt_of_not_le fun hh => ?_⟩
  · rw [G.fresh _ _ hh] at h2
    rcases h2 with h2 | h2 <;> cases h2
  · rw [G.wide _ _ hh] at h2
    rcases h2 with h2 | h2 <;> cases h2

/-- Where a stored item is. -/
theorem stored_facts {s : St} (G : Glob s) {y c : Nat} (hc : s.tCas y = some c) :
    (s.cell (s.posS y) (s.posI y) = .item y ∨ s.cell (s.posS y) (s.posI y) = .del y) ∧
    s.posS y < s.nseg ∧ s.posI y < s.K :=
  stored_of_enq G (G.cas_t y c hc).2.2

/-- When the segment list is empty every item ever stored has been taken. -/
theorem all_marked_of_empty {s : St} (G : Glob s) (hlo : s.lo = s.nseg) {y c : Nat} (hc : s.tCas y = some c) :
    (s.cell (s.posS y) (s.posI y)).isDel = true := by
  have := stored_facts G hc
  exact G.dead _ _ (by omega) this.2.2

theorem holder_none_of_free {s : St} (G : Glob s) (hfree : s.lock = false) : s.holder = none := by
  cases hh : s.holder with
  | none => rfl
  | some t' => have := G.holder_lock t' hh; rw [hfree] at this; cases this

/-! ### Moving only -/

/-- A step that only moves thread `t` to `q`: what `t` knows at `q` is shown in the old state, and carried over
    like the knowledge of every other thread. -/
theorem inv_move {s : St} {t : Tid} {q : PC} (h : Inv s) (hL : Loc s t q) :
    Inv { s with pc := upd s.pc t q, now := s.now + 1 } :=
  inv_pcnow h (loc_frame hL (frame_pcnow s t q t q))

/-! ### Lock only -/

def setLock (s : St) (t : Tid) (q : PC) (b : Bool) (ho : Option Tid) : St :=
  { s with lock := b, holder := ho, pc := upd s.pc t q, now := s.now + 1 }

theorem glob_setLock {s : St} {t : Tid} {q : PC} {b : Bool} {ho : Option Tid} (G : Glob s)
    (hb : ∀ t', ho = some t' → b = true) (hq : ho = none → Quiet s) : Glob (setLock s t q b ho) :=
  { glob_pcnow s t q G with holder_lock := hb, quiet := hq }

theorem frame_setLock {s : St} {t t' : Tid} {q p : PC} {b : Bool} {ho : Option Tid}
    (hh : s.holder = some t' → ho = some t') : Frame s (setLock s t q b ho) t' p :=
  { frame_pcnow s t q t' p with hold := fun h1 => ⟨hh h1, rfl, rfl, rfl, rfl⟩ }

/-- Acquire: the lock was free, so the published pointers are exact. -/
theorem inv_acquire {s : St} {t : Tid} {q : PC} (h : Inv s) (hfree : s.lock = false)
    (hL : Quiet (setLock s t q true (some t)) → Loc (setLock s t q true (some t)) t q) :
    Inv (setLock s t q true (some t)) := by
  have hnone := holder_none_of_free h.1 hfree
  refine inv_of_step h rfl (glob_setLock h.1 (fun _ _ => rfl) nofun) (fun t' _ => frame_setLock fun hh => ?_)
    (hL (h.1.quiet hnone))
  rw [hnone] at hh
  cases hh

/-- Release by the holder. -/
theorem inv_release {s : St} {t : Tid} {q : PC} (h : Inv s) (hhold : s.holder = some t) (hq : Quiet s)
    (hL : Loc (setLock s t q false none) t q) : Inv (setLock s t q false none) := by
  refine inv_of_step h rfl (glob_setLock h.1 nofun (fun _ => hq)) (fun t' ht' => frame_setLock fun hh => ?_) hL
  rw [hhold] at hh
  exact absurd (Option.some.inj hh).symm ht'

/-! ### The segment list, by the lock holder -/

def setList (s : St) (t : Tid) (q : PC) (hd tl : Option Nat) (lo' n' : Nat) : St :=
  { s with head := hd, tail := tl, lo := lo', nseg := n', pc := upd s.pc t q, now := s.now + 1 }

theorem quiet_setList {s : St} {t : Tid} {q : PC} {hd tl : Option Nat} {lo' n' : Nat} :
    Quiet (setList s t q hd tl lo' n') ↔ ((lo' < n' → hd = some lo' ∧ tl = some (n' - 1)) ∧ (lo' = n' → hd = none)) :=
  Iff.rfl

theorem glob_setList {s : St} {t : Tid} {q : PC} {hd tl : Option Nat} {lo' n' : Nat} (G : Glob s)
    (hhold : s.holder = some t) (hn : s.nseg ≤ n') (h1 : lo' ≤ n') (h2 : ∀ h, hd = some h → h ≤ lo' ∧ h < n')
    (h3 : hd = none → lo' = n') (h4 : ∀ p, tl = some p → p + 1 = n') (h5 : lo' = n' → tl = none)
    (h6 : ∀ g i, n' ≤ g → s.cell g i = .null) (h8 : ∀ g i, g < lo' → i < s.K → (s.cell g i).isDel = true)
    (h9 : ∀ g i, g + 1 < n' → i < s.K → s.cell g i ≠ .null) : Glob (setList s t q hd tl lo' n') :=
  { glob_pcnow s t q G with
    lo_le := h1, head_some := h2, head_none := h3, tail_some := h4, tail_none := h5, fresh := h6, dead := h8, full := h9
    used_t := fun y hy => ⟨Nat.lt_succ_of_lt (G.used_t y hy).1, Nat.le_trans (G.used_t y hy).2 hn⟩
    quiet := fun hh => nomatch hhold ▸ hh }

theorem frame_setList {s : St} {t t' : Tid} {q p : PC} {hd tl : Option Nat} {lo' n' : Nat}
    (hhold : s.holder = some t) (ht' : t' ≠ t) (hlo : s.lo ≤ lo') (hn : s.nseg ≤ n') :
    Frame s (setList s t q hd tl lo' n') t' p :=
  { frame_pcnow s t q t' p with
    lo := hlo, nseg := hn
    hold := fun h1 => absurd (Option.some.inj (hhold ▸ h1)) (Ne.symm ht') }

theorem inv_setList {s : St} {t : Tid} {q : PC} {hd tl : Option Nat} {lo' n' : Nat} (h : Inv s)
    (hhold : s.holder = some t) (hlo : s.lo ≤ lo') (hn : s.nseg ≤ n')
    (h1 : lo' ≤ n') (h2 : ∀ h, hd = some h → h ≤ lo' ∧ h < n') (h3 : hd = none → lo' = n')
    (h4 : ∀ p, tl = some p → p + 1 = n') (h5 : lo' = n' → tl = none)
    (h6 : ∀ g i, n' ≤ g → s.cell g i = .null) (h8 : ∀ g i, g < lo' → i < s.K → (s.cell g i).isDel = true)
    (h9 : ∀ g i, g + 1 < n' → i < s.K → s.cell g i ≠ .null)
    (hL : Loc (setList s t q hd tl lo' n') t q) : Inv (setList s t q hd tl lo' n') :=
  inv_of_step h rfl (glob_setList h.1 hhold hn h1 h2 h3 h4 h5 h6 h8 h9)
    (fun _ ht' => frame_setList hhold ht' hlo hn) hL

/-- The holder republishes `m_pHead` / `m_pTail`; the list itself stays as it is. -/
theorem inv_setPtrs {s : St} {t : Tid} {q : PC} {hd tl : Option Nat} (h : Inv s) (hhold : s.holder = some t)
    (h2 : ∀ h, hd = some h → h ≤ s.lo ∧ h < s.nseg) (h3 : hd = none → s.lo = s.nseg)
    (h4 : ∀ p, tl = some p → p + 1 = s.nseg) (h5 : s.lo = s.nseg → tl = none)
    (hL : Loc (setList s t q hd tl s.lo s.nseg) t q) : Inv (setList s t q hd tl s.lo s.nseg) :=
  inv_setList h hhold (Nat.le_refl _) (Nat.le_refl _) h.1.lo_le h2 h3 h4 h5 h.1.fresh h.1.dead h.1.full hL

end CdsVerif.Algo.Segmented
