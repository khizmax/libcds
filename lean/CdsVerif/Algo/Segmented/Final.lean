/-
  Consequences of the SegmentedQueue invariant used by property C08: cells are write-once / delete-once (a fact
  about single transitions), the counting form of the reordering bound (pigeonhole on the cells of one segment).
-/
import CdsVerif.Algo.Segmented.InvAll
namespace CdsVerif.Algo.Segmented
open CdsVerif.Machine CdsVerif.Spec

/-! ### Pigeonhole -/

theorem nodup_lt_length (K : Nat) (l : List Nat) (hnd : l.Nodup) (hl : ∀ a, a ∈ l → a < K) : l.length ≤ K := by
  have := hnd.length_le_of_subset (l₂ := List.range K) (fun a ha => List.mem_range.mpr (hl a ha))
  rwa [List.length_range] at this

theorem nodup_map_of_inj_on {f : Nat → Nat} (l : List Nat) (hnd : l.Nodup)
    (hinj : ∀ a, a ∈ l → ∀ b, b ∈ l → f a = f b → a = b) : (l.map f).Nodup := by
  rw [List.Nodup, List.pairwise_map]
  exact hnd.imp_of_mem (fun ha hb hne hfab => hne (hinj _ ha _ hb hfab))

/-! ### Cells are write-once, delete-once -/

/-- What one transition may do to a cell. -/
def CellStep (c c' : Cell) : Prop :=
  c' = c ∨ (c = .null ∧ ∃ x, c' = .item x) ∨ (∃ x, c = .item x ∧ c' = .del x)

theorem cell_step_of_step {s s' : St} {t : Tid} {e : Ev} (hs : step s t = some (s', e)) :
    ∀ g i, CellStep (s.cell g i) (s'.cell g i) := by
  intro g i
  unfold step at hs
  split at hs
  all_goals (try (split at hs))
  all_goals (try (split at hs))
  all_goals (try (split at hs))
  all_goals (try (simp at hs; done))
  all_goals (simp only [Option.some.injEq, Prod.mk.injEq] at hs; obtain ⟨rfl, _⟩ := hs)
  all_goals (first
    | exact Or.inl rfl
    | (simp only [CellStep, upd2]; split <;> simp_all))

theorem cell_step_of_apply {s s' : St} {t : Tid} {a : Act} {o : Obs} (hap : model.apply s t a = some (s', o)) :
    ∀ g i, CellStep (s.cell g i) (s'.cell g i) := by
  intro g i
  rcases Model.apply_cases hap with ⟨op, -, hi, -⟩ | ⟨e, -, hs, -⟩ | ⟨r, -, hr, -⟩
  · -- an invocation touches no cell
    simp only [model, invoke] at hi
    split at hi
    · split at hi
      · cases hi; exact Or.inl rfl
      · cases hi
    · cases hi; exact Or.inl rfl
    · cases hi
  · exact cell_step_of_step hs g i
  · -- nor does a return
    simp only [model, result] at hr
    split at hr
    · cases hr; exact Or.inl rfl
    · cases hr; exact Or.inl rfl
    · cases hr; exact Or.inl rfl
    · cases hr

/-! ### The reordering bound, counted -/

/-- `y` was stored before the enqueue of `x` was invoked and is still in the queue at the instant `x` is taken. -/
def Overtaken (s : St) (x y : Nat) : Prop :=
  y ≠ x ∧ ∃ m c, s.tMark x = some m ∧ s.tCas y = some c ∧ c < s.tInv x ∧ ∀ m', s.tMark y = some m' → m < m'

/-- An item that was taken had been stored. -/
theorem enq_of_mark {s : St} (G : Glob s) {x m : Nat} (hm : s.tMark x = some m) : s.enqCnt x = 1 := by
  have := (G.mark_t x m hm).2
  rcases G.enq_le x with h0 | h1
  · have := G.enq_zero x h0; omega
  · exact h1

/-- Two stored items recorded for the same cell are the same item. -/
theorem eq_of_same_cell {s : St} (G : Glob s) {x y : Nat} (hx : s.enqCnt x = 1) (hy : s.enqCnt y = 1)
    (hS : s.posS y = s.posS x) (hI : s.posI y = s.posI x) : y = x := by
  have cx := G.enq_cell x hx
  have cy := G.enq_cell y hy
  rw [hS, hI] at cy
  rcases cx with h1 | h1 <;> rcases cy with h2 | h2 <;> rw [h1] at h2 <;> cases h2 <;> rfl

theorem overtaken_same_segment {s : St} (G : Glob s) {x y : Nat} (h : Overtaken s x y) :
    s.posS y = s.posS x ∧ s.posI y ≠ s.posI x ∧ s.posI y < s.K ∧ s.enqCnt y = 1 := by
  obtain ⟨hne, m, c, hm, hc, hlt, hmm⟩ := h
  have hseg := G.quasi x y m c hm hc hlt hmm
  have hy := (G.cas_t y c hc).2.2
  exact ⟨hseg, fun hi => hne (eq_of_same_cell G (enq_of_mark G hm) hy hseg hi), (stored_of_enq G hy).2.2, hy⟩

/-- At most K − 1 items are overtaken by any one item ("fewer than the quasi factor"). -/
theorem overtaken_count {s : St} (G : Glob s) (x : Nat) (ys : List Nat) (hnd : ys.Nodup)
    (hys : ∀ y, y ∈ ys → Overtaken s x y) : ys.length ≤ s.K - 1 := by
  cases ys with
  | nil => simp
  | cons y0 r =>
    have key := fun y hy => overtaken_same_segment G (hys y hy)
    obtain ⟨-, m, -, hm, -⟩ := hys y0 List.mem_cons_self
    have hx := enq_of_mark G hm
    -- the cells of the overtaken items, plus the cell of x, are pairwise different cells of one segment
    have hl : ((x :: y0 :: r).map s.posI).Nodup := by
      apply nodup_map_of_inj_on
      · exact List.nodup_cons.mpr ⟨fun hx => (hys x hx).1 rfl, hnd⟩
      · intro a ha b hb hab
        rcases List.mem_cons.mp ha with rfl | ha' <;> rcases List.mem_cons.mp hb with rfl | hb'
        · rfl
        · exact absurd hab.symm (key b hb').2.1
        · exact absurd hab (key a ha').2.1
        · exact eq_of_same_cell G (key b hb').2.2.2 (key a ha').2.2.2 ((key a ha').1.trans (key b hb').1.symm) hab
    have hlt : ∀ a, a ∈ (x :: y0 :: r).map s.posI → a < s.K := by
      intro a ha
      obtain ⟨b, hb, rfl⟩ := List.mem_map.mp ha
      rcases List.mem_cons.mp hb with rfl | hb'
      · exact (stored_of_enq G hx).2.2
      · exact (key b hb').2.2.1
    have := nodup_lt_length s.K _ hl hlt
    simp only [List.length_map, List.length_cons] at this ⊢
    omega

/-! ### Executable observers for the evaluated examples -/

/-- Number of items present (stored and not yet taken) in the segments allocated so far. -/
def unmarked (s : St) : Nat :=
  ((List.range s.nseg).map (fun g => ((List.range s.K).filter (fun i =>
    match s.cell g i with
    | .item _ => true
    | _ => false)).length)).sum

/-- `unmarked` after every action of a schedule (first entry: the initial state). -/
def unmarkedTrace (s : St) : List (Tid × Act) → List Nat
  | [] => [unmarked s]
  | (t, a) :: rest =>
    match model.apply s t a with
    | none => [unmarked s]
    | some (s', _) => unmarked s :: unmarkedTrace s' rest

/-- An event as the harness prints it (`Model.render` uses `ToString Ev`, whose trimming does not evaluate in the
    kernel; every event of this machine has a non-empty first value). -/
def evStr (e : Ev) : String :=
  if e.b == "" then s!"{e.kind} {e.loc} {e.a}" else s!"{e.kind} {e.loc} {e.a} {e.b}"

/-- The trace lines of a run. -/
def renderT (os : List (Tid × Obs)) : List String :=
  os.map fun (t, o) => match o with
    | .call op => s!"T {t} C {op.name} {op.args}"
    | .ev e => s!"T {t} A {evStr e}"
    | .ret r => s!"T {t} R {r}"

end CdsVerif.Algo.Segmented
