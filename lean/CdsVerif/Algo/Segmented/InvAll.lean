/-
  The SegmentedQueue invariant holds in every reachable state (property C08): invocation, return, and the
  combination of the per-step lemmas.
-/
import CdsVerif.Algo.Segmented.StepCt
import CdsVerif.Algo.Segmented.StepRh
namespace CdsVerif.Algo.Segmented
open CdsVerif.Machine CdsVerif.Spec

theorem inv_init (K : Nat) : Inv (init K) := by
  refine ⟨?_, fun t => loc_idle _ t⟩
  constructor <;> intros <;> simp_all [init, Quiet]

/-! ### Invocation -/

def afterEnqInv (s : St) (t : Tid) (x : Nat) (ps : List Nat) : St :=
  { s with pc := upd s.pc t (.enqLd1 x ps), now := s.now + 1, used := upd s.used x true, owner := upd s.owner x t,
           tInv := upd s.tInv x s.now, floorN := upd s.floorN x s.nseg, tCall := upd s.tCall t s.now }

/-- An item never handed to `enqueue` has not been stored. -/
theorem enqCnt_of_unused {s : St} (G : Glob s) {x : Nat} (hx : s.used x = false) : s.enqCnt x = 0 := by
  rcases G.enq_le x with h1 | h1
  · exact h1
  · have := G.enq_used x h1; rw [hx] at this; cases this

theorem glob_afterEnqInv {s : St} {t : Tid} {x : Nat} {ps : List Nat} (G : Glob s) (hx : s.used x = false) :
    Glob (afterEnqInv s t x ps) := by
  have hx0 := enqCnt_of_unused G hx
  have hx1 : s.tCas x = none := by
    cases hh : s.tCas x with
    | none => rfl
    | some c => have := G.cas_t x c hh; omega
  have hx2 : s.tMark x = none := by
    cases hh : s.tMark x with
    | none => rfl
    | some m => have := G.mark_t x m hh; have := G.enq_zero x hx0; omega
  unfold afterEnqInv
  refine { glob_pcnow s t (.enqLd1 x ps) G with
    enq_used := ?_, used_t := ?_, cas_t := ?_, floor := ?_, order := ?_, quasi := ?_ }
  · intro y hy; have := G.enq_used y hy; simp only; grind [upd]
  · intro y hy; have := G.used_t y; simp only at hy ⊢; grind [upd]
  · intro y c hy; have := G.cas_t y c hy; simp only at hy ⊢; grind [upd]
  · intro y z c hy hz hlt
    have := G.floor y z c
    have := (stored_facts G hz).2.1
    simp only at hy hz hlt ⊢; grind [upd]
  · intro y z c hy hz hlt
    have := G.order y z c hy hz
    simp only at hy hz hlt ⊢; grind [upd]
  · intro y z m c hm hz hlt hmm
    have := G.quasi y z m c hm hz
    simp only at hm hz hlt hmm ⊢; grind [upd]

theorem frame_afterEnqInv {s : St} {t t' : Tid} {x : Nat} {ps : List Nat} {p : PC} (hx : s.used x = false)
    (ht' : t' ≠ t) : Frame s (afterEnqInv s t x ps) t' p := by
  unfold afterEnqInv
  refine { frame_pcnow s t (.enqLd1 x ps) t' p with call := upd_other _ _ _ _ ht', used := ?_ }
  intro y h1; simp only; grind [upd]

def afterDeqInv (s : St) (t : Tid) (ps : List Nat) : St :=
  { s with pc := upd s.pc t (.deqLd1 ps), now := s.now + 1, tCall := upd s.tCall t s.now }

theorem glob_afterDeqInv {s : St} {t : Tid} {ps : List Nat} (G : Glob s) : Glob (afterDeqInv s t ps) :=
  { glob_pcnow s t (.deqLd1 ps) G with }

theorem frame_afterDeqInv {s : St} {t t' : Tid} {ps : List Nat} {p : PC} (ht' : t' ≠ t) :
    Frame s (afterDeqInv s t ps) t' p :=
  { frame_pcnow s t (.deqLd1 ps) t' p with call := upd_other _ _ _ _ ht' }

theorem inv_invoke {s s' : St} {t : Tid} {op : GOp} (h : Inv s) (hi : invoke s t op = some s') : Inv s' := by
  unfold invoke at hi
  split at hi
  · rename_i v ps hpc _ _
    split at hi
    · rename_i hv
      simp only [Option.some.injEq] at hi; subst hi
      have G := h.1
      have hx := hv.2
      have hx0 := enqCnt_of_unused G hx
      refine inv_of_step (s' := afterEnqInv s t v.toNat (ps.map Int.toNat)) h rfl (glob_afterEnqInv G hx)
        (fun t' ht' => frame_afterEnqInv hx ht') ?_
      refine loc_enqLd1 ?_ ⟨?_, ?_, hx0⟩
      · show upd s.tCall t s.now t < s.now + 1
        simp [upd]
      · show upd s.used v.toNat true v.toNat = true
        simp [upd]
      · show upd s.owner v.toNat t v.toNat = t
        simp [upd]
    · simp at hi
  · simp only [Option.some.injEq] at hi; subst hi
    refine inv_of_step (s' := afterDeqInv s t _) h rfl (glob_afterDeqInv h.1)
      (fun t' ht' => frame_afterDeqInv ht') ?_
    refine loc_deqLd1 ?_
    show upd s.tCall t s.now t < s.now + 1
    simp [upd]
  · simp at hi

theorem inv_result {s s' : St} {t : Tid} {r : GRet} (h : Inv s) (hr : result s t = some (s', r)) : Inv s' := by
  unfold result at hr
  split at hr
  · cases hr; exact inv_move h (loc_idle s t)
  · cases hr; exact inv_move h (loc_idle s t)
  · cases hr; exact inv_move h (loc_idle s t)
  · cases hr

theorem inv_step {s s' : St} {t : Tid} {e : Ev} (h : Inv s) (hs : step s t = some (s', e)) : Inv s' := by
  cases hpc : s.pc t with
  | idle => unfold step at hs; simp [hpc] at hs
  | enqLd1 x ps => exact step_enqLd1 h hpc hs
  | enqLd2 x ps p => exact step_enqLd2 h hpc hs
  | enqRd x ps g i rest => exact step_enqRd h hpc hs
  | enqCas x ps g i rest => exact step_enqCas h hpc hs
  | ctTry x ps pt => exact step_ctTry h hpc hs
  | ctSpin x ps pt => exact step_ctSpin h hpc hs
  | ctIn x ps pt => exact step_ctIn h hpc hs
  | ctTail x ps n => exact step_ctTail h hpc hs
  | ctUnlock x ps n => exact step_ctUnlock h hpc hs
  | enqDone x => unfold step at hs; simp [hpc] at hs
  | deqLd1 ps => exact step_deqLd1 h hpc hs
  | deqLd2 ps p => exact step_deqLd2 h hpc hs
  | deqRd ps g i rest hn => exact step_deqRd h hpc hs
  | deqCas ps g i x rest hn => exact step_deqCas h hpc hs
  | rhTry ps g => exact step_rhTry h hpc hs
  | rhSpin ps g => exact step_rhSpin h hpc hs
  | rhIn ps g => exact step_rhIn h hpc hs
  | rhHead ps => exact step_rhHead h hpc hs
  | rhUnlock ps r => exact step_rhUnlock h hpc hs
  | deqDone r => unfold step at hs; simp [hpc] at hs

theorem inv_apply (s : St) (t : Tid) (a : Act) (s' : St) (o : Obs) (h : Inv s)
    (hap : model.apply s t a = some (s', o)) : Inv s' := by
  rcases Model.apply_cases hap with ⟨op, -, hi, -⟩ | ⟨e, -, hs, -⟩ | ⟨r, -, hr, -⟩
  · exact inv_invoke h hi
  · exact inv_step h hs
  · exact inv_result h hr

/-- The invariant holds in every reachable state: every schedule, any number of threads, any quasi factor, any
    permutation input. -/
theorem inv_reachable (K : Nat) (s : St) (h : model.Reachable (init K) s) : Inv s :=
  model.inv_reachable Inv (init K) (inv_init K) inv_apply s h

/-- No transition writes the quasi factor: every branch of `invoke`, `step`, `result` returns `{ s with … }` without
    a `K` field. -/
theorem K_apply {s s' : St} {t : Tid} {a : Act} {o : Obs} (hap : model.apply s t a = some (s', o)) : s'.K = s.K := by
  rcases Model.apply_cases hap with ⟨op, -, hi, -⟩ | ⟨e, -, hs, -⟩ | ⟨r, -, hr, -⟩
  · change invoke s t op = some s' at hi
    unfold invoke at hi
    split at hi
    · split at hi
      · simp only [Option.some.injEq] at hi
        subst hi
        rfl
      · simp at hi
    · simp only [Option.some.injEq] at hi
      subst hi
      rfl
    · simp at hi
  · change step s t = some (s', e) at hs
    unfold step at hs
    split at hs
    all_goals (try (split at hs))
    all_goals (try (split at hs))
    all_goals (try (split at hs))
    all_goals (try (simp at hs; done))
    all_goals (cases hs; rfl)
  · change result s t = some (s', r) at hr
    unfold result at hr
    split at hr
    all_goals (try (simp at hr; done))
    all_goals (cases hr; rfl)

theorem K_reachable (K : Nat) (s : St) (h : model.Reachable (init K) s) : s.K = K :=
  model.inv_reachable (fun s => s.K = K) (init K) rfl (fun _ _ _ _ _ hK hap => (K_apply hap).trans hK) s h

end CdsVerif.Algo.Segmented
