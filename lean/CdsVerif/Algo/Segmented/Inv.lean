/-
  The inductive invariant of the SegmentedQueue machine (property C08): definitions.

  `Inv s = Glob s ∧ ∀ t, Loc s t (s.pc t)`:
  * `Glob`  facts about shared memory and the ghost history (no program counter);
  * `Loc`   what a thread at program counter `p` knows;
  * `Frame` what a step of ANOTHER thread may change; `Loc` is stable under `Frame` (`loc_frame`), so that a step
            of thread `t` only has to re-establish `Glob`, `Frame` for the observers and `Loc` for `t` itself.
-/
import CdsVerif.Algo.Segmented.Model
namespace CdsVerif.Algo.Segmented
open CdsVerif.Machine CdsVerif.Spec

/-! ### The permutation input -/

theorem nextPerm_lt (K : Nat) (ps : List Nat) : ∀ j, j ∈ (nextPerm K ps).1 → j < K := by
  intro j hj
  unfold nextPerm at hj
  split at hj
  · rename_i h
    simp only [isPerm, Bool.and_eq_true, List.all_eq_true, decide_eq_true_eq] at h
    exact h.1.2 j hj
  · simpa using hj

theorem nextPerm_all (K : Nat) (ps : List Nat) : ∀ j, j < K → j ∈ (nextPerm K ps).1 := by
  intro j hj
  unfold nextPerm
  split
  · rename_i h
    simp only [isPerm, Bool.and_eq_true, List.all_eq_true, decide_eq_true_eq] at h
    have := h.2 j (by simpa using hj)
    simpa using this
  · simpa using hj

theorem scanE_cases (x : Nat) (ps : List Nat) (g : Nat) (l : List Nat) :
    (l = [] ∧ scanE x ps g l = .ctTry x ps (some g)) ∨ (∃ i r, l = i :: r ∧ scanE x ps g l = .enqRd x ps g i r) := by
  cases l with
  | nil => left; exact ⟨rfl, rfl⟩
  | cons i r => right; exact ⟨i, r, rfl, rfl⟩

theorem scanD_cases (ps : List Nat) (g : Nat) (hn : Bool) (l : List Nat) :
    (l = [] ∧ hn = true ∧ scanD ps g hn l = .deqDone none) ∨ (l = [] ∧ hn = false ∧ scanD ps g hn l = .rhTry ps g) ∨
    (∃ i r, l = i :: r ∧ scanD ps g hn l = .deqRd ps g i r hn) := by
  cases l with
  | nil => cases hn <;> simp [scanD]
  | cons i r => right; right; exact ⟨i, r, rfl, rfl⟩

/-! ### Projections of the program counter -/

/-- Inside a critical section of `m_Lock`. -/
def PC.inCS : PC → Bool
  | .ctIn .. => true
  | .ctTail .. => true
  | .ctUnlock .. => true
  | .rhIn .. => true
  | .rhHead .. => true
  | .rhUnlock .. => true
  | _ => false

/-- The segment pointer a thread holds. -/
def PC.ptr : PC → Option Nat
  | .enqRd _ _ g _ _ => some g
  | .enqCas _ _ g _ _ => some g
  | .ctTry _ _ pt => pt
  | .ctSpin _ _ pt => pt
  | .ctIn _ _ pt => pt
  | .ctTail _ _ n => some n
  | .ctUnlock _ _ n => some n
  | .deqRd _ g _ _ _ => some g
  | .deqCas _ g _ _ _ _ => some g
  | .rhTry _ g => some g
  | .rhSpin _ g => some g
  | .rhIn _ g => some g
  | .rhUnlock _ r => r
  | _ => none

/-- The segment pointer of a dequeuer. -/
def PC.dptr : PC → Option Nat
  | .deqRd _ g _ _ _ => some g
  | .deqCas _ g _ _ _ _ => some g
  | .rhTry _ g => some g
  | .rhSpin _ g => some g
  | .rhIn _ g => some g
  | .rhUnlock _ r => r
  | _ => none

/-- The argument of `create_tail` (a segment seen fully populated), before the critical section decides. -/
def PC.ctArg : PC → Option Nat
  | .ctTry _ _ pt => pt
  | .ctSpin _ _ pt => pt
  | .ctIn _ _ pt => pt
  | _ => none

/-- The argument of `remove_head` (a segment seen fully deleted). -/
def PC.rhArg : PC → Option Nat
  | .rhTry _ g => some g
  | .rhSpin _ g => some g
  | .rhIn _ g => some g
  | _ => none

/-- The segment just allocated / found by `create_tail`, which is the last one while the lock is held. -/
def PC.ctNew : PC → Option Nat
  | .ctTail _ _ n => some n
  | .ctUnlock _ _ n => some n
  | _ => none

/-- The item of an enqueue that has not yet stored it. -/
def PC.enqItem : PC → Option Nat
  | .enqLd1 x _ => some x
  | .enqLd2 x _ _ => some x
  | .enqRd x _ _ _ _ => some x
  | .enqCas x _ _ _ _ => some x
  | .ctTry x _ _ => some x
  | .ctSpin x _ _ => some x
  | .ctIn x _ _ => some x
  | .ctTail x _ _ => some x
  | .ctUnlock x _ _ => some x
  | _ => none

/-- The dequeue is going to answer EMPTY. -/
def PC.emptyRes : PC → Bool
  | .rhHead _ => true
  | .rhUnlock _ none => true
  | .deqDone none => true
  | _ => false

/-- Inside a critical section, at a point where `m_pHead` / `m_pTail` are exact (just after the acquisition, just
    before the release). -/
def PC.quietCS : PC → Bool
  | .ctIn .. => true
  | .ctUnlock .. => true
  | .rhIn .. => true
  | .rhUnlock .. => true
  | _ => false

/-! ### The invariant -/

/-- `m_pHead` is the first and `m_pTail` the last segment of the list (both null when the list is empty). -/
def Quiet (s : St) : Prop :=
  (s.lo < s.nseg → s.head = some s.lo ∧ s.tail = some (s.nseg - 1)) ∧ (s.lo = s.nseg → s.head = none)


structure Glob (s : St) : Prop where
  lo_le : s.lo ≤ s.nseg
  head_some : ∀ h, s.head = some h → h ≤ s.lo ∧ h < s.nseg
  head_none : s.head = none → s.lo = s.nseg
  tail_some : ∀ p, s.tail = some p → p + 1 = s.nseg
  tail_none : s.lo = s.nseg → s.tail = none
  fresh : ∀ g i, s.nseg ≤ g → s.cell g i = .null
  wide : ∀ g i, s.K ≤ i → s.cell g i = .null
  dead : ∀ g i, g < s.lo → i < s.K → (s.cell g i).isDel = true
  full : ∀ g i, g + 1 < s.nseg → i < s.K → s.cell g i ≠ .null
  holder_lock : ∀ t, s.holder = some t → s.lock = true
  -- conservation
  item_pos : ∀ g i x, s.cell g i = .item x → s.enqCnt x = 1 ∧ s.posS x = g ∧ s.posI x = i ∧ s.deqCnt x = 0
  del_pos : ∀ g i x, s.cell g i = .del x → s.enqCnt x = 1 ∧ s.posS x = g ∧ s.posI x = i ∧ s.deqCnt x = 1
  enq_le : ∀ x, s.enqCnt x = 0 ∨ s.enqCnt x = 1
  enq_cell : ∀ x, s.enqCnt x = 1 → s.cell (s.posS x) (s.posI x) = .item x ∨ s.cell (s.posS x) (s.posI x) = .del x
  enq_zero : ∀ x, s.enqCnt x = 0 → s.deqCnt x = 0
  enq_used : ∀ x, s.enqCnt x = 1 → s.used x = true
  -- history
  used_t : ∀ x, s.used x = true → s.tInv x < s.now ∧ s.floorN x ≤ s.nseg
  cas_t : ∀ x c, s.tCas x = some c → s.tInv x < c ∧ c < s.now ∧ s.enqCnt x = 1
  cas_some : ∀ x, s.enqCnt x = 1 → s.tCas x ≠ none
  mark_t : ∀ x m, s.tMark x = some m → m < s.now ∧ s.deqCnt x = 1
  mark_cas : ∀ x m c, s.tMark x = some m → s.tCas x = some c → c < m
  mark_some : ∀ x, s.deqCnt x = 1 → s.tMark x ≠ none
  floor : ∀ x y c, s.used x = true → s.tCas y = some c → c < s.tInv x → s.posS y + 1 ≤ s.floorN x
  order : ∀ x y c, s.enqCnt x = 1 → s.tCas y = some c → c < s.tInv x → s.posS y ≤ s.posS x
  quasi : ∀ x y m c, s.tMark x = some m → s.tCas y = some c → c < s.tInv x →
    (∀ m', s.tMark y = some m' → m < m') → s.posS y = s.posS x
  -- nobody inside create_tail / remove_head: the published pointers are exact
  quiet : s.holder = none → Quiet s

/-- What thread `t` at program counter `p` knows.  Every clause is guarded by `p`; for a given `p` most guards are
    absurd, and a clause that is not stated when a `Loc` is built is one of those. -/
structure Loc (s : St) (t : Tid) (p : PC) : Prop where
  act : p ≠ .idle → s.tCall t < s.now := by nofun
  cs : p.inCS = true → s.holder = some t := by nofun
  ptr : ∀ g, p.ptr = some g → g < s.nseg := by nofun
  dptr : ∀ g, p.dptr = some g → g ≤ s.lo := by nofun
  ctArg : ∀ g j, p.ctArg = some g → j < s.K → s.cell g j ≠ .null := by nofun
  rhArg : ∀ g j, p.rhArg = some g → j < s.K → (s.cell g j).isDel = true := by nofun
  ctNew : ∀ n, p.ctNew = some n → n + 1 = s.nseg := by nofun
  ctTail : ∀ x ps n, p = .ctTail x ps n → s.lo = n := by nofun
  rhHead : ∀ ps, p = .rhHead ps → s.lo = s.nseg := by nofun
  eRd : ∀ x ps g i rest, p = .enqRd x ps g i rest →
    i < s.K ∧ (∀ j, j ∈ rest → j < s.K) ∧ ∀ j, j < s.K → j = i ∨ j ∈ rest ∨ s.cell g j ≠ .null := by nofun
  eCas : ∀ x ps g i rest, p = .enqCas x ps g i rest →
    i < s.K ∧ (∀ j, j ∈ rest → j < s.K) ∧ ∀ j, j < s.K → j = i ∨ j ∈ rest ∨ s.cell g j ≠ .null := by nofun
  dRd : ∀ ps g i rest hn, p = .deqRd ps g i rest hn →
    i < s.K ∧ (∀ j, j ∈ rest → j < s.K) ∧
    ∀ j, j < s.K → j = i ∨ j ∈ rest ∨ (s.cell g j).isDel = true ∨ hn = true := by nofun
  dCas : ∀ ps g i x rest hn, p = .deqCas ps g i x rest hn →
    i < s.K ∧ (∀ j, j ∈ rest → j < s.K) ∧ (s.cell g i = .item x ∨ s.cell g i = .del x) ∧
    ∀ j, j < s.K → j = i ∨ j ∈ rest ∨ (s.cell g j).isDel = true ∨ hn = true := by nofun
  item : ∀ x, p.enqItem = some x → s.used x = true ∧ s.owner x = t ∧ s.enqCnt x = 0 := by nofun
  floor : ∀ x g, p.enqItem = some x → p.ptr = some g → s.floorN x ≤ g + 1 := by nofun
  enqDone : ∀ x, p = .enqDone x → s.enqCnt x = 1 := by nofun
  deqDone : ∀ x, p = .deqDone (some x) → s.deqCnt x = 1 := by nofun
  e1Rd : ∀ ps g i rest hn, p = .deqRd ps g i rest hn → ∀ y c, s.tCas y = some c → c < s.tCall t → s.posS y = g →
    s.posI y = i ∨ s.posI y ∈ rest ∨ (s.cell g (s.posI y)).isDel = true := by nofun
  e1Cas : ∀ ps g i x rest hn, p = .deqCas ps g i x rest hn → ∀ y c, s.tCas y = some c → c < s.tCall t → s.posS y = g →
    s.posI y = i ∨ s.posI y ∈ rest ∨ (s.cell g (s.posI y)).isDel = true := by nofun
  e2Rd : ∀ ps g i rest, p = .deqRd ps g i rest true →
    ∀ y c, s.tCas y = some c → c < s.tCall t → s.posS y ≤ g := by nofun
  e2Cas : ∀ ps g i x rest, p = .deqCas ps g i x rest true →
    ∀ y c, s.tCas y = some c → c < s.tCall t → s.posS y ≤ g := by nofun
  e3 : p.emptyRes = true →
    ∀ y c, s.tCas y = some c → c < s.tCall t → (s.cell (s.posS y) (s.posI y)).isDel = true := by nofun
  casIn : ∀ x, p = .enqDone x → ∃ c, s.tCas x = some c ∧ s.tCall t < c := by nofun
  markIn : ∀ x, p = .deqDone (some x) → ∃ m, s.tMark x = some m ∧ s.tCall t < m := by nofun
  qcs : p.quietCS = true → Quiet s := by nofun
  ctTailQ : ∀ x ps n, p = .ctTail x ps n → s.head = some n := by nofun

def Inv (s : St) : Prop := Glob s ∧ ∀ t, Loc s t (s.pc t)

/-- An unmarked item sits in a cell of a segment of the list. -/
theorem Glob.item_in_list {s : St} (G : Glob s) {g i x : Nat} (hc : s.cell g i = .item x) :
    s.lo ≤ g ∧ g < s.nseg ∧ i < s.K := by
  have hi : i < s.K := by
    apply Nat.lt_of_not_le
    intro hK
    have := G.wide g i hK
    rw [hc] at this
    cases this
  have hg : g < s.nseg := by
    apply Nat.lt_of_not_le
    intro hn
    have := G.fresh g i hn
    rw [hc] at this
    cases this
  refine ⟨?_, hg, hi⟩
  apply Nat.le_of_not_lt
  intro hlo
  have := G.dead g i hlo hi
  rw [hc] at this
  cases this

/-- An item is taken only after it was stored. -/
theorem Glob.deq_le_enq {s : St} (G : Glob s) (x : Nat) : s.deqCnt x ≤ s.enqCnt x := by
  rcases G.enq_le x with h0 | h1
  · have := G.enq_zero x h0
    omega
  · rcases G.enq_cell x h1 with hc | hc
    · have := (G.item_pos _ _ x hc).2.2.2
      omega
    · have := (G.del_pos _ _ x hc).2.2.2
      omega

/-- What a step of another thread may do to the state, as seen by thread `t` at program counter `p`. -/
structure Frame (s s' : St) (t : Tid) (p : PC) : Prop where
  K : s'.K = s.K
  lo : s.lo ≤ s'.lo
  nseg : s.nseg ≤ s'.nseg
  nn : ∀ g i, s.cell g i ≠ .null → s'.cell g i ≠ .null
  item : ∀ g i x, s.cell g i = .item x → s'.cell g i = .item x ∨ s'.cell g i = .del x
  del : ∀ g i x, s.cell g i = .del x → s'.cell g i = .del x
  isdel : ∀ g i, (s.cell g i).isDel = true → (s'.cell g i).isDel = true
  hold : s.holder = some t → s'.holder = some t ∧ s'.lo = s.lo ∧ s'.nseg = s.nseg ∧ s'.head = s.head ∧ s'.tail = s.tail
  call : s'.tCall t = s.tCall t
  now : s.now ≤ s'.now
  cas : ∀ y c, s'.tCas y = some c → s.tCas y = some c ∨ s.now ≤ c
  pos : ∀ y c, s.tCas y = some c → s'.posS y = s.posS y ∧ s'.posI y = s.posI y
  used : ∀ x, s.used x = true → s'.used x = true ∧ s'.owner x = s.owner x ∧ s'.floorN x = s.floorN x
  mine : ∀ x, p.enqItem = some x → s'.enqCnt x = s.enqCnt x
  enq1 : ∀ x, s.enqCnt x = 1 → s'.enqCnt x = 1
  deq1 : ∀ x, s.deqCnt x = 1 → s'.deqCnt x = 1
  casS : ∀ x c, s.tCas x = some c → s'.tCas x = some c
  markS : ∀ x m, s.tMark x = some m → s'.tMark x = some m

theorem inCS_of_ctNew {p : PC} {n : Nat} (e : p.ctNew = some n) : p.inCS = true := by
  cases p <;> simp_all [PC.ctNew, PC.inCS]

theorem inCS_of_quietCS {p : PC} (e : p.quietCS = true) : p.inCS = true := by
  cases p <;> simp_all [PC.quietCS, PC.inCS]

theorem ne_idle_of_emptyRes {p : PC} (e : p.emptyRes = true) : p ≠ .idle := by
  rintro rfl; cases e

/-- A CAS stamp older than the call of `t` is an old one: the step of the other thread has not moved its cell. -/
theorem Frame.old_cas {s s' : St} {t : Tid} {p : PC} (f : Frame s s' t p) (hact : s.tCall t < s.now) {y c : Nat}
    (hc : s'.tCas y = some c) (hlt : c < s'.tCall t) :
    s.tCas y = some c ∧ c < s.tCall t ∧ s'.posS y = s.posS y ∧ s'.posI y = s.posI y := by
  rw [f.call] at hlt
  rcases f.cas y c hc with e | e
  · exact ⟨e, hlt, f.pos y c e⟩
  · omega

theorem loc_frame {s s' : St} {t : Tid} {p : PC} (h : Loc s t p) (f : Frame s s' t p) : Loc s' t p where
  act := fun hp => by rw [f.call]; exact Nat.lt_of_lt_of_le (h.act hp) f.now
  cs := fun hp => (f.hold (h.cs hp)).1
  ptr := fun g e => Nat.lt_of_lt_of_le (h.ptr g e) f.nseg
  dptr := fun g e => Nat.le_trans (h.dptr g e) f.lo
  ctArg := fun g j e hj => f.nn g j (h.ctArg g j e (f.K ▸ hj))
  rhArg := fun g j e hj => f.isdel g j (h.rhArg g j e (f.K ▸ hj))
  ctNew := fun n e => by rw [(f.hold (h.cs (inCS_of_ctNew e))).2.2.1]; exact h.ctNew n e
  ctTail := fun x ps n e => by rw [(f.hold (h.cs (e ▸ rfl))).2.1]; exact h.ctTail x ps n e
  rhHead := fun ps e => by
    obtain ⟨-, h1, h2, -⟩ := f.hold (h.cs (e ▸ rfl))
    rw [h1, h2]; exact h.rhHead ps e
  eRd := fun x ps g i rest e => by
    obtain ⟨h1, h2, h3⟩ := h.eRd x ps g i rest e
    rw [f.K]
    exact ⟨h1, h2, fun j hj => (h3 j hj).imp id (Or.imp id (f.nn g j))⟩
  eCas := fun x ps g i rest e => by
    obtain ⟨h1, h2, h3⟩ := h.eCas x ps g i rest e
    rw [f.K]
    exact ⟨h1, h2, fun j hj => (h3 j hj).imp id (Or.imp id (f.nn g j))⟩
  dRd := fun ps g i rest hn e => by
    obtain ⟨h1, h2, h3⟩ := h.dRd ps g i rest hn e
    rw [f.K]
    exact ⟨h1, h2, fun j hj => (h3 j hj).imp id (Or.imp id (Or.imp (f.isdel g j) id))⟩
  dCas := fun ps g i x rest hn e => by
    obtain ⟨h1, h2, h3, h4⟩ := h.dCas ps g i x rest hn e
    rw [f.K]
    exact ⟨h1, h2, h3.elim (f.item g i x) (fun e' => .inr (f.del g i x e')),
      fun j hj => (h4 j hj).imp id (Or.imp id (Or.imp (f.isdel g j) id))⟩
  item := fun x e => by
    obtain ⟨h1, h2, h3⟩ := h.item x e
    obtain ⟨f1, f2, -⟩ := f.used x h1
    exact ⟨f1, f2.trans h2, (f.mine x e).trans h3⟩
  floor := fun x g e1 e2 => by rw [(f.used x (h.item x e1).1).2.2]; exact h.floor x g e1 e2
  enqDone := fun x e => f.enq1 x (h.enqDone x e)
  deqDone := fun x e => f.deq1 x (h.deqDone x e)
  e1Rd := fun ps g i rest hn e y c hc hlt hg => by
    obtain ⟨o1, o2, o3, o4⟩ := f.old_cas (h.act (e ▸ PC.noConfusion)) hc hlt
    rw [o4]
    exact (h.e1Rd ps g i rest hn e y c o1 o2 (o3 ▸ hg)).imp id (Or.imp id (f.isdel g _))
  e1Cas := fun ps g i x rest hn e y c hc hlt hg => by
    obtain ⟨o1, o2, o3, o4⟩ := f.old_cas (h.act (e ▸ PC.noConfusion)) hc hlt
    rw [o4]
    exact (h.e1Cas ps g i x rest hn e y c o1 o2 (o3 ▸ hg)).imp id (Or.imp id (f.isdel g _))
  e2Rd := fun ps g i rest e y c hc hlt => by
    obtain ⟨o1, o2, o3, -⟩ := f.old_cas (h.act (e ▸ PC.noConfusion)) hc hlt
    rw [o3]; exact h.e2Rd ps g i rest e y c o1 o2
  e2Cas := fun ps g i x rest e y c hc hlt => by
    obtain ⟨o1, o2, o3, -⟩ := f.old_cas (h.act (e ▸ PC.noConfusion)) hc hlt
    rw [o3]; exact h.e2Cas ps g i x rest e y c o1 o2
  e3 := fun e y c hc hlt => by
    obtain ⟨o1, o2, o3, o4⟩ := f.old_cas (h.act (ne_idle_of_emptyRes e)) hc hlt
    rw [o3, o4]; exact f.isdel _ _ (h.e3 e y c o1 o2)
  casIn := fun x e => by
    obtain ⟨c, hc, hlt⟩ := h.casIn x e
    exact ⟨c, f.casS x c hc, by rw [f.call]; exact hlt⟩
  markIn := fun x e => by
    obtain ⟨m, hm, hlt⟩ := h.markIn x e
    exact ⟨m, f.markS x m hm, by rw [f.call]; exact hlt⟩
  qcs := fun e => by
    obtain ⟨-, h1, h2, h3, h4⟩ := f.hold (h.cs (inCS_of_quietCS e))
    have := h.qcs e
    unfold Quiet at *
    rw [h1, h2, h3, h4]; exact this
  ctTailQ := fun x ps n e => by rw [(f.hold (h.cs (e ▸ rfl))).2.2.2.1]; exact h.ctTailQ x ps n e

/-! ### Introduction rules of `Loc`, one per program counter -/

theorem loc_idle (s : St) (t : Tid) : Loc s t .idle where
  act := fun h => absurd rfl h

theorem loc_enqLd1 {s : St} {t : Tid} {x : Nat} {ps : List Nat} (hact : s.tCall t < s.now)
    (hitem : s.used x = true ∧ s.owner x = t ∧ s.enqCnt x = 0) : Loc s t (.enqLd1 x ps) where
  act := fun _ => hact
  item := fun _ e => Option.some.inj e ▸ hitem

theorem loc_enqLd2 {s : St} {t : Tid} {x : Nat} {ps : List Nat} {p : Option Nat} (hact : s.tCall t < s.now)
    (hitem : s.used x = true ∧ s.owner x = t ∧ s.enqCnt x = 0) : Loc s t (.enqLd2 x ps p) where
  act := fun _ => hact
  item := fun _ e => Option.some.inj e ▸ hitem

theorem loc_enqRd {s : St} {t : Tid} {x : Nat} {ps : List Nat} {g i : Nat} {rest : List Nat} (hact : s.tCall t < s.now)
    (hitem : s.used x = true ∧ s.owner x = t ∧ s.enqCnt x = 0) (hptr : g < s.nseg) (hfloor : s.floorN x ≤ g + 1)
    (hscan : i < s.K ∧ (∀ j, j ∈ rest → j < s.K) ∧ ∀ j, j < s.K → j = i ∨ j ∈ rest ∨ s.cell g j ≠ .null) :
    Loc s t (.enqRd x ps g i rest) where
  act := fun _ => hact
  ptr := fun _ e => Option.some.inj e ▸ hptr
  eRd := fun _ _ _ _ _ e => by cases e; exact hscan
  item := fun _ e => Option.some.inj e ▸ hitem
  floor := fun _ _ e1 e2 => by cases e1; cases e2; exact hfloor

theorem loc_enqCas {s : St} {t : Tid} {x : Nat} {ps : List Nat} {g i : Nat} {rest : List Nat} (hact : s.tCall t < s.now)
    (hitem : s.used x = true ∧ s.owner x = t ∧ s.enqCnt x = 0) (hptr : g < s.nseg) (hfloor : s.floorN x ≤ g + 1)
    (hscan : i < s.K ∧ (∀ j, j ∈ rest → j < s.K) ∧ ∀ j, j < s.K → j = i ∨ j ∈ rest ∨ s.cell g j ≠ .null) :
    Loc s t (.enqCas x ps g i rest) where
  act := fun _ => hact
  ptr := fun _ e => Option.some.inj e ▸ hptr
  eCas := fun _ _ _ _ _ e => by cases e; exact hscan
  item := fun _ e => Option.some.inj e ▸ hitem
  floor := fun _ _ e1 e2 => by cases e1; cases e2; exact hfloor

theorem loc_ctTry {s : St} {t : Tid} {x : Nat} {ps : List Nat} {pt : Option Nat} (hact : s.tCall t < s.now)
    (hitem : s.used x = true ∧ s.owner x = t ∧ s.enqCnt x = 0)
    (hpt : ∀ g, pt = some g → g < s.nseg ∧ s.floorN x ≤ g + 1 ∧ ∀ j, j < s.K → s.cell g j ≠ .null) :
    Loc s t (.ctTry x ps pt) where
  act := fun _ => hact
  ptr := fun g e => (hpt g e).1
  ctArg := fun g j e hj => (hpt g e).2.2 j hj
  item := fun _ e => Option.some.inj e ▸ hitem
  floor := fun _ g e1 e2 => Option.some.inj e1 ▸ (hpt g e2).2.1

theorem loc_ctSpin {s : St} {t : Tid} {x : Nat} {ps : List Nat} {pt : Option Nat} (hact : s.tCall t < s.now)
    (hitem : s.used x = true ∧ s.owner x = t ∧ s.enqCnt x = 0)
    (hpt : ∀ g, pt = some g → g < s.nseg ∧ s.floorN x ≤ g + 1 ∧ ∀ j, j < s.K → s.cell g j ≠ .null) :
    Loc s t (.ctSpin x ps pt) where
  act := fun _ => hact
  ptr := fun g e => (hpt g e).1
  ctArg := fun g j e hj => (hpt g e).2.2 j hj
  item := fun _ e => Option.some.inj e ▸ hitem
  floor := fun _ g e1 e2 => Option.some.inj e1 ▸ (hpt g e2).2.1

theorem loc_ctIn {s : St} {t : Tid} {x : Nat} {ps : List Nat} {pt : Option Nat} (hact : s.tCall t < s.now)
    (hitem : s.used x = true ∧ s.owner x = t ∧ s.enqCnt x = 0) (hhold : s.holder = some t) (hq : Quiet s)
    (hpt : ∀ g, pt = some g → g < s.nseg ∧ s.floorN x ≤ g + 1 ∧ ∀ j, j < s.K → s.cell g j ≠ .null) :
    Loc s t (.ctIn x ps pt) where
  act := fun _ => hact
  cs := fun _ => hhold
  ptr := fun g e => (hpt g e).1
  ctArg := fun g j e hj => (hpt g e).2.2 j hj
  item := fun _ e => Option.some.inj e ▸ hitem
  floor := fun _ g e1 e2 => Option.some.inj e1 ▸ (hpt g e2).2.1
  qcs := fun _ => hq

theorem loc_ctTail {s : St} {t : Tid} {x : Nat} {ps : List Nat} {n : Nat} (hact : s.tCall t < s.now)
    (hitem : s.used x = true ∧ s.owner x = t ∧ s.enqCnt x = 0) (hhold : s.holder = some t)
    (hn : n + 1 = s.nseg) (hlo : s.lo = n) (hhd : s.head = some n) (hfloor : s.floorN x ≤ n + 1) :
    Loc s t (.ctTail x ps n) where
  act := fun _ => hact
  cs := fun _ => hhold
  ptr := fun _ e => Option.some.inj e ▸ hn ▸ Nat.lt_succ_self n
  ctNew := fun _ e => Option.some.inj e ▸ hn
  ctTail := fun _ _ _ e => by cases e; exact hlo
  item := fun _ e => Option.some.inj e ▸ hitem
  floor := fun _ _ e1 e2 => by cases e1; cases e2; exact hfloor
  ctTailQ := fun _ _ _ e => by cases e; exact hhd

theorem loc_ctUnlock {s : St} {t : Tid} {x : Nat} {ps : List Nat} {n : Nat} (hact : s.tCall t < s.now)
    (hitem : s.used x = true ∧ s.owner x = t ∧ s.enqCnt x = 0) (hhold : s.holder = some t)
    (hq : Quiet s) (hn : n + 1 = s.nseg) (hfloor : s.floorN x ≤ n + 1) : Loc s t (.ctUnlock x ps n) where
  act := fun _ => hact
  cs := fun _ => hhold
  ptr := fun _ e => Option.some.inj e ▸ hn ▸ Nat.lt_succ_self n
  ctNew := fun _ e => Option.some.inj e ▸ hn
  item := fun _ e => Option.some.inj e ▸ hitem
  floor := fun _ _ e1 e2 => by cases e1; cases e2; exact hfloor
  qcs := fun _ => hq

theorem loc_enqDone {s : St} {t : Tid} {x : Nat} (hact : s.tCall t < s.now) (hdone : s.enqCnt x = 1)
    (hcas : ∃ c, s.tCas x = some c ∧ s.tCall t < c) : Loc s t (.enqDone x) where
  act := fun _ => hact
  enqDone := fun _ e => by cases e; exact hdone
  casIn := fun _ e => by cases e; exact hcas

theorem loc_deqLd1 {s : St} {t : Tid} {ps : List Nat} (hact : s.tCall t < s.now) : Loc s t (.deqLd1 ps) where
  act := fun _ => hact

theorem loc_deqLd2 {s : St} {t : Tid} {ps : List Nat} {p : Option Nat} (hact : s.tCall t < s.now) :
    Loc s t (.deqLd2 ps p) where
  act := fun _ => hact

theorem loc_deqRd {s : St} {t : Tid} {ps : List Nat} {g i : Nat} {rest : List Nat} {hn : Bool} (hact : s.tCall t < s.now)
    (hptr : g < s.nseg) (hdptr : g ≤ s.lo)
    (hscan : i < s.K ∧ (∀ j, j ∈ rest → j < s.K) ∧
      ∀ j, j < s.K → j = i ∨ j ∈ rest ∨ (s.cell g j).isDel = true ∨ hn = true)
    (he1 : ∀ y c, s.tCas y = some c → c < s.tCall t → s.posS y = g →
      s.posI y = i ∨ s.posI y ∈ rest ∨ (s.cell g (s.posI y)).isDel = true)
    (he2 : hn = true → ∀ y c, s.tCas y = some c → c < s.tCall t → s.posS y ≤ g) :
    Loc s t (.deqRd ps g i rest hn) where
  act := fun _ => hact
  ptr := fun _ e => Option.some.inj e ▸ hptr
  dptr := fun _ e => Option.some.inj e ▸ hdptr
  dRd := fun _ _ _ _ _ e => by cases e; exact hscan
  e1Rd := fun _ _ _ _ _ e => by cases e; exact he1
  e2Rd := fun _ _ _ _ e => by cases e; exact he2 rfl

theorem loc_deqCas {s : St} {t : Tid} {ps : List Nat} {g i x : Nat} {rest : List Nat} {hn : Bool}
    (hact : s.tCall t < s.now) (hptr : g < s.nseg) (hdptr : g ≤ s.lo)
    (hcell : s.cell g i = .item x ∨ s.cell g i = .del x)
    (hscan : i < s.K ∧ (∀ j, j ∈ rest → j < s.K) ∧
      ∀ j, j < s.K → j = i ∨ j ∈ rest ∨ (s.cell g j).isDel = true ∨ hn = true)
    (he1 : ∀ y c, s.tCas y = some c → c < s.tCall t → s.posS y = g →
      s.posI y = i ∨ s.posI y ∈ rest ∨ (s.cell g (s.posI y)).isDel = true)
    (he2 : hn = true → ∀ y c, s.tCas y = some c → c < s.tCall t → s.posS y ≤ g) :
    Loc s t (.deqCas ps g i x rest hn) where
  act := fun _ => hact
  ptr := fun _ e => Option.some.inj e ▸ hptr
  dptr := fun _ e => Option.some.inj e ▸ hdptr
  dCas := fun _ _ _ _ _ _ e => by cases e; exact ⟨hscan.1, hscan.2.1, hcell, hscan.2.2⟩
  e1Cas := fun _ _ _ _ _ _ e => by cases e; exact he1
  e2Cas := fun _ _ _ _ _ e => by cases e; exact he2 rfl

theorem loc_rhTry {s : St} {t : Tid} {ps : List Nat} {g : Nat} (hact : s.tCall t < s.now) (hptr : g < s.nseg)
    (hdptr : g ≤ s.lo) (hdel : ∀ j, j < s.K → (s.cell g j).isDel = true) : Loc s t (.rhTry ps g) where
  act := fun _ => hact
  ptr := fun _ e => Option.some.inj e ▸ hptr
  dptr := fun _ e => Option.some.inj e ▸ hdptr
  rhArg := fun _ j e hj => Option.some.inj e ▸ hdel j hj

theorem loc_rhSpin {s : St} {t : Tid} {ps : List Nat} {g : Nat} (hact : s.tCall t < s.now) (hptr : g < s.nseg)
    (hdptr : g ≤ s.lo) (hdel : ∀ j, j < s.K → (s.cell g j).isDel = true) : Loc s t (.rhSpin ps g) where
  act := fun _ => hact
  ptr := fun _ e => Option.some.inj e ▸ hptr
  dptr := fun _ e => Option.some.inj e ▸ hdptr
  rhArg := fun _ j e hj => Option.some.inj e ▸ hdel j hj

theorem loc_rhIn {s : St} {t : Tid} {ps : List Nat} {g : Nat} (hact : s.tCall t < s.now) (hptr : g < s.nseg)
    (hdptr : g ≤ s.lo) (hhold : s.holder = some t) (hq : Quiet s) (hdel : ∀ j, j < s.K → (s.cell g j).isDel = true) :
    Loc s t (.rhIn ps g) where
  act := fun _ => hact
  cs := fun _ => hhold
  ptr := fun _ e => Option.some.inj e ▸ hptr
  dptr := fun _ e => Option.some.inj e ▸ hdptr
  rhArg := fun _ j e hj => Option.some.inj e ▸ hdel j hj
  qcs := fun _ => hq

theorem loc_rhHead {s : St} {t : Tid} {ps : List Nat} (hact : s.tCall t < s.now) (hhold : s.holder = some t)
    (hlo : s.lo = s.nseg)
    (he3 : ∀ y c, s.tCas y = some c → c < s.tCall t → (s.cell (s.posS y) (s.posI y)).isDel = true) :
    Loc s t (.rhHead ps) where
  act := fun _ => hact
  cs := fun _ => hhold
  rhHead := fun _ _ => hlo
  e3 := fun _ => he3

theorem emptyRes_rhUnlock {ps : List Nat} {r : Option Nat} (e : (PC.rhUnlock ps r).emptyRes = true) : r = none := by
  cases r
  · rfl
  · cases e

theorem emptyRes_deqDone {r : Option Nat} (e : (PC.deqDone r).emptyRes = true) : r = none := by
  cases r
  · rfl
  · cases e

theorem loc_rhUnlock {s : St} {t : Tid} {ps : List Nat} {r : Option Nat} (hact : s.tCall t < s.now)
    (hhold : s.holder = some t) (hq : Quiet s) (hr : ∀ g, r = some g → g < s.nseg ∧ g ≤ s.lo)
    (he3 : r = none → ∀ y c, s.tCas y = some c → c < s.tCall t → (s.cell (s.posS y) (s.posI y)).isDel = true) :
    Loc s t (.rhUnlock ps r) where
  act := fun _ => hact
  cs := fun _ => hhold
  ptr := fun g e => (hr g e).1
  dptr := fun g e => (hr g e).2
  e3 := fun e => he3 (emptyRes_rhUnlock e)
  qcs := fun _ => hq

theorem loc_deqDone {s : St} {t : Tid} {r : Option Nat} (hact : s.tCall t < s.now)
    (hr : ∀ x, r = some x → s.deqCnt x = 1 ∧ ∃ m, s.tMark x = some m ∧ s.tCall t < m)
    (he3 : r = none → ∀ y c, s.tCas y = some c → c < s.tCall t → (s.cell (s.posS y) (s.posI y)).isDel = true) :
    Loc s t (.deqDone r) where
  act := fun _ => hact
  deqDone := fun x e => by cases e; exact (hr x rfl).1
  e3 := fun e => he3 (emptyRes_deqDone e)
  markIn := fun x e => by cases e; exact (hr x rfl).2

/-- A step that changes nothing but the stepping thread's program counter and the clock. -/
theorem frame_pcnow (s : St) (t0 : Tid) (q : PC) (t : Tid) (p : PC) :
    Frame s { s with pc := upd s.pc t0 q, now := s.now + 1 } t p := by
  constructor <;> intros <;> simp_all

theorem glob_pcnow (s : St) (t0 : Tid) (q : PC) (h : Glob s) : Glob { s with pc := upd s.pc t0 q, now := s.now + 1 } := by
  obtain ⟨g1, g2, g3, g4, g5, g6, g7, g8, g9, g10, g11, g12, g13, g14, g15, g16, g17, g18, g19, g20, g21, g22, g23, g24, g25, g26⟩ := h
  constructor <;> (try assumption)
  · intro x hx; have := g17 x hx; exact ⟨by simp only; omega, this.2⟩
  · intro x c hx; have := g18 x c hx; exact ⟨this.1, by simp only; omega, this.2.2⟩
  · intro x m hx; have := g20 x m hx; exact ⟨by simp only; omega, this.2⟩

/-- The combinator: a step of thread `t0` to program counter `q`. -/
theorem inv_of_step {s s' : St} {t0 : Tid} {q : PC} (h : Inv s) (hpc : s'.pc = upd s.pc t0 q) (hG : Glob s')
    (hF : ∀ t, t ≠ t0 → Frame s s' t (s.pc t)) (hL : Loc s' t0 q) : Inv s' := by
  refine ⟨hG, ?_⟩
  intro t
  by_cases ht : t = t0
  · subst ht; rw [hpc]; simpa [upd] using hL
  · rw [hpc]; simp only [upd, ht, if_false]
    exact loc_frame (h.2 t) (hF t ht)

theorem inv_pcnow {s : St} {t0 : Tid} {q : PC} (h : Inv s)
    (hL : Loc { s with pc := upd s.pc t0 q, now := s.now + 1 } t0 q) :
    Inv { s with pc := upd s.pc t0 q, now := s.now + 1 } :=
  inv_of_step h rfl (glob_pcnow s t0 q h.1) (fun t _ => frame_pcnow s t0 q t (s.pc t)) hL

end CdsVerif.Algo.Segmented
