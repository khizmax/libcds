/-
  Linearizability of the Treiber stack with elimination back-off (property C09).

  Linearization points: as for the plain Treiber stack (successful CAS of `push`, successful CAS of a non-empty `pop`,
  validating null load of an empty `pop`), and the COLLISION: the step `himOp->nStatus.store( op_collided )` of the
  active partner linearizes the `push v` of the pair and then, immediately, its `pop` with result `v` — legal for
  every content of the stack, which is left unchanged.

  `Chain.lean` shows that every step is silent, a single linearization point or a collision (`Shape`); the ghost-log
  construction of `Base/LPLin.lean` (a step may pass the linearization points of several threads: here the push and the
  pop of a collision, in this order) turns this into linearizability of every run.

  The history of a run records the operations of the SPECIFICATION: `specOp` drops the back-off inputs of an
  operation (`push v s1 k1 …` ↦ `push v`, `pop s1 k1 …` ↦ `pop`).  The model state forgets these inputs, the ghost log
  works with the operations as they were called: so the construction is applied to the machine paired with the table
  of the operations called (`xmodel`), against the specification that reads an operation through `specOp` (`xspec`),
  and the result is carried over to the history of specification operations (`linearizable_spec`).
-/
import CdsVerif.Algo.Elim.Chain
import CdsVerif.Algo.Treiber.Lin
import CdsVerif.Base.LPLin
namespace CdsVerif.Algo.Elim
open CdsVerif.Machine CdsVerif.Spec CdsVerif.Lin CdsVerif.GhostLog
open CdsVerif.Algo.Treiber (Pend histAux pendAux lifo_push lifo_pop_some)

/-! ### The history of a run -/

def specObs : Tid × Obs → Tid × Obs
  | (t, .call op) => (t, .call (specOp op))
  | (t, .ev e) => (t, .ev e)
  | (t, .ret r) => (t, .ret r)

/-- The complete history of a run (operations of the specification; `inv` / `res` = indices of the `call` / `ret`
    observations in `os`).  Operations pending at the end are dropped. -/
def historyOf (os : List (Tid × Obs)) : List (OpRec GOp GRet) := Treiber.historyOf (os.map specObs)

/-- The operations pending at the end of a run: thread ↦ (operation of the specification, index of its `call`). -/
def pendingOf (os : List (Tid × Obs)) : Pend := Treiber.pendingOf (os.map specObs)

/-! ### Called operations and specification operations -/

def specRec (r : OpRec GOp GRet) : OpRec GOp GRet := { r with op := specOp r.op }

def specPend (pend : Pend) : Pend := fun t => (pend t).map (fun p => (specOp p.1, p.2))

theorem specPend_upd (pend : Pend) (t : Tid) (v : Option (GOp × Nat)) :
    upd (specPend pend) t (v.map (fun p => (specOp p.1, p.2))) = specPend (upd pend t v) := by
  funext u
  simp only [specPend, upd]
  split <;> rfl

theorem histAux_spec : ∀ (os : List (Tid × Obs)) (i : Nat) (pend : Pend),
    histAux i (specPend pend) (os.map specObs) = (histAux i pend os).map specRec
  | [], _, _ => rfl
  | (t, .call op) :: os, i, pend => by
    simp only [List.map_cons, specObs, histAux]
    rw [← histAux_spec os, ← specPend_upd]; rfl
  | (t, .ev e) :: os, i, pend => by
    simp only [List.map_cons, specObs, histAux]
    exact histAux_spec os _ _
  | (t, .ret r) :: os, i, pend => by
    simp only [List.map_cons, specObs, histAux]
    cases hp : pend t with
    | none =>
      have : specPend pend t = none := by simp [specPend, hp]
      simp only [this]
      exact histAux_spec os _ _
    | some p =>
      obtain ⟨op, k⟩ := p
      have : specPend pend t = some (specOp op, k) := by simp [specPend, hp]
      simp only [this, List.map_cons]
      rw [← histAux_spec os, ← specPend_upd]; rfl

theorem pendAux_spec : ∀ (os : List (Tid × Obs)) (i : Nat) (pend : Pend),
    pendAux i (specPend pend) (os.map specObs) = specPend (pendAux i pend os)
  | [], _, _ => rfl
  | (t, .call op) :: os, i, pend => by
    simp only [List.map_cons, specObs, pendAux]
    rw [← pendAux_spec os, ← specPend_upd]; rfl
  | (t, .ev e) :: os, i, pend => by
    simp only [List.map_cons, specObs, pendAux]
    exact pendAux_spec os _ _
  | (t, .ret r) :: os, i, pend => by
    simp only [List.map_cons, specObs, pendAux]
    cases hp : pend t with
    | none =>
      have : specPend pend t = none := by simp [specPend, hp]
      simp only [this]
      exact pendAux_spec os _ _
    | some p =>
      have : specPend pend t = some (specOp p.1, p.2) := by simp [specPend, hp]
      simp only [this]
      rw [← pendAux_spec os, ← specPend_upd]; rfl

/-- The stack specification, reading an operation as called through `specOp`. -/
def xspec : Lin.Spec (List Int) GOp GRet := ⟨lifo.init, fun a op r => lifo.next a (specOp op) r⟩

theorem legal_spec : ∀ (l : List (OpRec GOp GRet)) (a : List Int), Legal xspec a l → Legal lifo a (l.map specRec)
  | [], _, _ => trivial
  | _ :: l, _, ⟨a', h1, h2⟩ => ⟨a', h1, legal_spec l a' h2⟩

theorem linearizable_spec {H : List (OpRec GOp GRet)} (h : Linearizable xspec H) :
    Linearizable lifo (H.map specRec) := by
  obtain ⟨perm, hp, hrt, hl⟩ := h
  refine ⟨perm.map specRec, hp.map _, ?_, legal_spec perm _ hl⟩
  unfold RespectsRT at hrt ⊢
  rw [List.pairwise_map]; exact hrt

/-! ### The machine with the table of the operations called, as an instance of `Base/LPLin.lean` -/

def xmodel : Model (St × (Tid → GOp)) where
  invoke := fun x t op => (invoke x.1 t op).map (fun s' => (s', upd x.2 t op))
  step := fun x t => (step x.1 t).map (fun p => ((p.1, x.2), p.2))
  result := fun x t => (result x.1 t).map (fun p => ((p.1, x.2), p.2))

/-- Every run of the model is a run of the machine with the table, with the same observations. -/
theorem xmodel_run : ∀ (sched : List (Tid × Act)) (s : St) (f : Tid → GOp) (s' : St) (os : List (Tid × Obs)),
    model.run s sched = some (s', os) → ∃ f', xmodel.run (s, f) sched = some ((s', f'), os)
  | [], s, f, s', os, h => by
    obtain ⟨rfl, rfl⟩ := Model.run_nil.mp h
    exact ⟨f, rfl⟩
  | (t, a) :: rest, s, f, s', os, h => by
    obtain ⟨s1, o, os1, hap, hr, rfl⟩ := Model.run_cons.mp h
    have hx : ∃ f1, xmodel.apply (s, f) t a = some ((s1, f1), o) := by
      rcases Model.apply_cases hap with ⟨op, rfl, hi, rfl⟩ | ⟨e, rfl, hs, rfl⟩ | ⟨r, rfl, hres, rfl⟩
      · exact ⟨upd f t op, by simp [Model.apply, xmodel, show invoke s t op = some s1 from hi]⟩
      · exact ⟨f, by simp [Model.apply, xmodel, show step s t = some (s1, e) from hs]⟩
      · exact ⟨f, by simp [Model.apply, xmodel, show result s t = some (s1, r) from hres]⟩
    obtain ⟨f1, hx⟩ := hx
    obtain ⟨f', hr'⟩ := xmodel_run rest s1 f1 s' os1 hr
    exact ⟨f', Model.run_cons.mpr ⟨_, _, _, hx, hr', rfl⟩⟩

/-- The abstract stack is the specification state; the table holds, for every operation in progress, a called
    operation that the specification reads as the machine does; every result is definitive. -/
def sys : LPLin.Sys (St × (Tid → GOp)) (List Int) where
  spec := xspec
  model := xmodel
  init := (init, fun _ => ⟨"", []⟩)
  Inv := fun x => (∃ l, SInvL x.1 l) ∧ EInv x.1 ∧ ∀ t op, opOf x.1 t = some op → specOp (x.2 t) = op
  Abs := fun a x => a = absStack x.1
  lpRet := fun x t => postRet x.1 t
  postRet := fun x t => postRet x.1 t
  opOf := fun x t => (opOf x.1 t).map (fun _ => x.2 t)
  inert := fun _ _ => false

theorem postRet_idle {s : St} {t : Tid} (h : s.pc t = .idle) : postRet s t = none := by
  simp [postRet, postRetC, h, elimd, isUnlC, passive, postPc]

theorem opOf_idle {s : St} {t : Tid} (h : s.pc t = .idle) : opOf s t = none := by
  simp [opOf, opOfC, opOfPc, h, elimd, isUnlC, passive, pushNodePc, isPopPc]

theorem sys_ok : sys.HelpOK where
  inert_ok := nofun
  inv_init := ⟨⟨[], sinv_init⟩, einv_init, fun t op (h : opOf init t = some op) => by
    rw [opOf_idle (s := init) rfl] at h; cases h⟩
  abs_init := sinv_init.absStack_eq.symm
  lp_init := fun t => postRet_idle (s := init) (t := t) rfl
  op_init := fun t => congrArg (Option.map fun _ => (⟨"", []⟩ : GOp)) (opOf_idle (s := init) (t := t) rfl)
  lp_post := fun _ _ _ _ h => .inl h
  invoke := by
    intro x t op x' ⟨⟨l, hl⟩, he, hf⟩ hs
    obtain ⟨s', hs', rfl⟩ := Option.map_eq_some_iff.mp hs
    obtain ⟨hl', hie⟩ := sinvl_invoke hl he hs'
    refine ⟨⟨⟨l, hl'⟩, einv_invoke he hs', ?_⟩, ⟨fun u _ => hie.posts u, ?_⟩, ?_, ?_, hie.nowpost, ?_⟩
    · intro u o ho
      by_cases hu : u = t
      · subst hu
        simp only [upd, if_true]
        exact Option.some.inj (hie.now.symm.trans ho)
      · simp only [upd, if_neg hu]
        exact hf u o (hie.ops u hu ▸ ho)
    · intro u hu
      show (opOf s' u).map _ = (opOf x.1 u).map _
      simp only [hie.ops u hu, upd, if_neg hu]
    · exact (hie.posts t).symm.trans hie.nowpost
    · show (opOf s' t).map _ = some op
      simp [hie.now, upd]
    · rintro a rfl
      exact (hl.absStack_eq.trans hie.abs.symm).trans hl'.absStack_eq.symm
  step := by
    intro x t x' ev ⟨⟨l, hl⟩, he, hf⟩ hs
    obtain ⟨⟨s', ev'⟩, hs', heq⟩ := Option.map_eq_some_iff.mp hs
    cases heq
    obtain ⟨s, f⟩ := x
    obtain ⟨l', hl', heff, hshape⟩ := sinvl_step hl he hs'
    have habs : absStack s = l.map s.val := hl.absStack_eq
    have habs' : l'.map s.val = absStack s' := by rw [hl'.absStack_eq, heff.val]
    have hop : (∀ u o, opOf s' u = some o → opOf s u = some o) →
        ∀ u o, sys.opOf (s', f) u = some o → sys.opOf (s, f) u = some o := by
      intro hsub u o ho
      obtain ⟨o', ho', rfl⟩ := Option.map_eq_some_iff.mp ho
      exact Option.map_eq_some_iff.mpr ⟨o', hsub u o' ho', rfl⟩
    have hinv : (∀ u o, opOf s' u = some o → opOf s u = some o) → sys.Inv (s', f) :=
      fun hsub => ⟨⟨l', hl'⟩, einv_step he hs', fun u o ho => hf u o (hsub u o ho)⟩
    cases hshape with
    | silent hll hp ho =>
      have hsub : ∀ u o, opOf s' u = some o → opOf s u = some o := fun u o h => ho u ▸ h
      refine ⟨[], .of_frame (hinv hsub) List.nodup_nil nofun ?_ (fun u _ => hp u) (hop hsub)⟩
      rintro a rfl
      exact ⟨_, rfl, show absStack s = absStack s' by rw [habs, ← habs', hll]⟩
    | single op r h0 h1 hn hp ho =>
      have hsub : ∀ u o, opOf s' u = some o → opOf s u = some o := by
        intro u o h
        rw [ho u] at h
        split at h
        · cases h
        · exact h
      refine ⟨[t], .of_frame (hinv hsub) (List.nodup_cons.mpr ⟨List.not_mem_nil, List.nodup_nil⟩) ?_ ?_ ?_ (hop hsub)⟩
      · intro u hu; rw [List.mem_singleton.mp hu]; exact h0
      · rintro a rfl
        refine ⟨_, ⟨f t, r, l'.map s.val, by show (opOf s t).map _ = _; rw [h1]; rfl,
          by show postRet s' t = some r; rw [hp t, if_pos rfl], ?_, rfl⟩, habs'⟩
        show lifo.next (absStack s) (specOp (f t)) r = _
        rw [hf t op h1, habs]; exact hn
      · intro u hu
        show postRet s' u = postRet s u
        rw [hp u, if_neg (fun e => hu (List.mem_singleton.mpr e))]
    | pair a b v hab hll ha hb hoa hob hp ho ht =>
      have hsub : ∀ u o, opOf s' u = some o → opOf s u = some o := by
        intro u o h
        rw [ho u] at h
        split at h
        · cases h
        · split at h
          · cases h
          · exact h
      have hnd : [a, b].Nodup := by simp [hab]
      refine ⟨[a, b], .of_frame (hinv hsub) hnd ?_ ?_ ?_ (hop hsub)⟩
      · intro u hu
        rcases List.mem_cons.mp hu with rfl | hu
        · exact ha
        · rw [List.mem_singleton.mp hu]; exact hb
      · -- the collision: the push, then the pop that takes its value back
        rintro a0 rfl
        refine ⟨absStack s, ⟨f a, [1], v :: absStack s, by show (opOf s a).map _ = _; rw [hoa]; rfl,
          by show postRet s' a = _; rw [hp a, if_pos rfl], ?_,
          f b, [1, v], absStack s, by show (opOf s b).map _ = _; rw [hob]; rfl,
          by show postRet s' b = _; rw [hp b, if_neg (Ne.symm hab), if_pos rfl], ?_, rfl⟩,
          show absStack s = absStack s' by rw [habs, ← habs', hll]⟩
        · show lifo.next (absStack s) (specOp (f a)) [1] = _
          rw [hf a _ hoa]; exact lifo_push _ v
        · show lifo.next (v :: absStack s) (specOp (f b)) [1, v] = _
          rw [hf b _ hob]; exact lifo_pop_some _ v
      · intro u hu
        have hua : u ≠ a := fun e => hu (e ▸ List.mem_cons_self)
        have hub : u ≠ b := fun e => hu (e ▸ List.mem_cons_of_mem _ List.mem_cons_self)
        show postRet s' u = postRet s u
        rw [hp u, if_neg hua, if_neg hub]
  result := by
    intro x t x' r ⟨⟨l, hl⟩, he, hf⟩ hs
    obtain ⟨⟨s', r'⟩, hs', heq⟩ := Option.map_eq_some_iff.mp hs
    cases heq
    obtain ⟨hl', hre⟩ := sinvl_result hl he hs'
    refine ⟨⟨⟨l, hl'⟩, einv_result he hs', fun u o ho => hf u o (hre.ops u ▸ ho)⟩, ⟨?_, ?_⟩, hre.was, ?_, ?_, ?_⟩
    · intro u hu
      show postRet s' u = postRet x.1 u
      rw [hre.posts u, if_neg hu]
    · intro u _
      show (opOf s' u).map _ = (opOf x.1 u).map _
      rw [hre.ops u]
    · show postRet s' t = none
      rw [hre.posts t, if_pos rfl]
    · show (opOf s' t).map _ = none
      rw [opOf_idle hre.now]; rfl
    · rintro a rfl
      show absStack x.1 = absStack s'
      rw [hl.absStack_eq, hl'.absStack_eq, hre.val]

/-! ### Main theorems -/

/-- **Linearizability of the Treiber stack with elimination back-off** (Herlihy–Wing, with completion of pending
    operations), in the form of `Treiber.treiber_linearizable`. -/
theorem elim_linearizable (sched : List (Tid × Act)) (s : St) (os : List (Tid × Obs))
    (h : model.run init sched = some (s, os)) :
    ∃ extra : List (OpRec GOp GRet),
      (∀ e ∈ extra, pendingOf os e.tid = some (e.op, e.inv) ∧ e.res = os.length ∧
          postRet s e.tid = some e.ret) ∧
      extra.Pairwise (fun a b => a.tid ≠ b.tid) ∧
      Linearizable lifo (historyOf os ++ extra) := by
  obtain ⟨f', hx⟩ := xmodel_run sched init (fun _ => ⟨"", []⟩) s os h
  obtain ⟨extra, hex, hpw, hlin⟩ := sys_ok.linearizable sched (s, f') os hx
  rw [← Treiber.historyOf_eq] at hlin
  refine ⟨extra.map specRec, ?_, List.pairwise_map.mpr hpw, ?_⟩
  · intro e' he'
    obtain ⟨e, he, rfl⟩ := List.mem_map.mp he'
    obtain ⟨h1, h2, h3⟩ := hex e he
    refine ⟨?_, h2, h3⟩
    rw [← Treiber.pendingOf_eq] at h1
    show pendAux 0 (fun _ => none) (os.map specObs) e.tid = some (specOp e.op, e.inv)
    rw [show (fun _ => none : Pend) = specPend (fun _ => none) from rfl, pendAux_spec]
    simp only [specPend]
    rw [show pendAux 0 (fun _ => none) os e.tid = some (e.op, e.inv) from h1]; rfl
  · have hh : historyOf os = (Treiber.historyOf os).map specRec := histAux_spec os 0 (fun _ => none)
    rw [hh, ← List.map_append]
    exact linearizable_spec hlin

theorem elim_linearizable_no_effect_pending (sched : List (Tid × Act)) (s : St) (os : List (Tid × Obs))
    (h : model.run init sched = some (s, os)) (hq : ∀ t, postRet s t = none) :
    Linearizable lifo (historyOf os) := by
  obtain ⟨extra, hex, -, hlin⟩ := elim_linearizable sched s os h
  have : extra = [] := by
    apply List.eq_nil_iff_forall_not_mem.mpr
    intro e he
    have := (hex e he).2.2
    rw [hq] at this; simp at this
  simpa [this] using hlin

theorem elim_linearizable_complete_runs (sched : List (Tid × Act)) (s : St) (os : List (Tid × Obs))
    (h : model.run init sched = some (s, os)) (hq : ∀ t, s.pc t = .idle) :
    Linearizable lifo (historyOf os) :=
  elim_linearizable_no_effect_pending sched s os h (fun t => postRet_idle (hq t))

/-- `historyOf` is faithful: a record's `inv` / `res` are the positions of its call and return observations, and its
    operation is the specification operation of the call. -/
theorem historyOf_sound (os : List (Tid × Obs)) (r : OpRec GOp GRet) (h : r ∈ historyOf os) :
    (∃ op, os[r.inv]? = some (r.tid, .call op) ∧ specOp op = r.op) ∧ os[r.res]? = some (r.tid, .ret r.ret) ∧
      r.inv < r.res := by
  obtain ⟨h1, h2, h3⟩ := Treiber.historyOf_sound (os.map specObs) r h
  refine ⟨?_, ?_, h3⟩
  · rw [List.getElem?_map] at h1
    cases hq : os[r.inv]? with
    | none => simp [hq] at h1
    | some x =>
      obtain ⟨t, o⟩ := x
      simp only [hq, Option.map_some, Option.some.injEq] at h1
      cases o with
      | call op => simp only [specObs, Prod.mk.injEq, Obs.call.injEq] at h1; exact ⟨op, by rw [h1.1], h1.2⟩
      | ev e => simp [specObs] at h1
      | ret r' => simp [specObs] at h1
  · rw [List.getElem?_map] at h2
    cases hq : os[r.res]? with
    | none => simp [hq] at h2
    | some x =>
      obtain ⟨t, o⟩ := x
      simp only [hq, Option.map_some, Option.some.injEq] at h2
      cases o with
      | call op => simp [specObs] at h2
      | ev e => simp [specObs] at h2
      | ret r' => simp only [specObs, Prod.mk.injEq, Obs.ret.injEq] at h2; rw [h2.1, h2.2]

end CdsVerif.Algo.Elim
