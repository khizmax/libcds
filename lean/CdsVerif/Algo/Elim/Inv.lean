/-
  The collision protocol of the elimination back-off (invariant `EInv`, preserved by every action of the model):

  * `recpub`  : a record that sits in collision slot `i` belongs to a thread that has published itself in slot `i` and has
                not yet withdrawn (program points bkWait / bkLock2 / bkSpin2 / bkIn2 of that slot), and that thread's
                status is op_waiting.  Hence: a thread is in at most one slot; a collided (status 2) or withdrawn
                descriptor is in no slot, so it cannot be collided (again) — no late collision, at most one collision.
  * `lockheld`, `mutex` : the slot lock is a lock (the plain accesses to `slot.pRec`, `himOp->idOp`, `pVal` happen
                under it, which is what allows the model to attach them to the next atomic operation).
  * `waitst`  : between `nStatus.store( op_waiting )` and the publication the status is op_waiting.
  * `st2`     : status op_collided only occurs after the publication (or in a finished operation).
  * `pushk`, `popk`, `pvlt` : the descriptor's `idOp` / `pVal` agree with the operation in progress.

  Preservation: all clauses but `mutex` speak of one thread (`EThread`); `EInv.frame` is the rule for an action of one
  thread, and the steps fall into four kinds: `move` (locks, slots and descriptors untouched), `acquire` and `release`
  of a slot lock, and the collision.
-/
import CdsVerif.Algo.Elim.Model
namespace CdsVerif.Algo.Elim
open CdsVerif.Machine CdsVerif.Spec

/-! ### Classification of program points -/

/-- The back-off context. -/
def ctxOf : PC → Option Ctx
  | .bkSt c _ _ => some c
  | .bkLock c _ _ => some c
  | .bkSpin c _ _ => some c
  | .bkIn c _ _ => some c
  | .bkUnlC c _ => some c
  | .bkWait c _ _ => some c
  | .bkLock2 c _ => some c
  | .bkSpin2 c _ => some c
  | .bkIn2 c _ => some c
  | .bkChk c => some c
  | .idle => none
  | .pushLd _ => none
  | .pushSt _ _ => none
  | .pushCas _ _ => none
  | .popLd1 => none
  | .popLd2 _ => none
  | .popNext _ => none
  | .popCas _ _ => none
  | .popClr _ _ => none
  | .done _ => none

/-- After the publication of the record (the thread may be collided by a partner). -/
def passive : PC → Bool
  | .bkWait _ _ _ => true
  | .bkLock2 _ _ => true
  | .bkSpin2 _ _ => true
  | .bkIn2 _ _ => true
  | .bkChk _ => true
  | .idle => false
  | .pushLd _ => false
  | .pushSt _ _ => false
  | .pushCas _ _ => false
  | .popLd1 => false
  | .popLd2 _ => false
  | .popNext _ => false
  | .popCas _ _ => false
  | .popClr _ _ => false
  | .bkSt _ _ _ => false
  | .bkLock _ _ _ => false
  | .bkSpin _ _ _ => false
  | .bkIn _ _ _ => false
  | .bkUnlC _ _ => false
  | .done _ => false

/-- The slot in which the thread's record may sit. -/
def pubSlot : PC → Option Nat
  | .bkWait _ sl _ => some sl
  | .bkLock2 _ sl => some sl
  | .bkSpin2 _ sl => some sl
  | .bkIn2 _ sl => some sl
  | .bkChk _ => none
  | .idle => none
  | .pushLd _ => none
  | .pushSt _ _ => none
  | .pushCas _ _ => none
  | .popLd1 => none
  | .popLd2 _ => none
  | .popNext _ => none
  | .popCas _ _ => none
  | .popClr _ _ => none
  | .bkSt _ _ _ => none
  | .bkLock _ _ _ => none
  | .bkSpin _ _ _ => none
  | .bkIn _ _ _ => none
  | .bkUnlC _ _ => none
  | .done _ => none

/-- The slot lock the thread holds. -/
def holds : PC → Option Nat
  | .bkIn _ sl _ => some sl
  | .bkUnlC _ sl => some sl
  | .bkIn2 _ sl => some sl
  | .bkWait _ _ _ => none
  | .bkLock2 _ _ => none
  | .bkSpin2 _ _ => none
  | .bkChk _ => none
  | .idle => none
  | .pushLd _ => none
  | .pushSt _ _ => none
  | .pushCas _ _ => none
  | .popLd1 => none
  | .popLd2 _ => none
  | .popNext _ => none
  | .popCas _ _ => none
  | .popClr _ _ => none
  | .bkSt _ _ _ => none
  | .bkLock _ _ _ => none
  | .bkSpin _ _ _ => none
  | .done _ => none

/-- Between `nStatus.store( op_waiting )` and the publication. -/
def preWait : PC → Bool
  | .bkLock _ _ _ => true
  | .bkSpin _ _ _ => true
  | .bkIn _ _ _ => true
  | .bkWait _ _ _ => false
  | .bkLock2 _ _ => false
  | .bkSpin2 _ _ => false
  | .bkIn2 _ _ => false
  | .bkChk _ => false
  | .idle => false
  | .pushLd _ => false
  | .pushSt _ _ => false
  | .pushCas _ _ => false
  | .popLd1 => false
  | .popLd2 _ => false
  | .popNext _ => false
  | .popCas _ _ => false
  | .popClr _ _ => false
  | .bkSt _ _ _ => false
  | .bkUnlC _ _ => false
  | .done _ => false

/-- Program points at which the status may be op_collided. -/
def st2ok : PC → Bool
  | .bkWait _ _ _ => true
  | .bkLock2 _ _ => true
  | .bkSpin2 _ _ => true
  | .bkIn2 _ _ => true
  | .bkChk _ => true
  | .idle => true
  | .done _ => true
  | .pushLd _ => false
  | .pushSt _ _ => false
  | .pushCas _ _ => false
  | .popLd1 => false
  | .popLd2 _ => false
  | .popNext _ => false
  | .popCas _ _ => false
  | .popClr _ _ => false
  | .bkSt _ _ _ => false
  | .bkLock _ _ _ => false
  | .bkSpin _ _ _ => false
  | .bkIn _ _ _ => false
  | .bkUnlC _ _ => false

def ctxNode : Ctx → Option Nat
  | .push n _ => some n
  | .pop => none

/-- The node of a `push` in progress (by program point only). -/
def pushNodePc : PC → Option Nat
  | .pushLd n => some n
  | .pushSt n _ => some n
  | .pushCas n _ => some n
  | .bkSt c _ _ => ctxNode c
  | .bkLock c _ _ => ctxNode c
  | .bkSpin c _ _ => ctxNode c
  | .bkIn c _ _ => ctxNode c
  | .bkUnlC c _ => ctxNode c
  | .bkWait c _ _ => ctxNode c
  | .bkLock2 c _ => ctxNode c
  | .bkSpin2 c _ => ctxNode c
  | .bkIn2 c _ => ctxNode c
  | .bkChk c => ctxNode c
  | .idle => none
  | .popLd1 => none
  | .popLd2 _ => none
  | .popNext _ => none
  | .popCas _ _ => none
  | .popClr _ _ => none
  | .done _ => none

def ctxPop : Ctx → Bool
  | .push _ _ => false
  | .pop => true

/-- A `pop` in progress whose result is not fixed by the program point. -/
def isPopPc : PC → Bool
  | .popLd1 => true
  | .popLd2 _ => true
  | .popNext _ => true
  | .popCas _ _ => true
  | .bkSt c _ _ => ctxPop c
  | .bkLock c _ _ => ctxPop c
  | .bkSpin c _ _ => ctxPop c
  | .bkIn c _ _ => ctxPop c
  | .bkUnlC c _ => ctxPop c
  | .bkWait c _ _ => ctxPop c
  | .bkLock2 c _ => ctxPop c
  | .bkSpin2 c _ => ctxPop c
  | .bkIn2 c _ => ctxPop c
  | .bkChk c => ctxPop c
  | .idle => false
  | .pushLd _ => false
  | .pushSt _ _ => false
  | .pushCas _ _ => false
  | .popClr _ _ => false
  | .done _ => false

/-! ### The protocol invariant -/

structure EInv (s : St) : Prop where
  recpub : ∀ sl h, s.srec sl = some h → pubSlot (s.pc h) = some sl ∧ s.status h = 1
  lockheld : ∀ t sl, holds (s.pc t) = some sl → s.lock sl = true
  mutex : ∀ t1 t2 sl, holds (s.pc t1) = some sl → holds (s.pc t2) = some sl → t1 = t2
  waitst : ∀ t, preWait (s.pc t) = true → s.status t = 1
  st2 : ∀ t, s.status t = 2 → st2ok (s.pc t) = true
  pushk : ∀ t n, pushNodePc (s.pc t) = some n → s.isPush t = true ∧ s.pval t = some n
  popk : ∀ t, isPopPc (s.pc t) = true → s.isPush t = false
  pvlt : ∀ t n, s.pval t = some n → n < s.cnt

theorem einv_init : EInv init := by
  constructor <;> simp [init, pubSlot, holds, preWait, st2ok, pushNodePc, isPopPc]

theorem pub_facts {pc : PC} {sl : Nat} (h : pubSlot pc = some sl) :
    st2ok pc = true ∧ preWait pc = false ∧ passive pc = true ∧ (∀ sl', holds pc = some sl' → sl' = sl) := by
  cases pc <;> simp_all [pubSlot, st2ok, preWait, passive, holds]

macro "einv_close" : tactic =>
  `(tactic| (constructor <;> intros <;> (try dsimp only at *) <;>
      grind [upd, pubSlot, holds, preWait, st2ok, pushNodePc, isPopPc, ctxNode, ctxPop, retry, pub_facts]))

macro "estep_tac" hpc:ident hs:ident : tactic =>
  `(tactic| (
    simp only [step, $hpc:ident] at $hs:ident
    (try split at $hs:ident)
    all_goals (try split at $hs:ident)
    all_goals (try split at $hs:ident)
    all_goals (try split at $hs:ident)
    all_goals simp at $hs:ident
    all_goals (obtain ⟨heq, -⟩ := $hs:ident; subst heq)
    all_goals einv_close))

/-! ### The invariant, thread by thread -/

/-- What `EInv` says about thread `t` at program counter `pc` with descriptor `st`, `ip`, `pv`. -/
structure EThread (lock : Nat → Bool) (srec : Nat → Option Tid) (cnt : Nat) (t : Tid) (pc : PC) (st : Nat)
    (ip : Bool) (pv : Option Nat) : Prop where
  recpub : ∀ sl, srec sl = some t → pubSlot pc = some sl ∧ st = 1
  lockheld : ∀ sl, holds pc = some sl → lock sl = true
  waitst : preWait pc = true → st = 1
  st2 : st = 2 → st2ok pc = true
  pushk : ∀ n, pushNodePc pc = some n → ip = true ∧ pv = some n
  popk : isPopPc pc = true → ip = false
  pvlt : ∀ n, pv = some n → n < cnt

theorem EInv.thread {s : St} (h : EInv s) (t : Tid) :
    EThread s.lock s.srec s.cnt t (s.pc t) (s.status t) (s.isPush t) (s.pval t) :=
  ⟨fun sl e => h.recpub sl t e, h.lockheld t, h.waitst t, h.st2 t, h.pushk t, h.popk t, h.pvlt t⟩

theorem EInv.of_threads {s : St}
    (hT : ∀ t, EThread s.lock s.srec s.cnt t (s.pc t) (s.status t) (s.isPush t) (s.pval t))
    (hmx : ∀ t u sl, holds (s.pc t) = some sl → holds (s.pc u) = some sl → t = u) : EInv s :=
  ⟨fun sl h e => (hT h).recpub sl e, fun t => (hT t).lockheld, hmx, fun t => (hT t).waitst, fun t => (hT t).st2,
   fun t => (hT t).pushk, fun t => (hT t).popk, fun t => (hT t).pvlt⟩

/-- The rule for an action of `t`: the other threads keep program counter and descriptor, no record of theirs
    appears in a slot, no lock they hold is released, and `t` does not come to hold a lock one of them holds. -/
theorem EInv.frame {s s' : St} {t : Tid} {q : PC} (h : EInv s)
    (ho : ∀ u, u ≠ t →
      s'.pc u = s.pc u ∧ s'.status u = s.status u ∧ s'.isPush u = s.isPush u ∧ s'.pval u = s.pval u)
    (hcnt : s.cnt ≤ s'.cnt) (hsrec : ∀ sl u, u ≠ t → s'.srec sl = some u → s.srec sl = some u)
    (hlock : ∀ u sl, u ≠ t → holds (s.pc u) = some sl → s'.lock sl = true) (hq : s'.pc t = q)
    (hT : EThread s'.lock s'.srec s'.cnt t q (s'.status t) (s'.isPush t) (s'.pval t))
    (hmx : ∀ u sl, u ≠ t → holds q = some sl → holds (s.pc u) ≠ some sl) : EInv s' := by
  refine EInv.of_threads (fun u => ?_) (frame_own (fun u hu => (ho u hu).1) h.mutex fun u hu sl => hq ▸ hmx u sl hu)
  by_cases hu : u = t
  · rw [hu, hq]
    exact hT
  · obtain ⟨e1, e2, e3, e4⟩ := ho u hu
    rw [e1, e2, e3, e4]
    have hU := h.thread u
    exact ⟨fun sl e => hU.recpub sl (hsrec sl u hu e), fun sl e => hlock u sl hu e, hU.waitst, hU.st2, hU.pushk,
      hU.popk, fun n e => Nat.lt_of_lt_of_le (hU.pvlt n e) hcnt⟩

/-- Thread `t` moves to a program point that holds no lock, is published where `p` is, and whose kind of operation
    is that of `p`; locks, slots and descriptors stay. -/
theorem EInv.move {s : St} {t : Tid} {p q : PC} {top' : Option Nat} {next' : Nat → Option Nat}
    {rs' : Tid → List Nat} {taken' : Nat → Option Tid} (h : EInv s) (hpc : s.pc t = p)
    (pub : pubSlot q = pubSlot p := by rfl) (hold : holds q = none := by rfl)
    (wait : preWait q = true → preWait p = true := by exact fun e => e)
    (st2 : s.status t = 2 → st2ok p = true → st2ok q = true := by exact fun _ e => e)
    (node : ∀ n, pushNodePc q = some n → pushNodePc p = some n := by exact fun _ e => e)
    (pop : isPopPc q = true → isPopPc p = true := by exact fun e => e) :
    EInv { s with top := top', next := next', pc := upd s.pc t q, rs := rs', taken := taken' } := by
  have hT := h.thread t
  rw [hpc] at hT
  exact h.frame (fun _ hu => ⟨upd_other _ _ _ _ hu, rfl, rfl, rfl⟩) (Nat.le_refl _) (fun _ _ _ e => e)
    (fun u sl _ e => h.lockheld u sl e) (upd_same _ _ _)
    ⟨fun sl e => pub ▸ hT.recpub sl e, fun sl e => (nomatch (hold ▸ e : none = some sl)), fun e => hT.waitst (wait e),
     fun e => st2 e (hT.st2 e), fun n e => hT.pushk n (node n e), fun e => hT.popk (pop e), hT.pvlt⟩
    (fun _ sl _ e => nomatch (hold ▸ e : none = some sl))

/-- Thread `t` takes the free lock of slot `sl`. -/
theorem EInv.acquire {s : St} {t : Tid} {p q : PC} {sl : Nat} (h : EInv s) (hpc : s.pc t = p)
    (hfree : s.lock sl = false) (hold : holds q = some sl := by rfl) (pub : pubSlot q = pubSlot p := by rfl)
    (wait : preWait q = true → preWait p = true := by exact fun e => e)
    (st2 : st2ok p = true → st2ok q = true := by exact fun e => e)
    (node : ∀ n, pushNodePc q = some n → pushNodePc p = some n := by exact fun _ e => e)
    (pop : isPopPc q = true → isPopPc p = true := by exact fun e => e) :
    EInv { s with lock := upd s.lock sl true, pc := upd s.pc t q } := by
  have hT := h.thread t
  rw [hpc] at hT
  have hup : ∀ sl', s.lock sl' = true → upd s.lock sl true sl' = true := fun sl' e => by
    by_cases hs : sl' = sl
    · rw [hs]
      exact upd_same _ _ _
    · exact (upd_other _ _ _ _ hs).trans e
  have hsl : ∀ sl', holds q = some sl' → sl' = sl := fun sl' e => Option.some.inj (e.symm.trans hold)
  refine h.frame (fun _ hu => ⟨upd_other _ _ _ _ hu, rfl, rfl, rfl⟩) (Nat.le_refl _) (fun _ _ _ e => e)
    (fun u sl' _ e => hup sl' (h.lockheld u sl' e)) (upd_same _ _ _)
    ⟨fun sl' e => pub ▸ hT.recpub sl' e, fun sl' e => hsl sl' e ▸ upd_same _ _ _, fun e => hT.waitst (wait e),
     fun e => st2 (hT.st2 e), fun n e => hT.pushk n (node n e), fun e => hT.popk (pop e), hT.pvlt⟩
    (fun u sl' _ e e' => ?_)
  -- a lock held by another thread is not free
  rw [hsl sl' e] at e'
  have := h.lockheld u sl e'
  rw [hfree] at this
  cases this

/-- Thread `t`, holding the lock of slot `sl`, releases it, possibly after changing the record in the slot. -/
theorem EInv.release {s : St} {t : Tid} {p q : PC} {sl : Nat} {srec' : Nat → Option Tid} (h : EInv s)
    (hpc : s.pc t = p) (hsrec : ∀ sl' u, u ≠ t → srec' sl' = some u → s.srec sl' = some u)
    (hrec : ∀ sl', srec' sl' = some t → pubSlot q = some sl' ∧ s.status t = 1)
    (held : holds p = some sl := by rfl) (hold : holds q = none := by rfl)
    (wait : preWait q = true → preWait p = true := by exact fun e => e)
    (st2 : s.status t = 2 → st2ok p = true → st2ok q = true := by exact fun _ e => e)
    (node : ∀ n, pushNodePc q = some n → pushNodePc p = some n := by exact fun _ e => e)
    (pop : isPopPc q = true → isPopPc p = true := by exact fun e => e) :
    EInv { s with srec := srec', lock := upd s.lock sl false, pc := upd s.pc t q } := by
  have hT := h.thread t
  rw [hpc] at hT
  refine h.frame (fun _ hu => ⟨upd_other _ _ _ _ hu, rfl, rfl, rfl⟩) (Nat.le_refl _) hsrec
    (fun u sl' hu e => ?_) (upd_same _ _ _)
    ⟨hrec, fun sl' e => (nomatch (hold ▸ e : none = some sl')), fun e => hT.waitst (wait e),
     fun e => st2 e (hT.st2 e), fun n e => hT.pushk n (node n e), fun e => hT.popk (pop e), hT.pvlt⟩
    (fun _ sl' _ e => nomatch (hold ▸ e : none = some sl'))
  -- the other threads hold other locks
  have hne : sl' ≠ sl := fun e' => hu (h.mutex u t sl (e' ▸ e) (hpc ▸ held))
  exact (upd_other _ _ _ _ hne).trans (h.lockheld u sl' e)

/-- The collision: `t`, in the critical section of slot `sl`, takes the record of `x` out of the slot and sets `x`'s
    status to op_collided; one of the two descriptors receives the other's `pVal`. -/
theorem EInv.collide {s : St} {t x : Tid} {c : Ctx} {sl k : Nat} {pval' : Tid → Option Nat}
    {taken' : Nat → Option Tid} {elim' : Nat → Bool} (h : EInv s) (hpc : s.pc t = .bkIn c sl k)
    (hrec : s.srec sl = some x) (hxt : x ≠ t) (hpv : ∀ u, u ≠ t → u ≠ x → pval' u = s.pval u)
    (hx : ∀ n, pushNodePc (s.pc x) = some n → s.isPush x = true ∧ pval' x = some n)
    (ht : ∀ n, ctxNode c = some n → s.isPush t = true ∧ pval' t = some n)
    (hlt : ∀ u n, pval' u = some n → n < s.cnt) :
    EInv { s with pval := pval', srec := upd s.srec sl none, status := upd s.status x 2,
                  pc := upd s.pc t (.bkUnlC c sl), taken := taken', elim := elim' } := by
  obtain ⟨hpub, -⟩ := h.recpub sl x hrec
  obtain ⟨hx2, hxw, -, -⟩ := pub_facts hpub
  have hT := h.thread t
  rw [hpc] at hT
  have hX := h.thread x
  have hsrec : ∀ sl' u, upd s.srec sl none sl' = some u → sl' ≠ sl ∧ s.srec sl' = some u := fun sl' u e => by
    by_cases hs : sl' = sl
    · rw [hs, upd_same] at e
      cases e
    · exact ⟨hs, (upd_other _ _ _ _ hs).symm.trans e⟩
  refine EInv.of_threads (fun u => ?_) (fun u v sl' e1 e2 => ?_)
  · by_cases hut : u = t
    · rw [hut, show St.pc _ t = .bkUnlC c sl from upd_same _ _ _,
        show St.status _ t = s.status t from upd_other _ _ _ _ (Ne.symm hxt)]
      exact ⟨fun sl' e => (nomatch (hT.recpub sl' (hsrec sl' t e).2).1), hT.lockheld, fun e => (nomatch e),
        fun e => absurd ((hT.waitst rfl).symm.trans e) (by decide), ht, hT.popk, hlt t⟩
    · rw [show St.pc _ u = s.pc u from upd_other _ _ _ _ hut]
      by_cases hux : u = x
      · rw [hux, show St.status _ x = 2 from upd_same _ _ _]
        exact ⟨fun sl' e => absurd (Option.some.inj ((hX.recpub sl' (hsrec sl' x e).2).1.symm.trans hpub)) (hsrec sl' x e).1,
          hX.lockheld, fun e => (nomatch hxw.symm.trans e), fun _ => hx2, hx, hX.popk, hlt x⟩
      · have hU := h.thread u
        rw [show St.status _ u = s.status u from upd_other _ _ _ _ hux, show St.pval _ u = s.pval u from hpv u hut hux]
        exact { hU with recpub := fun sl' e => hU.recpub sl' (hsrec sl' u e).2 }
  · -- `t` keeps the lock it holds
    have hh : ∀ w, holds (upd s.pc t (.bkUnlC c sl) w) = holds (s.pc w) := fun w => by
      by_cases hw : w = t
      · rw [hw, upd_same, hpc]
        rfl
      · rw [upd_other _ _ _ _ hw]
    exact h.mutex u v sl' ((hh u).symm.trans e1) ((hh v).symm.trans e2)

/-! ### Preservation -/

theorem einv_step_bkIn {s s' : St} {t : Tid} {ev : Ev} {c : Ctx} {sl k : Nat} (h : EInv s)
    (hpc : s.pc t = .bkIn c sl k) (hs : step s t = some (s', ev)) : EInv s' := by
  have hT := h.thread t
  rw [hpc] at hT
  -- publication: the record of `t` replaces whatever is in the slot
  have publish : EInv { s with srec := upd s.srec sl (some t), lock := upd s.lock sl false,
                               pc := upd s.pc t (.bkWait c sl k) } := by
    refine h.release hpc (fun sl' u hu e => ?_) (fun sl' e => ?_) (wait := fun e => nomatch e)
      (st2 := fun _ _ => rfl)
    · by_cases hs : sl' = sl
      · rw [hs, upd_same] at e
        exact absurd (Option.some.inj e).symm hu
      · exact (upd_other _ _ _ _ hs).symm.trans e
    · by_cases hs : sl' = sl
      · exact ⟨hs ▸ rfl, hT.waitst rfl⟩
      · exact nomatch (hT.recpub sl' ((upd_other _ _ _ _ hs).symm.trans e)).1
  simp only [step, hpc] at hs
  split at hs
  next x hrec =>
    split at hs
    next hkind =>
      have hxt : x ≠ t := fun e => hkind (by rw [e])
      have hX := h.thread x
      split at hs
      next hpt =>
        -- `t` pushes: its `pVal` goes to `x`, which does not push
        cases hs
        refine h.collide hpc hrec hxt (fun u _ hux => upd_other _ _ _ _ hux) (fun n e => ?_) (fun n e => ?_)
          (fun u n e => ?_)
        · exact absurd ((hX.pushk n e).1.trans hpt.symm) hkind
        · exact ⟨hpt, (upd_other _ _ _ _ (Ne.symm hxt)).trans (hT.pushk n e).2⟩
        · by_cases hux : u = x
          · rw [hux, upd_same] at e
            exact hT.pvlt n e
          · exact h.pvlt u n ((upd_other _ _ _ _ hux).symm.trans e)
      next hpt =>
        -- `t` pops: it receives the `pVal` of `x`
        cases hs
        refine h.collide hpc hrec hxt (fun u hut _ => upd_other _ _ _ _ hut) (fun n e => ?_) (fun n e => ?_)
          (fun u n e => ?_)
        · exact ⟨(hX.pushk n e).1, (upd_other _ _ _ _ hxt).trans (hX.pushk n e).2⟩
        · exact absurd (hT.pushk n e).1 hpt
        · by_cases hut : u = t
          · rw [hut, upd_same] at e
            exact hX.pvlt n e
          · exact h.pvlt u n ((upd_other _ _ _ _ hut).symm.trans e)
    next hkind =>
      cases hs
      exact publish
  next hrec =>
    cases hs
    exact publish

theorem einv_step {s s' : St} {t : Tid} {ev : Ev} (h : EInv s) (hs : step s t = some (s', ev)) : EInv s' := by
  have hT := h.thread t
  cases hpc : s.pc t
  case bkIn c sl k => exact einv_step_bkIn h hpc hs
  all_goals simp only [step, hpc, reduceCtorEq] at hs
  case pushLd n =>
    cases hs
    exact h.move hpc
  case pushSt n tv =>
    cases hs
    exact h.move hpc
  case pushCas n tv =>
    split at hs
    · cases hs
      exact h.move hpc (st2 := fun _ _ => rfl) (node := fun _ e => nomatch e)
    · cases hs
      exact h.move hpc
  case popLd1 =>
    cases hs
    exact h.move hpc
  case popLd2 p =>
    split at hs
    · split at hs
      · cases hs
        exact h.move hpc (st2 := fun _ _ => rfl) (pop := fun _ => rfl)
      · cases hs
        exact h.move hpc
    · cases hs
      exact h.move hpc
  case popNext a =>
    cases hs
    exact h.move hpc
  case popCas a nx =>
    split at hs
    · cases hs
      exact h.move hpc (pop := fun e => nomatch e)
    · cases hs
      exact h.move hpc
  case popClr a r =>
    cases hs
    exact h.move hpc (st2 := fun _ _ => rfl)
  case bkSt c sl k =>
    -- the status word becomes op_waiting; the record is in no slot yet
    cases hs
    rw [hpc] at hT
    refine h.frame (q := .bkLock c sl k) (fun _ hu => ⟨upd_other _ _ _ _ hu, upd_other _ _ _ _ hu, rfl, rfl⟩)
      (Nat.le_refl _) (fun _ _ _ e => e) (fun u sl' _ e => h.lockheld u sl' e) (upd_same _ _ _) ?_
      (fun _ _ _ e => nomatch e)
    rw [show St.status _ t = 1 from upd_same _ _ _]
    exact ⟨fun sl' e => (nomatch (hT.recpub sl' e).1), fun _ e => (nomatch e), fun _ => rfl,
      fun e => absurd e (by decide), hT.pushk, hT.popk, hT.pvlt⟩
  case bkLock c sl k =>
    split at hs
    · cases hs
      exact h.move hpc
    next hlk =>
      cases hs
      exact h.acquire hpc (Bool.eq_false_iff.mpr hlk)
  case bkSpin c sl k =>
    split at hs
    · cases hs
      exact h
    · cases hs
      exact h.move hpc
  case bkUnlC c sl =>
    cases hs
    rw [hpc] at hT
    exact h.release hpc (fun _ _ _ e => e) (fun sl' e => nomatch (hT.recpub sl' e).1) (st2 := fun _ _ => rfl)
      (node := fun _ e => nomatch e) (pop := fun e => nomatch e)
  case bkWait c sl k =>
    split at hs
    · cases hs
      exact h.move hpc
    · split at hs <;> cases hs <;> exact h.move hpc
  case bkLock2 c sl =>
    split at hs
    · cases hs
      exact h.move hpc
    next hlk =>
      cases hs
      exact h.acquire hpc (Bool.eq_false_iff.mpr hlk)
  case bkSpin2 c sl =>
    split at hs
    · cases hs
      exact h
    · cases hs
      exact h.move hpc
  case bkIn2 c sl =>
    -- withdrawal: afterwards the record of `t` is in no slot
    cases hs
    rw [hpc] at hT
    have hsl : ∀ sl', s.srec sl' = some t → sl' = sl := fun sl' e => (Option.some.inj (hT.recpub sl' e).1).symm
    refine h.release hpc (fun sl' u hu e => ?_) (fun sl' e => ?_)
    · split at e
      · by_cases hs : sl' = sl
        · rw [hs, upd_same] at e
          cases e
        · exact (upd_other _ _ _ _ hs).symm.trans e
      · exact e
    · split at e
      next hin =>
        by_cases hs : sl' = sl
        · rw [hs, upd_same] at e
          cases e
        · exact absurd (hsl sl' ((upd_other _ _ _ _ hs).symm.trans e)) hs
      next hout => exact absurd (hsl sl' e ▸ e) hout
  case bkChk c =>
    split at hs
    · cases hs
      exact h.move hpc (st2 := fun _ _ => rfl) (node := fun _ e => nomatch e) (pop := fun e => nomatch e)
    next h2 =>
      cases hs
      cases c <;> exact h.move hpc (st2 := fun e _ => absurd e h2)

theorem einv_invoke {s s' : St} {t : Tid} {op : GOp} (h : EInv s) (hs : invoke s t op = some s') : EInv s' := by
  have hT := h.thread t
  unfold invoke at hs
  split at hs
  next v r hpc _ _ =>
    cases hs
    rw [hpc] at hT
    refine h.frame (q := .pushLd s.cnt)
      (fun _ hu => ⟨upd_other _ _ _ _ hu, upd_other _ _ _ _ hu, upd_other _ _ _ _ hu, upd_other _ _ _ _ hu⟩)
      (Nat.le_succ _) (fun _ _ _ e => e) (fun u sl _ e => h.lockheld u sl e) (upd_same _ _ _) ?_
      (fun _ _ _ e => nomatch e)
    rw [show St.status _ t = 0 from upd_same _ _ _, show St.isPush _ t = true from upd_same _ _ _,
      show St.pval _ t = some s.cnt from upd_same _ _ _]
    exact ⟨fun sl e => (nomatch (hT.recpub sl e).1), fun _ e => (nomatch e), fun e => (nomatch e),
      fun e => (nomatch e), fun _ e => ⟨rfl, Option.some.inj e ▸ rfl⟩, fun e => (nomatch e),
      fun _ e => Option.some.inj e ▸ Nat.lt_succ_self _⟩
  next _ _ _ hpc _ =>
    cases hs
    rw [hpc] at hT
    refine h.frame (q := .popLd1)
      (fun _ hu => ⟨upd_other _ _ _ _ hu, upd_other _ _ _ _ hu, upd_other _ _ _ _ hu, upd_other _ _ _ _ hu⟩)
      (Nat.le_refl _) (fun _ _ _ e => e) (fun u sl _ e => h.lockheld u sl e) (upd_same _ _ _) ?_
      (fun _ _ _ e => nomatch e)
    rw [show St.status _ t = 0 from upd_same _ _ _, show St.isPush _ t = false from upd_same _ _ _,
      show St.pval _ t = none from upd_same _ _ _]
    exact ⟨fun sl e => (nomatch (hT.recpub sl e).1), fun _ e => (nomatch e), fun e => (nomatch e),
      fun e => (nomatch e), fun _ e => (nomatch e), fun _ => rfl, fun _ e => (nomatch e)⟩
  next => simp at hs

theorem einv_result {s s' : St} {t : Tid} {r : GRet} (h : EInv s) (hs : result s t = some (s', r)) : EInv s' := by
  unfold result at hs
  split at hs
  next r' hpc =>
    cases hs
    exact h.move hpc
  next => simp at hs
end CdsVerif.Algo.Elim
