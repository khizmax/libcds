/-
  Structural invariant of the Treiber stack with elimination back-off and the effect of every atomic step on the
  abstract stack.

  * `SInvL s l` : following `next` from `top` visits exactly the nodes `l` (duplicate-free, all published); nodes still
    private to a pusher, nodes already popped and nodes handed over by elimination are outside the chain and stay
    outside.  Ghost bookkeeping: a node in the chain or private to a pusher has been taken by nobody and has not been
    eliminated.
  * `Shape` : a step is silent (abstract stack, fixed results and pending operations unchanged), or it is the
    linearization point of the stepping thread (one `lifo` transition), or it is a collision: the linearization point
    of a `push v` and of a `pop` returning `v`, in this order, the abstract stack being unchanged.

  Preservation is shown thread by thread.  `SInvL` is split into what it says about the heap (`HInv`), about one
  thread (`TInv`: program counter and status word enter through classifying functions only) and about two threads
  (`Excl`).  A step of `t` has to re-establish `TInv` for `t`, and the other threads' `TInv` has to survive the change
  of the heap (`SInvL.step_frame`).  All but nine branches of `step` leave the heap alone and move `t` to a program
  point that owns no more and has the same result and pending operation: `quiet_step`, whose side conditions hold
  by computation.
-/
import CdsVerif.Algo.Elim.Inv
import CdsVerif.Algo.Treiber.Inv
namespace CdsVerif.Algo.Elim
open CdsVerif.Machine CdsVerif.Spec CdsVerif.Lin
open CdsVerif.Algo.Treiber (Chain walk walk_of_chain walk_none length_le_of_nodup_lt lifo_push lifo_pop_some lifo_pop_none)

def isUnlC : PC → Bool
  | .bkUnlC _ _ => true
  | .bkWait _ _ _ => false
  | .bkLock2 _ _ => false
  | .bkSpin2 _ _ => false
  | .bkIn2 _ _ => false
  | .bkChk _ => false
  | .idle => false
  | .pushLd _ => false
  | .pushSt _ _ => false
  | .pushCas _ _ => false
  | .popLd1 => false
  | .popLd2 _ => false
  | .popNext _ => false
  | .popCas _ _ => false
  | .popClr _ _ => false
  | .bkSt _ _ _ => false
  | .bkLock _ _ _ => false
  | .bkSpin _ _ _ => false
  | .bkIn _ _ _ => false
  | .done _ => false

/-- The operation has been eliminated (its result is fixed): active side after the collision, passive side once its
    status is op_collided. -/
def elimd (pc : PC) (st : Nat) : Bool := isUnlC pc || (passive pc && decide (st = 2))

def pushNodeC (pc : PC) (st : Nat) : Option Nat := if elimd pc st = true then none else pushNodePc pc

/-- The node a pusher still owns privately (before its successful CAS / before its elimination). -/
def pushNode (s : St) (t : Tid) : Option Nat := pushNodeC (s.pc t) (s.status t)

/-- The result fixed by the program point alone. -/
def postPc : PC → Option GRet
  | .popClr _ r => some r
  | .done r => some r
  | .bkUnlC _ _ => none
  | .bkWait _ _ _ => none
  | .bkLock2 _ _ => none
  | .bkSpin2 _ _ => none
  | .bkIn2 _ _ => none
  | .bkChk _ => none
  | .idle => none
  | .pushLd _ => none
  | .pushSt _ _ => none
  | .pushCas _ _ => none
  | .popLd1 => none
  | .popLd2 _ => none
  | .popNext _ => none
  | .popCas _ _ => none
  | .bkSt _ _ _ => none
  | .bkLock _ _ _ => none
  | .bkSpin _ _ _ => none
  | .bkIn _ _ _ => none

def elimRet (val : Nat → Int) (pv : Option Nat) : Option Ctx → Option GRet
  | some c => some (retOf val pv c)
  | none => none

def postRetC (pc : PC) (st : Nat) (val : Nat → Int) (pv : Option Nat) : Option GRet :=
  if elimd pc st = true then elimRet val pv (ctxOf pc) else postPc pc

/-- The result of thread `t`'s operation, once it is fixed (the thread has passed its linearization point). -/
def postRet (s : St) (t : Tid) : Option GRet := postRetC (s.pc t) (s.status t) s.val (s.pval t)

def opOfPc (val : Nat → Int) (pc : PC) : Option GOp :=
  match pushNodePc pc with
  | some n => some ⟨"push", [val n]⟩
  | none => if isPopPc pc = true then some ⟨"pop", []⟩ else none

def opOfC (pc : PC) (st : Nat) (val : Nat → Int) : Option GOp := if elimd pc st = true then none else opOfPc val pc

/-- The operation a thread is executing, while it has not passed its linearization point. -/
def opOf (s : St) (t : Tid) : Option GOp := opOfC (s.pc t) (s.status t) s.val

/-- The nodes reachable from `top` (fuel: the number of nodes ever allocated). -/
def absNodes (s : St) : List Nat := walk s.next s.cnt s.top
/-- The abstract stack: the values along the chain, top first. -/
def absStack (s : St) : List Int := (absNodes s).map s.val

/-- `a` has been allocated and is no longer private to a pusher: it is or was in the stack, or it was eliminated. -/
def Pub (s : St) (a : Nat) : Prop := a < s.cnt ∧ ∀ t, pushNodeC (s.pc t) (s.status t) ≠ some a

structure SInvL (s : St) (l : List Nat) : Prop where
  chain : Chain s.next s.top l
  nodup : l.Nodup
  pub : ∀ a, a ∈ l → Pub s a
  fresh : ∀ t n, pushNodePc (s.pc t) = some n → n < s.cnt
  own : ∀ t1 t2 n, pushNodePc (s.pc t1) = some n → pushNodePc (s.pc t2) = some n → t1 = t2
  linked : ∀ t n tv, s.pc t = .pushCas n tv → s.next n = tv
  casx : ∀ t a nx, s.pc t = .popCas a nx → Pub s a ∧ (a ∈ l → s.next a = nx)
  nxt : ∀ t a, s.pc t = .popNext a → Pub s a
  clr : ∀ t a r, s.pc t = .popClr a r → Pub s a ∧ a ∉ l
  tk : ∀ a, a ∈ l → s.taken a = none ∧ s.elim a = false
  priv : ∀ t n, pushNodeC (s.pc t) (s.status t) = some n → s.taken n = none ∧ s.elim n = false
  tklt : ∀ a, s.cnt ≤ a → s.taken a = none ∧ s.elim a = false

def SInv (s : St) : Prop := ∃ l, SInvL s l

theorem SInvL.absNodes_eq {s : St} {l : List Nat} (h : SInvL s l) : absNodes s = l :=
  walk_of_chain h.chain (length_le_of_nodup_lt h.nodup (fun a ha => (h.pub a ha).1))

theorem SInvL.absStack_eq {s : St} {l : List Nat} (h : SInvL s l) : absStack s = l.map s.val := by
  simp [absStack, h.absNodes_eq]

theorem SInvL.unique {s : St} {l1 l2 : List Nat} (h1 : SInvL s l1) (h2 : SInvL s l2) : l1 = l2 :=
  Chain.functional h1.chain h2.chain

theorem sinv_init : SInvL init [] := by
  constructor <;> simp [init, Chain, pushNodeC, pushNodePc, elimd, isUnlC, passive]

/-- How a step acts on the abstract stack, the fixed results and the pending operations. -/
inductive Shape (s s' : St) (t : Tid) (l l' : List Nat) : Prop
  | silent (hl : l' = l) (hp : ∀ u, postRet s' u = postRet s u) (ho : ∀ u, opOf s' u = opOf s u)
  | single (op : GOp) (r : GRet) (h0 : postRet s t = none) (h1 : opOf s t = some op)
      (hn : lifo.next (l.map s.val) op r = some (l'.map s.val))
      (hp : ∀ u, postRet s' u = if u = t then some r else postRet s u)
      (ho : ∀ u, opOf s' u = if u = t then none else opOf s u)
  | pair (a b : Tid) (v : Int) (hab : a ≠ b) (hl : l' = l) (ha : postRet s a = none) (hb : postRet s b = none)
      (hoa : opOf s a = some ⟨"push", [v]⟩) (hob : opOf s b = some ⟨"pop", []⟩)
      (hp : ∀ u, postRet s' u = if u = a then some [1] else if u = b then some [1, v] else postRet s u)
      (ho : ∀ u, opOf s' u = if u = a then none else if u = b then none else opOf s u)
      (ht : t = a ∨ t = b)

structure StepEff (s : St) (t : Tid) (s' : St) : Prop where
  val : s'.val = s.val
  idle : ∀ u, s'.pc u = .idle ↔ s.pc u = .idle
  tkmono : ∀ a u, s.taken a = some u → s'.taken a = some u
  elmono : ∀ a, s.elim a = true → s'.elim a = true
  takes : ∀ u v, postRet s u = none → postRet s' u = some [1, v] →
    ∃ a, s.val a = v ∧ s.taken a = none ∧ s'.taken a = some u

/-- What is shown of every step of `t` from a state with chain `l`. -/
abbrev StepOk (s : St) (t : Tid) (s' : St) (l : List Nat) : Prop :=
  ∃ l', SInvL s' l' ∧ StepEff s t s' ∧ Shape s s' t l l'

/-! ### The invariant, thread by thread -/

/-- What the chain invariant reads of a state beside the program counters and the status words. -/
structure Heap where
  top : Option Nat
  next : Nat → Option Nat
  cnt : Nat
  taken : Nat → Option Tid
  elim : Nat → Bool

def St.heap (s : St) : Heap := ⟨s.top, s.next, s.cnt, s.taken, s.elim⟩

structure HInv (m : Heap) (l : List Nat) : Prop where
  chain : Chain m.next m.top l
  nodup : l.Nodup
  lt : ∀ a, a ∈ l → a < m.cnt
  tk : ∀ a, a ∈ l → m.taken a = none ∧ m.elim a = false
  tklt : ∀ a, m.cnt ≤ a → m.taken a = none ∧ m.elim a = false

def atPushCas : PC → Option (Nat × Option Nat)
  | .pushCas n tv => some (n, tv)
  | _ => none

def atPopCas : PC → Option (Nat × Option Nat)
  | .popCas a nx => some (a, nx)
  | _ => none

def atClr : PC → Option Nat
  | .popClr a _ => some a
  | _ => none

/-- The node a `pop` has read from `top` and still refers to. -/
def popNode : PC → Option Nat
  | .popNext a => some a
  | .popCas a _ => some a
  | .popClr a _ => some a
  | _ => none

/-- What `SInvL` says about one thread at program counter `pc` whose status word is `st`.  The program counter
    enters through classifying functions only, so that the clauses of two program counters with the same
    classification are the same propositions up to computation. -/
structure TInv (m : Heap) (l : List Nat) (pc : PC) (st : Nat) : Prop where
  fresh : ∀ n, pushNodePc pc = some n → n < m.cnt
  priv : ∀ n, pushNodeC pc st = some n → n ∉ l ∧ m.taken n = none ∧ m.elim n = false
  linked : ∀ n tv, atPushCas pc = some (n, tv) → m.next n = tv
  ref : ∀ a, popNode pc = some a → a < m.cnt
  casx : ∀ a nx, atPopCas pc = some (a, nx) → a ∈ l → m.next a = nx
  clr : ∀ a, atClr pc = some a → a ∉ l

/-- The node of a push at `p` is not the node of a push at `q`, and the node a pop at `p` refers to is not private to
    the thread at `q` with status word `sq`. -/
structure Excl (p q : PC) (sq : Nat) : Prop where
  own : ∀ n, pushNodePc p = some n → pushNodePc q ≠ some n
  ref : ∀ a, popNode p = some a → pushNodeC q sq ≠ some a

theorem pushNodeC_le {pc : PC} {st n : Nat} (h : pushNodeC pc st = some n) : pushNodePc pc = some n := by
  unfold pushNodeC at h
  split at h
  · cases h
  · exact h

theorem popNode_priv {pc : PC} {a : Nat} (h : popNode pc = some a) (st : Nat) : pushNodeC pc st = none := by
  cases pc <;> cases h <;> rfl

theorem atPushCas_priv {pc : PC} {n : Nat} {tv : Option Nat} (h : atPushCas pc = some (n, tv)) (st : Nat) :
    pushNodeC pc st = some n := by
  cases pc <;> cases h <;> rfl

theorem atPopCas_popNode {pc : PC} {a : Nat} {nx : Option Nat} (h : atPopCas pc = some (a, nx)) :
    popNode pc = some a := by
  cases pc <;> cases h <;> rfl

theorem atClr_popNode {pc : PC} {a : Nat} (h : atClr pc = some a) : popNode pc = some a := by
  cases pc <;> cases h <;> rfl

theorem SInvL.pub_ref {s : St} {l : List Nat} (h : SInvL s l) {t : Tid} {a : Nat}
    (e : popNode (s.pc t) = some a) : Pub s a := by
  cases hp : s.pc t <;> rw [hp] at e <;> cases e
  · exact h.nxt t _ hp
  · exact (h.casx t _ _ hp).1
  · exact (h.clr t _ _ hp).1

theorem SInvL.heap {s : St} {l : List Nat} (h : SInvL s l) : HInv s.heap l :=
  ⟨h.chain, h.nodup, fun a ha => (h.pub a ha).1, h.tk, h.tklt⟩

theorem SInvL.thread {s : St} {l : List Nat} (h : SInvL s l) (t : Tid) : TInv s.heap l (s.pc t) (s.status t) where
  fresh := h.fresh t
  priv := fun n e => ⟨fun hm => (h.pub n hm).2 t e, h.priv t n e⟩
  linked := fun n tv e => by
    cases hp : s.pc t <;> rw [hp] at e <;> cases e
    exact h.linked t _ _ hp
  ref := fun a e => (h.pub_ref e).1
  casx := fun a nx e => by
    cases hp : s.pc t <;> rw [hp] at e <;> cases e
    exact (h.casx t _ _ hp).2
  clr := fun a e => by
    cases hp : s.pc t <;> rw [hp] at e <;> cases e
    exact (h.clr t _ _ hp).2

theorem SInvL.excl {s : St} {l : List Nat} (h : SInvL s l) {t u : Tid} (hne : t ≠ u) :
    Excl (s.pc t) (s.pc u) (s.status u) :=
  ⟨fun n e1 e2 => hne (h.own t u n e1 e2), fun _ e => (h.pub_ref e).2 u⟩

theorem SInvL.of_parts {s : St} {l : List Nat} (hM : HInv s.heap l)
    (hT : ∀ t, TInv s.heap l (s.pc t) (s.status t))
    (hE : ∀ t u, t ≠ u → Excl (s.pc t) (s.pc u) (s.status u)) : SInvL s l := by
  have pubOf : ∀ t a, popNode (s.pc t) = some a → Pub s a := fun t a e =>
    ⟨(hT t).ref a e, fun u eu => by
      by_cases hu : t = u
      · subst hu
        rw [popNode_priv e] at eu
        cases eu
      · exact (hE t u hu).ref a e eu⟩
  exact {
    chain := hM.chain
    nodup := hM.nodup
    pub := fun a ha => ⟨hM.lt a ha, fun t e => ((hT t).priv a e).1 ha⟩
    fresh := fun t => (hT t).fresh
    own := fun t u n e1 e2 => Classical.byContradiction fun hne => (hE t u hne).own n e1 e2
    linked := fun t n tv e => (hT t).linked n tv (by rw [e]; rfl)
    casx := fun t a nx e => ⟨pubOf t a (by rw [e]; rfl), (hT t).casx a nx (by rw [e]; rfl)⟩
    nxt := fun t a e => pubOf t a (by rw [e]; rfl)
    clr := fun t a r e => ⟨pubOf t a (by rw [e]; rfl), (hT t).clr a (by rw [e]; rfl)⟩
    tk := hM.tk
    priv := fun t n e => ((hT t).priv n e).2
    tklt := hM.tklt }

/-- An action of `t` leaves the program counters, status words and `pVal`s of the other threads and the values of the
    nodes alone. -/
structure Only (s s' : St) (t : Tid) : Prop where
  pc : ∀ u, u ≠ t → s'.pc u = s.pc u
  status : ∀ u, u ≠ t → s'.status u = s.status u
  pval : ∀ u, u ≠ t → s'.pval u = s.pval u
  val : s'.val = s.val

theorem only_pc {s : St} {t : Tid} {q : PC} {top' : Option Nat} {next' : Nat → Option Nat} {rs' : Tid → List Nat}
    {lock' : Nat → Bool} {srec' : Nat → Option Tid} {taken' : Nat → Option Tid} {elim' : Nat → Bool} :
    Only s { s with top := top', next := next', pc := upd s.pc t q, rs := rs', lock := lock', srec := srec',
                    taken := taken', elim := elim' } t :=
  ⟨fun _ hu => upd_other _ _ _ _ hu, fun _ _ => rfl, fun _ _ => rfl, rfl⟩

/-- The rule for an action of thread `t`. -/
theorem SInvL.frame {s s' : St} {l l' : List Nat} {t : Tid} (h : SInvL s l)
    (hpc : ∀ u, u ≠ t → s'.pc u = s.pc u) (hst : ∀ u, u ≠ t → s'.status u = s.status u)
    (hM : HInv s'.heap l') (hT : TInv s'.heap l' (s'.pc t) (s'.status t))
    (hO : ∀ u, u ≠ t → TInv s'.heap l' (s.pc u) (s.status u))
    (hE : ∀ u, u ≠ t → Excl (s'.pc t) (s.pc u) (s.status u) ∧ Excl (s.pc u) (s'.pc t) (s'.status t)) :
    SInvL s' l' := by
  have hf : ∀ u, u ≠ t → (s'.pc u, s'.status u) = (s.pc u, s.status u) := fun u hu => by rw [hpc u hu, hst u hu]
  exact SInvL.of_parts hM (frame_each (T := fun _ v => TInv s'.heap l' v.1 v.2) hf hT hO) fun _ _ huv =>
    (frame_pairs (E := fun a b => Excl a.1 b.1 b.2 ∧ Excl b.1 a.1 a.2) And.symm hf
      (fun _ _ huv => ⟨h.excl huv, h.excl (Ne.symm huv)⟩) hE huv).1

/-- The rule for an action after which `t` owns no node it did not own before, and refers to no node it did not refer
    to before unless the node is in the chain: exclusion is inherited. -/
theorem SInvL.step_frame {s s' : St} {l l' : List Nat} {t : Tid} {p q : PC} (h : SInvL s l)
    (hpc' : ∀ u, u ≠ t → s'.pc u = s.pc u) (hst : ∀ u, u ≠ t → s'.status u = s.status u)
    (hpc : s.pc t = p) (hq : s'.pc t = q) (hM : HInv s'.heap l') (hT : TInv s'.heap l' q (s'.status t))
    (hO : ∀ u, u ≠ t → TInv s'.heap l' (s.pc u) (s.status u))
    (node : ∀ n, pushNodePc q = some n → pushNodePc p = some n)
    (priv : ∀ n, pushNodeC q (s'.status t) = some n → pushNodeC p (s.status t) = some n)
    (ref : ∀ a, popNode q = some a → popNode p = some a ∨ a ∈ l) : SInvL s' l' := by
  subst hpc hq
  exact h.frame hpc' hst hM hT hO fun u hu =>
    ⟨⟨fun n e => (h.excl (Ne.symm hu)).own n (node n e),
      fun a e eu => (ref a e).elim (fun e' => (h.excl (Ne.symm hu)).ref a e' eu) ((h.thread u).priv a eu).1⟩,
     ⟨fun n e e' => (h.excl hu).own n e (node n e'), fun a e e' => (h.excl hu).ref a e (priv a e')⟩⟩

/-! Kinds of change of the heap, and what a thread's part of the invariant needs to survive them. -/

theorem HInv.store {m : Heap} {l : List Nat} (h : HInv m l) {x : Nat} {v : Option Nat} (hx : x ∉ l) :
    HInv { m with next := upd m.next x v } l :=
  { h with chain := Chain.upd hx h.chain }

theorem TInv.store {m : Heap} {l : List Nat} {p : PC} {st : Nat} (h : TInv m l p st) {x : Nat} {v : Option Nat}
    (hx : x ∉ l) (hp : pushNodeC p st ≠ some x) : TInv { m with next := upd m.next x v } l p st :=
  { h with
    linked := fun n tv e =>
      have hn : n ≠ x := fun e' => hp (e' ▸ atPushCas_priv e st)
      (upd_other _ _ _ _ hn).trans (h.linked n tv e)
    casx := fun a nx e ha =>
      have hn : a ≠ x := fun e' => hx (e' ▸ ha)
      (upd_other _ _ _ _ hn).trans (h.casx a nx e ha) }

theorem HInv.push {m : Heap} {l : List Nat} (h : HInv m l) {n : Nat} (hn : n ∉ l) (hlt : n < m.cnt)
    (hnx : m.next n = m.top) (htk : m.taken n = none ∧ m.elim n = false) : HInv { m with top := some n } (n :: l) where
  chain := ⟨rfl, hnx ▸ h.chain⟩
  nodup := List.nodup_cons.mpr ⟨hn, h.nodup⟩
  lt := fun a ha => (List.mem_cons.mp ha).elim (fun e => e ▸ hlt) (h.lt a)
  tk := fun a ha => (List.mem_cons.mp ha).elim (fun e => e ▸ htk) (h.tk a)
  tklt := h.tklt

theorem TInv.push {m : Heap} {l : List Nat} {p : PC} {st : Nat} (h : TInv m l p st) {n : Nat}
    (hp : pushNodeC p st ≠ some n) (hr : popNode p ≠ some n) : TInv { m with top := some n } (n :: l) p st :=
  { h with
    priv := fun n' e =>
      ⟨fun hm => (List.mem_cons.mp hm).elim (fun e' => hp (e' ▸ e)) (h.priv n' e).1, (h.priv n' e).2⟩
    casx := fun a nx e ha =>
      h.casx a nx e ((List.mem_cons.mp ha).resolve_left fun e' => hr (e' ▸ atPopCas_popNode e))
    clr := fun a e ha => (List.mem_cons.mp ha).elim (fun e' => hr (e' ▸ atClr_popNode e)) (h.clr a e) }

theorem HInv.pop {m : Heap} {a : Nat} {l : List Nat} (h : HInv m (a :: l)) {nx : Option Nat} (hnx : m.next a = nx)
    (u : Tid) : HInv { m with top := nx, taken := upd m.taken a (some u) } l := by
  have hnd := List.nodup_cons.mp h.nodup
  have hne : ∀ b, b ∈ l → b ≠ a := fun b hb e => hnd.1 (e ▸ hb)
  exact {
    chain := hnx ▸ h.chain.2
    nodup := hnd.2
    lt := fun b hb => h.lt b (List.mem_cons_of_mem _ hb)
    tk := fun b hb => by
      have := h.tk b (List.mem_cons_of_mem _ hb)
      exact ⟨(upd_other _ _ _ _ (hne b hb)).trans this.1, this.2⟩
    tklt := fun b (hb : m.cnt ≤ b) => by
      have hlt := h.lt a (List.mem_cons_self ..)
      have := h.tklt b hb
      exact ⟨(upd_other _ _ _ _ (by omega)).trans this.1, this.2⟩ }

theorem TInv.pop {m : Heap} {a : Nat} {l : List Nat} {p : PC} {st : Nat} (h : TInv m (a :: l) p st)
    (nx : Option Nat) (u : Tid) : TInv { m with top := nx, taken := upd m.taken a (some u) } l p st :=
  { h with
    priv := fun n e =>
      have hn := h.priv n e
      have hna : n ≠ a := fun e' => hn.1 (e' ▸ List.mem_cons_self ..)
      ⟨fun hm => hn.1 (List.mem_cons_of_mem _ hm), (upd_other _ _ _ _ hna).trans hn.2.1, hn.2.2⟩
    casx := fun b nx' e hb => h.casx b nx' e (List.mem_cons_of_mem _ hb)
    clr := fun b e hb => h.clr b e (List.mem_cons_of_mem _ hb) }

/-- The ghost marks of a node outside the chain change. -/
theorem HInv.take {m : Heap} {l : List Nat} (h : HInv m l) {n : Nat} (hn : n ∉ l) (hlt : n < m.cnt)
    (x : Option Tid) (e : Bool) : HInv { m with taken := upd m.taken n x, elim := upd m.elim n e } l :=
  { h with
    tk := fun a ha =>
      have hne : a ≠ n := fun e' => hn (e' ▸ ha)
      ⟨(upd_other _ _ _ _ hne).trans (h.tk a ha).1, (upd_other _ _ _ _ hne).trans (h.tk a ha).2⟩
    tklt := fun a (ha : m.cnt ≤ a) =>
      have hne : a ≠ n := by omega
      ⟨(upd_other _ _ _ _ hne).trans (h.tklt a ha).1, (upd_other _ _ _ _ hne).trans (h.tklt a ha).2⟩ }

theorem TInv.take {m : Heap} {l : List Nat} {p : PC} {st : Nat} (h : TInv m l p st) {n : Nat}
    (hp : pushNodeC p st ≠ some n) (x : Option Tid) (e : Bool) :
    TInv { m with taken := upd m.taken n x, elim := upd m.elim n e } l p st :=
  { h with
    priv := fun n' e' =>
      have hn := h.priv n' e'
      have hne : n' ≠ n := fun q => hp (q ▸ e')
      ⟨hn.1, (upd_other _ _ _ _ hne).trans hn.2.1, (upd_other _ _ _ _ hne).trans hn.2.2⟩ }

/-! ### The effect of an action of one thread -/

theorem Only.postRet_eq {s s' : St} {t u : Tid} (ho : Only s s' t) (hu : u ≠ t) : postRet s' u = postRet s u := by
  unfold postRet
  rw [ho.pc u hu, ho.status u hu, ho.val, ho.pval u hu]

theorem Only.opOf_eq {s s' : St} {t u : Tid} (ho : Only s s' t) (hu : u ≠ t) : opOf s' u = opOf s u := by
  unfold opOf
  rw [ho.pc u hu, ho.status u hu, ho.val]

theorem StepEff.of_only {s s' : St} {t : Tid} {p q : PC} (ho : Only s s' t) (hpc : s.pc t = p) (hq : s'.pc t = q)
    (busy : p ≠ .idle ∧ q ≠ .idle) (tk : ∀ a u, s.taken a = some u → s'.taken a = some u)
    (el : ∀ a, s.elim a = true → s'.elim a = true)
    (takes : ∀ u v, postRet s u = none → postRet s' u = some [1, v] →
      ∃ a, s.val a = v ∧ s.taken a = none ∧ s'.taken a = some u) : StepEff s t s' where
  val := ho.val
  idle := fun u => by
    by_cases hu : u = t
    · rw [hu, hq, hpc]
      exact ⟨fun e => absurd e busy.2, fun e => absurd e busy.1⟩
    · rw [ho.pc u hu]
  tkmono := tk
  elmono := el
  takes := takes

/-- The effect of an action of `t` that changes neither its fixed result nor its pending operation. -/
theorem Only.silent {s s' : St} {t : Tid} {p q : PC} {l : List Nat} (ho : Only s s' t) (hpc : s.pc t = p)
    (hq : s'.pc t = q)
    (post : postRetC q (s'.status t) s.val (s'.pval t) = postRetC p (s.status t) s.val (s.pval t) := by rfl)
    (op : opOfC q (s'.status t) s.val = opOfC p (s.status t) s.val := by rfl)
    (busy : p ≠ .idle ∧ q ≠ .idle := by exact ⟨nofun, nofun⟩)
    (tk : ∀ a u, s.taken a = some u → s'.taken a = some u := by exact fun _ _ e => e)
    (el : ∀ a, s.elim a = true → s'.elim a = true := by exact fun _ e => e) :
    StepEff s t s' ∧ Shape s s' t l l := by
  have hp : ∀ u, postRet s' u = postRet s u := fun u => by
    by_cases hu : u = t
    · unfold postRet
      rw [hu, hq, hpc, ho.val]
      exact post
    · exact ho.postRet_eq hu
  have hop : ∀ u, opOf s' u = opOf s u := fun u => by
    by_cases hu : u = t
    · unfold opOf
      rw [hu, hq, hpc, ho.val]
      exact op
    · exact ho.opOf_eq hu
  refine ⟨StepEff.of_only ho hpc hq busy tk el fun u v h0 h1 => ?_, .silent rfl hp hop⟩
  rw [hp u, h0] at h1
  cases h1

/-- The effect of the linearization point of `t`: its result gets fixed as `r`; `took` accounts for the node a
    successful `pop` takes. -/
theorem Only.single {s s' : St} {t : Tid} {p q : PC} {l l' : List Nat} (ho : Only s s' t) (hpc : s.pc t = p)
    (hq : s'.pc t = q) (op : GOp) (r : GRet) (hn : lifo.next (l.map s.val) op r = some (l'.map s.val))
    (took : ∀ v, r = [1, v] → ∃ a, s.val a = v ∧ s.taken a = none ∧ s'.taken a = some t)
    (h0 : postRetC p (s.status t) s.val (s.pval t) = none := by rfl)
    (h1 : opOfC p (s.status t) s.val = some op := by rfl)
    (post : postRetC q (s'.status t) s.val (s'.pval t) = some r := by rfl)
    (hop : opOfC q (s'.status t) s.val = none := by rfl)
    (busy : p ≠ .idle ∧ q ≠ .idle := by exact ⟨nofun, nofun⟩)
    (tk : ∀ a u, s.taken a = some u → s'.taken a = some u := by exact fun _ _ e => e)
    (el : ∀ a, s.elim a = true → s'.elim a = true := by exact fun _ e => e) :
    StepEff s t s' ∧ Shape s s' t l l' := by
  have hp' : postRet s' t = some r := by
    unfold postRet
    rw [hq, ho.val]
    exact post
  have ho' : opOf s' t = none := by
    unfold opOf
    rw [hq, ho.val]
    exact hop
  refine ⟨StepEff.of_only ho hpc hq busy tk el fun u v h0' h1' => ?_,
    .single op r (by unfold postRet; rw [hpc]; exact h0) (by unfold opOf; rw [hpc]; exact h1) hn
      (fun u => ?_) (fun u => ?_)⟩
  · by_cases hu : u = t
    · rw [hu, hp'] at h1'
      exact hu ▸ took v (Option.some.inj h1')
    · rw [ho.postRet_eq hu, h0'] at h1'
      cases h1'
  · by_cases hu : u = t
    · rw [if_pos hu, hu]
      exact hp'
    · rw [if_neg hu]
      exact ho.postRet_eq hu
  · by_cases hu : u = t
    · rw [if_pos hu, hu]
      exact ho'
    · rw [if_neg hu]
      exact ho.opOf_eq hu

/-! ### Steps that move the program counter only -/

/-- Program points with no claim on a node other than owning the node of the push in progress. -/
def plain : PC → Bool
  | .pushCas _ _ => false
  | .popNext _ => false
  | .popCas _ _ => false
  | .popClr _ _ => false
  | _ => true

theorem plain_facts {q : PC} (h : plain q = true) :
    atPushCas q = none ∧ popNode q = none ∧ atPopCas q = none ∧ atClr q = none := by
  cases q <;> cases h <;> exact ⟨rfl, rfl, rfl, rfl⟩

/-- At a plain program point the thread's part of the invariant follows from that of a program point that owns as
    much. -/
theorem TInv.at_plain {m : Heap} {l : List Nat} {p q : PC} {st st' : Nat} (h : TInv m l p st) (hq : plain q = true)
    (node : ∀ n, pushNodePc q = some n → pushNodePc p = some n)
    (priv : ∀ n, pushNodeC q st' = some n → pushNodeC p st = some n) : TInv m l q st' := by
  obtain ⟨h1, h2, h3, h4⟩ := plain_facts hq
  exact {
    fresh := fun n e => h.fresh n (node n e)
    priv := fun n e => h.priv n (priv n e)
    linked := fun n tv e => by rw [h1] at e; cases e
    ref := fun a e => by rw [h2] at e; cases e
    casx := fun a nx e => by rw [h3] at e; cases e
    clr := fun a e => by rw [h4] at e; cases e }

theorem TInv.vacant {m : Heap} {l : List Nat} {q : PC} {st : Nat} (hq : plain q = true) (hn : pushNodePc q = none) :
    TInv m l q st := by
  obtain ⟨h1, h2, h3, h4⟩ := plain_facts hq
  exact {
    fresh := fun n e => by rw [hn] at e; cases e
    priv := fun n e => by
      have e' := pushNodeC_le e
      rw [hn] at e'
      cases e'
    linked := fun n tv e => by rw [h1] at e; cases e
    ref := fun a e => by rw [h2] at e; cases e
    casx := fun a nx e => by rw [h3] at e; cases e
    clr := fun a e => by rw [h4] at e; cases e }

/-- Thread `t` moves to a plain program point that owns no more; heap, values and the descriptors' `pVal` stay. -/
theorem SInvL.move {s : St} {l : List Nat} {t : Tid} {p q : PC} {status' : Tid → Nat} {rs' : Tid → List Nat}
    {lock' : Nat → Bool} {srec' : Nat → Option Tid} (h : SInvL s l) (hpc : s.pc t = p)
    (hst : ∀ u, u ≠ t → status' u = s.status u) (hq : plain q = true)
    (node : ∀ n, pushNodePc q = some n → pushNodePc p = some n)
    (priv : ∀ n, pushNodeC q (status' t) = some n → pushNodeC p (s.status t) = some n) :
    SInvL { s with pc := upd s.pc t q, rs := rs', lock := lock', srec := srec', status := status' } l := by
  subst hpc
  exact h.step_frame (fun _ hu => upd_other _ _ _ _ hu) hst rfl (upd_same _ _ _) h.heap
    ((h.thread t).at_plain hq node priv) (fun u _ => h.thread u) node priv
    (fun a e => by rw [(plain_facts hq).2.1] at e; cases e)

/-- A silent step of `t` that writes program counter, back-off inputs, slot locks, slot records and its own status
    word only, to a plain program point that owns no more and has the same fixed result and pending operation.
    For most steps all of this holds by computation. -/
theorem quiet_step {s : St} {l : List Nat} {t : Tid} {p q : PC} {status' : Tid → Nat} {rs' : Tid → List Nat}
    {lock' : Nat → Bool} {srec' : Nat → Option Tid} (h : SInvL s l) (hpc : s.pc t = p)
    (hst : ∀ u, u ≠ t → status' u = s.status u := by exact fun _ _ => rfl) (hq : plain q = true := by rfl)
    (busy : p ≠ .idle ∧ q ≠ .idle := by exact ⟨nofun, nofun⟩)
    (node : ∀ n, pushNodePc q = some n → pushNodePc p = some n := by exact fun _ e => e)
    (priv : ∀ n, pushNodeC q (status' t) = some n → pushNodeC p (s.status t) = some n := by exact fun _ e => e)
    (post : postRetC q (status' t) s.val (s.pval t) = postRetC p (s.status t) s.val (s.pval t) := by rfl)
    (op : opOfC q (status' t) s.val = opOfC p (s.status t) s.val := by rfl) :
    StepOk s t { s with pc := upd s.pc t q, rs := rs', lock := lock', srec := srec', status := status' } l := by
  have ho : Only s { s with pc := upd s.pc t q, rs := rs', lock := lock', srec := srec', status := status' } t :=
    ⟨fun _ hu => upd_other _ _ _ _ hu, hst, fun _ _ => rfl, rfl⟩
  exact ⟨l, h.move hpc hst hq node priv, ho.silent hpc (upd_same _ _ _) post op busy⟩

/-- A spinning load that reads "locked" changes nothing. -/
theorem stutter_step {s : St} {l : List Nat} {t : Tid} (h : SInvL s l) : StepOk s t s l :=
  ⟨l, h, ⟨rfl, fun _ => Iff.rfl, fun _ _ e => e, fun _ e => e, fun _ _ h0 h1 => nomatch h0.symm.trans h1⟩,
    .silent rfl (fun _ => rfl) (fun _ => rfl)⟩

/-! ### Preservation: atomic steps -/

theorem chain_none {nx : Nat → Option Nat} {l : List Nat} (h : Chain nx none l) : l = [] := by
  cases l with
  | nil => rfl
  | cons a l => cases h.1

theorem chain_some {nx : Nat → Option Nat} {a : Nat} {l : List Nat} (h : Chain nx (some a) l) :
    ∃ l0, l = a :: l0 := by
  cases l with
  | nil => cases h
  | cons b l0 => exact ⟨l0, by rw [Option.some.inj h.1]⟩

theorem sinvl_step_pushSt {s s' : St} {t : Tid} {ev : Ev} {l : List Nat} {n : Nat} {tv : Option Nat}
    (h : SInvL s l) (hpc : s.pc t = .pushSt n tv) (hs : step s t = some (s', ev)) :
    StepOk s t s' l := by
  have hT := h.thread t
  rw [hpc] at hT
  simp only [step, hpc] at hs
  cases hs
  have hn : n ∉ l := (hT.priv n rfl).1
  have ho : Only s { s with next := upd s.next n tv, pc := upd s.pc t (.pushCas n tv) } t := only_pc
  refine ⟨l, ?_, ho.silent hpc (upd_same _ _ _)⟩
  -- the store goes into the node private to `t`: outside the chain, and no other thread is about to link it
  refine h.step_frame ho.pc ho.status hpc (upd_same _ _ _) (h.heap.store hn) ?_
    (fun u hu => (h.thread u).store hn fun e => hu (h.own u t n (pushNodeC_le e) (by rw [hpc]; rfl)))
    (fun _ e => e) (fun _ e => e) (fun _ e => nomatch e)
  exact {
    fresh := hT.fresh
    priv := hT.priv
    linked := fun _ _ e => by cases e; exact upd_same _ _ _
    ref := fun _ e => nomatch e
    casx := fun _ _ e => nomatch e
    clr := fun _ e => nomatch e }

theorem sinvl_step_pushCas {s s' : St} {t : Tid} {ev : Ev} {l : List Nat} {n : Nat} {tv : Option Nat}
    (h : SInvL s l) (hpc : s.pc t = .pushCas n tv) (hs : step s t = some (s', ev)) :
    StepOk s t s' l := by
  have hT := h.thread t
  rw [hpc] at hT
  simp only [step, hpc] at hs
  split at hs
  next heq =>
    cases hs
    obtain ⟨hn, htk⟩ := hT.priv n rfl
    have ho : Only s { s with top := some n, pc := upd s.pc t (.done [1]) } t := only_pc
    refine ⟨n :: l, ?_,
      ho.single hpc (upd_same _ _ _) ⟨"push", [s.val n]⟩ [1] (lifo_push _ _) (fun _ e => nomatch e)⟩
    -- `n` is linked to the old top; no other thread owns it or refers to it
    exact h.step_frame ho.pc ho.status hpc (upd_same _ _ _)
        (h.heap.push hn (hT.fresh n rfl) ((hT.linked n tv rfl).trans heq.symm) htk) (TInv.vacant rfl rfl)
        (fun u hu => (h.thread u).push (fun e => hu (h.own u t n (pushNodeC_le e) (by rw [hpc]; rfl)))
          (fun e => (h.excl hu).ref n e (by rw [hpc]; rfl)))
        (fun _ e => nomatch e) (fun _ e => nomatch e) (fun _ e => nomatch e)
  next hne =>
    cases hs
    exact quiet_step h hpc

theorem sinvl_step_popLd2 {s s' : St} {t : Tid} {ev : Ev} {l : List Nat} {p : Option Nat}
    (h : SInvL s l) (hpc : s.pc t = .popLd2 p) (hs : step s t = some (s', ev)) :
    StepOk s t s' l := by
  have hT := h.thread t
  rw [hpc] at hT
  simp only [step, hpc] at hs
  split at hs
  next heq =>
    split at hs
    next =>
      -- the validating load reads null: the chain is empty, the pop takes effect
      cases hs
      have hl : l = [] := chain_none (heq ▸ h.chain)
      subst hl
      have ho : Only s { s with pc := upd s.pc t (.done [0]) } t := only_pc
      exact ⟨[], h.move hpc (fun _ _ => rfl) rfl (fun _ e => nomatch e) (fun _ e => nomatch e),
        ho.single hpc (upd_same _ _ _) ⟨"pop", []⟩ [0] lifo_pop_none (fun _ e => nomatch e)⟩
    next a =>
      -- the validated node is the first of the chain
      cases hs
      obtain ⟨l0, hl⟩ := chain_some (heq ▸ h.chain)
      have ha : a ∈ l := hl ▸ List.mem_cons_self ..
      have ho : Only s { s with pc := upd s.pc t (.popNext a) } t := only_pc
      exact ⟨l, h.step_frame ho.pc ho.status hpc (upd_same _ _ _) h.heap
          { hT with ref := fun _ e => Option.some.inj e ▸ h.heap.lt a ha } (fun u _ => h.thread u)
          (fun _ e => e) (fun _ e => e) (fun _ e => Or.inr (Option.some.inj e ▸ ha)),
        ho.silent hpc (upd_same _ _ _)⟩
  next hne =>
    cases hs
    exact quiet_step h hpc

theorem sinvl_step_popNext {s s' : St} {t : Tid} {ev : Ev} {l : List Nat} {a : Nat}
    (h : SInvL s l) (hpc : s.pc t = .popNext a) (hs : step s t = some (s', ev)) :
    StepOk s t s' l := by
  have hT := h.thread t
  rw [hpc] at hT
  simp only [step, hpc] at hs
  cases hs
  have ho : Only s { s with pc := upd s.pc t (.popCas a (s.next a)) } t := only_pc
  exact ⟨l, h.step_frame ho.pc ho.status hpc (upd_same _ _ _) h.heap
      { hT with casx := fun _ _ e _ => by cases e; rfl } (fun u _ => h.thread u)
      (fun _ e => e) (fun _ e => e) (fun _ e => Or.inl e),
    ho.silent hpc (upd_same _ _ _)⟩

theorem sinvl_step_popCas {s s' : St} {t : Tid} {ev : Ev} {l : List Nat} {a : Nat} {nx : Option Nat}
    (h : SInvL s l) (hpc : s.pc t = .popCas a nx) (hs : step s t = some (s', ev)) :
    StepOk s t s' l := by
  have hT := h.thread t
  rw [hpc] at hT
  simp only [step, hpc] at hs
  split at hs
  next heq =>
    -- `a` is still the first node of the chain and its successor is still `nx`
    cases hs
    obtain ⟨l0, hl⟩ := chain_some (heq ▸ h.chain)
    subst hl
    have hnx : s.next a = nx := hT.casx a nx rfl (List.mem_cons_self ..)
    have hfree : s.taken a = none := (h.tk a (List.mem_cons_self ..)).1
    have ho : Only s { s with top := nx, pc := upd s.pc t (.popClr a [1, s.val a]),
                              taken := upd s.taken a (some t) } t := only_pc
    refine ⟨l0, ?_, ho.single hpc (upd_same _ _ _) ⟨"pop", []⟩ [1, s.val a] (lifo_pop_some _ _)
      (fun v e => ⟨a, (List.cons.inj (List.cons.inj e).2).1, hfree, upd_same _ _ _⟩) (tk := fun b u e => ?_)⟩
    · exact h.step_frame ho.pc ho.status hpc (upd_same _ _ _) (h.heap.pop hnx t)
        { fresh := fun _ e => nomatch e
          priv := fun _ e => nomatch e
          linked := fun _ _ e => nomatch e
          ref := hT.ref
          casx := fun _ _ e => nomatch e
          clr := fun _ e => Option.some.inj e ▸ (List.nodup_cons.mp h.nodup).1 }
        (fun u _ => (h.thread u).pop nx t) (fun _ e => nomatch e) (fun _ e => nomatch e) (fun _ e => Or.inl e)
    · have hb : b ≠ a := fun e' => by rw [e', hfree] at e; cases e
      exact (upd_other _ _ _ _ hb).trans e
  next hne =>
    cases hs
    exact quiet_step h hpc

theorem sinvl_step_popClr {s s' : St} {t : Tid} {ev : Ev} {l : List Nat} {a : Nat} {r : GRet}
    (h : SInvL s l) (hpc : s.pc t = .popClr a r) (hs : step s t = some (s', ev)) :
    StepOk s t s' l := by
  have hT := h.thread t
  rw [hpc] at hT
  simp only [step, hpc] at hs
  cases hs
  have hn : a ∉ l := hT.clr a rfl
  have ho : Only s { s with next := upd s.next a none, pc := upd s.pc t (.done r) } t := only_pc
  -- the store goes into the node `t` has popped: outside the chain, and not private to a pusher
  exact ⟨l, h.step_frame ho.pc ho.status hpc (upd_same _ _ _) (h.heap.store hn) (TInv.vacant rfl rfl)
      (fun u hu => (h.thread u).store hn ((h.excl (Ne.symm hu)).ref a (by rw [hpc]; rfl)))
      (fun _ e => nomatch e) (fun _ e => nomatch e) (fun _ e => nomatch e),
    ho.silent hpc (upd_same _ _ _)⟩

/-! ### The collision -/

theorem pushNodeC_of_elimd {pc : PC} {st : Nat} (h : elimd pc st = true) : pushNodeC pc st = none := by
  unfold pushNodeC
  rw [h]
  rfl

theorem pushNodeC_of_not_elimd {pc : PC} {st : Nat} (h : elimd pc st = false) : pushNodeC pc st = pushNodePc pc := by
  unfold pushNodeC
  rw [h]
  rfl

theorem postRetC_of_elimd {pc : PC} {st : Nat} (h : elimd pc st = true) (val : Nat → Int) (pv : Option Nat) :
    postRetC pc st val pv = elimRet val pv (ctxOf pc) := by
  unfold postRetC
  rw [h]
  rfl

theorem postRetC_of_not_elimd {pc : PC} {st : Nat} (h : elimd pc st = false) (val : Nat → Int) (pv : Option Nat) :
    postRetC pc st val pv = postPc pc := by
  unfold postRetC
  rw [h]
  rfl

theorem opOfC_of_elimd {pc : PC} {st : Nat} (h : elimd pc st = true) (val : Nat → Int) : opOfC pc st val = none := by
  unfold opOfC
  rw [h]
  rfl

theorem opOfC_of_not_elimd {pc : PC} {st : Nat} (h : elimd pc st = false) (val : Nat → Int) :
    opOfC pc st val = opOfPc val pc := by
  unfold opOfC
  rw [h]
  rfl

theorem pub_ctx {pc : PC} {sl : Nat} (h : pubSlot pc = some sl) :
    ∃ c, ctxOf pc = some c ∧ isPopPc pc = ctxPop c ∧ pushNodePc pc = ctxNode c ∧ postPc pc = none ∧
      elimd pc 1 = false ∧ elimd pc 2 = true := by
  cases pc <;> cases h <;> exact ⟨_, rfl, rfl, rfl, rfl, rfl, rfl⟩

/-- The status word of a published thread is set to op_collided: the thread gives up its node. -/
theorem SInvL.collided {s : St} {l : List Nat} {h : Tid} {sl : Nat} (hi : SInvL s l)
    (hpub : pubSlot (s.pc h) = some sl) : SInvL { s with status := upd s.status h 2 } l := by
  obtain ⟨c, -, -, -, -, -, he⟩ := pub_ctx hpub
  have hnone : ∀ n, pushNodeC (s.pc h) (upd s.status h 2 h) ≠ some n := fun n e => by
    rw [upd_same, pushNodeC_of_elimd he] at e
    cases e
  exact hi.step_frame (fun _ _ => rfl) (fun _ hu => upd_other _ _ _ _ hu) rfl rfl hi.heap
    { hi.thread h with priv := fun n e => absurd e (hnone n) } (fun u _ => hi.thread u) (fun _ e => e)
    (fun n e => absurd e (hnone n)) (fun _ e => Or.inl e)

/-- Thread `t` moves to a plain program point that owns no more, while the ghost marks of a node outside the chain,
    private to no other thread and not to `t` afterwards, change. -/
theorem SInvL.hand_over {s : St} {l : List Nat} {t : Tid} {p q : PC} {n : Nat} {x : Option Tid} {e : Bool}
    {srec' : Nat → Option Tid} {pval' : Tid → Option Nat} (h : SInvL s l) (hpc : s.pc t = p) (hq : plain q = true)
    (node : ∀ m, pushNodePc q = some m → pushNodePc p = some m)
    (priv : ∀ m, pushNodeC q (s.status t) = some m → pushNodeC p (s.status t) = some m)
    (hn : n ∉ l) (hlt : n < s.cnt) (hfree : ∀ u, u ≠ t → pushNodeC (s.pc u) (s.status u) ≠ some n)
    (hqn : pushNodeC q (s.status t) ≠ some n) :
    SInvL { s with pval := pval', srec := srec', pc := upd s.pc t q, taken := upd s.taken n x,
                   elim := upd s.elim n e } l := by
  subst hpc
  exact h.step_frame (fun _ hu => upd_other _ _ _ _ hu) (fun _ _ => rfl) rfl (upd_same _ _ _) (h.heap.take hn hlt x e)
    (((h.thread t).at_plain hq node priv).take hqn x e) (fun u hu => (h.thread u).take (hfree u hu) x e) node priv
    (fun a e => by rw [(plain_facts hq).2.1] at e; cases e)

theorem ite_swap {α : Type} {u a b : Nat} (hab : a ≠ b) (x y z : α) :
    (if u = a then x else if u = b then y else z) = if u = b then y else if u = a then x else z := by
  by_cases ha : u = a
  · rw [if_pos ha, if_neg (ha ▸ hab), if_pos ha]
  · rw [if_neg ha, if_neg ha]

/-- The collision of `t`, inside the critical section of its slot, with the published thread `h`: the push among the
    two (node `n`) and the pop (thread `b`) take effect together, in this order.  The chain is not involved. -/
theorem collide {s : St} {l : List Nat} {t h b : Tid} {c ch : Ctx} {sl sl' k n : Nat} {tv : Option Nat}
    {srec' : Nat → Option Tid} (hi : SInvL s l) (hpc : s.pc t = .bkIn c sl k) (hth : h ≠ t)
    (hpub : pubSlot (s.pc h) = some sl') (hsth : s.status h = 1) (hch : ctxOf (s.pc h) = some ch)
    (kinds : c = .push n tv ∧ ch = .pop ∧ b = h ∨ c = .pop ∧ ch = .push n tv ∧ b = t) (s' : St)
    (hs' : s' = { s with pval := upd s.pval b (some n), srec := srec', status := upd s.status h 2,
                         pc := upd s.pc t (.bkUnlC c sl), taken := upd s.taken n (some b),
                         elim := upd s.elim n true }) :
    StepOk s t s' l := by
  obtain ⟨ch', hc1, hc2, hc3, hc4, he1, he2⟩ := pub_ctx hpub
  cases hc1.symm.trans hch
  have epc : s'.pc = upd s.pc t (.bkUnlC c sl) := by rw [hs']
  have est : s'.status = upd s.status h 2 := by rw [hs']
  have epv : s'.pval = upd s.pval b (some n) := by rw [hs']
  have eval : s'.val = s.val := by rw [hs']
  -- before the step neither operation has taken effect; after it both have
  have hpt0 : postRet s t = none := by
    unfold postRet
    rw [hpc]
    rfl
  have hot0 : opOf s t = opOfPc s.val (.bkIn c sl k) := by
    unfold opOf
    rw [hpc]
    rfl
  have hph0 : postRet s h = none := by
    unfold postRet
    rw [hsth, postRetC_of_not_elimd he1]
    exact hc4
  have hoh0 : opOf s h = opOfPc s.val (s.pc h) := by
    unfold opOf
    rw [hsth, opOfC_of_not_elimd he1]
  have hpt1 : postRet s' t = some (retOf s.val (s'.pval t) c) := by
    unfold postRet
    rw [epc, upd_same, eval]
    rfl
  have hot1 : opOf s' t = none := by
    unfold opOf
    rw [epc, upd_same]
    rfl
  have hph1 : postRet s' h = some (retOf s.val (s'.pval h) ch) := by
    unfold postRet
    rw [epc, est, upd_other _ _ _ _ hth, upd_same, postRetC_of_elimd he2, hc1, eval]
    rfl
  have hoh1 : opOf s' h = none := by
    unfold opOf
    rw [epc, est, upd_other _ _ _ _ hth, upd_same, opOfC_of_elimd he2]
  have hb : b = h ∨ b = t := kinds.elim (fun k => Or.inl k.2.2) (fun k => Or.inr k.2.2)
  have hrest : ∀ u, u ≠ t → u ≠ h → s'.pc u = s.pc u ∧ s'.status u = s.status u ∧ s'.pval u = s.pval u :=
    fun u hut huh => by
      have hub : u ≠ b := fun e => hb.elim (fun e' => huh (e.trans e')) (fun e' => hut (e.trans e'))
      rw [epc, est, epv, upd_other _ _ _ _ hut, upd_other _ _ _ _ huh, upd_other _ _ _ _ hub]
      exact ⟨rfl, rfl, rfl⟩
  have hpost : ∀ u, postRet s' u = if u = t then some (retOf s.val (s'.pval t) c)
      else if u = h then some (retOf s.val (s'.pval h) ch) else postRet s u := fun u => by
    by_cases hut : u = t
    · rw [if_pos hut, hut]
      exact hpt1
    · rw [if_neg hut]
      by_cases huh : u = h
      · rw [if_pos huh, huh]
        exact hph1
      · obtain ⟨e1, e2, e3⟩ := hrest u hut huh
        rw [if_neg huh]
        unfold postRet
        rw [e1, e2, e3, eval]
  have hop : ∀ u, opOf s' u = if u = t then none else if u = h then none else opOf s u := fun u => by
    by_cases hut : u = t
    · rw [if_pos hut, hut]
      exact hot1
    · rw [if_neg hut]
      by_cases huh : u = h
      · rw [if_pos huh, huh]
        exact hoh1
      · obtain ⟨e1, e2, -⟩ := hrest u hut huh
        rw [if_neg huh]
        unfold opOf
        rw [e1, e2, eval]
  -- the node handed over was private to the pusher
  obtain ⟨a, ha, hpa⟩ : ∃ a, (a = t ∨ a = h) ∧ pushNodeC (s.pc a) (s.status a) = some n :=
    kinds.elim (fun k => ⟨t, Or.inl rfl, by rw [hpc, k.1]; rfl⟩)
      (fun k => ⟨h, Or.inr rfl, by rw [hsth, pushNodeC_of_not_elimd he1, hc3, k.2.1]; rfl⟩)
  have hn : n ∉ l := ((hi.thread a).priv n hpa).1
  have htk : s.taken n = none ∧ s.elim n = false := ((hi.thread a).priv n hpa).2
  have hlt : n < s.cnt := hi.fresh a n (pushNodeC_le hpa)
  have hinv : SInvL s' l := by
    subst hs'
    refine (hi.collided hpub).hand_over hpc rfl (fun _ e => e) (fun _ e => nomatch e) hn hlt (fun u hut e => ?_)
      (fun e => nomatch e)
    by_cases huh : u = h
    · rw [huh, show St.status _ h = 2 from upd_same _ _ _, pushNodeC_of_elimd he2] at e
      cases e
    · rw [show St.status _ u = s.status u from upd_other _ _ _ _ huh] at e
      have hua : u = a := hi.own u a n (pushNodeC_le e) (pushNodeC_le hpa)
      exact ha.elim (fun e' => hut (hua.trans e')) (fun e' => huh (hua.trans e'))
  have htaken : s'.taken n = some b := by
    rw [hs']
    exact upd_same _ _ _
  have heff : (∀ u v, postRet s u = none → postRet s' u = some [1, v] →
      ∃ a, s.val a = v ∧ s.taken a = none ∧ s'.taken a = some u) → StepEff s t s' := fun takes =>
    { val := eval
      idle := fun u => by
        rw [epc]
        by_cases hut : u = t
        · rw [hut, upd_same, hpc]
          exact ⟨nofun, nofun⟩
        · rw [upd_other _ _ _ _ hut]
      tkmono := fun x u e => by
        have hx : x ≠ n := fun e' => by rw [e', htk.1] at e; cases e
        rw [hs']
        exact (upd_other _ _ _ _ hx).trans e
      elmono := fun x e => by
        rw [hs']
        by_cases hx : x = n
        · rw [hx]
          exact upd_same _ _ _
        · exact (upd_other _ _ _ _ hx).trans e
      takes := takes }
  rcases kinds with ⟨rfl, rfl, rfl⟩ | ⟨rfl, rfl, rfl⟩
  · -- `t` pushes `n`, `h` pops
    have hpv : s'.pval b = some n := by rw [epv, upd_same]
    have hpost' : ∀ u, postRet s' u = if u = t then some [1] else if u = b then some [1, s.val n] else postRet s u :=
      fun u => by
        rw [hpost u, hpv]
        rfl
    refine ⟨l, hinv, heff fun u v h0 h1 => ?_,
      .pair t b (s.val n) (Ne.symm hth) rfl hpt0 hph0 hot0 ?_ hpost' hop (Or.inl rfl)⟩
    · rw [hpost' u] at h1
      by_cases hut : u = t
      · rw [if_pos hut] at h1
        cases h1
      · rw [if_neg hut] at h1
        by_cases hub : u = b
        · rw [if_pos hub] at h1
          exact ⟨n, (List.cons.inj (List.cons.inj (Option.some.inj h1)).2).1, htk.1, hub ▸ htaken⟩
        · rw [if_neg hub, h0] at h1
          cases h1
    · rw [hoh0]
      unfold opOfPc
      rw [hc3, hc2]
      rfl
  · -- `h` pushes `n`, `t` pops
    have hpv : s'.pval b = some n := by rw [epv, upd_same]
    have hpost' : ∀ u, postRet s' u = if u = h then some [1] else if u = b then some [1, s.val n] else postRet s u :=
      fun u => by
        rw [hpost u, hpv, ite_swap (Ne.symm hth)]
        rfl
    refine ⟨l, hinv, heff fun u v h0 h1 => ?_,
      .pair h b (s.val n) hth rfl hph0 hpt0 ?_ hot0 hpost' (fun u => (hop u).trans (ite_swap (Ne.symm hth) ..))
        (Or.inr rfl)⟩
    · rw [hpost' u] at h1
      by_cases huh : u = h
      · rw [if_pos huh] at h1
        cases h1
      · rw [if_neg huh] at h1
        by_cases hub : u = b
        · rw [if_pos hub] at h1
          exact ⟨n, (List.cons.inj (List.cons.inj (Option.some.inj h1)).2).1, htk.1, hub ▸ htaken⟩
        · rw [if_neg hub, h0] at h1
          cases h1
    · rw [hoh0]
      unfold opOfPc
      rw [hc3]
      rfl

theorem sinvl_step_bkIn {s s' : St} {t : Tid} {ev : Ev} {l : List Nat} {c : Ctx} {sl k : Nat}
    (h : SInvL s l) (he : EInv s) (hpc : s.pc t = .bkIn c sl k) (hs : step s t = some (s', ev)) :
    StepOk s t s' l := by
  have hst : s.status t = 1 := he.waitst t (by rw [hpc]; rfl)
  simp only [step, hpc] at hs
  split at hs
  next x hrec =>
    split at hs
    next hkind =>
      obtain ⟨hpub, hstx⟩ := he.recpub sl x hrec
      obtain ⟨cx, hcx, hpopx, hnodex, -⟩ := pub_ctx hpub
      have hxt : x ≠ t := fun e => hkind (by rw [e])
      split at hs
      next hpt =>
        -- `t` pushes, so `x` pops
        cases c with
        | pop =>
          have := he.popk t (by rw [hpc]; rfl)
          rw [hpt] at this
          cases this
        | push n tv =>
          cases cx with
          | push n' tv' =>
            have := (he.pushk x n' hnodex).1
            rw [this, hpt] at hkind
            exact absurd rfl hkind
          | pop =>
            simp only [(he.pushk t n (by rw [hpc]; rfl)).2] at hs
            cases hs
            exact collide h hpc hxt hpub hstx hcx (Or.inl ⟨rfl, rfl, rfl⟩) _ rfl
      next hpt =>
        -- `t` pops, so `x` pushes
        cases c with
        | push n tv => exact absurd (he.pushk t n (by rw [hpc]; rfl)).1 hpt
        | pop =>
          cases cx with
          | pop =>
            have := he.popk x (by rw [hpopx]; rfl)
            rw [this, Bool.eq_false_iff.mpr hpt] at hkind
            exact absurd rfl hkind
          | push n' tv' =>
            simp only [(he.pushk x n' hnodex).2] at hs
            cases hs
            exact collide h hpc hxt hpub hstx hcx (Or.inr ⟨rfl, rfl, rfl⟩) _ rfl
    next hkind =>
      -- a record of the same kind: publish over it
      cases hs
      exact quiet_step h hpc (priv := fun _ e => pushNodeC_le e) (post := by rw [hst]; rfl) (op := by rw [hst]; rfl)
  next hrec =>
    -- publication; the status word is op_waiting, so the record is not yet collided
    cases hs
    exact quiet_step h hpc (priv := fun _ e => pushNodeC_le e) (post := by rw [hst]; rfl) (op := by rw [hst]; rfl)

/-- Every step preserves the invariant; the remaining program points move the program counter only. -/
theorem sinvl_step {s s' : St} {t : Tid} {ev : Ev} {l : List Nat}
    (h : SInvL s l) (he : EInv s) (hs : step s t = some (s', ev)) :
    ∃ l', SInvL s' l' ∧ StepEff s t s' ∧ Shape s s' t l l' := by
  cases hpc : s.pc t
  case pushSt n tv => exact sinvl_step_pushSt h hpc hs
  case pushCas n tv => exact sinvl_step_pushCas h hpc hs
  case popLd2 p => exact sinvl_step_popLd2 h hpc hs
  case popNext a => exact sinvl_step_popNext h hpc hs
  case popCas a nx => exact sinvl_step_popCas h hpc hs
  case popClr a r => exact sinvl_step_popClr h hpc hs
  case bkIn c sl k => exact sinvl_step_bkIn h he hpc hs
  all_goals simp only [step, hpc, reduceCtorEq] at hs
  case pushLd n =>
    cases hs
    exact quiet_step h hpc
  case popLd1 =>
    cases hs
    exact quiet_step h hpc
  case bkSt c sl k =>
    cases hs
    exact quiet_step h hpc (hst := fun _ hu => upd_other _ _ _ _ hu)
  case bkLock c sl k => split at hs <;> cases hs <;> exact quiet_step h hpc
  case bkSpin c sl k =>
    split at hs
    · cases hs
      exact stutter_step h
    · cases hs
      exact quiet_step h hpc
  case bkUnlC c sl =>
    cases hs
    exact quiet_step h hpc (node := fun _ e => nomatch e) (priv := fun _ e => nomatch e)
  case bkWait c sl k =>
    split at hs
    · cases hs
      exact quiet_step h hpc
    · split at hs <;> cases hs <;> exact quiet_step h hpc
  case bkLock2 c sl => split at hs <;> cases hs <;> exact quiet_step h hpc
  case bkSpin2 c sl =>
    split at hs
    · cases hs
      exact stutter_step h
    · cases hs
      exact quiet_step h hpc
  case bkIn2 c sl =>
    cases hs
    exact quiet_step h hpc
  case bkChk c =>
    split at hs
    next h2 =>
      -- collided: the result the operation returns has been fixed by the partner
      cases hs
      exact quiet_step h hpc (node := fun _ e => nomatch e) (priv := fun _ e => nomatch e) (post := by rw [h2]; rfl)
        (op := by rw [h2]; rfl)
    next h2 =>
      cases hs
      have hne : elimd (.bkChk c) (s.status t) = false := decide_eq_false h2
      cases c <;>
        exact quiet_step h hpc (priv := fun _ e => by rw [pushNodeC_of_not_elimd hne]; exact e)
          (post := by rw [postRetC_of_not_elimd hne]; rfl) (op := by rw [opOfC_of_not_elimd hne]; rfl)

/-! ### Invocation and return -/

/-- The operation of the sequential specification: the inputs of the back-off rounds are dropped. -/
def specOp (op : GOp) : GOp := if op.name = "push" then ⟨"push", op.args.take 1⟩ else ⟨op.name, []⟩

theorem postRetC_val (pc : PC) (st : Nat) (val : Nat → Int) (pv : Option Nat) (k : Nat) (v : Int)
    (h : ∀ n, pv = some n → n ≠ k) : postRetC pc st (upd val k v) pv = postRetC pc st val pv := by
  unfold postRetC
  split
  · cases ctxOf pc with
    | none => rfl
    | some c =>
      cases c with
      | push n tv => rfl
      | pop =>
        cases pv with
        | none => rfl
        | some n => simp [elimRet, retOf, upd, h n rfl]
  · rfl

theorem opOfC_val (pc : PC) (st : Nat) (val : Nat → Int) (k : Nat) (v : Int)
    (h : ∀ n, pushNodePc pc = some n → n ≠ k) : opOfC pc st (upd val k v) = opOfC pc st val := by
  unfold opOfC opOfPc
  split
  · rfl
  · cases hq : pushNodePc pc with
    | none => rfl
    | some n => simp [upd, h n hq]

structure InvokeEff (s : St) (t : Tid) (op : GOp) (s' : St) (l : List Nat) : Prop where
  posts : ∀ u, postRet s' u = postRet s u
  ops : ∀ u, u ≠ t → opOf s' u = opOf s u
  was : s.pc t = .idle
  now : opOf s' t = some (specOp op)
  nowpost : postRet s' t = none
  idle : ∀ u, u ≠ t → (s'.pc u = .idle ↔ s.pc u = .idle)
  busy : s'.pc t ≠ .idle
  abs : l.map s'.val = l.map s.val
  tkmono : ∀ a u, s.taken a = some u → s'.taken a = some u
  elmono : ∀ a, s.elim a = true → s'.elim a = true

theorem HInv.alloc {m : Heap} {l : List Nat} (h : HInv m l) : HInv { m with cnt := m.cnt + 1 } l :=
  { h with
    lt := fun a ha => Nat.lt_succ_of_lt (h.lt a ha)
    tklt := fun a ha => h.tklt a (Nat.le_of_succ_le ha) }

theorem TInv.alloc {m : Heap} {l : List Nat} {p : PC} {st : Nat} (h : TInv m l p st) :
    TInv { m with cnt := m.cnt + 1 } l p st :=
  { h with
    fresh := fun n e => Nat.lt_succ_of_lt (h.fresh n e)
    ref := fun a e => Nat.lt_succ_of_lt (h.ref a e) }

theorem sinvl_invoke {s s' : St} {t : Tid} {op : GOp} {l : List Nat}
    (h : SInvL s l) (he : EInv s) (hs : invoke s t op = some s') : SInvL s' l ∧ InvokeEff s t op s' l := by
  obtain ⟨name, args⟩ := op
  unfold invoke at hs
  split at hs
  next v r hpc hname hargs =>
    -- `push`: the fresh node `s.cnt` is above every node the invariant speaks of
    dsimp only at hname hargs
    subst hname hargs
    have hs' := (Option.some.inj hs).symm
    have epc : s'.pc = upd s.pc t (.pushLd s.cnt) := by rw [hs']
    have est : s'.status = upd s.status t 0 := by rw [hs']
    have epv : s'.pval = upd s.pval t (some s.cnt) := by rw [hs']
    have eval : s'.val = upd s.val s.cnt v := by rw [hs']
    have hfresh : ∀ u n, pushNodePc (s.pc u) = some n → n ≠ s.cnt := fun u n e => Nat.ne_of_lt (h.fresh u n e)
    have hpost0 : postRet s t = none := by
      unfold postRet
      rw [hpc]
      rfl
    have hposts : ∀ u, postRet s' u = postRet s u := fun u => by
      by_cases hu : u = t
      · rw [hu, hpost0]
        unfold postRet
        rw [epc, upd_same]
        rfl
      · unfold postRet
        rw [epc, est, epv, eval, upd_other _ _ _ _ hu, upd_other _ _ _ _ hu, upd_other _ _ _ _ hu]
        exact postRetC_val _ _ _ _ _ _ fun n e => Nat.ne_of_lt (he.pvlt u n e)
    refine ⟨?_, {
      posts := hposts
      ops := fun u hu => by
        unfold opOf
        rw [epc, est, eval, upd_other _ _ _ _ hu, upd_other _ _ _ _ hu]
        exact opOfC_val _ _ _ _ _ (hfresh u)
      was := hpc
      now := by
        unfold opOf
        rw [epc, est, eval, upd_same, upd_same]
        simp [opOfC, opOfPc, elimd, isUnlC, passive, pushNodePc, specOp]
      nowpost := (hposts t).trans hpost0
      idle := fun u hu => by rw [epc, upd_other _ _ _ _ hu]
      busy := by
        rw [epc, upd_same]
        nofun
      abs := by
        rw [eval]
        exact List.map_congr_left fun a ha => upd_other _ _ _ _ (Nat.ne_of_lt (h.pub a ha).1)
      tkmono := fun _ _ e => by rw [hs']; exact e
      elmono := fun _ e => by rw [hs']; exact e }⟩
    subst hs'
    refine h.frame (t := t) (fun u hu => upd_other _ _ _ _ hu) (fun u hu => upd_other _ _ _ _ hu) h.heap.alloc ?_
      (fun u _ => (h.thread u).alloc) (fun u _ => ?_)
    · rw [show St.pc _ t = .pushLd s.cnt from upd_same _ _ _, show St.status _ t = 0 from upd_same _ _ _]
      exact {
        fresh := fun _ e => Option.some.inj e ▸ Nat.lt_succ_self _
        priv := fun _ e => Option.some.inj e ▸
          ⟨fun hm => Nat.lt_irrefl _ (h.pub _ hm).1, h.tklt _ (Nat.le_refl _)⟩
        linked := fun _ _ e => nomatch e
        ref := fun _ e => nomatch e
        casx := fun _ _ e => nomatch e
        clr := fun _ e => nomatch e }
    · rw [show St.pc _ t = .pushLd s.cnt from upd_same _ _ _, show St.status _ t = 0 from upd_same _ _ _]
      exact ⟨⟨fun n e e' => hfresh u n e' (Option.some.inj e).symm, fun _ e => nomatch e⟩,
        ⟨fun n e e' => hfresh u n e (Option.some.inj e').symm,
         fun a e e' => Nat.lt_irrefl a (Option.some.inj e' ▸ (h.thread u).ref a e)⟩⟩
  next _ _ _ hpc hname =>
    dsimp only at hname
    subst hname
    have hs' := (Option.some.inj hs).symm
    have epc : s'.pc t = .popLd1 := by
      rw [hs']
      exact upd_same _ _ _
    have ho : Only s s' t := by
      rw [hs']
      exact ⟨fun _ hu => upd_other _ _ _ _ hu, fun _ hu => upd_other _ _ _ _ hu, fun _ hu => upd_other _ _ _ _ hu, rfl⟩
    have hpost0 : postRet s t = none := by
      unfold postRet
      rw [hpc]
      rfl
    have hpost1 : postRet s' t = none := by
      unfold postRet
      rw [epc]
      rfl
    refine ⟨?_, {
      posts := fun u => by
        by_cases hu : u = t
        · rw [hu, hpost0, hpost1]
        · exact ho.postRet_eq hu
      ops := fun u hu => ho.opOf_eq hu
      was := hpc
      now := by
        unfold opOf
        rw [epc]
        simp [opOfC, opOfPc, elimd, isUnlC, passive, pushNodePc, isPopPc, specOp]
      nowpost := hpost1
      idle := fun u hu => by rw [ho.pc u hu]
      busy := by
        rw [epc]
        nofun
      abs := by rw [ho.val]
      tkmono := fun _ _ e => by rw [hs']; exact e
      elmono := fun _ e => by rw [hs']; exact e }⟩
    exact h.step_frame ho.pc ho.status hpc epc (by rw [hs']; exact h.heap) (TInv.vacant rfl rfl)
      (fun u _ => by rw [hs']; exact h.thread u) (fun _ e => e) (fun _ e => nomatch e) (fun _ e => nomatch e)
  next => simp at hs
structure ResultEff (s : St) (t : Tid) (r : GRet) (s' : St) : Prop where
  was : postRet s t = some r
  posts : ∀ u, postRet s' u = if u = t then none else postRet s u
  ops : ∀ u, opOf s' u = opOf s u
  now : s'.pc t = .idle
  idle : ∀ u, u ≠ t → (s'.pc u = .idle ↔ s.pc u = .idle)
  val : s'.val = s.val
  tkmono : ∀ a u, s.taken a = some u → s'.taken a = some u
  elmono : ∀ a, s.elim a = true → s'.elim a = true

theorem sinvl_result {s s' : St} {t : Tid} {r : GRet} {l : List Nat}
    (h : SInvL s l) (_he : EInv s) (hs : result s t = some (s', r)) : SInvL s' l ∧ ResultEff s t r s' := by
  unfold result at hs
  split at hs
  next r' hpc =>
    cases hs
    have ho : Only s { s with pc := upd s.pc t .idle } t := only_pc
    have hpost1 : postRet { s with pc := upd s.pc t .idle } t = none := by
      unfold postRet
      dsimp only
      rw [upd_same]
      rfl
    exact ⟨h.move hpc (fun _ _ => rfl) rfl (fun _ e => e) (fun _ e => e), {
      was := by
        unfold postRet
        rw [hpc]
        rfl
      posts := fun u => by
        by_cases hu : u = t
        · rw [if_pos hu, hu]
          exact hpost1
        · rw [if_neg hu]
          exact ho.postRet_eq hu
      ops := fun u => by
        by_cases hu : u = t
        · unfold opOf
          dsimp only
          rw [hu, upd_same, hpc]
          rfl
        · exact ho.opOf_eq hu
      now := upd_same _ _ _
      idle := fun u hu => by rw [ho.pc u hu]
      val := rfl
      tkmono := fun _ _ e => e
      elmono := fun _ e => e }⟩
  next => simp at hs

/-! ### Reachable states -/

/-- The invariant of the model: chain structure and collision protocol. -/
def MInv (s : St) : Prop := (∃ l, SInvL s l) ∧ EInv s

theorem minv_init : MInv init := ⟨⟨[], sinv_init⟩, einv_init⟩

theorem minv_apply {s s' : St} {t : Tid} {a : Act} {o : Obs} (h : MInv s)
    (hap : model.apply s t a = some (s', o)) : MInv s' := by
  obtain ⟨⟨l, hl⟩, he⟩ := h
  rcases Model.apply_cases hap with ⟨op, -, hs1, -⟩ | ⟨e, -, hs1, -⟩ | ⟨r, -, hs1, -⟩
  · exact ⟨⟨l, (sinvl_invoke hl he hs1).1⟩, einv_invoke he hs1⟩
  · obtain ⟨l', hl', -⟩ := sinvl_step hl he hs1
    exact ⟨⟨l', hl'⟩, einv_step he hs1⟩
  · exact ⟨⟨l, (sinvl_result hl he hs1).1⟩, einv_result he hs1⟩

theorem minv_reachable (s : St) (h : model.Reachable init s) : MInv s :=
  model.inv_reachable MInv init minv_init (fun _ _ _ _ _ hi hap => minv_apply hi hap) s h

end CdsVerif.Algo.Elim
