/-
  Consequences of the invariants of the elimination back-off for single actions: the collision protocol (who may
  write whose descriptor, and when) and the conservation of nodes.
-/
import CdsVerif.Algo.Elim.Chain
namespace CdsVerif.Algo.Elim
open CdsVerif.Machine CdsVerif.Spec CdsVerif.Lin

/-- A descriptor that has been collided (status ≠ op_waiting) or that is not published (before the publication, after
    the withdrawal) sits in no collision slot. -/
theorem not_in_slot {s : St} (he : EInv s) (h : Tid) (hp : pubSlot (s.pc h) = none ∨ s.status h ≠ 1) :
    ∀ sl, s.srec sl ≠ some h := by
  intro sl hq
  obtain ⟨h1, h2⟩ := he.recpub sl h hq
  rcases hp with hp | hp
  · rw [hp] at h1; simp at h1
  · exact hp h2

/-- The descriptor of a thread that sits in no slot is not written by any other thread. -/
theorem step_frame {s s' : St} {t : Tid} {ev : Ev} (hs : step s t = some (s', ev)) (h : Tid) (hne : h ≠ t)
    (hno : ∀ sl, s.srec sl ≠ some h) : s'.status h = s.status h ∧ s'.pval h = s.pval h ∧ s'.isPush h = s.isPush h := by
  unfold step at hs
  split at hs
  all_goals (try split at hs)
  all_goals (try split at hs)
  all_goals (try split at hs)
  all_goals simp at hs
  all_goals obtain ⟨rfl, -⟩ := hs
  all_goals (try dsimp only)
  all_goals grind [upd]

theorem apply_frame {s s' : St} {t : Tid} {a : Act} {o : Obs} (hap : model.apply s t a = some (s', o)) (h : Tid)
    (hne : h ≠ t) (hno : ∀ sl, s.srec sl ≠ some h) :
    s'.status h = s.status h ∧ s'.pval h = s.pval h ∧ s'.isPush h = s.isPush h := by
  rcases Model.apply_cases hap with ⟨op, -, hs1, -⟩ | ⟨e, -, hs1, -⟩ | ⟨r, -, hs1, -⟩
  · simp only [model] at hs1
    unfold invoke at hs1
    split at hs1
    all_goals simp at hs1
    all_goals subst hs1
    all_goals simp [upd, hne]
  · exact step_frame hs1 h hne hno
  · simp only [model] at hs1
    unfold result at hs1
    split at hs1
    all_goals simp at hs1
    all_goals obtain ⟨rfl, -⟩ := hs1
    all_goals simp

/-- The only step by which a thread `t` changes the status of ANOTHER thread `h` is the collision: `t` holds the lock
    of a slot in which `h`'s record sits, `h` is published in that slot and waiting, the operations are of opposite
    kind; the step sets `h`'s status to op_collided, takes the record out of the slot (so that `h` is in no slot any
    more), hands the pusher's node to the popper's descriptor, and `t` goes on to unlock and return. -/
theorem collision_step {s s' : St} {t : Tid} {ev : Ev} (he : EInv s) (hs : step s t = some (s', ev)) (h : Tid)
    (hne : h ≠ t) (hch : s'.status h ≠ s.status h) :
    ∃ c sl k, s.pc t = .bkIn c sl k ∧ s.srec sl = some h ∧ pubSlot (s.pc h) = some sl ∧ s.status h = 1 ∧
      s.isPush h ≠ s.isPush t ∧ s'.status h = 2 ∧ (∀ sl', s'.srec sl' ≠ some h) ∧ s'.pc t = .bkUnlC c sl ∧
      ev = evStatSt h 2 ∧
      (s.isPush t = true → s'.pval h = s.pval t) ∧ (s.isPush t = false → s'.pval t = s.pval h) := by
  obtain ⟨e1, e2, e3, e4, e5, e6, e7, e8⟩ := he
  unfold step at hs
  split at hs
  all_goals (try split at hs)
  all_goals (try split at hs)
  all_goals (try split at hs)
  all_goals simp at hs
  all_goals obtain ⟨rfl, rfl⟩ := hs
  all_goals (try dsimp only at hch)
  all_goals (try (exfalso; revert hch; simp [upd, hne]; done))
  all_goals (try (exfalso; exact hch rfl))
  all_goals grind [upd, pub_facts]

/-! ### Conservation -/

structure Mono (s s' : St) : Prop where
  tk : ∀ a u, s.taken a = some u → s'.taken a = some u
  el : ∀ a, s.elim a = true → s'.elim a = true

/-- Ghost bookkeeping is monotone: a node is taken at most once (the taker never changes), an eliminated node stays
    eliminated. -/
theorem apply_mono {s s' : St} {t : Tid} {a : Act} {o : Obs} (hm : MInv s)
    (hap : model.apply s t a = some (s', o)) : Mono s s' := by
  obtain ⟨⟨l, hl⟩, he⟩ := hm
  rcases Model.apply_cases hap with ⟨op, -, hs1, -⟩ | ⟨e, -, hs1, -⟩ | ⟨r, -, hs1, -⟩
  · obtain ⟨-, hie⟩ := sinvl_invoke hl he hs1
    exact ⟨hie.tkmono, hie.elmono⟩
  · obtain ⟨l', -, heff, -⟩ := sinvl_step hl he hs1
    exact ⟨heff.tkmono, heff.elmono⟩
  · obtain ⟨-, hre⟩ := sinvl_result hl he hs1
    exact ⟨hre.tkmono, hre.elmono⟩

/-- A node in the stack has been taken by nobody and has not been eliminated; the same holds for a node still
    private to its pusher.  In particular an eliminated node is not in the stack — in any reachable state, hence
    never (elimination is permanent: `apply_mono`). -/
theorem stack_nodes_untouched {s : St} (hm : MInv s) :
    (∀ a ∈ absNodes s, s.taken a = none ∧ s.elim a = false) ∧
    (∀ t n, pushNode s t = some n → s.taken n = none ∧ s.elim n = false) := by
  obtain ⟨⟨l, hl⟩, -⟩ := hm
  rw [hl.absNodes_eq]
  exact ⟨hl.tk, hl.priv⟩

theorem eliminated_not_in_stack {s : St} (hm : MInv s) (n : Nat) (h : s.elim n = true) : n ∉ absNodes s := by
  intro hin
  have := ((stack_nodes_untouched hm).1 n hin).2
  rw [h] at this; simp at this

/-- Refinement: every step of a reachable state is silent, a single linearization point (one `lifo` transition of
    the stepping thread's operation on the abstract stack) or a collision (`push v` immediately followed by `pop → v`,
    abstract stack unchanged). -/
theorem step_refines {s s' : St} {t : Tid} {ev : Ev} (hm : MInv s) (hs : step s t = some (s', ev)) :
    Shape s s' t (absNodes s) (absNodes s') := by
  obtain ⟨⟨l, hl⟩, he⟩ := hm
  obtain ⟨l', hl', -, hsh⟩ := sinvl_step hl he hs
  rw [hl.absNodes_eq, hl'.absNodes_eq]
  exact hsh

/-! ### Every successful pop takes exactly one node -/

/-- A pop whose result gets fixed as "value v" at some step takes, at that very step, a node that carries `v` and
    had been taken by nobody before (from the stack by its CAS, or from its partner by the collision). -/
theorem pop_takes {s s' : St} {t : Tid} {ev : Ev} (hm : MInv s) (hs : step s t = some (s', ev))
    (u : Tid) (v : Int) (h0 : postRet s u = none) (h1 : postRet s' u = some [1, v]) :
    ∃ a, s.val a = v ∧ s.taken a = none ∧ s'.taken a = some u := by
  obtain ⟨⟨l, h⟩, he⟩ := hm
  obtain ⟨l', -, heff, -⟩ := sinvl_step h he hs
  exact heff.takes u v h0 h1

end CdsVerif.Algo.Elim
