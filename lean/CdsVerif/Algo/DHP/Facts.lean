/-
  Facts about the dynamic-hazard-pointer machine on top of its inductive invariant (`Algo/DHP/Inv.lean`):
    * `obj_step` / `obj_apply`: the life cycle fresh -> live -> retired -> disposed only moves forward;
    * `Quiet` and `quiet_step` / `quiet_apply`: "nothing refers to the retired object p any more" is stable;
    * `disposed_step`, `decide_step`, `use_event`: facts about single steps;
    * `PPlace` (second invariant): a live object is in a cell or in flight, a retired object is in some retired chain;
    * `PAlias` (third invariant): the free lists are duplicate-free, no two Guard objects of a thread are linked to the
      same slot, a slot on the free list is linked to no Guard object;
    * `ahead_step` / `ahead_run`: the progress skeleton "a slot that is ahead of a reclamation pass stays ahead until the
      pass loads it";
    * `PRoom` (fourth invariant, for `RB >= 4`): outside a pass the retired chain has room for the next `push`.
-/
import CdsVerif.Algo.DHP.Inv
namespace CdsVerif.Algo.DHP
open CdsVerif.Machine CdsVerif.Spec CdsVerif.Algo.HP

/-! ### The life cycle of an object only moves forward -/

/-- one forward move in the life cycle -/
def ObjSt.Succ : ObjSt → ObjSt → Prop
  | .fresh, .live => True
  | .live, .retired => True
  | .retired, .disposed => True
  | _, _ => False

theorem obj_step {cfg : Cfg} {s s' : St} {t : Tid} {ev : Ev} (h : PInv cfg s)
    (hs : step cfg s t = some (s', ev)) (p : Ptr) :
    s'.obj p = s.obj p ∨ ObjSt.Succ (s.obj p) (s'.obj p) := by
  cases hpc : s.pc t with
  | swapX c b =>
    have hfr := h.fresh_hi s.cnt (Nat.le_refl _)
    cases b <;> simp only [step, stepW, hpc] at hs <;> split at hs <;> simp at hs <;> obtain ⟨rfl, -⟩ := hs <;>
      dsimp only
    · exact Or.inl rfl
    · exact Or.inl rfl
    all_goals
      by_cases e : p = s.cnt
      · subst e; simp [hfr, ObjSt.Succ]
      · simp [upd, e]
  | swapRet q r =>
    have hl := h.flight_live t q r hpc
    simp [step, stepW, hpc] at hs; obtain ⟨rfl, -⟩ := hs; dsimp only
    by_cases e : p = q
    · subst e; simp [hl, ObjSt.Succ]
    · simp [upd, e]
  | scanDecide acc r =>
    simp [step, stepW, hpc] at hs; obtain ⟨rfl, -⟩ := hs; dsimp only
    split
    next hm =>
      have := h.ret_st t p ((decision acc _ (h.ret_nodup t)).freed_sub p hm)
      simp [this, ObjSt.Succ]
    next => simp
  | _ =>
    -- the other steps leave the object states alone
    simp only [step, stepW, hpc] at hs <;> (try split at hs) <;> simp at hs <;> obtain ⟨rfl, -⟩ := hs <;>
      exact Or.inl rfl

theorem accOf_scanStart (cfg : Cfg) (r : GRet) : accOf (scanStart cfg r) = [] := accOf_scanRec cfg 0 [] r

theorem scanStart_cases (cfg : Cfg) (r : GRet) :
    scanStart cfg r = .scanLd 0 0 0 [] r ∨ scanStart cfg r = .scanExt 0 [] r ∨ scanStart cfg r = .scanDecide [] r :=
  scanRec_cases cfg 0 [] r

/-- An invocation only moves the program counter of an idle thread, to the start of an operation. -/
theorem invoke_frame {cfg : Cfg} {s s' : St} {t : Tid} {op : GOp} (hs : invoke cfg s t op = some s') :
    ∃ q, s' = { s with pc := upd s.pc t q } ∧ s.pc t = .idle ∧ accOf q = [] ∧ (∀ b i c v, q ≠ .protSt b i c v) ∧
      (∀ p r, q ≠ .swapRet p r) := by
  unfold invoke at hs
  split at hs
  · split at hs
    · split at hs <;> simp at hs; subst hs; exact ⟨_, rfl, by assumption, rfl, by simp, by simp⟩
    · split at hs <;> simp at hs; subst hs; exact ⟨_, rfl, by assumption, rfl, by simp, by simp⟩
    · split at hs <;> simp at hs; subst hs; exact ⟨_, rfl, by assumption, rfl, by simp, by simp⟩
    · split at hs <;> simp at hs; subst hs; exact ⟨_, rfl, by assumption, rfl, by simp, by simp⟩
    · simp at hs; subst hs; exact ⟨_, rfl, by assumption, rfl, by simp, by simp⟩
    · simp at hs; subst hs; exact ⟨_, rfl, by assumption, rfl, by simp, by simp⟩
    · simp at hs; subst hs
      refine ⟨_, rfl, by assumption, accOf_scanStart _ _, ?_, ?_⟩
      · intro b i c v; rcases scanStart_cases cfg [] with e | e | e <;> simp [e]
      · intro p r; rcases scanStart_cases cfg [] with e | e | e <;> simp [e]
    · split at hs
      · split at hs <;> simp at hs; subst hs; exact ⟨_, rfl, by assumption, rfl, by simp, by simp⟩
      · simp at hs
    · simp at hs
  · simp at hs

/-- A return only moves the program counter of a thread that is done, to `idle`. -/
theorem result_frame {s s' : St} {t : Tid} {r : GRet} (hr : result s t = some (s', r)) :
    s.pc t = .done r ∧ s' = { s with pc := upd s.pc t .idle } := by
  unfold result at hr
  split at hr
  · next hd => simp only [Option.some.injEq, Prod.mk.injEq] at hr; exact ⟨hr.2 ▸ hd, hr.1.symm⟩
  · cases hr

theorem obj_apply {cfg : Cfg} {s s' : St} {t : Tid} {a : Act} {o : Obs} (h : PInv cfg s)
    (hap : (model cfg).apply s t a = some (s', o)) (p : Ptr) :
    s'.obj p = s.obj p ∨ ObjSt.Succ (s.obj p) (s'.obj p) := by
  rcases Model.apply_cases hap with ⟨op, -, hi, -⟩ | ⟨ev, -, hs, -⟩ | ⟨r, -, hr, -⟩
  · obtain ⟨q, rfl, -⟩ := invoke_frame hi
    exact Or.inl rfl
  · exact obj_step h hs p
  · obtain ⟨-, rfl⟩ := result_frame hr
    exact Or.inl rfl

/-! ### A retired object that nothing refers to stays so -/

/-- `p` is retired (or already disposed) and nothing refers to it any more: no hazard slot holds it, no
    `protect` is about to store it, and scanner `sc` has not collected it. -/
structure Quiet (s : St) (sc : Tid) (p : Ptr) : Prop where
  gone : s.obj p = .retired ∨ s.obj p = .disposed
  noslot : ∀ u b i, s.slots u b i ≠ some p
  nocand : ∀ t b i c, s.pc t ≠ .protSt b i c (some p)
  noacc : p ∉ accOf (s.pc sc)

theorem quiet_step {cfg : Cfg} {s s' : St} {t : Tid} {ev : Ev} {sc : Tid} {p : Ptr} (h : PInv cfg s)
    (hq : Quiet s sc p) (hs : step cfg s t = some (s', ev)) : Quiet s' sc p := by
  obtain ⟨q1, q2, q3, q4⟩ := hq
  have hst := obj_step h hs p
  have hgone : s'.obj p = .retired ∨ s'.obj p = .disposed := by
    rcases hst with e | e
    · rw [e]; exact q1
    · rcases q1 with e1 | e1 <;> rw [e1] at e <;> revert e <;> cases s'.obj p <;> simp [ObjSt.Succ]
  have hcell : ∀ c, s.cells c ≠ some p := fun c hc => by
    have := h.cell_live c p hc; rcases q1 with e | e <;> simp_all
  refine ⟨hgone, ?_, ?_, ?_⟩ <;> clear hgone hst
  all_goals
    cases hpc : s.pc t with
    | swapX c b =>
      cases b <;> simp only [step, stepW, hpc] at hs <;>
      split at hs <;> simp at hs <;> obtain ⟨rfl, -⟩ := hs <;> intros <;> dsimp only <;> grind [upd, upd2, upd3, accOf]
    | swapRet q r =>
      have := accOf_scanStart cfg r
      have := scanStart_cases cfg r
      simp [step, stepW, hpc] at hs; obtain ⟨rfl, -⟩ := hs; intros; dsimp only; grind [upd, upd2, upd3, accOf]
    | scanLd u b i acc r =>
      have := accOf_scanNext cfg cfg.B u b i (collect acc (s.slots u b i)) r
      have hne := fun b' i' c' v' =>
        ne_of_inScan (q := .protSt b' i' c' v') (inScan_scanNext cfg cfg.B u b i (collect acc (s.slots u b i)) r) id
      simp [step, stepW, hpc] at hs; obtain ⟨rfl, -⟩ := hs; intros; dsimp only
      grind [upd, upd2, upd3, accOf, mem_collect]
    | scanExt u acc r =>
      have := accOf_scanAfterExt cfg u (s.nblk u) acc r
      have hne := fun b' i' c' v' =>
        ne_of_inScan (q := .protSt b' i' c' v') (inScan_scanAfterExt cfg u (s.nblk u) acc r) id
      simp [step, stepW, hpc] at hs; obtain ⟨rfl, -⟩ := hs; intros; dsimp only
      grind [upd, upd2, upd3, accOf]
    | _ =>
      simp only [step, stepW, hpc] at hs <;> (try split at hs) <;> simp at hs <;> obtain ⟨rfl, -⟩ := hs <;> intros <;>
        dsimp only <;> grind [upd, upd2, upd3, accOf]

theorem quiet_apply {cfg : Cfg} {s s' : St} {t : Tid} {a : Act} {o : Obs} {sc : Tid} {p : Ptr} (h : PInv cfg s)
    (hq : Quiet s sc p) (hap : (model cfg).apply s t a = some (s', o)) : Quiet s' sc p := by
  rcases Model.apply_cases hap with ⟨op, -, hi, -⟩ | ⟨ev, -, hs, -⟩ | ⟨r, -, hr, -⟩
  · obtain ⟨q, rfl, hidle, hacc, hns, -⟩ := invoke_frame hi
    obtain ⟨q1, q2, q3, q4⟩ := hq
    refine ⟨q1, q2, ?_, ?_⟩
    · intro t' b i c; dsimp only; grind [upd]
    · dsimp only; grind [upd]
  · exact quiet_step h hq hs
  · obtain ⟨hd, rfl⟩ := result_frame hr
    obtain ⟨q1, q2, q3, q4⟩ := hq
    refine ⟨q1, q2, ?_, ?_⟩
    · intro t' b i c; dsimp only; grind [upd]
    · dsimp only; grind [upd, accOf]

/-! ### Facts about single steps used by the property theorems -/

/-- Only the decision step of a pass disposes, and only objects its decision function frees. -/
theorem disposed_step {cfg : Cfg} {s s' : St} {t : Tid} {ev : Ev} {p : Ptr}
    (hs : step cfg s t = some (s', ev)) (h0 : s.obj p ≠ .disposed) (h1 : s'.obj p = .disposed) :
    ∃ acc r, s.pc t = .scanDecide acc r ∧ p ∈ (classicScan acc (s.retired t)).2 := by
  cases hpc : s.pc t with
  | swapX c b =>
    cases b <;> simp only [step, stepW, hpc] at hs <;> split at hs <;> simp at hs <;> obtain ⟨rfl, -⟩ := hs <;>
      dsimp only at h1
    · exact absurd h1 h0
    · exact absurd h1 h0
    all_goals
      by_cases e : p = s.cnt
      · subst e; simp [upd] at h1
      · simp [upd, e] at h1; exact absurd h1 h0
  | swapRet q r =>
    simp [step, stepW, hpc] at hs; obtain ⟨rfl, -⟩ := hs; dsimp only at h1
    by_cases e : p = q
    · subst e; simp [upd] at h1
    · simp [upd, e] at h1; exact absurd h1 h0
  | scanDecide acc r =>
    simp [step, stepW, hpc] at hs; obtain ⟨rfl, -⟩ := hs; dsimp only at h1
    refine ⟨acc, r, rfl, ?_⟩
    split at h1
    · assumption
    · exact absurd h1 h0
  | _ =>
    simp only [step, stepW, hpc] at hs <;> (try split at hs) <;> simp at hs <;> obtain ⟨rfl, -⟩ := hs <;>
      exact absurd h1 h0

/-- The effect of the decision step. -/
theorem decide_step {cfg : Cfg} {s s' : St} {t : Tid} {ev : Ev} {acc : List Ptr} {r : GRet}
    (hpc : s.pc t = .scanDecide acc r) (hs : step cfg s t = some (s', ev)) :
    (∀ p, s'.obj p = if p ∈ (classicScan acc (s.retired t)).2 then .disposed else s.obj p) ∧
    s'.retired t = (classicScan acc (s.retired t)).1 ∧ (∀ u, u ≠ t → s'.retired u = s.retired u) ∧
    s'.log = s.log ++ (classicScan acc (s.retired t)).2 ∧ s'.guard = s.guard ∧ s'.pc t = .done r ∧
    s'.rblk t = rblkAfter cfg (s.rblk t) (s.retired t).length (classicScan acc (s.retired t)).2.length := by
  simp [step, stepW, hpc] at hs; obtain ⟨rfl, -⟩ := hs
  refine ⟨fun _ => rfl, by simp, fun u hu => by simp [upd, hu], rfl, rfl, by simp, by simp⟩

/-- A `use` event is the step of a `deref`, on the object the thread's validated guard holds. -/
theorem use_event {cfg : Cfg} {s s' : St} {t : Tid} {e : Ev}
    (hs : step cfg s t = some (s', e)) (hk : e.kind = "use") :
    ∃ b i p, s.pc t = .derefRd b i ∧ s.guard t b i = some p ∧ e = evUse p (s.obj p) ∧
      s'.pc t = .done [objCode (s.obj p)] := by
  cases hpc : s.pc t with
  | derefRd b i =>
    simp only [step, stepW, hpc] at hs
    split at hs
    next q hq =>
      simp at hs; obtain ⟨rfl, rfl⟩ := hs
      exact ⟨b, i, q, rfl, hq, rfl, by simp⟩
    next => simp at hs
  | swapX c b =>
    cases b <;> simp only [step, stepW, hpc] at hs <;>
      split at hs <;> simp at hs <;> obtain ⟨-, rfl⟩ := hs <;> simp [evXchg] at hk
  | _ =>
    -- no other step emits a `use` event
    simp only [step, stepW, hpc] at hs <;> (try split at hs) <;> simp at hs <;> obtain ⟨-, rfl⟩ := hs <;>
      simp [evGalloc, evStExt, evLd, evSt, evRetire, evLdExt, evFree] at hk

/-! ### Completeness of the places (no object is lost) -/

/-- Every allocated, not yet disposed object is somewhere: a `live` object is in a cell or in flight in the
    `swap`/`take` that unlinked it; a `retired` object is in some thread's retired chain (so that thread's passes
    can free it). -/
structure PPlace (s : St) : Prop where
  live_ex : ∀ p, s.obj p = .live → (∃ c, s.cells c = some p) ∨ (∃ t r, s.pc t = .swapRet p r)
  ret_ex : ∀ p, s.obj p = .retired → ∃ t, p ∈ s.retired t

theorem pplace_init (cfg : Cfg) : PPlace (init cfg) := by
  constructor <;> simp [init]

theorem PPlace.kept {s : St} (h : PPlace s) :
    Kept ObjSt.live ObjSt.retired s.cells s.obj s.retired (fun p => ∃ t r, s.pc t = .swapRet p r) :=
  ⟨h.live_ex, h.ret_ex⟩

theorem PPlace.of_kept {s : St}
    (k : Kept ObjSt.live ObjSt.retired s.cells s.obj s.retired (fun p => ∃ t r, s.pc t = .swapRet p r)) : PPlace s :=
  ⟨k.live_ex, k.ret_ex⟩

/-- What is in flight in some thread stays so when `t`, which does not hold it, moves. -/
theorem flight_keep {pc : Tid → PC} {t : Tid} (q : PC) {p : Ptr} (hnf : ∀ r, pc t ≠ .swapRet p r)
    (h : ∃ w r, pc w = .swapRet p r) : ∃ w r, upd pc t q w = .swapRet p r := by
  obtain ⟨w, r, hw⟩ := h
  have e : w ≠ t := fun e => hnf r (e ▸ hw)
  exact ⟨w, r, (upd_other _ _ _ _ e).trans hw⟩

/-- steps of a thread with nothing in flight that touch neither objects, cells nor retired chains -/
theorem pplace_move {s s' : St} {t : Tid} {q : PC} (h : PPlace s) (ho : s'.obj = s.obj) (hc : s'.cells = s.cells)
    (hr : s'.retired = s.retired) (hp : s'.pc = upd s.pc t q) (hnf : ∀ p r, s.pc t ≠ .swapRet p r) : PPlace s' := by
  refine .of_kept ?_
  rw [ho, hc, hr, hp]
  exact h.kept.mono fun p => flight_keep q (hnf p)

theorem pplace_step {cfg : Cfg} {s s' : St} {t : Tid} {ev : Ev} (hI : PInv cfg s) (h : PPlace s)
    (hs : step cfg s t = some (s', ev)) : PPlace s' := by
  cases hpc : s.pc t with
  | swapX c b =>
    have hnf : ∀ p r, s.pc t ≠ .swapRet p r := by simp [hpc]
    cases b <;> simp only [step, stepW, hpc] at hs <;> split at hs <;> simp at hs <;> obtain ⟨rfl, -⟩ := hs
    · exact pplace_move h rfl rfl rfl rfl hnf
    · next a ha =>
      exact .of_kept (h.kept.take c (fun p => flight_keep _ (hnf p))
        fun p hp => ⟨t, _, by cases ha.symm.trans hp; exact upd_same _ _ _⟩)
    · next ha =>
      exact .of_kept (h.kept.alloc states hI.places c (fun p => flight_keep _ (hnf p))
        fun p hp => by cases ha.symm.trans hp)
    · next a ha =>
      exact .of_kept (h.kept.alloc states hI.places c (fun p => flight_keep _ (hnf p))
        fun p hp => ⟨t, _, by cases ha.symm.trans hp; exact upd_same _ _ _⟩)
  | swapRet q r =>
    simp [step, stepW, hpc] at hs; obtain ⟨rfl, -⟩ := hs
    exact .of_kept (h.kept.retire states t q fun p hne =>
      flight_keep _ fun r' e => hne (by rw [hpc] at e; cases e; rfl))
  | scanDecide acc r =>
    simp [step, stepW, hpc] at hs; obtain ⟨rfl, -⟩ := hs
    exact .of_kept (h.kept.decide states t (decision acc _ (hI.ret_nodup t)).split
      fun p => flight_keep _ (by simp [hpc]))
  | _ =>
    simp only [step, stepW, hpc] at hs <;> (try split at hs) <;> simp at hs <;> obtain ⟨rfl, -⟩ := hs <;>
      exact pplace_move h rfl rfl rfl rfl (by simp [hpc])

theorem pplace_apply (cfg : Cfg) (s : St) (t : Tid) (a : Act) (s' : St) (o : Obs)
    (h : PInv cfg s ∧ PPlace s) (hap : (model cfg).apply s t a = some (s', o)) : PInv cfg s' ∧ PPlace s' := by
  refine ⟨pinv_apply cfg s t a s' o h.1 hap, ?_⟩
  rcases Model.apply_cases hap with ⟨op, -, hi, -⟩ | ⟨ev, -, hs, -⟩ | ⟨r, -, hr, -⟩
  · obtain ⟨q, rfl, hidle, -⟩ := invoke_frame hi
    exact pplace_move h.2 rfl rfl rfl rfl (by simp [hidle])
  · exact pplace_step h.1 h.2 hs
  · obtain ⟨hd, rfl⟩ := result_frame hr
    exact pplace_move h.2 rfl rfl rfl rfl (by simp [hd])

theorem pplace_reachable (cfg : Cfg) (hB : 0 < cfg.B) (s : St) (hr : (model cfg).Reachable (init cfg) s) : PPlace s :=
  ((model cfg).inv_reachable (fun x => PInv cfg x ∧ PPlace x) (init cfg) ⟨pinv_init cfg hB, pplace_init cfg⟩
    (pplace_apply cfg) s hr).2

/-! ### Frames: what an action of thread `t` leaves alone -/

/-- An action of thread `t` changes nobody else's program counter, and the number of linked extension blocks of a
    record never decreases. -/
theorem apply_frame {cfg : Cfg} {s s' : St} {t : Tid} {a : Act} {o : Obs}
    (hap : (model cfg).apply s t a = some (s', o)) :
    (∀ t', t' ≠ t → s'.pc t' = s.pc t') ∧ (∀ u, s.nblk u ≤ s'.nblk u) := by
  rcases Model.apply_cases hap with ⟨op, -, hi, -⟩ | ⟨ev, -, hs, -⟩ | ⟨r, -, hr, -⟩
  · obtain ⟨q, rfl, -⟩ := invoke_frame hi
    exact ⟨fun t' ht' => upd_other _ _ _ _ ht', fun u => Nat.le_refl _⟩
  · replace hs : step cfg s t = some (s', ev) := hs
    cases hpc : s.pc t with
    | gallocDo h =>
      simp only [step, stepW, hpc] at hs
      split at hs <;> simp at hs <;> obtain ⟨rfl, -⟩ := hs
      · exact ⟨fun t' ht' => upd_other _ _ _ _ ht', fun u => Nat.le_refl _⟩
      · refine ⟨fun t' ht' => upd_other _ _ _ _ ht', fun u => ?_⟩
        dsimp only [upd]; split
        · next e => subst e; omega
        · exact Nat.le_refl _
    | swapX c b =>
      cases b <;> simp only [step, stepW, hpc] at hs <;> split at hs <;> simp at hs <;> obtain ⟨rfl, -⟩ := hs <;>
        exact ⟨fun t' ht' => upd_other _ _ _ _ ht', fun u => Nat.le_refl _⟩
    | _ =>
      simp only [step, stepW, hpc] at hs <;> (try split at hs) <;> simp at hs <;> obtain ⟨rfl, -⟩ := hs <;>
        exact ⟨fun t' ht' => upd_other _ _ _ _ ht', fun u => Nat.le_refl _⟩
  · obtain ⟨-, rfl⟩ := result_frame hr
    exact ⟨fun t' ht' => upd_other _ _ _ _ ht', fun u => Nat.le_refl _⟩

/-! ### The slots a reclamation pass will still read -/

/-- Progress skeleton: a slot of a linked block that is ahead of a pass stays ahead until the pass loads it. -/
theorem ahead_step {cfg : Cfg} {s s' : St} {sc : Tid} {ev : Ev} {u b i : Nat}
    (ha : aheadPC (s.pc sc) u b i) (hu : u < cfg.T) (hb : b ≤ s.nblk u) (hi : i < bsize cfg b)
    (hs : step cfg s sc = some (s', ev)) :
    aheadPC (s'.pc sc) u b i ∨ ev = evLd (slotLoc u b i) (s.slots u b i) := by
  cases hpc : s.pc sc <;> rw [hpc] at ha <;> try exact ha.elim
  · next su sb si acc r =>
    simp only [step, stepW, hpc, Option.some.injEq, Prod.mk.injEq] at hs
    obtain ⟨rfl, rfl⟩ := hs
    rcases ahead_scanNext (collect acc (s.slots su sb si)) r ha hu hi with ⟨rfl, rfl, rfl⟩ | h
    · exact Or.inr rfl
    · exact Or.inl (by simpa only [upd_same] using h)
  · next su acc r =>
    simp only [step, stepW, hpc, Option.some.injEq, Prod.mk.injEq] at hs
    obtain ⟨rfl, rfl⟩ := hs
    exact Or.inl (by simpa only [upd_same] using ahead_scanAfterExt acc r ha hu (fun e => e ▸ hb) hi)

/-- Run form: along every run, a slot of a linked block that is ahead of the pass of thread `sc` is still ahead at the
    end, or the run contains the load of that slot by `sc`. -/
theorem ahead_run (cfg : Cfg) (sc : Tid) (u b i : Nat) (hu : u < cfg.T) (hi : i < bsize cfg b) :
    ∀ (sched : List (Tid × Act)) (s s' : St) (os : List (Tid × Obs)),
      aheadPC (s.pc sc) u b i → b ≤ s.nblk u → (model cfg).run s sched = some (s', os) →
      aheadPC (s'.pc sc) u b i ∨ ∃ v, (sc, Obs.ev (evLd (slotLoc u b i) v)) ∈ os := by
  intro sched
  induction sched with
  | nil => intro s s' os ha _ hr; simp [Model.run] at hr; exact Or.inl (hr.1 ▸ ha)
  | cons x rest ih =>
    intro s s' os ha hb hr
    obtain ⟨t, a⟩ := x
    simp only [Model.run] at hr
    cases hap : (model cfg).apply s t a with
    | none => simp [hap] at hr
    | some q =>
      obtain ⟨s1, o⟩ := q
      simp only [hap] at hr
      cases hrr : (model cfg).run s1 rest with
      | none => simp [hrr] at hr
      | some q2 =>
        obtain ⟨s2, os2⟩ := q2
        simp only [hrr, Option.some.injEq, Prod.mk.injEq] at hr
        obtain ⟨rfl, rfl⟩ := hr
        obtain ⟨hfr, hmono⟩ := apply_frame hap
        have hb1 : b ≤ s1.nblk u := Nat.le_trans hb (hmono u)
        -- one action: still ahead, or this action is the load
        have h1 : aheadPC (s1.pc sc) u b i ∨ (t = sc ∧ o = Obs.ev (evLd (slotLoc u b i) (s.slots u b i))) := by
          by_cases e : t = sc
          · subst e
            rcases Model.apply_cases hap with ⟨op, -, hi, -⟩ | ⟨ev, -, hs, rfl⟩ | ⟨r, -, hres, -⟩
            · obtain ⟨q, -, hidle, -⟩ := invoke_frame hi
              rw [hidle] at ha; exact ha.elim
            · exact (ahead_step ha hu hb hi hs).imp id fun h => ⟨rfl, by rw [h]⟩
            · rw [(result_frame hres).1] at ha; exact ha.elim
          · left; rw [hfr sc (fun h => e h.symm)]; exact ha
        rcases h1 with h1 | ⟨rfl, rfl⟩
        · rcases ih s1 s2 os2 h1 hb1 hrr with h2 | ⟨v, hv⟩
          · exact Or.inl h2
          · exact Or.inr ⟨v, List.mem_cons_of_mem _ hv⟩
        · exact Or.inr ⟨_, List.mem_cons_self⟩

/-! ### Guard objects never share a slot -/

/-- The free lists are duplicate-free, two Guard objects of a thread are never linked to the same slot, a slot on the
    free list is linked to no Guard object; `gfree` works on the slot its handle is linked to, `galloc` on a handle that
    is not linked. -/
structure PAlias (s : St) : Prop where
  flist_nodup : ∀ t, (s.flist t).Nodup
  hslot_inj : ∀ t h1 h2 b i, s.hslot t h1 = some (b, i) → s.hslot t h2 = some (b, i) → h1 = h2
  free_unlinked : ∀ t h b i, s.hslot t h = some (b, i) → (b, i) ∉ s.flist t
  gfree_link : ∀ t h b i, s.pc t = .gfreeSt h b i → s.hslot t h = some (b, i)
  galloc_unl : ∀ t h, s.pc t = .gallocDo h → s.hslot t h = none

theorem initList_nodup (n : Nat) : (initList n).Nodup := by
  unfold initList
  exact List.Pairwise.map _ (fun a b h => by simp; exact h) List.nodup_range

theorem blockTail_nodup (k B : Nat) : (blockTail k B).Nodup := by
  unfold blockTail
  exact List.Pairwise.map _ (fun a b h => by simp; exact h) List.nodup_range

theorem palias_init (cfg : Cfg) : PAlias (init cfg) := by
  constructor <;> simp [init, initList_nodup]

/-- steps that touch neither the free lists nor the handle table, and neither enter `gfreeSt` nor `gallocDo` -/
theorem palias_frame {s s' : St} (h : PAlias s) (hf : s'.flist = s.flist) (hh : s'.hslot = s.hslot)
    (hp1 : ∀ t h b i, s'.pc t = .gfreeSt h b i → s.pc t = .gfreeSt h b i)
    (hp2 : ∀ t h, s'.pc t = .gallocDo h → s.pc t = .gallocDo h) : PAlias s' := by
  obtain ⟨a1, a2, a3, a4, a5⟩ := h
  constructor
  · rw [hf]; exact a1
  · rw [hh]; exact a2
  · rw [hh, hf]; exact a3
  · intro t h b i hpc; rw [hh]; exact a4 t h b i (hp1 t h b i hpc)
  · intro t h hpc; rw [hh]; exact a5 t h (hp2 t h hpc)

theorem palias_setpc {s : St} {t : Tid} {q : PC} (h : PAlias s) (hq1 : ∀ h b i, q ≠ .gfreeSt h b i)
    (hq2 : ∀ h, q ≠ .gallocDo h) : PAlias { s with pc := upd s.pc t q } := by
  refine palias_frame h rfl rfl ?_ ?_
  · intro t' h b i hpc
    by_cases e : t' = t
    · subst e; simp [upd] at hpc; exact absurd hpc (hq1 h b i)
    · simpa [upd, e] using hpc
  · intro t' h hpc
    by_cases e : t' = t
    · subst e; simp [upd] at hpc; exact absurd hpc (hq2 h)
    · simpa [upd, e] using hpc

theorem palias_step {cfg : Cfg} {s s' : St} {t : Tid} {ev : Ev} (hI : PInv cfg s) (h : PAlias s)
    (hs : step cfg s t = some (s', ev)) : PAlias s' := by
  -- the steps that touch neither the free lists nor the handle table, and stay away from `gfreeSt` / `gallocDo`
  have move : ∀ {s' : St} {q : PC}, s'.flist = s.flist → s'.hslot = s.hslot → s'.pc = upd s.pc t q →
      (∀ h b i, q ≠ .gfreeSt h b i) → (∀ h, q ≠ .gallocDo h) → PAlias s' := fun hf hh hp h1 h2 =>
    palias_frame (palias_setpc h h1 h2) hf hh (fun _ _ _ _ e => hp ▸ e) (fun _ _ e => hp ▸ e)
  cases hpc : s.pc t with
  | gallocDo h' =>
    obtain ⟨a1, a2, a3, a4, a5⟩ := h
    have hrng := hI.hslot_rng
    simp only [step, stepW, hpc] at hs
    split at hs
    · next b i rest hfl =>
      simp at hs; obtain ⟨rfl, -⟩ := hs
      have hnd := a1 t; rw [hfl, List.nodup_cons] at hnd
      have hm : ∀ x, x ∈ rest → x ∈ s.flist t := fun x hx => by rw [hfl]; exact List.mem_cons_of_mem _ hx
      have hm0 : (b, i) ∈ s.flist t := by rw [hfl]; exact List.mem_cons_self
      constructor <;> intros <;> (try dsimp only at *) <;> grind [upd, upd2]
    · next hfl =>
      simp at hs; obtain ⟨rfl, -⟩ := hs
      have hnd := blockTail_nodup (s.nblk t + 1) cfg.B
      have hbt : ∀ x y, (x, y) ∈ blockTail (s.nblk t + 1) cfg.B → x = s.nblk t + 1 ∧ 1 ≤ y ∧ y < cfg.B :=
        fun x y hxy => mem_blockTail.mp hxy
      constructor <;> intros <;> (try dsimp only at *) <;> grind [upd, upd2]
  | gfreeSt h' b i =>
    obtain ⟨a1, a2, a3, a4, a5⟩ := h
    simp [step, stepW, hpc] at hs; obtain ⟨rfl, -⟩ := hs
    have hl := a4 t h' b i hpc
    have hnf := a3 t h' b i hl
    have hnd : ((b, i) :: s.flist t).Nodup := List.nodup_cons.mpr ⟨hnf, a1 t⟩
    constructor <;> intros <;> (try dsimp only at *) <;> grind [upd, upd2]
  | swapX c b =>
    cases b <;> simp only [step, stepW, hpc] at hs <;> split at hs <;> simp at hs <;> obtain ⟨rfl, -⟩ := hs <;>
      exact move rfl rfl rfl (by simp) (by simp)
  | swapRet q r =>
    simp [step, stepW, hpc] at hs; obtain ⟨rfl, -⟩ := hs
    refine move rfl rfl rfl (fun h' b i => ?_) (fun h' => ?_) <;> split
    · simp
    · exact ne_of_inScan (inScan_scanRec ..) id
    · simp
    · exact ne_of_inScan (inScan_scanRec ..) id
  | scanLd u b i acc r =>
    simp [step, stepW, hpc] at hs; obtain ⟨rfl, -⟩ := hs
    exact move rfl rfl rfl (fun _ _ _ => ne_of_inScan (inScan_scanNext ..) id)
      (fun _ => ne_of_inScan (inScan_scanNext ..) id)
  | scanExt u acc r =>
    simp [step, stepW, hpc] at hs; obtain ⟨rfl, -⟩ := hs
    exact move rfl rfl rfl (fun _ _ _ => ne_of_inScan (inScan_scanAfterExt ..) id)
      (fun _ => ne_of_inScan (inScan_scanAfterExt ..) id)
  | _ =>
    simp only [step, stepW, hpc] at hs <;> (try split at hs) <;> simp at hs <;> obtain ⟨rfl, -⟩ := hs <;>
      exact move rfl rfl rfl (by simp) (by simp)

theorem palias_invoke {cfg : Cfg} {s s' : St} {t : Tid} {op : GOp} (h : PAlias s)
    (hs : invoke cfg s t op = some s') : PAlias s' := by
  obtain ⟨a1, a2, a3, a4, a5⟩ := h
  unfold invoke at hs
  split at hs
  · split at hs
    · split at hs <;> simp at hs; subst hs
      constructor <;> intros <;> (try dsimp only at *) <;> grind [upd]
    · split at hs <;> simp at hs; subst hs
      constructor <;> intros <;> (try dsimp only at *) <;> grind [upd]
    · split at hs <;> simp at hs; subst hs
      exact palias_setpc ⟨a1, a2, a3, a4, a5⟩ (by simp) (by simp)
    · split at hs <;> simp at hs; subst hs
      exact palias_setpc ⟨a1, a2, a3, a4, a5⟩ (by simp) (by simp)
    · simp at hs; subst hs; exact palias_setpc ⟨a1, a2, a3, a4, a5⟩ (by simp) (by simp)
    · simp at hs; subst hs; exact palias_setpc ⟨a1, a2, a3, a4, a5⟩ (by simp) (by simp)
    · simp at hs; subst hs
      exact palias_setpc ⟨a1, a2, a3, a4, a5⟩ (fun _ _ _ => ne_of_inScan (inScan_scanRec ..) id)
        (fun _ => ne_of_inScan (inScan_scanRec ..) id)
    · split at hs
      · split at hs <;> simp at hs; subst hs
        exact palias_setpc ⟨a1, a2, a3, a4, a5⟩ (by simp) (by simp)
      · simp at hs
    · simp at hs
  · simp at hs

theorem palias_apply (cfg : Cfg) (s : St) (t : Tid) (a : Act) (s' : St) (o : Obs)
    (h : PInv cfg s ∧ PAlias s) (hap : (model cfg).apply s t a = some (s', o)) : PInv cfg s' ∧ PAlias s' := by
  refine ⟨pinv_apply cfg s t a s' o h.1 hap, ?_⟩
  rcases Model.apply_cases hap with ⟨op, -, hi, -⟩ | ⟨ev, -, hs, -⟩ | ⟨r, -, hr, -⟩
  · exact palias_invoke h.2 hi
  · exact palias_step h.1 h.2 hs
  · obtain ⟨-, rfl⟩ := result_frame hr
    exact palias_setpc h.2 (by simp) (by simp)

theorem palias_reachable (cfg : Cfg) (hB : 0 < cfg.B) (s : St) (hr : (model cfg).Reachable (init cfg) s) : PAlias s :=
  ((model cfg).inv_reachable (fun x => PInv cfg x ∧ PAlias x) (init cfg) ⟨pinv_init cfg hB, palias_init cfg⟩
    (palias_apply cfg) s hr).2

/-! ### The retired chain always has room for the next push (RB >= 4) -/

/-- The chain has at least one block; its content fits; and OUTSIDE a pass there is room for one more entry (a push
    that fills the last block is followed by a pass, which frees an entry or adds a block). -/
structure PRoom (cfg : Cfg) (s : St) : Prop where
  rblk_pos : ∀ t, 1 ≤ s.rblk t
  cap : ∀ t, (s.retired t).length ≤ s.rblk t * cfg.RB
  room : ∀ t, ¬ inScan (s.pc t) → (s.retired t).length < s.rblk t * cfg.RB

theorem proom_init (cfg : Cfg) (hRB : 4 ≤ cfg.RB) : PRoom cfg (init cfg) := by
  constructor <;> simp [init] <;> omega

/-- steps that change neither the retired chains nor their block counts -/
theorem proom_frame {cfg : Cfg} {s s' : St} (h : PRoom cfg s) (hr : s'.retired = s.retired) (hb : s'.rblk = s.rblk)
    (hp : ∀ t', ¬ inScan (s'.pc t') → ¬ inScan (s.pc t')) : PRoom cfg s' := by
  obtain ⟨r1, r2, r3⟩ := h
  refine ⟨?_, ?_, ?_⟩
  · rw [hb]; exact r1
  · rw [hr, hb]; exact r2
  · intro t' hn; rw [hr, hb]; exact r3 t' (hp t' hn)

theorem pc_upd_scan (pc : Tid → PC) (t : Tid) (q : PC) (hq : inScan q ∨ ¬ inScan (pc t)) :
    ∀ t', ¬ inScan (upd pc t q t') → ¬ inScan (pc t') := by
  intro t' hn
  by_cases e : t' = t
  · subst e
    simp only [upd_same] at hn
    rcases hq with hq | hq
    · exact absurd hq hn
    · exact hq
  · simpa [upd, e] using hn

theorem classicScan_length (acc rl : List Ptr) :
    (classicScan acc rl).1.length + (classicScan acc rl).2.length = rl.length := by
  have := (CdsVerif.Props.C03.C03_classic_scan_partition acc rl).length_eq
  simpa using this

/-- the arithmetic of the decision step: what is kept fits into the blocks the chain has afterwards, with room -/
theorem room_after (cfg : Cfg) (hRB : 4 ≤ cfg.RB) (nb len nk nf : Nat) (hnb : 1 ≤ nb) (hlen : len ≤ nb * cfg.RB)
    (hsum : nk + nf = len) : nk < rblkAfter cfg nb len nf * cfg.RB ∧ nb ≤ rblkAfter cfg nb len nf := by
  unfold rblkAfter walked
  have hmul : nb * cfg.RB + cfg.RB = (nb + 1) * cfg.RB := by rw [Nat.add_mul, Nat.one_mul]
  have hcomm : cfg.RB * nb = nb * cfg.RB := Nat.mul_comm _ _
  have hge : 4 ≤ nb * cfg.RB := Nat.le_trans hRB (Nat.le_mul_of_pos_left _ hnb)
  by_cases hfull : len = nb * cfg.RB
  · simp only [hfull, if_true, and_true]
    rw [hcomm]
    split
    · constructor <;> omega
    · constructor <;> omega
  · have : ¬ (nf < cfg.RB * (if len = nb * cfg.RB then nb else len / cfg.RB + 1) / 4 ∧ len = nb * cfg.RB) := fun h => hfull h.2
    simp only [this, if_false]
    constructor <;> omega

theorem proom_step {cfg : Cfg} (hRB : 4 ≤ cfg.RB) {s s' : St} {t : Tid} {ev : Ev} (h : PRoom cfg s)
    (hs : step cfg s t = some (s', ev)) : PRoom cfg s' := by
  cases hpc : s.pc t with
  | scanLd u b i acc r =>
    simp [step, stepW, hpc] at hs; obtain ⟨rfl, -⟩ := hs
    exact proom_frame h rfl rfl (pc_upd_scan _ t _ (Or.inl (inScan_scanNext ..)))
  | scanExt u acc r =>
    simp [step, stepW, hpc] at hs; obtain ⟨rfl, -⟩ := hs
    exact proom_frame h rfl rfl (pc_upd_scan _ t _ (Or.inl (inScan_scanAfterExt ..)))
  | swapX c b =>
    cases b <;> simp only [step, stepW, hpc] at hs <;> split at hs <;> simp at hs <;> obtain ⟨rfl, -⟩ := hs <;>
      exact proom_frame h rfl rfl (pc_upd_scan _ t _ (Or.inr (by simp [hpc, inScan])))
  | swapRet q r =>
    obtain ⟨r1, r2, r3⟩ := h
    have hroom := r3 t (by simp [hpc, inScan])
    simp [step, stepW, hpc] at hs; obtain ⟨rfl, -⟩ := hs
    refine ⟨r1, ?_, ?_⟩
    · intro t'; dsimp only [upd]; split
      · next e => subst e; simp; omega
      · exact r2 t'
    · intro t' hn
      by_cases e : t' = t
      · subst e
        simp only [upd_same] at hn ⊢
        split at hn
        · next hlt => simpa using hlt
        · exact absurd (inScan_scanRec _ _ _ _) hn
      · simp only [upd, e, if_false] at hn ⊢; exact r3 t' hn
  | scanDecide acc r =>
    obtain ⟨r1, r2, r3⟩ := h
    have hsum := classicScan_length acc (s.retired t)
    have hra := room_after cfg hRB (s.rblk t) (s.retired t).length _ _ (r1 t) (r2 t) hsum
    simp [step, stepW, hpc] at hs; obtain ⟨rfl, -⟩ := hs
    refine ⟨?_, ?_, ?_⟩
    · intro t'; dsimp only [upd]; split
      · next e => subst e; have := r1 t'; omega
      · exact r1 t'
    · intro t'; dsimp only [upd]; split
      · next e => subst e; exact Nat.le_of_lt hra.1
      · exact r2 t'
    · intro t' hn
      by_cases e : t' = t
      · subst e; simp only [upd_same]; exact hra.1
      · simp only [upd, e, if_false] at hn ⊢; exact r3 t' hn
  | _ =>
    -- the other steps leave the retired chains alone and do not leave a pass
    simp only [step, stepW, hpc] at hs <;> (try split at hs) <;> simp at hs <;> obtain ⟨rfl, -⟩ := hs <;>
      exact proom_frame h rfl rfl (pc_upd_scan _ t _ (Or.inr (by simp [hpc, inScan])))

theorem proom_apply (cfg : Cfg) (hRB : 4 ≤ cfg.RB) (s : St) (t : Tid) (a : Act) (s' : St) (o : Obs)
    (h : PRoom cfg s) (hap : (model cfg).apply s t a = some (s', o)) : PRoom cfg s' := by
  rcases Model.apply_cases hap with ⟨op, -, hi, -⟩ | ⟨ev, -, hs, -⟩ | ⟨r, -, hr, -⟩
  · obtain ⟨q, rfl, hidle, -⟩ := invoke_frame hi
    exact proom_frame h rfl rfl (pc_upd_scan _ t _ (Or.inr (by simp [hidle, inScan])))
  · exact proom_step hRB h hs
  · obtain ⟨hd, rfl⟩ := result_frame hr
    exact proom_frame h rfl rfl (pc_upd_scan _ t _ (Or.inr (by simp [hd, inScan])))

theorem proom_reachable (cfg : Cfg) (hRB : 4 ≤ cfg.RB) (s : St) (hr : (model cfg).Reachable (init cfg) s) : PRoom cfg s :=
  (model cfg).inv_reachable (PRoom cfg) (init cfg) (proom_init cfg hRB) (proom_apply cfg hRB) s hr

/-- A `use` event never observes a disposed object. -/
theorem use_not_disposed {cfg : Cfg} {s s' : St} {t : Tid} {e : Ev} (h : PInv cfg s)
    (hs : step cfg s t = some (s', e)) (hk : e.kind = "use") : e.a ≠ "disposed" := by
  obtain ⟨b, i, p, -, hg, rfl, -⟩ := use_event hs hk
  rcases h.guard_ok t b i p hg with e | e <;> simp [evUse, objName, e]

/-- A disposed object stays disposed. -/
theorem disposed_apply {cfg : Cfg} {s s' : St} {t : Tid} {a : Act} {o : Obs} {p : Ptr} (h : PInv cfg s)
    (hd : s.obj p = .disposed) (hap : (model cfg).apply s t a = some (s', o)) : s'.obj p = .disposed := by
  rcases obj_apply h hap p with e | e
  · rw [e]; exact hd
  · rw [hd] at e; revert e; cases s'.obj p <;> simp [ObjSt.Succ]

/-- A pass that has reached its decision step has loaded every slot of a linked block that was ahead of it. -/
theorem ahead_loaded (cfg : Cfg) (sc : Tid) (u b i : Nat) (hu : u < cfg.T) (hi : i < bsize cfg b)
    (sched : List (Tid × Act)) (s s' : St) (os : List (Tid × Obs)) (ha : aheadPC (s.pc sc) u b i) (hb : b ≤ s.nblk u)
    (hrun : (model cfg).run s sched = some (s', os)) {acc : List Ptr} {r : GRet} (hend : s'.pc sc = .scanDecide acc r) :
    ∃ v, (sc, Obs.ev (evLd (slotLoc u b i) v)) ∈ os :=
  (ahead_run cfg sc u b i hu hi sched s s' os ha hb hrun).resolve_left fun h => by
    rw [hend] at h; exact h

end CdsVerif.Algo.DHP
