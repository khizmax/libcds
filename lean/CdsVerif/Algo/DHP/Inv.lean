/-
  The inductive invariant of the dynamic-hazard-pointer machine (`Algo/DHP/Model.lean`), preserved by every enabled
  action of every thread - hence true in every reachable state, for every configuration (`init`, `B >= 1`, `T`, `RB`),
  every schedule and every client program.

  Conjuncts (names of the fields of `PInv`):
    (I0) `B_pos cnt_pos fresh_hi fresh_zero` - an extension block has at least one guard; objects at or above the
         counter, and the null address 0, are `fresh`;
    (I1) places (as in HP/ProtocolInv): `cell_live cell_inj flight_live flight_cell flight_inj ret_st log_st`;
    (I2) `ret_nodup ret_disj log_nodup`;
    (I3) guard storage: every slot that a Guard object is linked to (`hslot_rng`), that is on a free list (`flist_rng`)
         or that an operation in progress works on (`protLd_rng protSt_rng protChk_slot clearSt_rng gfree_rng`) lies in
         the initial array (block 0, index < init) or in an extension block that IS LINKED to the record's
         `extended_list_` (1 <= b <= nblk, index < B);
    (I4) a validated guard's slot still holds the pointer (`guard_slot`), it lies in a linked block (`guard_rng`), and
         - THE SAFETY PROPERTY - a guarded object is `live` or `retired` (`guard_ok`);
    (I5) a thread in the middle of a reclamation pass: if `guard u b i = some p` and `p` is in the pass's retired chain
         then `p` is already in its plist, or slot (u,b,i) is still AHEAD of the pass:
           while it reads the initial array of record su at index si (`scan_cov_ld`, sb = 0):
               su < u,  or  su = u and (b >= 1 - every extension block - or si <= i);
           when it is about to load `extended_list_` of record su (`scan_cov_ext`):  su < u, or su = u and b >= 1
               (`guard_rng`: b <= nblk su, so the load will see block b);
           while it reads extension block sb of record su at index si (`scan_cov_ld`, sb >= 1):
               su < u,  or  su = u and 1 <= b and (b < sb - an older block - or b = sb and si <= i);
           at the decision step (`scan_all`): p is in the plist.
         The step from "last slot of block sb" to "block sb - 1" is where the width of an extension block matters: the
         pass must have read index i for EVERY i < B (lemmas `pinv_scanLd_next_blk`, `pinv_scanLd_last`).
    (I6) a thread between its hazard store and its validating re-load claims nothing about its candidate
         (`protChk_slot`).  When the validation succeeds the candidate is in the cell at that step, hence `live`, hence
         in nobody's retired chain: this keeps (I5) true when a guard becomes validated after a pass has gone by its
         slot - in particular a guard in an extension block that was linked after the pass loaded `extended_list_`.
    bookkeeping: `scan_rng scanExt_rng deref_ok busy_rng`.

  Proof style (as for the static scheme, `Algo/HP/ProtocolInv.lean`).  `PInv` is split into the clauses about the memory
  alone (`Places`, `Guards`, `Storage`), the clauses about the memory and the program counter of ONE thread (`TInv`) and
  the one clause about the program counters of TWO threads (`Excl`).  `PInv.frame` is the rule for a step of thread `t`;
  `TInv.transfer` says what of the memory `TInv` reads, with one corollary per kind of memory change.  The three clauses
  (I5) are one clause of `TInv`, over `aheadPC`; what a pass still has ahead after a move is a fact about program counters
  alone (`ahead_scanNext`, `ahead_scanAfterExt`, `ahead_scanRec`).

  `Algo/DHP/Facts.lean`: `obj_step` / `obj_apply` (life cycle only moves forward), `Quiet` (stable), facts about single
  steps, `PPlace` (no object is lost), `PAlias` (no two Guard objects share a slot; a free slot is nobody's), `ahead_run`
  (the slots a pass will still read) and `PRoom` (the retired chain always has room for the next push when RB >= 4).
-/
import CdsVerif.Algo.DHP.Model
import CdsVerif.Algo.HP.ProtocolInv
namespace CdsVerif.Algo.DHP
open CdsVerif.Machine CdsVerif.Spec CdsVerif.Algo.HP


structure Decision (acc rl kept freed : List Ptr) : Prop where
  kept_sub : ∀ p, p ∈ kept → p ∈ rl
  freed_sub : ∀ p, p ∈ freed → p ∈ rl
  split : ∀ p, p ∈ rl → p ∈ kept ∨ p ∈ freed
  disj : ∀ p, p ∈ kept → p ∉ freed
  kept_nodup : kept.Nodup
  freed_nodup : freed.Nodup
  safe : ∀ p, p ∈ freed → p ≠ 0 → p ∉ acc
  live : ∀ p, p ∈ rl → p ∉ acc → p ∈ freed

theorem decision (acc rl : List Ptr) (hnd : rl.Nodup) :
    Decision acc rl (classicScan acc rl).1 (classicScan acc rl).2 :=
  have d := Protocol.decision acc rl hnd
  ⟨d.kept_sub, d.freed_sub, d.split, d.disj, d.kept_nodup, d.freed_nodup, d.safe, d.live⟩

/-- Slot (u,b,i) is still ahead of a pass that is about to load slot (su,sb,si): a later record; or the same record and
    - the pass is in the initial array (sb = 0): any extension block, or a later index of the initial array;
    - the pass is in extension block sb: an older extension block (b < sb), or a later index of the same block. -/
def AheadLd (su sb si u b i : Nat) : Prop :=
  su < u ∨ (su = u ∧ ((sb = 0 ∧ (1 ≤ b ∨ si ≤ i)) ∨ (1 ≤ sb ∧ 1 ≤ b ∧ (b < sb ∨ (b = sb ∧ si ≤ i)))))

/-- Slot (u,b,i) is still ahead of a pass that is about to load `extended_list_` of record su: a later record, or an
    extension block of the same record. -/
def AheadExt (su u b : Nat) : Prop := su < u ∨ (su = u ∧ 1 ≤ b)

structure PInv (cfg : Cfg) (s : St) : Prop where
  B_pos : 0 < cfg.B
  cnt_pos : 1 ≤ s.cnt
  fresh_hi : ∀ p, s.cnt ≤ p → s.obj p = .fresh
  fresh_zero : s.obj 0 = .fresh
  cell_live : ∀ c p, s.cells c = some p → s.obj p = .live
  cell_inj : ∀ c1 c2 p, s.cells c1 = some p → s.cells c2 = some p → c1 = c2
  flight_live : ∀ t p r, s.pc t = .swapRet p r → s.obj p = .live
  flight_cell : ∀ t p r c, s.pc t = .swapRet p r → s.cells c ≠ some p
  flight_inj : ∀ t1 t2 p r1 r2, s.pc t1 = .swapRet p r1 → s.pc t2 = .swapRet p r2 → t1 = t2
  ret_st : ∀ t p, p ∈ s.retired t → s.obj p = .retired
  ret_nodup : ∀ t, (s.retired t).Nodup
  ret_disj : ∀ t1 t2 p, p ∈ s.retired t1 → p ∈ s.retired t2 → t1 = t2
  log_st : ∀ p, p ∈ s.log ↔ s.obj p = .disposed
  log_nodup : s.log.Nodup
  guard_slot : ∀ u b i p, s.guard u b i = some p → s.slots u b i = some p
  guard_rng : ∀ u b i p, s.guard u b i = some p → u < cfg.T ∧ b ≤ s.nblk u ∧ i < bsize cfg b
  guard_ok : ∀ u b i p, s.guard u b i = some p → s.obj p = .live ∨ s.obj p = .retired
  scan_cov_ld : ∀ sc su sb si acc r u b i p, s.pc sc = .scanLd su sb si acc r →
      s.guard u b i = some p → p ∈ s.retired sc →
      p ∈ acc ∨ AheadLd su sb si u b i
  scan_cov_ext : ∀ sc su acc r u b i p, s.pc sc = .scanExt su acc r →
      s.guard u b i = some p → p ∈ s.retired sc → p ∈ acc ∨ AheadExt su u b
  scan_all : ∀ sc acc r u b i p, s.pc sc = .scanDecide acc r →
      s.guard u b i = some p → p ∈ s.retired sc → p ∈ acc
  scan_rng : ∀ t u b i acc r, s.pc t = .scanLd u b i acc r → u < cfg.T
  scanExt_rng : ∀ t u acc r, s.pc t = .scanExt u acc r → u < cfg.T
  deref_ok : ∀ t b i, s.pc t = .derefRd b i → ∃ p, s.guard t b i = some p
  busy_rng : ∀ t, s.pc t ≠ .idle → t < cfg.T
  hslot_rng : ∀ t h b i, s.hslot t h = some (b, i) → b ≤ s.nblk t ∧ i < bsize cfg b
  flist_rng : ∀ t b i, (b, i) ∈ s.flist t → b ≤ s.nblk t ∧ i < bsize cfg b
  protLd_rng : ∀ t b i c, s.pc t = .protLd b i c → b ≤ s.nblk t ∧ i < bsize cfg b
  protSt_rng : ∀ t b i c p, s.pc t = .protSt b i c p → b ≤ s.nblk t ∧ i < bsize cfg b
  protChk_slot : ∀ t b i c p, s.pc t = .protChk b i c p → b ≤ s.nblk t ∧ i < bsize cfg b ∧ s.slots t b i = p
  clearSt_rng : ∀ t b i, s.pc t = .clearSt b i → b ≤ s.nblk t ∧ i < bsize cfg b
  gfree_rng : ∀ t h b i, s.pc t = .gfreeSt h b i → b ≤ s.nblk t ∧ i < bsize cfg b

theorem mem_initList {n b i : Nat} : (b, i) ∈ initList n ↔ b = 0 ∧ i < n := by
  simp only [initList, List.mem_map, List.mem_range, Prod.mk.injEq]
  constructor
  · rintro ⟨a, ha, rfl, rfl⟩; exact ⟨rfl, ha⟩
  · rintro ⟨rfl, hi⟩; exact ⟨i, hi, rfl, rfl⟩

theorem mem_blockTail {k B b i : Nat} : (b, i) ∈ blockTail k B ↔ b = k ∧ 1 ≤ i ∧ i < B := by
  simp only [blockTail, List.mem_map, List.mem_range, Prod.mk.injEq]
  constructor
  · rintro ⟨a, ha, rfl, rfl⟩; exact ⟨rfl, by omega, by omega⟩
  · rintro ⟨rfl, h1, h2⟩; exact ⟨i - 1, by omega, rfl, by omega⟩

theorem pinv_init (cfg : Cfg) (hB : 0 < cfg.B) : PInv cfg (init cfg) := by
  constructor <;> simp [init, hB, mem_initList, bsize]
  intro b i hb hi; simp [hb, hi]


theorem mem_collect {acc : List Ptr} {v : Option Ptr} {p : Ptr} :
    p ∈ collect acc v ↔ p ∈ acc ∨ v = some p := by
  cases v <;> simp [collect, eq_comm]

/-! ### Program counters of a reclamation pass -/

/-- the plist of a scanning thread -/
def accOf : PC → List Ptr
  | .scanLd _ _ _ acc _ => acc
  | .scanExt _ acc _ => acc
  | .scanDecide acc _ => acc
  | _ => []

/-- inside a reclamation pass -/
def inScan : PC → Prop
  | .scanLd _ _ _ _ _ => True
  | .scanExt _ _ _ => True
  | .scanDecide _ _ => True
  | _ => False

/-- Slot (u,b,i) is ahead of the pass whose program counter is `pc` (false when `pc` is not inside the loading phase
    of a pass). -/
def aheadPC (pc : PC) (u b i : Nat) : Prop :=
  match pc with
  | .scanLd su sb si _ _ => AheadLd su sb si u b i
  | .scanExt su _ _ => AheadExt su u b
  | _ => False

/-- the record a pass is reading -/
def scanRecOf : PC → Option Nat
  | .scanLd u _ _ _ _ => some u
  | .scanExt u _ _ => some u
  | _ => none

theorem scanRec_cases (cfg : Cfg) (u : Nat) (acc : List Ptr) (r : GRet) :
    scanRec cfg u acc r = .scanLd u 0 0 acc r ∨ scanRec cfg u acc r = .scanExt u acc r ∨
    scanRec cfg u acc r = .scanDecide acc r := by
  unfold scanRec; split <;> (try split) <;> simp

theorem accOf_scanRec (cfg : Cfg) (u : Nat) (acc : List Ptr) (r : GRet) : accOf (scanRec cfg u acc r) = acc := by
  rcases scanRec_cases cfg u acc r with e | e | e <;> rw [e] <;> rfl

theorem accOf_scanNext (cfg : Cfg) (w u b i : Nat) (acc : List Ptr) (r : GRet) :
    accOf (scanNext cfg w u b i acc r) = acc := by
  unfold scanNext
  split
  · split <;> rfl
  · split
    · rfl
    · split
      · rfl
      · exact accOf_scanRec _ _ _ _

theorem accOf_scanAfterExt (cfg : Cfg) (u nb : Nat) (acc : List Ptr) (r : GRet) :
    accOf (scanAfterExt cfg u nb acc r) = acc := by
  unfold scanAfterExt; split
  · rfl
  · exact accOf_scanRec _ _ _ _

/-- A program counter inside a pass is none of the others. -/
theorem ne_of_inScan {pc q : PC} (h : inScan pc) (hq : ¬ inScan q) : pc ≠ q := fun e => hq (e ▸ h)

theorem inScan_scanRec (cfg : Cfg) (u : Nat) (acc : List Ptr) (r : GRet) : inScan (scanRec cfg u acc r) := by
  rcases scanRec_cases cfg u acc r with e | e | e <;> rw [e] <;> trivial

theorem inScan_scanNext (cfg : Cfg) (w u b i : Nat) (acc : List Ptr) (r : GRet) : inScan (scanNext cfg w u b i acc r) := by
  unfold scanNext
  split
  · split <;> trivial
  · split
    · trivial
    · split
      · trivial
      · exact inScan_scanRec _ _ _ _

theorem inScan_scanAfterExt (cfg : Cfg) (u nb : Nat) (acc : List Ptr) (r : GRet) : inScan (scanAfterExt cfg u nb acc r) := by
  unfold scanAfterExt
  split
  · trivial
  · exact inScan_scanRec _ _ _ _

theorem upd3_same {α : Type} (f : Nat → Nat → Nat → α) (a b c : Nat) (v : α) : upd3 f a b c v a b c = v := by
  simp [upd3]

theorem upd3_other {α : Type} (f : Nat → Nat → Nat → α) (a b c a' b' c' : Nat) (v : α)
    (h : ¬ (a' = a ∧ b' = b ∧ c' = c)) : upd3 f a b c v a' b' c' = f a' b' c' := by simp [upd3, h]

/-- What an entry of an updated table is. -/
theorem upd3_eq {α : Type} (f : Nat → Nat → Nat → α) (a b c a' b' c' : Nat) (v : α) :
    (a' = a ∧ b' = b ∧ c' = c ∧ upd3 f a b c v a' b' c' = v) ∨
    (¬ (a' = a ∧ b' = b ∧ c' = c) ∧ upd3 f a b c v a' b' c' = f a' b' c') := by
  by_cases e : a' = a ∧ b' = b ∧ c' = c
  · exact Or.inl ⟨e.1, e.2.1, e.2.2, by rw [e.1, e.2.1, e.2.2, upd3_same]⟩
  · exact Or.inr ⟨e, upd3_other _ _ _ _ _ _ _ _ e⟩

/-- Clearing an entry of a table of optional values only removes an entry. -/
theorem of_upd3_none {α : Type} {f : Nat → Nat → Nat → Option α} {a b c a' b' c' : Nat} {x : α}
    (h : upd3 f a b c none a' b' c' = some x) : ¬ (a' = a ∧ b' = b ∧ c' = c) ∧ f a' b' c' = some x := by
  rcases upd3_eq f a b c a' b' c' none with ⟨-, -, -, e⟩ | ⟨hne, e⟩
  · rw [e] at h; cases h
  · exact ⟨hne, e.symm.trans h⟩

/-! ### Thread-modular form of the invariant -/

section
variable {cfg : Cfg} {cells : Nat → Option Ptr} {slots guard : Nat → Nat → Nat → Option Ptr} {nblk : Nat → Nat}
  {flist : Nat → List (Nat × Nat)} {hslot : Tid → Nat → Option (Nat × Nat)} {obj : Ptr → ObjSt} {cnt : Nat}
  {retired : Tid → List Ptr} {log : List Ptr}

theorem states : States ObjSt.fresh ObjSt.live ObjSt.retired ObjSt.disposed :=
  ⟨nofun, nofun, nofun, nofun, nofun, nofun⟩

/-- The clauses of `PInv` about where the objects are. -/
abbrev Places (cells : Nat → Option Ptr) (obj : Ptr → ObjSt) (cnt : Nat) (retired : Tid → List Ptr) (log : List Ptr) :
    Prop :=
  HP.Places ObjSt.fresh ObjSt.live ObjSt.retired ObjSt.disposed cells obj cnt retired log

/-- The clauses of `PInv` about the validated guards. -/
structure Guards (cfg : Cfg) (slots guard : Nat → Nat → Nat → Option Ptr) (nblk : Nat → Nat) (obj : Ptr → ObjSt) :
    Prop where
  guard_slot : ∀ u b i p, guard u b i = some p → slots u b i = some p
  guard_rng : ∀ u b i p, guard u b i = some p → u < cfg.T ∧ b ≤ nblk u ∧ i < bsize cfg b
  guard_ok : ∀ u b i p, guard u b i = some p → obj p = .live ∨ obj p = .retired

/-- The clauses of `PInv` about the guard storage: a linked or free guard lies in a linked block. -/
structure Storage (cfg : Cfg) (nblk : Nat → Nat) (flist : Nat → List (Nat × Nat))
    (hslot : Tid → Nat → Option (Nat × Nat)) : Prop where
  B_pos : 0 < cfg.B
  hslot_rng : ∀ t h b i, hslot t h = some (b, i) → b ≤ nblk t ∧ i < bsize cfg b
  flist_rng : ∀ t b i, (b, i) ∈ flist t → b ≤ nblk t ∧ i < bsize cfg b

/-- the object a `swap` / `take` has unlinked and not yet pushed -/
def flight : PC → Option Ptr
  | .swapRet p _ => some p
  | _ => none

def busy : PC → Prop
  | .idle => False
  | _ => True

/-- the slot a `gfree`, `protect` or `clear` works on -/
def slotAt : PC → Option (Nat × Nat)
  | .gfreeSt _ b i => some (b, i)
  | .protLd b i _ => some (b, i)
  | .protSt b i _ _ => some (b, i)
  | .protChk b i _ _ => some (b, i)
  | .clearSt b i => some (b, i)
  | _ => none

/-- the slot and the candidate of a `protect` between its hazard store and its validating load -/
def chkAt : PC → Option (Nat × Nat × Option Ptr)
  | .protChk b i _ p => some (b, i, p)
  | _ => none

def derefAt : PC → Option (Nat × Nat)
  | .derefRd b i => some (b, i)
  | _ => none

/-- What `PInv` says about thread `t` at program counter `pc`.  The program counter enters through classifying functions
    only, so that the clauses of two program counters with the same classification are the same propositions up to
    computation. -/
structure TInv (cfg : Cfg) (cells : Nat → Option Ptr) (slots guard : Nat → Nat → Nat → Option Ptr) (nblk : Nat → Nat)
    (obj : Ptr → ObjSt) (retired : Tid → List Ptr) (t : Tid) (pc : PC) : Prop where
  flight_live : ∀ p, flight pc = some p → obj p = .live
  flight_cell : ∀ p c, flight pc = some p → cells c ≠ some p
  scan_cov : inScan pc → ∀ u b i p, guard u b i = some p → p ∈ retired t → p ∈ accOf pc ∨ aheadPC pc u b i
  scan_rng : ∀ u, scanRecOf pc = some u → u < cfg.T
  deref_ok : ∀ b i, derefAt pc = some (b, i) → ∃ p, guard t b i = some p
  busy_rng : busy pc → t < cfg.T
  slot_rng : ∀ b i, slotAt pc = some (b, i) → b ≤ nblk t ∧ i < bsize cfg b
  chk_slot : ∀ b i p, chkAt pc = some (b, i, p) → slots t b i = p

/-- Two threads at `p` and `q` do not hold the same unlinked object. -/
def Excl (p q : PC) : Prop := ∀ x, flight p = some x → flight q ≠ some x

theorem PInv.places {s : St} (h : PInv cfg s) : Places s.cells s.obj s.cnt s.retired s.log :=
  ⟨h.cnt_pos, h.fresh_hi, h.fresh_zero, h.cell_live, h.cell_inj, h.ret_st, h.ret_nodup, h.ret_disj, h.log_st,
   h.log_nodup⟩

theorem PInv.guards {s : St} (h : PInv cfg s) : Guards cfg s.slots s.guard s.nblk s.obj :=
  ⟨h.guard_slot, h.guard_rng, h.guard_ok⟩

theorem PInv.storage {s : St} (h : PInv cfg s) : Storage cfg s.nblk s.flist s.hslot :=
  ⟨h.B_pos, h.hslot_rng, h.flist_rng⟩

theorem PInv.thread {s : St} (h : PInv cfg s) (t : Tid) :
    TInv cfg s.cells s.slots s.guard s.nblk s.obj s.retired t (s.pc t) where
  flight_live := fun p e => by
    cases hp : s.pc t <;> simp only [hp, flight, Option.some.injEq, reduceCtorEq] at e
    exact e ▸ h.flight_live t _ _ hp
  flight_cell := fun p c e => by
    cases hp : s.pc t <;> simp only [hp, flight, Option.some.injEq, reduceCtorEq] at e
    exact e ▸ h.flight_cell t _ _ c hp
  scan_cov := fun e u b i p hg hr => by
    cases hp : s.pc t <;> simp only [hp, inScan] at e
    · exact h.scan_cov_ld t _ _ _ _ _ u b i p hp hg hr
    · exact h.scan_cov_ext t _ _ _ u b i p hp hg hr
    · exact Or.inl (h.scan_all t _ _ u b i p hp hg hr)
  scan_rng := fun u e => by
    cases hp : s.pc t <;> simp only [hp, scanRecOf, Option.some.injEq, reduceCtorEq] at e
    · exact e ▸ h.scan_rng t _ _ _ _ _ hp
    · exact e ▸ h.scanExt_rng t _ _ _ hp
  deref_ok := fun b i e => by
    cases hp : s.pc t <;> simp only [hp, derefAt, Option.some.injEq, Prod.mk.injEq, reduceCtorEq] at e
    exact e.1 ▸ e.2 ▸ h.deref_ok t _ _ hp
  busy_rng := fun e => h.busy_rng t fun hp => by rw [hp] at e; exact e
  slot_rng := fun b i e => by
    cases hp : s.pc t <;> simp only [hp, slotAt, Option.some.injEq, Prod.mk.injEq, reduceCtorEq] at e
    · exact e.1 ▸ e.2 ▸ h.gfree_rng t _ _ _ hp
    · exact e.1 ▸ e.2 ▸ h.protLd_rng t _ _ _ hp
    · exact e.1 ▸ e.2 ▸ h.protSt_rng t _ _ _ _ hp
    · exact e.1 ▸ e.2 ▸ ⟨(h.protChk_slot t _ _ _ _ hp).1, (h.protChk_slot t _ _ _ _ hp).2.1⟩
    · exact e.1 ▸ e.2 ▸ h.clearSt_rng t _ _ hp
  chk_slot := fun b i p e => by
    cases hp : s.pc t <;> simp only [hp, chkAt, Option.some.injEq, Prod.mk.injEq, reduceCtorEq] at e
    exact e.1 ▸ e.2.1 ▸ e.2.2 ▸ (h.protChk_slot t _ _ _ _ hp).2.2

theorem PInv.excl {s : St} (h : PInv cfg s) {t u : Tid} (hne : t ≠ u) : Excl (s.pc t) (s.pc u) := fun x e1 e2 => by
  cases hp : s.pc t <;> simp only [hp, flight, Option.some.injEq, reduceCtorEq] at e1
  cases hq : s.pc u <;> simp only [hq, flight, Option.some.injEq, reduceCtorEq] at e2
  exact hne (h.flight_inj t u x _ _ (e1 ▸ hp) (e2 ▸ hq))

theorem PInv.of_parts {s : St} (hP : Places s.cells s.obj s.cnt s.retired s.log)
    (hG : Guards cfg s.slots s.guard s.nblk s.obj) (hS : Storage cfg s.nblk s.flist s.hslot)
    (hT : ∀ t, TInv cfg s.cells s.slots s.guard s.nblk s.obj s.retired t (s.pc t))
    (hE : ∀ t u, t ≠ u → Excl (s.pc t) (s.pc u)) : PInv cfg s where
  B_pos := hS.B_pos
  cnt_pos := hP.cnt_pos
  fresh_hi := hP.fresh_hi
  fresh_zero := hP.fresh_zero
  cell_live := hP.cell_live
  cell_inj := hP.cell_inj
  flight_live := fun t p r e => (hT t).flight_live p (by rw [e]; rfl)
  flight_cell := fun t p r c e => (hT t).flight_cell p c (by rw [e]; rfl)
  flight_inj := fun t u p r1 r2 e1 e2 => Classical.byContradiction fun hne =>
    hE t u hne p (by rw [e1]; rfl) (by rw [e2]; rfl)
  ret_st := hP.ret_st
  ret_nodup := hP.ret_nodup
  ret_disj := hP.ret_disj
  log_st := hP.log_st
  log_nodup := hP.log_nodup
  guard_slot := hG.guard_slot
  guard_rng := hG.guard_rng
  guard_ok := hG.guard_ok
  scan_cov_ld := fun sc su sb si acc r u b i p e hg hr => by
    have hc := (hT sc).scan_cov (by rw [e]; trivial) u b i p hg hr
    rw [e] at hc
    exact hc
  scan_cov_ext := fun sc su acc r u b i p e hg hr => by
    have hc := (hT sc).scan_cov (by rw [e]; trivial) u b i p hg hr
    rw [e] at hc
    exact hc
  scan_all := fun sc acc r u b i p e hg hr => by
    have hc := (hT sc).scan_cov (by rw [e]; trivial) u b i p hg hr
    rw [e] at hc
    exact hc.elim id False.elim
  scan_rng := fun t u b i acc r e => (hT t).scan_rng u (by rw [e]; rfl)
  scanExt_rng := fun t u acc r e => (hT t).scan_rng u (by rw [e]; rfl)
  deref_ok := fun t b i e => (hT t).deref_ok b i (by rw [e]; rfl)
  busy_rng := fun t e => (hT t).busy_rng (by cases hp : s.pc t <;> first | exact absurd hp e | trivial)
  hslot_rng := hS.hslot_rng
  flist_rng := hS.flist_rng
  protLd_rng := fun t b i c e => (hT t).slot_rng b i (by rw [e]; rfl)
  protSt_rng := fun t b i c p e => (hT t).slot_rng b i (by rw [e]; rfl)
  protChk_slot := fun t b i c p e =>
    ⟨((hT t).slot_rng b i (by rw [e]; rfl)).1, ((hT t).slot_rng b i (by rw [e]; rfl)).2,
     (hT t).chk_slot b i p (by rw [e]; rfl)⟩
  clearSt_rng := fun t b i e => (hT t).slot_rng b i (by rw [e]; rfl)
  gfree_rng := fun t h b i e => (hT t).slot_rng b i (by rw [e]; rfl)

/-- The rule for one step of thread `t` to program counter `q`: the memory clauses hold of the new memory, the thread
    clauses hold of `q` and, for the other threads, survive the change of the memory, and `q` holds no object in flight
    that another thread holds. -/
theorem PInv.frame {s s' : St} {t : Tid} {q : PC} (h : PInv cfg s) (hpc : s'.pc = upd s.pc t q)
    (hP : Places s'.cells s'.obj s'.cnt s'.retired s'.log) (hG : Guards cfg s'.slots s'.guard s'.nblk s'.obj)
    (hS : Storage cfg s'.nblk s'.flist s'.hslot)
    (hT : TInv cfg s'.cells s'.slots s'.guard s'.nblk s'.obj s'.retired t q)
    (hO : ∀ u, u ≠ t → TInv cfg s'.cells s'.slots s'.guard s'.nblk s'.obj s'.retired u (s.pc u))
    (hE : ∀ u, u ≠ t → Excl q (s.pc u)) : PInv cfg s' :=
  PInv.of_parts hP hG hS (hpc ▸ forall_upd hT hO) fun _ _ huv =>
    hpc ▸ pairs_upd (E := Excl) (fun e x eq ep => e x ep eq) (fun _ _ => h.excl) hE huv

/-- A step that only moves the program counter of `t`, to a `q` that holds no new object in flight. -/
theorem PInv.move {s : St} {t : Tid} {q : PC} (h : PInv cfg s)
    (hT : TInv cfg s.cells s.slots s.guard s.nblk s.obj s.retired t q)
    (hf : ∀ x, flight q = some x → flight (s.pc t) = some x) : PInv cfg { s with pc := upd s.pc t q } :=
  h.frame rfl h.places h.guards h.storage hT (fun u _ => h.thread u) (fun _ hu x e => h.excl (Ne.symm hu) x (hf x e))

/-- `TInv` reads the memory only through the state and the cells of the object in flight, the validated guards
    against the thread's own retired chain, and the thread's own guards, slots and number of linked blocks. -/
theorem TInv.transfer {cells' : Nat → Option Ptr} {slots' guard' : Nat → Nat → Nat → Option Ptr} {nblk' : Nat → Nat}
    {obj' : Ptr → ObjSt} {retired' : Tid → List Ptr} {u : Tid} {pc : PC}
    (h : TInv cfg cells slots guard nblk obj retired u pc)
    (hlive : ∀ p, flight pc = some p → obj' p = .live)
    (hcell : ∀ p c, flight pc = some p → cells' c ≠ some p)
    (hcov : inScan pc → ∀ v b i p, guard' v b i = some p → p ∈ retired' u → guard v b i = some p ∧ p ∈ retired u)
    (hgd : ∀ b i, derefAt pc = some (b, i) → ∀ p, guard u b i = some p → guard' u b i = some p)
    (hsl : ∀ b i p, chkAt pc = some (b, i, p) → slots' u b i = slots u b i)
    (hnb : nblk u ≤ nblk' u) : TInv cfg cells' slots' guard' nblk' obj' retired' u pc where
  flight_live := hlive
  flight_cell := hcell
  scan_cov := fun e v b i p hg hr => (hcov e v b i p hg hr).elim fun hg' hr' => h.scan_cov e v b i p hg' hr'
  scan_rng := h.scan_rng
  deref_ok := fun b i e => (h.deref_ok b i e).imp fun p hp => hgd b i e p hp
  busy_rng := h.busy_rng
  slot_rng := fun b i e => ⟨Nat.le_trans (h.slot_rng b i e).1 hnb, (h.slot_rng b i e).2⟩
  chk_slot := fun b i p e => (hsl b i p e).trans (h.chk_slot b i p e)

/-! ### The kinds of memory change -/

/-- Thread `t` stores `v` into its hazard slot (b,i); the slot's validated guard is gone. -/
theorem Guards.publish (h : Guards cfg slots guard nblk obj) (t b i : Nat) (v : Option Ptr) :
    Guards cfg (upd3 slots t b i v) (upd3 guard t b i none) nblk obj where
  guard_slot := fun u b' i' p e =>
    (upd3_other _ _ _ _ _ _ _ _ (of_upd3_none e).1).trans (h.guard_slot u b' i' p (of_upd3_none e).2)
  guard_rng := fun u b' i' p e => h.guard_rng u b' i' p (of_upd3_none e).2
  guard_ok := fun u b' i' p e => h.guard_ok u b' i' p (of_upd3_none e).2

/-- The hazard store of `t` does not disturb a thread that relies on no slot of `t`. -/
theorem TInv.publish {u : Tid} {pc : PC} (h : TInv cfg cells slots guard nblk obj retired u pc) (t b i : Nat)
    (v : Option Ptr) (hu : u ≠ t ∨ (derefAt pc = none ∧ chkAt pc = none)) :
    TInv cfg cells (upd3 slots t b i v) (upd3 guard t b i none) nblk obj retired u pc :=
  h.transfer h.flight_live h.flight_cell (fun _ _ _ _ _ e hr => ⟨(of_upd3_none e).2, hr⟩)
    (fun _ _ e p hp =>
      hu.elim (fun hu => (upd3_other _ _ _ _ _ _ _ _ fun e' => hu e'.1).trans hp) fun hn => by simp [hn.1] at e)
    (fun _ _ _ e => hu.elim (fun hu => upd3_other _ _ _ _ _ _ _ _ fun e' => hu e'.1) fun hn => by simp [hn.2] at e)
    (Nat.le_refl _)

/-- The validating load of `t` found its candidate `p` in the cell, so `p` is live: the guard in slot (b,i) of `t` is
    validated. -/
theorem Guards.validate (h : Guards cfg slots guard nblk obj) {t b i : Nat} {p : Option Ptr} (hs : slots t b i = p)
    (hr : t < cfg.T ∧ b ≤ nblk t ∧ i < bsize cfg b) (hl : ∀ x, p = some x → obj x = .live) :
    Guards cfg slots (upd3 guard t b i p) nblk obj where
  guard_slot := fun u b' i' x e => by
    rcases upd3_eq guard t b i u b' i' p with ⟨rfl, rfl, rfl, e'⟩ | ⟨-, e'⟩
    · exact hs.trans (e'.symm.trans e)
    · exact h.guard_slot u b' i' x (e'.symm.trans e)
  guard_rng := fun u b' i' x e => by
    rcases upd3_eq guard t b i u b' i' p with ⟨rfl, rfl, rfl, -⟩ | ⟨-, e'⟩
    · exact hr
    · exact h.guard_rng u b' i' x (e'.symm.trans e)
  guard_ok := fun u b' i' x e => by
    rcases upd3_eq guard t b i u b' i' p with ⟨-, -, -, e'⟩ | ⟨-, e'⟩
    · exact Or.inl (hl x (e'.symm.trans e))
    · exact h.guard_ok u b' i' x (e'.symm.trans e)

/-- A newly validated guard holds a live object, which is in no retired chain: no pass is concerned. -/
theorem TInv.validate {u : Tid} {pc : PC} (h : TInv cfg cells slots guard nblk obj retired u pc)
    (hP : Places cells obj cnt retired log) {t b i : Nat} {p : Option Ptr} (hl : ∀ x, p = some x → obj x = .live)
    (hu : u ≠ t ∨ derefAt pc = none) : TInv cfg cells slots (upd3 guard t b i p) nblk obj retired u pc :=
  h.transfer h.flight_live h.flight_cell
    (fun _ v b' i' x e hr => by
      rcases upd3_eq guard t b i v b' i' p with ⟨-, -, -, e'⟩ | ⟨-, e'⟩
      · have h1 := hl x (e'.symm.trans e)
        rw [hP.ret_st u x hr] at h1
        cases h1
      · exact ⟨e'.symm.trans e, hr⟩)
    (fun _ _ e x hx =>
      hu.elim (fun hu => (upd3_other _ _ _ _ _ _ _ _ fun e' => hu e'.1).trans hx) fun hn => by simp [hn] at e)
    (fun _ _ _ _ => rfl) (Nat.le_refl _)

/-- The guards tolerate every change of object states that keeps `live` and `retired` objects `live` or `retired`. -/
theorem Guards.with_obj (h : Guards cfg slots guard nblk obj) {obj' : Ptr → ObjSt}
    (hk : ∀ u b i p, guard u b i = some p → obj p = .live ∨ obj p = .retired → obj' p = .live ∨ obj' p = .retired) :
    Guards cfg slots guard nblk obj' :=
  ⟨h.guard_slot, h.guard_rng, fun u b i p e => hk u b i p e (h.guard_ok u b i p e)⟩

/-- A change of cells, object states and the retired chains of other threads. -/
theorem TInv.objects {cells' : Nat → Option Ptr} {obj' : Ptr → ObjSt} {retired' : Tid → List Ptr} {u : Tid} {pc : PC}
    (h : TInv cfg cells slots guard nblk obj retired u pc) (hlive : ∀ p, flight pc = some p → obj' p = .live)
    (hcell : ∀ p c, flight pc = some p → cells' c ≠ some p) (hret : retired' u = retired u) :
    TInv cfg cells' slots guard nblk obj' retired' u pc :=
  h.transfer hlive hcell (fun _ _ _ _ _ e hr => ⟨e, hret ▸ hr⟩) (fun _ _ _ _ hp => hp) (fun _ _ _ _ => rfl)
    (Nat.le_refl _)

theorem Guards.alloc (h : Guards cfg slots guard nblk obj) (hP : Places cells obj cnt retired log) :
    Guards cfg slots guard nblk (upd obj cnt .live) :=
  h.with_obj fun _ _ _ p _ hp => by
    rw [(hP.alloc states 0).2 p (by rcases hp with hp | hp <;> simp [hp])]; exact hp

theorem TInv.alloc {u : Tid} {pc : PC} (h : TInv cfg cells slots guard nblk obj retired u pc)
    (hP : Places cells obj cnt retired log) (c : Nat) :
    TInv cfg (upd cells c (some cnt)) slots guard nblk (upd obj cnt .live) retired u pc :=
  have hl : ∀ p, flight pc = some p → upd obj cnt .live p = .live := fun p e => by
    have hl := h.flight_live p e
    exact ((hP.alloc states c).2 p (by simp [hl])).trans hl
  h.objects hl
    (fun p c' e e' => by
      by_cases hc : c' = c
      · rw [hc, upd_same] at e'
        have h2 := hP.fresh_hi cnt (Nat.le_refl _)
        rw [Option.some.inj e', h.flight_live p e] at h2
        cases h2
      · rw [upd_other _ _ _ _ hc] at e'; exact h.flight_cell p c' e e')
    rfl

theorem TInv.take {u : Tid} {pc : PC} (h : TInv cfg cells slots guard nblk obj retired u pc) (c : Nat) :
    TInv cfg (upd cells c none) slots guard nblk obj retired u pc :=
  h.objects h.flight_live
    (fun x c' e e' => by
      by_cases hc : c' = c
      · rw [hc, upd_same] at e'; cases e'
      · rw [upd_other _ _ _ _ hc] at e'; exact h.flight_cell x c' e e')
    rfl

theorem Guards.retire (h : Guards cfg slots guard nblk obj) (p : Ptr) : Guards cfg slots guard nblk (upd obj p .retired) :=
  h.with_obj fun _ _ _ q _ hq => by
    by_cases e : q = p
    · rw [e, upd_same]; exact Or.inr rfl
    · rw [upd_other _ _ _ _ e]; exact hq

/-- The push of another thread, which holds a different object in flight. -/
theorem TInv.retire {u : Tid} {pc : PC} (h : TInv cfg cells slots guard nblk obj retired u pc) {p : Ptr}
    (hne : flight pc ≠ some p) {retired' : Tid → List Ptr} (hu : retired' u = retired u) :
    TInv cfg cells slots guard nblk (upd obj p .retired) retired' u pc :=
  h.objects (fun x e => (upd_other _ _ _ _ fun (e' : x = p) => hne (e' ▸ e)).trans (h.flight_live x e)) h.flight_cell hu

theorem Guards.decide (h : Guards cfg slots guard nblk obj) {freed : List Ptr}
    (hsafe : ∀ u b i p, guard u b i = some p → p ∉ freed) :
    Guards cfg slots guard nblk (fun p => if p ∈ freed then .disposed else obj p) :=
  h.with_obj fun u b i p hg hp => by rw [if_neg (hsafe u b i p hg)]; exact hp

/-- The decision of another thread, which frees only objects of its own retired chain: none in flight. -/
theorem TInv.decide {u : Tid} {pc : PC} (h : TInv cfg cells slots guard nblk obj retired u pc) {freed : List Ptr}
    (hfr : ∀ p, p ∈ freed → obj p = .retired) {retired' : Tid → List Ptr} (hu : retired' u = retired u) :
    TInv cfg cells slots guard nblk (fun p => if p ∈ freed then .disposed else obj p) retired' u pc :=
  h.objects
    (fun x e => by
      have hl := h.flight_live x e
      rw [if_neg fun hf => by rw [hfr x hf] at hl; cases hl]; exact hl)
    h.flight_cell hu

/-- `alloc()` pops guard (b,i) from the free list of `t` and links Guard object `h` to it. -/
theorem Storage.pop (hS : Storage cfg nblk flist hslot) {t b i : Nat} {rest : List (Nat × Nat)} (h : Nat)
    (hfl : flist t = (b, i) :: rest) : Storage cfg nblk (upd flist t rest) (upd2 hslot t h (some (b, i))) where
  B_pos := hS.B_pos
  hslot_rng := fun t' h' b' i' e => by
    rcases upd2_eq hslot t h t' h' (some (b, i)) with ⟨rfl, -, e'⟩ | ⟨-, e'⟩
    · cases e'.symm.trans e
      exact hS.flist_rng t' b i (hfl ▸ List.mem_cons_self)
    · exact hS.hslot_rng t' h' b' i' (e'.symm.trans e)
  flist_rng := fun t' b' i' hm => by
    by_cases ht : t' = t
    · rw [ht, upd_same] at hm; exact ht ▸ hS.flist_rng t b' i' (hfl ▸ List.mem_cons_of_mem _ hm)
    · rw [upd_other _ _ _ _ ht] at hm; exact hS.flist_rng t' b' i' hm

theorem le_upd_succ (f : Nat → Nat) (t u : Nat) : f u ≤ upd f t (f t + 1) u := by
  by_cases hu : u = t
  · rw [hu, upd_same]; exact Nat.le_succ _
  · rw [upd_other _ _ _ _ hu]; exact Nat.le_refl _

/-- `extend()` links block `nblk t + 1` to record `t`; `alloc()` then takes its guard 0 for Guard object `h`. -/
theorem Storage.extend (hS : Storage cfg nblk flist hslot) (t h : Nat) :
    Storage cfg (upd nblk t (nblk t + 1)) (upd flist t (blockTail (nblk t + 1) cfg.B))
      (upd2 hslot t h (some (nblk t + 1, 0))) := by
  have hmono := le_upd_succ nblk t
  have hnew : ∀ i', i' < cfg.B → nblk t + 1 ≤ upd nblk t (nblk t + 1) t ∧ i' < bsize cfg (nblk t + 1) :=
    fun i' hi => ⟨by rw [upd_same]; exact Nat.le_refl _, by simpa [bsize] using hi⟩
  exact {
    B_pos := hS.B_pos
    hslot_rng := fun t' h' b' i' e => by
      rcases upd2_eq hslot t h t' h' (some (nblk t + 1, 0)) with ⟨rfl, -, e'⟩ | ⟨-, e'⟩
      · cases e'.symm.trans e
        exact hnew 0 hS.B_pos
      · have hr := hS.hslot_rng t' h' b' i' (e'.symm.trans e)
        exact ⟨Nat.le_trans hr.1 (hmono t'), hr.2⟩
    flist_rng := fun t' b' i' hm => by
      by_cases ht : t' = t
      · rw [ht, upd_same] at hm
        obtain ⟨rfl, -, hi⟩ := mem_blockTail.mp hm
        exact ht ▸ hnew i' hi
      · rw [upd_other _ _ _ _ ht] at hm
        have hr := hS.flist_rng t' b' i' hm
        exact ⟨Nat.le_trans hr.1 (hmono t'), hr.2⟩ }

/-- `free()` unlinks Guard object `h` and pushes its guard (b,i) on the free list of `t`. -/
theorem Storage.free (hS : Storage cfg nblk flist hslot) {t b i : Nat} (h : Nat) (hr : b ≤ nblk t ∧ i < bsize cfg b) :
    Storage cfg nblk (upd flist t ((b, i) :: flist t)) (upd2 hslot t h none) where
  B_pos := hS.B_pos
  hslot_rng := fun t' h' b' i' e => hS.hslot_rng t' h' b' i' (of_upd2_none e).2
  flist_rng := fun t' b' i' hm => by
    by_cases ht : t' = t
    · rw [ht, upd_same, List.mem_cons] at hm
      rcases hm with e | hm
      · cases e; exact ht ▸ hr
      · exact ht ▸ hS.flist_rng t b' i' hm
    · rw [upd_other _ _ _ _ ht] at hm; exact hS.flist_rng t' b' i' hm

/-- Linking a block disturbs nobody: the linked blocks stay linked. -/
theorem Guards.grow (h : Guards cfg slots guard nblk obj) {nblk' : Nat → Nat} (hn : ∀ u, nblk u ≤ nblk' u) :
    Guards cfg slots guard nblk' obj :=
  ⟨h.guard_slot, fun u b i p e => ⟨(h.guard_rng u b i p e).1, Nat.le_trans (h.guard_rng u b i p e).2.1 (hn u),
    (h.guard_rng u b i p e).2.2⟩, h.guard_ok⟩

theorem TInv.grow {u : Tid} {pc : PC} (h : TInv cfg cells slots guard nblk obj retired u pc) {nblk' : Nat → Nat}
    (hn : nblk u ≤ nblk' u) : TInv cfg cells slots guard nblk' obj retired u pc :=
  h.transfer h.flight_live h.flight_cell (fun _ _ _ _ _ e hr => ⟨e, hr⟩) (fun _ _ _ _ hp => hp) (fun _ _ _ _ => rfl) hn

/-! ### The program counters of a pass -/

/-- A finished operation claims nothing. -/
theorem TInv.done {t : Tid} (ht : t < cfg.T) (r : GRet) : TInv cfg cells slots guard nblk obj retired t (.done r) :=
  ⟨nofun, nofun, False.elim, nofun, nofun, fun _ => ht, nofun, nofun⟩

/-- An idle thread claims nothing. -/
theorem TInv.idle {t : Tid} : TInv cfg cells slots guard nblk obj retired t .idle :=
  ⟨nofun, nofun, False.elim, nofun, nofun, False.elim, nofun, nofun⟩

theorem inScan_cases {pc : PC} (h : inScan pc) :
    (∃ u b i acc r, pc = .scanLd u b i acc r) ∨ (∃ u acc r, pc = .scanExt u acc r) ∨ ∃ acc r, pc = .scanDecide acc r := by
  cases pc <;> simp [inScan] at h ⊢

/-- What a thread inside a pass has to establish. -/
theorem TInv.scan {t : Tid} {pc : PC} (hpc : inScan pc) (ht : t < cfg.T) (hrec : ∀ u, scanRecOf pc = some u → u < cfg.T)
    (hcov : ∀ u b i p, guard u b i = some p → p ∈ retired t → p ∈ accOf pc ∨ aheadPC pc u b i) :
    TInv cfg cells slots guard nblk obj retired t pc := by
  rcases inScan_cases hpc with ⟨u, b, i, acc, r, rfl⟩ | ⟨u, acc, r, rfl⟩ | ⟨acc, r, rfl⟩
  · exact ⟨nofun, nofun, fun _ => hcov, hrec, nofun, fun _ => ht, nofun, nofun⟩
  · exact ⟨nofun, nofun, fun _ => hcov, hrec, nofun, fun _ => ht, nofun, nofun⟩
  · exact ⟨nofun, nofun, fun _ => hcov, hrec, nofun, fun _ => ht, nofun, nofun⟩

theorem flight_of_inScan {pc : PC} (h : inScan pc) (x : Ptr) : flight pc ≠ some x := by
  rcases inScan_cases h with ⟨u, b, i, acc, r, rfl⟩ | ⟨u, acc, r, rfl⟩ | ⟨acc, r, rfl⟩ <;> nofun

theorem scanRecOf_scanRec {cfg : Cfg} {u u' : Nat} {acc : List Ptr} {r : GRet}
    (h : scanRecOf (scanRec cfg u acc r) = some u') : u' < cfg.T := by
  unfold scanRec at h
  split at h
  · next hu => split at h <;> cases h <;> exact hu
  · cases h

theorem scanRecOf_scanNext {cfg : Cfg} {w u b i u' : Nat} {acc : List Ptr} {r : GRet} (hu : u < cfg.T)
    (h : scanRecOf (scanNext cfg w u b i acc r) = some u') : u' < cfg.T := by
  unfold scanNext at h
  split at h
  · split at h <;> cases h <;> exact hu
  · split at h
    · cases h; exact hu
    · split at h
      · cases h; exact hu
      · exact scanRecOf_scanRec h

theorem scanRecOf_scanAfterExt {cfg : Cfg} {u nb u' : Nat} {acc : List Ptr} {r : GRet} (hu : u < cfg.T)
    (h : scanRecOf (scanAfterExt cfg u nb acc r) = some u') : u' < cfg.T := by
  unfold scanAfterExt at h
  split at h
  · cases h; exact hu
  · exact scanRecOf_scanRec h

/-! The moves of a pass: every slot that was ahead, except the one just loaded, is still ahead. -/

/-- next slot of the same block (initial array or extension block) -/
theorem ahead_same {su sb si u b i : Nat} (ha : AheadLd su sb si u b i) (hne : ¬ (u = su ∧ b = sb ∧ i = si)) :
    AheadLd su sb (si + 1) u b i := by
  unfold AheadLd at *; omega

/-- the initial array has been read: next, the load of `extended_list_` -/
theorem ahead_to_ext {cfg : Cfg} {su si u b i : Nat} (ha : AheadLd su 0 si u b i) (hne : ¬ (u = su ∧ b = 0 ∧ i = si))
    (hb : ¬ si + 1 < cfg.init) (hi : i < bsize cfg b) : AheadExt su u b := by
  unfold bsize at hi
  unfold AheadLd at ha
  unfold AheadExt
  split at hi <;> omega

/-- ALL `B` slots of extension block `sb` have been read: next, block `sb - 1`.  (With a pass that reads fewer than `B`
    slots of an extension block - hypothesis `hb` weakened to `¬ si + 1 < w`, `w < B` - this lemma is false: a guard at
    index `>= w` of block `sb` is not ahead any more, and has not been loaded.) -/
theorem pinv_scanLd_next_blk {cfg : Cfg} {su sb si u b i : Nat} (ha : AheadLd su sb si u b i)
    (hne : ¬ (u = su ∧ b = sb ∧ i = si)) (hb0 : sb ≠ 0) (hb : ¬ si + 1 < cfg.B) (hi : i < bsize cfg b) :
    AheadLd su (sb - 1) 0 u b i := by
  unfold bsize at hi
  unfold AheadLd at *
  split at hi <;> omega

/-- ALL `B` slots of the oldest extension block have been read: next, the following record. -/
theorem pinv_scanLd_last {cfg : Cfg} {su sb si u b i : Nat} (ha : AheadLd su sb si u b i)
    (hne : ¬ (u = su ∧ b = sb ∧ i = si)) (hb0 : sb ≠ 0) (hb : ¬ si + 1 < cfg.B) (hb1 : ¬ 1 < sb)
    (hi : i < bsize cfg b) : su + 1 ≤ u := by
  unfold bsize at hi
  unfold AheadLd at ha
  split at hi <;> omega

/-- The start of a pass on record `su`: every slot of the records `su, su+1, ..` is ahead. -/
theorem ahead_scanRec (cfg : Cfg) (su : Nat) (acc : List Ptr) (r : GRet) (u b i : Nat) (hu : u < cfg.T) (hsu : su ≤ u)
    (hi : i < bsize cfg b) : aheadPC (scanRec cfg su acc r) u b i := by
  unfold scanRec
  have : su < cfg.T := by omega
  simp only [this, if_true]
  unfold bsize at hi
  split
  · simp only [aheadPC, AheadLd, true_and]; omega
  · simp only [aheadPC, AheadExt]
    split at hi <;> omega

/-- A pass loads slot (su,sb,si) and moves on. -/
theorem ahead_scanNext {cfg : Cfg} {su sb si u b i : Nat} (acc : List Ptr) (r : GRet) (ha : AheadLd su sb si u b i)
    (hu : u < cfg.T) (hi : i < bsize cfg b) :
    (u = su ∧ b = sb ∧ i = si) ∨ aheadPC (scanNext cfg cfg.B su sb si acc r) u b i := by
  by_cases hne : u = su ∧ b = sb ∧ i = si
  · exact Or.inl hne
  · refine Or.inr ?_
    unfold scanNext
    split
    · next hb0 =>
      subst hb0
      split
      · exact ahead_same ha hne
      · next hb => exact ahead_to_ext ha hne hb hi
    · next hb0 =>
      split
      · exact ahead_same ha hne
      · next hb =>
        split
        · exact pinv_scanLd_next_blk ha hne hb0 hb hi
        · next hb1 => exact ahead_scanRec cfg _ acc r u b i hu (pinv_scanLd_last ha hne hb0 hb hb1 hi) hi

/-- A pass loads `extended_list_` of record `su`, which has `nb` blocks: the blocks linked later are not ahead. -/
theorem ahead_scanAfterExt {cfg : Cfg} {su u b i nb : Nat} (acc : List Ptr) (r : GRet) (ha : AheadExt su u b)
    (hu : u < cfg.T) (hb : su = u → b ≤ nb) (hi : i < bsize cfg b) : aheadPC (scanAfterExt cfg su nb acc r) u b i := by
  unfold AheadExt at ha
  unfold scanAfterExt
  split
  · show AheadLd su nb 0 u b i
    unfold AheadLd; omega
  · exact ahead_scanRec cfg _ acc r u b i hu (by omega) hi

/-- A pass (re)positions itself at the start of record `u`, every guarded retired object of the records before `u`
    being in its plist. -/
theorem TInv.scanRec {t : Tid} (hG : Guards cfg slots guard nblk obj) (ht : t < cfg.T) {u : Nat} {acc : List Ptr} (r : GRet)
    (cov : ∀ u' b i p, guard u' b i = some p → p ∈ retired t → p ∈ acc ∨ u ≤ u') :
    TInv cfg cells slots guard nblk obj retired t (scanRec cfg u acc r) :=
  TInv.scan (inScan_scanRec cfg u acc r) ht (fun _ => scanRecOf_scanRec) fun u' b i p hg hr => by
    rw [accOf_scanRec]
    have hrng := hG.guard_rng u' b i p hg
    exact (cov u' b i p hg hr).imp id fun hle => ahead_scanRec cfg u acc r u' b i hrng.1 hle hrng.2.2

/-- The pass has loaded slot (u,b,i): a guard in that slot is in the plist now (`guard_slot`), every other slot that was
    ahead still is. -/
theorem TInv.scanNext {t : Tid} {u b i : Nat} {acc : List Ptr} {r : GRet} (hG : Guards cfg slots guard nblk obj)
    (h : TInv cfg cells slots guard nblk obj retired t (.scanLd u b i acc r)) :
    TInv cfg cells slots guard nblk obj retired t (scanNext cfg cfg.B u b i (collect acc (slots u b i)) r) :=
  TInv.scan (inScan_scanNext ..) (h.busy_rng trivial) (fun _ => scanRecOf_scanNext (h.scan_rng u rfl))
    fun u' b' i' p hg hr => by
      rw [accOf_scanNext]
      have hrng := hG.guard_rng u' b' i' p hg
      rcases h.scan_cov trivial u' b' i' p hg hr with ha | ha
      · exact Or.inl (mem_collect.mpr (Or.inl ha))
      · rcases ahead_scanNext _ r ha hrng.1 hrng.2.2 with ⟨rfl, rfl, rfl⟩ | ha'
        · exact Or.inl (mem_collect.mpr (Or.inr (hG.guard_slot _ _ _ p hg)))
        · exact Or.inr ha'

/-- The pass has loaded `extended_list_` of record `u`: a validated guard lies in a block that is linked now
    (`guard_rng`), so the pass will read it. -/
theorem TInv.scanAfterExt {t : Tid} {u : Nat} {acc : List Ptr} {r : GRet} (hG : Guards cfg slots guard nblk obj)
    (h : TInv cfg cells slots guard nblk obj retired t (.scanExt u acc r)) :
    TInv cfg cells slots guard nblk obj retired t (scanAfterExt cfg u (nblk u) acc r) :=
  TInv.scan (inScan_scanAfterExt ..) (h.busy_rng trivial) (fun _ => scanRecOf_scanAfterExt (h.scan_rng u rfl))
    fun u' b' i' p hg hr => by
      rw [accOf_scanAfterExt]
      have hrng := hG.guard_rng u' b' i' p hg
      exact (h.scan_cov trivial u' b' i' p hg hr).imp id fun ha =>
        ahead_scanAfterExt acc r ha hrng.1 (fun e => e ▸ hrng.2.1) hrng.2.2

/-! ### Every enabled action preserves the invariant -/

variable {s s' : St} {t : Tid} {ev : Ev}

theorem pinv_galloc {h : Nat} (hI : PInv cfg s) (hpc : s.pc t = .gallocDo h) (hs : step cfg s t = some (s', ev)) :
    PInv cfg s' := by
  have ht := hI.busy_rng t (by simp [hpc])
  simp only [step, stepW, hpc] at hs
  split at hs
  · next b i rest hfl =>
    simp only [Option.some.injEq, Prod.mk.injEq] at hs
    obtain ⟨rfl, -⟩ := hs
    exact hI.frame rfl hI.places hI.guards (hI.storage.pop h hfl) (TInv.done ht _) (fun u _ => hI.thread u)
      (fun _ _ => nofun)
  · simp only [Option.some.injEq, Prod.mk.injEq] at hs
    obtain ⟨rfl, -⟩ := hs
    have hmono := le_upd_succ s.nblk t
    exact hI.frame rfl hI.places (hI.guards.grow hmono) (hI.storage.extend t h) (TInv.done ht _)
      (fun u _ => (hI.thread u).grow (hmono u)) (fun _ _ => nofun)

theorem pinv_gfree {h b i : Nat} (hI : PInv cfg s) (hpc : s.pc t = .gfreeSt h b i) (hs : step cfg s t = some (s', ev)) :
    PInv cfg s' := by
  have hT := hI.thread t
  rw [hpc] at hT
  simp only [step, stepW, hpc, Option.some.injEq, Prod.mk.injEq] at hs
  obtain ⟨rfl, -⟩ := hs
  exact hI.frame rfl hI.places (hI.guards.publish t b i none) (hI.storage.free h (hT.slot_rng b i rfl))
    (TInv.done (hT.busy_rng trivial) _) (fun u hu => (hI.thread u).publish t b i none (Or.inl hu)) (fun _ _ => nofun)

theorem pinv_protLd {b i c : Nat} (hI : PInv cfg s) (hpc : s.pc t = .protLd b i c) (hs : step cfg s t = some (s', ev)) :
    PInv cfg s' := by
  have hT := hI.thread t
  rw [hpc] at hT
  simp only [step, stepW, hpc, Option.some.injEq, Prod.mk.injEq] at hs
  obtain ⟨rfl, -⟩ := hs
  exact hI.move { hT with } nofun

theorem pinv_protSt {b i c : Nat} {p : Option Ptr} (hI : PInv cfg s) (hpc : s.pc t = .protSt b i c p)
    (hs : step cfg s t = some (s', ev)) : PInv cfg s' := by
  have hT := hI.thread t
  rw [hpc] at hT
  simp only [step, stepW, hpc, Option.some.injEq, Prod.mk.injEq] at hs
  obtain ⟨rfl, -⟩ := hs
  exact hI.frame rfl hI.places (hI.guards.publish t b i p) hI.storage
    { hT.publish t b i p (Or.inr ⟨rfl, rfl⟩) with chk_slot := fun _ _ _ e => by cases e; exact upd3_same _ _ _ _ _ }
    (fun u hu => (hI.thread u).publish t b i p (Or.inl hu)) (fun _ _ => nofun)

theorem pinv_protChk {b i c : Nat} {p : Option Ptr} (hI : PInv cfg s) (hpc : s.pc t = .protChk b i c p)
    (hs : step cfg s t = some (s', ev)) : PInv cfg s' := by
  have hT := hI.thread t
  rw [hpc] at hT
  simp only [step, stepW, hpc] at hs
  split at hs
  · next hc =>
    simp only [Option.some.injEq, Prod.mk.injEq] at hs
    obtain ⟨rfl, -⟩ := hs
    have hl : ∀ x, p = some x → s.obj x = .live := fun x e => hI.cell_live c x (hc.trans e)
    have hr := hT.slot_rng b i rfl
    exact hI.frame rfl hI.places (hI.guards.validate (hT.chk_slot b i p rfl) ⟨hT.busy_rng trivial, hr.1, hr.2⟩ hl)
      hI.storage { hT.validate hI.places hl (Or.inr rfl) with slot_rng := nofun, chk_slot := nofun }
      (fun u hu => (hI.thread u).validate hI.places hl (Or.inl hu)) (fun _ _ => nofun)
  · simp only [Option.some.injEq, Prod.mk.injEq] at hs
    obtain ⟨rfl, -⟩ := hs
    exact hI.move { hT with chk_slot := nofun } nofun

theorem pinv_clearSt {b i : Nat} (hI : PInv cfg s) (hpc : s.pc t = .clearSt b i) (hs : step cfg s t = some (s', ev)) :
    PInv cfg s' := by
  have hT := hI.thread t
  rw [hpc] at hT
  simp only [step, stepW, hpc, Option.some.injEq, Prod.mk.injEq] at hs
  obtain ⟨rfl, -⟩ := hs
  exact hI.frame rfl hI.places (hI.guards.publish t b i none) hI.storage (TInv.done (hT.busy_rng trivial) _)
    (fun u hu => (hI.thread u).publish t b i none (Or.inl hu)) (fun _ _ => nofun)

theorem pinv_swapX_alloc {c : Nat} (hI : PInv cfg s) (hpc : s.pc t = .swapX c true) (hs : step cfg s t = some (s', ev)) :
    PInv cfg s' := by
  have hT := hI.thread t
  rw [hpc] at hT
  have keep := (hI.places.alloc states c).2
  have hG := hI.guards.alloc hI.places
  simp only [step, stepW, hpc] at hs
  split at hs
  · simp only [Option.some.injEq, Prod.mk.injEq] at hs
    obtain ⟨rfl, -⟩ := hs
    exact hI.frame rfl (hI.places.alloc states c).1 hG hI.storage { hT.alloc hI.places c with }
      (fun u _ => (hI.thread u).alloc hI.places c) (fun _ _ => nofun)
  · next p hc =>
    simp only [Option.some.injEq, Prod.mk.injEq] at hs
    obtain ⟨rfl, -⟩ := hs
    have hl := hI.cell_live c p hc
    have hne : some s.cnt ≠ some p := fun e => by
      rw [← Option.some.inj e, hI.fresh_hi s.cnt (Nat.le_refl _)] at hl; cases hl
    exact hI.frame rfl (hI.places.alloc states c).1 hG hI.storage
      { hT.alloc hI.places c with
        flight_live := fun _ e => by cases e; exact (keep p (by simp [hl])).trans hl
        flight_cell := fun _ c' e => by cases e; exact hI.places.unlinked hc hne c' }
      (fun u _ => (hI.thread u).alloc hI.places c)
      (fun u _ _ e e' => by cases e; exact (hI.thread u).flight_cell p c e' hc)

theorem pinv_swapX_take {c : Nat} (hI : PInv cfg s) (hpc : s.pc t = .swapX c false) (hs : step cfg s t = some (s', ev)) :
    PInv cfg s' := by
  have hT := hI.thread t
  rw [hpc] at hT
  simp only [step, stepW, hpc] at hs
  split at hs
  · simp only [Option.some.injEq, Prod.mk.injEq] at hs
    obtain ⟨rfl, -⟩ := hs
    exact hI.move { hT with } nofun
  · next p hc =>
    simp only [Option.some.injEq, Prod.mk.injEq] at hs
    obtain ⟨rfl, -⟩ := hs
    exact hI.frame rfl (hI.places.take c) hI.guards hI.storage
      { hT.take c with
        flight_live := fun _ e => by cases e; exact hI.cell_live c p hc
        flight_cell := fun _ c' e => by cases e; exact hI.places.unlinked hc (v := none) nofun c' }
      (fun u _ => (hI.thread u).take c)
      (fun u _ _ e e' => by cases e; exact (hI.thread u).flight_cell p c e' hc)

theorem pinv_swapRet {p : Ptr} {r : GRet} (hI : PInv cfg s) (hpc : s.pc t = .swapRet p r)
    (hs : step cfg s t = some (s', ev)) : PInv cfg s' := by
  have hT := hI.thread t
  rw [hpc] at hT
  have hl := hT.flight_live p rfl
  have ht := hT.busy_rng trivial
  simp only [step, stepW, hpc, Option.some.injEq, Prod.mk.injEq] at hs
  obtain ⟨rfl, -⟩ := hs
  have hG := hI.guards.retire p
  refine hI.frame rfl (hI.places.retire states t hl fun c => hT.flight_cell p c rfl) hG hI.storage ?_
    (fun u hu => (hI.thread u).retire (hI.excl (Ne.symm hu) p (by rw [hpc]; rfl)) (upd_other _ _ _ _ hu))
    (fun u _ x e => ?_)
  · split
    · exact TInv.done ht r
    · exact TInv.scanRec hG ht r fun _ _ _ _ _ _ => Or.inr (Nat.zero_le _)
  · split at e
    · cases e
    · exact absurd e (flight_of_inScan (inScan_scanRec ..) x)

theorem pinv_scanLd {u b i : Nat} {acc : List Ptr} {r : GRet} (hI : PInv cfg s) (hpc : s.pc t = .scanLd u b i acc r)
    (hs : step cfg s t = some (s', ev)) : PInv cfg s' := by
  have hT := hI.thread t
  rw [hpc] at hT
  simp only [step, stepW, hpc, Option.some.injEq, Prod.mk.injEq] at hs
  obtain ⟨rfl, -⟩ := hs
  exact hI.move (hT.scanNext hI.guards) fun x e => absurd e (flight_of_inScan (inScan_scanNext ..) x)

theorem pinv_scanExt {u : Nat} {acc : List Ptr} {r : GRet} (hI : PInv cfg s) (hpc : s.pc t = .scanExt u acc r)
    (hs : step cfg s t = some (s', ev)) : PInv cfg s' := by
  have hT := hI.thread t
  rw [hpc] at hT
  simp only [step, stepW, hpc, Option.some.injEq, Prod.mk.injEq] at hs
  obtain ⟨rfl, -⟩ := hs
  exact hI.move (hT.scanAfterExt hI.guards) fun x e => absurd e (flight_of_inScan (inScan_scanAfterExt ..) x)

/-- At the decision step of a pass, no validated guard - in an initial array or in an extension block - holds an object
    that the pass hands to the disposer. -/
theorem decide_unguarded {acc : List Ptr} {r : GRet} (h : PInv cfg s) (hpc : s.pc t = .scanDecide acc r) :
    ∀ p ∈ (classicScan acc (s.retired t)).2, ∀ u b i, s.guard u b i ≠ some p := by
  intro p hp u b i hg
  have d := decision acc _ (h.ret_nodup t)
  have hr := d.freed_sub p hp
  have hacc := h.scan_all t acc r u b i p hpc hg hr
  have hne : p ≠ 0 := by
    intro e; have h1 := h.ret_st t p hr; have h0 := h.fresh_zero; rw [e] at h1; rw [h1] at h0; cases h0
  exact d.safe p hp hne hacc

theorem pinv_scanDecide {acc : List Ptr} {r : GRet} (hI : PInv cfg s) (hpc : s.pc t = .scanDecide acc r)
    (hs : step cfg s t = some (s', ev)) : PInv cfg s' := by
  have ht := hI.busy_rng t (by simp [hpc])
  have hd := decision acc _ (hI.ret_nodup t)
  have hsafe := decide_unguarded hI hpc
  simp only [step, stepW, hpc, Option.some.injEq, Prod.mk.injEq] at hs
  obtain ⟨rfl, -⟩ := hs
  exact hI.frame rfl
    (hI.places.decide states t (fun p hp => ⟨hd.kept_sub p hp, hd.disj p hp⟩) hd.freed_sub hd.kept_nodup hd.freed_nodup)
    (hI.guards.decide fun u b i p hg hf => hsafe p hf u b i hg) hI.storage (TInv.done ht r)
    (fun u hu => (hI.thread u).decide (fun p hp => hI.ret_st t p (hd.freed_sub p hp)) (upd_other _ _ _ _ hu))
    (fun _ _ => nofun)

theorem pinv_derefRd {b i : Nat} (hI : PInv cfg s) (hpc : s.pc t = .derefRd b i) (hs : step cfg s t = some (s', ev)) :
    PInv cfg s' := by
  have ht := hI.busy_rng t (by simp [hpc])
  simp only [step, stepW, hpc] at hs
  split at hs
  · simp only [Option.some.injEq, Prod.mk.injEq] at hs
    obtain ⟨rfl, -⟩ := hs
    exact hI.move (TInv.done ht _) nofun
  · cases hs

theorem pinv_result {r : GRet} (hI : PInv cfg s) (hs : result s t = some (s', r)) : PInv cfg s' := by
  unfold result at hs
  split at hs
  · simp only [Option.some.injEq, Prod.mk.injEq] at hs
    obtain ⟨rfl, -⟩ := hs
    exact hI.move TInv.idle nofun
  · cases hs

theorem pinv_invoke {op : GOp} (hI : PInv cfg s) (hs : invoke cfg s t op = some s') : PInv cfg s' := by
  unfold invoke at hs
  split at hs
  next ht =>
    have hT : s.pc t = .idle → TInv cfg s.cells s.slots s.guard s.nblk s.obj s.retired t .idle :=
      fun e => e ▸ hI.thread t
    -- a thread that starts to work on the slot its Guard object is linked to
    have hslot : ∀ {h b i}, s.hslot t h = some (b, i) → b ≤ s.nblk t ∧ i < bsize cfg b := fun e => hI.hslot_rng t _ _ _ e
    split at hs
    · split at hs
      · cases hs
        exact hI.move { hT (by assumption) with busy_rng := fun _ => ht } nofun
      · cases hs
    · split at hs
      · cases hs
        exact hI.move { hT (by assumption) with
          busy_rng := fun _ => ht, slot_rng := fun _ _ e => by cases e; exact hslot (by assumption) } nofun
      · cases hs
    · split at hs
      · cases hs
        exact hI.move { hT (by assumption) with
          busy_rng := fun _ => ht, slot_rng := fun _ _ e => by cases e; exact hslot (by assumption) } nofun
      · cases hs
    · split at hs
      · cases hs
        exact hI.move { hT (by assumption) with
          busy_rng := fun _ => ht, slot_rng := fun _ _ e => by cases e; exact hslot (by assumption) } nofun
      · cases hs
    · cases hs
      exact hI.move { hT (by assumption) with busy_rng := fun _ => ht } nofun
    · cases hs
      exact hI.move { hT (by assumption) with busy_rng := fun _ => ht } nofun
    · cases hs
      exact hI.move (TInv.scanRec hI.guards ht [] fun _ _ _ _ _ _ => Or.inr (Nat.zero_le _))
        fun x e => absurd e (flight_of_inScan (inScan_scanRec ..) x)
    · split at hs
      · split at hs
        · cases hs
          exact hI.move { hT (by assumption) with
            busy_rng := fun _ => ht
            deref_ok := fun _ _ e => by cases e; exact Option.isSome_iff_exists.mp (by assumption) } nofun
        · cases hs
      · cases hs
    · cases hs
  · cases hs

theorem pinv_step (hI : PInv cfg s) (hs : step cfg s t = some (s', ev)) : PInv cfg s' := by
  cases hpc : s.pc t with
  | idle => simp [step, stepW, hpc] at hs
  | gallocDo h => exact pinv_galloc hI hpc hs
  | gfreeSt h b i => exact pinv_gfree hI hpc hs
  | protLd b i c => exact pinv_protLd hI hpc hs
  | protSt b i c p => exact pinv_protSt hI hpc hs
  | protChk b i c p => exact pinv_protChk hI hpc hs
  | clearSt b i => exact pinv_clearSt hI hpc hs
  | swapX c b =>
    cases b
    · exact pinv_swapX_take hI hpc hs
    · exact pinv_swapX_alloc hI hpc hs
  | swapRet p r => exact pinv_swapRet hI hpc hs
  | scanLd u b i acc r => exact pinv_scanLd hI hpc hs
  | scanExt u acc r => exact pinv_scanExt hI hpc hs
  | scanDecide acc r => exact pinv_scanDecide hI hpc hs
  | derefRd b i => exact pinv_derefRd hI hpc hs
  | done r => simp [step, stepW, hpc] at hs

end

theorem pinv_apply (cfg : Cfg) (s : St) (t : Tid) (a : Act) (s' : St) (o : Obs)
    (hI : PInv cfg s) (hap : (model cfg).apply s t a = some (s', o)) : PInv cfg s' := by
  rcases Model.apply_cases hap with ⟨op, -, hi, -⟩ | ⟨ev, -, hs, -⟩ | ⟨r, -, hr, -⟩
  · exact pinv_invoke hI hi
  · exact pinv_step hI hs
  · exact pinv_result hI hr

/-- The invariant holds in every reachable state: all configurations with `B >= 1`, all schedules, all client programs. -/
theorem pinv_reachable (cfg : Cfg) (hB : 0 < cfg.B) (s : St) (hr : (model cfg).Reachable (init cfg) s) : PInv cfg s :=
  (model cfg).inv_reachable (PInv cfg) (init cfg) (pinv_init cfg hB) (pinv_apply cfg) s hr

/-- ... and is preserved along every run from a state that satisfies it. -/
theorem pinv_run (cfg : Cfg) (sched : List (Tid × Act)) (s s' : St) (os : List (Tid × Obs))
    (h : PInv cfg s) (hr : (model cfg).run s sched = some (s', os)) : PInv cfg s' :=
  (model cfg).inv_of_inductive (PInv cfg) (pinv_apply cfg) sched s s' os h hr

end CdsVerif.Algo.DHP
