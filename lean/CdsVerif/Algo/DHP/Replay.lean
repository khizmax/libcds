/-
  Tie A for the dynamic-hazard-pointer machine (`Algo/DHP/Model`): what `cdsdriver replay dhp` runs.

  The machine `DHP.model cfg` is parameterised by the configuration `cfg = {init, B, T, RB}`; the driver's replay loop
  takes one model and an initial state built from the header line of each case, so the configuration travels in
  the state (`RSt`).  `modelR` is `DHP.model` on the `st` component, unchanged, except for the RENDERING of one
  event: the machine prints the list of disposed objects of a decision step with `toString` (`[1, 2]`), and a trace
  line is split on blanks, so the blanks are removed (`[1,2]`).  `modelR_run` states that every run of `modelR` is a
  run of `DHP.model` with the same schedule: every state the driver reaches while it accepts a real trace is a
  reachable state of the machine the theorems of `Inv` / `Facts` / `Props/C02DHP` speak about (`reachable_of_run`).

  Initial state.  The harness client (harness/clients/smr.cpp, option `--static 1`, variants dhp / dhp_many) fills
  cells `0 .. cells-1` with the objects `1 .. cells` before the threads start; no Guard object exists yet (the traced
  programs construct them with `galloc`).  `prefill` reaches that state BY RUNNING THE MACHINE: thread 0 performs
  `swap [c]` for `c = 0 .. cells-1` from `DHP.init cfg` (nothing is retired: the cells are empty), so the initial state
  of a replay is reachable from `init cfg` too (`initCfg_reachable`).

  Header words used: `init=<guards of an initial array>` `B=<guards of an extension block>` `T=<records = threads>`
  `RB=<entries of a retired block>` `cells=<n>`.

  `safeB` is the executable form of the safety theorem `C02_guarded_never_disposed`, evaluated by the driver after
  every accepted step over every slot of every linked block (it cannot fail on a state reached through `modelR`; it is
  the check that the driver's state is the one the theorem is about).
-/
import CdsVerif.Algo.DHP.Model
import CdsVerif.Algo.HP.Common
namespace CdsVerif.Algo.DHP.Replay
open CdsVerif.Machine CdsVerif.Spec CdsVerif.Algo.HP CdsVerif.Algo.DHP

structure RSt where
  cfg : Cfg
  st : St

/-- blanks removed from the list of a `free` event (trace lines are split on blanks); all other events unchanged -/
def fixEv (e : Ev) : Ev :=
  if e.kind = "free" then { e with a := String.ofList (e.a.toList.filter (· ≠ ' ')) } else e

def modelR : Model RSt :=
  ⟨fun s t op => (invoke s.cfg s.st t op).map (fun st' => { s with st := st' }),
   fun s t => (step s.cfg s.st t).map (fun r => ({ s with st := r.1 }, fixEv r.2)),
   fun s t => (result s.st t).map (fun r => ({ s with st := r.1 }, r.2))⟩

/-- The machine of the code before the repair of `retired_array::extend()` (`DHP.modelUnrepaired`), in the same wrapping:
    `cdsdriver replay dhp_unrepaired`.  Used to show that the finding is characterised exactly: traces of the unrepaired
    library in which a retired chain is extended replay on this machine and diverge on `modelR`.  No theorem is stated
    about it. -/
def modelRU : Model RSt :=
  ⟨fun s t op => (invoke s.cfg s.st t op).map (fun st' => { s with st := st' }),
   fun s t => (stepW s.cfg.B true s.cfg s.st t).map (fun r => ({ s with st := r.1 }, fixEv r.2)),
   fun s t => (result s.st t).map (fun r => ({ s with st := r.1 }, r.2))⟩

/-- Every run of the replay model is a run of the machine (same schedule, same states). -/
theorem modelR_run (sched : List (Tid × Act)) :
    ∀ (s s' : RSt) (os : List (Tid × Obs)), modelR.run s sched = some (s', os) →
      s'.cfg = s.cfg ∧ ∃ os', (model s.cfg).run s.st sched = some (s'.st, os') := by
  refine Model.run_lift modelR model RSt.cfg RSt.st (fun s t a s1 o hap => ?_) sched
  cases a with
  | invoke op =>
    simp only [Model.apply, modelR, Option.map_eq_some_iff, Prod.mk.injEq] at hap
    obtain ⟨x, ⟨st', hi, rfl⟩, rfl, _⟩ := hap
    exact ⟨rfl, .call op, by simp [Model.apply, model, hi]⟩
  | step =>
    simp only [Model.apply, modelR, Option.map_eq_some_iff, Prod.mk.injEq] at hap
    obtain ⟨x, ⟨r, hi, rfl⟩, rfl, _⟩ := hap
    exact ⟨rfl, .ev r.2, by simp [Model.apply, model, hi]⟩
  | ret =>
    simp only [Model.apply, modelR, Option.map_eq_some_iff, Prod.mk.injEq] at hap
    obtain ⟨x, ⟨r, hi, rfl⟩, rfl, _⟩ := hap
    exact ⟨rfl, .ret r.2, by simp [Model.apply, model, hi]⟩

/-! ### Initial state of a case -/

def cfgNat (key : String) (ws : List String) : Option Nat :=
  ws.findSome? (fun w => if w.startsWith (key ++ "=") then (w.drop (key.length + 1)).toNat? else none)

/-- thread 0 fills the cells `0 .. n-1` -/
def prefillSched (n : Nat) : List (Tid × Act) :=
  (List.range n).flatMap fun (c : Nat) => [(0, .invoke ⟨"swap", [(c : Int)]⟩), (0, .step), (0, .ret)]

def prefill (cfg : Cfg) (n : Nat) : St :=
  match (model cfg).run (init cfg) (prefillSched n) with
  | some (s, _) => s
  | none => init cfg

theorem prefill_reachable (cfg : Cfg) (n : Nat) : (model cfg).Reachable (init cfg) (prefill cfg n) := by
  unfold prefill
  split
  · next s os h => exact ⟨_, _, h⟩
  · exact ⟨[], [], rfl⟩

def initCfg (ws : List String) : RSt :=
  let cfg : Cfg := ⟨(cfgNat "init" ws).getD 16, (cfgNat "B" ws).getD 16, (cfgNat "T" ws).getD 1, (cfgNat "RB" ws).getD 256⟩
  ⟨cfg, prefill cfg ((cfgNat "cells" ws).getD 0)⟩

theorem initCfg_reachable (ws : List String) :
    (model (initCfg ws).cfg).Reachable (init (initCfg ws).cfg) (initCfg ws).st :=
  prefill_reachable _ _

/-- Whatever the driver reaches from the initial state of a case is a reachable state of the machine. -/
theorem reachable_of_run (ws : List String) (sched : List (Tid × Act)) (s' : RSt) (os : List (Tid × Obs))
    (h : modelR.run (initCfg ws) sched = some (s', os)) :
    (model (initCfg ws).cfg).Reachable (init (initCfg ws).cfg) s'.st := by
  obtain ⟨_, os', hr⟩ := modelR_run sched _ _ _ h
  obtain ⟨sched0, os0, h0⟩ := initCfg_reachable ws
  exact ⟨_, _, Model.run_append h0 hr⟩

/-- The locations of the machine's vocabulary: cells, hazard slots, `extended_list_` words, `T<t>` (galloc / retire /
    free), `o<id>` (use).  (`gb<t>.<k>`, the header of a guard block, is a VALUE of `ext<t>`; as a location it is the
    node of the allocator's free list, outside the machine.) -/
def relevant (loc : String) : Bool :=
  loc.startsWith "cell" || loc.startsWith "hp" || loc.startsWith "ext" || loc.startsWith "T" || loc.startsWith "o"

/-- executable form of `C02_guarded_never_disposed`: every slot of every linked block of every record -/
def safeB (s : RSt) : Bool :=
  (List.range s.cfg.T).all fun u => (List.range (s.st.nblk u + 1)).all fun b => (List.range (bsize s.cfg b)).all fun i =>
    match s.st.guard u b i with
    | some p => decide (s.st.obj p ≠ .disposed)
    | none => true

end CdsVerif.Algo.DHP.Replay
