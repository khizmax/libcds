/-
  Linearizability of the FeldmanHashSet model (property C14) with respect to the sequential map `Spec.map`.

  Every operation has a DEFINITIVE linearization point, the step at which its program counter becomes `done r`
  (`Refine.lean`): the successful CAS of insert / erase / update, and for every other answer the last load of `protect`,
  which confirms the slot value the answer is computed from.  At that step the abstract map `look` (what a traversal
  from the head array finds) makes the `Spec.map` transition of the operation (`step_refines`); every other step —
  in particular every step of `expand_slot` — leaves `look` unchanged.

  The ghost-log construction of `Base/LPLin.lean` turns this into linearizability of every run, with completion of
  pending operations.
-/
import CdsVerif.Algo.Feldman.Log
import CdsVerif.Base.LPLin
namespace CdsVerif.Algo.Feldman
open CdsVerif.Machine CdsVerif.Spec CdsVerif.Lin

/-! ### What a step does to the program counter of its thread -/

theorem decideOp_cases (c : Cfg) (op : Op) (a lvl : Nat) (cl : Cell) :
    (∃ r, decideOp c op a lvl cl = .done r) ∨ posOf (decideOp c op a lvl cl) = some (op, a, lvl) := by
  unfold decideOp
  repeat' split
  all_goals (first | (left; exact ⟨_, rfl⟩) | (right; rfl))

theorem step_frame {c : Cfg} {s s' : St} {t : Tid} {ev : Ev} (hs : step c s t = some (s', ev)) :
    ∀ t2, t2 ≠ t → s'.pc t2 = s.pc t2 := by
  intro t2 ht
  cases hpc : s.pc t
  all_goals (simp only [step, hpc] at hs)
  all_goals (try (simp at hs; done))
  all_goals (repeat' split at hs)
  all_goals (simp only [Option.some.injEq, Prod.mk.injEq] at hs; obtain ⟨rfl, -⟩ := hs)
  all_goals (first | rfl | simp [upd, ht])

theorem step_pc {c : Cfg} {s s' : St} {t : Tid} {ev : Ev} (hs : step c s t = some (s', ev)) :
    s.pc t ≠ .idle ∧ s'.pc t ≠ .idle ∧ retOf (s.pc t) = none ∧
    (retOf (s'.pc t) = none → opOf (s'.pc t) = opOf (s.pc t)) := by
  cases hpc : s.pc t
  all_goals (simp only [step, hpc] at hs)
  all_goals (try (simp at hs; done))
  case prot2 op a lvl cl x =>
    split at hs
    · simp only [Option.some.injEq, Prod.mk.injEq] at hs; obtain ⟨rfl, -⟩ := hs
      simp only [upd_same]; split <;> simp [retOf, opOf, posOf]
    · split at hs
      · simp only [Option.some.injEq, Prod.mk.injEq] at hs; obtain ⟨rfl, -⟩ := hs
        simp [retOf, opOf, posOf]
      · simp only [Option.some.injEq, Prod.mk.injEq] at hs; obtain ⟨rfl, -⟩ := hs
        simp only [upd_same]
        rcases decideOp_cases c op a lvl cl with ⟨r, hr⟩ | hpo
        · simp [hr, retOf]
        · refine ⟨by simp, ?_, by simp [retOf], ?_⟩
          · intro e; rw [e] at hpo; simp [posOf] at hpo
          · intro _; unfold opOf; rw [hpo]; simp [posOf]
  all_goals (repeat' split at hs)
  all_goals (simp only [Option.some.injEq, Prod.mk.injEq] at hs; obtain ⟨rfl, -⟩ := hs)
  all_goals (try simp only [upd_same])
  all_goals (simp [retOf, opOf, posOf, hpc])

theorem go_init (k : Int) : ∀ (p : List Nat) (a : Nat), go (fun _ _ => Cell.null) k a p = none := by
  intro p; cases p <;> intro a <;> simp [go, leaf]

/-! ### The machine as an instance of `Base/LPLin.lean` -/

theorem invoke_eff {s s' : St} {t : Tid} {op : GOp} (hs : invoke s t op = some s') :
    s.pc t = .idle ∧ ∃ pc', s'.pc = upd s.pc t pc' ∧ s'.cell = s.cell ∧ opOf pc' = some op ∧ retOf pc' = none := by
  unfold invoke at hs
  obtain ⟨name, args⟩ := op
  split at hs
  · next hidle =>
    split at hs
    all_goals (try (simp at hs; done))
    all_goals (simp only [Option.some.injEq] at hs; subst hs)
    all_goals (rename_i h1 h2; simp only at h1 h2; subst h1 h2)
    all_goals (exact ⟨hidle, _, rfl, rfl, by simp [opOf, posOf, gopOf], by simp [retOf]⟩)
  · simp at hs

theorem result_eff {s s' : St} {t : Tid} {r : GRet} (hs : result s t = some (s', r)) :
    s.pc t = .done r ∧ s' = { s with pc := upd s.pc t .idle } := by
  unfold result at hs
  split at hs
  · next r' hd => simp at hs; obtain ⟨rfl, rfl⟩ := hs; exact ⟨hd, rfl⟩
  · simp at hs

/-- A specification state represents the machine state if it answers every key as a traversal from the head array
    does (`look`); no linearization is tentative. -/
def sys (c : Cfg) : LPLin.Sys St MapSt where
  spec := Spec.map
  model := model c
  init := init
  Inv := SInv c
  Abs := fun m s => ∀ k, mfind m k = look c s k
  lpRet := fun s t => retOf (s.pc t)
  postRet := fun s t => retOf (s.pc t)
  opOf := fun s t => opOf (s.pc t)
  inert := fun _ _ => false

theorem sys_ok {c : Cfg} (hp : PathHyp c) (hcf : c.copyFirst = true) : (sys c).OK where
  inert_ok := by intro op r h; cases h
  inv_init := sinv_init c
  abs_init := by intro k; simp [sys, Spec.map, detSpec, init, look, mfind, go_init]
  lp_init := by intro t; simp [sys, init, retOf]
  op_init := by intro t; simp [sys, init, opOf, posOf]
  post_op := by
    intro s t r _ h
    simp only [sys] at h ⊢
    revert h; cases s.pc t <;> simp [opOf, posOf, retOf]
  lp_post := by intro s t r _ h; exact .inl h
  invoke := by
    intro s t op s' hl hs
    obtain ⟨hwas, pc', hpc', hcell', hop', hret'⟩ := invoke_eff hs
    refine ⟨sinv_invoke hp hl hs, ⟨?_, ?_⟩, ?_, ?_, ?_, ?_⟩
    · intro t2 ht; simp only [sys, hpc', upd, if_neg ht]
    · intro t2 ht; simp only [sys, hpc', upd, if_neg ht]
    · simp [sys, hwas, retOf]
    · simp only [sys, hpc', upd_same, hop']
    · simp only [sys, hpc', upd_same, hret']
    · intro m hm k; simp only [look, hcell']; exact hm k
  step := by
    intro s t s' ev hl hs
    have hframe := step_frame hs
    obtain ⟨-, -, h1, hopk⟩ := step_pc hs
    obtain ⟨hlp, hnlp⟩ := step_refines hp hcf hl hs
    refine ⟨sinv_step hp hcf hl hs, ⟨?_, ?_⟩, fun _ r h2 => hlp r h2, ?_, ?_, hopk⟩
    · intro t2 ht; simp only [sys]; rw [hframe t2 ht]
    · intro t2 ht; simp only [sys]; rw [hframe t2 ht]
    · intro hc m hm k
      rcases hc with hc | hc
      · exact absurd h1 hc
      · exact (hm k).trans (hnlp hc k).symm
    · intro r (hr : retOf (s.pc t) = some r); rw [h1] at hr; cases hr
  result := by
    intro s t s' r hl hs
    obtain ⟨hdone, rfl⟩ := result_eff hs
    refine ⟨sinv_result hl hs, ⟨?_, ?_⟩, ?_, ?_, ?_, fun m hm => hm⟩
    · intro t2 ht; simp only [sys, upd, if_neg ht]
    · intro t2 ht; simp only [sys, upd, if_neg ht]
    · simp [sys, hdone, retOf]
    · simp [sys, retOf]
    · simp [sys, opOf, posOf]

/-! ### Main theorems -/

/-- **Linearizability of FeldmanHashSet** (Herlihy–Wing, with completion of pending operations).
    For every run of the model, the history of the completed operations, extended by response records `extra` for
    the operations still pending at the end that have passed their linearization point (they get the result fixed there
    and the response time "end of the run"; at most one per thread), is linearizable to the sequential map.  Pending
    operations that have not reached their linearization point are dropped. -/
theorem feldman_linearizable {c : Cfg} (hp : PathHyp c) (hcf : c.copyFirst = true) (sched : List (Tid × Act)) (s : St)
    (os : List (Tid × Obs)) (h : (model c).run init sched = some (s, os)) :
    ∃ extra : List (OpRec GOp GRet),
      (∀ e ∈ extra, pendingOf os e.tid = some (e.op, e.inv) ∧ e.res = os.length ∧
          retOf (s.pc e.tid) = some e.ret) ∧
      extra.Pairwise (fun a b => a.tid ≠ b.tid) ∧
      Linearizable Spec.map (historyOf os ++ extra) := by
  rw [historyOf_eq, pendingOf_eq]
  exact LPLin.linearizable (sys_ok hp hcf) sched s os h

/-- Runs at whose end no thread is between its linearization point and its return. -/
theorem feldman_linearizable_no_effect_pending {c : Cfg} (hp : PathHyp c) (hcf : c.copyFirst = true)
    (sched : List (Tid × Act)) (s : St) (os : List (Tid × Obs)) (h : (model c).run init sched = some (s, os))
    (hq : ∀ t, retOf (s.pc t) = none) : Linearizable Spec.map (historyOf os) :=
  historyOf_eq os ▸ LPLin.linearizable_no_effect_pending (sys_ok hp hcf) sched s os h hq

/-- Runs in which every invoked operation has returned. -/
theorem feldman_linearizable_complete_runs {c : Cfg} (hp : PathHyp c) (hcf : c.copyFirst = true)
    (sched : List (Tid × Act)) (s : St) (os : List (Tid × Obs)) (h : (model c).run init sched = some (s, os))
    (hq : ∀ t, s.pc t = .idle) : Linearizable Spec.map (historyOf os) :=
  feldman_linearizable_no_effect_pending hp hcf sched s os h (fun t => by simp [hq t, retOf])

end CdsVerif.Algo.Feldman
