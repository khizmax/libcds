/-
  `SInv` holds in every reachable state; global consequences of the local clauses:
    * every published array node is reached from the head array by walking its prefix, and every array node reached by
      a walk is published (the structure is a tree);
    * a traversal from the head array along the hash of an item that sits in a slot of a published array node stops
      at that slot: the item is found, and no key is present twice;
    * what one step can do to a slot.
-/
import CdsVerif.Algo.Feldman.StepC
import CdsVerif.Algo.Feldman.StepD
namespace CdsVerif.Algo.Feldman
open CdsVerif.Machine CdsVerif.Spec CdsVerif.Lin

theorem sinv_step {c : Cfg} {s s' : St} {t : Tid} {ev : Ev} (hp : PathHyp c) (hcf : c.copyFirst = true)
    (h : SInv c s) (hs : step c s t = some (s', ev)) : SInv c s' := by
  cases hpc : s.pc t with
  | idle => simp [step, hpc] at hs
  | done r => simp [step, hpc] at hs
  | trav op a lvl => exact sinv_trav hp h hpc hs
  | prot1 op a lvl cl => exact sinv_prot1 h hpc hs
  | prot2 op a lvl cl x => exact sinv_prot2 h hpc hs
  | casIns op a lvl => exact sinv_casIns hp h hpc hs
  | casEra op a lvl n => exact sinv_casEra h hpc hs
  | casUpd op a lvl n => exact sinv_casUpd hp h hpc hs
  | xAlloc op a lvl n => exact sinv_xAlloc h hpc hs
  | xConv op a lvl n b => exact sinv_xConv hcf h hpc hs
  | xCopy op a lvl n b => exact sinv_xCopy hp hcf h hpc hs
  | xPub op a lvl n b => exact sinv_xPub hp hcf h hpc hs

theorem sinv_apply {c : Cfg} {s s' : St} {t : Tid} {a : Act} {o : Obs} (hp : PathHyp c) (hcf : c.copyFirst = true)
    (h : SInv c s) (hap : (model c).apply s t a = some (s', o)) : SInv c s' := by
  rcases Model.apply_cases hap with ⟨op, -, hs1, -⟩ | ⟨e, -, hs1, -⟩ | ⟨r, -, hs1, -⟩
  · exact sinv_invoke hp h hs1
  · exact sinv_step hp hcf h hs1
  · exact sinv_result h hs1

theorem reachable_sinv {c : Cfg} (hp : PathHyp c) (hcf : c.copyFirst = true) (s : St)
    (hr : (model c).Reachable init s) : SInv c s :=
  (model c).inv_reachable (SInv c) init (sinv_init c) (fun _ _ _ _ _ h hap => sinv_apply hp hcf h hap) s hr

/-! ### The tree -/

/-- a published array node is reached from the head array by walking its prefix -/
theorem walk_of_pub {c : Cfg} {s : St} (h : SInv c s) : ∀ (n a : Nat), a < n → Pub s a → walk s.cell 0 (s.pre a) = some a := by
  intro n
  induction n with
  | zero => intro a ha; omega
  | succ n ih =>
    intro a ha hpub
    rcases hpub with rfl | hc
    · rw [h.pre0]; rfl
    · have := h.arrp _ _ _ hc
      have hw := ih (s.par a) (by omega) this.2.2.2.2.2.1
      rw [this.2.2.1]
      exact walk_snoc s.cell _ _ _ _ _ hw hc

theorem walk_pub {c : Cfg} {s : St} (h : SInv c s) (a : Nat) (hpub : Pub s a) : walk s.cell 0 (s.pre a) = some a :=
  walk_of_pub h (a + 1) a (by omega) hpub

/-- conversely: what a walk from the head array reaches is published, and the walk is the node's prefix -/
theorem pub_of_walk {c : Cfg} {s : St} (h : SInv c s) (p : List Nat) (a : Nat) (hw : walk s.cell 0 p = some a) :
    Pub s a ∧ s.pre a = p := by
  refine ⟨?_, ?_⟩
  · rcases walk_published s.cell p 0 a hw with e | ⟨a', i, hc⟩
    · exact Or.inl e
    · exact h.mem.pub_child hc
  · have := walk_pre (fun a i b hc => (h.arrp a i b hc).2.2.1) p 0 a hw
    rw [this, h.pre0]; rfl

/-- the slot of an item does not hold an array-node pointer -/
theorem item_not_arr {x : Cell} {n : Node} (hc : x = .data n ∨ x = .conv n) (b : Nat) : x ≠ .arr b := by
  rcases hc with rfl | rfl <;> nofun

/-- The traversal along the hash of an item that sits in a slot of a published array node stops at that slot. -/
theorem stop_item {c : Cfg} {s : St} (h : SInv c s) (a i : Nat) (n : Node) (hpub : Pub s a)
    (hc : s.cell a i = .data n ∨ s.cell a i = .conv n) : stop s.cell 0 (c.path n.key) = some (a, i) := by
  rw [(h.onp a i n hc).split]
  exact stop_at s.cell _ _ a i (walk_pub h a hpub) (item_not_arr hc)

/-- … and finds it: nothing hides an item that is in the set. -/
theorem look_item {c : Cfg} {s : St} (h : SInv c s) (a i : Nat) (n : Node) (hpub : Pub s a)
    (hc : s.cell a i = .data n ∨ s.cell a i = .conv n) : look c s n.key = some n.val := by
  unfold look
  rw [(h.onp a i n hc).split, go_at s.cell _ _ _ a i (walk_pub h a hpub) (item_not_arr hc)]
  rcases hc with e | e <;> rw [e] <;> exact if_pos rfl

/-- no key twice: two slots of published array nodes that hold items with the same key are the same slot -/
theorem item_unique {c : Cfg} {s : St} (h : SInv c s) (a i a' i' : Nat) (n n' : Node) (hpub : Pub s a)
    (hpub' : Pub s a') (hc : s.cell a i = .data n ∨ s.cell a i = .conv n)
    (hc' : s.cell a' i' = .data n' ∨ s.cell a' i' = .conv n') (hk : n.key = n'.key) : a = a' ∧ i = i' ∧ n = n' := by
  have h1 := stop_item h a i n hpub hc
  rw [hk, stop_item h a' i' n' hpub' hc'] at h1
  cases h1
  refine ⟨rfl, rfl, ?_⟩
  rcases hc with e | e <;> rcases hc' with e' | e' <;> cases e.symm.trans e' <;> rfl

/-- What `look` says comes from a slot: if the abstract map has `k ↦ v`, a slot of a published array node holds an
    item with key `k` and payload `v`. -/
theorem look_some {c : Cfg} {s : St} (h : SInv c s) (k v : Int) (hl : look c s k = some v) :
    ∃ a i n, Pub s a ∧ (s.cell a i = .data n ∨ s.cell a i = .conv n) ∧ n.key = k ∧ n.val = v := by
  -- generalise over the array node the traversal has reached
  have key : ∀ (p : List Nat) (a0 : Nat), Pub s a0 → go s.cell k a0 p = some v →
      ∃ a i n, Pub s a ∧ (s.cell a i = .data n ∨ s.cell a i = .conv n) ∧ n.key = k ∧ n.val = v := by
    intro p
    induction p with
    | nil => intro a0 _ hg; cases hg
    | cons i p ih =>
      intro a0 hpub hg
      by_cases hc : ∃ b, s.cell a0 i = .arr b
      · obtain ⟨b, hc⟩ := hc
        rw [go_arr hc] at hg
        exact ih b (h.mem.pub_child hc) hg
      · rw [go_leaf (fun b e => hc ⟨b, e⟩)] at hg
        obtain ⟨n, hn, hk, hv⟩ := leaf_eq_some hg
        exact ⟨a0, i, n, hpub, hn, hk, hv⟩
  exact key _ 0 (Or.inl rfl) hl

/-- The position of an operation in progress is on the way of a traversal from the head array: the operation will
    find what a traversal started NOW at the head array would find. -/
theorem look_from_pos {c : Cfg} {s : St} (h : SInv c s) (t : Tid) (op : Op) (a lvl : Nat)
    (hpo : posOf (s.pc t) = some (op, a, lvl)) :
    look c s (okey op) = go s.cell (okey op) a ((c.path (okey op)).drop lvl) := by
  have hpos := h.pos t op a lvl hpo
  have hw := walk_pub h a hpos.1
  rw [hpos.2.2.2] at hw
  unfold look
  conv => lhs; rw [← List.take_append_drop lvl (c.path (okey op))]
  exact go_split s.cell _ _ _ 0 a hw

end CdsVerif.Algo.Feldman
