/-
  Facts about single steps of the FeldmanHashSet model that the property file quotes: what a step can do to a slot,
  what `expand_slot` guarantees at the publication of the new array node, and who may erase / replace an item.
-/
import CdsVerif.Algo.Feldman.Lin
namespace CdsVerif.Algo.Feldman
open CdsVerif.Machine CdsVerif.Spec CdsVerif.Lin

/-- The life of a slot: null ↔ data freely (and data → data of the same key: `update`); data → converting →
    array-node pointer, never back; an array-node pointer is never removed or changed. -/
def SlotStep (x y : Cell) : Prop :=
  x = y ∨ (x = .null ∧ ∃ n, y = .data n) ∨
  (∃ n, x = .data n ∧ (y = .null ∨ y = .conv n ∨ ∃ n', y = .data n' ∧ n'.key = n.key)) ∨
  (∃ n b, x = .conv n ∧ y = .arr b)

theorem slot_upd (cell : Nat → Nat → Cell) (a0 i0 : Nat) (v : Cell) (hst : SlotStep (cell a0 i0) v) (a i : Nat) :
    SlotStep (cell a i) (upd2 cell a0 i0 v a i) := by
  simp only [upd2]
  split
  · next hh => rw [hh.1, hh.2]; exact hst
  · exact Or.inl rfl

theorem step_slot {c : Cfg} {s s' : St} {t : Tid} {ev : Ev} (hcf : c.copyFirst = true) (h : SInv c s)
    (hs : step c s t = some (s', ev)) (a i : Nat) : SlotStep (s.cell a i) (s'.cell a i) := by
  cases hpc : s.pc t
  all_goals (simp only [step, hpc, hcf, if_true] at hs)
  all_goals (try (simp at hs; done))
  case xCopy op a0 lvl n b =>
    have hnull := h.xNull t op a0 lvl n b (Or.inr hpc)
    cases hs
    exact slot_upd _ _ _ _ (by rw [hnull]; exact Or.inr (Or.inl ⟨rfl, n, rfl⟩)) a i
  case casUpd op a0 lvl n =>
    obtain ⟨hk, n0, al, rfl⟩ := h.casU t op a0 lvl n hpc
    split at hs
    · next hd =>
      cases hs
      exact slot_upd _ _ _ _ (by rw [hd]; exact Or.inr (Or.inr (Or.inl ⟨n, rfl, Or.inr (Or.inr ⟨n0, rfl, hk.symm⟩)⟩))) a i
    · cases hs; exact Or.inl rfl
  case casIns op a0 lvl =>
    split at hs
    · next hd =>
      cases hs
      exact slot_upd _ _ _ _ (by rw [hd]; exact Or.inr (Or.inl ⟨rfl, _, rfl⟩)) a i
    · cases hs; exact Or.inl rfl
  case casEra op a0 lvl n =>
    split at hs
    · next hd =>
      cases hs
      exact slot_upd _ _ _ _ (by rw [hd]; exact Or.inr (Or.inr (Or.inl ⟨n, rfl, Or.inl rfl⟩))) a i
    · cases hs; exact Or.inl rfl
  case xConv op a0 lvl n b =>
    split at hs
    · next hd =>
      cases hs
      exact slot_upd _ _ _ _ (by rw [hd]; exact Or.inr (Or.inr (Or.inl ⟨n, rfl, Or.inr (Or.inl rfl)⟩))) a i
    · cases hs; exact Or.inl rfl
  case xPub op a0 lvl n b =>
    split at hs
    · next hd =>
      cases hs
      exact slot_upd _ _ _ _ (by rw [hd]; exact Or.inr (Or.inr (Or.inr ⟨n, b, rfl, rfl⟩))) a i
    · cases hs; exact Or.inl rfl
  all_goals (repeat' split at hs)
  all_goals (cases hs)
  all_goals (exact Or.inl rfl)

/-- WHAT `expand_slot` GUARANTEES.  The only step that turns a converting slot `(a, i)` holding item `n` into the
    pointer to an array node `b` is the publishing CAS of the thread that converted the slot; at that instant `b`
    contains `n` — in the slot given by the hash of `n` at the level of `b` — and nothing else, and `b` hangs below
    `(a, i)`; no lookup changes its answer (in particular `n` is found before and after). -/
theorem expand_publish {c : Cfg} {s s' : St} {t : Tid} {ev : Ev} (hp : PathHyp c) (hcf : c.copyFirst = true)
    (h : SInv c s) (hs : step c s t = some (s', ev)) (a i b : Nat) (n : Node)
    (hc : s.cell a i = .conv n) (hc' : s'.cell a i = .arr b) :
    (∃ op lvl, s.pc t = .xPub op a lvl n b ∧ i = sl c (okey op) lvl ∧ (s.pre b).length = lvl + 1) ∧
    s'.cell b (sl c n.key (s.pre b).length) = .data n ∧
    (∀ j, j ≠ sl c n.key (s.pre b).length → s'.cell b j = .null) ∧
    s'.par b = a ∧ s'.pidx b = i ∧
    look c s n.key = some n.val ∧ ∀ k, look c s' k = look c s k := by
  have hlook := (step_refines hp hcf h hs).2
  have key : ∃ op lvl, s.pc t = .xPub op a lvl n b ∧ i = sl c (okey op) lvl ∧
      s'.cell = upd2 s.cell a i (.arr b) ∧ s'.pc t = .trav op a lvl ∧ s'.par = s.par ∧ s'.pidx = s.pidx := by
    cases hpc : s.pc t
    all_goals (simp only [step, hpc, hcf, if_true] at hs)
    all_goals (try (simp at hs; done))
    case xPub op a0 lvl n0 b0 =>
      split at hs
      · next hd =>
        cases hs
        simp only [upd2] at hc'
        split at hc'
        · next hh =>
          obtain ⟨rfl, rfl⟩ := hh
          simp only [Cell.arr.injEq] at hc'; subst hc'
          rw [hc] at hd; simp only [Cell.conv.injEq] at hd; subst hd
          exact ⟨op, lvl, rfl, rfl, rfl, by simp, rfl, rfl⟩
        · rw [hc] at hc'; simp at hc'
      · cases hs
        rw [hc] at hc'; simp at hc'
    all_goals (repeat' split at hs)
    all_goals (cases hs)
    all_goals (try (rw [hc] at hc'; simp at hc'; done))
    all_goals (
      simp only [upd2] at hc'
      split at hc'
      · simp at hc'
      · rw [hc] at hc'; simp at hc')
  obtain ⟨op, lvl, hpc, hi, hcell, hpc', hpar, hpidx⟩ := key
  have hpo := h.pos t op a lvl (by rw [hpc]; rfl)
  have hw := h.own t op a lvl n b (by simp [hpc, ownOf])
  have hf := h.xFull t op a lvl n b hpc
  have hl := pos_len hp hpo.2.2.1 hpo.2.2.2
  have hlb : (s.pre b).length = lvl + 1 := by rw [hw.2.2.2.2.2.2.2]; simp [hl]
  have hab : a ≠ b := by omega
  have hcb : ∀ j, s'.cell b j = s.cell b j := by
    intro j; rw [hcell]; simp only [upd2]; rw [if_neg (by intro hh; exact hab hh.1.symm)]
  refine ⟨⟨op, lvl, hpc, hi, hlb⟩, by rw [hlb, hcb]; exact hf.1, by intro j hj; rw [hlb] at hj; rw [hcb]; exact hf.2 j hj,
    by rw [hpar]; exact hw.2.2.2.2.2.1, by rw [hpidx, hi]; exact hw.2.2.2.2.2.2.1, ?_, ?_⟩
  · exact look_item h a i n hpo.1 (Or.inr hc)
  · exact hlook (by simp [hpc', retOf])

/-- An item leaves the set only by the successful CAS of an `erase` of its key (which then answers with the item's
    payload) or of an `update` of its key (which puts its own item in the same slot): if `look` has `k ↦ v` before
    a step and not after, the step is one of these two. -/
theorem look_removed {c : Cfg} {s s' : St} {t : Tid} {ev : Ev} (hp : PathHyp c) (hcf : c.copyFirst = true)
    (h : SInv c s) (hs : step c s t = some (s', ev)) (k v : Int) (h1 : look c s k = some v)
    (h2 : look c s' k ≠ some v) :
    (∃ op a lvl n, s.pc t = .casEra op a lvl n ∧ okey op = k ∧ s'.pc t = .done [1, v]) ∨
    (∃ op a lvl n, s.pc t = .casUpd op a lvl n ∧ okey op = k ∧ s'.pc t = .done [1, 0]) := by
  obtain ⟨hlp, hnlp⟩ := step_refines hp hcf h hs
  cases hr : retOf (s'.pc t) with
  | none => exact absurd (by rw [hnlp hr k]; exact h1) h2
  | some r =>
    -- a linearization point: which one?
    cases hpc : s.pc t
    all_goals (simp only [step, hpc, hcf, if_true] at hs)
    all_goals (try (simp at hs; done))
    case casEra op a lvl n =>
      obtain ⟨hk, k0, rfl⟩ := h.casE t _ a lvl n hpc
      have hpo : posOf (s.pc t) = some (.era k0, a, lvl) := by simp [hpc, posOf]
      split at hs
      · next hd =>
        cases hs
        left
        obtain ⟨hL, hL'⟩ := look_cas hp h t (.era k0) a lvl hpo hd (.inr ⟨n, rfl, hk⟩) (.inl rfl)
          (upd s.pc t (.done [1, n.val]))
        simp only [okey] at hk hL
        simp only [leaf, hk, if_true] at hL
        by_cases hkk : k = k0
        · subst hkk
          rw [hL] at h1; simp only [Option.some.injEq] at h1; subst h1
          exact ⟨_, a, lvl, n, rfl, rfl, by simp⟩
        · have h3 := hL' k
          simp only [okey] at h3 h2
          simp only [hkk, if_false] at h3
          exact absurd (h3.trans h1) h2
      · cases hs; simp [retOf] at hr
    case casUpd op a lvl n =>
      obtain ⟨hk, n0, al, rfl⟩ := h.casU t _ a lvl n hpc
      have hpo : posOf (s.pc t) = some (.upd n0 al, a, lvl) := by simp [hpc, posOf]
      split at hs
      · next hd =>
        cases hs
        right
        have hL' := (look_cas hp h t (.upd n0 al) a lvl hpo hd (.inr ⟨n, rfl, hk⟩) (.inr ⟨n0, rfl, rfl⟩)
          (upd s.pc t (.done [1, 0]))).2
        by_cases hkk : k = n0.key
        · subst hkk
          exact ⟨_, a, lvl, n, rfl, rfl, by simp⟩
        · have h3 := hL' k
          simp only [okey, onode] at h3 h2
          simp only [hkk, if_false] at h3
          exact absurd (h3.trans h1) h2
      · cases hs; simp [retOf] at hr
    case casIns op a lvl =>
      have hpo : posOf (s.pc t) = some (op, a, lvl) := by simp [hpc, posOf]
      have hga := (h.casI t op a lvl hpc).1
      split at hs
      · next hd =>
        cases hs
        have hkey : (onode op).key = okey op := by cases op <;> simp_all [onode, okey, isGA]
        obtain ⟨hL, hL'⟩ := look_cas hp h t op a lvl hpo hd (.inl rfl) (.inr ⟨onode op, rfl, hkey⟩)
          (upd s.pc t (.done (insRet op)))
        simp only [leaf] at hL
        by_cases hkk : k = okey op
        · subst hkk; rw [hL] at h1; simp at h1
        · have h3 := hL' k
          simp only [if_neg hkk] at h3
          exact absurd (h3.trans h1) h2
      · cases hs; simp [retOf] at hr
    case prot2 op a lvl cl x =>
      repeat' split at hs
      all_goals (cases hs)
      all_goals (exact absurd h1 h2)
    all_goals (repeat' split at hs)
    all_goals (cases hs)
    all_goals (simp [retOf, hpc] at hr)

/-! ### The statements for reachable states -/

variable {c : Cfg}

theorem reachable_tree (hp : PathHyp c) (hcf : c.copyFirst = true) (s : St) (hr : (model c).Reachable init s) :
    (∀ a i b, s.cell a i = .arr b → s.par b = a ∧ s.pidx b = i ∧ a < b ∧ b < s.acnt ∧ s.pre b = s.pre a ++ [i] ∧
      (s.pre b).length < c.depth) ∧
    (∀ a, Pub s a → walk s.cell 0 (s.pre a) = some a) ∧
    (∀ p a, walk s.cell 0 p = some a → Pub s a ∧ s.pre a = p) := by
  have h := reachable_sinv hp hcf s hr
  refine ⟨?_, fun a => walk_pub h a, fun p a => pub_of_walk h p a⟩
  intro a i b hc
  have := h.arrp a i b hc
  refine ⟨this.1, this.2.1, this.2.2.2.1, this.2.2.2.2.1, this.2.2.1, ?_⟩
  rw [this.2.2.1]; simp; exact this.2.2.2.2.2.2

theorem reachable_on_path (hp : PathHyp c) (hcf : c.copyFirst = true) (s : St) (hr : (model c).Reachable init s)
    (a i : Nat) (n : Node) (hc : s.cell a i = .data n ∨ s.cell a i = .conv n) :
    (c.path n.key).take ((s.pre a).length + 1) = s.pre a ++ [i] ∧
    (Pub s a → stop s.cell 0 (c.path n.key) = some (a, i) ∧ look c s n.key = some n.val) := by
  have h := reachable_sinv hp hcf s hr
  exact ⟨(h.onp a i n hc).take_eq, fun hpub => ⟨stop_item h a i n hpub hc, look_item h a i n hpub hc⟩⟩

theorem reachable_unique (hp : PathHyp c) (hcf : c.copyFirst = true) (s : St) (hr : (model c).Reachable init s)
    (a i a' i' : Nat) (n n' : Node) (hpub : Pub s a) (hpub' : Pub s a')
    (hc : s.cell a i = .data n ∨ s.cell a i = .conv n) (hc' : s.cell a' i' = .data n' ∨ s.cell a' i' = .conv n')
    (hk : n.key = n'.key) : a = a' ∧ i = i' ∧ n = n' :=
  item_unique (reachable_sinv hp hcf s hr) a i a' i' n n' hpub hpub' hc hc' hk

theorem reachable_look_some (hp : PathHyp c) (hcf : c.copyFirst = true) (s : St) (hr : (model c).Reachable init s)
    (k v : Int) : look c s k = some v ↔
      ∃ a i n, Pub s a ∧ (s.cell a i = .data n ∨ s.cell a i = .conv n) ∧ n.key = k ∧ n.val = v := by
  have h := reachable_sinv hp hcf s hr
  constructor
  · exact look_some h k v
  · rintro ⟨a, i, n, hpub, hc, rfl, rfl⟩; exact look_item h a i n hpub hc

theorem reachable_pos (hp : PathHyp c) (hcf : c.copyFirst = true) (s : St) (hr : (model c).Reachable init s)
    (t : Tid) (op : Op) (a lvl : Nat) (hpo : posOf (s.pc t) = some (op, a, lvl)) :
    walk s.cell 0 ((c.path (okey op)).take lvl) = some a ∧ lvl < c.depth ∧
    look c s (okey op) = go s.cell (okey op) a ((c.path (okey op)).drop lvl) := by
  have h := reachable_sinv hp hcf s hr
  have hpos := h.pos t op a lvl hpo
  have hw := walk_pub h a hpos.1
  rw [hpos.2.2.2] at hw
  exact ⟨hw, hpos.2.2.1, look_from_pos h t op a lvl hpo⟩

/-! ### The hypotheses are satisfiable at every depth -/

/-- an injective numbering of the integers -/
def encInt (k : Int) : Nat := if 0 ≤ k then 2 * k.toNat else 2 * (-k - 1).toNat + 1

/-- The worst hash of depth `d + 1`: all keys share the first `d` slot indices and differ only at the last level, so
    every pair of keys in the set forces `d` expansions. -/
def cfgDeep (d : Nat) : Cfg :=
  { path := fun k => List.replicate d 0 ++ [encInt k], depth := d + 1 }

theorem cfgDeep_hyp (d : Nat) : PathHyp (cfgDeep d) ∧ (cfgDeep d).copyFirst = true := by
  refine ⟨⟨fun k => by simp [cfgDeep], ?_⟩, rfl⟩
  intro k k' h
  simp only [cfgDeep, List.append_cancel_left_eq, List.cons.injEq, and_true] at h
  unfold encInt at h
  split at h <;> split at h <;> omega

end CdsVerif.Algo.Feldman
