/-
  The invariant of the FeldmanHashSet model (`SInv`), and its preservation by `invoke` and `result`.

  All clauses are LOCAL (about one slot, one array node, or one thread's program counter); the global facts — every
  published array node is reached from the head array by walking its prefix, a traversal finds every item — are
  derived from them in `Reach.lean`.
-/
import CdsVerif.Algo.Feldman.Lemmas
namespace CdsVerif.Algo.Feldman
open CdsVerif.Machine CdsVerif.Spec CdsVerif.Lin

/-- the array node is the head array or its parent slot points to it -/
def Pub (s : St) (a : Nat) : Prop := a = 0 ∨ s.cell (s.par a) (s.pidx a) = .arr a

/-- position of the operation in progress: ( operation, array node, level ) -/
def posOf : PC → Option (Op × Nat × Nat)
  | .idle => none
  | .trav op a l => some (op, a, l)
  | .prot1 op a l _ => some (op, a, l)
  | .prot2 op a l _ _ => some (op, a, l)
  | .casIns op a l => some (op, a, l)
  | .casEra op a l _ => some (op, a, l)
  | .casUpd op a l _ => some (op, a, l)
  | .xAlloc op a l _ => some (op, a, l)
  | .xConv op a l _ _ => some (op, a, l)
  | .xCopy op a l _ _ => some (op, a, l)
  | .xPub op a l _ _ => some (op, a, l)
  | .done _ => none

/-- expansion in progress: ( operation, array node, level, displaced item, new array node ) -/
def ownOf : PC → Option (Op × Nat × Nat × Node × Nat)
  | .idle => none
  | .trav _ _ _ => none
  | .prot1 _ _ _ _ => none
  | .prot2 _ _ _ _ _ => none
  | .casIns _ _ _ => none
  | .casEra _ _ _ _ => none
  | .casUpd _ _ _ _ => none
  | .xAlloc _ _ _ _ => none
  | .xConv op a l n b => some (op, a, l, n, b)
  | .xCopy op a l n b => some (op, a, l, n, b)
  | .xPub op a l n b => some (op, a, l, n, b)
  | .done _ => none

/-- the slot this thread has put into the converting state: ( array node, slot, item ) -/
def cvOf (c : Cfg) : PC → Option (Nat × Nat × Node)
  | .idle => none
  | .trav _ _ _ => none
  | .prot1 _ _ _ _ => none
  | .prot2 _ _ _ _ _ => none
  | .casIns _ _ _ => none
  | .casEra _ _ _ _ => none
  | .casUpd _ _ _ _ => none
  | .xAlloc _ _ _ _ => none
  | .xConv _ _ _ _ _ => none
  | .xCopy op a l n _ => some (a, sl c (okey op) l, n)
  | .xPub op a l n _ => some (a, sl c (okey op) l, n)
  | .done _ => none

structure SInv (c : Cfg) (s : St) : Prop where
  pre0 : s.pre 0 = []
  acpos : 0 < s.acnt
  /-- array nodes not yet allocated are empty -/
  fresh : ∀ b j, s.acnt ≤ b → s.cell b j = .null
  /-- TREE: an array-node pointer sits in the slot named by the node's `pParent` / `idxParent`; the child was allocated
      after the parent; its prefix extends the parent's by the slot index; the parent is published; there is a level
      left below -/
  arrp : ∀ a i b, s.cell a i = .arr b →
    s.par b = a ∧ s.pidx b = i ∧ s.pre b = s.pre a ++ [i] ∧ a < b ∧ b < s.acnt ∧ Pub s a ∧ (s.pre a).length + 1 < c.depth
  /-- every item sits on the path of its hash -/
  onp : ∀ a i n, (s.cell a i = .data n ∨ s.cell a i = .conv n) → Pfx (s.pre a) i (c.path n.key)
  /-- the position of an operation is a published array node on the path of its key -/
  pos : ∀ t op a lvl, posOf (s.pc t) = some (op, a, lvl) →
    Pub s a ∧ a < s.acnt ∧ lvl < c.depth ∧ s.pre a = (c.path (okey op)).take lvl
  /-- `casIns` is entered by `insert`, and by `update` only when insertion is allowed -/
  casI : ∀ t op a lvl, s.pc t = .casIns op a lvl → isGA op = true ∧ ∀ n0, op ≠ .upd n0 0
  casE : ∀ t op a lvl n, s.pc t = .casEra op a lvl n → n.key = okey op ∧ ∃ k, op = .era k
  casU : ∀ t op a lvl n, s.pc t = .casUpd op a lvl n → n.key = okey op ∧ ∃ n0 al, op = .upd n0 al
  xA : ∀ t op a lvl n, s.pc t = .xAlloc op a lvl n → lvl + 1 < c.depth
  /-- the array node of an expansion in progress is allocated, unpublished, and prepared for the slot being expanded -/
  own : ∀ t op a lvl n b, ownOf (s.pc t) = some (op, a, lvl, n, b) →
    0 < b ∧ b < s.acnt ∧ a < b ∧ s.cell (s.par b) (s.pidx b) ≠ .arr b ∧ lvl + 1 < c.depth ∧
      s.par b = a ∧ s.pidx b = sl c (okey op) lvl ∧ s.pre b = s.pre a ++ [sl c (okey op) lvl]
  ownd : ∀ t t' op a lvl n b op' a' lvl' n', t ≠ t' → ownOf (s.pc t) = some (op, a, lvl, n, b) →
    ownOf (s.pc t') = some (op', a', lvl', n', b) → False
  xNull : ∀ t op a lvl n b, (s.pc t = .xConv op a lvl n b ∨ s.pc t = .xCopy op a lvl n b) → ∀ j, s.cell b j = .null
  /-- a converting slot stays converting until its converter publishes -/
  xConvd : ∀ t a i n, cvOf c (s.pc t) = some (a, i, n) → s.cell a i = .conv n
  xUniq : ∀ t t' a i n n', t ≠ t' → cvOf c (s.pc t) = some (a, i, n) → cvOf c (s.pc t') = some (a, i, n') → False
  /-- WHAT `expand_slot` GUARANTEES: when the new array node is published it contains the displaced item, in the slot
      of its hash at the next level, and nothing else -/
  xFull : ∀ t op a lvl n b, s.pc t = .xPub op a lvl n b →
    s.cell b (sl c n.key (lvl + 1)) = .data n ∧ ∀ j, j ≠ sl c n.key (lvl + 1) → s.cell b j = .null

/-! ### `SInv` in parts: slots and array nodes, one thread, two threads -/

/-- the clauses of `SInv` about slots and array nodes -/
structure MInv (c : Cfg) (s : St) : Prop where
  pre0 : s.pre 0 = []
  acpos : 0 < s.acnt
  fresh : ∀ b j, s.acnt ≤ b → s.cell b j = .null
  arrp : ∀ a i b, s.cell a i = .arr b →
    s.par b = a ∧ s.pidx b = i ∧ s.pre b = s.pre a ++ [i] ∧ a < b ∧ b < s.acnt ∧ Pub s a ∧ (s.pre a).length + 1 < c.depth
  onp : ∀ a i n, (s.cell a i = .data n ∨ s.cell a i = .conv n) → Pfx (s.pre a) i (c.path n.key)

/-- the clauses of `SInv` about one thread, as a predicate of its program counter -/
structure TInv (c : Cfg) (s : St) (p : PC) : Prop where
  pos : ∀ op a lvl, posOf p = some (op, a, lvl) →
    Pub s a ∧ a < s.acnt ∧ lvl < c.depth ∧ s.pre a = (c.path (okey op)).take lvl
  casI : ∀ op a lvl, p = .casIns op a lvl → isGA op = true ∧ ∀ n0, op ≠ .upd n0 0
  casE : ∀ op a lvl n, p = .casEra op a lvl n → n.key = okey op ∧ ∃ k, op = .era k
  casU : ∀ op a lvl n, p = .casUpd op a lvl n → n.key = okey op ∧ ∃ n0 al, op = .upd n0 al
  xA : ∀ op a lvl n, p = .xAlloc op a lvl n → lvl + 1 < c.depth
  own : ∀ op a lvl n b, ownOf p = some (op, a, lvl, n, b) →
    0 < b ∧ b < s.acnt ∧ a < b ∧ s.cell (s.par b) (s.pidx b) ≠ .arr b ∧ lvl + 1 < c.depth ∧
      s.par b = a ∧ s.pidx b = sl c (okey op) lvl ∧ s.pre b = s.pre a ++ [sl c (okey op) lvl]
  xNull : ∀ op a lvl n b, (p = .xConv op a lvl n b ∨ p = .xCopy op a lvl n b) → ∀ j, s.cell b j = .null
  xConvd : ∀ a i n, cvOf c p = some (a, i, n) → s.cell a i = .conv n
  xFull : ∀ op a lvl n b, p = .xPub op a lvl n b →
    s.cell b (sl c n.key (lvl + 1)) = .data n ∧ ∀ j, j ≠ sl c n.key (lvl + 1) → s.cell b j = .null

/-- the clauses of `SInv` about two threads: they do not own the same array node nor convert the same slot -/
structure Excl (c : Cfg) (p q : PC) : Prop where
  ownd : ∀ op a lvl n b op' a' lvl' n', ownOf p = some (op, a, lvl, n, b) → ownOf q = some (op', a', lvl', n', b) → False
  xUniq : ∀ a i n n', cvOf c p = some (a, i, n) → cvOf c q = some (a, i, n') → False

section
variable {c : Cfg} {s : St}

theorem SInv.mem (h : SInv c s) : MInv c s := ⟨h.pre0, h.acpos, h.fresh, h.arrp, h.onp⟩

theorem SInv.thread (h : SInv c s) (t : Tid) : TInv c s (s.pc t) :=
  ⟨h.pos t, h.casI t, h.casE t, h.casU t, h.xA t, h.own t, h.xNull t, h.xConvd t, h.xFull t⟩

theorem SInv.excl (h : SInv c s) {t u : Tid} (hne : t ≠ u) : Excl c (s.pc t) (s.pc u) :=
  ⟨fun op a lvl n b op' a' lvl' n' => h.ownd t u op a lvl n b op' a' lvl' n' hne,
   fun a i n n' => h.xUniq t u a i n n' hne⟩

theorem SInv.of_parts (hm : MInv c s) (ht : ∀ t, TInv c s (s.pc t))
    (he : ∀ t u, t ≠ u → Excl c (s.pc t) (s.pc u)) : SInv c s where
  pre0 := hm.pre0
  acpos := hm.acpos
  fresh := hm.fresh
  arrp := hm.arrp
  onp := hm.onp
  pos := fun t => (ht t).pos
  casI := fun t => (ht t).casI
  casE := fun t => (ht t).casE
  casU := fun t => (ht t).casU
  xA := fun t => (ht t).xA
  own := fun t => (ht t).own
  ownd := fun t u op a lvl n b op' a' lvl' n' hne => (he t u hne).ownd op a lvl n b op' a' lvl' n'
  xNull := fun t => (ht t).xNull
  xConvd := fun t => (ht t).xConvd
  xUniq := fun t u a i n n' hne => (he t u hne).xUniq a i n n'
  xFull := fun t => (ht t).xFull

theorem Excl.symm {p q : PC} (e : Excl c p q) : Excl c q p :=
  ⟨fun op a lvl n b op' a' lvl' n' h1 h2 => e.ownd op' a' lvl' n' b op a lvl n h2 h1,
   fun a i n n' h1 h2 => e.xUniq a i n' n h2 h1⟩

/-- only a thread that owns an array node holds a converting slot -/
theorem cv_none_of_own_none {q : PC} (h : ownOf q = none) : cvOf c q = none := by
  cases q with
  | xConv _ _ _ _ _ => cases h
  | xCopy _ _ _ _ _ => cases h
  | xPub _ _ _ _ _ => cases h
  | _ => rfl

theorem Excl.of_unowned {q r : PC} (h : ownOf q = none) : Excl c q r :=
  ⟨fun _ _ _ _ _ _ _ _ _ h1 => (nomatch h.symm.trans h1),
   fun _ _ _ _ h1 => (nomatch (cv_none_of_own_none h).symm.trans h1)⟩

/-- the array node below an array-node pointer is published -/
theorem MInv.pub_child (hm : MInv c s) {a i b : Nat} (hc : s.cell a i = .arr b) : Pub s b := by
  have := hm.arrp a i b hc
  exact Or.inr (by rw [this.1, this.2.1]; exact hc)

/-- an array node being prepared by an expansion is not published -/
theorem TInv.own_ne_pub {p : PC} (hT : TInv c s p) {op : Op} {a lvl : Nat} {n : Node} {b a1 : Nat}
    (e : ownOf p = some (op, a, lvl, n, b)) (hpub : Pub s a1) : b ≠ a1 := by
  have hw := hT.own op a lvl n b e
  rintro rfl
  rcases hpub with e0 | e0
  · omega
  · exact hw.2.2.2.1 e0

/-! ### The step rule -/

/-- Thread `t` moves to `q`.  The clauses about slots and array nodes hold again, `q` satisfies the clauses of its
    thread, and every other thread keeps its clauses and stays apart from `q`. -/
theorem SInv.step_of {s' : St} {t : Tid} {q : PC} (h : SInv c s) (hpc : s'.pc = upd s.pc t q)
    (hm : MInv c s') (hq : TInv c s' q)
    (hoth : ∀ u, u ≠ t → TInv c s' (s.pc u) ∧ Excl c q (s.pc u)) : SInv c s' := by
  have hpt : s'.pc t = q := by rw [hpc, upd_same]
  have hpu : ∀ u, u ≠ t → s'.pc u = s.pc u := fun u hu => by rw [hpc, upd_other _ _ _ _ hu]
  refine SInv.of_parts hm ?_ ?_
  · intro u
    by_cases hu : u = t
    · rw [hu, hpt]; exact hq
    · rw [hpu u hu]; exact (hoth u hu).1
  · intro u v huv
    by_cases hu : u = t
    · have hv : v ≠ t := fun e => huv (hu.trans e.symm)
      rw [hu, hpt, hpu v hv]; exact (hoth v hv).2
    · by_cases hv : v = t
      · rw [hv, hpt, hpu u hu]; exact (hoth u hu).2.symm
      · rw [hpu u hu, hpu v hv]; exact h.excl huv

/-- `ncnt` and `pc` are not read -/
theorem MInv.quiet (hm : MInv c s) (k : Nat) (pcs : Tid → PC) : MInv c { s with ncnt := k, pc := pcs } :=
  ⟨hm.pre0, hm.acpos, hm.fresh, hm.arrp, hm.onp⟩

theorem TInv.quiet {p : PC} (hT : TInv c s p) (k : Nat) (pcs : Tid → PC) : TInv c { s with ncnt := k, pc := pcs } p :=
  ⟨hT.pos, hT.casI, hT.casE, hT.casU, hT.xA, hT.own, hT.xNull, hT.xConvd, hT.xFull⟩

/-- A step that writes no slot and allocates nothing: thread `t` moves to a counter `q` that satisfies the clauses
    of its thread and stays apart from the others. -/
theorem sinv_quiet {t : Tid} {q : PC} (h : SInv c s) (k : Nat) (hq : TInv c s q)
    (hex : ∀ u, u ≠ t → Excl c q (s.pc u)) : SInv c { s with ncnt := k, pc := upd s.pc t q } :=
  h.step_of rfl (h.mem.quiet k _) (hq.quiet k _) (fun u hu => ⟨(h.thread u).quiet k _, hex u hu⟩)

/-- A counter that owns no array node: its position, and the clause of its own constructor. -/
theorem TInv.of_unowned {q : PC} (hown : ownOf q = none)
    (hpos : ∀ op a lvl, posOf q = some (op, a, lvl) →
      Pub s a ∧ a < s.acnt ∧ lvl < c.depth ∧ s.pre a = (c.path (okey op)).take lvl)
    (hI : ∀ op a lvl, q = .casIns op a lvl → isGA op = true ∧ ∀ n0, op ≠ .upd n0 0)
    (hE : ∀ op a lvl n, q = .casEra op a lvl n → n.key = okey op ∧ ∃ k, op = .era k)
    (hU : ∀ op a lvl n, q = .casUpd op a lvl n → n.key = okey op ∧ ∃ n0 al, op = .upd n0 al)
    (hA : ∀ op a lvl n, q = .xAlloc op a lvl n → lvl + 1 < c.depth) : TInv c s q where
  pos := hpos
  casI := hI
  casE := hE
  casU := hU
  xA := hA
  own := fun _ _ _ _ _ e => nomatch hown.symm.trans e
  xNull := fun _ _ _ _ _ e => by rcases e with rfl | rfl <;> cases hown
  xConvd := fun _ _ _ e => nomatch (cv_none_of_own_none hown).symm.trans e
  xFull := fun _ _ _ _ _ e => by subst e; cases hown

theorem TInv.idle : TInv c s .idle := .of_unowned rfl nofun nofun nofun nofun nofun

theorem TInv.done (r : GRet) : TInv c s (.done r) := .of_unowned rfl nofun nofun nofun nofun nofun

/-- `trav`, `prot1`, `prot2`: a position and nothing else -/
theorem TInv.at_pos {q : PC} {op : Op} {a lvl : Nat}
    (hq : q = .trav op a lvl ∨ (∃ cl, q = .prot1 op a lvl cl) ∨ ∃ cl x, q = .prot2 op a lvl cl x)
    (hpos : Pub s a ∧ a < s.acnt ∧ lvl < c.depth ∧ s.pre a = (c.path (okey op)).take lvl) : TInv c s q := by
  rcases hq with rfl | ⟨cl, rfl⟩ | ⟨cl, x, rfl⟩
  all_goals exact .of_unowned rfl (fun _ _ _ e => by cases e; exact hpos) nofun nofun nofun nofun

end

theorem sinv_init (c : Cfg) : SInv c init :=
  .of_parts ⟨rfl, Nat.one_pos, fun _ _ _ => rfl, nofun, nofun⟩ (fun _ => .idle) (fun _ _ _ => .of_unowned rfl)

/-- the level of a position is the length of the prefix of its array node -/
theorem pos_len {c : Cfg} (hp : PathHyp c) {k : Int} {lvl : Nat} {p : List Nat} (h1 : lvl < c.depth)
    (h2 : p = (c.path k).take lvl) : p.length = lvl := by
  subst h2
  have := hp.len k
  simp; omega

theorem pos_pfx {c : Cfg} (hp : PathHyp c) {k : Int} {lvl : Nat} {p : List Nat} (h1 : lvl < c.depth)
    (h2 : p = (c.path k).take lvl) : Pfx p (sl c k lvl) (c.path k) := by
  subst h2
  exact pfx_of_take _ _ (by rw [hp.len k]; exact h1)

theorem pos_next {c : Cfg} (hp : PathHyp c) {k : Int} {lvl : Nat} {p : List Nat} (h1 : lvl < c.depth)
    (h2 : p = (c.path k).take lvl) : p ++ [sl c k lvl] = (c.path k).take (lvl + 1) := by
  subst h2
  exact (take_succ_getD _ _ (by rw [hp.len k]; exact h1)).symm

/-- there is at least one level: two keys have different paths -/
theorem PathHyp.depth_pos {c : Cfg} (hp : PathHyp c) : 0 < c.depth := by
  have h0 := hp.len 0
  have h1 := hp.len 1
  cases hd : c.depth with
  | zero =>
    rw [hd] at h0 h1
    have := hp.inj 0 1 (by rw [List.eq_nil_of_length_eq_zero h0, List.eq_nil_of_length_eq_zero h1])
    omega
  | succ n => omega

theorem sinv_invoke {c : Cfg} {s s' : St} {t : Tid} {op : GOp} (hp : PathHyp c) (h : SInv c s)
    (hs : invoke s t op = some s') : SInv c s' := by
  -- every invocation starts a traversal at the head array
  have hq : ∀ o, TInv c s (.trav o 0 0) := fun o =>
    .at_pos (.inl rfl) ⟨Or.inl rfl, h.acpos, hp.depth_pos, by rw [h.pre0]; rfl⟩
  unfold invoke at hs
  split at hs
  · split at hs
    all_goals (try (cases hs; done))
    all_goals (cases hs; exact sinv_quiet h _ (hq _) (fun _ _ => .of_unowned rfl))
  · cases hs

theorem sinv_result {c : Cfg} {s s' : St} {t : Tid} {r : GRet} (h : SInv c s)
    (hs : result s t = some (s', r)) : SInv c s' := by
  unfold result at hs
  split at hs
  · cases hs; exact sinv_quiet h _ .idle (fun _ _ => .of_unowned rfl)
  · cases hs

end CdsVerif.Algo.Feldman
