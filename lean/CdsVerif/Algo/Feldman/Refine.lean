/-
  Refinement: the step at which an operation fixes its result is the `Spec.map` transition of that operation on the
  abstract map `look`; every other step — in particular every step of `expand_slot` — leaves `look` unchanged.

  Linearization points:  insert → true  : the CAS null → item            erase → item : the CAS item → null
                         update (new)   : the CAS null → item            update (replace) : the CAS old item → item
                         every other answer (insert → false, erase → not found, find, contains, update refused):
                         the LAST load of `protect`, the one that confirms the slot value the answer is computed from.
-/
import CdsVerif.Algo.Feldman.Reach
namespace CdsVerif.Algo.Feldman
open CdsVerif.Machine CdsVerif.Spec CdsVerif.Lin

/-- the result, once it is fixed -/
def retOf : PC → Option GRet
  | .done r => some r
  | _ => none

/-- the operation in progress (before its result is fixed) -/
def opOf (pc : PC) : Option GOp := (posOf pc).map (fun x => gopOf x.1)

/-! ### `decideOp` as a linearization point -/

theorem decideOp_lp {c : Cfg} {L : Int → Option Int} {op : Op} {a lvl : Nat} {cl : Cell} {r : GRet}
    (hL : L (okey op) = leaf (okey op) cl)
    (heos : ∀ n, cl = .data n → n.key ≠ okey op → lvl + 1 < c.depth)
    (hd : decideOp c op a lvl cl = .done r) : LPok L (gopOf op) r L := by
  unfold decideOp at hd
  split at hd
  · next n =>
    simp only [leaf] at hL
    split at hd
    · next hk =>
      rw [if_pos hk] at hL
      cases op with
      | ins n0 =>
        cases hd
        exact LPok.ro_some hL (fun _ => rfl) (Or.inl ⟨n0.val, rfl, rfl⟩)
      | upd n0 al =>
        simp only [okey] at hL hk
        by_cases hnn : n = n0
        · subst hnn
          simp only [if_true, PC.done.injEq] at hd; subst hd
          refine LPok.upd_repl hL ?_
          intro j
          by_cases hj : j = n.key
          · subst hj; simp only [if_true]; exact hL
          · simp [hj]
        · simp [hnn] at hd
      | era k => simp at hd
      | fnd k =>
        cases hd
        exact LPok.ro_some hL (fun _ => rfl) (Or.inr (Or.inl ⟨rfl, rfl⟩))
      | con k =>
        cases hd
        exact LPok.ro_some hL (fun _ => rfl) (Or.inr (Or.inr ⟨rfl, rfl⟩))
    · next hk =>
      rw [if_neg hk] at hL
      have he := heos n rfl hk
      cases op with
      | ins n0 => simp [he] at hd
      | upd n0 al =>
        simp only at hd
        split at hd
        · simp at hd
        · next hal =>
          cases hd
          have : al = 0 := by simpa using hal
          subst this
          exact LPok.upd_refused hL (fun _ => rfl)
      | era k =>
        cases hd
        exact LPok.ro_none hL (fun _ => rfl) (Or.inl rfl)
      | fnd k =>
        cases hd
        exact LPok.ro_none hL (fun _ => rfl) (Or.inr (Or.inl rfl))
      | con k =>
        cases hd
        exact LPok.ro_none hL (fun _ => rfl) (Or.inr (Or.inr rfl))
  · simp only [leaf] at hL
    cases op with
    | ins n0 => simp at hd
    | upd n0 al =>
      simp only at hd
      split at hd
      · simp at hd
      · next hal =>
        cases hd
        have : al = 0 := by simpa using hal
        subst this
        exact LPok.upd_refused hL (fun _ => rfl)
    | era k =>
      cases hd
      exact LPok.ro_none hL (fun _ => rfl) (Or.inl rfl)
    | fnd k =>
      cases hd
      exact LPok.ro_none hL (fun _ => rfl) (Or.inr (Or.inl rfl))
    | con k =>
      cases hd
      exact LPok.ro_none hL (fun _ => rfl) (Or.inr (Or.inr rfl))
  · simp at hd

/-! ### What the slot of a position answers -/

/-- In a table in which the walk along the prefix of the position still reaches its array node, and whose slot there
    is not an array-node pointer, the traversal for the operation's key ends at that slot. -/
theorem go_at_pos {c : Cfg} {s : St} (hp : PathHyp c) (h : SInv c s) (t : Tid) (op : Op) (a lvl : Nat)
    (hpo : posOf (s.pc t) = some (op, a, lvl)) (cell' : Nat → Nat → Cell) (hw : walk cell' 0 (s.pre a) = some a)
    (hc : ∀ b, cell' a (sl c (okey op) lvl) ≠ .arr b) :
    go cell' (okey op) 0 (c.path (okey op)) = leaf (okey op) (cell' a (sl c (okey op) lvl)) := by
  have hpos := h.pos t op a lvl hpo
  rw [(pos_pfx hp hpos.2.2.1 hpos.2.2.2).split]
  exact go_at cell' _ _ _ a _ hw hc

/-- the slot of the position is not an array-node pointer: the traversal for the operation's key stops there -/
theorem look_pos_leaf {c : Cfg} {s : St} (hp : PathHyp c) (h : SInv c s) (t : Tid) (op : Op) (a lvl : Nat)
    (hpo : posOf (s.pc t) = some (op, a, lvl)) (hc : ∀ b, s.cell a (sl c (okey op) lvl) ≠ .arr b) :
    look c s (okey op) = leaf (okey op) (s.cell a (sl c (okey op) lvl)) :=
  go_at_pos hp h t op a lvl hpo s.cell (walk_pub h a (h.pos t op a lvl hpo).1) hc

/-- the same slot after it has been overwritten with a value that is not an array-node pointer -/
theorem look_write_key {c : Cfg} {s : St} (hp : PathHyp c) (h : SInv c s) (t : Tid) (op : Op) (a lvl : Nat)
    (hpo : posOf (s.pc t) = some (op, a, lvl)) (v : Cell) (hv : ∀ b, v ≠ .arr b)
    (hc : ∀ b, s.cell a (sl c (okey op) lvl) ≠ .arr b) (pcs : Tid → PC) :
    look c { s with cell := upd2 s.cell a (sl c (okey op) lvl) v, pc := pcs } (okey op) = leaf (okey op) v := by
  have hw' : walk (upd2 s.cell a (sl c (okey op) lvl) v) 0 (s.pre a) = some a := by
    refine walk_mono (fun a1 i1 b1 hb => ?_) _ _ _ (walk_pub h a (h.pos t op a lvl hpo).1)
    rw [upd2_other _ _ _ _ _ _ (fun hh => hc b1 (by rw [← hh.1, ← hh.2]; exact hb))]
    exact hb
  have := go_at_pos hp h t op a lvl hpo _ hw' (by rw [upd2_same]; exact hv)
  rw [upd2_same] at this
  exact this

theorem look_write_other {c : Cfg} {s : St} (a i : Nat) (v : Cell) (hv : ∀ b, v ≠ .arr b)
    (hc : ∀ b, s.cell a i ≠ .arr b) (pcs : Tid → PC) (j : Int) (hl : leaf j v = leaf j (s.cell a i)) :
    look c { s with cell := upd2 s.cell a i v, pc := pcs } j = look c s j :=
  go_upd_leaf s.cell j a i v hc hv hl _ 0

theorem look_write {c : Cfg} {s : St} (hp : PathHyp c) (h : SInv c s) (t : Tid) (op : Op) (a lvl : Nat)
    (hpo : posOf (s.pc t) = some (op, a, lvl)) (v : Cell) (hv : ∀ b, v ≠ .arr b)
    (hc : ∀ b, s.cell a (sl c (okey op) lvl) ≠ .arr b) (pcs : Tid → PC)
    (hoth : ∀ j, j ≠ okey op → leaf j v = leaf j (s.cell a (sl c (okey op) lvl))) (j : Int) :
    look c { s with cell := upd2 s.cell a (sl c (okey op) lvl) v, pc := pcs } j =
      if j = okey op then leaf (okey op) v else look c s j := by
  by_cases hj : j = okey op
  · subst hj; rw [if_pos rfl]; exact look_write_key hp h t op a lvl hpo v hv hc pcs
  · rw [if_neg hj]; exact look_write_other a _ v hv hc pcs j (hoth j hj)

/-- at the last level a slot holds only items of one key (this is where the injectivity of the hash is used) -/
theorem not_eos {c : Cfg} {s : St} (hp : PathHyp c) (h : SInv c s) (t : Tid) (op : Op) (a lvl : Nat)
    (hpo : posOf (s.pc t) = some (op, a, lvl)) (n : Node) (hc : s.cell a (sl c (okey op) lvl) = .data n)
    (hk : n.key ≠ okey op) : lvl + 1 < c.depth := by
  have hpos := h.pos t op a lvl hpo
  have hl := pos_len hp hpos.2.2.1 hpos.2.2.2
  have h1 := pos_pfx hp hpos.2.2.1 hpos.2.2.2
  have h2 := h.onp a _ n (Or.inl hc)
  apply Classical.byContradiction
  intro hge
  have hd : c.depth = lvl + 1 := by omega
  have := Pfx.full_eq h2 h1 (by rw [hp.len, hl, hd]) (by rw [hp.len, hl, hd])
  exact hk (hp.inj _ _ this)

/-- A successful CAS of insert / erase / update at the position of the operation: the slot held `x`, null or an item
    of the operation's key, and gets `v`, likewise.  The answer for that key goes from the one of `x` to the one of
    `v`; no other key is affected. -/
theorem look_cas {c : Cfg} {s : St} (hp : PathHyp c) (h : SInv c s) (t : Tid) (op : Op) (a lvl : Nat)
    (hpo : posOf (s.pc t) = some (op, a, lvl)) {x v : Cell} (hx : s.cell a (sl c (okey op) lvl) = x)
    (hxk : x = .null ∨ ∃ n, x = .data n ∧ n.key = okey op) (hvk : v = .null ∨ ∃ n, v = .data n ∧ n.key = okey op)
    (pcs : Tid → PC) :
    look c s (okey op) = leaf (okey op) x ∧
    ∀ j, look c { s with cell := upd2 s.cell a (sl c (okey op) lvl) v, pc := pcs } j =
      if j = okey op then leaf (okey op) v else look c s j := by
  have hxa : ∀ b, x ≠ .arr b := by
    rintro b rfl
    rcases hxk with e | ⟨n, e, -⟩ <;> cases e
  have hva : ∀ b, v ≠ .arr b := by
    rintro b rfl
    rcases hvk with e | ⟨n, e, -⟩ <;> cases e
  subst hx
  refine ⟨look_pos_leaf hp h t op a lvl hpo hxa, look_write hp h t op a lvl hpo v hva hxa pcs ?_⟩
  intro j hj
  rw [leaf_other hvk hj, leaf_other hxk hj]

/-! ### The refinement theorem -/

section
variable {c : Cfg} {s s' : St} {t : Tid} {p : PC}

-- `p` is the program counter of the thread before the step (in `step_refines` a constructor application)

/-- a step that does not fix the result and changes no lookup -/
theorem refines_of_look (hr : retOf (s'.pc t) = none) (hl : ∀ k, look c s' k = look c s k) :
    (∀ r, retOf (s'.pc t) = some r → ∃ op, opOf p = some op ∧ LPok (look c s) op r (look c s')) ∧
    (retOf (s'.pc t) = none → ∀ k, look c s' k = look c s k) :=
  ⟨fun _ e => (nomatch hr.symm.trans e), fun _ => hl⟩

/-- … in particular a step that writes no slot -/
theorem refines_of_not_done (hc : s'.cell = s.cell) (hr : retOf (s'.pc t) = none) :
    (∀ r, retOf (s'.pc t) = some r → ∃ op, opOf p = some op ∧ LPok (look c s) op r (look c s')) ∧
    (retOf (s'.pc t) = none → ∀ k, look c s' k = look c s k) :=
  refines_of_look hr (fun k => by unfold look; rw [hc])

/-- a step that fixes the result `r` of the operation in progress: a linearization point -/
theorem refines_of_done {op : Op} {a lvl : Nat} {r : GRet} (hpo : posOf p = some (op, a, lvl))
    (hr : s'.pc t = .done r) (hlp : LPok (look c s) (gopOf op) r (look c s')) :
    (∀ r, retOf (s'.pc t) = some r → ∃ op, opOf p = some op ∧ LPok (look c s) op r (look c s')) ∧
    (retOf (s'.pc t) = none → ∀ k, look c s' k = look c s k) := by
  rw [hr]
  refine ⟨fun r' e => ?_, nofun⟩
  cases e
  exact ⟨gopOf op, by unfold opOf; rw [hpo]; rfl, hlp⟩

end


theorem step_refines {c : Cfg} {s s' : St} {t : Tid} {ev : Ev} (hp : PathHyp c) (hcf : c.copyFirst = true)
    (h : SInv c s) (hs : step c s t = some (s', ev)) :
    (∀ r, retOf (s'.pc t) = some r →
      ∃ op, opOf (s.pc t) = some op ∧ LPok (look c s) op r (look c s')) ∧
    (retOf (s'.pc t) = none → ∀ k, look c s' k = look c s k) := by
  have quiet : ∀ q, retOf q = none → retOf (upd s.pc t q t) = none := fun q e => by rw [upd_same]; exact e
  cases hpc : s.pc t with
  | idle => simp [step, hpc] at hs
  | done r => simp [step, hpc] at hs
  | trav op a lvl =>
    simp only [step, hpc] at hs
    split at hs <;> cases hs
    · exact refines_of_not_done rfl (quiet _ rfl)
    · exact refines_of_not_done rfl (by rw [hpc]; rfl)
    · exact refines_of_not_done rfl (quiet _ rfl)
  | prot1 op a lvl cl =>
    simp only [step, hpc] at hs
    cases hs
    exact refines_of_not_done rfl (quiet _ rfl)
  | prot2 op a lvl cl x =>
    have hpo : posOf (s.pc t) = some (op, a, lvl) := by rw [hpc]; rfl
    simp only [step, hpc] at hs
    split at hs
    · cases hs
      exact refines_of_not_done rfl (quiet _ (by cases isGA op <;> rfl))
    · split at hs
      · cases hs
        exact refines_of_not_done rfl (quiet _ rfl)
      · next h1 h2 =>
        cases hs
        -- the last load of `protect`: the slot holds the value the answer is computed from
        have hcl : s.cell a (sl c (okey op) lvl) = cl := Decidable.of_not_not h2
        cases hd : decideOp c op a lvl cl with
        | done r =>
          refine refines_of_done rfl (upd_same _ _ _) ?_
          -- the slot value: null or data (otherwise `decideOp` does not finish)
          have hna : ∀ b, s.cell a (sl c (okey op) lvl) ≠ .arr b := by
            intro b hb; rw [hcl] at hb; subst hb; simp [decideOp] at hd
          have hL := look_pos_leaf hp h t op a lvl hpo hna
          rw [hcl] at hL
          exact decideOp_lp hL (fun n hn hk => not_eos hp h t op a lvl hpo n (by rw [hcl, hn]) hk) hd
        | _ => exact refines_of_not_done rfl (quiet _ rfl)
  | casIns op a lvl =>
    have hpo : posOf (s.pc t) = some (op, a, lvl) := by rw [hpc]; rfl
    have hga := h.casI t op a lvl hpc
    simp only [step, hpc] at hs
    split at hs
    · next hnull =>
      cases hs
      refine refines_of_done rfl (upd_same _ _ _) ?_
      have hk : (onode op).key = okey op := by
        have := hga.1
        cases op <;> simp_all [onode, okey, isGA]
      obtain ⟨hL, hL'⟩ := look_cas hp h t op a lvl hpo hnull (.inl rfl) (.inr ⟨onode op, rfl, hk⟩)
        (upd s.pc t (.done (insRet op)))
      simp only [leaf] at hL hL'
      cases op with
      | ins n0 =>
        simp only [okey, onode, if_true] at hL hL'
        exact LPok.ins_ok hL hL'
      | upd n0 al =>
        have hal : al ≠ 0 := by intro e; subst e; exact hga.2 n0 rfl
        simp only [okey, onode, if_true] at hL hL'
        exact LPok.upd_new hL hal hL'
      | era k => simp [isGA] at hga
      | fnd k => simp [isGA] at hga
      | con k => simp [isGA] at hga
    · cases hs
      exact refines_of_not_done rfl (quiet _ rfl)
  | casEra op a lvl n =>
    have hpo : posOf (s.pc t) = some (op, a, lvl) := by rw [hpc]; rfl
    obtain ⟨hk, k, hop⟩ := h.casE t op a lvl n hpc
    simp only [step, hpc] at hs
    split at hs
    · next hd =>
      cases hs
      refine refines_of_done rfl (upd_same _ _ _) ?_
      obtain ⟨hL, hL'⟩ := look_cas hp h t op a lvl hpo hd (.inr ⟨n, rfl, hk⟩) (.inl rfl)
        (upd s.pc t (.done [1, n.val]))
      subst hop
      simp only [leaf, okey, hk, if_true] at hL hL'
      exact LPok.era_ok hL hL'
    · cases hs
      exact refines_of_not_done rfl (quiet _ rfl)
  | casUpd op a lvl n =>
    have hpo : posOf (s.pc t) = some (op, a, lvl) := by rw [hpc]; rfl
    obtain ⟨hk, n0, al, hop⟩ := h.casU t op a lvl n hpc
    simp only [step, hpc] at hs
    split at hs
    · next hd =>
      cases hs
      refine refines_of_done rfl (upd_same _ _ _) ?_
      subst hop
      obtain ⟨hL, hL'⟩ := look_cas hp h t (.upd n0 al) a lvl hpo hd (.inr ⟨n, rfl, hk⟩) (.inr ⟨n0, rfl, rfl⟩)
        (upd s.pc t (.done [1, 0]))
      simp only [leaf, okey, hk, if_true] at hL hL'
      exact LPok.upd_repl hL hL'
    · cases hs
      exact refines_of_not_done rfl (quiet _ rfl)
  | xAlloc op a lvl n =>
    simp only [step, hpc] at hs
    cases hs
    exact refines_of_not_done rfl (quiet _ rfl)
  | xConv op a lvl n b =>
    simp only [step, hpc, hcf, if_true] at hs
    split at hs
    · next hd =>
      cases hs
      -- the slot answers for the same item as before
      exact refines_of_look (quiet _ rfl) (fun j => look_write_other a _ (.conv n) nofun (by rw [hd]; nofun) _ j
        (by rw [hd]; rfl))
    · cases hs
      exact refines_of_not_done rfl (quiet _ rfl)
  | xCopy op a lvl n b =>
    have hw := h.own t op a lvl n b (by rw [hpc]; rfl)
    simp only [step, hpc, hcf, if_true] at hs
    cases hs
    -- no slot points to the array node that is written
    refine refines_of_look (quiet _ rfl) (fun j => go_upd_unreach s.cell j b _ _ ?_ _ 0 (by omega))
    intro a1 i1 hc
    have := h.arrp _ _ _ hc
    rw [← this.1, ← this.2.1] at hc
    exact hw.2.2.2.1 hc
  | xPub op a lvl n b =>
    have hpo := h.pos t op a lvl (by rw [hpc]; rfl)
    have hw := h.own t op a lvl n b (by rw [hpc]; rfl)
    have hcv := h.xConvd t a (sl c (okey op) lvl) n (by rw [hpc]; rfl)
    have hl := pos_len hp hpo.2.2.1 hpo.2.2.2
    have hf := h.xFull t op a lvl n b hpc
    simp only [step, hpc, hcf, if_true] at hs
    split at hs
    · cases hs
      have hsl : sl c n.key (lvl + 1) = (c.path n.key).getD ((s.pre a).length + 1) 0 := by rw [hl]; rfl
      refine refines_of_look (quiet _ rfl) (fun j => ?_)
      refine go_publish (pre := s.pre) (path := c.path) (depth := c.depth) hp.len
        (fun a i b hc => (h.arrp a i b hc).2.2.1) hcv (by omega)
        (by rw [hl]; exact hw.2.2.2.2.1) (by rw [← hsl]; exact hf.1) (by rw [← hsl]; exact hf.2) j _ 0 ?_
      rw [h.pre0]; rfl
    · next hne => exact absurd hcv hne

end CdsVerif.Algo.Feldman
