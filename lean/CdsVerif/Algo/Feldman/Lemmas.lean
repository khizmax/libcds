/-
  Lemmas for the FeldmanHashSet model that do not mention the machine's steps:
    * prefixes of hash paths (`Pfx p i l`: `p ++ [i]` is a prefix of `l`);
    * the traversal functions `go` / `walk` / `stop` under the three kinds of slot update the algorithm performs
      (a slot that is not an array-node pointer changes to another such value; a slot of an unpublished array node
      changes; a converting slot becomes the pointer to a prepared array node);
    * the sequential map specification seen through a lookup function.
-/
import CdsVerif.Algo.Feldman.Model
import CdsVerif.Base.LocalityMap
namespace CdsVerif.Algo.Feldman
open CdsVerif.Machine CdsVerif.Spec CdsVerif.Lin

/-! ### Prefixes -/

/-- `p ++ [i]` is a prefix of `l` -/
def Pfx (p : List Nat) (i : Nat) (l : List Nat) : Prop :=
  p.length < l.length ∧ l.take p.length = p ∧ l.getD p.length 0 = i

theorem take_succ_getD (l : List Nat) (n : Nat) (h : n < l.length) : l.take (n + 1) = l.take n ++ [l.getD n 0] := by
  rw [List.take_add_one]
  simp [List.getD, List.getElem?_eq_getElem h]

theorem pfx_of_take (l : List Nat) (n : Nat) (h : n < l.length) : Pfx (l.take n) (l.getD n 0) l := by
  have hl : (l.take n).length = n := by simp; omega
  refine ⟨by omega, by rw [hl], by rw [hl]⟩

theorem Pfx.take_eq {p : List Nat} {i : Nat} {l : List Nat} (h : Pfx p i l) : l.take (p.length + 1) = p ++ [i] := by
  obtain ⟨h1, h2, h3⟩ := h
  rw [take_succ_getD l _ h1, h2, h3]

theorem Pfx.split {p : List Nat} {i : Nat} {l : List Nat} (h : Pfx p i l) : l = p ++ i :: l.drop (p.length + 1) := by
  have := h.take_eq
  calc l = l.take (p.length + 1) ++ l.drop (p.length + 1) := (List.take_append_drop _ _).symm
    _ = (p ++ [i]) ++ l.drop (p.length + 1) := by rw [this]
    _ = p ++ i :: l.drop (p.length + 1) := by simp

theorem Pfx.snoc {p : List Nat} {i : Nat} {l : List Nat} (h : Pfx p i l) (h2 : p.length + 1 < l.length) :
    Pfx (p ++ [i]) (l.getD (p.length + 1) 0) l := by
  have hl : (p ++ [i]).length = p.length + 1 := by simp
  refine ⟨by omega, by rw [hl]; exact h.take_eq, by rw [hl]⟩

theorem Pfx.of_split {p : List Nat} {i : Nat} {r l : List Nat} (h : l = p ++ i :: r) : Pfx p i l := by
  subst h
  refine ⟨by simp, by simp, by simp [List.getD]⟩

theorem Pfx.full_eq {p : List Nat} {i : Nat} {l l' : List Nat} (h : Pfx p i l) (h' : Pfx p i l')
    (hl : l.length = p.length + 1) (hl' : l'.length = p.length + 1) : l = l' := by
  have e1 := h.take_eq
  have e2 := h'.take_eq
  rw [List.take_of_length_le (by omega)] at e1 e2
  rw [e1, e2]

theorem Pfx.idx_eq {p : List Nat} {i i' : Nat} {l : List Nat} (h : Pfx p i l) (h' : Pfx p i' l) : i = i' := by
  rw [← h.2.2, ← h'.2.2]

/-! ### Two-index tables -/

/-- a write to another array node -/
theorem upd2_row {α : Type} (f : Nat → Nat → α) (a i : Nat) (v : α) {a' : Nat} (h : a' ≠ a) (i' : Nat) :
    upd2 f a i v a' i' = f a' i' := upd2_other f a i a' i' v (fun e => h e.1)

theorem upd2_ne {α : Type} (f : Nat → Nat → α) (a i a' i' : Nat) {v x : α} (hv : v ≠ x) (hf : f a' i' ≠ x) :
    upd2 f a i v a' i' ≠ x := by
  simp only [upd2]
  split
  · exact hv
  · exact hf

/-! ### Traversals: one step -/

theorem leaf_eq_some {k v : Int} {x : Cell} (h : leaf k x = some v) :
    ∃ n, (x = .data n ∨ x = .conv n) ∧ n.key = k ∧ n.val = v := by
  cases x with
  | null => cases h
  | arr b => cases h
  | data n =>
    simp only [leaf] at h
    split at h
    · next hk => exact ⟨n, Or.inl rfl, hk, Option.some.inj h⟩
    · cases h
  | conv n =>
    simp only [leaf] at h
    split at h
    · next hk => exact ⟨n, Or.inr rfl, hk, Option.some.inj h⟩
    · cases h

/-- a slot that is empty or holds an item of key `k` answers nothing for another key -/
theorem leaf_other {k j : Int} {x : Cell} (hx : x = .null ∨ ∃ n, x = .data n ∧ n.key = k) (hj : j ≠ k) :
    leaf j x = none := by
  rcases hx with rfl | ⟨n, rfl, hn⟩
  · rfl
  · exact if_neg (fun e => hj (e.symm.trans hn))

theorem walk_arr {cell : Nat → Nat → Cell} {a i b : Nat} (h : cell a i = .arr b) (p : List Nat) :
    walk cell a (i :: p) = walk cell b p := by
  simp only [walk, h]

theorem walk_cons {cell : Nat → Nat → Cell} {a i x : Nat} {p : List Nat} :
    walk cell a (i :: p) = some x ↔ ∃ b, cell a i = .arr b ∧ walk cell b p = some x := by
  cases h : cell a i <;> simp [walk, h]

theorem go_arr {cell : Nat → Nat → Cell} {k : Int} {a i b : Nat} (h : cell a i = .arr b) (p : List Nat) :
    go cell k a (i :: p) = go cell k b p := by
  simp only [go, h]

theorem go_leaf {cell : Nat → Nat → Cell} {k : Int} {a i : Nat} (h : ∀ b, cell a i ≠ .arr b) (p : List Nat) :
    go cell k a (i :: p) = leaf k (cell a i) := by
  cases hc : cell a i with
  | arr b => exact absurd hc (h b)
  | null => simp only [go, hc]
  | data n => simp only [go, hc]
  | conv n => simp only [go, hc]

theorem stop_arr {cell : Nat → Nat → Cell} {a i b : Nat} (h : cell a i = .arr b) (p : List Nat) :
    stop cell a (i :: p) = stop cell b p := by
  simp only [stop, h]

theorem stop_leaf {cell : Nat → Nat → Cell} {a i : Nat} (h : ∀ b, cell a i ≠ .arr b) (p : List Nat) :
    stop cell a (i :: p) = some (a, i) := by
  cases hc : cell a i with
  | arr b => exact absurd hc (h b)
  | null => simp only [stop, hc]
  | data n => simp only [stop, hc]
  | conv n => simp only [stop, hc]

/-- Two tables hold the same value in slot `(a, i)` and give the same answers below it. -/
theorem go_cons_congr {cell cell' : Nat → Nat → Cell} {k : Int} {a i : Nat} {p : List Nat} (he : cell' a i = cell a i)
    (hb : ∀ b, cell a i = .arr b → go cell' k b p = go cell k b p) :
    go cell' k a (i :: p) = go cell k a (i :: p) := by
  by_cases hc : ∃ b, cell a i = .arr b
  · obtain ⟨b, hc⟩ := hc
    rw [go_arr hc, go_arr (he.trans hc)]
    exact hb b hc
  · have hn : ∀ b, cell a i ≠ .arr b := fun b e => hc ⟨b, e⟩
    rw [go_leaf hn, go_leaf (he ▸ hn), he]

/-! ### Traversals: along a path -/

/-- Whatever follows array-node pointers like `walk` (`go`, `stop`, `walk` itself) can be started at any array node
    the walk has reached. -/
theorem follow_split {β : Type} {cell : Nat → Nat → Cell} {f : Nat → List Nat → β}
    (hf : ∀ a i b r, cell a i = .arr b → f a (i :: r) = f b r) (p q : List Nat) (a0 a : Nat)
    (h : walk cell a0 p = some a) : f a0 (p ++ q) = f a q := by
  induction p generalizing a0 with
  | nil => cases h; rfl
  | cons i p ih =>
    obtain ⟨b, hb, hw⟩ := walk_cons.mp h
    rw [List.cons_append, hf a0 i b _ hb]
    exact ih b hw

theorem go_split (cell : Nat → Nat → Cell) (k : Int) (p q : List Nat) (a0 a : Nat) (h : walk cell a0 p = some a) :
    go cell k a0 (p ++ q) = go cell k a q :=
  follow_split (fun _ _ _ r hb => go_arr hb r) p q a0 a h

theorem stop_split (cell : Nat → Nat → Cell) (p q : List Nat) (a0 a : Nat) (h : walk cell a0 p = some a) :
    stop cell a0 (p ++ q) = stop cell a q :=
  follow_split (fun _ _ _ r hb => stop_arr hb r) p q a0 a h

theorem walk_snoc (cell : Nat → Nat → Cell) (p : List Nat) (a0 a i b : Nat) (h : walk cell a0 p = some a)
    (hc : cell a i = .arr b) : walk cell a0 (p ++ [i]) = some b :=
  (follow_split (fun _ _ _ r hb => walk_arr hb r) p [i] a0 a h).trans (walk_cons.mpr ⟨b, hc, rfl⟩)

/-- array-node pointers are never removed: a position once reached stays reached -/
theorem walk_mono {cell cell' : Nat → Nat → Cell} (hm : ∀ a i b, cell a i = .arr b → cell' a i = .arr b)
    (p : List Nat) (a0 a : Nat) (h : walk cell a0 p = some a) : walk cell' a0 p = some a := by
  induction p generalizing a0 with
  | nil => exact h
  | cons i p ih =>
    obtain ⟨b, hb, hw⟩ := walk_cons.mp h
    exact walk_cons.mpr ⟨b, hm a0 i b hb, ih b hw⟩

/-- the walk records the ghost prefix -/
theorem walk_pre {cell : Nat → Nat → Cell} {pre : Nat → List Nat}
    (hp : ∀ a i b, cell a i = .arr b → pre b = pre a ++ [i]) (p : List Nat) (a0 a : Nat)
    (h : walk cell a0 p = some a) : pre a = pre a0 ++ p := by
  induction p generalizing a0 with
  | nil => cases h; exact (List.append_nil _).symm
  | cons i p ih =>
    obtain ⟨b, hb, hw⟩ := walk_cons.mp h
    rw [ih b hw, hp a0 i b hb, List.append_assoc]
    rfl

/-- an array node reached by a non-empty walk is pointed to by a slot -/
theorem walk_published (cell : Nat → Nat → Cell) (p : List Nat) (a0 a : Nat) (h : walk cell a0 p = some a) :
    a = a0 ∨ ∃ a' i, cell a' i = .arr a := by
  induction p generalizing a0 with
  | nil => cases h; exact Or.inl rfl
  | cons i p ih =>
    obtain ⟨b, hb, hw⟩ := walk_cons.mp h
    rcases ih b hw with rfl | e
    · exact Or.inr ⟨a0, i, hb⟩
    · exact Or.inr e

/-- The terminal slot of a traversal: a position reached through array-node pointers whose slot is not one. -/
theorem stop_at (cell : Nat → Nat → Cell) (p q : List Nat) (a i : Nat)
    (hw : walk cell 0 p = some a) (hc : ∀ b, cell a i ≠ .arr b) : stop cell 0 (p ++ i :: q) = some (a, i) := by
  rw [stop_split cell p (i :: q) 0 a hw, stop_leaf hc]

theorem go_at (cell : Nat → Nat → Cell) (k : Int) (p q : List Nat) (a i : Nat)
    (hw : walk cell 0 p = some a) (hc : ∀ b, cell a i ≠ .arr b) : go cell k 0 (p ++ i :: q) = leaf k (cell a i) := by
  rw [go_split cell k p (i :: q) 0 a hw, go_leaf hc]

/-! ### Traversals under the three kinds of slot update -/

/-- A slot that is not an array-node pointer is replaced by a value that is not one either and gives key `k` the
    same answer: nothing changes for `k`. -/
theorem go_upd_leaf (cell : Nat → Nat → Cell) (k : Int) (a i : Nat) (v : Cell)
    (h1 : ∀ b, cell a i ≠ .arr b) (h2 : ∀ b, v ≠ .arr b) (h3 : leaf k v = leaf k (cell a i)) (p : List Nat) (a0 : Nat) :
    go (upd2 cell a i v) k a0 p = go cell k a0 p := by
  induction p generalizing a0 with
  | nil => rfl
  | cons j p ih =>
    by_cases hh : a0 = a ∧ j = i
    · obtain ⟨rfl, rfl⟩ := hh
      rw [go_leaf h1, go_leaf (by rw [upd2_same]; exact h2), upd2_same, h3]
    · exact go_cons_congr (upd2_other cell a i a0 j v hh) (fun b _ => ih b)

/-- A slot of an array node that no slot points to changes: no traversal started elsewhere notices. -/
theorem go_upd_unreach (cell : Nat → Nat → Cell) (k : Int) (b j : Nat) (v : Cell)
    (h1 : ∀ a i, cell a i ≠ .arr b) (p : List Nat) (a0 : Nat) (hne : a0 ≠ b) :
    go (upd2 cell b j v) k a0 p = go cell k a0 p := by
  induction p generalizing a0 with
  | nil => rfl
  | cons i p ih =>
    exact go_cons_congr (upd2_row cell b j v hne i) (fun b' hc => ih b' (fun e => h1 a0 i (e ▸ hc)))

/-- The publication step of `expand_slot`: the converting slot `(a, i)` (holding item `n`, at depth `|pre a|`) becomes
    the pointer to array node `b`, whose only non-null slot is the slot of `n` at the next level, holding `n`.
    Every traversal from the head array finds what it found before. -/
theorem go_publish {cell : Nat → Nat → Cell} {pre : Nat → List Nat} {path : Int → List Nat} {depth : Nat}
    {a i b : Nat} {n : Node}
    (hlen : ∀ k, (path k).length = depth)
    (hp : ∀ a i b, cell a i = .arr b → pre b = pre a ++ [i])
    (hc : cell a i = .conv n) (hab : a ≠ b)
    (hd : (pre a).length + 1 < depth)
    (hb1 : cell b ((path n.key).getD ((pre a).length + 1) 0) = .data n)
    (hb2 : ∀ j, j ≠ (path n.key).getD ((pre a).length + 1) 0 → cell b j = .null) (k : Int)
    (p : List Nat) (a0 : Nat) (hpath : pre a0 ++ p = path k) :
    go (upd2 cell a i (.arr b)) k a0 p = go cell k a0 p := by
  induction p generalizing a0 with
  | nil => rfl
  | cons i0 p ih =>
    by_cases hh : a0 = a ∧ i0 = i
    · -- the converted slot: the traversal used to end at `n` and now goes on in `b`
      obtain ⟨rfl, rfl⟩ := hh
      rw [go_arr (upd2_same cell a0 i0 (.arr b)), go_leaf (by rw [hc]; nofun), hc]
      cases p with
      | nil =>
        have h1 := hlen k
        rw [← hpath, List.length_append] at h1
        simp only [List.length_cons, List.length_nil] at h1
        omega
      | cons j r =>
        have hbj : upd2 cell a0 i0 (.arr b) b j = cell b j := upd2_row cell a0 i0 _ (Ne.symm hab) j
        by_cases hj : j = (path n.key).getD ((pre a0).length + 1) 0
        · rw [go_leaf (by rw [hbj, hj, hb1]; nofun), hbj, hj, hb1]
          rfl
        · -- an empty slot of `b`: the path of `n` does not go through it, so `k` is not the key of `n`
          have hk : n.key ≠ k := by
            intro hk
            apply hj
            rw [hk, ← hpath]
            simp [List.getD]
          rw [go_leaf (by rw [hbj, hb2 j hj]; nofun), hbj, hb2 j hj]
          exact (if_neg hk).symm
    · refine go_cons_congr (upd2_other cell a i a0 i0 _ hh) (fun b' hc0 => ih b' ?_)
      rw [hp a0 i0 b' hc0, ← hpath, List.append_assoc]
      rfl

/-! ### The sequential specification seen through a lookup function -/

/-- The operation `op` with result `r` takes the abstract map `L` to `L'` (for every representation of `L` as a state
    of the sequential map specification). -/
def LPok (L : Int → Option Int) (op : GOp) (r : GRet) (L' : Int → Option Int) : Prop :=
  ∀ m : MapSt, (∀ k, mfind m k = L k) → ∃ m', Spec.map.next m op r = some m' ∧ ∀ k, mfind m' k = L' k

theorem LPok.ins_ok {L L' : Int → Option Int} {k v : Int} (h0 : L k = none)
    (h1 : ∀ j, L' j = if j = k then some v else L j) : LPok L ⟨"insert", [k, v]⟩ [1] L' := by
  intro m hm
  have hn : mfind m k = none := by rw [hm, h0]
  refine ⟨(k, v) :: m, by simp [Spec.map, detSpec, mapStep, hn], ?_⟩
  intro j
  rw [mfind_cons, h1, hm]
  simp only [eq_comm]

theorem LPok.upd_new {L L' : Int → Option Int} {k v al : Int} (h0 : L k = none) (hal : al ≠ 0)
    (h1 : ∀ j, L' j = if j = k then some v else L j) : LPok L ⟨"update", [k, v, al]⟩ [1, 1] L' := by
  intro m hm
  have hn : mfind m k = none := by rw [hm, h0]
  refine ⟨(k, v) :: m, by simp [Spec.map, detSpec, mapStep, hn, hal], ?_⟩
  intro j
  rw [mfind_cons, h1, hm]
  simp only [eq_comm]

theorem LPok.upd_repl {L L' : Int → Option Int} {k v w al : Int} (h0 : L k = some w)
    (h1 : ∀ j, L' j = if j = k then some v else L j) : LPok L ⟨"update", [k, v, al]⟩ [1, 0] L' := by
  intro m hm
  have hn : mfind m k = some w := by rw [hm, h0]
  refine ⟨(k, v) :: merase m k, by simp [Spec.map, detSpec, mapStep, hn], ?_⟩
  intro j
  rw [mfind_cons, mfind_merase, h1, hm]
  by_cases e : k = j <;> simp [e, eq_comm]

theorem LPok.upd_refused {L L' : Int → Option Int} {k v : Int} (h0 : L k = none)
    (h1 : ∀ j, L' j = L j) : LPok L ⟨"update", [k, v, 0]⟩ [0, 0] L' := by
  intro m hm
  have hn : mfind m k = none := by rw [hm, h0]
  refine ⟨m, by simp [Spec.map, detSpec, mapStep, hn], ?_⟩
  intro j; rw [h1, hm]

theorem LPok.era_ok {L L' : Int → Option Int} {k v : Int} (h0 : L k = some v)
    (h1 : ∀ j, L' j = if j = k then none else L j) : LPok L ⟨"erase", [k]⟩ [1, v] L' := by
  intro m hm
  have hs : mfind m k = some v := by rw [hm, h0]
  refine ⟨merase m k, by simp [Spec.map, detSpec, mapStep, hs], ?_⟩
  intro j
  rw [mfind_merase, h1, hm]
  simp only [eq_comm]

theorem LPok.ro_some {L L' : Int → Option Int} {k v : Int} {op : GOp} {r : GRet} (h0 : L k = some v)
    (h1 : ∀ j, L' j = L j)
    (hop : (∃ v', op = ⟨"insert", [k, v']⟩ ∧ r = [0]) ∨ (op = ⟨"find", [k]⟩ ∧ r = [1, v]) ∨
           (op = ⟨"contains", [k]⟩ ∧ r = [1])) : LPok L op r L' := by
  intro m hm
  have hs : mfind m k = some v := by rw [hm, h0]
  refine ⟨m, ?_, fun j => by rw [h1, hm]⟩
  rcases hop with ⟨v', rfl, rfl⟩ | ⟨rfl, rfl⟩ | ⟨rfl, rfl⟩ <;> simp [Spec.map, detSpec, mapStep, hs]

theorem LPok.ro_none {L L' : Int → Option Int} {k : Int} {op : GOp} (h0 : L k = none)
    (h1 : ∀ j, L' j = L j)
    (hop : op = ⟨"erase", [k]⟩ ∨ op = ⟨"find", [k]⟩ ∨ op = ⟨"contains", [k]⟩) : LPok L op [0] L' := by
  intro m hm
  have hn : mfind m k = none := by rw [hm, h0]
  refine ⟨m, ?_, fun j => by rw [h1, hm]⟩
  rcases hop with rfl | rfl | rfl <;> simp [Spec.map, detSpec, mapStep, hn]

end CdsVerif.Algo.Feldman
