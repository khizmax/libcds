/-
  Preservation of `SInv` by the steps that do not write a slot: `trav`, `prot1`, `prot2`, and the failing CASes.
-/
import CdsVerif.Algo.Feldman.Inv
namespace CdsVerif.Algo.Feldman
open CdsVerif.Machine CdsVerif.Spec CdsVerif.Lin

/-! ### `decideOp` -/

theorem decideOp_pos (c : Cfg) (op : Op) (a lvl : Nat) (cl : Cell) (x : Op × Nat × Nat)
    (h : posOf (decideOp c op a lvl cl) = some x) : x = (op, a, lvl) := by
  unfold decideOp at h
  repeat' split at h
  all_goals (simp [posOf] at h)
  all_goals (first | exact h.symm | (obtain ⟨rfl, rfl, rfl⟩ := h; rfl))

theorem decideOp_own (c : Cfg) (op : Op) (a lvl : Nat) (cl : Cell) :
    ownOf (decideOp c op a lvl cl) = none ∧ cvOf c (decideOp c op a lvl cl) = none := by
  unfold decideOp
  repeat' split
  all_goals (simp [ownOf, cvOf])

theorem decideOp_I (c : Cfg) (op : Op) (a lvl : Nat) (cl : Cell) (op' : Op) (a' l' : Nat)
    (h : decideOp c op a lvl cl = .casIns op' a' l') : isGA op' = true ∧ ∀ n0, op' ≠ .upd n0 0 := by
  unfold decideOp at h
  repeat' split at h
  all_goals (simp at h)
  all_goals (obtain ⟨rfl, -, -⟩ := h; simp_all [isGA])

theorem decideOp_E (c : Cfg) (op : Op) (a lvl : Nat) (cl : Cell) (op' : Op) (a' l' : Nat) (n : Node)
    (h : decideOp c op a lvl cl = .casEra op' a' l' n) : n.key = okey op' ∧ ∃ k, op' = .era k := by
  unfold decideOp at h
  repeat' split at h
  all_goals (simp at h)
  all_goals (obtain ⟨rfl, -, -, rfl⟩ := h; simp_all)

theorem decideOp_U (c : Cfg) (op : Op) (a lvl : Nat) (cl : Cell) (op' : Op) (a' l' : Nat) (n : Node)
    (h : decideOp c op a lvl cl = .casUpd op' a' l' n) : n.key = okey op' ∧ ∃ n0 al, op' = .upd n0 al := by
  unfold decideOp at h
  repeat' split at h
  all_goals (simp at h)
  all_goals (obtain ⟨rfl, -, -, rfl⟩ := h; simp_all)

theorem decideOp_A (c : Cfg) (op : Op) (a lvl : Nat) (cl : Cell) (op' : Op) (a' l' : Nat) (n : Node)
    (h : decideOp c op a lvl cl = .xAlloc op' a' l' n) : l' + 1 < c.depth := by
  unfold decideOp at h
  repeat' split at h
  all_goals (simp at h)
  all_goals (obtain ⟨-, -, rfl, -⟩ := h; assumption)

/-- what `protect` has confirmed decides the next program counter, at the same position -/
theorem TInv.decideOp {c : Cfg} {s : St} {op : Op} {a lvl : Nat} (cl : Cell)
    (hpos : Pub s a ∧ a < s.acnt ∧ lvl < c.depth ∧ s.pre a = (c.path (okey op)).take lvl) :
    TInv c s (decideOp c op a lvl cl) :=
  .of_unowned (decideOp_own c op a lvl cl).1
    (fun _ _ _ e => by cases decideOp_pos c op a lvl cl _ e; exact hpos)
    (decideOp_I c op a lvl cl) (decideOp_E c op a lvl cl) (decideOp_U c op a lvl cl) (decideOp_A c op a lvl cl)

/-! ### The steps -/

/-- the thread goes (back) to `trav` at its position -/
theorem sinv_to_trav {c : Cfg} {s : St} {t : Tid} {op : Op} {a lvl : Nat} (h : SInv c s)
    (hpo : posOf (s.pc t) = some (op, a, lvl)) : SInv c { s with pc := upd s.pc t (.trav op a lvl) } :=
  sinv_quiet h _ (.at_pos (.inl rfl) (h.pos t op a lvl hpo)) (fun _ _ => .of_unowned rfl)

theorem sinv_trav {c : Cfg} {s s' : St} {t : Tid} {ev : Ev} {op : Op} {a lvl : Nat} (hp : PathHyp c) (h : SInv c s)
    (hpc : s.pc t = .trav op a lvl) (hs : step c s t = some (s', ev)) : SInv c s' := by
  have hpo := h.pos t op a lvl (by rw [hpc]; rfl)
  simp only [step, hpc] at hs
  split at hs
  · next b hb =>
    -- an array-node pointer: one level down
    cases hs
    have ha := h.arrp _ _ _ hb
    have hl := pos_len hp hpo.2.2.1 hpo.2.2.2
    refine sinv_quiet h _ (.at_pos (.inl rfl) ⟨h.mem.pub_child hb, ha.2.2.2.2.1, by omega, ?_⟩)
      (fun _ _ => .of_unowned rfl)
    rw [ha.2.2.1]
    exact pos_next hp hpo.2.2.1 hpo.2.2.2
  · cases hs; exact h
  · cases hs
    exact sinv_quiet h _ (.at_pos (.inr (.inl ⟨_, rfl⟩)) hpo) (fun _ _ => .of_unowned rfl)

theorem sinv_prot1 {c : Cfg} {s s' : St} {t : Tid} {ev : Ev} {op : Op} {a lvl : Nat} {cl : Cell} (h : SInv c s)
    (hpc : s.pc t = .prot1 op a lvl cl) (hs : step c s t = some (s', ev)) : SInv c s' := by
  have hpo := h.pos t op a lvl (by rw [hpc]; rfl)
  simp only [step, hpc] at hs
  cases hs
  exact sinv_quiet h _ (.at_pos (.inr (.inr ⟨_, _, rfl⟩)) hpo) (fun _ _ => .of_unowned rfl)

theorem sinv_prot2 {c : Cfg} {s s' : St} {t : Tid} {ev : Ev} {op : Op} {a lvl : Nat} {cl x : Cell} (h : SInv c s)
    (hpc : s.pc t = .prot2 op a lvl cl x) (hs : step c s t = some (s', ev)) : SInv c s' := by
  have hpo := h.pos t op a lvl (by rw [hpc]; rfl)
  simp only [step, hpc] at hs
  split at hs
  · cases hs
    cases isGA op
    · exact sinv_quiet h _ (.at_pos (.inr (.inr ⟨_, _, rfl⟩)) hpo) (fun _ _ => .of_unowned rfl)
    · exact sinv_quiet h _ (.at_pos (.inr (.inl ⟨_, rfl⟩)) hpo) (fun _ _ => .of_unowned rfl)
  · split at hs
    · cases hs; exact sinv_to_trav h (by rw [hpc]; rfl)
    · cases hs
      exact sinv_quiet h _ (.decideOp cl hpo) (fun _ _ => .of_unowned (decideOp_own c op a lvl cl).1)

/-- a CAS that fails: back to `traverse` -/
theorem sinv_cas_fail {c : Cfg} {s s' : St} {t : Tid} {op : Op} {a lvl : Nat} (h : SInv c s)
    (hpo : posOf (s.pc t) = some (op, a, lvl)) (hs' : s' = { s with pc := upd s.pc t (.trav op a lvl) }) :
    SInv c s' := by
  subst hs'; exact sinv_to_trav h hpo

end CdsVerif.Algo.Feldman
