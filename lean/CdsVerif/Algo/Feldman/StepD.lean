/-
  Preservation of `SInv` by the copy of the displaced item into the new array node (`xCopy`) and by the publication
  of the new array node (`xPub`), for the library's order (copy first).
-/
import CdsVerif.Algo.Feldman.StepB
namespace CdsVerif.Algo.Feldman
open CdsVerif.Machine CdsVerif.Spec CdsVerif.Lin

/-- The write goes to a slot of the array node the thread is preparing: empty, and out of everybody else's reach. -/
theorem sinv_xCopy {c : Cfg} {s s' : St} {t : Tid} {ev : Ev} {op : Op} {a lvl : Nat} {n : Node} {b : Nat}
    (hp : PathHyp c) (hcf : c.copyFirst = true) (h : SInv c s)
    (hpc : s.pc t = .xCopy op a lvl n b) (hs : step c s t = some (s', ev)) : SInv c s' := by
  have hT := h.thread t
  rw [hpc] at hT
  have hpo := hT.pos op a lvl rfl
  have hw := hT.own op a lvl n b rfl
  have hnull := hT.xNull op a lvl n b (Or.inr rfl)
  have hcv := hT.xConvd a (sl c (okey op) lvl) n rfl
  have hpf := h.onp a _ n (Or.inr hcv)
  have hl := pos_len hp hpo.2.2.1 hpo.2.2.2
  have hex : ∀ u, u ≠ t → Excl c (.xCopy op a lvl n b) (s.pc u) := fun u hu => hpc ▸ h.excl (Ne.symm hu)
  have hold : ∀ b', s.cell b (sl c n.key (lvl + 1)) ≠ .arr b' := by rw [hnull]; nofun
  simp only [step, hpc, hcf, if_true] at hs
  cases hs
  refine sinv_write h hw.2.1 hold nofun ?_ ?_ ?_
  · -- the item is on its path, one level further down
    intro n1 e
    have : n = n1 := by rcases e with e | e <;> cases e; rfl
    subst this
    rw [hw.2.2.2.2.2.2.2]
    have h1 := hpf.snoc (by rw [hl, hp.len]; exact hw.2.2.2.2.1)
    rw [hl] at h1
    exact h1
  · intro u hu
    have e := hex u hu
    refine ⟨fun op' a' l' n' b' eo => ⟨nofun, fun eb => e.ownd op a lvl n b op' a' l' n' rfl (eb ▸ eo)⟩, ?_,
      ⟨e.ownd, e.xUniq⟩⟩
    intro n' ec
    have := (h.thread u).xConvd _ _ _ ec
    rw [hnull] at this
    cases this
  · exact
      { pos := fun op1 a1 l1 e => ⟨pub_write hold _ (hT.pos op1 a1 l1 e).1, (hT.pos op1 a1 l1 e).2⟩
        casI := nofun
        casE := nofun
        casU := nofun
        xA := nofun
        own := fun op1 a1 l1 n1 b1 e =>
          have hw1 := hT.own op1 a1 l1 n1 b1 e
          ⟨hw1.1, hw1.2.1, hw1.2.2.1, upd2_ne _ _ _ _ _ nofun hw1.2.2.2.1, hw1.2.2.2.2⟩
        xNull := fun _ _ _ _ _ e => by rcases e with e | e <;> cases e
        xConvd := fun a1 i1 n1 e => by
          cases e
          show upd2 s.cell b _ _ a _ = .conv n
          rw [upd2_row _ _ _ _ (by omega)]
          exact hcv
        xFull := fun op1 a1 l1 n1 b1 e => by
          cases e
          refine ⟨upd2_same _ _ _ _, fun j hj => ?_⟩
          show upd2 s.cell b _ _ b j = .null
          rw [upd2_other _ _ _ _ _ _ (fun hh => hj hh.2)]
          exact hnull j }

/-- The converting slot gets the pointer to the array node the thread has prepared; `own` is what `arrp` asks. -/
theorem sinv_xPub {c : Cfg} {s s' : St} {t : Tid} {ev : Ev} {op : Op} {a lvl : Nat} {n : Node} {b : Nat}
    (hp : PathHyp c) (hcf : c.copyFirst = true) (h : SInv c s)
    (hpc : s.pc t = .xPub op a lvl n b) (hs : step c s t = some (s', ev)) : SInv c s' := by
  have hT := h.thread t
  rw [hpc] at hT
  have hpo := hT.pos op a lvl rfl
  have hw := hT.own op a lvl n b rfl
  have hcv := hT.xConvd a (sl c (okey op) lvl) n rfl
  have hl := pos_len hp hpo.2.2.1 hpo.2.2.2
  have hex : ∀ u, u ≠ t → Excl c (.xPub op a lvl n b) (s.pc u) := fun u hu => hpc ▸ h.excl (Ne.symm hu)
  have hold : ∀ b', s.cell a (sl c (okey op) lvl) ≠ .arr b' := by rw [hcv]; nofun
  simp only [step, hpc, hcf, if_true] at hs
  split at hs
  · cases hs
    refine sinv_write h hpo.2.1 hold ?_ ?_ ?_ (.at_pos (.inl rfl) ⟨pub_write hold _ hpo.1, hpo.2⟩)
    · intro b' e
      cases e
      exact ⟨hw.2.2.2.2.2.1, hw.2.2.2.2.2.2.1, hw.2.2.2.2.2.2.2, hw.2.2.1, hw.2.1, hpo.1, by rw [hl]; exact hw.2.2.2.2.1⟩
    · intro n1 e
      rcases e with e | e <;> cases e
    · intro u hu
      have e := hex u hu
      refine ⟨fun op' a' l' n' b' eo => ⟨?_, (h.thread u).own_ne_pub eo hpo.1⟩,
        fun n' ec => e.xUniq _ _ n n' rfl ec, .of_unowned rfl⟩
      intro eb
      cases eb
      exact e.ownd op a lvl n b op' a' l' n' rfl eo
  · next hne => exact absurd hcv hne

end CdsVerif.Algo.Feldman
