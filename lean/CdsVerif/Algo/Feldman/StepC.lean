/-
  Preservation of `SInv` by the steps of `expand_slot`: allocation, conversion CAS, copy, publication.
-/
import CdsVerif.Algo.Feldman.StepB
namespace CdsVerif.Algo.Feldman
open CdsVerif.Machine CdsVerif.Spec CdsVerif.Lin

/-! ### Allocation: nothing that exists is touched -/

section
variable {c : Cfg} {s : St}

theorem pub_alloc (a i : Nat) (pcs : Tid → PC) {a1 : Nat} (hlt : a1 < s.acnt) (hp : Pub s a1) :
    Pub { s with acnt := s.acnt + 1, par := upd s.par s.acnt a, pidx := upd s.pidx s.acnt i,
                 pre := upd s.pre s.acnt (s.pre a ++ [i]), pc := pcs } a1 := by
  rcases hp with e | e
  · exact Or.inl e
  · refine Or.inr ?_
    show s.cell (upd s.par s.acnt a a1) (upd s.pidx s.acnt i a1) = .arr a1
    rw [upd_other _ _ _ _ (Nat.ne_of_lt hlt), upd_other _ _ _ _ (Nat.ne_of_lt hlt)]
    exact e

theorem MInv.alloc (hm : MInv c s) (a i : Nat) (pcs : Tid → PC) :
    MInv c { s with acnt := s.acnt + 1, par := upd s.par s.acnt a, pidx := upd s.pidx s.acnt i,
                    pre := upd s.pre s.acnt (s.pre a ++ [i]), pc := pcs } where
  pre0 := by
    show upd s.pre s.acnt _ 0 = []
    rw [upd_other _ _ _ _ (Nat.ne_of_lt hm.acpos)]
    exact hm.pre0
  acpos := Nat.succ_pos _
  fresh := fun b j hb => hm.fresh b j (Nat.le_of_succ_le hb)
  arrp := fun a1 i1 b1 hc => by
    have ha := hm.arrp a1 i1 b1 hc
    have h1 : a1 ≠ s.acnt := by omega
    have h2 : b1 ≠ s.acnt := by omega
    refine ⟨?_, ?_, ?_, ha.2.2.2.1, Nat.lt_succ_of_lt ha.2.2.2.2.1, pub_alloc a i pcs (by omega) ha.2.2.2.2.2.1, ?_⟩
    · show upd s.par s.acnt a b1 = a1
      rw [upd_other _ _ _ _ h2]; exact ha.1
    · show upd s.pidx s.acnt i b1 = i1
      rw [upd_other _ _ _ _ h2]; exact ha.2.1
    · show upd s.pre s.acnt _ b1 = upd s.pre s.acnt _ a1 ++ [i1]
      rw [upd_other _ _ _ _ h2, upd_other _ _ _ _ h1]; exact ha.2.2.1
    · show (upd s.pre s.acnt _ a1).length + 1 < c.depth
      rw [upd_other _ _ _ _ h1]; exact ha.2.2.2.2.2.2
  onp := fun a1 i1 n1 hc => by
    have hc' : s.cell a1 i1 = .data n1 ∨ s.cell a1 i1 = .conv n1 := hc
    -- a slot that holds an item belongs to an allocated array node
    have h1 : a1 ≠ s.acnt := by
      intro e
      have hn := hm.fresh a1 i1 (Nat.le_of_eq e.symm)
      rcases hc' with e' | e' <;> cases hn.symm.trans e'
    show Pfx (upd s.pre s.acnt _ a1) i1 _
    rw [upd_other _ _ _ _ h1]
    exact hm.onp a1 i1 n1 hc'

theorem TInv.alloc {p : PC} (hT : TInv c s p) (a i : Nat) (pcs : Tid → PC) :
    TInv c { s with acnt := s.acnt + 1, par := upd s.par s.acnt a, pidx := upd s.pidx s.acnt i,
                    pre := upd s.pre s.acnt (s.pre a ++ [i]), pc := pcs } p where
  pos := fun op a1 lvl e => by
    have hp := hT.pos op a1 lvl e
    refine ⟨pub_alloc a i pcs hp.2.1 hp.1, Nat.lt_succ_of_lt hp.2.1, hp.2.2.1, ?_⟩
    show upd s.pre s.acnt _ a1 = _
    rw [upd_other _ _ _ _ (Nat.ne_of_lt hp.2.1)]
    exact hp.2.2.2
  casI := hT.casI
  casE := hT.casE
  casU := hT.casU
  xA := hT.xA
  own := fun op a1 lvl n b e => by
    have hw := hT.own op a1 lvl n b e
    have h1 : b ≠ s.acnt := by omega
    have h2 : a1 ≠ s.acnt := by omega
    refine ⟨hw.1, Nat.lt_succ_of_lt hw.2.1, hw.2.2.1, ?_, hw.2.2.2.2.1, ?_, ?_, ?_⟩
    · show s.cell (upd s.par s.acnt a b) (upd s.pidx s.acnt i b) ≠ .arr b
      rw [upd_other _ _ _ _ h1, upd_other _ _ _ _ h1]; exact hw.2.2.2.1
    · show upd s.par s.acnt a b = a1
      rw [upd_other _ _ _ _ h1]; exact hw.2.2.2.2.2.1
    · show upd s.pidx s.acnt i b = _
      rw [upd_other _ _ _ _ h1]; exact hw.2.2.2.2.2.2.1
    · show upd s.pre s.acnt _ b = upd s.pre s.acnt _ a1 ++ _
      rw [upd_other _ _ _ _ h1, upd_other _ _ _ _ h2]; exact hw.2.2.2.2.2.2.2
  xNull := hT.xNull
  xConvd := hT.xConvd
  xFull := hT.xFull

end

theorem sinv_xAlloc {c : Cfg} {s s' : St} {t : Tid} {ev : Ev} {op : Op} {a lvl : Nat} {n : Node} (h : SInv c s)
    (hpc : s.pc t = .xAlloc op a lvl n) (hs : step c s t = some (s', ev)) : SInv c s' := by
  have hT := h.thread t
  rw [hpc] at hT
  have hpo := hT.pos op a lvl rfl
  have hxa := hT.xA op a lvl n rfl
  simp only [step, hpc] at hs
  cases hs
  have hTa := hT.alloc a (sl c (okey op) lvl) (upd s.pc t (.xConv op a lvl n s.acnt))
  refine h.step_of rfl (h.mem.alloc _ _ _) ?_ (fun u hu => ⟨(h.thread u).alloc _ _ _, ?_⟩)
  · -- the new array node: fresh, so empty and unpublished, and numbered above everything allocated so far
    exact
      { pos := fun op1 a1 l1 e => hTa.pos op1 a1 l1 e
        casI := nofun
        casE := nofun
        casU := nofun
        xA := nofun
        own := fun op1 a1 l1 n1 b1 e => by
          cases e
          have h1 : a ≠ s.acnt := Nat.ne_of_lt hpo.2.1
          refine ⟨h.acpos, Nat.lt_succ_self _, hpo.2.1, ?_, hxa, upd_same _ _ _, upd_same _ _ _, ?_⟩
          · show s.cell (upd s.par s.acnt a s.acnt) (upd s.pidx s.acnt _ s.acnt) ≠ .arr s.acnt
            intro hc
            have := h.arrp _ _ _ hc
            omega
          · show upd s.pre s.acnt _ s.acnt = upd s.pre s.acnt _ a ++ _
            rw [upd_same, upd_other _ _ _ _ h1]
        xNull := fun op1 a1 l1 n1 b1 e j => by
          have : b1 = s.acnt := by rcases e with e | e <;> cases e; rfl
          rw [this]
          exact h.fresh _ j (Nat.le_refl _)
        xConvd := nofun
        xFull := nofun }
  · refine ⟨fun op1 a1 l1 n1 b1 op2 a2 l2 n2 e1 e2 => ?_, nofun⟩
    cases e1
    have := (h.thread u).own _ _ _ _ _ e2
    omega

theorem sinv_xConv {c : Cfg} {s s' : St} {t : Tid} {ev : Ev} {op : Op} {a lvl : Nat} {n : Node} {b : Nat}
    (hcf : c.copyFirst = true) (h : SInv c s)
    (hpc : s.pc t = .xConv op a lvl n b) (hs : step c s t = some (s', ev)) : SInv c s' := by
  have hpo := h.pos t op a lvl (by rw [hpc]; rfl)
  have hnull := h.xNull t op a lvl n b (Or.inl hpc)
  simp only [step, hpc, hcf, if_true] at hs
  split at hs
  · next hd =>
    cases hs
    have hpf := h.onp a _ n (Or.inl hd)
    apply sinv_write_leaf h hpo.1 hpo.2.1 (Or.inr ⟨n, hd⟩) (Or.inr ⟨n, Or.inr rfl, hpf⟩)
    · intro x hx; rw [hpc]; exact hx
    · intro x hx; rw [hpc]; exact hx
    · intro x hx; cases hx; exact ⟨n, rfl, rfl⟩
    · exact Or.inr ⟨op, lvl, n, b, rfl, hnull⟩
  · cases hs
    exact sinv_to_trav h (by rw [hpc]; rfl)

end CdsVerif.Algo.Feldman
