/-
  Preservation of `SInv` by the successful CASes of insert / erase / update (a slot that holds null or a data pointer
  gets another such value).
-/
import CdsVerif.Algo.Feldman.StepA
namespace CdsVerif.Algo.Feldman
open CdsVerif.Machine CdsVerif.Spec CdsVerif.Lin

/-! ### One slot is written -/

section
variable {c : Cfg} {s : St} {a i : Nat} {v : Cell}

/-- a write to a slot that held no array-node pointer unpublishes nothing -/
theorem pub_write (hold : ∀ b, s.cell a i ≠ .arr b) (pcs : Tid → PC) {a1 : Nat} (hp : Pub s a1) :
    Pub { s with cell := upd2 s.cell a i v, pc := pcs } a1 := by
  rcases hp with e | e
  · exact Or.inl e
  · refine Or.inr ?_
    show upd2 s.cell a i v (s.par a1) (s.pidx a1) = .arr a1
    rw [upd2_other _ _ _ _ _ _ (fun hh => hold a1 (by rw [← hh.1, ← hh.2]; exact e))]
    exact e

/-- The slot `(a, i)` of an allocated array node, which held no array-node pointer, gets `v`: an array-node pointer
    only with what `arrp` asks of it, an item only on its path. -/
theorem MInv.write (hm : MInv c s) (pcs : Tid → PC) (hlt : a < s.acnt) (hold : ∀ b, s.cell a i ≠ .arr b)
    (harr : ∀ b, v = .arr b → s.par b = a ∧ s.pidx b = i ∧ s.pre b = s.pre a ++ [i] ∧ a < b ∧ b < s.acnt ∧ Pub s a ∧
      (s.pre a).length + 1 < c.depth)
    (hitem : ∀ n, (v = .data n ∨ v = .conv n) → Pfx (s.pre a) i (c.path n.key)) :
    MInv c { s with cell := upd2 s.cell a i v, pc := pcs } where
  pre0 := hm.pre0
  acpos := hm.acpos
  fresh := fun b j hb => by
    have hb' : s.acnt ≤ b := hb
    show upd2 s.cell a i v b j = .null
    rw [upd2_row _ _ _ _ (by omega)]
    exact hm.fresh b j hb'
  arrp := fun a1 i1 b1 hc => by
    have hc2 : upd2 s.cell a i v a1 i1 = .arr b1 := hc
    have key : s.par b1 = a1 ∧ s.pidx b1 = i1 ∧ s.pre b1 = s.pre a1 ++ [i1] ∧ a1 < b1 ∧ b1 < s.acnt ∧ Pub s a1 ∧
        (s.pre a1).length + 1 < c.depth := by
      by_cases hh : a1 = a ∧ i1 = i
      · rw [hh.1, hh.2, upd2_same] at hc2
        rw [hh.1, hh.2]
        exact harr b1 hc2
      · rw [upd2_other _ _ _ _ _ _ hh] at hc2
        exact hm.arrp a1 i1 b1 hc2
    exact ⟨key.1, key.2.1, key.2.2.1, key.2.2.2.1, key.2.2.2.2.1, pub_write hold pcs key.2.2.2.2.2.1, key.2.2.2.2.2.2⟩
  onp := fun a1 i1 n1 hc => by
    have hc2 : upd2 s.cell a i v a1 i1 = .data n1 ∨ upd2 s.cell a i v a1 i1 = .conv n1 := hc
    by_cases hh : a1 = a ∧ i1 = i
    · rw [hh.1, hh.2, upd2_same] at hc2
      rw [hh.1, hh.2]
      exact hitem n1 hc2
    · rw [upd2_other _ _ _ _ _ _ hh] at hc2
      exact hm.onp a1 i1 n1 hc2

/-- A thread keeps its clauses when a slot is written that held no array-node pointer, provided the written array node
    is not the one the thread prepares, the new value does not publish that one, and a slot the thread has put into
    the converting state stays so. -/
theorem TInv.write {p : PC} (hT : TInv c s p) (pcs : Tid → PC) (hold : ∀ b, s.cell a i ≠ .arr b)
    (hown : ∀ op a' lvl n b, ownOf p = some (op, a', lvl, n, b) → v ≠ .arr b ∧ b ≠ a)
    (hcv : ∀ n, cvOf c p = some (a, i, n) → v = .conv n) :
    TInv c { s with cell := upd2 s.cell a i v, pc := pcs } p where
  pos := fun op a1 lvl e => ⟨pub_write hold pcs (hT.pos op a1 lvl e).1, (hT.pos op a1 lvl e).2⟩
  casI := hT.casI
  casE := hT.casE
  casU := hT.casU
  xA := hT.xA
  own := fun op a1 lvl n b e => by
    have hw := hT.own op a1 lvl n b e
    exact ⟨hw.1, hw.2.1, hw.2.2.1, upd2_ne _ _ _ _ _ (hown op a1 lvl n b e).1 hw.2.2.2.1, hw.2.2.2.2⟩
  xNull := fun op a1 lvl n b e j => by
    have hb : ownOf p = some (op, a1, lvl, n, b) := by rcases e with rfl | rfl <;> rfl
    show upd2 s.cell a i v b j = .null
    rw [upd2_row _ _ _ _ (hown _ _ _ _ _ hb).2]
    exact hT.xNull op a1 lvl n b e j
  xConvd := fun a1 i1 n e => by
    show upd2 s.cell a i v a1 i1 = .conv n
    by_cases hh : a1 = a ∧ i1 = i
    · rw [hh.1, hh.2] at e ⊢
      rw [upd2_same]
      exact hcv n e
    · rw [upd2_other _ _ _ _ _ _ hh]
      exact hT.xConvd a1 i1 n e
  xFull := fun op a1 lvl n b e => by
    have hb : ownOf p = some (op, a1, lvl, n, b) := by subst e; rfl
    have hne := (hown _ _ _ _ _ hb).2
    show upd2 s.cell a i v b _ = _ ∧ ∀ j, _ → upd2 s.cell a i v b j = _
    simp only [upd2_row _ _ _ _ hne]
    exact hT.xFull op a1 lvl n b e

/-- The rule for a step that writes one slot: the conditions of `MInv.write`, the conditions of `TInv.write` for
    every other thread, and the clauses of the new counter of the writing thread. -/
theorem sinv_write {t : Tid} {q : PC} (h : SInv c s) (hlt : a < s.acnt) (hold : ∀ b, s.cell a i ≠ .arr b)
    (harr : ∀ b, v = .arr b → s.par b = a ∧ s.pidx b = i ∧ s.pre b = s.pre a ++ [i] ∧ a < b ∧ b < s.acnt ∧ Pub s a ∧
      (s.pre a).length + 1 < c.depth)
    (hitem : ∀ n, (v = .data n ∨ v = .conv n) → Pfx (s.pre a) i (c.path n.key))
    (hoth : ∀ u, u ≠ t → (∀ op a' lvl n b, ownOf (s.pc u) = some (op, a', lvl, n, b) → v ≠ .arr b ∧ b ≠ a) ∧
      (∀ n, cvOf c (s.pc u) ≠ some (a, i, n)) ∧ Excl c q (s.pc u))
    (hq : TInv c { s with cell := upd2 s.cell a i v, pc := upd s.pc t q } q) :
    SInv c { s with cell := upd2 s.cell a i v, pc := upd s.pc t q } :=
  h.step_of rfl (h.mem.write _ hlt hold harr hitem) hq (fun u hu =>
    ⟨(h.thread u).write _ hold (hoth u hu).1 (fun n e => absurd e ((hoth u hu).2.1 n)), (hoth u hu).2.2⟩)

/-- The slot `(a, i)` of a published array node, holding null or a data pointer, is overwritten with null, a data
    pointer or a converting data pointer to an item whose path passes through the slot.  The writing thread's new
    program counter keeps (or drops) its position and its unpublished array node; if the new value is a converting
    pointer the thread becomes the converter (`xCopy`). -/
theorem sinv_write_leaf {t : Tid} {pc' : PC} (h : SInv c s)
    (hpub : Pub s a) (hlt : a < s.acnt)
    (hold : s.cell a i = .null ∨ ∃ n, s.cell a i = .data n)
    (hv : v = .null ∨ ∃ m, (v = .data m ∨ v = .conv m) ∧ Pfx (s.pre a) i (c.path m.key))
    (hpos : ∀ x, posOf pc' = some x → posOf (s.pc t) = some x)
    (hown : ∀ x, ownOf pc' = some x → ownOf (s.pc t) = some x)
    (hcv : ∀ x, cvOf c pc' = some x → ∃ m, x = (a, i, m) ∧ v = .conv m)
    (hpc' : (∃ r, pc' = .done r) ∨ ∃ op l n b, pc' = .xCopy op a l n b ∧ ∀ j, s.cell b j = .null) :
    SInv c { s with cell := upd2 s.cell a i v, pc := upd s.pc t pc' } := by
  have hvarr : ∀ b, v ≠ .arr b := by
    rintro b rfl
    rcases hv with e | ⟨m, e | e, -⟩ <;> cases e
  have holda : ∀ b, s.cell a i ≠ .arr b := by
    intro b e
    rcases hold with e' | ⟨n, e'⟩ <;> cases e.symm.trans e'
  have holdc : ∀ m, s.cell a i ≠ .conv m := by
    intro m e
    rcases hold with e' | ⟨n, e'⟩ <;> cases e.symm.trans e'
  have hT := h.thread t
  refine sinv_write h hlt holda (fun b e => absurd e (hvarr b)) ?_ ?_ ?_
  · intro n e
    rcases hv with rfl | ⟨m, hm, hpf⟩
    · rcases e with e | e <;> cases e
    · have : m = n := by rcases hm with rfl | rfl <;> rcases e with e | e <;> cases e <;> rfl
      exact this ▸ hpf
  · intro u hu
    refine ⟨fun op a' lvl n b e => ⟨hvarr b, (h.thread u).own_ne_pub e hpub⟩,
      fun n e => holdc n ((h.thread u).xConvd a i n e), ?_, ?_⟩
    · intro op1 a1 l1 n1 b1 op2 a2 l2 n2 e1 e2
      exact (h.excl (Ne.symm hu)).ownd op1 a1 l1 n1 b1 op2 a2 l2 n2 (hown _ e1) e2
    · intro a1 i1 n1 n2 e1 e2
      obtain ⟨m, e, -⟩ := hcv _ e1
      cases e
      exact holdc n2 ((h.thread u).xConvd a i n2 e2)
  · -- the new counter: `done`, or `xCopy` with what the thread had at `xConv`
    have hTw := hT.write (v := v) (upd s.pc t pc') holda
      (fun op a' lvl n b e => ⟨hvarr b, hT.own_ne_pub e hpub⟩) (fun n e => absurd (hT.xConvd a i n e) (holdc n))
    rcases hpc' with ⟨r, rfl⟩ | ⟨op, l, n, b, rfl, hb⟩
    · exact .done r
    · have hw := hT.own op a l n b (hown _ rfl)
      exact
        { pos := fun op1 a1 l1 e => hTw.pos op1 a1 l1 (hpos _ e)
          casI := nofun
          casE := nofun
          casU := nofun
          xA := nofun
          own := fun op1 a1 l1 n1 b1 e => hTw.own op1 a1 l1 n1 b1 (hown _ e)
          xNull := fun op1 a1 l1 n1 b1 e j => by
            have eb : b1 = b := by rcases e with e | e <;> cases e <;> rfl
            show upd2 s.cell a i v b1 j = .null
            rw [eb, upd2_row _ _ _ _ (hT.own_ne_pub (hown _ rfl) hpub)]
            exact hb j
          xConvd := fun a1 i1 n1 e => by
            obtain ⟨m, e', hvm⟩ := hcv _ e
            cases e'
            show upd2 s.cell a i v a i = _
            rw [upd2_same]
            exact hvm
          xFull := nofun }

end

theorem sinv_write_done {c : Cfg} {s : St} {t : Tid} {a i : Nat} {v : Cell} {r : GRet} (h : SInv c s)
    (hpub : Pub s a) (hlt : a < s.acnt)
    (hold : s.cell a i = .null ∨ ∃ n, s.cell a i = .data n)
    (hv : v = .null ∨ ∃ m, v = .data m ∧ Pfx (s.pre a) i (c.path m.key)) :
    SInv c { s with cell := upd2 s.cell a i v, pc := upd s.pc t (.done r) } := by
  apply sinv_write_leaf h hpub hlt hold
  · rcases hv with e | ⟨m, e, hm⟩
    · exact Or.inl e
    · exact Or.inr ⟨m, Or.inl e, hm⟩
  · nofun
  · nofun
  · nofun
  · exact Or.inl ⟨r, rfl⟩

theorem sinv_casIns {c : Cfg} {s s' : St} {t : Tid} {ev : Ev} {op : Op} {a lvl : Nat} (hp : PathHyp c) (h : SInv c s)
    (hpc : s.pc t = .casIns op a lvl) (hs : step c s t = some (s', ev)) : SInv c s' := by
  have hpo := h.pos t op a lvl (by rw [hpc]; rfl)
  have hga := (h.casI t op a lvl hpc).1
  simp only [step, hpc] at hs
  split at hs
  · next hnull =>
    cases hs
    refine sinv_write_done h hpo.1 hpo.2.1 (Or.inl hnull) (Or.inr ⟨onode op, rfl, ?_⟩)
    have := pos_pfx hp hpo.2.2.1 hpo.2.2.2
    cases op <;> simp_all [isGA, onode, okey]
  · cases hs
    exact sinv_to_trav h (by rw [hpc]; rfl)

theorem sinv_casEra {c : Cfg} {s s' : St} {t : Tid} {ev : Ev} {op : Op} {a lvl : Nat} {n : Node} (h : SInv c s)
    (hpc : s.pc t = .casEra op a lvl n) (hs : step c s t = some (s', ev)) : SInv c s' := by
  have hpo := h.pos t op a lvl (by rw [hpc]; rfl)
  simp only [step, hpc] at hs
  split at hs
  · next hd =>
    cases hs
    exact sinv_write_done h hpo.1 hpo.2.1 (Or.inr ⟨n, hd⟩) (Or.inl rfl)
  · cases hs
    exact sinv_to_trav h (by rw [hpc]; rfl)

theorem sinv_casUpd {c : Cfg} {s s' : St} {t : Tid} {ev : Ev} {op : Op} {a lvl : Nat} {n : Node} (hp : PathHyp c)
    (h : SInv c s) (hpc : s.pc t = .casUpd op a lvl n) (hs : step c s t = some (s', ev)) : SInv c s' := by
  have hpo := h.pos t op a lvl (by rw [hpc]; rfl)
  have hu := h.casU t op a lvl n hpc
  simp only [step, hpc] at hs
  split at hs
  · next hd =>
    cases hs
    refine sinv_write_done h hpo.1 hpo.2.1 (Or.inr ⟨n, hd⟩) (Or.inr ⟨onode op, rfl, ?_⟩)
    have := pos_pfx hp hpo.2.2.1 hpo.2.2.2
    obtain ⟨-, n0, al, rfl⟩ := hu
    simpa [onode, okey] using this
  · cases hs
    exact sinv_to_trav h (by rw [hpc]; rfl)

end CdsVerif.Algo.Feldman
