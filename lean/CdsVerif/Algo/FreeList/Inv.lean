/-
  Structural invariant of the reference-counted free list model, proved for every interleaving.

  The invariant is stated with two witnesses that are NOT part of the model's state:
  * `K : Nat → Kind` says where every node is: on the chain; owned by a client thread; argument of a `put` that has
    not yet executed its `fetch_add`; in the hands of a thread running `add_knowing_refcount_is_zero` before
    (`zero`) resp. after (`one`) its `store( 1 )`; just unlinked by a getter that has not yet executed its
    `fetch_sub( 2 )` (`taken`); or `waiting`: flagged SHOULD_BE_ON_FREELIST, referenced by at least one getter, in
    nobody's hands - the last getter that drops its reference will link it.
  * `H : Nat → List Tid` lists, for every node, the getters that hold a counted reference to it (between the
    successful CAS on `m_freeListRefs` and the `fetch_sub`).  Such a node may be anywhere (nodes are reused).
  `FInvL s l K H` ties them to the state: the word `m_freeListRefs` of node `a` is exactly
      count = (1 if K a is onList / one / taken, else 0) + (H a).length,   bit = (K a is zero / waiting).
-/
import CdsVerif.Algo.FreeList.Model
namespace CdsVerif.Algo.FreeList
open CdsVerif.Machine CdsVerif.Spec

/-! ### Chains -/

def Chain (nx : Nat → Option Nat) : Option Nat → List Nat → Prop
  | p, [] => p = none
  | p, a :: l => p = some a ∧ Chain nx (nx a) l

theorem Chain.functional {nx : Nat → Option Nat} : ∀ {p : Option Nat} {l1 l2 : List Nat},
    Chain nx p l1 → Chain nx p l2 → l1 = l2
  | _, [], [], _, _ => rfl
  | _, [], _ :: _, h1, h2 => by simp [Chain] at h1 h2; simp [h1] at h2
  | _, _ :: _, [], h1, h2 => by simp [Chain] at h1 h2; simp [h2] at h1
  | _, a :: l1, b :: l2, h1, h2 => by
    simp only [Chain] at h1 h2
    have hab : a = b := by have := h1.1.symm.trans h2.1; simpa using this
    subst hab
    rw [Chain.functional h1.2 h2.2]

theorem Chain.upd {nx : Nat → Option Nat} {x : Nat} {v : Option Nat} :
    ∀ {p : Option Nat} {l : List Nat}, x ∉ l → Chain nx p l → Chain (upd nx x v) p l
  | _, [], _, h => h
  | _, a :: l, hx, h => by
    simp only [Chain] at h ⊢
    have hax : a ≠ x := fun e => hx (by simp [e])
    refine ⟨h.1, ?_⟩
    rw [upd_other _ _ _ _ hax]
    exact Chain.upd (fun hm => hx (List.mem_cons_of_mem _ hm)) h.2

/-- Executable chain walk with fuel (for the evaluated examples). -/
def walk (nx : Nat → Option Nat) : Nat → Option Nat → List Nat
  | 0, _ => []
  | _ + 1, none => []
  | f + 1, some a => a :: walk nx f (nx a)

/-! ### Word arithmetic without borrow -/

theorem wAddBit_eq (c : Nat) (f : Bool) : wAddBit c f = (c, !f) := rfl
theorem wAddBitM1_of_pos {c : Nat} (f : Bool) (h : 1 ≤ c) : wAddBitM1 c f = (c - 1, !f) := by
  unfold wAddBitM1; split
  · omega
  · rfl
theorem wSub1_of_pos {c : Nat} (f : Bool) (h : 1 ≤ c) : wSub1 c f = (c - 1, f) := by
  unfold wSub1; split
  · omega
  · rfl
theorem wSub2_of_ge {c : Nat} (f : Bool) (h : 2 ≤ c) : wSub2 c f = (c - 2, f) := by
  unfold wSub2; split
  · omega
  · rfl

/-! ### The structural invariant -/

inductive Kind
  | onList
  | owned (t : Tid)
  | putting (t : Tid)
  | zero (t : Tid)
  | one (t : Tid)
  | taken (t : Tid)
  | waiting
deriving DecidableEq, Repr

/-- The list's own reference. -/
def Kind.base : Kind → Nat
  | .onList => 1
  | .one _ => 1
  | .taken _ => 1
  | _ => 0

/-- The SHOULD_BE_ON_FREELIST bit. -/
def Kind.flag : Kind → Bool
  | .zero _ => true
  | .waiting => true
  | _ => false

def putNode : PC → Option Nat
  | .putAdd n => some n
  | _ => none
def zeroNode : PC → Option Nat
  | .addLd n _ => some n
  | .addStNext n _ _ => some n
  | .addStRefs n _ _ => some n
  | _ => none
def oneNode : PC → Option Nat
  | .addCas n _ _ => some n
  | .addFix n _ _ => some n
  | _ => none
def takenNode : PC → Option Nat
  | .getSub2 h => some h
  | _ => none
/-- The node on which a getter holds a counted reference. -/
def holdNode : PC → Option Nat
  | .getNext h => some h
  | .getCas h _ => some h
  | .getSub2 h => some h
  | .getDec h _ => some h
  | _ => none

structure FInvL (s : St) (l : List Nat) (K : Nat → Kind) (H : Nat → List Tid) : Prop where
  chain : Chain s.next s.head l
  nodup : l.Nodup
  kList : ∀ a, K a = .onList ↔ a ∈ l
  kOwn : ∀ a t, K a = .owned t ↔ s.owns t a = true
  kPut : ∀ a t, K a = .putting t ↔ putNode (s.pc t) = some a
  kZero : ∀ a t, K a = .zero t ↔ zeroNode (s.pc t) = some a
  kOne : ∀ a t, K a = .one t ↔ oneNode (s.pc t) = some a
  kTaken : ∀ a t, K a = .taken t ↔ takenNode (s.pc t) = some a
  hMem : ∀ a t, t ∈ H a ↔ holdNode (s.pc t) = some a
  hNodup : ∀ a, (H a).Nodup
  cntEq : ∀ a, s.refs a = (K a).base + (H a).length
  flagEq : ∀ a, s.shouldBeOn a = (K a).flag
  zeroH : ∀ a t, K a = .zero t → H a = []
  waitH : ∀ a, K a = .waiting → H a ≠ []
  linked0 : ∀ t n hd k, s.pc t = .addStRefs n hd k → s.next n = hd
  linked : ∀ t n hd k, s.pc t = .addCas n hd k → s.next n = hd
  key : ∀ t h nx, s.pc t = .getCas h nx → s.next h = nx
  incPos : ∀ t h c f, s.pc t = .getInc h c f → 1 ≤ c

def FInv (s : St) : Prop := ∃ l K H, FInvL s l K H

theorem FInvL.unique {s : St} {l1 l2 : List Nat} {K1 K2 : Nat → Kind} {H1 H2 : Nat → List Tid}
    (h1 : FInvL s l1 K1 H1) (h2 : FInvL s l2 K2 H2) : l1 = l2 :=
  Chain.functional h1.chain h2.chain

theorem finv_init (own0 : Nat → Tid) : FInvL (init own0) [] (fun n => .owned (own0 n)) (fun _ => []) := by
  constructor <;> simp [init, Chain, putNode, zeroNode, oneNode, takenNode, holdNode, Kind.base, Kind.flag]

/-! ### The invariant by node and by thread

`FInvL s l K H` is a table: one row of clauses for every thread (what it has in its hands, what it holds, what it
remembers: `TInv`), one column for every node (its kind and holders against its place and its word: `NodeOk`), and the
chain.  A step of thread `t` moves its program counter and changes the kind, the holders and the word of at most one
node `a`, so it rewrites one row and one column: `FInvL.retag` asks for the new column (`NodeOk`), for the new row
(`TInv.self`), and for the reason why the entries of the other threads in column `a` stand (`TInv.other`: the old and
the new kind are in the hands of `t` or of nobody, or equal). -/

/-- The thread in whose hands a node of this kind is. -/
def Kind.owner : Kind → Option Tid
  | .putting t => some t
  | .zero t => some t
  | .one t => some t
  | .taken t => some t
  | _ => none

def Kind.client : Kind → Option Tid
  | .owned t => some t
  | _ => none

def Kind.isList : Kind → Prop
  | .onList => True
  | _ => False

def Kind.isZero : Kind → Prop
  | .zero _ => True
  | _ => False

def Kind.isWaiting : Kind → Prop
  | .waiting => True
  | _ => False

/-- What `FInvL` says about one node of kind `k` with counted holders `E`: where it is, and its word `(c, f)`.
    The kind enters through classifying functions only, so that kinds that are classified alike share clauses. -/
structure NodeOk (inList : Prop) (owns : Tid → Bool) (c : Nat) (f : Bool) (k : Kind) (E : List Tid) : Prop where
  list : k.isList ↔ inList
  own : ∀ t, k.client = some t ↔ owns t = true
  nodup : E.Nodup
  cnt : c = k.base + E.length
  flag : f = k.flag
  zero : k.isZero → E = []
  wait : k.isWaiting → E ≠ []

theorem NodeOk.congr {il il' : Prop} {ow ow' : Tid → Bool} {c c' : Nat} {f f' : Bool} {k : Kind} {E : List Tid}
    (h : NodeOk il ow c f k E) (hil : il' ↔ il) (how : ∀ t, ow' t = ow t) (hc : c' = c) (hf : f' = f) :
    NodeOk il' ow' c' f' k E :=
  ⟨h.list.trans hil.symm, fun t => by rw [how t]; exact h.own t, h.nodup, hc ▸ h.cnt, hf ▸ h.flag, h.zero, h.wait⟩

/-- The node thread `t` has in its hands at `pc`, with the kind the node then has. -/
def handOf (t : Tid) : PC → Option (Nat × Kind)
  | .putAdd n => some (n, .putting t)
  | .addLd n _ => some (n, .zero t)
  | .addStNext n _ _ => some (n, .zero t)
  | .addStRefs n _ _ => some (n, .zero t)
  | .addCas n _ _ => some (n, .one t)
  | .addFix n _ _ => some (n, .one t)
  | .getSub2 h => some (h, .taken t)
  | _ => none

/-- The node whose `m_freeListNext` the thread knows, with the value. -/
def knowNext : PC → Option (Nat × Option Nat)
  | .addStRefs n hd _ => some (n, hd)
  | .addCas n hd _ => some (n, hd)
  | .getCas h nx => some (h, nx)
  | _ => none

/-- The count a getter has read and is about to increment. -/
def incCount : PC → Option Nat
  | .getInc _ c _ => some c
  | _ => none

/-- What `FInvL` says about thread `t` at program counter `pc`. -/
structure TInv (nx : Nat → Option Nat) (K : Nat → Kind) (H : Nat → List Tid) (t : Tid) (pc : PC) : Prop where
  has : ∀ a k, handOf t pc = some (a, k) → K a = k
  only : ∀ a, (K a).owner = some t → handOf t pc = some (a, K a)
  hold : ∀ a, t ∈ H a ↔ holdNode pc = some a
  next : ∀ a v, knowNext pc = some (a, v) → nx a = v
  incPos : ∀ c, incCount pc = some c → 1 ≤ c

theorem handOf_cases {t : Tid} {pc : PC} {a : Nat} {k : Kind} (e : handOf t pc = some (a, k)) :
    (k = .putting t ∧ putNode pc = some a) ∨ (k = .zero t ∧ zeroNode pc = some a) ∨
    (k = .one t ∧ oneNode pc = some a) ∨ (k = .taken t ∧ takenNode pc = some a) := by
  cases pc <;> simp [handOf] at e <;> simp [← e, putNode, zeroNode, oneNode, takenNode]

theorem handOf_owner {t : Tid} {pc : PC} {a : Nat} {k : Kind} (e : handOf t pc = some (a, k)) : k.owner = some t := by
  rcases handOf_cases e with ⟨rfl, -⟩ | ⟨rfl, -⟩ | ⟨rfl, -⟩ | ⟨rfl, -⟩ <;> rfl

theorem handOf_put {t : Tid} {pc : PC} {a : Nat} : handOf t pc = some (a, .putting t) ↔ putNode pc = some a := by
  cases pc <;> simp [putNode, handOf]
theorem handOf_zero {t : Tid} {pc : PC} {a : Nat} : handOf t pc = some (a, .zero t) ↔ zeroNode pc = some a := by
  cases pc <;> simp [zeroNode, handOf]
theorem handOf_one {t : Tid} {pc : PC} {a : Nat} : handOf t pc = some (a, .one t) ↔ oneNode pc = some a := by
  cases pc <;> simp [oneNode, handOf]
theorem handOf_taken {t : Tid} {pc : PC} {a : Nat} : handOf t pc = some (a, .taken t) ↔ takenNode pc = some a := by
  cases pc <;> simp [takenNode, handOf]

theorem knowNext_cases {t : Tid} {pc : PC} {a : Nat} {v : Option Nat} (e : knowNext pc = some (a, v)) :
    (∃ k, handOf t pc = some (a, k)) ∨ holdNode pc = some a := by
  cases pc <;> simp [knowNext] at e <;> simp [← e.1, handOf, holdNode]

/-- A node has a kind that puts it into the hands of `t` exactly when `t` has it in its hands with that kind. -/
theorem TInv.kind_iff {nx : Nat → Option Nat} {K : Nat → Kind} {H : Nat → List Tid} {t : Tid} {pc : PC}
    (h : TInv nx K H t pc) {a : Nat} {k : Kind} (hk : k.owner = some t) : K a = k ↔ handOf t pc = some (a, k) :=
  ⟨fun e => e ▸ h.only a (by rw [e]; exact hk), h.has a k⟩

section
variable {s : St} {l : List Nat} {K : Nat → Kind} {H : Nat → List Tid}

theorem FInvL.node (h : FInvL s l K H) (a : Nat) :
    NodeOk (a ∈ l) (fun t => s.owns t a) (s.refs a) (s.shouldBeOn a) (K a) (H a) where
  list := Iff.trans (by cases K a <;> simp [Kind.isList]) (h.kList a)
  own := fun t => Iff.trans (by cases K a <;> simp [Kind.client]) (h.kOwn a t)
  nodup := h.hNodup a
  cnt := h.cntEq a
  flag := h.flagEq a
  zero := fun e => by
    cases hk : K a <;> simp [hk, Kind.isZero] at e
    exact h.zeroH a _ hk
  wait := fun e => by
    cases hk : K a <;> simp [hk, Kind.isWaiting] at e
    exact h.waitH a hk

theorem FInvL.thread (h : FInvL s l K H) (t : Tid) : TInv s.next K H t (s.pc t) where
  has := fun a k e => by
    rcases handOf_cases e with ⟨rfl, e'⟩ | ⟨rfl, e'⟩ | ⟨rfl, e'⟩ | ⟨rfl, e'⟩
    · exact (h.kPut a t).2 e'
    · exact (h.kZero a t).2 e'
    · exact (h.kOne a t).2 e'
    · exact (h.kTaken a t).2 e'
  only := fun a e => by
    cases hk : K a <;> simp [hk, Kind.owner] at e
    · exact e ▸ handOf_put.2 ((h.kPut a _).1 hk)
    · exact e ▸ handOf_zero.2 ((h.kZero a _).1 hk)
    · exact e ▸ handOf_one.2 ((h.kOne a _).1 hk)
    · exact e ▸ handOf_taken.2 ((h.kTaken a _).1 hk)
  hold := fun a => h.hMem a t
  next := fun a v e => by
    cases hp : s.pc t <;> simp only [hp, knowNext, Option.some.injEq, Prod.mk.injEq, reduceCtorEq] at e
    · exact e.1 ▸ e.2 ▸ h.linked0 t _ _ _ hp
    · exact e.1 ▸ e.2 ▸ h.linked t _ _ _ hp
    · exact e.1 ▸ e.2 ▸ h.key t _ _ hp
  incPos := fun c e => by
    cases hp : s.pc t <;> simp only [hp, incCount, Option.some.injEq, reduceCtorEq] at e
    exact e ▸ h.incPos t _ _ _ hp

theorem FInvL.thread_at (h : FInvL s l K H) {t : Tid} {pc : PC} (hpc : s.pc t = pc) : TInv s.next K H t pc :=
  hpc ▸ h.thread t

theorem FInvL.kind_at (h : FInvL s l K H) {t : Tid} {pc : PC} {a : Nat} {k : Kind} (hpc : s.pc t = pc)
    (e : handOf t pc = some (a, k)) : K a = k :=
  (h.thread_at hpc).has a k e

theorem FInvL.holds (h : FInvL s l K H) {t : Tid} {pc : PC} {a : Nat} (hpc : s.pc t = pc)
    (e : holdNode pc = some a) : t ∈ H a :=
  (h.hMem a t).2 (hpc ▸ e)

theorem FInvL.of_parts (hch : Chain s.next s.head l) (hnd : l.Nodup)
    (hN : ∀ a, NodeOk (a ∈ l) (fun t => s.owns t a) (s.refs a) (s.shouldBeOn a) (K a) (H a))
    (hT : ∀ t, TInv s.next K H t (s.pc t)) : FInvL s l K H where
  chain := hch
  nodup := hnd
  kList := fun a => Iff.trans (by cases K a <;> simp [Kind.isList]) (hN a).list
  kOwn := fun a t => Iff.trans (by cases K a <;> simp [Kind.client]) ((hN a).own t)
  kPut := fun a t => ((hT t).kind_iff rfl).trans handOf_put
  kZero := fun a t => ((hT t).kind_iff rfl).trans handOf_zero
  kOne := fun a t => ((hT t).kind_iff rfl).trans handOf_one
  kTaken := fun a t => ((hT t).kind_iff rfl).trans handOf_taken
  hMem := fun a t => (hT t).hold a
  hNodup := fun a => (hN a).nodup
  cntEq := fun a => (hN a).cnt
  flagEq := fun a => (hN a).flag
  zeroH := fun a t e => (hN a).zero (by rw [e]; trivial)
  waitH := fun a e => (hN a).wait (by rw [e]; trivial)
  linked0 := fun t n hd k e => (hT t).next n hd (by rw [e]; rfl)
  linked := fun t n hd k e => (hT t).next n hd (by rw [e]; rfl)
  key := fun t h nx e => (hT t).next h nx (by rw [e]; rfl)
  incPos := fun t h c f e => (hT t).incPos c (by rw [e]; rfl)

/-- The rule for one step of thread `t`. -/
theorem FInvL.frame {s' : St} {l' : List Nat} {K' : Nat → Kind} {H' : Nat → List Tid} {t : Tid}
    (hpc : ∀ u, u ≠ t → s'.pc u = s.pc u) (hch : Chain s'.next s'.head l') (hnd : l'.Nodup)
    (hN : ∀ a, NodeOk (a ∈ l') (fun u => s'.owns u a) (s'.refs a) (s'.shouldBeOn a) (K' a) (H' a))
    (hT : TInv s'.next K' H' t (s'.pc t)) (hO : ∀ u, u ≠ t → TInv s'.next K' H' u (s.pc u)) : FInvL s' l' K' H' :=
  FInvL.of_parts hch hnd hN fun u => by
    by_cases hu : u = t
    · rw [hu]; exact hT
    · rw [hpc u hu]; exact hO u hu

/-- A step that only moves the program counter of `t`. -/
theorem FInvL.move (h : FInvL s l K H) {t : Tid} {q : PC} (hT : TInv s.next K H t q) :
    FInvL { s with pc := upd s.pc t q } l K H :=
  FInvL.frame (s := s) (s' := { s with pc := upd s.pc t q }) (t := t) (fun u hu => upd_other _ _ _ _ hu)
    h.chain h.nodup h.node (by rw [show St.pc _ t = q from upd_same _ _ _]; exact hT) (fun u _ => h.thread u)

end

/-- After these program counters the thread has nothing in its hands, holds no reference and remembers nothing. -/
structure PC.Free (q : PC) : Prop where
  hand : ∀ t, handOf t q = none
  hold : holdNode q = none
  next : knowNext q = none
  inc : incCount q = none

theorem getLoop_free (hd : Option Nat) : (getLoop hd).Free := by
  cases hd <;> exact ⟨fun _ => rfl, rfl, rfl, rfl⟩

theorem contPC_free (k : Cont) : (contPC k).Free := by
  cases k
  · exact ⟨fun _ => rfl, rfl, rfl, rfl⟩
  · exact getLoop_free _

section
variable {nx : Nat → Option Nat} {K : Nat → Kind} {H : Nat → List Tid} {a : Nat} {k' : Kind} {E : List Tid}

/-- The clauses of a thread survive a change of the kind and the holders of node `a` that does not concern it: if
    the old or the new kind is one of its own, the kind has not changed. -/
theorem TInv.other {u : Tid} {pc : PC} (h : TInv nx K H u pc)
    (hk : (K a).owner = some u ∨ k'.owner = some u → k' = K a) (hE : u ∈ E ↔ u ∈ H a) :
    TInv nx (upd K a k') (upd H a E) u pc where
  has := fun b k e => by
    by_cases hb : b = a
    · subst hb
      have hkb := h.has b k e
      rw [upd_same, hk (.inl (by rw [hkb]; exact handOf_owner e))]; exact hkb
    · rw [upd_other _ _ _ _ hb]; exact h.has b k e
  only := fun b e => by
    by_cases hb : b = a
    · subst hb; rw [upd_same] at e ⊢
      have hkk := hk (.inr e)
      rw [hkk] at e ⊢; exact h.only b e
    · rw [upd_other _ _ _ _ hb] at e ⊢; exact h.only b e
  hold := fun b => by
    by_cases hb : b = a
    · subst hb; rw [upd_same]; exact hE.trans (h.hold b)
    · rw [upd_other _ _ _ _ hb]; exact h.hold b
  next := h.next
  incPos := h.incPos

/-- The clauses of the thread that changes the kind and the holders of node `a`: at `p` it has `a` or nothing in its
    hands; at `q` it has `a` with the new kind or, the new kind not being one of its own, nothing. -/
theorem TInv.self {nx' : Nat → Option Nat} {t : Tid} {p q : PC} (h : TInv nx K H t p)
    (hp : ∀ b k, handOf t p = some (b, k) → b = a)
    (hq : handOf t q = some (a, k') ∨ (handOf t q = none ∧ k'.owner ≠ some t))
    (hh : ∀ b, b ≠ a → (holdNode q = some b ↔ holdNode p = some b))
    (hE : t ∈ E ↔ holdNode q = some a)
    (hnext : ∀ b v, knowNext q = some (b, v) → nx' b = v)
    (hinc : ∀ c, incCount q = some c → 1 ≤ c) : TInv nx' (upd K a k') (upd H a E) t q where
  has := fun b k e => by
    rcases hq with hq | ⟨hq, -⟩
    · rw [hq] at e; cases e; exact upd_same _ _ _
    · rw [hq] at e; cases e
  only := fun b e => by
    by_cases hb : b = a
    · subst hb; rw [upd_same] at e ⊢
      rcases hq with hq | ⟨-, hq⟩
      · exact hq
      · exact absurd e hq
    · rw [upd_other _ _ _ _ hb] at e
      exact absurd (hp b _ (h.only b e)) hb
  hold := fun b => by
    by_cases hb : b = a
    · subst hb; rw [upd_same]; exact hE
    · rw [upd_other _ _ _ _ hb]; exact (h.hold b).trans (hh b hb).symm
  next := hnext
  incPos := hinc

/-- `self` for a `q` at which the thread has let go of everything. -/
theorem TInv.release {nx' : Nat → Option Nat} {t : Tid} {p q : PC} (h : TInv nx K H t p)
    (hp : ∀ b k, handOf t p = some (b, k) → b = a) (hh : ∀ b, holdNode p = some b → b = a) (hq : q.Free)
    (hk' : k'.owner ≠ some t) (hE : t ∉ E) : TInv nx' (upd K a k') (upd H a E) t q :=
  h.self hp (.inr ⟨hq.hand t, hk'⟩)
    (fun b hb => by rw [hq.hold]; exact ⟨nofun, fun e => absurd (hh b e) hb⟩)
    (by rw [hq.hold]; exact ⟨fun e => absurd e hE, nofun⟩)
    (by rw [hq.next]; nofun) (by rw [hq.inc]; nofun)

/-- A store into `m_freeListNext` of a node that is neither in the hands of the thread nor held by it. -/
theorem TInv.with_next {u : Tid} {pc : PC} (h : TInv nx K H u pc) {n : Nat} {v : Option Nat}
    (hk : (K n).owner ≠ some u) (hH : u ∉ H n) : TInv (upd nx n v) K H u pc :=
  { h with
    next := fun b w e => by
      have hb : b ≠ n := by
        rintro rfl
        rcases knowNext_cases (t := u) e with ⟨k, e'⟩ | e'
        · exact hk (by rw [h.has b k e']; exact handOf_owner e')
        · exact hH ((h.hold b).2 e')
      rw [upd_other _ _ _ _ hb]; exact h.next b w e }

end

/-- A change of kind between kinds that are in the hands of `t` or of nobody does not concern the other threads. -/
theorem Kind.change_ok {k k' : Kind} {t : Tid} (hk : k.owner = some t ∨ k.owner = none)
    (hk' : k'.owner = some t ∨ k'.owner = none) (u : Tid) (hu : u ≠ t) (e : k.owner = some u ∨ k'.owner = some u) :
    k' = k :=
  have other {k : Kind} (hk : k.owner = some t ∨ k.owner = none) (e : k.owner = some u) : False :=
    hk.elim (fun e' => hu (Option.some.inj (e.symm.trans e'))) (fun e' => nomatch e.symm.trans e')
  (e.elim (other hk) (other hk')).elim

section
variable {s : St} {l : List Nat} {K : Nat → Kind} {H : Nat → List Tid}

/-- The rule for a step of `t` that changes the kind and the holders of ONE node `a`, and with them its word, its
    place and who owns it, and writes no `m_freeListNext`. -/
theorem FInvL.retag {head' : Option Nat} {refs' : Nat → Nat} {flag' : Nat → Bool} {owns' : Tid → Nat → Bool}
    {l' : List Nat} {t : Tid} {q : PC} {a : Nat} {k' : Kind} {E : List Tid} (h : FInvL s l K H)
    (hmem : ∀ b, b ≠ a → (b ∈ l' ↔ b ∈ l) ∧ (∀ u, owns' u b = s.owns u b) ∧ refs' b = s.refs b ∧
      flag' b = s.shouldBeOn b)
    (hch : Chain s.next head' l') (hnd : l'.Nodup)
    (hN : NodeOk (a ∈ l') (fun u => owns' u a) (refs' a) (flag' a) k' E)
    (hk : ∀ u, u ≠ t → (K a).owner = some u ∨ k'.owner = some u → k' = K a)
    (hE : ∀ u, u ≠ t → (u ∈ E ↔ u ∈ H a))
    (hT : TInv s.next (upd K a k') (upd H a E) t q) :
    FInvL { s with head := head', refs := refs', shouldBeOn := flag', owns := owns', pc := upd s.pc t q } l'
      (upd K a k') (upd H a E) :=
  FInvL.frame (s := s) (t := t) (fun u hu => upd_other _ _ _ _ hu) hch hnd
    (fun b => by
      by_cases hb : b = a
      · subst hb; rw [upd_same, upd_same]; exact hN
      · rw [upd_other _ _ _ _ hb, upd_other _ _ _ _ hb]
        obtain ⟨h1, h2, h3, h4⟩ := hmem b hb
        exact (h.node b).congr h1 h2 h3 h4)
    (by rw [show St.pc _ t = q from upd_same _ _ _]; exact hT)
    (fun u hu => (h.thread u).other (hk u hu) (hE u hu))

/-- `retag` for a read-modify-write of the word of `a`. -/
theorem FInvL.reword {t : Tid} {q : PC} {a c : Nat} {f : Bool} {k' : Kind} {E : List Tid} (h : FInvL s l K H)
    (hN : NodeOk (a ∈ l) (fun u => s.owns u a) c f k' E)
    (hk : ∀ u, u ≠ t → (K a).owner = some u ∨ k'.owner = some u → k' = K a)
    (hE : ∀ u, u ≠ t → (u ∈ E ↔ u ∈ H a)) (hT : TInv s.next (upd K a k') (upd H a E) t q) :
    FInvL { s with refs := upd s.refs a c, shouldBeOn := upd s.shouldBeOn a f, pc := upd s.pc t q } l
      (upd K a k') (upd H a E) :=
  h.retag (fun b hb => ⟨Iff.rfl, fun _ => rfl, upd_other _ _ _ _ hb, upd_other _ _ _ _ hb⟩) h.chain h.nodup
    (by rw [upd_same, upd_same]; exact hN) hk hE hT

end

/-! ### Preservation: atomic steps -/

theorem erase_facts {L : List Tid} {t : Tid} (hnd : L.Nodup) (hm : t ∈ L) :
    (L.erase t).Nodup ∧ (L.erase t).length + 1 = L.length ∧ ∀ x, x ∈ L.erase t ↔ (x ≠ t ∧ x ∈ L) := by
  refine ⟨hnd.erase t, ?_, fun x => hnd.mem_erase_iff⟩
  have := List.length_erase_of_mem hm
  have : 0 < L.length := List.length_pos_of_mem hm
  omega

section
variable {s s' : St} {t : Tid} {ev : Ev} {l : List Nat} {K : Nat → Kind} {H : Nat → List Tid}

theorem finvl_step_putAdd {n : Nat}
    (h : FInvL s l K H) (hpc : s.pc t = .putAdd n) (hs : step s t = some (s', ev)) :
    ∃ l' K' H', FInvL s' l' K' H' := by
  have hT := h.thread_at hpc
  have hk : K n = .putting t := hT.has n _ rfl
  have hN := h.node n
  rw [hk] at hN
  have hf : s.shouldBeOn n = false := hN.flag
  have hc : s.refs n = (H n).length := hN.cnt.trans (Nat.zero_add _)
  simp only [step, hpc, wAddBit_eq] at hs
  cases hs
  have hp : ∀ b k, handOf t (.putAdd n) = some (b, k) → b = n := fun b k e => by cases e; rfl
  by_cases hz : s.refs n = 0
  · rw [if_pos ⟨hz, hf⟩]
    have hH : H n = [] := List.eq_nil_of_length_eq_zero (hc ▸ hz)
    exact ⟨l, upd K n (.zero t), upd H n (H n), h.reword
      { hN with flag := by rw [hf]; rfl, zero := fun _ => hH }
      (Kind.change_ok (.inl (congrArg Kind.owner hk)) (.inl rfl)) (fun _ _ => Iff.rfl)
      (hT.self hp (.inl rfl) (fun _ _ => Iff.rfl) (hT.hold n) nofun nofun)⟩
  · rw [if_neg (fun e => hz e.1)]
    have hH : H n ≠ [] := fun e => hz (by rw [hc, e]; rfl)
    exact ⟨l, upd K n .waiting, upd H n (H n), h.reword
      { hN with flag := by rw [hf]; rfl, wait := fun _ => hH }
      (Kind.change_ok (.inl (congrArg Kind.owner hk)) (.inr rfl)) (fun _ _ => Iff.rfl)
      (hT.release hp nofun ⟨fun _ => rfl, rfl, rfl, rfl⟩ nofun (fun e => nomatch (hT.hold n).1 e))⟩

theorem finvl_step_addStNext {n : Nat} {hd : Option Nat} {k : Cont}
    (h : FInvL s l K H) (hpc : s.pc t = .addStNext n hd k) (hs : step s t = some (s', ev)) :
    ∃ l' K' H', FInvL s' l' K' H' := by
  have hT := h.thread_at hpc
  have hk : K n = .zero t := hT.has n _ rfl
  have hN := h.node n
  rw [hk] at hN
  have hH : H n = [] := hN.zero trivial
  simp only [step, hpc] at hs
  cases hs
  refine ⟨l, K, H, FInvL.frame (s := s) (t := t) (fun u hu => upd_other _ _ _ _ hu)
    (Chain.upd (fun hm => hN.list.2 hm) h.chain) h.nodup h.node ?_ (fun u hu => ?_)⟩
  · rw [show St.pc _ t = .addStRefs n hd k from upd_same _ _ _]
    exact { hT with next := fun a v e => by cases e; exact upd_same _ _ _ }
  · refine (h.thread u).with_next (fun e => hu ?_) (by rw [hH]; nofun)
    rw [hk] at e
    exact (Option.some.inj e).symm

theorem finvl_step_addStRefs {n : Nat} {hd : Option Nat} {k : Cont}
    (h : FInvL s l K H) (hpc : s.pc t = .addStRefs n hd k) (hs : step s t = some (s', ev)) :
    ∃ l' K' H', FInvL s' l' K' H' := by
  have hT := h.thread_at hpc
  have hk : K n = .zero t := hT.has n _ rfl
  have hN := h.node n
  rw [hk] at hN
  have hH : H n = [] := hN.zero trivial
  simp only [step, hpc] at hs
  cases hs
  exact ⟨l, upd K n (.one t), upd H n (H n), h.reword
    { hN with cnt := by rw [hH]; rfl, flag := rfl, zero := False.elim }
    (Kind.change_ok (.inl (congrArg Kind.owner hk)) (.inl rfl)) (fun _ _ => Iff.rfl)
    (hT.self (fun b k e => by cases e; rfl) (.inl rfl) (fun _ _ => Iff.rfl) (hT.hold n)
      (fun b v e => by cases e; exact hT.next n hd rfl) nofun)⟩

theorem finvl_step_addCas {n : Nat} {hd : Option Nat} {k : Cont}
    (h : FInvL s l K H) (hpc : s.pc t = .addCas n hd k) (hs : step s t = some (s', ev)) :
    ∃ l' K' H', FInvL s' l' K' H' := by
  have hT := h.thread_at hpc
  have hk : K n = .one t := hT.has n _ rfl
  have hN := h.node n
  rw [hk] at hN
  have hn : n ∉ l := fun hm => hN.list.2 hm
  simp only [step, hpc] at hs
  split at hs
  next heq =>
    cases hs
    have hnn : s.next n = s.head := (hT.next n hd rfl).trans heq.symm
    exact ⟨n :: l, upd K n .onList, upd H n (H n), h.retag
      (fun b hb => ⟨List.mem_cons.trans (or_iff_right hb), fun _ => rfl, rfl, rfl⟩)
      ⟨rfl, hnn ▸ h.chain⟩ (List.nodup_cons.2 ⟨hn, h.nodup⟩)
      { hN with list := ⟨fun _ => List.mem_cons_self, fun _ => trivial⟩ }
      (Kind.change_ok (.inl (congrArg Kind.owner hk)) (.inr rfl)) (fun _ _ => Iff.rfl)
      (hT.release (fun b k e => by cases e; rfl) nofun (contPC_free k) nofun (fun e => nomatch (hT.hold n).1 e))⟩
  next hne =>
    cases hs
    exact ⟨l, K, H, h.move { hT with next := nofun }⟩

theorem finvl_step_addFix {n : Nat} {hd : Option Nat} {k : Cont}
    (h : FInvL s l K H) (hpc : s.pc t = .addFix n hd k) (hs : step s t = some (s', ev)) :
    ∃ l' K' H', FInvL s' l' K' H' := by
  have hT := h.thread_at hpc
  have hk : K n = .one t := hT.has n _ rfl
  have hN := h.node n
  rw [hk] at hN
  have hf : s.shouldBeOn n = false := hN.flag
  have hc : s.refs n = 1 + (H n).length := hN.cnt
  simp only [step, hpc] at hs
  rw [wAddBitM1_of_pos _ (by omega)] at hs
  cases hs
  have hp : ∀ b k', handOf t (.addFix n hd k) = some (b, k') → b = n := fun b k' e => by cases e; rfl
  by_cases hz : s.refs n = 1
  · rw [if_pos ⟨hz, hf⟩]
    have hH : H n = [] := List.eq_nil_of_length_eq_zero (by omega)
    exact ⟨l, upd K n (.zero t), upd H n (H n), h.reword
      { hN with cnt := by rw [hz, hH]; rfl, flag := by rw [hf]; rfl, zero := fun _ => hH }
      (Kind.change_ok (.inl (congrArg Kind.owner hk)) (.inl rfl)) (fun _ _ => Iff.rfl)
      (hT.self hp (.inl rfl) (fun _ _ => Iff.rfl) (hT.hold n) nofun nofun)⟩
  · rw [if_neg (fun e => hz e.1)]
    have hH : H n ≠ [] := fun e => hz (by rw [hc, e]; rfl)
    exact ⟨l, upd K n .waiting, upd H n (H n), h.reword
      { hN with cnt := by rw [hc]; simp [Kind.base], flag := by rw [hf]; rfl, wait := fun _ => hH }
      (Kind.change_ok (.inl (congrArg Kind.owner hk)) (.inr rfl)) (fun _ _ => Iff.rfl)
      (hT.release hp nofun (contPC_free k) nofun (fun e => nomatch (hT.hold n).1 e))⟩

theorem finvl_step_getInc {h0 c : Nat} {f : Bool}
    (h : FInvL s l K H) (hpc : s.pc t = .getInc h0 c f) (hs : step s t = some (s', ev)) :
    ∃ l' K' H', FInvL s' l' K' H' := by
  have hT := h.thread_at hpc
  simp only [step, hpc] at hs
  split at hs
  next heq =>
    cases hs
    have hN := h.node h0
    have hpos : 1 ≤ s.refs h0 := heq.1 ▸ hT.incPos c rfl
    have hnot : t ∉ H h0 := fun hm => nomatch (hT.hold h0).1 hm
    exact ⟨l, upd K h0 (K h0), upd H h0 (t :: H h0), h.retag
      (fun b hb => ⟨Iff.rfl, fun _ => rfl, upd_other _ _ _ _ hb, rfl⟩) h.chain h.nodup
      (by
        rw [upd_same, ← heq.1]
        exact { hN with
          nodup := List.nodup_cons.2 ⟨hnot, hN.nodup⟩
          cnt := by rw [hN.cnt]; rfl
          zero := fun hz => by
            have := hN.cnt
            rw [hN.zero hz] at this
            cases hk : K h0 <;> simp [hk, Kind.isZero] at hz
            rw [hk] at this
            rw [this] at hpos
            exact absurd hpos (Nat.not_succ_le_zero 0)
          wait := fun _ => List.cons_ne_nil _ _ })
      (fun _ _ _ => rfl) (fun u hu => List.mem_cons.trans (or_iff_right hu))
      (hT.self nofun (.inr ⟨rfl, fun e => nomatch hT.only h0 e⟩) (fun b hb => ⟨fun e => absurd (Option.some.inj e).symm hb, nofun⟩)
        ⟨fun _ => rfl, fun _ => List.mem_cons_self⟩ nofun nofun)⟩
  next hne =>
    cases hs
    exact ⟨l, K, H, h.move { hT with incPos := nofun }⟩

theorem finvl_step_getCas {h0 : Nat} {nx : Option Nat}
    (h : FInvL s l K H) (hpc : s.pc t = .getCas h0 nx) (hs : step s t = some (s', ev)) :
    ∃ l' K' H', FInvL s' l' K' H' := by
  have hT := h.thread_at hpc
  simp only [step, hpc] at hs
  split at hs
  next heq =>
    cases hs
    have hch := h.chain
    have hnd := h.nodup
    cases l with
    | nil => exact nomatch heq.symm.trans hch
    | cons b l0 =>
      obtain rfl : h0 = b := Option.some.inj (heq.symm.trans hch.1)
      have hk : K h0 = .onList := (h.kList h0).2 List.mem_cons_self
      have hN := h.node h0
      rw [hk] at hN
      rw [List.nodup_cons] at hnd
      exact ⟨l0, upd K h0 (.taken t), upd H h0 (H h0), h.retag
        (fun b hb => ⟨(List.mem_cons.trans (or_iff_right hb)).symm, fun _ => rfl, rfl, rfl⟩)
        (hT.next h0 nx rfl ▸ hch.2) hnd.2
        { hN with list := ⟨False.elim, hnd.1⟩ }
        (Kind.change_ok (.inr (congrArg Kind.owner hk)) (.inl rfl)) (fun _ _ => Iff.rfl)
        (hT.self nofun (.inl rfl) (fun _ _ => Iff.rfl) (hT.hold h0) nofun nofun)⟩
  next hne =>
    cases hs
    exact ⟨l, K, H, h.move { hT with next := nofun }⟩

theorem finvl_step_getSub2 {h0 : Nat}
    (h : FInvL s l K H) (hpc : s.pc t = .getSub2 h0) (hs : step s t = some (s', ev)) :
    ∃ l' K' H', FInvL s' l' K' H' := by
  have hT := h.thread_at hpc
  have hk : K h0 = .taken t := hT.has h0 _ rfl
  have hm : t ∈ H h0 := (hT.hold h0).2 rfl
  have hN := h.node h0
  rw [hk] at hN
  obtain ⟨e1, e2, e3⟩ := erase_facts hN.nodup hm
  have hc : s.refs h0 = 1 + (H h0).length := hN.cnt
  simp only [step, hpc] at hs
  rw [wSub2_of_ge _ (by omega)] at hs
  cases hs
  exact ⟨l, upd K h0 (.owned t), upd H h0 ((H h0).erase t), h.retag
    (fun b hb => ⟨Iff.rfl, fun u => by simp [upd2, hb], upd_other _ _ _ _ hb, upd_other _ _ _ _ hb⟩) h.chain h.nodup
    (by
      rw [upd_same, upd_same]
      exact { hN with
        own := fun u => by
          have := hN.own u
          simp only [Kind.client, reduceCtorEq, false_iff] at this
          simp [Kind.client, upd2, this, eq_comm]
        nodup := e1
        cnt := by rw [hc]; simp [Kind.base]; omega
        zero := False.elim
        wait := False.elim })
    (Kind.change_ok (.inl (congrArg Kind.owner hk)) (.inr rfl)) (fun u hu => (e3 u).trans (and_iff_right hu))
    (hT.release (fun b k e => by cases e; rfl) (fun b e => (Option.some.inj e).symm) ⟨fun _ => rfl, rfl, rfl, rfl⟩ nofun
      (fun e => ((e3 t).1 e).1 rfl))⟩

theorem finvl_step_getDec {h0 : Nat} {hd : Option Nat}
    (h : FInvL s l K H) (hpc : s.pc t = .getDec h0 hd) (hs : step s t = some (s', ev)) :
    ∃ l' K' H', FInvL s' l' K' H' := by
  have hT := h.thread_at hpc
  have hm : t ∈ H h0 := (hT.hold h0).2 rfl
  have hN := h.node h0
  obtain ⟨e1, e2, e3⟩ := erase_facts hN.nodup hm
  have hc := hN.cnt
  have hf := hN.flag
  simp only [step, hpc] at hs
  rw [wSub1_of_pos _ (by omega)] at hs
  cases hs
  have hnz : ¬ (K h0).isZero := fun hz => by rw [hN.zero hz] at hm; cases hm
  have hE : ∀ u, u ≠ t → (u ∈ (H h0).erase t ↔ u ∈ H h0) := fun u hu => (e3 u).trans (and_iff_right hu)
  have hh : ∀ b, holdNode (.getDec h0 hd) = some b → b = h0 := fun b e => (Option.some.inj e).symm
  have hnot : t ∉ (H h0).erase t := fun e => ((e3 t).1 e).1 rfl
  by_cases hz : s.refs h0 = 1 ∧ s.shouldBeOn h0 = true
  · rw [if_pos hz]
    have hk : K h0 = .waiting := by
      have := hz.2
      cases hkk : K h0 <;> simp [hkk, hf, Kind.flag, Kind.isZero] at this hnz
      rfl
    rw [hk] at hN hc
    have hE0 : (H h0).erase t = [] := List.eq_nil_of_length_eq_zero (by simp [Kind.base] at hc; omega)
    exact ⟨l, upd K h0 (.zero t), upd H h0 ((H h0).erase t), h.reword
      { hN with nodup := e1, cnt := by rw [hz.1, hE0]; rfl, flag := hz.2, zero := fun _ => hE0, wait := False.elim }
      (Kind.change_ok (.inr (congrArg Kind.owner hk)) (.inl rfl)) hE
      (hT.self nofun (.inl rfl) (fun b hb => ⟨nofun, fun e => absurd (hh b e) hb⟩) ⟨fun e => absurd e hnot, nofun⟩
        nofun nofun)⟩
  · rw [if_neg hz]
    exact ⟨l, upd K h0 (K h0), upd H h0 ((H h0).erase t), h.reword
      { hN with
        nodup := e1
        cnt := by omega
        zero := fun e => absurd e hnz
        wait := fun hw e => by
          cases hk : K h0 <;> simp [hk, Kind.isWaiting] at hw
          rw [e] at e2
          simp [hk, Kind.base, Kind.flag] at hc hf e2
          exact hz ⟨by omega, hf⟩ }
      (fun _ _ _ => rfl) hE
      (hT.release nofun hh (getLoop_free hd) (fun e => nomatch hT.only h0 e) hnot)⟩

end

theorem finvl_step {s s' : St} {t : Tid} {ev : Ev} {l : List Nat} {K : Nat → Kind} {H : Nat → List Tid}
    (h : FInvL s l K H) (hs : step s t = some (s', ev)) : ∃ l' K' H', FInvL s' l' K' H' := by
  cases hpc : s.pc t with
  | idle => simp [step, hpc] at hs
  | done r => simp [step, hpc] at hs
  | putAdd n => exact finvl_step_putAdd h hpc hs
  | addLd n k =>
    simp only [step, hpc] at hs
    cases hs
    exact ⟨l, K, H, h.move { h.thread_at hpc with }⟩
  | addStNext n hd k => exact finvl_step_addStNext h hpc hs
  | addStRefs n hd k => exact finvl_step_addStRefs h hpc hs
  | addCas n hd k => exact finvl_step_addCas h hpc hs
  | addFix n hd k => exact finvl_step_addFix h hpc hs
  | getLd =>
    simp only [step, hpc] at hs
    cases hs
    exact ⟨l, K, H, h.move (by cases s.head <;> exact { h.thread_at hpc with })⟩
  | getRefs h0 =>
    simp only [step, hpc] at hs
    cases hs
    refine ⟨l, K, H, h.move ?_⟩
    split
    · exact { h.thread_at hpc with }
    next hc => exact { h.thread_at hpc with incPos := fun c e => Option.some.inj e ▸ Nat.pos_of_ne_zero hc }
  | getInc h0 c f => exact finvl_step_getInc h hpc hs
  | getNext h0 =>
    simp only [step, hpc] at hs
    cases hs
    exact ⟨l, K, H, h.move { h.thread_at hpc with next := fun a v e => by cases e; rfl }⟩
  | getCas h0 nx => exact finvl_step_getCas h hpc hs
  | getSub2 h0 => exact finvl_step_getSub2 h hpc hs
  | getDec h0 hd => exact finvl_step_getDec h hpc hs

/-! ### Preservation: invocation and return -/

section
variable {s s' : St} {t : Tid} {ev : Ev} {l : List Nat} {K : Nat → Kind} {H : Nat → List Tid}

theorem finvl_invoke {op : GOp}
    (h : FInvL s l K H) (hs : invoke s t op = some s') : ∃ K', FInvL s' l K' H := by
  have hT := h.thread t
  obtain ⟨name, args⟩ := op
  unfold invoke at hs
  split at hs
  next x n hpc hname hargs =>
    rw [hpc] at hT
    split at hs
    next hc =>
      cases hs
      obtain ⟨-, hc⟩ := hc
      generalize n.toNat = m at *
      have hk : K m = .owned t := (h.kOwn m t).2 hc
      have hN := h.node m
      rw [hk] at hN
      refine ⟨upd K m (.putting t), ?_⟩
      rw [← upd_eq_self (f := H) (i := m) rfl]
      exact h.retag
        (fun b hb => ⟨Iff.rfl, fun u => by simp [upd2, hb], rfl, rfl⟩) h.chain h.nodup
        { hN with
          own := fun u => ⟨nofun, fun e => by
            by_cases hu : u = t
            · simp [upd2, hu] at e
            · have : s.owns u m = true := by simpa [upd2, hu] using e
              exact absurd (Option.some.inj ((hN.own u).2 this)).symm hu⟩ }
        (Kind.change_ok (.inr (congrArg Kind.owner hk)) (.inl rfl)) (fun _ _ => Iff.rfl)
        (hT.self nofun (.inl rfl) (fun _ _ => Iff.rfl) (hT.hold m) nofun nofun)
    next => cases hs
  next hpc hname hargs =>
    rw [hpc] at hT
    cases hs
    exact ⟨K, h.move { hT with }⟩
  next => cases hs

theorem finvl_result {r : GRet}
    (h : FInvL s l K H) (hs : result s t = some (s', r)) : FInvL s' l K H := by
  have hT := h.thread t
  unfold result at hs
  split at hs
  next r' hpc =>
    rw [hpc] at hT
    cases hs
    exact h.move { hT with }
  next => cases hs

end

/-! ### Reachable states -/

theorem finv_apply {s s' : St} {t : Tid} {a : Act} {o : Obs} (h : FInv s)
    (hap : model.apply s t a = some (s', o)) : FInv s' := by
  obtain ⟨l, K, H, hl⟩ := h
  rcases Model.apply_cases hap with ⟨op, -, hs1, -⟩ | ⟨e, -, hs1, -⟩ | ⟨r, -, hs1, -⟩
  · obtain ⟨K', hK'⟩ := finvl_invoke hl hs1
    exact ⟨l, K', H, hK'⟩
  · exact finvl_step hl hs1
  · exact ⟨l, K, H, finvl_result hl hs1⟩

theorem finv_reachable (own0 : Nat → Tid) (s : St) (h : model.Reachable (init own0) s) : FInv s :=
  model.inv_reachable FInv (init own0) ⟨[], _, _, finv_init own0⟩ (fun _ _ _ _ _ hi hap => finv_apply hi hap) s h

/-! ### Consequences of the invariant -/

/-- The node a thread's operation has "in its hands": the argument of `put` before its `fetch_add`, the node
    `add_knowing_refcount_is_zero` is linking, the node a `get` has unlinked and not yet handed out. -/
def handNode : PC → Option Nat
  | .putAdd n => some n
  | .addLd n _ => some n
  | .addStNext n _ _ => some n
  | .addStRefs n _ _ => some n
  | .addCas n _ _ => some n
  | .addFix n _ _ => some n
  | .getSub2 h => some h
  | _ => none

theorem handNode_iff (q : PC) (a : Nat) : handNode q = some a ↔
    (putNode q = some a ∨ zeroNode q = some a ∨ oneNode q = some a ∨ takenNode q = some a) := by
  cases q <;> simp [handNode, putNode, zeroNode, oneNode, takenNode]

section
variable {s : St} {l : List Nat} {K : Nat → Kind} {H : Nat → List Tid}

theorem FInvL.own1 (h : FInvL s l K H) {t1 t2 : Tid} {a : Nat} (h1 : s.owns t1 a = true)
    (h2 : s.owns t2 a = true) : t1 = t2 := by
  have e1 := (h.kOwn a t1).2 h1
  have e2 := (h.kOwn a t2).2 h2
  rw [e1] at e2
  cases e2; rfl

theorem FInvL.kind_of_hand (h : FInvL s l K H) {t : Tid} {a : Nat} (hh : handNode (s.pc t) = some a) :
    K a = .putting t ∨ K a = .zero t ∨ K a = .one t ∨ K a = .taken t := by
  rw [handNode_iff] at hh
  rcases hh with h1 | h1 | h1 | h1
  · exact Or.inl ((h.kPut a t).2 h1)
  · exact Or.inr (Or.inl ((h.kZero a t).2 h1))
  · exact Or.inr (Or.inr (Or.inl ((h.kOne a t).2 h1)))
  · exact Or.inr (Or.inr (Or.inr ((h.kTaken a t).2 h1)))

/-- The operation in whose hands a node is, is unique. -/
theorem FInvL.hand1 (h : FInvL s l K H) {t1 t2 : Tid} {a : Nat} (h1 : handNode (s.pc t1) = some a)
    (h2 : handNode (s.pc t2) = some a) : t1 = t2 := by
  rcases h.kind_of_hand h1 with e1 | e1 | e1 | e1 <;> rcases h.kind_of_hand h2 with e2 | e2 | e2 | e2 <;>
    rw [e1] at e2 <;> cases e2 <;> rfl

theorem FInvL.notin_of_kind (h : FInvL s l K H) {a : Nat} (hk : K a ≠ .onList) : a ∉ l :=
  fun hm => hk ((h.kList a).2 hm)

theorem FInvL.unowned_of_kind (h : FInvL s l K H) {a : Nat} (hk : ∀ t, K a ≠ .owned t) (t : Tid) :
    s.owns t a = false := by
  cases ho : s.owns t a with
  | false => rfl
  | true => exact absurd ((h.kOwn a t).2 ho) (hk t)

theorem FInvL.nohand_of_kind (h : FInvL s l K H) {a : Nat}
    (hk : ∀ t, K a ≠ .putting t ∧ K a ≠ .zero t ∧ K a ≠ .one t ∧ K a ≠ .taken t) (t : Tid) :
    handNode (s.pc t) ≠ some a := by
  intro hh
  obtain ⟨h1, h2, h3, h4⟩ := hk t
  rcases h.kind_of_hand hh with e | e | e | e
  · exact h1 e
  · exact h2 e
  · exact h3 e
  · exact h4 e

/-- Where a node is, in terms of the state alone: on the chain; owned by a thread; in the hands of an operation;
    or waiting (flagged, referenced by a getter that will link it). -/
theorem FInvL.place (h : FInvL s l K H) (a : Nat) :
    (a ∈ l ∧ (∀ t, s.owns t a = false) ∧ (∀ t, handNode (s.pc t) ≠ some a) ∧ s.shouldBeOn a = false ∧ 1 ≤ s.refs a) ∨
    (a ∉ l ∧ (∃ t, s.owns t a = true) ∧ (∀ t, handNode (s.pc t) ≠ some a) ∧ s.shouldBeOn a = false) ∨
    (a ∉ l ∧ (∀ t, s.owns t a = false) ∧ (∃ t, handNode (s.pc t) = some a) ∧ (s.shouldBeOn a = true → s.refs a = 0)) ∨
    (a ∉ l ∧ (∀ t, s.owns t a = false) ∧ (∀ t, handNode (s.pc t) ≠ some a) ∧ s.shouldBeOn a = true ∧ 1 ≤ s.refs a ∧
      ∃ t, holdNode (s.pc t) = some a) := by
  have hc := h.cntEq a
  have hf := h.flagEq a
  cases hk : K a with
  | onList =>
    rw [hk] at hc hf
    exact Or.inl ⟨(h.kList a).1 hk, h.unowned_of_kind (by simp [hk]), h.nohand_of_kind (by simp [hk]), hf,
      by simp [Kind.base] at hc; omega⟩
  | owned t0 =>
    rw [hk] at hc hf
    exact Or.inr (Or.inl ⟨h.notin_of_kind (by simp [hk]), ⟨t0, (h.kOwn a t0).1 hk⟩, h.nohand_of_kind (by simp [hk]), hf⟩)
  | putting t0 =>
    rw [hk] at hc hf
    exact Or.inr (Or.inr (Or.inl ⟨h.notin_of_kind (by simp [hk]), h.unowned_of_kind (by simp [hk]),
      ⟨t0, (handNode_iff _ _).2 (Or.inl ((h.kPut a t0).1 hk))⟩, by simp [hf, Kind.flag]⟩))
  | zero t0 =>
    rw [hk] at hc hf
    exact Or.inr (Or.inr (Or.inl ⟨h.notin_of_kind (by simp [hk]), h.unowned_of_kind (by simp [hk]),
      ⟨t0, (handNode_iff _ _).2 (Or.inr (Or.inl ((h.kZero a t0).1 hk)))⟩,
      fun _ => by rw [hc, h.zeroH a t0 hk]; simp [Kind.base]⟩))
  | one t0 =>
    rw [hk] at hc hf
    exact Or.inr (Or.inr (Or.inl ⟨h.notin_of_kind (by simp [hk]), h.unowned_of_kind (by simp [hk]),
      ⟨t0, (handNode_iff _ _).2 (Or.inr (Or.inr (Or.inl ((h.kOne a t0).1 hk))))⟩, by simp [hf, Kind.flag]⟩))
  | taken t0 =>
    rw [hk] at hc hf
    exact Or.inr (Or.inr (Or.inl ⟨h.notin_of_kind (by simp [hk]), h.unowned_of_kind (by simp [hk]),
      ⟨t0, (handNode_iff _ _).2 (Or.inr (Or.inr (Or.inr ((h.kTaken a t0).1 hk))))⟩, by simp [hf, Kind.flag]⟩))
  | waiting =>
    rw [hk] at hc hf
    have hne := h.waitH a hk
    obtain ⟨t0, ht0⟩ := List.exists_mem_of_ne_nil _ hne
    have hpos : 0 < (H a).length := List.length_pos_of_mem ht0
    exact Or.inr (Or.inr (Or.inr ⟨h.notin_of_kind (by simp [hk]), h.unowned_of_kind (by simp [hk]),
      h.nohand_of_kind (by simp [hk]), hf, by omega, ⟨t0, (h.hMem a t0).1 ht0⟩⟩))

/-- No borrow, no carry into the wrong bit: the four read-modify-write operations on `m_freeListRefs` always find
    the word in the shape the algorithm expects (in particular the `assert` after the successful CAS of `get`). -/
theorem FInvL.no_borrow (h : FInvL s l K H) :
    (∀ t n, s.pc t = .putAdd n → s.shouldBeOn n = false) ∧
    (∀ t n hd k, s.pc t = .addFix n hd k → s.shouldBeOn n = false ∧ 1 ≤ s.refs n) ∧
    (∀ t h0, s.pc t = .getSub2 h0 → s.shouldBeOn h0 = false ∧ 2 ≤ s.refs h0) ∧
    (∀ t h0 hd, s.pc t = .getDec h0 hd → 1 ≤ s.refs h0) := by
  refine ⟨?_, ?_, ?_, ?_⟩
  · intro t n hpc
    rw [h.flagEq, h.kind_at hpc rfl]; rfl
  · intro t n hd k hpc
    rw [h.flagEq, h.cntEq, h.kind_at hpc rfl]
    exact ⟨rfl, by simp [Kind.base]⟩
  · intro t h0 hpc
    have hm := h.holds hpc rfl
    have : 0 < (H h0).length := List.length_pos_of_mem hm
    rw [h.flagEq, h.cntEq, h.kind_at hpc rfl]
    exact ⟨rfl, by simp [Kind.base]; omega⟩
  · intro t h0 hd hpc
    have hm := h.holds hpc rfl
    have : 0 < (H h0).length := List.length_pos_of_mem hm
    rw [h.cntEq]; omega

end

theorem getLoop_ne_getSub2 (hd : Option Nat) (h : Nat) : getLoop hd ≠ .getSub2 h := by
  cases hd <;> simp [getLoop]
theorem contPC_ne_getSub2 (k : Cont) (h : Nat) : contPC k ≠ .getSub2 h := by
  cases k <;> simp [contPC, getLoop_ne_getSub2]
theorem getLoop_ne_done1 (hd : Option Nat) (v : Int) : getLoop hd ≠ .done [1, v] := by
  cases hd <;> simp [getLoop]
theorem contPC_ne_done1 (k : Cont) (v : Int) : contPC k ≠ .done [1, v] := by
  cases k <;> simp [contPC, getLoop_ne_done1]

theorem step_to_getSub2 {s s' : St} {t : Tid} {ev : Ev} {h0 : Nat}
    (hs : step s t = some (s', ev)) (hpost : s'.pc t = .getSub2 h0) :
    ∃ nx, s.pc t = .getCas h0 nx ∧ s.head = some h0 := by
  cases hpc : s.pc t <;> simp only [step, hpc] at hs
  all_goals (try split at hs)
  all_goals (try (simp at hs))
  all_goals (try (obtain ⟨rfl, -⟩ := hs))
  all_goals (simp [upd, getLoop_ne_getSub2, contPC_ne_getSub2] at hpost)
  all_goals (try (split at hpost <;> simp [getLoop_ne_getSub2, contPC_ne_getSub2] at hpost))
  next h1 nx hc => exact ⟨nx, by rw [hpost], by rw [hc, hpost]⟩

theorem step_to_done1 {s s' : St} {t : Tid} {ev : Ev} {v : Int}
    (hs : step s t = some (s', ev)) (hpost : s'.pc t = .done [1, v]) :
    ∃ h0 : Nat, v = (h0 : Int) ∧ s.pc t = .getSub2 h0 := by
  cases hpc : s.pc t <;> simp only [step, hpc] at hs
  all_goals (try split at hs)
  all_goals (try (simp at hs))
  all_goals (try (obtain ⟨rfl, -⟩ := hs))
  all_goals (simp [upd, getLoop_ne_done1, contPC_ne_done1] at hpost)
  all_goals (try (split at hpost <;> simp [getLoop_ne_done1, contPC_ne_done1] at hpost))
  next h1 => exact ⟨h1, hpost.symm, rfl⟩

/-- THE REFERENCE-COUNT LEMMA.  While a getter holds a counted reference on node `h` and has read `nx` from its
    `m_freeListNext`: the count is at least 1, no thread is inside `add_knowing_refcount_is_zero( h )` before the
    `store( 1 )` (the only place where `h`'s `m_freeListNext` is written), and `nx` IS `h`'s current successor.
    `h` itself may be anywhere: on the list, owned by a client, being put back. -/
theorem FInvL.ref_protects {s : St} {l : List Nat} {K : Nat → Kind} {H : Nat → List Tid} (h : FInvL s l K H)
    {t : Tid} {h0 : Nat} {nx : Option Nat} (hpc : s.pc t = .getCas h0 nx) :
    s.next h0 = nx ∧ 1 ≤ s.refs h0 ∧ (∀ t2, zeroNode (s.pc t2) ≠ some h0) ∧
    (s.head = some h0 → ∃ l0, l = h0 :: l0) := by
  have hm := h.holds hpc rfl
  have hpos : 0 < (H h0).length := List.length_pos_of_mem hm
  refine ⟨h.key t h0 nx hpc, by rw [h.cntEq]; omega, fun t2 hz => ?_, fun hh => ?_⟩
  · have := h.zeroH h0 t2 ((h.kZero h0 t2).2 hz)
    rw [this] at hm; cases hm
  · have hch := h.chain
    cases l with
    | nil => simp_all [Chain]
    | cons b l0 =>
      simp only [Chain] at hch
      have : b = h0 := by have := hch.1.symm.trans hh; simpa using this
      exact ⟨l0, by rw [this]⟩

/-! ### The hand-out path of `get` -/

/-- A thread reaches `getSub2 h` only by a successful CAS on the head expecting `h`.  At that instant `h` is the
    FIRST node of the chain, nobody owns it, no operation has it in its hands, its bit is clear; the value written
    to the head is `h`'s current successor, so the new chain is the old one without `h`. -/
theorem get_cas_success {s s' : St} {t : Tid} {ev : Ev} {h0 : Nat} (h : FInv s)
    (hs : step s t = some (s', ev)) (hpost : s'.pc t = .getSub2 h0) :
    ∃ nx l, s.pc t = .getCas h0 nx ∧ ev = evCasPtrOk headLoc (some h0) nx ∧
      Chain s.next s.head (h0 :: l) ∧ s.next h0 = nx ∧ (∀ t2, s.owns t2 h0 = false) ∧
      (∀ t2, handNode (s.pc t2) ≠ some h0) ∧ s.shouldBeOn h0 = false ∧ Chain s'.next s'.head l := by
  obtain ⟨l, K, H, hl⟩ := h
  obtain ⟨nx, hpc, hhead⟩ := step_to_getSub2 hs hpost
  simp only [step, hpc, hhead, if_true] at hs
  simp at hs; obtain ⟨rfl, rfl⟩ := hs
  have hnx := hl.key t h0 nx hpc
  have hch := hl.chain
  cases l with
  | nil => simp_all [Chain]
  | cons b l0 =>
    have hb : b = h0 := by simp_all [Chain]
    subst hb
    have hk : K b = .onList := (hl.kList b).2 (by simp)
    refine ⟨nx, l0, hpc, rfl, hch, hnx, hl.unowned_of_kind (by simp [hk]), hl.nohand_of_kind (by simp [hk]), ?_, ?_⟩
    · rw [hl.flagEq, hk]; rfl
    · simp only [Chain] at hch
      dsimp only
      rw [← hnx]; exact hch.2

/-- `get` decides to return a node only at its `fetch_sub( 2 )`, i.e. after the successful CAS above, and returns
    the node it has unlinked; at that instant nobody owns the node, and afterwards the getter does. -/
theorem get_result_only_by_sub2 {s s' : St} {t : Tid} {ev : Ev} {v : Int} (h : FInv s)
    (hs : step s t = some (s', ev)) (hpost : s'.pc t = .done [1, v]) :
    ∃ h0 : Nat, v = (h0 : Int) ∧ s.pc t = .getSub2 h0 ∧ (∀ t2, s.owns t2 h0 = false) ∧
      s.shouldBeOn h0 = false ∧ 2 ≤ s.refs h0 ∧ s'.owns t h0 = true ∧
      ev = evRmw "sub" h0 (s.refs h0) false 2 := by
  obtain ⟨l, K, H, hl⟩ := h
  obtain ⟨h0, hv, hpc⟩ := step_to_done1 hs hpost
  have hk := hl.kind_at hpc rfl
  obtain ⟨-, -, hb, -⟩ := hl.no_borrow
  obtain ⟨hf, hc⟩ := hb t h0 hpc
  simp only [step, hpc] at hs
  simp at hs; obtain ⟨rfl, rfl⟩ := hs
  exact ⟨h0, hv, hpc, hl.unowned_of_kind (by simp [hk]), hf, hc, by simp [upd2], by rw [hf]⟩

/-! ### Quiescent states and sequential `get` -/

/-- When no operation is in progress: the chain consists exactly of the nodes owned by nobody, every node of the
    chain has `m_freeListRefs = 1`, and every other node has `m_freeListRefs = 0`. -/
theorem quiescent_chain {s : St} (h : FInv s) (hq : ∀ t, s.pc t = .idle) :
    ∃ l, Chain s.next s.head l ∧ l.Nodup ∧ (∀ a, a ∈ l ↔ ∀ t, s.owns t a = false) ∧
      (∀ a ∈ l, s.refs a = 1 ∧ s.shouldBeOn a = false) ∧ (∀ a, a ∉ l → s.refs a = 0 ∧ s.shouldBeOn a = false) := by
  obtain ⟨l, K, H, hl⟩ := h
  have hH : ∀ a, H a = [] := fun a => by
    apply List.eq_nil_iff_forall_not_mem.mpr
    intro t ht
    have := (hl.hMem a t).1 ht
    simp [hq t, holdNode] at this
  have hkind : ∀ a, K a = .onList ∨ ∃ t, K a = .owned t := fun a => by
    cases hk : K a with
    | onList => exact Or.inl rfl
    | owned t0 => exact Or.inr ⟨t0, rfl⟩
    | putting t0 => have := (hl.kPut a t0).1 hk; simp [hq t0, putNode] at this
    | zero t0 => have := (hl.kZero a t0).1 hk; simp [hq t0, zeroNode] at this
    | one t0 => have := (hl.kOne a t0).1 hk; simp [hq t0, oneNode] at this
    | taken t0 => have := (hl.kTaken a t0).1 hk; simp [hq t0, takenNode] at this
    | waiting => exact absurd (hH a) (hl.waitH a hk)
  refine ⟨l, hl.chain, hl.nodup, fun a => ?_, fun a ha => ?_, fun a ha => ?_⟩
  · constructor
    · intro ha
      exact hl.unowned_of_kind (by simp [(hl.kList a).2 ha])
    · intro ho
      rcases hkind a with hk | ⟨t0, hk⟩
      · exact (hl.kList a).1 hk
      · have := (hl.kOwn a t0).1 hk; rw [ho t0] at this; cases this
  · have hk := (hl.kList a).2 ha
    rw [hl.cntEq, hl.flagEq, hk, hH a]; exact ⟨rfl, rfl⟩
  · rcases hkind a with hk | ⟨t0, hk⟩
    · exact absurd ((hl.kList a).1 hk) ha
    · rw [hl.cntEq, hl.flagEq, hk, hH a]; exact ⟨rfl, rfl⟩

def getSched (t : Tid) : List (Tid × Act) :=
  [(t, .invoke ⟨"get", [(t : Int)]⟩), (t, .step), (t, .step), (t, .step), (t, .step), (t, .step), (t, .step), (t, .ret)]
def getEmptySched (t : Tid) : List (Tid × Act) :=
  [(t, .invoke ⟨"get", [(t : Int)]⟩), (t, .step), (t, .ret)]

/-- The results returned to the client, in order. -/
def retsOf (os : List (Tid × Obs)) : List GRet :=
  os.filterMap fun x => match x.2 with
    | .ret r => some r
    | _ => none

/-- The state after a `get` of thread `t` has run alone and taken the first node `a`. -/
def afterGet (s : St) (t : Tid) (a : Nat) : St :=
  { s with head := s.next a, refs := upd s.refs a 0, shouldBeOn := upd s.shouldBeOn a false,
           owns := upd2 s.owns t a true, pc := upd s.pc t .idle }

/-- A `get` that runs alone on a list whose first node `a` has `m_freeListRefs = 1`: the complete run, with its
    trace. -/
theorem get_seq_run (s : St) (t : Tid) (a : Nat) (hidle : s.pc t = .idle) (hh : s.head = some a)
    (hr : s.refs a = 1) (hf : s.shouldBeOn a = false) :
    model.run s (getSched t) = some
      (afterGet s t a,
       [(t, .call ⟨"get", [(t : Int)]⟩), (t, .ev (evLdPtr headLoc (some a))), (t, .ev (evLdWord a 1 false)),
        (t, .ev (evCasWordOk a 1 false 2 false)), (t, .ev (evLdPtr (nloc a) (s.next a))),
        (t, .ev (evCasPtrOk headLoc (some a) (s.next a))), (t, .ev (evRmw "sub" a 2 false 2)),
        (t, .ret [1, (a : Int)])]) := by
  simp [getSched, Model.run, Model.apply, model, invoke, step, result, hidle, hh, hr, hf, getLoop, upd_upd, wSub2,
    afterGet]

/-- A `get` that runs alone on an empty list: the complete run, with its trace. -/
theorem get_seq_empty_run (s : St) (t : Tid) (hidle : s.pc t = .idle) (hh : s.head = none) :
    model.run s (getEmptySched t) = some
      ({ s with pc := upd s.pc t .idle },
       [(t, .call ⟨"get", [(t : Int)]⟩), (t, .ev (evLdPtr headLoc none)), (t, .ret [0])]) := by
  simp [getEmptySched, Model.run, Model.apply, model, invoke, step, result, hidle, hh, getLoop, upd_upd]

/-- The invariant holds along every run. -/
theorem finv_run {s s' : St} {sched : List (Tid × Act)} {os : List (Tid × Obs)} (h : FInv s)
    (hrun : model.run s sched = some (s', os)) : FInv s' :=
  model.inv_of_inductive FInv (fun _ _ _ _ _ hi hap => finv_apply hi hap) sched s s' os h hrun

/-- `k` times `get`, then one more. -/
def drainSched (t : Tid) : Nat → List (Tid × Act)
  | 0 => getEmptySched t
  | k + 1 => getSched t ++ drainSched t k

/-- Draining: from a quiescent state that satisfies the invariant and whose chain is `l`, `l.length` successive
    `get()` calls of a thread `t` return the nodes of `l`, every one of them, in chain order, and the next `get()`
    returns "empty"; `t` then owns all of them. -/
theorem drain (t : Tid) : ∀ (l : List Nat) (s : St), FInv s → (∀ t2, s.pc t2 = .idle) → Chain s.next s.head l →
    ∃ s' os, model.run s (drainSched t l.length) = some (s', os) ∧
      retsOf os = l.map (fun (a : Nat) => ([1, (a : Int)] : GRet)) ++ [[0]] ∧ s'.head = none ∧
      (∀ a ∈ l, s'.owns t a = true) ∧ (∀ t2 n, s.owns t2 n = true → s'.owns t2 n = true) := by
  intro l
  induction l with
  | nil =>
    intro s hinv hq hch
    simp only [Chain] at hch
    refine ⟨_, _, get_seq_empty_run s t (hq t) hch, by simp [retsOf], hch, by simp, fun t2 n h => h⟩
  | cons a l ih =>
    intro s hinv hq hch
    obtain ⟨l', hch', -, -, hrefs, -⟩ := quiescent_chain hinv hq
    have hl' : l' = a :: l := Chain.functional hch' hch
    subst hl'
    obtain ⟨hr, hf⟩ := hrefs a (by simp)
    simp only [Chain] at hch
    have hrun1 := get_seq_run s t a (hq t) hch.1 hr hf
    have hinv1 := finv_run hinv hrun1
    have hq1 : ∀ t2, (afterGet s t a).pc t2 = .idle := by
      intro t2; simp only [afterGet, upd]; split
      · rfl
      · exact hq t2
    obtain ⟨s2, os2, hrun2, hret2, hhead2, hown2, hmono2⟩ := ih (afterGet s t a) hinv1 hq1 hch.2
    have hmono1 : ∀ t2 n, s.owns t2 n = true → (afterGet s t a).owns t2 n = true := by
      intro t2 n h; simp only [afterGet, upd2]; split <;> simp_all
    refine ⟨s2, _, Model.run_append hrun1 hrun2, ?_, hhead2, ?_, fun t2 n h => hmono2 _ _ (hmono1 _ _ h)⟩
    · simp only [retsOf, List.filterMap_append] at hret2 ⊢
      rw [hret2]; simp
    · intro b hb
      rcases List.mem_cons.mp hb with rfl | hb
      · exact hmono2 _ _ (by simp [afterGet, upd2])
      · exact hown2 b hb


end CdsVerif.Algo.FreeList
