/-
  Structural invariant of the Treiber stack model and the refinement of the abstract stack.

  * `Chain s.next s.top l` : following `next` from `top` visits exactly the nodes `l` and then null.
  * `SInvL s l` : the chain `l` is duplicate-free and consists of published nodes (pushed, not yet popped);
    nodes still private to a pusher and nodes already popped are outside the chain and stay outside
    (garbage-collected heap: fresh identities, no reuse).
  * `absStack s` : the values along the chain.
  * `step_refines` : a step that passes a linearization point (successful CAS of push / pop, validating load
    of null in pop) is exactly one `lifo` step on `absStack` with the result the operation will return;
    every other step leaves `absStack` unchanged.
-/
import CdsVerif.Algo.Treiber.Model
namespace CdsVerif.Algo.Treiber
open CdsVerif.Machine CdsVerif.Spec CdsVerif.Lin

/-! ### Chains -/

def Chain (nx : Nat → Option Nat) : Option Nat → List Nat → Prop
  | p, [] => p = none
  | p, a :: l => p = some a ∧ Chain nx (nx a) l

theorem Chain.functional {nx : Nat → Option Nat} : ∀ {p : Option Nat} {l1 l2 : List Nat},
    Chain nx p l1 → Chain nx p l2 → l1 = l2
  | _, [], [], _, _ => rfl
  | _, [], _ :: _, h1, h2 => by simp [Chain] at h1 h2; simp [h1] at h2
  | _, _ :: _, [], h1, h2 => by simp [Chain] at h1 h2; simp [h2] at h1
  | _, a :: l1, b :: l2, h1, h2 => by
    simp only [Chain] at h1 h2
    have hab : a = b := by have := h1.1.symm.trans h2.1; simpa using this
    subst hab
    rw [Chain.functional h1.2 h2.2]

theorem Chain.upd {nx : Nat → Option Nat} {x : Nat} {v : Option Nat} :
    ∀ {p : Option Nat} {l : List Nat}, x ∉ l → Chain nx p l → Chain (upd nx x v) p l
  | _, [], _, h => h
  | _, a :: l, hx, h => by
    simp only [Chain] at h ⊢
    have hax : a ≠ x := fun e => hx (by simp [e])
    refine ⟨h.1, ?_⟩
    rw [upd_other _ _ _ _ hax]
    exact Chain.upd (fun hm => hx (List.mem_cons_of_mem _ hm)) h.2

/-- Executable chain walk with fuel. -/
def walk (nx : Nat → Option Nat) : Nat → Option Nat → List Nat
  | 0, _ => []
  | _ + 1, none => []
  | f + 1, some a => a :: walk nx f (nx a)

theorem walk_none (nx : Nat → Option Nat) (f : Nat) : walk nx f none = [] := by cases f <;> rfl

theorem walk_of_chain {nx : Nat → Option Nat} : ∀ {fuel : Nat} {p : Option Nat} {l : List Nat},
    Chain nx p l → l.length ≤ fuel → walk nx fuel p = l
  | 0, _, [], _, _ => rfl
  | 0, _, _ :: _, _, hl => by simp at hl
  | f + 1, _, [], h, _ => by simp only [Chain] at h; subst h; rfl
  | f + 1, _, a :: l, h, hl => by
    simp only [Chain] at h
    obtain ⟨rfl, h2⟩ := h
    simp only [walk]
    rw [walk_of_chain h2 (by simpa using hl)]

theorem length_le_of_nodup_lt {l : List Nat} {n : Nat} (hn : l.Nodup) (hlt : ∀ a ∈ l, a < n) : l.length ≤ n := by
  have := List.Nodup.length_le_of_subset (l₂ := List.range n) hn (fun a ha => List.mem_range.mpr (hlt a ha))
  simpa using this

/-- The nodes reachable from `top` (fuel: the number of nodes ever allocated). -/
def absNodes (s : St) : List Nat := walk s.next s.cnt s.top
/-- The abstract stack: the values along the chain, top first. -/
def absStack (s : St) : List Int := (absNodes s).map s.val

/-! ### The structural invariant -/

/-- The node a pusher still owns privately (before its successful CAS). -/
def pushNode : PC → Option Nat
  | .pushLd n => some n
  | .pushSt n _ => some n
  | .pushCas n _ => some n
  | _ => none

/-- `a` has been allocated and is no longer private to a pusher: it is or was in the stack. -/
def Pub (s : St) (a : Nat) : Prop := a < s.cnt ∧ ∀ t, pushNode (s.pc t) ≠ some a

structure SInvL (s : St) (l : List Nat) : Prop where
  chain : Chain s.next s.top l
  nodup : l.Nodup
  pub : ∀ a, a ∈ l → Pub s a
  fresh : ∀ t n, pushNode (s.pc t) = some n → n < s.cnt
  own : ∀ t1 t2 n, pushNode (s.pc t1) = some n → pushNode (s.pc t2) = some n → t1 = t2
  linked : ∀ t n tv, s.pc t = .pushCas n tv → s.next n = tv
  casx : ∀ t a nx, s.pc t = .popCas a nx → Pub s a ∧ (a ∈ l → s.next a = nx)
  nxt : ∀ t a, s.pc t = .popNext a → Pub s a
  clr : ∀ t a r, s.pc t = .popClr a r → Pub s a ∧ a ∉ l

def SInv (s : St) : Prop := ∃ l, SInvL s l

theorem SInvL.absNodes_eq {s : St} {l : List Nat} (h : SInvL s l) : absNodes s = l :=
  walk_of_chain h.chain (length_le_of_nodup_lt h.nodup (fun a ha => (h.pub a ha).1))

theorem SInvL.absStack_eq {s : St} {l : List Nat} (h : SInvL s l) : absStack s = l.map s.val := by
  simp [absStack, h.absNodes_eq]

theorem SInvL.unique {s : St} {l1 l2 : List Nat} (h1 : SInvL s l1) (h2 : SInvL s l2) : l1 = l2 :=
  Chain.functional h1.chain h2.chain

theorem sinv_init : SInvL init [] := by
  constructor <;> simp [init, Chain, pushNode]

/-! ### The invariant by thread

`TInv` collects what `SInvL` says about one thread.  Its clauses survive the step of another thread because the set of
public nodes only grows, a node enters the chain from the private hands of the stepping thread only, and `m_pNext` is
written only in a private node or in a public node that has left the chain (`TInv.mono`, `SInvL.frame`). -/

def atPushCas : PC → Option (Nat × Option Nat)
  | .pushCas n tv => some (n, tv)
  | _ => none
def atPopCas : PC → Option (Nat × Option Nat)
  | .popCas a nx => some (a, nx)
  | _ => none
def atPopNext : PC → Option Nat
  | .popNext a => some a
  | _ => none
def atPopClr : PC → Option Nat
  | .popClr a _ => some a
  | _ => none

/-- What `SInvL` says about one thread at program counter `pc`; `nx`, `cnt` are the memory, `P` says which nodes are
    public. -/
structure TInv (nx : Nat → Option Nat) (cnt : Nat) (P : Nat → Prop) (l : List Nat) (pc : PC) : Prop where
  priv : ∀ a, a ∈ l → pushNode pc ≠ some a
  fresh : ∀ n, pushNode pc = some n → n < cnt
  linked : ∀ n tv, atPushCas pc = some (n, tv) → nx n = tv
  casx : ∀ a v, atPopCas pc = some (a, v) → P a ∧ (a ∈ l → nx a = v)
  nxt : ∀ a, atPopNext pc = some a → P a
  clr : ∀ a, atPopClr pc = some a → P a ∧ a ∉ l

section
variable {s : St} {l : List Nat}

theorem SInvL.thread (h : SInvL s l) (t : Tid) : TInv s.next s.cnt (Pub s) l (s.pc t) where
  priv := fun a ha => (h.pub a ha).2 t
  fresh := h.fresh t
  linked := fun n tv e => by
    cases hp : s.pc t <;> simp only [hp, atPushCas, Option.some.injEq, Prod.mk.injEq, reduceCtorEq] at e
    exact e.1 ▸ e.2 ▸ h.linked t _ _ hp
  casx := fun a v e => by
    cases hp : s.pc t <;> simp only [hp, atPopCas, Option.some.injEq, Prod.mk.injEq, reduceCtorEq] at e
    exact e.1 ▸ e.2 ▸ h.casx t _ _ hp
  nxt := fun a e => by
    cases hp : s.pc t <;> simp only [hp, atPopNext, Option.some.injEq, reduceCtorEq] at e
    exact e ▸ h.nxt t _ hp
  clr := fun a e => by
    cases hp : s.pc t <;> simp only [hp, atPopClr, Option.some.injEq, reduceCtorEq] at e
    exact e ▸ h.clr t _ _ hp

theorem SInvL.thread_at (h : SInvL s l) {t : Tid} {pc : PC} (hpc : s.pc t = pc) : TInv s.next s.cnt (Pub s) l pc :=
  hpc ▸ h.thread t

theorem SInvL.of_parts (hch : Chain s.next s.top l) (hnd : l.Nodup) (hlt : ∀ a, a ∈ l → a < s.cnt)
    (hown : ∀ t1 t2 n, pushNode (s.pc t1) = some n → pushNode (s.pc t2) = some n → t1 = t2)
    (hT : ∀ t, TInv s.next s.cnt (Pub s) l (s.pc t)) : SInvL s l where
  chain := hch
  nodup := hnd
  pub := fun a ha => ⟨hlt a ha, fun t => (hT t).priv a ha⟩
  fresh := fun t => (hT t).fresh
  own := hown
  linked := fun t n tv e => (hT t).linked n tv (by rw [e]; rfl)
  casx := fun t a nx e => (hT t).casx a nx (by rw [e]; rfl)
  nxt := fun t a e => (hT t).nxt a (by rw [e]; rfl)
  clr := fun t a r e => (hT t).clr a (by rw [e]; rfl)

/-- The clauses of a thread survive a step of another thread: the allocation counter and the set of public nodes
    grow, a node that enters the chain was private to the stepping thread, and `m_pNext` is written only in a node
    that is private to the stepping thread or public and outside the chain. -/
theorem TInv.mono {nx nx' : Nat → Option Nat} {cnt cnt' : Nat} {P P' : Nat → Prop} {l l' : List Nat} {pc : PC}
    (h : TInv nx cnt P l pc) (hcnt : cnt ≤ cnt') (hP : ∀ a, P a → P' a)
    (hl : ∀ a, a ∈ l' → a ∈ l ∨ (¬ P a ∧ pushNode pc ≠ some a))
    (hnx : ∀ a, pushNode pc = some a ∨ (P a ∧ a ∈ l) → nx' a = nx a) : TInv nx' cnt' P' l' pc where
  priv := fun a ha => (hl a ha).elim (h.priv a) (fun e => e.2)
  fresh := fun n e => Nat.lt_of_lt_of_le (h.fresh n e) hcnt
  linked := fun n tv e => by
    rw [hnx n (.inl (by cases pc <;> simp_all [atPushCas, pushNode]))]; exact h.linked n tv e
  casx := fun a v e => by
    obtain ⟨h1, h2⟩ := h.casx a v e
    refine ⟨hP a h1, fun ha => ?_⟩
    have ha' : a ∈ l := (hl a ha).elim id (fun e' => absurd h1 e'.1)
    rw [hnx a (.inr ⟨h1, ha'⟩)]; exact h2 ha'
  nxt := fun a e => hP a (h.nxt a e)
  clr := fun a e => by
    obtain ⟨h1, h2⟩ := h.clr a e
    exact ⟨hP a h1, fun ha => (hl a ha).elim h2 (fun e' => e'.1 h1)⟩

/-- A public node stays public: the thread that moves keeps its private node or, at a `push`, takes a fresh one. -/
theorem pub_mono {s' : St} {t : Tid} (hpc : ∀ u, u ≠ t → s'.pc u = s.pc u) (hcnt : s.cnt ≤ s'.cnt)
    (hq : ∀ a, pushNode (s'.pc t) = some a → pushNode (s.pc t) = some a ∨ s.cnt ≤ a) (a : Nat) (h : Pub s a) :
    Pub s' a := by
  refine ⟨Nat.lt_of_lt_of_le h.1 hcnt, fun u e => ?_⟩
  by_cases hu : u = t
  · rw [hu] at e
    rcases hq a e with e' | e'
    · exact h.2 t e'
    · exact absurd h.1 (Nat.not_lt.2 e')
  · rw [hpc u hu] at e; exact h.2 u e

/-- The rule for one step of thread `t`. -/
theorem SInvL.frame {s' : St} {l' : List Nat} {t : Tid} (h : SInvL s l) (hpc : ∀ u, u ≠ t → s'.pc u = s.pc u)
    (hch : Chain s'.next s'.top l') (hnd : l'.Nodup) (hlt : ∀ a, a ∈ l' → a < s'.cnt)
    (hT : TInv s'.next s'.cnt (Pub s') l' (s'.pc t))
    (hE : ∀ u n, u ≠ t → pushNode (s'.pc t) = some n → pushNode (s.pc u) ≠ some n)
    (hcnt : s.cnt ≤ s'.cnt) (hP : ∀ a, Pub s a → Pub s' a)
    (hl : ∀ a, a ∈ l' → a ∈ l ∨ pushNode (s.pc t) = some a)
    (hnx : ∀ a, s'.next a ≠ s.next a → pushNode (s.pc t) = some a ∨ (Pub s a ∧ a ∉ l)) : SInvL s' l' := by
  refine SInvL.of_parts hch hnd hlt (fun u v n e1 e2 => ?_) (fun u => ?_)
  · by_cases hu : u = t
    · by_cases hv : v = t
      · rw [hu, hv]
      · rw [hu] at e1; rw [hpc v hv] at e2; exact absurd e2 (hE v n hv e1)
    · by_cases hv : v = t
      · rw [hv] at e2; rw [hpc u hu] at e1; exact absurd e1 (hE u n hu e2)
      · rw [hpc u hu] at e1; rw [hpc v hv] at e2; exact h.own u v n e1 e2
  · by_cases hu : u = t
    · rw [hu]; exact hT
    · rw [hpc u hu]
      refine (h.thread u).mono hcnt hP (fun a ha => (hl a ha).imp id fun e => ?_) (fun a ha => ?_)
      · exact ⟨fun hp => hp.2 t e, fun e' => hu (h.own u t a e' e)⟩
      · apply Classical.byContradiction; intro hne
        rcases hnx a hne with e | ⟨e1, e2⟩
        · rcases ha with e' | ⟨e', -⟩
          · exact hu (h.own u t a e' e)
          · exact e'.2 t e
        · rcases ha with e' | ⟨-, e'⟩
          · exact e1.2 u e'
          · exact e2 e'

end

/-! ### Linearization-point bookkeeping on program counters -/

/-- The result fixed at the linearization point, for a thread that has passed it. -/
def postRet : PC → Option GRet
  | .popClr _ r => some r
  | .done r => some r
  | _ => none

/-- The operation a thread is executing, while it has not passed its linearization point. -/
def opOf (val : Nat → Int) : PC → Option GOp
  | .pushLd n => some ⟨"push", [val n]⟩
  | .pushSt n _ => some ⟨"push", [val n]⟩
  | .pushCas n _ => some ⟨"push", [val n]⟩
  | .popLd1 => some ⟨"pop", []⟩
  | .popLd2 _ => some ⟨"pop", []⟩
  | .popNext _ => some ⟨"pop", []⟩
  | .popCas _ _ => some ⟨"pop", []⟩
  | _ => none

theorem lifo_push (st : List Int) (v : Int) : lifo.next st ⟨"push", [v]⟩ [1] = some (v :: st) := by
  simp [lifo, detSpec, lifoStep]
theorem lifo_pop_some (st : List Int) (v : Int) : lifo.next (v :: st) ⟨"pop", []⟩ [1, v] = some st := by
  simp [lifo, detSpec, lifoStep]
theorem lifo_pop_none : lifo.next [] ⟨"pop", []⟩ [0] = some [] := by
  simp [lifo, detSpec, lifoStep]

/-! ### Preservation: atomic steps -/

/-- Effect of one atomic step of thread `t` on the chain `l ↦ l'`.
    `lp`: a step that passes the linearization point is one `lifo` step on the abstract stack, for the operation the
    thread is executing and with the result it is going to return.  `nolp`: every other step leaves the chain as it is. -/
structure StepEff (s : St) (t : Tid) (s' : St) (l l' : List Nat) : Prop where
  frame : ∀ t2, t2 ≠ t → s'.pc t2 = s.pc t2
  val : s'.val = s.val
  cnt : s'.cnt = s.cnt
  lp : postRet (s.pc t) = none → ∀ r, postRet (s'.pc t) = some r →
        ∃ op, opOf s.val (s.pc t) = some op ∧ lifo.next (l.map s.val) op r = some (l'.map s.val)
  nolp : (postRet (s.pc t) ≠ none ∨ postRet (s'.pc t) = none) → l' = l
  keep : ∀ r, postRet (s.pc t) = some r → postRet (s'.pc t) = some r
  op : postRet (s'.pc t) = none → opOf s'.val (s'.pc t) = opOf s.val (s.pc t)
  busy : s.pc t ≠ .idle ∧ s'.pc t ≠ .idle
  sub : ∀ a, a ∈ l' → a ∈ l ∨ pushNode (s.pc t) = some a
  pubmono : ∀ a, Pub s a → Pub s' a

section
variable {s : St} {l : List Nat}

/-- The effect of a step that passes no linearization point, takes no node and leaves the chain alone. -/
theorem StepEff.quiet {t : Tid} {q : PC} {nx' : Nat → Option Nat} (hr : postRet q = postRet (s.pc t))
    (hop : postRet q = none → opOf s.val q = opOf s.val (s.pc t)) (hb : s.pc t ≠ .idle ∧ q ≠ .idle)
    (hq : ∀ a, pushNode q = some a → pushNode (s.pc t) = some a) :
    StepEff s t { s with next := nx', pc := upd s.pc t q } l l := by
  have hpt : ({ s with next := nx', pc := upd s.pc t q } : St).pc t = q := upd_same _ _ _
  refine ⟨fun u hu => upd_other _ _ _ _ hu, rfl, rfl, fun e r e' => ?_, fun _ => rfl, fun r e => ?_, fun e => ?_,
    ⟨hb.1, by rw [hpt]; exact hb.2⟩, fun a ha => .inl ha,
    pub_mono (fun u hu => upd_other _ _ _ _ hu) (Nat.le_refl _) (fun a e => .inl (hq a (hpt ▸ e)))⟩
  · rw [hpt, hr, e] at e'; cases e'
  · rw [hpt, hr]; exact e
  · rw [hpt] at e ⊢; exact hop e

/-- A step that passes no linearization point, takes no node and leaves the chain alone; it may write `m_pNext` of
    its private node or of a public node outside the chain. -/
theorem SInvL.quiet {t : Tid} {q : PC} {nx' : Nat → Option Nat} (h : SInvL s l) (hch : Chain nx' s.top l)
    (hT : TInv nx' s.cnt (Pub s) l q) (hr : postRet q = postRet (s.pc t))
    (hop : postRet q = none → opOf s.val q = opOf s.val (s.pc t)) (hb : s.pc t ≠ .idle ∧ q ≠ .idle)
    (hq : ∀ a, pushNode q = some a → pushNode (s.pc t) = some a)
    (hnx : ∀ a, nx' a ≠ s.next a → pushNode (s.pc t) = some a ∨ (Pub s a ∧ a ∉ l)) :
    SInvL { s with next := nx', pc := upd s.pc t q } l ∧ StepEff s t { s with next := nx', pc := upd s.pc t q } l l := by
  have hE := StepEff.quiet (l := l) (nx' := nx') hr hop hb hq
  have hpt : ({ s with next := nx', pc := upd s.pc t q } : St).pc t = q := upd_same _ _ _
  refine ⟨h.frame (t := t) hE.frame hch h.nodup (fun a ha => (h.pub a ha).1) ?_ (fun u n hu e e' => ?_) (Nat.le_refl _)
    hE.pubmono (fun a ha => .inl ha) hnx, hE⟩
  · rw [hpt]; exact hT.mono (Nat.le_refl _) hE.pubmono (fun a ha => .inl ha) (fun _ _ => rfl)
  · rw [hpt] at e; exact hu (h.own u t n e' (hq n e))

end

section
variable {s s' : St} {t : Tid} {ev : Ev} {l : List Nat}

theorem sinvl_step_pushSt {n : Nat} {tv : Option Nat}
    (h : SInvL s l) (hpc : s.pc t = .pushSt n tv) (hs : step s t = some (s', ev)) :
    ∃ l', SInvL s' l' ∧ StepEff s t s' l l' := by
  have hT := h.thread_at hpc
  simp only [step, hpc] at hs
  cases hs
  have hn : n ∉ l := fun hm => hT.priv n hm rfl
  refine ⟨l, h.quiet (Chain.upd hn h.chain)
    { hT with linked := fun n' tv' e => by cases e; exact upd_same _ _ _, casx := nofun }
    (by rw [hpc]; rfl) (fun _ => by rw [hpc]; rfl) (by rw [hpc]; exact ⟨nofun, nofun⟩) (fun a e => by rw [hpc]; exact e)
    (fun a e => .inl ?_)⟩
  rw [hpc]
  by_cases e' : a = n
  · rw [e']; rfl
  · exact absurd (upd_other _ _ _ _ e') e

theorem sinvl_step_popClr {a : Nat} {r : GRet}
    (h : SInvL s l) (hpc : s.pc t = .popClr a r) (hs : step s t = some (s', ev)) :
    ∃ l', SInvL s' l' ∧ StepEff s t s' l l' := by
  have hT := h.thread_at hpc
  simp only [step, hpc] at hs
  cases hs
  obtain ⟨hpa, hn⟩ := hT.clr a rfl
  refine ⟨l, h.quiet (Chain.upd hn h.chain) ⟨fun _ _ => nofun, nofun, nofun, nofun, nofun, nofun⟩
    (by rw [hpc]; rfl) nofun (by rw [hpc]; exact ⟨nofun, nofun⟩) nofun (fun a' e => .inr ?_)⟩
  by_cases e' : a' = a
  · rw [e']; exact ⟨hpa, hn⟩
  · exact absurd (upd_other _ _ _ _ e') e

theorem sinvl_step_pushCas {n : Nat} {tv : Option Nat}
    (h : SInvL s l) (hpc : s.pc t = .pushCas n tv) (hs : step s t = some (s', ev)) :
    ∃ l', SInvL s' l' ∧ StepEff s t s' l l' := by
  have hT := h.thread_at hpc
  simp only [step, hpc] at hs
  split at hs
  next heq =>
    cases hs
    have hn : n ∉ l := fun hm => hT.priv n hm rfl
    have hnn : s.next n = s.top := (hT.linked n tv rfl).trans heq.symm
    have hpt : ({ s with top := some n, pc := upd s.pc t (.done [1]) } : St).pc t = .done [1] := upd_same _ _ _
    have hP : ∀ a, Pub s a → Pub { s with top := some n, pc := upd s.pc t (.done [1]) } a :=
      pub_mono (fun u hu => upd_other _ _ _ _ hu) (Nat.le_refl _) (fun a e => by rw [hpt] at e; cases e)
    have hl : ∀ a, a ∈ n :: l → a ∈ l ∨ pushNode (s.pc t) = some a := fun a ha =>
      (List.mem_cons.1 ha).elim (fun e => .inr (by rw [hpc, e]; rfl)) .inl
    refine ⟨n :: l, h.frame (t := t) (fun u hu => upd_other _ _ _ _ hu) ⟨rfl, hnn ▸ h.chain⟩
      (List.nodup_cons.2 ⟨hn, h.nodup⟩)
      (fun a ha => (List.mem_cons.1 ha).elim (fun e => e ▸ hT.fresh n rfl) (fun e => (h.pub a e).1)) ?_
      (fun u n' _ e => by rw [hpt] at e; cases e) (Nat.le_refl _) hP hl (fun a e => absurd rfl e),
      ⟨fun u hu => upd_other _ _ _ _ hu, rfl, rfl, fun _ r e => ?_, fun e => ?_, fun r e => ?_, fun e => ?_,
        ⟨by rw [hpc]; nofun, by rw [hpt]; nofun⟩, hl, hP⟩⟩
    · rw [hpt]; exact ⟨fun _ _ => nofun, nofun, nofun, nofun, nofun, nofun⟩
    · rw [hpt] at e; cases e
      exact ⟨⟨"push", [s.val n]⟩, by rw [hpc]; rfl, lifo_push _ _⟩
    · rw [hpt, hpc] at e; rcases e with e | e
      · exact absurd rfl e
      · cases e
    · rw [hpc] at e; cases e
    · rw [hpt] at e; cases e
  next hne =>
    cases hs
    exact ⟨l, h.quiet h.chain { hT with linked := nofun } (by rw [hpc]; rfl) (fun _ => by rw [hpc]; rfl)
      (by rw [hpc]; exact ⟨nofun, nofun⟩) (fun a e => by rw [hpc]; exact e) (fun a e => absurd rfl e)⟩

theorem sinvl_step_popLd2 {p : Option Nat}
    (h : SInvL s l) (hpc : s.pc t = .popLd2 p) (hs : step s t = some (s', ev)) :
    ∃ l', SInvL s' l' ∧ StepEff s t s' l l' := by
  have hT := h.thread_at hpc
  simp only [step, hpc] at hs
  split at hs
  next heq =>
    split at hs
    next =>
      cases hs
      have hl0 : l = [] := by
        have hch := h.chain
        cases l with
        | nil => rfl
        | cons b l0 => exact nomatch hch.1.symm.trans heq
      have hpt : ({ s with pc := upd s.pc t (.done [0]) } : St).pc t = .done [0] := upd_same _ _ _
      have hP : ∀ a, Pub s a → Pub { s with pc := upd s.pc t (.done [0]) } a :=
        pub_mono (fun u hu => upd_other _ _ _ _ hu) (Nat.le_refl _) (fun a e => by rw [hpt] at e; cases e)
      refine ⟨l, h.frame (t := t) (fun u hu => upd_other _ _ _ _ hu) h.chain h.nodup (fun a ha => (h.pub a ha).1) ?_
        (fun u n' _ e => by rw [hpt] at e; cases e) (Nat.le_refl _) hP (fun a ha => .inl ha) (fun a e => absurd rfl e),
        ⟨fun u hu => upd_other _ _ _ _ hu, rfl, rfl, fun _ r e => ?_, fun _ => rfl, fun r e => ?_, fun e => ?_,
          ⟨by rw [hpc]; nofun, by rw [hpt]; nofun⟩, fun a ha => .inl ha, hP⟩⟩
      · rw [hpt]; exact ⟨fun _ _ => nofun, nofun, nofun, nofun, nofun, nofun⟩
      · rw [hpt] at e; cases e
        exact ⟨⟨"pop", []⟩, by rw [hpc]; rfl, by rw [hl0]; exact lifo_pop_none⟩
      · rw [hpc] at e; cases e
      · rw [hpt] at e; cases e
    next a =>
      cases hs
      have ha : a ∈ l := by
        have hch := h.chain
        cases l with
        | nil => exact nomatch heq.symm.trans hch
        | cons b l0 => rw [Option.some.inj (heq.symm.trans hch.1)]; exact List.mem_cons_self
      exact ⟨l, h.quiet h.chain { hT with nxt := fun a' e => by cases e; exact h.pub a ha } (by rw [hpc]; rfl)
        (fun _ => by rw [hpc]; rfl) (by rw [hpc]; exact ⟨nofun, nofun⟩) nofun (fun a e => absurd rfl e)⟩
  next hne =>
    cases hs
    exact ⟨l, h.quiet h.chain { hT with } (by rw [hpc]; rfl) (fun _ => by rw [hpc]; rfl)
      (by rw [hpc]; exact ⟨nofun, nofun⟩) nofun (fun a e => absurd rfl e)⟩

theorem sinvl_step_popCas {a : Nat} {nx : Option Nat}
    (h : SInvL s l) (hpc : s.pc t = .popCas a nx) (hs : step s t = some (s', ev)) :
    ∃ l', SInvL s' l' ∧ StepEff s t s' l l' := by
  have hT := h.thread_at hpc
  simp only [step, hpc] at hs
  split at hs
  next heq =>
    cases hs
    obtain ⟨hpa, hnxa⟩ := hT.casx a nx rfl
    have hch := h.chain
    have hnd := h.nodup
    cases l with
    | nil => exact nomatch heq.symm.trans hch
    | cons b l0 =>
      obtain rfl : a = b := Option.some.inj (heq.symm.trans hch.1)
      rw [List.nodup_cons] at hnd
      have hpt : ({ s with top := nx, pc := upd s.pc t (.popClr a [1, s.val a]) } : St).pc t
          = .popClr a [1, s.val a] := upd_same _ _ _
      have hP : ∀ x, Pub s x → Pub { s with top := nx, pc := upd s.pc t (.popClr a [1, s.val a]) } x :=
        pub_mono (fun u hu => upd_other _ _ _ _ hu) (Nat.le_refl _) (fun x e => by rw [hpt] at e; cases e)
      refine ⟨l0, h.frame (t := t) (fun u hu => upd_other _ _ _ _ hu) (hnxa List.mem_cons_self ▸ hch.2) hnd.2
        (fun x hx => (h.pub x (List.mem_cons_of_mem _ hx)).1) ?_
        (fun u n' _ e => by rw [hpt] at e; cases e) (Nat.le_refl _) hP (fun x hx => .inl (List.mem_cons_of_mem _ hx))
        (fun x e => absurd rfl e),
        ⟨fun u hu => upd_other _ _ _ _ hu, rfl, rfl, fun _ r e => ?_, fun e => ?_, fun r e => ?_, fun e => ?_,
          ⟨by rw [hpc]; nofun, by rw [hpt]; nofun⟩, fun x hx => .inl (List.mem_cons_of_mem _ hx), hP⟩⟩
      · rw [hpt]
        exact ⟨fun _ _ => nofun, nofun, nofun, nofun, nofun, fun x e => by cases e; exact ⟨hP a hpa, hnd.1⟩⟩
      · rw [hpt] at e; cases e
        exact ⟨⟨"pop", []⟩, by rw [hpc]; rfl, lifo_pop_some _ _⟩
      · rw [hpt, hpc] at e; rcases e with e | e
        · exact absurd rfl e
        · cases e
      · rw [hpc] at e; cases e
      · rw [hpt] at e; cases e
  next hne =>
    cases hs
    exact ⟨l, h.quiet h.chain { hT with casx := nofun } (by rw [hpc]; rfl) (fun _ => by rw [hpc]; rfl)
      (by rw [hpc]; exact ⟨nofun, nofun⟩) nofun (fun a e => absurd rfl e)⟩

theorem sinvl_step (h : SInvL s l) (hs : step s t = some (s', ev)) : ∃ l', SInvL s' l' ∧ StepEff s t s' l l' := by
  cases hpc : s.pc t with
  | idle => simp [step, hpc] at hs
  | done r => simp [step, hpc] at hs
  | pushLd n =>
    simp only [step, hpc] at hs
    cases hs
    exact ⟨l, h.quiet h.chain { h.thread_at hpc with } (by rw [hpc]; rfl) (fun _ => by rw [hpc]; rfl)
      (by rw [hpc]; exact ⟨nofun, nofun⟩) (fun a e => by rw [hpc]; exact e) (fun a e => absurd rfl e)⟩
  | pushSt n tv => exact sinvl_step_pushSt h hpc hs
  | pushCas n tv => exact sinvl_step_pushCas h hpc hs
  | popLd1 =>
    simp only [step, hpc] at hs
    cases hs
    exact ⟨l, h.quiet h.chain { h.thread_at hpc with } (by rw [hpc]; rfl) (fun _ => by rw [hpc]; rfl)
      (by rw [hpc]; exact ⟨nofun, nofun⟩) nofun (fun a e => absurd rfl e)⟩
  | popLd2 p => exact sinvl_step_popLd2 h hpc hs
  | popNext a =>
    simp only [step, hpc] at hs
    cases hs
    have hT := h.thread_at hpc
    exact ⟨l, h.quiet h.chain { hT with nxt := nofun, casx := fun a' v e => by cases e; exact ⟨hT.nxt a rfl, fun _ => rfl⟩ }
      (by rw [hpc]; rfl) (fun _ => by rw [hpc]; rfl) (by rw [hpc]; exact ⟨nofun, nofun⟩) nofun (fun a e => absurd rfl e)⟩
  | popCas a nx => exact sinvl_step_popCas h hpc hs
  | popClr a r => exact sinvl_step_popClr h hpc hs

end

/-! ### Preservation: invocation and return -/

structure InvokeEff (s : St) (t : Tid) (op : GOp) (s' : St) (l : List Nat) : Prop where
  frame : ∀ t2, t2 ≠ t → s'.pc t2 = s.pc t2
  ops : ∀ t2, t2 ≠ t → opOf s'.val (s.pc t2) = opOf s.val (s.pc t2)
  was : s.pc t = .idle
  now : opOf s'.val (s'.pc t) = some op ∧ postRet (s'.pc t) = none
  abs : l.map s'.val = l.map s.val
  pubmono : ∀ a, Pub s a → Pub s' a

section
variable {s s' : St} {t : Tid} {ev : Ev} {l : List Nat}

theorem sinvl_invoke {op : GOp}
    (h : SInvL s l) (hs : invoke s t op = some s') : SInvL s' l ∧ InvokeEff s t op s' l := by
  have hT := h.thread t
  obtain ⟨name, args⟩ := op
  unfold invoke at hs
  split at hs
  next v hpc hname hargs =>
    cases hs
    dsimp only at hname hargs; subst hname hargs
    rw [hpc] at hT
    have hpt : ({ s with val := upd s.val s.cnt v, cnt := s.cnt + 1, pc := upd s.pc t (.pushLd s.cnt) } : St).pc t
        = .pushLd s.cnt := upd_same _ _ _
    have hP : ∀ a, Pub s a →
        Pub { s with val := upd s.val s.cnt v, cnt := s.cnt + 1, pc := upd s.pc t (.pushLd s.cnt) } a :=
      pub_mono (fun u hu => upd_other _ _ _ _ hu) (Nat.le_succ _) (fun a e => by
        rw [hpt] at e; exact .inr (Nat.le_of_eq (Option.some.inj e)))
    have hfr : ∀ u n, pushNode (s.pc u) = some n → n ≠ s.cnt := fun u n e => Nat.ne_of_lt (h.fresh u n e)
    refine ⟨h.frame (t := t) (fun u hu => upd_other _ _ _ _ hu) h.chain h.nodup
      (fun a ha => Nat.lt_succ_of_lt (h.pub a ha).1) ?_ (fun u n hu e e' => ?_) (Nat.le_succ _) hP (fun a ha => .inl ha)
      (fun a e => absurd rfl e),
      ⟨fun u hu => upd_other _ _ _ _ hu, fun u hu => ?_, hpc, ?_, ?_, hP⟩⟩
    · rw [hpt]
      exact ⟨fun a ha e => Nat.lt_irrefl _ (Option.some.inj e ▸ (h.pub a ha).1), fun n e => Option.some.inj e ▸ Nat.lt_succ_self _,
        nofun, nofun, nofun, nofun⟩
    · rw [hpt] at e; exact hfr u n e' (Option.some.inj e).symm
    · cases hq : s.pc u <;> simp [opOf, upd]
      all_goals exact fun e => absurd e (hfr u _ (by simp [hq, pushNode]))
    · simp [upd, opOf, postRet]
    · apply List.map_congr_left
      intro a ha
      have := (h.pub a ha).1
      simp [upd]; omega
  next hpc hname hargs =>
    cases hs
    dsimp only at hname hargs; subst hname hargs
    rw [hpc] at hT
    have hpt : ({ s with pc := upd s.pc t .popLd1 } : St).pc t = .popLd1 := upd_same _ _ _
    have hP : ∀ a, Pub s a → Pub { s with pc := upd s.pc t .popLd1 } a :=
      pub_mono (fun u hu => upd_other _ _ _ _ hu) (Nat.le_refl _) (fun a e => by rw [hpt] at e; cases e)
    refine ⟨h.frame (t := t) (fun u hu => upd_other _ _ _ _ hu) h.chain h.nodup (fun a ha => (h.pub a ha).1) ?_
      (fun u n _ e => by rw [hpt] at e; cases e) (Nat.le_refl _) hP (fun a ha => .inl ha) (fun a e => absurd rfl e),
      ⟨fun u hu => upd_other _ _ _ _ hu, fun _ _ => rfl, hpc, by rw [hpt]; exact ⟨rfl, rfl⟩, rfl, hP⟩⟩
    rw [hpt]; exact ⟨fun _ _ => nofun, nofun, nofun, nofun, nofun, nofun⟩
  next => cases hs

theorem sinvl_result {r : GRet}
    (h : SInvL s l) (hs : result s t = some (s', r)) :
    SInvL s' l ∧ s.pc t = .done r ∧ s'.pc t = .idle ∧ (∀ t2, t2 ≠ t → s'.pc t2 = s.pc t2) ∧ s'.val = s.val ∧
    (∀ a, Pub s a → Pub s' a) := by
  unfold result at hs
  split at hs
  next r' hpc =>
    cases hs
    have hpt : ({ s with pc := upd s.pc t .idle } : St).pc t = .idle := upd_same _ _ _
    have hP : ∀ a, Pub s a → Pub { s with pc := upd s.pc t .idle } a :=
      pub_mono (fun u hu => upd_other _ _ _ _ hu) (Nat.le_refl _) (fun a e => by rw [hpt] at e; cases e)
    refine ⟨h.frame (t := t) (fun u hu => upd_other _ _ _ _ hu) h.chain h.nodup (fun a ha => (h.pub a ha).1) ?_
      (fun u n _ e => by rw [hpt] at e; cases e) (Nat.le_refl _) hP (fun a ha => .inl ha) (fun a e => absurd rfl e),
      hpc, hpt, fun u hu => upd_other _ _ _ _ hu, rfl, hP⟩
    rw [hpt]; exact ⟨fun _ _ => nofun, nofun, nofun, nofun, nofun, nofun⟩
  next => cases hs

end

/-! ### Reachable states -/

theorem sinv_apply {s s' : St} {t : Tid} {a : Act} {o : Obs} (h : SInv s)
    (hap : model.apply s t a = some (s', o)) : SInv s' := by
  obtain ⟨l, hl⟩ := h
  rcases Model.apply_cases hap with ⟨op, -, hs1, -⟩ | ⟨e, -, hs1, -⟩ | ⟨r, -, hs1, -⟩
  · exact ⟨l, (sinvl_invoke hl hs1).1⟩
  · obtain ⟨l', hl', -⟩ := sinvl_step hl hs1
    exact ⟨l', hl'⟩
  · exact ⟨l, (sinvl_result hl hs1).1⟩

theorem sinv_reachable (s : St) (h : model.Reachable init s) : SInv s :=
  model.inv_reachable SInv init ⟨[], sinv_init⟩ (fun _ _ _ _ _ hi hap => sinv_apply hi hap) s h

/-- In every reachable state the chain from `top` is finite, duplicate-free, and made of published nodes;
    `absNodes` computes it. -/
theorem reachable_chain (s : St) (h : model.Reachable init s) :
    Chain s.next s.top (absNodes s) ∧ (absNodes s).Nodup ∧ ∀ a ∈ absNodes s, Pub s a := by
  obtain ⟨l, hl⟩ := sinv_reachable s h
  rw [hl.absNodes_eq]
  exact ⟨hl.chain, hl.nodup, hl.pub⟩

/-- Garbage-collected heap: a node that has left the stack (published, not in the chain) is never linked in again. -/
theorem never_relinked {s s' : St} {t : Tid} {a : Act} {o : Obs} (h : SInv s)
    (hap : model.apply s t a = some (s', o)) (x : Nat) (hx : Pub s x) (hout : x ∉ absNodes s) :
    Pub s' x ∧ x ∉ absNodes s' := by
  obtain ⟨l, hl⟩ := h
  rw [hl.absNodes_eq] at hout
  rcases Model.apply_cases hap with ⟨op, -, hs1, -⟩ | ⟨e, -, hs1, -⟩ | ⟨r, -, hs1, -⟩
  · obtain ⟨hl', he⟩ := sinvl_invoke hl hs1
    rw [hl'.absNodes_eq]
    exact ⟨he.pubmono x hx, hout⟩
  · obtain ⟨l', hl', he⟩ := sinvl_step hl hs1
    rw [hl'.absNodes_eq]
    refine ⟨he.pubmono x hx, fun hm => ?_⟩
    rcases he.sub x hm with h1 | h1
    · exact hout h1
    · exact hx.2 t h1
  · obtain ⟨hl', -, -, -, -, hp⟩ := sinvl_result hl hs1
    rw [hl'.absNodes_eq]
    exact ⟨hp x hx, hout⟩

/-- Refinement, on `absStack`: the step of `t` that fixes its result `r` (linearization point) is the `lifo`
    transition of `t`'s operation with result `r`; all other steps do not change the abstract stack. -/
theorem step_refines {s s' : St} {t : Tid} {ev : Ev} (h : SInv s) (hs : step s t = some (s', ev)) :
    (postRet (s.pc t) = none → ∀ r, postRet (s'.pc t) = some r →
      ∃ op, opOf s.val (s.pc t) = some op ∧ lifo.next (absStack s) op r = some (absStack s')) ∧
    ((postRet (s.pc t) ≠ none ∨ postRet (s'.pc t) = none) → absStack s' = absStack s) := by
  obtain ⟨l, hl⟩ := h
  obtain ⟨l', hl', he⟩ := sinvl_step hl hs
  rw [hl.absStack_eq, hl'.absStack_eq, he.val]
  refine ⟨he.lp, fun hc => by rw [he.nolp hc]⟩

/-- A pop decides to return "empty" only at a validating load of `top` that reads null, and at that instant the
    abstract stack is empty. -/
theorem pop_empty_step {s s' : St} {t : Tid} {ev : Ev} (h : SInv s) (hs : step s t = some (s', ev))
    (hpre : postRet (s.pc t) = none) (hpost : postRet (s'.pc t) = some [0]) :
    (∃ p, s.pc t = .popLd2 p) ∧ s.top = none ∧ absStack s = [] ∧ absStack s' = [] ∧ ev = evLd topLoc none := by
  obtain ⟨l, hl⟩ := h
  have hch := hl.chain
  unfold step at hs
  split at hs
  all_goals (try split at hs)
  all_goals (try split at hs)
  all_goals simp at hs
  all_goals obtain ⟨rfl, rfl⟩ := hs
  all_goals simp_all [upd, postRet]
  next heq =>
    have hl0 : l = [] := by cases l <;> simp_all [Chain]
    subst hl0
    simp [absStack, absNodes, walk_none, heq]

end CdsVerif.Algo.Treiber
