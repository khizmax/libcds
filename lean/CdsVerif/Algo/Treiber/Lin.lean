/-
  Linearizability of the Treiber stack model (property C09).

  Linearization points: the successful CAS of `push`, the successful CAS of a non-empty `pop`, and the validating
  load of `top` that reads null for an empty `pop`.  `Inv.lean` shows that each of these steps is exactly the `lifo`
  transition of the operation on the abstract stack and that every other step leaves the abstract stack unchanged
  (`step_refines`); the ghost-log construction of `Base/LPLin.lean` turns this into linearizability of every run,
  with completion of pending operations.
-/
import CdsVerif.Algo.Treiber.Inv
import CdsVerif.Base.LPLin
namespace CdsVerif.Algo.Treiber
open CdsVerif.Machine CdsVerif.Spec CdsVerif.Lin

/-! ### The history of a run -/

/-- Per thread: the operation in progress and the index of its `call` observation. -/
abbrev Pend := Tid → Option (GOp × Nat)

/-- Scan the observations (the head has index `i`): every `ret` closes the operation its thread has in progress. -/
def histAux : Nat → Pend → List (Tid × Obs) → List (OpRec GOp GRet)
  | _, _, [] => []
  | i, pend, (t, .call op) :: os => histAux (i + 1) (upd pend t (some (op, i))) os
  | i, pend, (_, .ev _) :: os => histAux (i + 1) pend os
  | i, pend, (t, .ret r) :: os =>
    match pend t with
    | some (op, k) => ⟨t, op, r, k, i⟩ :: histAux (i + 1) (upd pend t none) os
    | none => histAux (i + 1) pend os

/-- The operations still in progress after the observations. -/
def pendAux : Nat → Pend → List (Tid × Obs) → Pend
  | _, pend, [] => pend
  | i, pend, (t, .call op) :: os => pendAux (i + 1) (upd pend t (some (op, i))) os
  | i, pend, (_, .ev _) :: os => pendAux (i + 1) pend os
  | i, pend, (t, .ret _) :: os =>
    match pend t with
    | some _ => pendAux (i + 1) (upd pend t none) os
    | none => pendAux (i + 1) pend os

/-- The complete history of a run: one record per operation that has both its `call` and its `ret` observation,
    `inv` / `res` = the indices of these observations in `os`.  Operations pending at the end are dropped. -/
def historyOf (os : List (Tid × Obs)) : List (OpRec GOp GRet) := histAux 0 (fun _ => none) os

/-- The operations pending at the end of a run: thread ↦ (operation, index of its `call`). -/
def pendingOf (os : List (Tid × Obs)) : Pend := pendAux 0 (fun _ => none) os

theorem historyOf_eq (os : List (Tid × Obs)) : historyOf os = SeqHistory.historyOf os := by
  delta historyOf SeqHistory.historyOf histAux SeqHistory.histAux
  rfl

theorem pendingOf_eq (os : List (Tid × Obs)) : pendingOf os = SeqHistory.pendingOf os := by
  delta pendingOf SeqHistory.pendingOf pendAux SeqHistory.pendAux
  rfl

/-- Every record of `historyOf os` is an operation of `os`: `inv` is the index of its call, `res` the index of its
    return, and the call precedes the return. -/
theorem historyOf_sound (os : List (Tid × Obs)) (r : OpRec GOp GRet) (h : r ∈ historyOf os) :
    os[r.inv]? = some (r.tid, .call r.op) ∧ os[r.res]? = some (r.tid, .ret r.ret) ∧ r.inv < r.res :=
  SeqHistory.historyOf_sound os r (historyOf_eq os ▸ h)

/-- A pending operation of `pendingOf os` is an operation of `os`: its `call` observation is at the recorded index. -/
theorem pendingOf_sound (os : List (Tid × Obs)) (t : Tid) (op : GOp) (k : Nat)
    (h : pendingOf os t = some (op, k)) : os[k]? = some (t, .call op) :=
  SeqHistory.pendingOf_sound os t op k (pendingOf_eq os ▸ h)

/-! ### The machine as an instance of `Base/LPLin.lean` -/

theorem opOf_none_of_post {val : Nat → Int} {pc : PC} {r : GRet} (h : postRet pc = some r) : opOf val pc = none := by
  cases pc <;> simp_all [postRet, opOf]

/-- Specification state = abstract stack; no linearization is tentative (`lpRet` and `postRet` coincide). -/
def sys : LPLin.Sys St (List Int) where
  spec := lifo
  model := model
  init := init
  Inv := SInv
  Abs := fun a s => a = absStack s
  lpRet := fun s t => postRet (s.pc t)
  postRet := fun s t => postRet (s.pc t)
  opOf := fun s t => opOf s.val (s.pc t)
  inert := fun _ _ => false

theorem sys_ok : sys.OK where
  inert_ok := by intro op r h; cases h
  inv_init := ⟨[], sinv_init⟩
  abs_init := by simp [sys, lifo, detSpec, absStack, absNodes, init, walk]
  lp_init := by intro t; simp [sys, init, postRet]
  op_init := by intro t; simp [sys, init, opOf]
  post_op := by intro s t r _ h; exact opOf_none_of_post h
  lp_post := by intro s t r _ h; exact .inl h
  invoke := by
    intro s t op s' ⟨l, hl⟩ hs
    obtain ⟨hl', he⟩ := sinvl_invoke hl hs
    refine ⟨⟨l, hl'⟩, ⟨?_, ?_⟩, ?_, he.now.1, he.now.2, ?_⟩
    · intro t2 ht; simp only [sys]; rw [he.frame t2 ht]
    · intro t2 ht; simp only [sys]; rw [he.frame t2 ht, he.ops t2 ht]
    · simp [sys, he.was, postRet]
    · intro a ha; simp only [sys] at ha ⊢; rw [ha, hl.absStack_eq, hl'.absStack_eq, he.abs]
  step := by
    intro s t s' ev ⟨l, hl⟩ hs
    obtain ⟨l', hl', he⟩ := sinvl_step hl hs
    obtain ⟨hlp, hnolp⟩ := step_refines ⟨l, hl⟩ hs
    refine ⟨⟨l', hl'⟩, ⟨?_, ?_⟩, ?_, ?_, fun r hr => .inl (he.keep r hr), he.op⟩
    · intro t2 ht; simp only [sys]; rw [he.frame t2 ht]
    · intro t2 ht; simp only [sys]; rw [he.frame t2 ht, he.val]
    · intro h1 r h2
      obtain ⟨op, hop, hnext⟩ := hlp h1 r h2
      exact ⟨op, hop, fun a ha => ⟨_, ha ▸ hnext, rfl⟩⟩
    · intro hc a ha; exact ha.trans (hnolp hc).symm
  result := by
    intro s t s' r ⟨l, hl⟩ hs
    obtain ⟨hl', hdone, hidl, hframe, hval, -⟩ := sinvl_result hl hs
    refine ⟨⟨l, hl'⟩, ⟨?_, ?_⟩, ?_, ?_, ?_, ?_⟩
    · intro t2 ht; simp only [sys]; rw [hframe t2 ht]
    · intro t2 ht; simp only [sys]; rw [hframe t2 ht, hval]
    · simp [sys, hdone, postRet]
    · simp [sys, hidl, postRet]
    · simp [sys, hidl, opOf]
    · intro a ha; simp only [sys] at ha ⊢; rw [ha, hl.absStack_eq, hl'.absStack_eq, hval]

/-! ### Sequential facts about `lifo` -/

theorem lifo_next_mem {st st' : List Int} {op : GOp} {r : GRet} {x : Int}
    (h : lifo.next st op r = some st') (hx : x ∈ st') : x ∈ st ∨ op = ⟨"push", [x]⟩ := by
  obtain ⟨name, args⟩ := op
  simp only [lifo, detSpec] at h
  cases hs : lifoStep st ⟨name, args⟩ with
  | none => simp [hs] at h
  | some p =>
    obtain ⟨st1, r1⟩ := p
    simp [hs] at h
    obtain ⟨-, rfl⟩ := h
    unfold lifoStep at hs
    split at hs
    next v hn ha =>
      simp at hs hn ha; subst hn ha
      rw [← hs.1] at hx
      rcases List.mem_cons.mp hx with e | e
      · right; rw [e]
      · left; exact e
    next hn ha =>
      split at hs
      · simp at hs; rw [hs.1] at hx; simp at hx
      · simp at hs; rw [← hs.1] at hx; left; exact List.mem_cons_of_mem _ hx
    next => simp at hs

theorem lifo_pop_val {st st' : List Int} {v : Int} (h : lifo.next st ⟨"pop", []⟩ [1, v] = some st') : v ∈ st := by
  simp only [lifo, detSpec, lifoStep] at h
  cases st with
  | nil => simp at h
  | cons x xs => simp at h; simp [h.1]

theorem legal_pop_pushed (r : OpRec GOp GRet) (l2 : List (OpRec GOp GRet)) (v : Int)
    (hop : r.op = ⟨"pop", []⟩) (hret : r.ret = [1, v]) :
    ∀ (l1 : List (OpRec GOp GRet)) (st : List Int), Legal lifo st (l1 ++ r :: l2) →
      v ∈ st ∨ ∃ p ∈ l1, p.op = ⟨"push", [v]⟩ := by
  intro l1
  induction l1 with
  | nil =>
    intro st h
    obtain ⟨st1, h1, -⟩ := h
    rw [hop, hret] at h1
    exact Or.inl (lifo_pop_val h1)
  | cons o l1 ih =>
    intro st h
    obtain ⟨st1, h1, h2⟩ := h
    rcases ih st1 h2 with h3 | ⟨p, hp, hpp⟩
    · rcases lifo_next_mem h1 h3 with h4 | h4
      · exact Or.inl h4
      · exact Or.inr ⟨o, by simp, h4⟩
    · exact Or.inr ⟨p, List.mem_cons_of_mem _ hp, hpp⟩

/-! ### Main theorems -/

/-- **Linearizability of the Treiber stack** (Herlihy–Wing, with completion of pending operations).
    For every run of the model, the history of the completed operations, extended by response records `extra` for
    SOME of the operations still pending at the end (exactly those that have passed their linearization point; they
    get the result fixed there and the response time "end of the run"; at most one per thread), is linearizable to
    the sequential LIFO stack.  All other pending operations are dropped. -/
theorem treiber_linearizable (sched : List (Tid × Act)) (s : St) (os : List (Tid × Obs))
    (h : model.run init sched = some (s, os)) :
    ∃ extra : List (OpRec GOp GRet),
      (∀ e ∈ extra, pendingOf os e.tid = some (e.op, e.inv) ∧ e.res = os.length ∧
          postRet (s.pc e.tid) = some e.ret) ∧
      extra.Pairwise (fun a b => a.tid ≠ b.tid) ∧
      Linearizable lifo (historyOf os ++ extra) := by
  rw [historyOf_eq, pendingOf_eq]
  exact LPLin.linearizable sys_ok sched s os h

/-- If no thread is between its linearization point and its return at the end of the run (threads may be idle or
    in the middle of an operation that has not taken effect), the history of the completed operations is
    linearizable as it is. -/
theorem treiber_linearizable_no_effect_pending (sched : List (Tid × Act)) (s : St) (os : List (Tid × Obs))
    (h : model.run init sched = some (s, os)) (hq : ∀ t, postRet (s.pc t) = none) :
    Linearizable lifo (historyOf os) :=
  historyOf_eq os ▸ LPLin.linearizable_no_effect_pending sys_ok sched s os h hq

/-- Runs in which every invoked operation has returned. -/
theorem treiber_linearizable_complete_runs (sched : List (Tid × Act)) (s : St) (os : List (Tid × Obs))
    (h : model.run init sched = some (s, os)) (hq : ∀ t, s.pc t = .idle) :
    Linearizable lifo (historyOf os) :=
  treiber_linearizable_no_effect_pending sched s os h (fun t => by simp [hq t, postRet])

/-- No invention: a value returned by a completed `pop` was the argument of a `push` invoked before that `pop`
    returned (the `push` itself may still be pending). -/
theorem treiber_no_invention (sched : List (Tid × Act)) (s : St) (os : List (Tid × Obs))
    (h : model.run init sched = some (s, os)) (r : OpRec GOp GRet) (hr : r ∈ historyOf os)
    (hop : r.op = ⟨"pop", []⟩) (v : Int) (hret : r.ret = [1, v]) :
    ∃ i t', i < r.res ∧ os[i]? = some (t', .call ⟨"push", [v]⟩) := by
  obtain ⟨extra, hex, -, perm, hperm, hrt, hlegal⟩ := treiber_linearizable sched s os h
  have hrp : r ∈ perm := hperm.mem_iff.mpr (List.mem_append_left _ hr)
  obtain ⟨l1, l2, rfl⟩ := List.append_of_mem hrp
  rcases legal_pop_pushed r l2 v hop hret l1 [] hlegal with h0 | ⟨p, hp1, hpop⟩
  · simp at h0
  · have hle : ¬ r.res < p.inv := (List.pairwise_append.mp hrt).2.2 p hp1 r (by simp)
    have hpcall : os[p.inv]? = some (p.tid, .call p.op) := by
      have hp : p ∈ historyOf os ++ extra := hperm.mem_iff.mp (List.mem_append_left _ hp1)
      rcases List.mem_append.mp hp with hp | hp
      · exact (historyOf_sound os p hp).1
      · exact pendingOf_sound os p.tid p.op p.inv (hex p hp).1
    have hrret := (historyOf_sound os r hr).2.1
    have hne : p.inv ≠ r.res := by
      intro e; rw [e, hrret] at hpcall; simp at hpcall
    exact ⟨p.inv, p.tid, by omega, by rw [hpcall, hpop]⟩

/-- Every history record of a run is well formed (`inv < res`): the executable checker `linCheck` decides
    linearizability of such histories (`Lin.linCheck_iff`). -/
theorem historyOf_wf (os : List (Tid × Obs)) : ∀ r ∈ historyOf os, r.inv ≤ r.res :=
  fun r hr => Nat.le_of_lt (historyOf_sound os r hr).2.2

/-- An empty `pop`: in a reachable state, the step by which a thread fixes the result `[0]` is a validating load of
    `top` in `pop` that reads null; the abstract stack is empty before and after that step. -/
theorem treiber_pop_empty_means_empty (s s' : St) (t : Tid) (ev : Ev) (hreach : model.Reachable init s)
    (hs : step s t = some (s', ev)) (hpre : postRet (s.pc t) = none) (hpost : postRet (s'.pc t) = some [0]) :
    (∃ p, s.pc t = .popLd2 p) ∧ s.top = none ∧ absStack s = [] ∧ absStack s' = [] ∧ ev = ⟨"ld", "top", "null", ""⟩ :=
  pop_empty_step (sinv_reachable s hreach) hs hpre hpost

end CdsVerif.Algo.Treiber
