/-
  Inductive invariant of the pool machine and its consequences (C24).
-/
import CdsVerif.Algo.Pool.Model
namespace CdsVerif.Algo.Pool
open CdsVerif.Machine CdsVerif.Spec

/-- Every object is in at most one place: in the free queue, with one holder, or inside one `deallocate`. -/
structure PInv (s : St) : Prop where
  nodup : s.q.Nodup
  inq : ∀ o, o ∈ s.q → 1 ≤ o ∧ o < s.fresh ∧ s.freed o = false ∧ (∀ t, s.holds t o = false) ∧ (∀ t, s.pc t ≠ .freeEnq o)
  one : ∀ t1 t2 o, s.holds t1 o = true → s.holds t2 o = true → t1 = t2
  held : ∀ t o, s.holds t o = true → 1 ≤ o ∧ o < s.fresh ∧ s.freed o = false ∧ (∀ t', s.pc t' ≠ .freeEnq o)
  enq1 : ∀ t1 t2 o, s.pc t1 = .freeEnq o → s.pc t2 = .freeEnq o → t1 = t2
  enq : ∀ t o, s.pc t = .freeEnq o → 1 ≤ o ∧ o < s.fresh ∧ s.freed o = false
  capfresh : s.cap < s.fresh
  poolKept : s.kind ≠ .lazy → ∀ o, s.freed o = true → s.cap < o
  freedOld : ∀ o, s.freed o = true → o < s.fresh

theorem pinv_init (kind : Kind) (cap : Nat) : PInv (init kind cap) := by
  constructor
  · simp only [init]; split
    · exact List.nodup_nil
    · exact List.nodup_range'
  · intro o ho
    simp only [init] at ho ⊢
    split at ho
    · simp at ho
    · rw [List.mem_range'_1] at ho
      refine ⟨by omega, by omega, ?_, ?_, ?_⟩ <;> simp
  · intro t1 t2 o h; simp [init] at h
  · intro t o h; simp [init] at h
  · intro t1 t2 o h; simp [init] at h
  · intro t o h; simp [init] at h
  · simp [init]
  · intro _ o h; simp [init] at h
  · intro o h; simp [init] at h

/-! ### The invariant by memory and by thread

`PInv s` says where every object is.  `MInv` is what it says about the queue, the heap and the holders, `TInv` what it
says about one thread: the object it is giving back is in no other place.  A step moves ONE object from one place to
another; the clauses of another thread survive because its object is a different one (`PInv.frame`). -/

/-- The object the thread is about to give back. -/
def enqOf : PC → Option Nat
  | .freeEnq p => some p
  | _ => none

/-- What `PInv` says about the free queue, the heap and the holders. -/
structure MInv (kind : Kind) (cap : Nat) (q : List Nat) (fresh : Nat) (freed : Nat → Bool) (holds : Tid → Nat → Bool) :
    Prop where
  nodup : q.Nodup
  inq : ∀ o, o ∈ q → 1 ≤ o ∧ o < fresh ∧ freed o = false ∧ ∀ t, holds t o = false
  one : ∀ t1 t2 o, holds t1 o = true → holds t2 o = true → t1 = t2
  held : ∀ t o, holds t o = true → 1 ≤ o ∧ o < fresh ∧ freed o = false
  capfresh : cap < fresh
  poolKept : kind ≠ .lazy → ∀ o, freed o = true → cap < o
  freedOld : ∀ o, freed o = true → o < fresh

/-- What `PInv` says about one thread at program counter `pc`: the object it is giving back is nowhere else. -/
structure TInv (q : List Nat) (fresh : Nat) (freed : Nat → Bool) (holds : Tid → Nat → Bool) (pc : PC) : Prop where
  nq : ∀ o, o ∈ q → enqOf pc ≠ some o
  nh : ∀ u o, holds u o = true → enqOf pc ≠ some o
  enq : ∀ o, enqOf pc = some o → 1 ≤ o ∧ o < fresh ∧ freed o = false

theorem enqOf_iff {pc : PC} {o : Nat} : enqOf pc = some o ↔ pc = .freeEnq o := by
  cases pc <;> simp [enqOf]

section
variable {s : St}

theorem PInv.mem (h : PInv s) : MInv s.kind s.cap s.q s.fresh s.freed s.holds :=
  ⟨h.nodup, fun o ho => have := h.inq o ho; ⟨this.1, this.2.1, this.2.2.1, this.2.2.2.1⟩, h.one,
   fun t o ho => have := h.held t o ho; ⟨this.1, this.2.1, this.2.2.1⟩, h.capfresh, h.poolKept, h.freedOld⟩

theorem PInv.thread (h : PInv s) (t : Tid) : TInv s.q s.fresh s.freed s.holds (s.pc t) :=
  ⟨fun o ho e => (h.inq o ho).2.2.2.2 t (enqOf_iff.1 e), fun u o ho e => (h.held u o ho).2.2.2 t (enqOf_iff.1 e),
   fun o e => h.enq t o (enqOf_iff.1 e)⟩

theorem PInv.thread_at (h : PInv s) {t : Tid} {pc : PC} (hpc : s.pc t = pc) : TInv s.q s.fresh s.freed s.holds pc :=
  hpc ▸ h.thread t

theorem PInv.of_parts (hM : MInv s.kind s.cap s.q s.fresh s.freed s.holds)
    (hT : ∀ t, TInv s.q s.fresh s.freed s.holds (s.pc t))
    (hE : ∀ t u o, enqOf (s.pc t) = some o → enqOf (s.pc u) = some o → t = u) : PInv s where
  nodup := hM.nodup
  inq := fun o ho => have := hM.inq o ho
    ⟨this.1, this.2.1, this.2.2.1, this.2.2.2, fun t e => (hT t).nq o ho (enqOf_iff.2 e)⟩
  one := hM.one
  held := fun t o ho => have := hM.held t o ho
    ⟨this.1, this.2.1, this.2.2, fun t' e => (hT t').nh t o ho (enqOf_iff.2 e)⟩
  enq1 := fun t u o e1 e2 => hE t u o (enqOf_iff.2 e1) (enqOf_iff.2 e2)
  enq := fun t o e => (hT t).enq o (enqOf_iff.2 e)
  capfresh := hM.capfresh
  poolKept := hM.poolKept
  freedOld := hM.freedOld

/-- The rule for one step of thread `t`. -/
theorem PInv.frame {s' : St} {t : Tid} (h : PInv s) (hpc : ∀ u, u ≠ t → s'.pc u = s.pc u)
    (hM : MInv s'.kind s'.cap s'.q s'.fresh s'.freed s'.holds)
    (hT : TInv s'.q s'.fresh s'.freed s'.holds (s'.pc t))
    (hO : ∀ u, u ≠ t → TInv s'.q s'.fresh s'.freed s'.holds (s.pc u))
    (hE : ∀ u o, u ≠ t → enqOf (s'.pc t) = some o → enqOf (s.pc u) ≠ some o) : PInv s' := by
  refine PInv.of_parts hM (fun u => ?_) (fun u v o e1 e2 => ?_)
  · by_cases hu : u = t
    · rw [hu]; exact hT
    · rw [hpc u hu]; exact hO u hu
  · by_cases hu : u = t
    · by_cases hv : v = t
      · rw [hu, hv]
      · rw [hu] at e1; rw [hpc v hv] at e2; exact absurd e2 (hE v o hv e1)
    · by_cases hv : v = t
      · rw [hv] at e2; rw [hpc u hu] at e1; exact absurd e1 (hE u o hu e2)
      · rw [hpc u hu] at e1; rw [hpc v hv] at e2
        exact h.enq1 u v o (enqOf_iff.1 e1) (enqOf_iff.1 e2)

/-- A step that only moves the program counter of `t` to one that gives nothing back. -/
theorem PInv.move {t : Tid} {q : PC} (h : PInv s) (hq : enqOf q = none) : PInv { s with pc := upd s.pc t q } := by
  have hpt : ({ s with pc := upd s.pc t q } : St).pc t = q := upd_same _ _ _
  refine h.frame (t := t) (fun u hu => upd_other _ _ _ _ hu) h.mem ?_ (fun u _ => h.thread u) (fun u o _ e => ?_)
  · rw [hpt]
    exact ⟨fun o _ e => (nomatch hq.symm.trans e), fun u o _ e => (nomatch hq.symm.trans e),
      fun o e => (nomatch hq.symm.trans e)⟩
  · rw [hpt, hq] at e; cases e

end

/-- `free` of a heap object that goes back to the allocator. -/
theorem PInv.delete {s : St} {t : Tid} {p : Nat} (h : PInv s) (hpc : s.pc t = .freeEnq p)
    (hk : s.kind ≠ .lazy → s.cap < p) :
    PInv { s with freed := upd s.freed p true, pc := upd s.pc t (.done [2, p]) } := by
  have hT := h.thread_at hpc
  have hM := h.mem
  obtain ⟨hp1, hp2, hp3⟩ := hT.enq p rfl
  have hpt : ({ s with freed := upd s.freed p true, pc := upd s.pc t (.done [2, p]) } : St).pc t = .done [2, p] :=
    upd_same _ _ _
  have hne : ∀ x, upd s.freed p true x = true → x = p ∨ s.freed x = true := fun x e => by
    by_cases hx : x = p
    · exact .inl hx
    · rw [upd_other _ _ _ _ hx] at e; exact .inr e
  refine h.frame (t := t) (fun u hu => upd_other _ _ _ _ hu)
    { hM with
      inq := fun x hx => by
        obtain ⟨a, b, c, d⟩ := hM.inq x hx
        have hxp : x ≠ p := fun e => hT.nq x hx (e ▸ rfl)
        exact ⟨a, b, (upd_other _ _ _ _ hxp).trans c, d⟩
      held := fun u x e => by
        obtain ⟨a, b, c⟩ := hM.held u x e
        have hxp : x ≠ p := fun e' => hT.nh u x e (e' ▸ rfl)
        exact ⟨a, b, (upd_other _ _ _ _ hxp).trans c⟩
      poolKept := fun hl x e => (hne x e).elim (fun e' => e' ▸ hk hl) (hM.poolKept hl x)
      freedOld := fun x e => (hne x e).elim (fun e' => e' ▸ hp2) (hM.freedOld x) }
    ?_ (fun u hu => ?_) (fun u x _ e => ?_)
  · rw [hpt]; exact ⟨fun _ _ => nofun, fun _ _ _ => nofun, nofun⟩
  · have hU := h.thread u
    exact { hU with
      enq := fun x e => by
        obtain ⟨a, b, c⟩ := hU.enq x e
        have hxp : x ≠ p := fun e' => hu (h.enq1 u t p (enqOf_iff.1 (e' ▸ e)) hpc)
        exact ⟨a, b, (upd_other _ _ _ _ hxp).trans c⟩ }
  · rw [hpt] at e; cases e

/-! ### Preservation -/


theorem pinv_invoke (s s' : St) (t : Tid) (op : GOp) (h : PInv s) (hi : invoke s t op = some s') : PInv s' := by
  unfold invoke at hi
  split at hi
  · cases hi; exact h.move rfl
  next p hpc _ _ =>
    split at hi
    next hc =>
      cases hi
      obtain ⟨-, hc⟩ := hc
      generalize p.toNat = o at *
      have hM := h.mem
      have hpt : ({ s with holds := upd2 s.holds t o false, pc := upd s.pc t (.freeEnq o) } : St).pc t = .freeEnq o :=
        upd_same _ _ _
      have hle : ∀ u x, upd2 s.holds t o false u x = true → s.holds u x = true ∧ ¬ (u = t ∧ x = o) := fun u x e => by
        simp only [upd2] at e; split at e
        · cases e
        next hn => exact ⟨e, hn⟩
      obtain ⟨ho1, ho2, ho3, ho4⟩ := h.held t o hc
      refine h.frame (t := t) (fun u hu => upd_other _ _ _ _ hu)
        { hM with
          inq := fun x hx => by
            obtain ⟨a, b, c, d⟩ := hM.inq x hx
            exact ⟨a, b, c, fun u => by
              show upd2 s.holds t o false u x = false
              cases hu : upd2 s.holds t o false u x with
              | false => rfl
              | true => exact absurd (hle u x hu).1 (by rw [d u]; nofun)⟩
          one := fun t1 t2 x e1 e2 => h.one t1 t2 x (hle t1 x e1).1 (hle t2 x e2).1
          held := fun u x e => hM.held u x (hle u x e).1 }
        ?_ (fun u hu => ?_) (fun u x hu e => ?_)
      · rw [hpt]
        exact ⟨fun x hx e => by
            have : o = x := Option.some.inj e
            subst this
            exact absurd hc (by rw [(h.inq o hx).2.2.2.1 t]; nofun),
          fun u x e e' => by
            have : o = x := Option.some.inj e'
            subst this
            obtain ⟨e1, e2⟩ := hle u o e
            exact e2 ⟨h.one u t o e1 hc, rfl⟩,
          fun x e => by
            have : o = x := Option.some.inj e
            subst this
            exact ⟨ho1, ho2, ho3⟩⟩
      · have hU := h.thread u
        exact { hU with nh := fun v x e => hU.nh v x (hle v x e).1 }
      · rw [hpt] at e
        have : o = x := Option.some.inj e
        subst this
        exact fun e' => ho4 u (enqOf_iff.1 e')
    · cases hi
  · cases hi

theorem pinv_result (s s' : St) (t : Tid) (r : GRet) (h : PInv s) (hr : result s t = some (s', r)) : PInv s' := by
  unfold result at hr
  split at hr
  · cases hr; exact h.move rfl
  · cases hr

theorem pinv_step (s s' : St) (t : Tid) (e : Ev) (h : PInv s) (hs : step s t = some (s', e)) : PInv s' := by
  have hM := h.mem
  unfold step at hs
  split at hs
  next hpc =>
    split at hs
    next o rest hq =>
      cases hs
      have hnd := hq ▸ hM.nodup
      rw [List.nodup_cons] at hnd
      have ho := hM.inq o (hq ▸ List.mem_cons_self)
      obtain ⟨ho1, ho2, ho3, ho4⟩ := ho
      have hpt : ({ s with q := rest, holds := upd2 s.holds t o true, pc := upd s.pc t (.done [1, o]) } : St).pc t
          = .done [1, o] := upd_same _ _ _
      have hle : ∀ u x, upd2 s.holds t o true u x = true → (u = t ∧ x = o) ∨ s.holds u x = true := fun u x e => by
        simp only [upd2] at e; split at e
        next hc => exact .inl hc
        · exact .inr e
      have hsub : ∀ x, x ∈ rest → x ∈ s.q := fun x hx => hq ▸ List.mem_cons_of_mem _ hx
      refine h.frame (t := t) (fun u hu => upd_other _ _ _ _ hu)
        { hM with
          nodup := hnd.2
          inq := fun x hx => by
            obtain ⟨a, b, c, d⟩ := hM.inq x (hsub x hx)
            exact ⟨a, b, c, fun u => by
              show upd2 s.holds t o true u x = false
              have hxo : x ≠ o := fun e => hnd.1 (e ▸ hx)
              simp only [upd2, hxo, and_false, if_false]; exact d u⟩
          one := fun t1 t2 x e1 e2 => by
            rcases hle t1 x e1 with ⟨a1, b1⟩ | a1 <;> rcases hle t2 x e2 with ⟨a2, b2⟩ | a2
            · exact a1.trans a2.symm
            · rw [b1, ho4] at a2; cases a2
            · rw [b2, ho4] at a1; cases a1
            · exact h.one t1 t2 x a1 a2
          held := fun u x e => by
            rcases hle u x e with ⟨-, rfl⟩ | a
            · exact ⟨ho1, ho2, ho3⟩
            · exact hM.held u x a }
        ?_ (fun u hu => ?_) (fun u x _ e => ?_)
      · rw [hpt]; exact ⟨fun _ _ => nofun, fun _ _ _ => nofun, nofun⟩
      · have hU := h.thread u
        exact { hU with
          nq := fun x hx => hU.nq x (hsub x hx)
          nh := fun v x e => by
            rcases hle v x e with ⟨-, rfl⟩ | a
            · exact hU.nq _ (hq ▸ List.mem_cons_self)
            · exact hU.nh v x a }
      · rw [hpt] at e; cases e
    next hq =>
      split at hs
      · cases hs; exact h.move rfl
      · cases hs
        have hpt : St.pc { s with fresh := s.fresh + 1, holds := upd2 s.holds t s.fresh true,
                                  pc := upd s.pc t (.done [1, s.fresh]) } t = .done [1, s.fresh] := upd_same _ _ _
        have hle : ∀ u x, upd2 s.holds t s.fresh true u x = true → (u = t ∧ x = s.fresh) ∨ s.holds u x = true :=
          fun u x e => by
            simp only [upd2] at e; split at e
            next hc => exact .inl hc
            · exact .inr e
        have hnew : ∀ u, s.holds u s.fresh = false := fun u => by
          cases hh : s.holds u s.fresh with
          | false => rfl
          | true => exact absurd (hM.held u _ hh).2.1 (Nat.lt_irrefl _)
        have hfr : s.freed s.fresh = false := by
          cases hh : s.freed s.fresh with
          | false => rfl
          | true => exact absurd (hM.freedOld _ hh) (Nat.lt_irrefl _)
        refine h.frame (t := t) (fun u hu => upd_other _ _ _ _ hu)
          { hM with
            inq := fun x hx => nomatch hq ▸ hx
            one := fun t1 t2 x e1 e2 => by
              rcases hle t1 x e1 with ⟨a1, b1⟩ | a1 <;> rcases hle t2 x e2 with ⟨a2, b2⟩ | a2
              · exact a1.trans a2.symm
              · rw [b1, hnew] at a2; cases a2
              · rw [b2, hnew] at a1; cases a1
              · exact h.one t1 t2 x a1 a2
            held := fun u x e => by
              rcases hle u x e with ⟨-, rfl⟩ | a
              · exact ⟨Nat.succ_le_of_lt (Nat.lt_of_le_of_lt (Nat.zero_le _) hM.capfresh), Nat.lt_succ_self _, hfr⟩
              · have := hM.held u x a
                exact ⟨this.1, Nat.lt_succ_of_lt this.2.1, this.2.2⟩
            capfresh := Nat.lt_succ_of_lt hM.capfresh
            freedOld := fun x e => Nat.lt_succ_of_lt (hM.freedOld x e) }
          ?_ (fun u hu => ?_) (fun u x _ e => ?_)
        · rw [hpt]; exact ⟨fun _ _ => nofun, fun _ _ _ => nofun, nofun⟩
        · have hU := h.thread u
          exact { hU with
            nh := fun v x e => by
              rcases hle v x e with ⟨-, rfl⟩ | a
              · exact fun e' => Nat.lt_irrefl _ (hU.enq _ e').2.1
              · exact hU.nh v x a
            enq := fun x e => by
              have := hU.enq x e
              exact ⟨this.1, Nat.lt_succ_of_lt this.2.1, this.2.2⟩ }
        · rw [hpt] at e; cases e
  next p hpc =>
    have hT := h.thread_at hpc
    obtain ⟨hp1, hp2, hp3⟩ := hT.enq p rfl
    split at hs
    next hk =>
      cases hs
      refine h.delete hpc fun _ => ?_
      have := hk.2
      simp only [fromPool, decide_eq_false_iff_not] at this
      omega
    · split at hs
      · cases hs
        have hpq : p ∉ s.q := fun hh => hT.nq p hh rfl
        have hmem : ∀ x, x ∈ s.q ++ [p] → x ∈ s.q ∨ x = p := fun x hx =>
          (List.mem_append.1 hx).imp id List.mem_singleton.1
        have hpt : ({ s with q := s.q ++ [p], pc := upd s.pc t (.done [2, p]) } : St).pc t = .done [2, p] :=
          upd_same _ _ _
        refine h.frame (t := t) (fun u hu => upd_other _ _ _ _ hu)
          { hM with
            nodup := List.nodup_append.2 ⟨hM.nodup, List.nodup_cons.2 ⟨List.not_mem_nil, List.nodup_nil⟩,
              fun a ha b hb e => hpq (List.mem_singleton.1 hb ▸ e ▸ ha)⟩
            inq := fun x hx => by
              rcases hmem x hx with hx' | rfl
              · exact hM.inq x hx'
              · refine ⟨hp1, hp2, hp3, fun u => ?_⟩
                show s.holds u x = false
                cases hh : s.holds u x with
                | false => rfl
                | true => exact absurd rfl (hT.nh u x hh) }
          ?_ (fun u hu => ?_) (fun u x _ e => ?_)
        · rw [hpt]; exact ⟨fun _ _ => nofun, fun _ _ _ => nofun, nofun⟩
        · have hU := h.thread u
          exact { hU with
            nq := fun x hx => (hmem x hx).elim (hU.nq x)
              (fun e e' => hu (h.enq1 u t p (enqOf_iff.1 (e ▸ e')) hpc)) }
        · rw [hpt] at e; cases e
      · split at hs
        next hl =>
          cases hs
          exact h.delete hpc fun hne => absurd hl hne
        · cases hs; exact h
  · cases hs

end CdsVerif.Algo.Pool
