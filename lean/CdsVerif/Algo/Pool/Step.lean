/-
  What one action of the pool machine does, branch by branch: the case analysis of `step` (and of `invoke`, `result`)
  stated once, for the invariant proof and the property theorems.
-/
import CdsVerif.Algo.Pool.Model
namespace CdsVerif.Algo.Pool
open CdsVerif.Machine CdsVerif.Spec

theorem fromPool_eq_false {s : St} {p : Nat} : fromPool s p = false ↔ ¬ (1 ≤ p ∧ p ≤ s.cap) := by
  simp only [fromPool, decide_eq_false_iff_not]

/-- Only `allocate` before its `pop` and `deallocate` before its `push` have a step. -/
theorem step_pc {s s' : St} {t : Tid} {e : Ev} (hs : step s t = some (s', e)) :
    s.pc t = .allocDeq ∨ ∃ p, s.pc t = .freeEnq p := by
  unfold step at hs
  split at hs
  · next hpc => exact .inl hpc
  · next p hpc => exact .inr ⟨p, hpc⟩
  · cases hs

/-- The step of `allocate`: the oldest free object; or, the queue being empty, failure (bounded pool) or a fresh
    heap object. -/
theorem step_allocDeq {s s' : St} {t : Tid} {e : Ev} (hs : step s t = some (s', e)) (hpc : s.pc t = .allocDeq) :
    (∃ o rest, s.q = o :: rest ∧
      s' = { s with q := rest, holds := upd2 s.holds t o true, pc := upd s.pc t (.done [1, o]) }) ∨
    (s.q = [] ∧ s.kind = .bounded ∧ s' = { s with pc := upd s.pc t (.done [0]) }) ∨
    (s.q = [] ∧ s.kind ≠ .bounded ∧
      s' = { s with fresh := s.fresh + 1, holds := upd2 s.holds t s.fresh true,
                    pc := upd s.pc t (.done [1, s.fresh]) }) := by
  unfold step at hs
  rw [hpc] at hs
  dsimp only at hs
  split at hs
  · next o rest hq =>
    cases hs
    exact .inl ⟨o, rest, hq, rfl⟩
  · next hq =>
    split at hs
    · next hb =>
      cases hs
      exact .inr (.inl ⟨hq, hb, rfl⟩)
    · next hb =>
      cases hs
      exact .inr (.inr ⟨hq, hb, rfl⟩)

/-- The step of `deallocate( p )`: `Delete` of a heap object (vyukov pool); or `push`, which succeeds if there is
    room, makes the lazy pool delete the object if there is none, and is repeated otherwise. -/
theorem step_freeEnq {s s' : St} {t : Tid} {e : Ev} {p : Nat} (hs : step s t = some (s', e))
    (hpc : s.pc t = .freeEnq p) :
    (s.kind = .vyukov ∧ fromPool s p = false ∧
      s' = { s with freed := upd s.freed p true, pc := upd s.pc t (.done [2, p]) }) ∨
    (¬ (s.kind = .vyukov ∧ fromPool s p = false) ∧ s.q.length < s.cap ∧
      s' = { s with q := s.q ++ [p], pc := upd s.pc t (.done [2, p]) }) ∨
    (¬ (s.kind = .vyukov ∧ fromPool s p = false) ∧ ¬ s.q.length < s.cap ∧ s.kind = .lazy ∧
      s' = { s with freed := upd s.freed p true, pc := upd s.pc t (.done [2, p]) }) ∨
    (¬ (s.kind = .vyukov ∧ fromPool s p = false) ∧ ¬ s.q.length < s.cap ∧ s.kind ≠ .lazy ∧ s' = s) := by
  unfold step at hs
  rw [hpc] at hs
  dsimp only at hs
  split at hs
  · next hk =>
    cases hs
    exact .inl ⟨hk.1, hk.2, rfl⟩
  · next hk =>
    split at hs
    · next hlen =>
      cases hs
      exact .inr (.inl ⟨hk, hlen, rfl⟩)
    · next hlen =>
      split at hs
      · next hlazy =>
        cases hs
        exact .inr (.inr (.inl ⟨hk, hlen, hlazy, rfl⟩))
      · next hlazy =>
        cases hs
        exact .inr (.inr (.inr ⟨hk, hlen, hlazy, rfl⟩))

/-- No action changes the capacity or the kind of the pool. -/
theorem apply_cap_kind {s s' : St} {t : Tid} {a : Act} {o : Obs} (h : model.apply s t a = some (s', o)) :
    s'.cap = s.cap ∧ s'.kind = s.kind := by
  rcases Model.apply_cases h with ⟨op, -, hi, -⟩ | ⟨e, -, hs, -⟩ | ⟨r, -, hr, -⟩
  · change invoke s t op = some s' at hi
    unfold invoke at hi
    split at hi
    · cases hi
      exact ⟨rfl, rfl⟩
    · split at hi
      · cases hi
        exact ⟨rfl, rfl⟩
      · cases hi
    · cases hi
  · change step s t = some (s', e) at hs
    rcases step_pc hs with hpc | ⟨p, hpc⟩
    · rcases step_allocDeq hs hpc with ⟨_, _, -, rfl⟩ | ⟨-, -, rfl⟩ | ⟨-, -, rfl⟩
      all_goals exact ⟨rfl, rfl⟩
    · rcases step_freeEnq hs hpc with ⟨-, -, rfl⟩ | ⟨-, -, rfl⟩ | ⟨-, -, -, rfl⟩ | ⟨-, -, -, rfl⟩
      all_goals exact ⟨rfl, rfl⟩
  · change result s t = some (s', r) at hr
    unfold result at hr
    split at hr
    · cases hr
      exact ⟨rfl, rfl⟩
    · cases hr

theorem reachable_cap_kind {kind : Kind} {cap : Nat} {s : St} (h : model.Reachable (init kind cap) s) :
    s.cap = cap ∧ s.kind = kind :=
  model.inv_reachable (fun s => s.cap = cap ∧ s.kind = kind) (init kind cap) ⟨rfl, rfl⟩
    (fun _ _ _ _ _ hinv hap => ⟨(apply_cap_kind hap).1.trans hinv.1, (apply_cap_kind hap).2.trans hinv.2⟩) s h

end CdsVerif.Algo.Pool
