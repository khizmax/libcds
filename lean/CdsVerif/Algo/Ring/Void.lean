/-
  Sequential model of the record layout of `cds::container::WeakRingBuffer<void>`
  (cds/container/weak_ringbuffer.h, second half): `back( size )` / `push_back()` /
  `push_back( data, size )` on the producer side, `front()` / `pop_front()` on the consumer side, over a
  byte array with 8-byte little-endian `size_t` headers and tail markers.  The helpers
  `calc_real_size` / `is_tail` / `make_tail` / `untail` are the translations generated from the header
  (Gen/RingBuffer.lean).

  The model is sequential (one thread performs all calls): it covers the layout — headers, padding,
  the unused-tail marker written when a record does not fit before the end of the buffer, the skip of
  that marker by `front()`, the caches `pfront_` / `cback_` — not the interleavings (those are covered
  for the typed variant in `Model.lean` / `Inv.lean`, and for the void variant by the harness).
  Counters are `Nat`; `WF` shows that no subtraction underflows.

  Hypothesis made explicit: the capacity is a multiple of 8 (the real constructor rounds it up).
-/
import CdsVerif.Algo.Ring.Inv
import CdsVerif.Gen.RingBuffer
namespace CdsVerif.Algo.Ring.Void
open CdsVerif.Gen.RingBuffer

abbrev Byte := BitVec 8

structure VSt where
  cap : Nat
  front : Nat
  back : Nat
  pfront : Nat
  cback : Nat
  mem : Nat → Byte      -- buffer_.buffer()[a], a < cap

def vinit (cap : Nat) : VSt := ⟨cap, 0, 0, 0, 0, fun _ => 0⟩

/-! ### Memory access -/

/-- `*reinterpret_cast<size_t*>( buffer + off ) = v` (little endian) -/
def write64 (mem : Nat → Byte) (off : Nat) (v : BitVec 64) : Nat → Byte :=
  fun a => if off ≤ a ∧ a < off + 8 then BitVec.ofNat 8 (v.toNat / 256 ^ (a - off)) else mem a

/-- `*reinterpret_cast<size_t*>( buffer + off )` -/
def read64 (mem : Nat → Byte) (off : Nat) : BitVec 64 :=
  BitVec.ofNat 64 ((mem off).toNat + (mem (off + 1)).toNat * 256 + (mem (off + 2)).toNat * 256 ^ 2
    + (mem (off + 3)).toNat * 256 ^ 3 + (mem (off + 4)).toNat * 256 ^ 4 + (mem (off + 5)).toNat * 256 ^ 5
    + (mem (off + 6)).toNat * 256 ^ 6 + (mem (off + 7)).toNat * 256 ^ 7)

/-- `memcpy( buffer + off, data, size )` -/
def writeBytes (mem : Nat → Byte) (off : Nat) (data : List Byte) : Nat → Byte :=
  fun a => if off ≤ a ∧ a < off + data.length then data.getD (a - off) 0 else mem a

def readBytes (mem : Nat → Byte) (off n : Nat) : List Byte :=
  (List.range n).map (fun i => mem (off + i))

/-! ### Operations -/

/-- `if ( pfront_ + capacity() - back < real_size ) pfront_ = front_.load()` -/
def refreshP (s : VSt) (b real : Nat) : VSt :=
  if s.pfront + s.cap - b < real then { s with pfront := s.front } else s

/-- `if ( cback_ - front < sizeof( size_t )) cback_ = back_.load()` -/
def refreshC (s : VSt) (f : Nat) : VSt :=
  if s.cback - f < 8 then { s with cback := s.back } else s

/-- `void* back( size_t size )`: the result is the offset of the reserved payload area in the buffer
    (`none` = nullptr). -/
def vback (s : VSt) (size : BitVec 64) : VSt × Option Nat :=
  let real := (calc_real_size size).toNat
  let b := s.back
  let s1 := refreshP s b real
  if s1.pfront + s.cap - b < real then (s1, none) else
  let off := b % s.cap
  let tail := s.cap - off
  if tail < real then
    -- make unused tail
    let s2 := { s1 with mem := write64 s1.mem off (make_tail (BitVec.ofNat 64 (tail - 8))) }
    let b' := b + tail
    let s3 := refreshP s2 b' real
    if s3.pfront + s.cap - b' < real then (s3, none) else
    ({ s3 with back := b', mem := write64 s3.mem 0 size }, some 8)
  else
    ({ s1 with mem := write64 s1.mem off size }, some (off + 8))

/-- `void push_back()` -/
def vpush (s : VSt) : VSt :=
  let real := (calc_real_size (read64 s.mem (s.back % s.cap))).toNat
  { s with back := s.back + real }

/-- `bool push_back( void const* data, size_t size )` = `back( size )`, `memcpy`, `push_back()` -/
def vpushData (s : VSt) (data : List Byte) : VSt × Bool :=
  match vback s (BitVec.ofNat 64 data.length) with
  | (s1, some p) => (vpush { s1 with mem := writeBytes s1.mem p data }, true)
  | (s1, none) => (s1, false)

/-- `bool pop_front()` -/
def vpop (s : VSt) : VSt × Bool :=
  let f := s.front
  let s1 := refreshC s f
  if s1.cback - f < 8 then (s1, false) else
  let size := read64 s1.mem (f % s.cap)
  let real := (calc_real_size (untail size)).toNat
  ({ s1 with front := f + real }, true)

/-- `std::pair<void*, size_t> front()`: offset of the payload and its size (`none` = nullptr). -/
def vfront (s : VSt) : VSt × Option (Nat × BitVec 64) :=
  let f := s.front
  let s1 := refreshC s f
  if s1.cback - f < 8 then (s1, none) else
  let size := read64 s1.mem (f % s.cap)
  if is_tail size then
    -- unused tail, skip
    let s2 := (vpop s1).1
    let f := s2.front
    let s3 := refreshC s2 f
    if s3.cback - f < 8 then (s3, none) else
    (s3, some (f % s.cap + 8, read64 s3.mem (f % s.cap)))
  else (s1, some (f % s.cap + 8, size))

/-! ### The cache refreshes -/

theorem refreshP_of_lt (s : VSt) (b real : Nat) (h : s.pfront + s.cap - b < real) :
    refreshP s b real = { s with pfront := s.front } := if_pos h

theorem refreshP_id (s : VSt) (b real : Nat) (h : ¬ s.pfront + s.cap - b < real) : refreshP s b real = s :=
  if_neg h

theorem refreshC_of_lt (s : VSt) (f : Nat) (h : s.cback - f < 8) : refreshC s f = { s with cback := s.back } :=
  if_pos h

theorem refreshC_id (s : VSt) (f : Nat) (h : ¬ s.cback - f < 8) : refreshC s f = s := if_neg h

/-! ### Memory lemmas -/

theorem read64_write64 (mem : Nat → Byte) (off : Nat) (v : BitVec 64) : read64 (write64 mem off v) off = v := by
  have hv := v.isLt
  have h0 : (write64 mem off v off).toNat = v.toNat % 256 := by simp [write64]
  have hi : ∀ i, 0 < i → i < 8 → (write64 mem off v (off + i)).toNat = (v.toNat / 256 ^ i) % 256 := by
    intro i h1 h2
    simp [write64, h2]
  simp only [read64, h0, hi 1 (by omega) (by omega), hi 2 (by omega) (by omega), hi 3 (by omega) (by omega),
    hi 4 (by omega) (by omega), hi 5 (by omega) (by omega), hi 6 (by omega) (by omega), hi 7 (by omega) (by omega)]
  apply BitVec.eq_of_toNat_eq
  rw [BitVec.toNat_ofNat]
  omega

theorem read64_congr (mem mem' : Nat → Byte) (off : Nat) (h : ∀ i, i < 8 → mem' (off + i) = mem (off + i)) :
    read64 mem' off = read64 mem off := by
  have h0 := h 0 (by omega)
  simp only [Nat.add_zero] at h0
  simp only [read64, h0, h 1 (by omega), h 2 (by omega), h 3 (by omega), h 4 (by omega), h 5 (by omega),
    h 6 (by omega), h 7 (by omega)]

theorem write64_other (mem : Nat → Byte) (off : Nat) (v : BitVec 64) (a : Nat) (h : ¬ (off ≤ a ∧ a < off + 8)) :
    write64 mem off v a = mem a := by
  simp [write64, h]

theorem writeBytes_other (mem : Nat → Byte) (off : Nat) (data : List Byte) (a : Nat)
    (h : ¬ (off ≤ a ∧ a < off + data.length)) : writeBytes mem off data a = mem a := by
  simp [writeBytes, h]

@[simp] theorem readBytes_length (mem : Nat → Byte) (off n : Nat) : (readBytes mem off n).length = n := by
  simp [readBytes]

theorem readBytes_writeBytes (mem : Nat → Byte) (off : Nat) (data : List Byte) :
    readBytes (writeBytes mem off data) off data.length = data := by
  apply List.ext_getElem
  · simp
  · intro i h1 h2
    simp only [readBytes_length] at h1
    simp [readBytes, writeBytes, h1]

theorem readBytes_congr (mem mem' : Nat → Byte) (off n : Nat) (h : ∀ i, i < n → mem' (off + i) = mem (off + i)) :
    readBytes mem' off n = readBytes mem off n := by
  apply List.ext_getElem
  · simp
  · intro i h1 h2
    simp only [readBytes_length] at h1
    simp [readBytes, h i h1]

/-! ### Arithmetic on offsets -/

theorem mod_add_of_lt {cap p i : Nat} (h : p % cap + i < cap) : (p + i) % cap = p % cap + i := by
  have h1 := Nat.div_add_mod p cap
  calc (p + i) % cap = (cap * (p / cap) + (p % cap + i)) % cap := by rw [← Nat.add_assoc, h1]
    _ = (p % cap + i) % cap := Nat.mul_add_mod ..
    _ = p % cap + i := Nat.mod_eq_of_lt h

theorem mod_add_tail {cap p : Nat} (hc : 0 < cap) : (p + (cap - p % cap)) % cap = 0 := by
  have h1 := Nat.div_add_mod p cap
  have h2 : p % cap < cap := Nat.mod_lt _ hc
  have : p + (cap - p % cap) = cap * (p / cap + 1) := by
    rw [Nat.mul_add, Nat.mul_one]; omega
  rw [this, Nat.mul_mod_right]

theorem mod_mod8 {cap p : Nat} (hc : cap % 8 = 0) : p % cap % 8 = p % 8 :=
  Nat.mod_mod_of_dvd p (Nat.dvd_of_mod_eq_zero hc)

/-- The cells of the positions `p … p+n-1` of a block that does not wrap are the addresses
    `p % cap … p % cap + n-1`. -/
theorem block_cells {cap p n : Nat} {mem mem' : Nat → Byte} (hfit : p % cap + n ≤ cap)
    (hm : ∀ q, p ≤ q → q < p + n → mem' (q % cap) = mem (q % cap)) :
    ∀ i, i < n → mem' (p % cap + i) = mem (p % cap + i) := by
  intro i hi
  rw [← mod_add_of_lt (p := p) (i := i) (by omega)]
  exact hm _ (by omega) (by omega)

/-- A byte at buffer address `b0 % cap + i` inside a block that starts at position `b0`, does not wrap and
    lies within one capacity above `f` is not the cell of any position `f ≤ q < b0`. -/
theorem cell_free {cap f q b0 n : Nat} (h1 : f ≤ q) (h2 : q < b0) (h3 : b0 + n ≤ f + cap)
    (h4 : b0 % cap + n ≤ cap) : ¬ (b0 % cap ≤ q % cap ∧ q % cap < b0 % cap + n) := by
  intro ⟨h5, h6⟩
  obtain ⟨i, hi⟩ : ∃ i, q % cap = b0 % cap + i := ⟨q % cap - b0 % cap, by omega⟩
  have h7 : (b0 + i) % cap = b0 % cap + i := mod_add_of_lt (by omega)
  exact mod_ne_of_lt (a := q) (b := b0 + i) (cap := cap) (by omega) (by omega) (by omega)

/-! ### Layout of the records between two positions -/

/-- `calc_real_size` on naturals: payload rounded up to 8, plus the header. -/
def realSize (n : Nat) : Nat := (n + 7) / 8 * 8 + 8

theorem realSize_facts (n : Nat) : realSize n % 8 = 0 ∧ n + 8 ≤ realSize n ∧ realSize n ≤ n + 15 := by
  unfold realSize; omega

/-- `Layout cap mem p b recs`: the bytes of the positions `p … b-1` (cells `position mod cap`) are
    exactly the records `recs` in order, each as header + payload + padding, never wrapping, with an
    unused-tail marker wherever the next record did not fit before the end of the buffer (never at
    offset 0). -/
inductive Layout (cap : Nat) (mem : Nat → Byte) : Nat → Nat → List (List Byte) → Prop
  | nil (p : Nat) : Layout cap mem p p []
  | record (p b : Nat) (data : List Byte) (rest : List (List Byte)) :
      p % 8 = 0 → p % cap + realSize data.length ≤ cap →
      read64 mem (p % cap) = BitVec.ofNat 64 data.length →
      readBytes mem (p % cap + 8) data.length = data →
      Layout cap mem (p + realSize data.length) b rest → Layout cap mem p b (data :: rest)
  | marker (p b : Nat) (recs : List (List Byte)) :
      p % 8 = 0 → p % cap ≠ 0 →
      read64 mem (p % cap) = make_tail (BitVec.ofNat 64 (cap - p % cap - 8)) →
      Layout cap mem (p + (cap - p % cap)) b recs → Layout cap mem p b recs

theorem Layout.le {cap : Nat} {mem : Nat → Byte} {p b : Nat} {recs : List (List Byte)}
    (h : Layout cap mem p b recs) : p ≤ b := by
  induction h with
  | nil p => exact Nat.le_refl _
  | record p b data rest _ _ _ _ _ ih => omega
  | marker p b recs _ _ _ _ ih => omega

/-- A stretch is empty and holds no record, or holds at least one 8-byte header. -/
theorem Layout.nil_or_lt {cap : Nat} {mem : Nat → Byte} {p b : Nat} {recs : List (List Byte)}
    (hc : cap % 8 = 0) (hpos : 0 < cap) (h : Layout cap mem p b recs) : (p = b ∧ recs = []) ∨ p + 8 ≤ b := by
  cases h with
  | nil => exact .inl ⟨rfl, rfl⟩
  | record _ _ data rest _ _ _ _ hl =>
    have := hl.le
    have := realSize_facts data.length
    exact .inr (by omega)
  | marker _ _ _ h8 h0 _ hl =>
    have := hl.le
    have := mod_mod8 (p := p) hc
    have := Nat.mod_lt p hpos
    exact .inr (by omega)

/-- Every record in a layout fits into the buffer. -/
theorem Layout.mem_len {cap : Nat} {mem : Nat → Byte} {f b : Nat} {recs : List (List Byte)}
    (l : Layout cap mem f b recs) : ∀ d ∈ recs, realSize d.length ≤ cap := by
  induction l with
  | nil => intro d hd; simp at hd
  | record p b data rest a1 a2 a3 a4 hl ih =>
    intro d hd
    rcases List.mem_cons.mp hd with rfl | hd
    · omega
    · exact ih d hd
  | marker p b recs a1 a2 a3 hl ih => exact ih

theorem Layout.aligned {cap : Nat} {mem : Nat → Byte} {p b : Nat} {recs : List (List Byte)}
    (hc : cap % 8 = 0) (h : Layout cap mem p b recs) (hp : p % 8 = 0) : b % 8 = 0 := by
  induction h with
  | nil p => exact hp
  | record p b data rest _ _ _ _ _ ih =>
    apply ih
    have := realSize_facts data.length
    omega
  | marker p b recs _ _ _ _ ih =>
    apply ih
    have := mod_mod8 (p := p) hc
    by_cases h0 : cap = 0
    · subst h0; simpa using hp
    · have := Nat.mod_lt p (show 0 < cap by omega)
      omega

theorem Layout.append {cap : Nat} {mem : Nat → Byte} {p m b : Nat} {r1 r2 : List (List Byte)}
    (h1 : Layout cap mem p m r1) (h2 : Layout cap mem m b r2) : Layout cap mem p b (r1 ++ r2) := by
  induction h1 with
  | nil p => simpa using h2
  | record p m data rest a1 a2 a3 a4 _ ih => exact Layout.record p b data _ a1 a2 a3 a4 (ih h2)
  | marker p m recs a1 a2 a3 _ ih => exact Layout.marker p b _ a1 a2 a3 (ih h2)

/-- The layout of `p … b-1` depends only on the cells of these positions. -/
theorem Layout.frame {cap : Nat} {mem mem' : Nat → Byte} {p b : Nat} {recs : List (List Byte)}
    (hc : cap % 8 = 0) (hpos : 0 < cap)
    (h : Layout cap mem p b recs) (hm : ∀ q, p ≤ q → q < b → mem' (q % cap) = mem (q % cap)) :
    Layout cap mem' p b recs := by
  induction h with
  | nil p => exact Layout.nil p
  | record p b data rest a1 a2 a3 a4 hl ih =>
    have hle := hl.le
    have hrs := realSize_facts data.length
    have hcells := block_cells a2 (fun q h1 h2 => hm q h1 (by omega))
    refine Layout.record p b data rest a1 a2 ?_ ?_ (ih (fun q h1 h2 => hm q (by omega) h2))
    · rw [read64_congr mem mem' _ (fun i hi => hcells i (by omega)), a3]
    · rw [readBytes_congr mem mem' _ _ (fun i hi => Nat.add_assoc .. ▸ hcells (8 + i) (by omega)), a4]
  | marker p b recs a1 a2 a3 hl ih =>
    have hle := hl.le
    have h8 := mod_mod8 (p := p) hc
    have hlt := Nat.mod_lt p hpos
    have hcells := block_cells (n := 8) (by omega) (fun q h1 h2 => hm q h1 (by omega))
    refine Layout.marker p b recs a1 a2 ?_ (ih (fun q h1 h2 => hm q (by omega) h2))
    rw [read64_congr mem mem' _ hcells, a3]

/-! ### Sizes -/

theorem size_toNat (n : Nat) (hn : n < 2 ^ 63) : (BitVec.ofNat 64 n).toNat = n := by
  rw [BitVec.toNat_ofNat]; exact Nat.mod_eq_of_lt (by omega)

theorem ofNat_inj63 {a b : Nat} (ha : a < 2 ^ 63) (hb : b < 2 ^ 63)
    (h : BitVec.ofNat 64 a = BitVec.ofNat 64 b) : a = b := by
  have := congrArg BitVec.toNat h
  rwa [size_toNat a ha, size_toNat b hb] at this

theorem real_of (n : Nat) (hn : n < 2 ^ 63) : (calc_real_size (BitVec.ofNat 64 n)).toNat = realSize n := by
  rw [calc_real_size_toNat _ (by rw [size_toNat n hn]; exact hn), size_toNat n hn]; rfl

theorem untail_of_lt (x : BitVec 64) (h : x.toNat < 2 ^ 63) : untail x = x := by
  simp only [untail, sh63, tp63]
  apply BitVec.eq_of_getLsbD_eq
  intro i hi
  rw [BitVec.getLsbD_and, lsb_mask63]
  by_cases h63 : i = 63
  · subst h63; rw [bit63 x h]; simp
  · have : i < 63 := by omega
    simp [this]

theorem real_of_tail {tail : Nat} (h8 : tail % 8 = 0) (hge : 8 ≤ tail) (hlt : tail < 2 ^ 63) :
    (calc_real_size (untail (make_tail (BitVec.ofNat 64 (tail - 8))))).toNat = tail := by
  have h1 : tail - 8 < 2 ^ 63 := by omega
  rw [untail_make_tail _ (by rw [size_toNat _ h1]; exact h1), real_of _ h1]
  unfold realSize; omega

/-! ### Well-formed states -/

/-- `WF s recs`: the buffer holds exactly the records `recs` (oldest first) between `front_` and `back_`;
    the consumer's cache `cback_` is a record boundary in between, the producer's cache `pfront_` is
    conservative; everything is 8-byte aligned. -/
structure WF (s : VSt) (recs : List (List Byte)) : Prop where
  cap8 : s.cap % 8 = 0
  cap_pos : 0 < s.cap
  cap_lt : s.cap < 2 ^ 63
  front8 : s.front % 8 = 0
  pfront_le : s.pfront ≤ s.front
  back_le : s.back ≤ s.pfront + s.cap
  split : ∃ r1 r2, recs = r1 ++ r2 ∧ Layout s.cap s.mem s.front s.cback r1 ∧
    Layout s.cap s.mem s.cback s.back r2

theorem WF.layout {s : VSt} {recs : List (List Byte)} (h : WF s recs) :
    Layout s.cap s.mem s.front s.back recs := by
  obtain ⟨r1, r2, rfl, h1, h2⟩ := h.split
  exact h1.append h2

theorem WF.bounds {s : VSt} {recs : List (List Byte)} (h : WF s recs) :
    s.front ≤ s.cback ∧ s.cback ≤ s.back ∧ s.cback % 8 = 0 ∧ s.back % 8 = 0 := by
  obtain ⟨r1, r2, -, h1, h2⟩ := h.split
  have c8 := h1.aligned h.cap8 h.front8
  exact ⟨h1.le, h2.le, c8, h2.aligned h.cap8 c8⟩

theorem wf_init (cap : Nat) (h8 : cap % 8 = 0) (hpos : 0 < cap) (hlt : cap < 2 ^ 63) : WF (vinit cap) [] :=
  ⟨h8, hpos, hlt, rfl, Nat.le_refl _, by simp [vinit], [], [], rfl, Layout.nil 0, Layout.nil 0⟩

/-- Fewer than 8 bytes between `front_` and `back_` hold no record. -/
theorem WF.empty_of_short {s : VSt} {recs : List (List Byte)} (h : WF s recs) (hlt : s.back - s.front < 8) :
    recs = [] := by
  rcases h.layout.nil_or_lt h.cap8 h.cap_pos with ⟨-, he⟩ | hge
  · exact he
  · exact absurd hlt (by omega)

theorem WF.len_lt {s : VSt} {recs : List (List Byte)} (h : WF s recs) {d : List Byte} (hd : d ∈ recs) :
    d.length < 2 ^ 63 := by
  have := h.layout.mem_len d hd
  have := realSize_facts d.length
  have := h.cap_lt
  omega

/-- Writing outside the live cells keeps the state well-formed. -/
theorem WF.frame {s : VSt} {recs : List (List Byte)} (h : WF s recs) (mem' : Nat → Byte)
    (hm : ∀ q, s.front ≤ q → q < s.back → mem' (q % s.cap) = s.mem (q % s.cap)) :
    WF { s with mem := mem' } recs := by
  have hb := h.bounds
  obtain ⟨a1, a2, a3, a4, a5, a6, r1, r2, e, l1, l2⟩ := h
  refine ⟨a1, a2, a3, a4, a5, a6, r1, r2, e, ?_, ?_⟩
  · exact l1.frame a1 a2 (fun q (h1 : s.front ≤ q) (h2 : q < s.cback) => hm q h1 (by omega))
  · exact l2.frame a1 a2 (fun q (h1 : s.cback ≤ q) (h2 : q < s.back) => hm q (by omega) h2)

/-- A block that starts at position `b0 ≥ back_`, does not wrap and ends within one capacity above
    `front_` contains no live cell: writing into it keeps the state well-formed. -/
theorem WF.write_free {s : VSt} {recs : List (List Byte)} (h : WF s recs) (b0 n : Nat) (hb : s.back ≤ b0)
    (h3 : b0 + n ≤ s.front + s.cap) (h4 : b0 % s.cap + n ≤ s.cap) (mem' : Nat → Byte)
    (hm' : ∀ a, ¬ (b0 % s.cap ≤ a ∧ a < b0 % s.cap + n) → mem' a = s.mem a) :
    WF { s with mem := mem' } recs :=
  h.frame mem' (fun _ h1 h2 => hm' _ (cell_free h1 (by omega) h3 h4))

/-! ### Producer -/

/-- The producer's refresh changes only `pfront_` and keeps the state well-formed; the test that follows
    it is exact: it fails iff the space above the real `front_` is too small. -/
theorem WF.refreshP_spec {s : VSt} {recs : List (List Byte)} (h : WF s recs) (b real : Nat) :
    ∃ pf, refreshP s b real = { s with pfront := pf } ∧ WF { s with pfront := pf } recs ∧
      (pf + s.cap - b < real ↔ s.front + s.cap - b < real) := by
  have hpl := h.pfront_le
  have hbl := h.back_le
  by_cases hlt : s.pfront + s.cap - b < real
  · exact ⟨s.front, refreshP_of_lt s b real hlt,
      ⟨h.cap8, h.cap_pos, h.cap_lt, h.front8, Nat.le_refl _, by dsimp only; omega, h.split⟩, Iff.rfl⟩
  · exact ⟨s.pfront, refreshP_id s b real hlt, h, by omega⟩

/-- State after a successful `back( n )`: header written at `back_`, `n` payload bytes reserved at `p`. -/
structure Reserved (s : VSt) (recs : List (List Byte)) (n p : Nat) : Prop where
  wf : WF s recs
  p_eq : p = s.back % s.cap + 8
  hdr : read64 s.mem (s.back % s.cap) = BitVec.ofNat 64 n
  fits : s.back % s.cap + realSize n ≤ s.cap
  room : s.back + realSize n ≤ s.pfront + s.cap

/-- What a record of `n` payload bytes costs at the current `back_`: its real size, plus the unusable
    tail when it does not fit before the end of the buffer. -/
def need (s : VSt) (n : Nat) : Nat :=
  if s.cap - s.back % s.cap < realSize n then (s.cap - s.back % s.cap) + realSize n else realSize n

/-- Writing the header of a record that fits before the end of the buffer and below the producer's view
    of `front_` reserves its payload: the header lands in free cells. -/
theorem WF.reserve {s : VSt} {recs : List (List Byte)} (h : WF s recs) (n : Nat)
    (fits : s.back % s.cap + realSize n ≤ s.cap) (room : s.back + realSize n ≤ s.pfront + s.cap) :
    Reserved { s with mem := write64 s.mem (s.back % s.cap) (BitVec.ofNat 64 n) } recs n
      (s.back % s.cap + 8) := by
  have hrs := realSize_facts n
  have hpl := h.pfront_le
  exact ⟨h.write_free s.back 8 (Nat.le_refl _) (by omega) (by omega) _ (fun a ha => write64_other _ _ _ a ha),
    rfl, read64_write64 _ _ _, fits, room⟩

/-- Publishing an unused-tail marker written at `back_`. -/
theorem WF.publish_marker {s : VSt} {recs : List (List Byte)} (h : WF s recs) (hoff0 : s.back % s.cap ≠ 0)
    (hm : read64 s.mem (s.back % s.cap) = make_tail (BitVec.ofNat 64 (s.cap - s.back % s.cap - 8)))
    (hroom : s.back + (s.cap - s.back % s.cap) ≤ s.pfront + s.cap) :
    WF { s with back := s.back + (s.cap - s.back % s.cap) } recs := by
  have hb := h.bounds
  obtain ⟨a1, a2, a3, a4, a5, a6, r1, r2, e, l1, l2⟩ := h
  refine ⟨a1, a2, a3, a4, a5, hroom, r1, r2, e, l1, ?_⟩
  have := l2.append (Layout.marker _ _ [] hb.2.2.2 hoff0 hm (Layout.nil _))
  simpa using this

/-- Publishing a record written at `back_`. -/
theorem WF.publish_record {s : VSt} {recs : List (List Byte)} (h : WF s recs) (data : List Byte)
    (hdr : read64 s.mem (s.back % s.cap) = BitVec.ofNat 64 data.length)
    (hbytes : readBytes s.mem (s.back % s.cap + 8) data.length = data)
    (fits : s.back % s.cap + realSize data.length ≤ s.cap)
    (hroom : s.back + realSize data.length ≤ s.pfront + s.cap) :
    WF { s with back := s.back + realSize data.length } (recs ++ [data]) := by
  have hb := h.bounds
  obtain ⟨a1, a2, a3, a4, a5, a6, r1, r2, e, l1, l2⟩ := h
  refine ⟨a1, a2, a3, a4, a5, hroom, r1, r2 ++ [data], by rw [e, List.append_assoc], l1, ?_⟩
  exact l2.append (Layout.record _ _ data [] hb.2.2.2 fits hdr hbytes (Layout.nil _))

theorem vback_spec (s : VSt) (recs : List (List Byte)) (n : Nat) (h : WF s recs) (hn : n < 2 ^ 63)
    (s' : VSt) (r : Option Nat) (hv : vback s (BitVec.ofNat 64 n) = (s', r)) :
    s'.front = s.front ∧ s'.cap = s.cap ∧
    match r with
    | some p => Reserved s' recs n p ∧ need s n ≤ s.cap - (s.back - s.front)
    | none => WF s' recs ∧ s'.back = s.back ∧ s.cap - (s.back - s.front) < need s n := by
  have hrs := realSize_facts n
  have hbd := h.bounds
  have hc8 := h.cap8
  have hcp := h.cap_pos
  have hoff8 := mod_mod8 (p := s.back) hc8
  have hofflt := Nat.mod_lt s.back hcp
  obtain ⟨pf1, e1, hwf1, t1⟩ := h.refreshP_spec s.back (realSize n)
  have hpl1 : pf1 ≤ s.front := hwf1.pfront_le
  simp only [vback, real_of n hn, e1] at hv
  split at hv
  · -- the first test fails
    rename_i hA
    obtain ⟨rfl, rfl⟩ := Prod.mk.inj hv
    refine ⟨rfl, rfl, hwf1, rfl, ?_⟩
    have := t1.1 hA
    unfold need
    split <;> omega
  · rename_i hA
    split at hv
    · -- the record does not fit before the end of the buffer: unused tail
      rename_i hB
      have hoff0 : s.back % s.cap ≠ 0 := by omega
      have hb0 : (s.back + (s.cap - s.back % s.cap)) % s.cap = 0 := mod_add_tail hcp
      -- the marker is written into free cells
      have hwf2 := hwf1.write_free s.back 8 (Nat.le_refl _) (by dsimp only; omega)
        (by dsimp only; omega) _
        (fun a ha => write64_other _ _ (make_tail (BitVec.ofNat 64 (s.cap - s.back % s.cap - 8))) a ha)
      obtain ⟨pf3, e3, hwf3, t3⟩ := hwf2.refreshP_spec (s.back + (s.cap - s.back % s.cap)) (realSize n)
      have hpl3 : pf3 ≤ s.front := hwf3.pfront_le
      dsimp only at e3 t3
      simp only [e3] at hv
      split at hv
      · -- the second test fails: the marker stays unpublished
        rename_i hC
        obtain ⟨rfl, rfl⟩ := Prod.mk.inj hv
        refine ⟨rfl, rfl, hwf3, rfl, ?_⟩
        have := t3.1 hC
        unfold need
        rw [if_pos hB]
        omega
      · rename_i hC
        obtain ⟨rfl, rfl⟩ := Prod.mk.inj hv
        have hres := (hwf3.publish_marker hoff0 (read64_write64 _ _ _) (by dsimp only; omega)).reserve n
          (by dsimp only; omega) (by dsimp only; omega)
        dsimp only at hres
        rw [hb0] at hres
        refine ⟨rfl, rfl, hres, ?_⟩
        unfold need
        rw [if_pos hB]
        omega
    · -- the record fits before the end of the buffer
      rename_i hB
      obtain ⟨rfl, rfl⟩ := Prod.mk.inj hv
      refine ⟨rfl, rfl, hwf1.reserve n (by dsimp only; omega) (by dsimp only; omega), ?_⟩
      unfold need
      rw [if_neg hB]
      omega

theorem vpush_eq (s : VSt) :
    vpush s = { s with back := s.back + (calc_real_size (read64 s.mem (s.back % s.cap))).toNat } := by
  unfold vpush; rfl

/-- `push_back( data, size )`: succeeds iff the record (plus the unusable tail, if it has to wrap) fits
    into the free space; on success the record is appended to the contents, on failure the contents are
    unchanged. -/
theorem vpushData_spec (s : VSt) (recs : List (List Byte)) (data : List Byte) (h : WF s recs)
    (hn : data.length < 2 ^ 63) (s' : VSt) (ok : Bool) (hv : vpushData s data = (s', ok)) :
    s'.front = s.front ∧ s'.cap = s.cap ∧
    (ok = true → WF s' (recs ++ [data]) ∧ need s data.length ≤ s.cap - (s.back - s.front)) ∧
    (ok = false → WF s' recs ∧ s'.back = s.back ∧ s.cap - (s.back - s.front) < need s data.length) := by
  unfold vpushData at hv
  cases hvb : vback s (BitVec.ofNat 64 data.length) with
  | mk s1 r =>
    have hspec := vback_spec s recs data.length h hn s1 r hvb
    rw [hvb] at hv
    cases r with
    | none =>
      obtain ⟨rfl, rfl⟩ := Prod.mk.inj hv
      obtain ⟨hf, hc, hwf, hb, hlt⟩ := hspec
      exact ⟨hf, hc, nofun, fun _ => ⟨hwf, hb, hlt⟩⟩
    | some p =>
      obtain ⟨rfl, rfl⟩ := Prod.mk.inj hv
      obtain ⟨hf, hc, ⟨hwf, hp, hdr, fits, room⟩, hneed⟩ := hspec
      have hrs := realSize_facts data.length
      have hpl := hwf.pfront_le
      -- the payload is copied into free cells, next to the header
      have hwf2 := hwf.write_free s1.back (realSize data.length) (Nat.le_refl _) (by omega) fits
        (writeBytes s1.mem p data) (fun a ha => writeBytes_other _ _ _ _ (by rw [hp]; omega))
      have hdr2 : read64 (writeBytes s1.mem p data) (s1.back % s1.cap) = BitVec.ofNat 64 data.length := by
        rw [read64_congr s1.mem _ _ (fun i hi => writeBytes_other _ _ _ _ (by rw [hp]; omega)), hdr]
      have hbytes : readBytes (writeBytes s1.mem p data) (s1.back % s1.cap + 8) data.length = data := by
        rw [← hp]; exact readBytes_writeBytes _ _ _
      have hwf3 := hwf2.publish_record data hdr2 hbytes fits room
      rw [vpush_eq]
      dsimp only
      rw [hdr2, real_of data.length hn]
      exact ⟨hf, hc, fun _ => ⟨hwf3, hneed⟩, nofun⟩

/-! ### Consumer -/

/-- A non-empty stretch whose first header is a plain size starts with that record. -/
theorem Layout.head_record {cap : Nat} {mem : Nat → Byte} {f m : Nat} {r1 : List (List Byte)}
    (l1 : Layout cap mem f m r1) (hne : f ≠ m)
    (hnm : f % cap = 0 ∨ is_tail (read64 mem (f % cap)) = false) :
    ∃ data r1', r1 = data :: r1' ∧ read64 mem (f % cap) = BitVec.ofNat 64 data.length ∧
      readBytes mem (f % cap + 8) data.length = data ∧ f % cap + realSize data.length ≤ cap ∧
      Layout cap mem (f + realSize data.length) m r1' := by
  cases l1 with
  | nil => exact absurd rfl hne
  | record _ _ data rest a1 a2 a3 a4 hl => exact ⟨data, rest, rfl, a3, a4, a2, hl⟩
  | marker _ _ _ a1 a2 a3 hl =>
    rcases hnm with h0 | hnt
    · exact absurd h0 a2
    · rw [a3, is_tail_make_tail] at hnt
      exact absurd hnt (by decide)

/-- A non-empty stretch whose first header carries the tail mark starts with an unused tail. -/
theorem Layout.head_marker {cap : Nat} {mem : Nat → Byte} {f m : Nat} {r1 : List (List Byte)}
    (hcap : cap < 2 ^ 63) (l1 : Layout cap mem f m r1) (hne : f ≠ m)
    (ht : is_tail (read64 mem (f % cap)) = true) :
    f % cap ≠ 0 ∧ read64 mem (f % cap) = make_tail (BitVec.ofNat 64 (cap - f % cap - 8)) ∧
      Layout cap mem (f + (cap - f % cap)) m r1 := by
  cases l1 with
  | nil => exact absurd rfl hne
  | record _ _ data rest a1 a2 a3 a4 hl =>
    have := realSize_facts data.length
    rw [a3, is_tail_of_lt _ (by rw [size_toNat _ (by omega)]; omega)] at ht
    exact absurd ht (by decide)
  | marker _ _ _ a1 a2 a3 hl => exact ⟨a2, a3, hl⟩

/-- The consumer's refresh changes only `cback_` and keeps the state well-formed; if the test that follows
    it still fails the buffer is empty, otherwise a whole header is published at `front_`. -/
theorem WF.refreshC_spec {s : VSt} {recs : List (List Byte)} (h : WF s recs) :
    ∃ cb, refreshC s s.front = { s with cback := cb } ∧ WF { s with cback := cb } recs ∧
      (cb - s.front < 8 → recs = []) ∧ (¬ cb - s.front < 8 → s.front + 8 ≤ cb) := by
  have hb := h.bounds
  by_cases hlt : s.cback - s.front < 8
  · exact ⟨s.back, refreshC_of_lt s s.front hlt,
      ⟨h.cap8, h.cap_pos, h.cap_lt, h.front8, h.pfront_le, h.back_le, recs, [], by simp, h.layout, Layout.nil _⟩,
      h.empty_of_short, fun h8 => by omega⟩
  · exact ⟨s.cback, refreshC_id s s.front hlt, h, fun h8 => absurd h8 hlt, fun _ => by omega⟩

theorem vpop_eq (s : VSt) : vpop s =
    if (refreshC s s.front).cback - s.front < 8 then (refreshC s s.front, false)
    else ({ refreshC s s.front with front := s.front +
      (calc_real_size (untail (read64 (refreshC s s.front).mem (s.front % s.cap)))).toNat }, true) := by
  unfold vpop; rfl

/-- `pop_front()` on a buffer whose first record starts at `front_` removes exactly that record. -/
theorem vpop_record (s : VSt) (data : List Byte) (rest : List (List Byte)) (h : WF s (data :: rest))
    (hdr : read64 s.mem (s.front % s.cap) = BitVec.ofNat 64 data.length) :
    ∃ s', vpop s = (s', true) ∧ WF s' rest ∧ s'.back = s.back ∧ s'.cap = s.cap ∧ s'.mem = s.mem := by
  have hlen := h.len_lt List.mem_cons_self
  have hsz : (BitVec.ofNat 64 data.length).toNat < 2 ^ 63 := by rw [size_toNat _ hlen]; exact hlen
  obtain ⟨cb, e, hwf1, c5, c6⟩ := h.refreshC_spec
  have h8 : ¬ cb - s.front < 8 := fun hh => List.cons_ne_nil _ _ (c5 hh)
  have hcb := c6 h8
  rw [vpop_eq, e]
  dsimp only
  rw [if_neg h8, hdr, untail_of_lt _ hsz, real_of _ hlen]
  refine ⟨_, rfl, ?_, rfl, rfl, rfl⟩
  obtain ⟨a1, a2, a3, a4, a5, a6, r1, r2, e', l1, l2⟩ := hwf1
  dsimp only at a4 a5 l1 l2
  obtain ⟨data', r1', e1, -, -, -, l1'⟩ :=
    l1.head_record (by omega) (.inr (by rw [hdr]; exact is_tail_of_lt _ hsz))
  rw [e1] at e'
  obtain ⟨rfl, rfl⟩ := List.cons.inj e'
  have hrs := realSize_facts data.length
  exact ⟨a1, a2, a3, by dsimp only; omega, by dsimp only; omega, a6, r1', r2, rfl, l1', l2⟩

/-- `pop_front()` on a buffer whose consumer has a header in view at `front_` that carries the tail mark
    skips the unused tail: `front_` moves to offset 0. -/
theorem vpop_marker (s : VSt) (recs : List (List Byte)) (h : WF s recs) (h8 : ¬ s.cback - s.front < 8)
    (ht : is_tail (read64 s.mem (s.front % s.cap)) = true) :
    vpop s = ({ s with front := s.front + (s.cap - s.front % s.cap) }, true) ∧
      WF { s with front := s.front + (s.cap - s.front % s.cap) } recs ∧
      (s.front + (s.cap - s.front % s.cap)) % s.cap = 0 := by
  have hc8 := h.cap8
  have hf8 := h.front8
  have hpl := h.pfront_le
  have hclt := h.cap_lt
  have hofflt := Nat.mod_lt s.front h.cap_pos
  have hoff8 := mod_mod8 (p := s.front) hc8
  obtain ⟨r1, r2, e, l1, l2⟩ := h.split
  obtain ⟨-, a3, l1'⟩ := l1.head_marker hclt (by omega) ht
  have hle := l1'.le
  refine ⟨?_, ⟨hc8, h.cap_pos, hclt, ?_, ?_, h.back_le, r1, r2, e, l1', l2⟩, mod_add_tail h.cap_pos⟩
  · rw [vpop_eq, refreshC_id s s.front h8, if_neg h8, a3, real_of_tail (by omega) (by omega) (by omega)]
  · dsimp only; omega
  · dsimp only; omega

theorem vfront_eq (s : VSt) : vfront s =
    if (refreshC s s.front).cback - s.front < 8 then (refreshC s s.front, none)
    else if is_tail (read64 (refreshC s s.front).mem (s.front % s.cap)) = true then
      if (refreshC (vpop (refreshC s s.front)).1 (vpop (refreshC s s.front)).1.front).cback
          - (vpop (refreshC s s.front)).1.front < 8 then
        (refreshC (vpop (refreshC s s.front)).1 (vpop (refreshC s s.front)).1.front, none)
      else (refreshC (vpop (refreshC s s.front)).1 (vpop (refreshC s s.front)).1.front,
        some ((vpop (refreshC s s.front)).1.front % s.cap + 8,
          read64 (refreshC (vpop (refreshC s s.front)).1 (vpop (refreshC s s.front)).1.front).mem
            ((vpop (refreshC s s.front)).1.front % s.cap)))
    else (refreshC s s.front, some (s.front % s.cap + 8, read64 (refreshC s s.front).mem (s.front % s.cap))) := by
  unfold vfront; rfl

/-- What `front()` promises about its result `r` in the state `s'` it leaves behind. -/
def FrontOk (s' : VSt) (recs : List (List Byte)) (r : Option (Nat × BitVec 64)) : Prop :=
  match recs with
  | [] => r = none
  | data :: _ => ∃ p, r = some (p, BitVec.ofNat 64 data.length) ∧
      readBytes s'.mem p data.length = data ∧ p + data.length ≤ s'.cap ∧
      read64 s'.mem (s'.front % s'.cap) = BitVec.ofNat 64 data.length

/-- The common end of both paths of `front()`: a header in the consumer's view at `front_`, without tail
    mark; the first record starts there. -/
theorem front_some_ok (t : VSt) (recs : List (List Byte)) (h : WF t recs)
    (hnm : t.front % t.cap = 0 ∨ is_tail (read64 t.mem (t.front % t.cap)) = false)
    (h8 : ¬ t.cback - t.front < 8) :
    FrontOk t recs (some (t.front % t.cap + 8, read64 t.mem (t.front % t.cap))) := by
  obtain ⟨r1, r2, e, l1, -⟩ := h.split
  obtain ⟨data, r1', rfl, hdr, hbytes, fits, -⟩ := l1.head_record (by omega) hnm
  have := realSize_facts data.length
  subst e
  exact ⟨_, by rw [hdr], hbytes, by omega, hdr⟩

/-- `front()`: on an empty buffer nullptr (possibly after skipping an unused tail); otherwise the
    payload address and exact size of the oldest record, whose bytes are intact and contiguous. -/
theorem vfront_spec (s : VSt) (recs : List (List Byte)) (h : WF s recs) :
    ∃ s' r, vfront s = (s', r) ∧ WF s' recs ∧ s'.back = s.back ∧ s'.cap = s.cap ∧ s'.mem = s.mem ∧
      FrontOk s' recs r := by
  obtain ⟨cb, e, hwf1, c5, -⟩ := h.refreshC_spec
  rw [vfront_eq, e]
  dsimp only
  by_cases h8 : cb - s.front < 8
  · rw [if_pos h8]
    exact ⟨_, _, rfl, hwf1, rfl, rfl, rfl, by rw [c5 h8]; rfl⟩
  · rw [if_neg h8]
    by_cases ht : is_tail (read64 s.mem (s.front % s.cap)) = true
    · -- unused tail at front_: skip it
      rw [if_pos ht]
      obtain ⟨hpop, hwf2, h0⟩ := vpop_marker _ recs hwf1 h8 ht
      obtain ⟨cb3, e3, hwf3, d5, -⟩ := hwf2.refreshC_spec
      dsimp only at hpop e3 h0
      rw [hpop]
      dsimp only
      rw [e3]
      dsimp only
      by_cases h8' : cb3 - (s.front + (s.cap - s.front % s.cap)) < 8
      · rw [if_pos h8']
        exact ⟨_, _, rfl, hwf3, rfl, rfl, rfl, by rw [d5 h8']; rfl⟩
      · rw [if_neg h8']
        exact ⟨_, _, rfl, hwf3, rfl, rfl, rfl, front_some_ok _ recs hwf3 (.inl h0) h8'⟩
    · rw [if_neg ht]
      exact ⟨_, _, rfl, hwf1, rfl, rfl, rfl, front_some_ok _ recs hwf1 (.inr (by simpa using ht)) h8⟩

/-! ### Whole operations and runs -/

/-- The consumer's work-loop body: `front()`, read the record through the returned pointer and size,
    `pop_front()`. -/
def vconsume (s : VSt) : VSt × Option (List Byte) :=
  match vfront s with
  | (s1, none) => (s1, none)
  | (s1, some (p, sz)) => ((vpop s1).1, some (readBytes s1.mem p sz.toNat))

theorem vconsume_spec (s : VSt) (recs : List (List Byte)) (h : WF s recs) :
    ∃ s' r, vconsume s = (s', r) ∧ s'.cap = s.cap ∧
      match recs with
      | [] => r = none ∧ WF s' []
      | data :: rest => r = some data ∧ WF s' rest := by
  obtain ⟨s1, r1, hvf, hwf1, -, hc1, -, hok⟩ := vfront_spec s recs h
  unfold vconsume
  rw [hvf]
  cases recs with
  | nil =>
    simp only [FrontOk] at hok
    subst hok
    exact ⟨_, _, rfl, hc1, rfl, hwf1⟩
  | cons data rest =>
    obtain ⟨p, rfl, hbytes, -, hdr⟩ := hok
    obtain ⟨s2, hpop, hwf2, -, hc2, -⟩ := vpop_record s1 data rest hwf1 hdr
    refine ⟨_, _, rfl, ?_, ?_, ?_⟩
    · rw [hpop]; exact hc2.trans hc1
    · rw [size_toNat _ (hwf1.len_lt List.mem_cons_self), hbytes]
    · rw [hpop]; exact hwf2

/-- A client program: pushes of byte records and consumptions, in any order. -/
inductive VOp
  | push (data : List Byte)
  | consume

/-- Run a program; returns the final state, the records whose push succeeded and the records
    consumed, both in program order. -/
def vrun : VSt → List VOp → VSt × List (List Byte) × List (List Byte)
  | s, [] => (s, [], [])
  | s, .push d :: ops =>
    let r := vrun (vpushData s d).1 ops
    (r.1, if (vpushData s d).2 then d :: r.2.1 else r.2.1, r.2.2)
  | s, .consume :: ops =>
    let r := vrun (vconsume s).1 ops
    (r.1, r.2.1, match (vconsume s).2 with | some d => d :: r.2.2 | none => r.2.2)

/-- Every run is an exact FIFO of byte records: what was in the buffer followed by what was pushed
    successfully equals what was consumed followed by what is still in the buffer. -/
theorem vrun_fifo (ops : List VOp) (s : VSt) (q : List (List Byte)) (h : WF s q)
    (hlen : ∀ d, VOp.push d ∈ ops → d.length < 2 ^ 63) :
    ∃ q', WF (vrun s ops).1 q' ∧ q ++ (vrun s ops).2.1 = (vrun s ops).2.2 ++ q' := by
  induction ops generalizing s q with
  | nil => exact ⟨q, h, by simp [vrun]⟩
  | cons op ops ih =>
    have hrest : ∀ d', VOp.push d' ∈ ops → d'.length < 2 ^ 63 := fun d' hm => hlen d' (by simp [hm])
    cases op with
    | push d =>
      obtain ⟨-, -, hok, hfail⟩ :=
        vpushData_spec s q d h (hlen d (by simp)) (vpushData s d).1 (vpushData s d).2 rfl
      simp only [vrun]
      cases hres : (vpushData s d).2 with
      | true =>
        obtain ⟨q', hwf', he⟩ := ih _ _ (hok hres).1 hrest
        exact ⟨q', hwf', by simpa using he⟩
      | false =>
        obtain ⟨q', hwf', he⟩ := ih _ _ (hfail hres).1 hrest
        exact ⟨q', hwf', by simpa using he⟩
    | consume =>
      obtain ⟨s1, r, hc, -, hm⟩ := vconsume_spec s q h
      simp only [vrun, hc]
      cases q with
      | nil =>
        obtain ⟨rfl, hwf1⟩ := hm
        obtain ⟨q', hwf', he⟩ := ih _ _ hwf1 hrest
        exact ⟨q', hwf', by simpa using he⟩
      | cons d rest =>
        obtain ⟨rfl, hwf1⟩ := hm
        obtain ⟨q', hwf', he⟩ := ih _ _ hwf1 hrest
        exact ⟨q', hwf', by simp [he]⟩

end CdsVerif.Algo.Ring.Void
