/-
  Inductive invariant of the typed ring-buffer model and the lemmas about cells, batches and ghost lists.
-/
import CdsVerif.Algo.Ring.Model
import CdsVerif.Gen.RingBuffer
namespace CdsVerif.Algo.Ring
open CdsVerif.Machine CdsVerif.Spec

/-! ### Arithmetic on cell indices -/

/-- Two logical positions less than one capacity apart occupy different cells. -/
theorem mod_ne_of_lt {cap a b : Nat} (h1 : a < b) (h2 : b < a + cap) : a % cap ≠ b % cap := by
  intro h
  have h3 : (b - a) % cap = 0 := Nat.sub_mod_eq_zero_of_mod_eq h.symm
  have h4 : (b - a) % cap = b - a := Nat.mod_eq_of_lt (by omega)
  omega

/-! ### Cells -/

theorem writeCells_other (buf : Nat → Int) (cap b : Nat) (vs : List Int) (c : Nat)
    (h : ∀ i, i < vs.length → (b + i) % cap ≠ c) : writeCells buf cap b vs c = buf c := by
  induction vs generalizing buf b with
  | nil => rfl
  | cons v vs ih =>
    simp only [writeCells]
    rw [ih]
    · have := h 0 (by simp)
      simp at this
      simp [upd]; intro hc; exact absurd hc.symm this
    · intro i hi
      have := h (i + 1) (by simp; omega)
      rwa [show b + (i + 1) = b + 1 + i by omega] at this

theorem writeCells_get (buf : Nat → Int) (cap b : Nat) (vs : List Int) (hlen : vs.length ≤ cap)
    (i : Nat) (hi : i < vs.length) : writeCells buf cap b vs ((b + i) % cap) = vs[i] := by
  induction vs generalizing buf b i with
  | nil => simp at hi
  | cons v vs ih =>
    simp only [writeCells]
    cases i with
    | zero =>
      rw [writeCells_other]
      · simp
      · intro j hj
        simp only [List.length_cons] at hlen
        exact (mod_ne_of_lt (by omega) (by omega)).symm
    | succ i =>
      simp only [List.length_cons] at hlen hi
      have := ih (upd buf (b % cap) v) (b + 1) (by omega) i (by omega)
      rw [show b + 1 + i = b + (i + 1) by omega] at this
      simpa using this

@[simp] theorem readCells_length (buf : Nat → Int) (cap f k : Nat) : (readCells buf cap f k).length = k := by
  simp [readCells]

theorem readCells_getElem (buf : Nat → Int) (cap f k i : Nat) (h : i < (readCells buf cap f k).length) :
    (readCells buf cap f k)[i] = buf ((f + i) % cap) := by
  simp [readCells]

/-- Cells `f … f+k-1` hold `l[f …]`: reading them yields that segment of `l`. -/
theorem readCells_eq (buf : Nat → Int) (cap f k : Nat) (l : List Int) (hk : f + k ≤ l.length)
    (hc : ∀ j, f ≤ j → j < f + k → l[j]? = some (buf (j % cap))) :
    readCells buf cap f k = (l.drop f).take k := by
  apply List.ext_getElem
  · simp; omega
  · intro i h1 h2
    rw [readCells_getElem]
    simp only [readCells_length] at h1
    have := hc (f + i) (by omega) (by omega)
    rw [List.getElem?_eq_getElem (by omega)] at this
    simp only [Option.some.injEq] at this
    simp [← this]

/-! ### The invariant -/

structure RingInv (s : St) : Prop where
  cap_pos : 0 < s.cap
  front_eq : s.front = s.popped.length
  back_eq : s.back = s.pushed.length
  /-- the producer's view of `front_` is conservative -/
  pfront_le : s.pfront ≤ s.front
  /-- `cback_ - front` never underflows -/
  front_le : s.front ≤ s.cback
  /-- the consumer's view of `back_` is conservative -/
  cback_le : s.cback ≤ s.back
  /-- `pfront_ + capacity() - back` never underflows; with `pfront_le`: at most `cap` elements in flight -/
  back_le : s.back ≤ s.pfront + s.cap
  /-- the live cells hold the pushed, not yet popped elements -/
  content : ∀ j, s.front ≤ j → j < s.back → s.pushed[j]? = some (s.buf (j % s.cap))
  fifo : s.popped = s.pushed.take s.front
  p_ldFront : ∀ vs b, s.pp = .ldFront vs b → b = s.back
  p_stBack : ∀ vs b, s.pp = .stBack vs b → b = s.back ∧ b + vs.length ≤ s.pfront + s.cap
  c_ldFront : ∀ v, s.cp = .ldFront (.popf2 v) → s.front < s.cback ∧ s.pushed[s.front]? = some v
  c_ldBack : ∀ op f, s.cp = .ldBack op f → f = s.front ∧ (∀ v, op = .popf2 v → s.pushed[f]? = some v)
  c_stFront : ∀ k f, s.cp = .stFront k f → f = s.front ∧ f + k ≤ s.cback
  c_stFrontPF : ∀ v f, s.cp = .stFrontPF v f → f = s.front ∧ f < s.cback ∧ s.pushed[f]? = some v

theorem inv_init (cap : Nat) (h : 0 < cap) : RingInv (init cap) := by
  constructor <;> intros <;> simp_all [init]

theorem consOf_ne_popf2 (op : GOp) (c : COp) (h : consOf op = some c) (v : Int) : c ≠ .popf2 v := by
  unfold consOf at h
  split at h <;> simp at h <;> subst h <;> simp

/-- The `back_` store: the batch lands in cells that hold nothing live, and extends `pushed`. -/
theorem content_push (s : St) (h : RingInv s) (vs : List Int) (hb : s.back + vs.length ≤ s.pfront + s.cap)
    (j : Nat) (h1 : s.front ≤ j) (h2 : j < s.back + vs.length) :
    (s.pushed ++ vs)[j]? = some (writeCells s.buf s.cap s.back vs (j % s.cap)) := by
  have hpf := h.pfront_le
  have hfb : s.front ≤ s.back := Nat.le_trans h.front_le h.cback_le
  by_cases hj : j < s.back
  · rw [writeCells_other]
    · rw [List.getElem?_append_left (by rw [← h.back_eq]; exact hj)]
      exact h.content j h1 hj
    · intro i hi
      exact (mod_ne_of_lt (by omega) (by omega)).symm
  · have hlen : vs.length ≤ s.cap := by omega
    obtain ⟨i, rfl⟩ : ∃ i, j = s.back + i := ⟨j - s.back, by omega⟩
    rw [writeCells_get _ _ _ _ hlen i (by omega)]
    rw [List.getElem?_append_right (by rw [← h.back_eq]; omega)]
    rw [← h.back_eq, show s.back + i - s.back = i by omega]
    exact List.getElem?_eq_getElem (by omega)

/-- The `front_` store: the cells read are the next `k` pushed elements. -/
theorem fifo_pop (s : St) (h : RingInv s) (k : Nat) (hk : s.front + k ≤ s.cback) :
    s.popped ++ readCells s.buf s.cap s.front k = s.pushed.take (s.front + k) := by
  have hcb := h.cback_le
  rw [readCells_eq s.buf s.cap s.front k s.pushed (by rw [← h.back_eq]; omega)
    (fun j h1 h2 => h.content j h1 (by omega))]
  rw [h.fifo, List.take_add]

theorem inv_invoke (s : St) (t : Tid) (op : GOp) (s' : St)
    (h : RingInv s) (hs1 : invoke s t op = some s') : RingInv s' := by
  unfold invoke at hs1
  split at hs1
  · split at hs1
    · cases hs1
      exact { h with p_ldFront := nofun, p_stBack := nofun }
    · cases hs1
  · split at hs1
    · split at hs1
      · rename_i c hcp hc
        cases hs1
        exact { h with
          c_ldFront := fun v e => absurd (CPC.ldFront.inj e) (consOf_ne_popf2 op c hc v)
          c_ldBack := nofun, c_stFront := nofun, c_stFrontPF := nofun }
      · cases hs1
    · cases hs1

theorem inv_result (s : St) (t : Tid) (r : St × GRet)
    (h : RingInv s) (hr : result s t = some r) : RingInv r.1 := by
  unfold result at hr
  split at hr
  · split at hr
    · cases hr
      exact { h with p_ldFront := nofun, p_stBack := nofun }
    · cases hr
  · split at hr
    · split at hr
      · cases hr
        exact { h with c_ldFront := nofun, c_ldBack := nofun, c_stFront := nofun, c_stFrontPF := nofun }
      · cases hr
    · cases hr

/-- Producer: `back_.load`. -/
theorem inv_p_ldBack (s : St) (vs : List Int) (h : RingInv s) (_hpp : s.pp = .ldBack vs) (pp' : PPC)
    (hpp' : pp' = .ldFront vs s.back ∨ pp' = .stBack vs s.back)
    (hst : pp' = .stBack vs s.back → ¬ s.pfront + s.cap - s.back < vs.length) :
    RingInv { s with pp := pp' } :=
  { h with
    p_ldFront := fun vs' b e => by
      rcases hpp' with rfl | rfl <;> cases e
      rfl
    p_stBack := fun vs' b e => by
      have hroom := hst
      rcases hpp' with rfl | rfl <;> cases e
      refine ⟨rfl, ?_⟩
      show s.back + vs.length ≤ s.pfront + s.cap
      have := h.back_le
      have := hroom rfl
      omega }

/-- Producer: `pfront_ = front_.load`. -/
theorem inv_p_ldFront (s : St) (vs : List Int) (b : Nat) (h : RingInv s) (hpp : s.pp = .ldFront vs b) (pp' : PPC)
    (hpp' : pp' = .done [0] ∨ pp' = .stBack vs b)
    (hst : pp' = .stBack vs b → ¬ s.front + s.cap - b < vs.length) :
    RingInv { s with pfront := s.front, pp := pp' } :=
  have hb : b = s.back := h.p_ldFront vs b hpp
  have hroom : s.back ≤ s.front + s.cap := Nat.le_trans h.back_le (Nat.add_le_add_right h.pfront_le _)
  { h with
    pfront_le := Nat.le_refl _
    back_le := hroom
    p_ldFront := fun vs' b' e => by rcases hpp' with rfl | rfl <;> cases e
    p_stBack := fun vs' b' e => by
      have hfree := hst
      rcases hpp' with rfl | rfl <;> cases e
      refine ⟨hb, ?_⟩
      show b + vs.length ≤ s.front + s.cap
      have := hfree rfl
      omega }

/-- Producer: copy the batch, `back_.store`. -/
theorem inv_p_stBack (s : St) (vs : List Int) (b : Nat) (h : RingInv s) (hpp : s.pp = .stBack vs b) :
    RingInv { s with buf := writeCells s.buf s.cap b vs, back := b + vs.length,
                     pushed := s.pushed ++ vs, pp := .done [1] } := by
  have hb := h.p_stBack vs b hpp
  obtain ⟨rfl, hb⟩ := hb
  have hcont := content_push s h vs hb
  obtain ⟨h1, h2, h3, h4, h5, h6, h7, h8, h9, h10, h11, h12, h13, h14, h15⟩ := h
  constructor <;> intros <;> dsimp only at * <;> grind

/-- Consumer: thread-private continuation once enough elements are known to be present. -/
theorem inv_proceed (s : St) (op : COp) (f : Nat) (h : RingInv { s with cp := .idle }) (hf : f = s.front)
    (hn : f + need op ≤ s.cback) (hv : ∀ v, op = .popf2 v → s.pushed[f]? = some v) :
    RingInv (proceed s op f) := by
  obtain ⟨h1, h2, h3, h4, h5, h6, h7, h8, h9, h10, h11, h12, h13, h14, h15⟩ := h
  cases op <;> simp only [proceed, need] at * <;> constructor <;> intros <;> grind

/-- The consumer's program counter does not matter for the invariant when it is reset. -/
theorem inv_cp_idle (s : St) (h : RingInv s) : RingInv { s with cp := .idle } :=
  { h with c_ldFront := nofun, c_ldBack := nofun, c_stFront := nofun, c_stFrontPF := nofun }

theorem inv_c_ldFront (s : St) (op : COp) (h : RingInv s) (hcp : s.cp = .ldFront op) (r : St × Ev)
    (hr : (if s.cback - s.front < need op then some ({ s with cp := .ldBack op s.front }, evLd "front" s.front)
      else some (proceed s op s.front, evLd "front" s.front)) = some r) : RingInv r.1 := by
  split at hr
  · cases hr
    exact { h with
      c_ldFront := nofun
      c_ldBack := fun op' f e => by
        cases e
        exact ⟨rfl, fun v ev => (h.c_ldFront v (ev ▸ hcp)).2⟩
      c_stFront := nofun, c_stFrontPF := nofun }
  · simp at hr; subst hr
    have hfl := h.front_le
    have hv := h.c_ldFront
    exact inv_proceed s op s.front (inv_cp_idle s h) rfl (by omega) (by grind)

theorem inv_c_ldBack (s : St) (op : COp) (f : Nat) (h : RingInv s) (hcp : s.cp = .ldBack op f) (r : St × Ev)
    (hr : (if s.back - f < need op then some ({ s with cback := s.back, cp := .done [0] }, evLd "back" s.back)
      else some (proceed { s with cback := s.back } op f, evLd "back" s.back)) = some r) : RingInv r.1 := by
  obtain ⟨hf, hv⟩ := h.c_ldBack op f hcp
  split at hr
  · cases hr
    exact { h with
      front_le := Nat.le_trans h.front_le h.cback_le
      cback_le := Nat.le_refl _
      c_ldFront := nofun, c_ldBack := nofun, c_stFront := nofun, c_stFrontPF := nofun }
  · simp at hr; subst hr
    have hfl := h.front_le
    have hcl := h.cback_le
    refine inv_proceed _ op f ?_ hf (by dsimp only; omega) hv
    obtain ⟨h1, h2, h3, h4, h5, h6, h7, h8, h9, h10, h11, h12, h13, h14, h15⟩ := h
    constructor <;> intros <;> grind

/-- Consumer: copy `k` elements out, `front_.store`. -/
theorem inv_c_stFront (s : St) (k f : Nat) (h : RingInv s) (hcp : s.cp = .stFront k f) :
    RingInv { s with front := f + k, popped := s.popped ++ readCells s.buf s.cap f k,
                     cp := .done (1 :: readCells s.buf s.cap f k) } := by
  obtain ⟨rfl, hk⟩ := h.c_stFront k f hcp
  have hfifo := fifo_pop s h k hk
  obtain ⟨h1, h2, h3, h4, h5, h6, h7, h8, h9, h10, h11, h12, h13, h14, h15⟩ := h
  constructor <;> intros <;> dsimp only at * <;> grind

/-- Consumer: `front_.store` of `pop_front()`. -/
theorem inv_c_stFrontPF (s : St) (v : Int) (f : Nat) (h : RingInv s) (hcp : s.cp = .stFrontPF v f) :
    RingInv { s with front := f + 1, popped := s.popped ++ [v], cp := .done [1, v] } := by
  obtain ⟨rfl, hk, hv⟩ := h.c_stFrontPF v f hcp
  have hfifo : s.popped ++ [v] = s.pushed.take (s.front + 1) := by
    rw [List.take_add_one, hv, h.fifo]; rfl
  obtain ⟨h1, h2, h3, h4, h5, h6, h7, h8, h9, h10, h11, h12, h13, h14, h15⟩ := h
  constructor <;> intros <;> dsimp only at * <;> grind

theorem inv_step' (s : St) (t : Tid) (r : St × Ev)
    (h : RingInv s) (hr : step s t = some r) : RingInv r.1 := by
  unfold step at hr
  split at hr
  · split at hr
    · rename_i vs hpp
      split at hr <;> simp at hr <;> subst hr
      · exact inv_p_ldBack s vs h hpp _ (.inl rfl) (by simp)
      · exact inv_p_ldBack s vs h hpp _ (.inr rfl) (by simp; omega)
    · rename_i vs b hpp
      split at hr <;> simp at hr <;> subst hr
      · exact inv_p_ldFront s vs b h hpp _ (.inl rfl) (by simp)
      · exact inv_p_ldFront s vs b h hpp _ (.inr rfl) (by simp; omega)
    · rename_i vs b hpp
      simp at hr; subst hr
      exact inv_p_stBack s vs b h hpp
    · simp at hr
  · split at hr
    · split at hr
      · rename_i op hcp
        exact inv_c_ldFront s op h hcp r hr
      · rename_i op f hcp
        exact inv_c_ldBack s op f h hcp r hr
      · rename_i k f hcp
        simp at hr; subst hr
        exact inv_c_stFront s k f h hcp
      · rename_i v f hcp
        simp at hr; subst hr
        exact inv_c_stFrontPF s v f h hcp
      · simp at hr
    · simp at hr

theorem inv_step (s : St) (t : Tid) (a : Act) (s' : St) (o : Obs)
    (h : RingInv s) (hap : model.apply s t a = some (s', o)) : RingInv s' := by
  rcases Model.apply_cases hap with ⟨op, -, hi, -⟩ | ⟨e, -, hs, -⟩ | ⟨r, -, hr, -⟩
  · exact inv_invoke s t op s' h hi
  · exact inv_step' s t (s', e) h hs
  · exact inv_result s t (s', r) h hr

theorem inv_reachable (cap : Nat) (hcap : 0 < cap) (s : St) (h : model.Reachable (init cap) s) : RingInv s :=
  model.inv_reachable RingInv (init cap) (inv_init cap hcap) inv_step s h

/-! ### Consequences of the invariant -/

theorem fifo_prefix (s : St) (h : RingInv s) : s.pushed = s.popped ++ s.pushed.drop s.popped.length := by
  rw [← h.front_eq]
  conv => rhs; rw [h.fifo]
  exact (List.take_append_drop _ _).symm

theorem buffer_content (s : St) (h : RingInv s) :
    readCells s.buf s.cap s.front (s.back - s.front) = s.pushed.drop s.popped.length := by
  have hfb : s.front ≤ s.back := Nat.le_trans h.front_le h.cback_le
  rw [readCells_eq s.buf s.cap s.front (s.back - s.front) s.pushed (by rw [← h.back_eq]; omega)
    (fun j h1 h2 => h.content j h1 (by omega))]
  rw [← h.front_eq, List.take_of_length_le]
  simp [← h.back_eq]

theorem in_flight_le_cap (s : St) (h : RingInv s) : s.front ≤ s.back ∧ s.back - s.front ≤ s.cap := by
  have := h.pfront_le; have := h.front_le; have := h.cback_le; have := h.back_le
  omega

/-! ### Transitions: who can fail, and who writes which cells -/

theorem proceed_frame (s : St) (op : COp) (f : Nat) :
    (proceed s op f).buf = s.buf ∧ (proceed s op f).pp = s.pp ∧ (proceed s op f).cap = s.cap ∧
    (proceed s op f).front = s.front ∧ (proceed s op f).back = s.back ∧ (proceed s op f).cp ≠ .done [0] := by
  cases op <;> simp [proceed]

/-- An invocation starts the caller's operation and touches nothing else. -/
theorem invoke_frame {s s' : St} {t : Tid} {op : GOp} (hs : invoke s t op = some s') :
    s'.buf = s.buf ∧ s'.cap = s.cap ∧ (s'.pp = s.pp ∨ ∃ vs, s'.pp = .ldBack vs) ∧
      (s'.cp = s.cp ∨ ∃ c, s'.cp = .ldFront c) := by
  unfold invoke at hs
  split at hs
  · split at hs
    · cases hs
      exact ⟨rfl, rfl, .inr ⟨_, rfl⟩, .inl rfl⟩
    · cases hs
  · split at hs
    · split at hs
      · cases hs
        exact ⟨rfl, rfl, .inl rfl, .inr ⟨_, rfl⟩⟩
      · cases hs
    · cases hs

/-- A return makes the caller idle and touches nothing else. -/
theorem result_frame {s : St} {t : Tid} {r : St × GRet} (hr : result s t = some r) :
    r.1.buf = s.buf ∧ r.1.cap = s.cap ∧ (r.1.pp = s.pp ∨ r.1.pp = .idle) ∧ (r.1.cp = s.cp ∨ r.1.cp = .idle) := by
  unfold result at hr
  split at hr
  · split at hr
    · cases hr
      exact ⟨rfl, rfl, .inr rfl, .inl rfl⟩
    · cases hr
  · split at hr
    · split at hr
      · cases hr
        exact ⟨rfl, rfl, .inl rfl, .inr rfl⟩
      · cases hr
    · cases hr

/-- A step of the consumer leaves the producer's side and the cells alone. -/
theorem step_frame_consumer {s : St} {t : Tid} {r : St × Ev} (hr : step s t = some r) (ht : t ≠ 0) :
    r.1.pp = s.pp ∧ r.1.buf = s.buf ∧ r.1.cap = s.cap := by
  unfold step at hr
  rw [if_neg ht] at hr
  split at hr
  · split at hr
    · split at hr <;> cases hr
      · exact ⟨rfl, rfl, rfl⟩
      · exact ⟨(proceed_frame _ _ _).2.1, (proceed_frame _ _ _).1, (proceed_frame _ _ _).2.2.1⟩
    · split at hr <;> cases hr
      · exact ⟨rfl, rfl, rfl⟩
      · exact ⟨(proceed_frame _ _ _).2.1, (proceed_frame _ _ _).1, (proceed_frame _ _ _).2.2.1⟩
    · cases hr
      exact ⟨rfl, rfl, rfl⟩
    · cases hr
      exact ⟨rfl, rfl, rfl⟩
    · cases hr
  · cases hr

/-- A step of the producer leaves the consumer's program counter alone. -/
theorem step_frame_producer {s : St} {r : St × Ev} (hr : step s 0 = some r) : r.1.cp = s.cp := by
  unfold step at hr
  rw [if_pos rfl] at hr
  split at hr
  · split at hr <;> cases hr <;> rfl
  · split at hr <;> cases hr <;> rfl
  · cases hr
    rfl
  · cases hr

/-- The producer's `done [0]` (push returned false) is entered only by the producer's load of `front_`,
    and only when the value loaded leaves fewer than `count` free cells. -/
theorem apply_push_fail (s : St) (t : Tid) (a : Act) (s' : St) (o : Obs)
    (hap : model.apply s t a = some (s', o)) (hold : s.pp ≠ .done [0]) (hnew : s'.pp = .done [0]) :
    t = 0 ∧ a = .step ∧ ∃ vs b, s.pp = .ldFront vs b ∧ o = .ev (evLd "front" s.front) ∧
      s.front + s.cap - b < vs.length := by
  rcases Model.apply_cases hap with ⟨op, rfl, hs1, -⟩ | ⟨e, rfl, hr, rfl⟩ | ⟨r, rfl, hr, -⟩
  · rcases (invoke_frame hs1).2.2.1 with e | ⟨vs, e⟩
    · exact absurd (e ▸ hnew) hold
    · rw [e] at hnew
      cases hnew
  · simp only [model] at hr
    by_cases ht : t = 0
    · subst ht
      unfold step at hr
      rw [if_pos rfl] at hr
      split at hr
      · split at hr <;> cases hr <;> cases hnew
      · rename_i vs b hpp
        split at hr <;> cases hr
        · exact ⟨rfl, rfl, vs, b, hpp, rfl, by assumption⟩
        · cases hnew
      · cases hr
        cases hnew
      · cases hr
    · exact absurd ((step_frame_consumer hr ht).1 ▸ hnew) hold
  · rcases (result_frame hr).2.2.1 with e | e
    · exact absurd (e ▸ hnew) hold
    · rw [e] at hnew
      cases hnew

/-- The consumer's `done [0]` (pop / front returned false / nullptr) is entered only by the consumer's load
    of `back_`, and only when the value loaded shows fewer than the needed number of elements. -/
theorem apply_pop_fail (s : St) (t : Tid) (a : Act) (s' : St) (o : Obs)
    (hap : model.apply s t a = some (s', o)) (hold : s.cp ≠ .done [0]) (hnew : s'.cp = .done [0]) :
    t = 1 ∧ a = .step ∧ ∃ op f, s.cp = .ldBack op f ∧ o = .ev (evLd "back" s.back) ∧
      s.back - f < need op := by
  rcases Model.apply_cases hap with ⟨op, rfl, hs1, -⟩ | ⟨e, rfl, hr, rfl⟩ | ⟨r, rfl, hr, -⟩
  · rcases (invoke_frame hs1).2.2.2 with e | ⟨c, e⟩
    · exact absurd (e ▸ hnew) hold
    · rw [e] at hnew
      cases hnew
  · simp only [model] at hr
    by_cases ht : t = 0
    · subst ht
      exact absurd (step_frame_producer hr ▸ hnew) hold
    · unfold step at hr
      rw [if_neg ht] at hr
      split at hr
      · split at hr
        · split at hr <;> cases hr
          · cases hnew
          · exact absurd hnew (proceed_frame _ _ _).2.2.2.2.2
        · rename_i op f hcp
          split at hr <;> cases hr
          · exact ⟨by assumption, rfl, op, f, hcp, rfl, by assumption⟩
          · exact absurd hnew (proceed_frame _ _ _).2.2.2.2.2
        · cases hr
          cases hnew
        · cases hr
          cases hnew
        · cases hr
      · cases hr
  · rcases (result_frame hr).2.2.2 with e | e
    · exact absurd (e ▸ hnew) hold
    · rw [e] at hnew
      cases hnew

/-- Only the producer's copy step changes buffer cells, and it writes exactly its batch. -/
theorem apply_buf (s : St) (t : Tid) (a : Act) (s' : St) (o : Obs)
    (hap : model.apply s t a = some (s', o)) :
    (s'.buf = s.buf ∧ s'.cap = s.cap) ∨
    (t = 0 ∧ a = .step ∧ ∃ vs b, s.pp = .stBack vs b ∧ s'.buf = writeCells s.buf s.cap b vs ∧ s'.cap = s.cap) := by
  rcases Model.apply_cases hap with ⟨op, rfl, hs1, -⟩ | ⟨e, rfl, hr, rfl⟩ | ⟨r, rfl, hr, -⟩
  · exact .inl ⟨(invoke_frame hs1).1, (invoke_frame hs1).2.1⟩
  · simp only [model] at hr
    by_cases ht : t = 0
    · subst ht
      unfold step at hr
      rw [if_pos rfl] at hr
      split at hr
      · split at hr <;> cases hr <;> exact .inl ⟨rfl, rfl⟩
      · split at hr <;> cases hr <;> exact .inl ⟨rfl, rfl⟩
      · rename_i vs b hpp
        cases hr
        exact .inr ⟨rfl, rfl, vs, b, hpp, rfl, rfl⟩
      · cases hr
    · exact .inl (step_frame_consumer hr ht).2
  · exact .inl ⟨(result_frame hr).1, (result_frame hr).2.1⟩

/-- The cells the producer is about to write are disjoint from the live cells `front_ … back_ - 1`. -/
theorem stBack_disjoint (s : St) (h : RingInv s) (vs : List Int) (b : Nat) (hpp : s.pp = .stBack vs b)
    (i : Nat) (hi : i < vs.length) (j : Nat) (h1 : s.front ≤ j) (h2 : j < s.back) :
    (b + i) % s.cap ≠ j % s.cap := by
  obtain ⟨rfl, hb⟩ := h.p_stBack vs b hpp
  have := h.pfront_le
  exact (mod_ne_of_lt (by omega) (by omega)).symm

/-! ### The translated size / tail-marker helpers of `WeakRingBuffer<void>` (Gen/RingBuffer.lean) -/

section Helpers
open CdsVerif.Gen.RingBuffer

theorem sh63 : (((8#64) * (8#64)) - (1#64)).toNat % 64 = 63 := by decide
theorem tp63 : (1#64) <<< 63 = BitVec.twoPow 64 63 := (BitVec.twoPow_eq 64 63).symm
theorem mask63 : BitVec.twoPow 64 63 - 1#64 = BitVec.ofNat 64 (2^63 - 1) := by decide

theorem lsb_mask63 (i : Nat) : (BitVec.twoPow 64 63 - 1#64).getLsbD i = decide (i < 63) := by
  rw [mask63, BitVec.getLsbD_ofNat, Nat.testBit_two_pow_sub_one]
  by_cases h : i < 63
  · have : i < 64 := by omega
    simp [h, this]
  · simp [h]

theorem lsb_not7 (i : Nat) : (~~~((8#64) - (1#64))).getLsbD i = (decide (i < 64) && decide (3 ≤ i)) := by
  have : (8#64) - (1#64) = BitVec.ofNat 64 (2^3 - 1) := by decide
  rw [this, BitVec.getLsbD_not, BitVec.getLsbD_ofNat, Nat.testBit_two_pow_sub_one]
  by_cases h : i < 3
  · have : i < 64 := by omega
    have h' : ¬ 3 ≤ i := by omega
    simp [h, this, h']
  · have h' : 3 ≤ i := by omega
    simp [h, h']

theorem bit63 (x : BitVec 64) (h : x.toNat < 2^63) : x.getLsbD 63 = false := by
  rw [← BitVec.testBit_toNat]; exact Nat.testBit_lt_two_pow h

theorem is_tail_of_lt (x : BitVec 64) (h : x.toNat < 2^63) : is_tail x = false := by
  simp only [is_tail, sh63, tp63, BitVec.and_twoPow, bit63 x h]
  decide

theorem is_tail_make_tail (x : BitVec 64) : is_tail (make_tail x) = true := by
  simp only [is_tail, make_tail, sh63, tp63, BitVec.and_twoPow, BitVec.getLsbD_or, BitVec.getLsbD_twoPow]
  simp

theorem untail_make_tail (x : BitVec 64) (h : x.toNat < 2^63) : untail (make_tail x) = x := by
  simp only [untail, make_tail, sh63, tp63]
  apply BitVec.eq_of_getLsbD_eq
  intro i hi
  rw [BitVec.getLsbD_and, BitVec.getLsbD_or, lsb_mask63, BitVec.getLsbD_twoPow]
  by_cases h63 : i = 63
  · subst h63; rw [bit63 x h]; simp
  · have : i < 63 := by omega
    simp [this]; omega

/-- `y & ~7` clears the three low bits. -/
theorem and_not7 (y : BitVec 64) : y &&& ~~~((8#64) - (1#64)) = (y >>> 3) <<< 3 := by
  apply BitVec.eq_of_getLsbD_eq
  intro i hi
  rw [BitVec.getLsbD_and, lsb_not7, BitVec.getLsbD_shiftLeft, BitVec.getLsbD_ushiftRight]
  by_cases h3 : i < 3
  · have : ¬ 3 ≤ i := by omega
    simp [h3, this]
  · have : 3 ≤ i := by omega
    simp [h3, this, hi]

/-- `calc_real_size`: payload rounded up to a multiple of 8, plus the 8-byte header. -/
theorem calc_real_size_toNat (x : BitVec 64) (h : x.toNat < 2^63) :
    (calc_real_size x).toNat = (x.toNat + 7) / 8 * 8 + 8 := by
  simp only [calc_real_size, and_not7]
  simp only [BitVec.toNat_add, BitVec.toNat_shiftLeft, BitVec.toNat_ushiftRight, BitVec.toNat_sub,
    BitVec.toNat_ofNat, Nat.shiftLeft_eq, Nat.shiftRight_eq_div_pow]
  omega

end Helpers

/-- `capacity()` is constant. -/
theorem cap_reachable (cap : Nat) (s : St) (h : model.Reachable (init cap) s) : s.cap = cap :=
  model.inv_reachable (fun s => s.cap = cap) (init cap) rfl
    (fun s t a s' o hs hap => by
      rcases apply_buf s t a s' o hap with ⟨-, hc⟩ | ⟨-, -, _, _, -, -, hc⟩
      · exact hc.trans hs
      · exact hc.trans hs) s h

/-- No transition changes a live cell `front_ ≤ j < back_`: only the producer's copy writes cells, and its batch
    lands outside the live region. -/
theorem apply_buf_live (s : St) (t : Tid) (a : Act) (s' : St) (o : Obs) (h : RingInv s)
    (hap : model.apply s t a = some (s', o)) (j : Nat) (h1 : s.front ≤ j) (h2 : j < s.back) :
    s'.buf (j % s.cap) = s.buf (j % s.cap) := by
  rcases apply_buf s t a s' o hap with ⟨hb, -⟩ | ⟨-, -, vs, b, hpp, hb, -⟩
  · rw [hb]
  · rw [hb]
    exact writeCells_other _ _ _ _ _ (fun i hi => stBack_disjoint s h vs b hpp i hi j h1 h2)

/-- The producer's load of `front_`: the push gives up iff the value loaded leaves fewer than `count` free cells
    behind the local `back`, and goes on to the copy otherwise. -/
theorem step_ldFront {s s' : St} {e : Ev} {vs : List Int} {b : Nat} (hpp : s.pp = .ldFront vs b)
    (hst : step s 0 = some (s', e)) :
    (s'.pp = .done [0] ↔ s.front + s.cap - b < vs.length) ∧ (s'.pp ≠ .done [0] → s'.pp = .stBack vs b) := by
  simp only [step, hpp, if_true] at hst
  split at hst
  · next hlt =>
    obtain ⟨rfl, -⟩ := Prod.mk.inj (Option.some.inj hst)
    exact ⟨⟨fun _ => hlt, fun _ => rfl⟩, fun hne => absurd rfl hne⟩
  · next hge =>
    obtain ⟨rfl, -⟩ := Prod.mk.inj (Option.some.inj hst)
    exact ⟨⟨fun hd => PPC.noConfusion hd, fun hlt => absurd hlt hge⟩, fun _ => rfl⟩

/-- A result is handed out only at `done`, and it is the result `done` holds. -/
theorem result_done {s s' : St} {t : Tid} {r : GRet} (h : result s t = some (s', r)) :
    (t = 0 ∧ s.pp = .done r) ∨ (t = 1 ∧ s.cp = .done r) := by
  unfold result at h
  split at h
  · next ht =>
    split at h
    · next hpp => obtain ⟨-, rfl⟩ := Prod.mk.inj (Option.some.inj h); exact .inl ⟨ht, hpp⟩
    · cases h
  · split at h
    · next ht =>
      split at h
      · next hcp => obtain ⟨-, rfl⟩ := Prod.mk.inj (Option.some.inj h); exact .inr ⟨ht, hcp⟩
      · cases h
    · cases h

end CdsVerif.Algo.Ring
