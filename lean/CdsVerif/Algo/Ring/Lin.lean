/-
  History-level linearizability of the typed single-producer / single-consumer `WeakRingBuffer` machine
  (`Algo/Ring/Model.lean`), property C12.

  Part 1 (`namespace Ring.LinX`, independent of the ring): the obligations of `Algo/QueueLin/GhostP.lean` for an
  ARBITRARY sequential specification on `List Int`, with the abstract state of the machine EQUAL to the state of the
  specification (GhostP relates them up to permutation, which an order-sensitive specification such as a bounded
  FIFO cannot use; `Algo/QueueLin/Ghost.lean` is fixed to the unbounded `fifo`): a linearization point is the exact
  transition of the specification, and `FailAt` is what holds at the instant at which an operation that answers `[0]`
  passes its linearization point (it need not imply emptiness).  The conclusions are those of the ghost-log
  construction of `Base/LPLin.lean`.

  Part 2: the instance.
    * The machine does not remember WHICH client operation it is executing (`push [5,6]` and `pushn [5,2]` run the
      same program counters), so the machine is paired with two ghost registers holding the operation invoked by
      the producer and by the consumer (`GS`, `gmodel`); `gmodel` has exactly the runs of `model` (`run_lift`, `run_proj`).
    * Sequential specification `ringSpec cap`, in the machine's own vocabulary, batches included: a push of the batch
      `vs` succeeds iff `|q| + |vs| ≤ cap` (appends `vs`) and answers `[0]` otherwise; `pop k` succeeds iff
      `k ≤ |q|` (removes and returns the first `k`); `front` peeks; `popf` (= `front(); pop_front()`) dequeues one.
    * Abstract queue: `pushed.drop front` (= the live cells, `Inv.buffer_content`).
    * Linearization points: push = the `back_` store (`stBack`), failing push = the re-load of `front_` that leaves
      fewer than `count` free cells (`ldFront → done [0]`); pop / popf = the `front_` store (`stFront`,
      `stFrontPF`), failing pop / front / popf = the re-load of `back_` that shows fewer than the needed elements
      (`ldBack → done [0]`); successful `front` = the load (of `front_` or `back_`) after which it reads the cell.
      No linearization is tentative.
    * `ring_linearizable`: every run is linearizable to `ringSpec cap` (any program, batches included).
    * `ring_linearizable_bfifo`: for programs of single-element operations the same history, with the operations
      renamed `push v ↦ enq v`, `pop / pop 1 / popn 1 / popf ↦ deq`, `front ↦ front`, is linearizable to
      `Spec.bfifo cap`.
-/
import CdsVerif.Algo.Ring.Inv
import CdsVerif.Algo.QueueLin.GhostP
namespace CdsVerif.Algo.Ring.LinX
open CdsVerif.Machine CdsVerif.Spec CdsVerif.Lin CdsVerif.Algo.QueueLin
open CdsVerif.Algo.QueueLinP (SpecL)

structure QSys (σ : Type) where
  spec : SpecL
  model : Model σ
  init : σ
  Inv : σ → Prop
  absQ : σ → List Int
  lpRet : σ → Tid → Option GRet
  postRet : σ → Tid → Option GRet
  opOf : σ → Tid → Option GOp
  FailAt : σ → Tid → Prop

variable {σ : Type}

/-- The bookkeeping of the threads other than `t` is not touched by an action of `t`. -/
structure Frame (Q : QSys σ) (s s' : σ) (t : Tid) : Prop where
  lp : ∀ t2, t2 ≠ t → Q.lpRet s' t2 = Q.lpRet s t2
  op : ∀ t2, t2 ≠ t → Q.opOf s' t2 = Q.opOf s t2

structure InvokeOK (Q : QSys σ) (s : σ) (t : Tid) (op : GOp) (s' : σ) : Prop where
  inv : Q.Inv s'
  frame : Frame Q s s' t
  was : Q.lpRet s t = none
  nowop : Q.opOf s' t = some op
  nowlp : Q.lpRet s' t = none
  abs : Q.absQ s' = Q.absQ s

structure StepOK (Q : QSys σ) (s : σ) (t : Tid) (s' : σ) : Prop where
  inv : Q.Inv s'
  frame : Frame Q s s' t
  /-- passing a linearization point = the transition of `spec` on the abstract state, with the result fixed there -/
  lp : Q.lpRet s t = none → ∀ r, Q.lpRet s' t = some r →
        ∃ op, Q.opOf s t = some op ∧ Q.spec.next (Q.absQ s) op r = some (Q.absQ s')
  nolp : (Q.lpRet s t ≠ none ∨ Q.lpRet s' t = none) → Q.absQ s' = Q.absQ s
  /-- only a tentative `[0]` can be withdrawn (never happens in the ring: no linearization is tentative) -/
  keep : ∀ r, Q.lpRet s t = some r → Q.lpRet s' t = some r ∨ (r = [0] ∧ Q.lpRet s' t = none)
  op : Q.postRet s' t = none → Q.opOf s' t = Q.opOf s t
  empty : Q.lpRet s t = none → Q.lpRet s' t = some [0] → Q.FailAt s t

structure ResultOK (Q : QSys σ) (s : σ) (t : Tid) (r : GRet) (s' : σ) : Prop where
  inv : Q.Inv s'
  frame : Frame Q s s' t
  was : Q.lpRet s t = some r
  nowlp : Q.lpRet s' t = none
  nowop : Q.opOf s' t = none
  abs : Q.absQ s' = Q.absQ s

structure QSys.OK (Q : QSys σ) : Prop where
  ret0 : ∀ q op q', Q.spec.next q op [0] = some q' → q' = q
  spec_init : Q.spec.init = []
  inv_init : Q.Inv Q.init
  abs_init : Q.absQ Q.init = []
  lp_init : ∀ t, Q.lpRet Q.init t = none
  op_init : ∀ t, Q.opOf Q.init t = none
  post_lp : ∀ s t r, Q.postRet s t = some r → Q.lpRet s t = some r
  post_op : ∀ s t r, Q.postRet s t = some r → Q.opOf s t = none
  lp_post : ∀ s t r, Q.lpRet s t = some r → r ≠ [0] → Q.postRet s t = some r
  invoke : ∀ s t op s', Q.Inv s → Q.model.invoke s t op = some s' → InvokeOK Q s t op s'
  step : ∀ s t s' ev, Q.Inv s → Q.model.step s t = some (s', ev) → StepOK Q s t s'
  result : ∀ s t s' r, Q.Inv s → Q.model.result s t = some (s', r) → ResultOK Q s t r s'

/-! ### The system as an instance of `Base/LPLin.lean` -/

/-- Specification state = abstract queue, results `[0]` inert. -/
@[reducible] def QSys.toLP (Q : QSys σ) : LPLin.Sys σ (List Int) where
  spec := Q.spec
  model := Q.model
  init := Q.init
  Inv := Q.Inv
  Abs := fun q s => q = Q.absQ s
  lpRet := Q.lpRet
  postRet := Q.postRet
  opOf := Q.opOf
  inert := fun _ r => r == [0]

theorem QSys.OK.toLP {Q : QSys σ} (hQ : Q.OK) : Q.toLP.OK where
  inert_ok := by
    intro op r hr q q' hn
    rw [beq_iff_eq.mp hr] at hn
    exact hQ.ret0 q op q' hn
  inv_init := hQ.inv_init
  abs_init := hQ.spec_init.trans hQ.abs_init.symm
  lp_init := hQ.lp_init
  op_init := hQ.op_init
  post_op := fun s t r _ => hQ.post_op s t r
  lp_post := by
    intro s t r _ hlp
    by_cases hr : r = [0]
    · exact .inr (.of_all fun _ => beq_iff_eq.mpr hr)
    · exact .inl (hQ.lp_post s t r hlp hr)
  invoke := by
    intro s t op s' hI hs
    obtain ⟨hinv, ⟨hflp, hfop⟩, hwas, hnowop, hnowlp, habs⟩ := hQ.invoke s t op s' hI hs
    exact ⟨hinv, ⟨hflp, hfop⟩, hwas, hnowop, hnowlp, fun q hq => hq.trans habs.symm⟩
  step := by
    intro s t s' ev hI hs
    obtain ⟨hinv, ⟨hflp, hfop⟩, hlp, hnolp, hkeep, hop, -⟩ := hQ.step s t s' ev hI hs
    refine ⟨hinv, ⟨hflp, hfop⟩, ?_, fun hc q hq => hq.trans (hnolp hc).symm, ?_, hop⟩
    · intro h1 r h2
      obtain ⟨op, hopo, hnext⟩ := hlp h1 r h2
      exact ⟨op, hopo, fun q hq => ⟨_, hq ▸ hnext, rfl⟩⟩
    · intro r hr
      exact (hkeep r hr).imp id (fun h => ⟨.of_all fun _ => beq_iff_eq.mpr h.1, h.2⟩)
  result := by
    intro s t s' r hI hs
    obtain ⟨hinv, ⟨hflp, hfop⟩, hwas, hnowlp, hnowop, habs⟩ := hQ.result s t s' r hI hs
    exact ⟨hinv, ⟨hflp, hfop⟩, hwas, hnowlp, hnowop, fun q hq => hq.trans habs.symm⟩

/-! ### Main theorems -/

/-- **Linearizability** (Herlihy–Wing, with completion of pending operations).  For every run of the machine, the
    history of the completed operations, extended by response records `extra` for SOME of the operations still
    pending at the end (operations that have passed their linearization point definitively — `postRet` — they get
    the result fixed there and the response time "end of the run"; at most one per thread), is linearizable to
    `Q.spec`.  All other pending operations are dropped. -/
theorem linearizable {Q : QSys σ} (hQ : Q.OK) (sched : List (Tid × Act)) (s : σ) (os : List (Tid × Obs))
    (h : Q.model.run Q.init sched = some (s, os)) :
    ∃ extra : List (OpRec GOp GRet),
      (∀ e ∈ extra, pendingOf os e.tid = some (e.op, e.inv) ∧ e.res = os.length ∧
          Q.postRet s e.tid = some e.ret) ∧
      extra.Pairwise (fun a b => a.tid ≠ b.tid) ∧
      Linearizable Q.spec (historyOf os ++ extra) := by
  rw [historyOf_eq, pendingOf_eq]
  exact LPLin.linearizable hQ.toLP sched s os h

theorem linearizable_no_effect_pending {Q : QSys σ} (hQ : Q.OK) (sched : List (Tid × Act)) (s : σ)
    (os : List (Tid × Obs)) (h : Q.model.run Q.init sched = some (s, os)) (hq : ∀ t, Q.postRet s t = none) :
    Linearizable Q.spec (historyOf os) :=
  historyOf_eq os ▸ LPLin.linearizable_no_effect_pending hQ.toLP sched s os h hq

/-- **Hindsight for a failing operation, on runs.**  If a completed operation of a run returned `[0]`, then there is
    an instant `j` strictly between its call and its return such that `FailAt s1 r.tid` holds in the state `s1`
    reached by the first `j` actions of the run. -/
theorem fail_hindsight {Q : QSys σ} (hQ : Q.OK) (sched : List (Tid × Act)) (s : σ) (os : List (Tid × Obs))
    (h : Q.model.run Q.init sched = some (s, os)) (r : OpRec GOp GRet) (hr : r ∈ historyOf os) (hret : r.ret = [0]) :
    ∃ j s1, r.inv < j ∧ j < r.res ∧ Q.model.run Q.init (sched.take j) = some (s1, os.take j) ∧
      Q.Inv s1 ∧ Q.FailAt s1 r.tid := by
  obtain ⟨j, s1, e1, e2, e3, hI, -, h1, s2, ev, hs, h2⟩ := LPLin.lp_hindsight hQ.toLP sched s os h r (historyOf_eq os ▸ hr)
  exact ⟨j, s1, e1, e2, e3, hI, (hQ.step _ _ _ _ hI hs).empty h1 (hret ▸ h2)⟩

end CdsVerif.Algo.Ring.LinX

/-! ## Part 2: the ring buffer -/

namespace CdsVerif.Algo.Ring
open CdsVerif.Machine CdsVerif.Spec CdsVerif.Lin CdsVerif.Algo.QueueLin

/-! ### The sequential specification, in the machine's vocabulary -/

/-- Push of the batch `vs` on the bounded queue `q`: all or nothing. -/
def pStep (cap : Nat) (q vs : List Int) : List Int × GRet :=
  if q.length + vs.length ≤ cap then (q ++ vs, [1]) else (q, [0])

/-- The consumer operations on the queue `q` (`popf2` is the second half of `popf`). -/
def cStep (q : List Int) : COp → List Int × GRet
  | .pop k => if k ≤ q.length then (q.drop k, 1 :: q.take k) else (q, [0])
  | .front => match q with
    | [] => ([], [0])
    | x :: xs => (x :: xs, [1, x])
  | _ => match q with
    | [] => ([], [0])
    | x :: xs => (xs, [1, x])

def ringStep (cap : Nat) (q : List Int) (op : GOp) : Option (List Int × GRet) :=
  match batchOf op with
  | some vs => some (pStep cap q vs)
  | none => (consOf op).map (cStep q)

/-- Bounded FIFO with batches: what `WeakRingBuffer` is for a single producer and a single consumer. -/
def ringSpec (cap : Nat) : Spec (List Int) GOp GRet := detSpec [] (ringStep cap)

theorem cStep_ret0 (q : List Int) (c : COp) (h : (cStep q c).2 = [0]) : (cStep q c).1 = q := by
  cases c <;> simp only [cStep] at h ⊢
  · split <;> simp_all
  all_goals (cases q <;> simp_all)

theorem pStep_ret0 (cap : Nat) (q vs : List Int) (h : (pStep cap q vs).2 = [0]) : (pStep cap q vs).1 = q := by
  simp only [pStep] at h ⊢
  split <;> simp_all

theorem ring_ret0 (cap : Nat) (q : List Int) (op : GOp) (q' : List Int)
    (h : (ringSpec cap).next q op [0] = some q') : q' = q := by
  simp only [ringSpec, detSpec, ringStep] at h
  cases hb : batchOf op with
  | some vs =>
    simp only [hb] at h
    split at h
    · rename_i heq; simp at h; rw [← h]; exact pStep_ret0 cap q vs heq.symm
    · simp at h
  | none =>
    simp only [hb] at h
    cases hc : consOf op with
    | none => simp [hc] at h
    | some c =>
      simp only [hc, Option.map_some] at h
      split at h
      · rename_i heq; simp at h; rw [← h]; exact cStep_ret0 q c heq.symm
      · simp at h

theorem ringSpec_push (cap : Nat) (q : List Int) (op : GOp) (vs : List Int) (hb : batchOf op = some vs) :
    (ringSpec cap).next q op (pStep cap q vs).2 = some (pStep cap q vs).1 := by
  simp [ringSpec, detSpec, ringStep, hb]

theorem batchOf_none_of_consOf (op : GOp) (c : COp) (h : consOf op = some c) : batchOf op = none := by
  unfold consOf at h
  split at h <;> simp at h <;> simp [batchOf, *]

theorem ringSpec_cons (cap : Nat) (q : List Int) (op : GOp) (c : COp) (hc : consOf op = some c) :
    (ringSpec cap).next q op (cStep q c).2 = some (cStep q c).1 := by
  simp [ringSpec, detSpec, ringStep, hc, batchOf_none_of_consOf op c hc]

/-! ### Abstract queue, linearization status, and what the program counters remember of the operation -/

/-- The abstract queue: the elements pushed and not yet popped. -/
def absQ (s : St) : List Int := s.pushed.drop s.front

def pRet : PPC → Option GRet
  | .done r => some r
  | _ => none

def cRet : CPC → Option GRet
  | .done r => some r
  | _ => none

/-- Thread `t` has passed the linearization point of its operation, with result `r` (nothing is tentative). -/
def lpRet (s : St) (t : Tid) : Option GRet :=
  if t = 0 then pRet s.pp else if t = 1 then cRet s.cp else none

def pBatch : PPC → Option (List Int)
  | .ldBack vs => some vs
  | .ldFront vs _ => some vs
  | .stBack vs _ => some vs
  | _ => none

def normC : COp → COp
  | .popf2 _ => .popf1
  | c => c

def cKind : CPC → Option COp
  | .ldFront c => some (normC c)
  | .ldBack c _ => some (normC c)
  | .stFront k _ => some (.pop k)
  | .stFrontPF _ _ => some .popf1
  | _ => none

theorem cStep_norm (q : List Int) (c : COp) : cStep q (normC c) = cStep q c := by
  cases c <;> rfl

theorem absQ_length (s : St) (h : RingInv s) : (absQ s).length = s.back - s.front := by
  simp [absQ, ← h.back_eq]

theorem drop_cons_of_getElem? (l : List Int) (i : Nat) (v : Int) (h : l[i]? = some v) :
    l.drop i = v :: l.drop (i + 1) := by
  obtain ⟨hi, rfl⟩ := List.getElem?_eq_some_iff.mp h
  exact List.drop_eq_getElem_cons hi

/-- Producer steps: silent, or the linearization point of the push (`back_` store, or the failing re-load). -/
theorem p_step (s s' : St) (ev : Ev) (h : RingInv s) (hs : step s 0 = some (s', ev)) :
    s'.cp = s.cp ∧ s'.cap = s.cap ∧ pRet s.pp = none ∧
    ((pRet s'.pp = none ∧ absQ s' = absQ s ∧ pBatch s'.pp = pBatch s.pp) ∨
     (∃ vs, pBatch s.pp = some vs ∧ pBatch s'.pp = none ∧ pRet s'.pp = some (pStep s.cap (absQ s) vs).2 ∧
        absQ s' = (pStep s.cap (absQ s) vs).1 ∧
        ((pStep s.cap (absQ s) vs).2 = [0] → ∃ b, s.pp = .ldFront vs b ∧ s.cap < (absQ s).length + vs.length))) := by
  have hlen := absQ_length s h
  have hfl := in_flight_le_cap s h
  unfold step at hs
  simp only [↓reduceIte] at hs
  split at hs
  · rename_i vs hpp
    split at hs <;> simp only [Option.some.injEq, Prod.mk.injEq] at hs <;> obtain ⟨rfl, -⟩ := hs <;>
      exact ⟨rfl, rfl, by simp [hpp, pRet], .inl ⟨by simp [pRet], rfl, by simp [hpp, pBatch]⟩⟩
  · rename_i vs b hpp
    have hb := h.p_ldFront vs b hpp
    split at hs <;> simp only [Option.some.injEq, Prod.mk.injEq] at hs <;> obtain ⟨rfl, -⟩ := hs
    · rename_i hlt
      have hp : pStep s.cap (absQ s) vs = (absQ s, [0]) := by
        unfold pStep; rw [if_neg (by omega)]
      refine ⟨rfl, rfl, by simp [hpp, pRet], .inr ⟨vs, by simp [hpp, pBatch], by simp [pBatch], ?_, ?_, ?_⟩⟩
      · rw [hp]; simp [pRet]
      · rw [hp]; rfl
      · intro _; exact ⟨b, hpp, by omega⟩
    · exact ⟨rfl, rfl, by simp [hpp, pRet], .inl ⟨by simp [pRet], rfl, by simp [hpp, pBatch]⟩⟩
  · rename_i vs b hpp
    obtain ⟨hb, hb2⟩ := h.p_stBack vs b hpp
    have hpf := h.pfront_le
    simp only [Option.some.injEq, Prod.mk.injEq] at hs
    obtain ⟨rfl, -⟩ := hs
    have hp : pStep s.cap (absQ s) vs = (absQ s ++ vs, [1]) := by
      unfold pStep; rw [if_pos (by omega)]
    refine ⟨rfl, rfl, by simp [hpp, pRet], .inr ⟨vs, by simp [hpp, pBatch], by simp [pBatch], ?_, ?_, ?_⟩⟩
    · rw [hp]; simp [pRet]
    · rw [hp]; simp only [absQ]
      exact List.drop_append_of_le_length (by rw [← h.back_eq]; omega)
    · rw [hp]; intro h0; simp at h0
  · simp at hs

/-- The thread-private continuation of the consumer: silent, except for `front`, which is linearized there. -/
theorem proceed_eff (s : St) (op : COp) (f : Nat) (hf : f = s.front) (hn : f + need op ≤ s.back)
    (hcont : ∀ j, s.front ≤ j → j < s.back → s.pushed[j]? = some (s.buf (j % s.cap))) :
    (proceed s op f).pp = s.pp ∧ (proceed s op f).cap = s.cap ∧ absQ (proceed s op f) = absQ s ∧
    ((cRet (proceed s op f).cp = none ∧ cKind (proceed s op f).cp = some (normC op)) ∨
     (op = .front ∧ cKind (proceed s op f).cp = none ∧
        cRet (proceed s op f).cp = some (cStep (absQ s) .front).2 ∧ (cStep (absQ s) .front).1 = absQ s)) := by
  cases op with
  | pop k => exact ⟨rfl, rfl, rfl, .inl ⟨rfl, rfl⟩⟩
  | popf1 => exact ⟨rfl, rfl, rfl, .inl ⟨rfl, rfl⟩⟩
  | popf2 v => exact ⟨rfl, rfl, rfl, .inl ⟨rfl, rfl⟩⟩
  | front =>
    refine ⟨rfl, rfl, rfl, .inr ⟨rfl, rfl, ?_, ?_⟩⟩
    · simp only [need] at hn
      have hq := drop_cons_of_getElem? s.pushed s.front _ (hcont s.front (Nat.le_refl _) (by omega))
      subst hf
      simp only [proceed, cRet, absQ, hq, cStep]
    · simp only [need] at hn
      have hq := drop_cons_of_getElem? s.pushed s.front _ (hcont s.front (Nat.le_refl _) (by omega))
      simp only [absQ, hq, cStep]

/-- Consumer steps: silent, or the linearization point of the pop / front / popf. -/
theorem c_step (s s' : St) (ev : Ev) (h : RingInv s) (hs : step s 1 = some (s', ev)) :
    s'.pp = s.pp ∧ s'.cap = s.cap ∧ cRet s.cp = none ∧
    ((cRet s'.cp = none ∧ absQ s' = absQ s ∧ cKind s'.cp = cKind s.cp) ∨
     (∃ c, cKind s.cp = some c ∧ cKind s'.cp = none ∧ cRet s'.cp = some (cStep (absQ s) c).2 ∧
        absQ s' = (cStep (absQ s) c).1 ∧
        ((cStep (absQ s) c).2 = [0] → ∃ op f, s.cp = .ldBack op f ∧ (absQ s).length < need op))) := by
  have hlen := absQ_length s h
  have hfl := in_flight_le_cap s h
  have hcb := h.cback_le
  have hfc := h.front_le
  unfold step at hs
  simp only [show ((1 : Tid) = 0) = False from by simp, ↓reduceIte] at hs
  split at hs
  · rename_i op hcp
    split at hs <;> simp only [Option.some.injEq, Prod.mk.injEq] at hs <;> obtain ⟨rfl, -⟩ := hs
    · exact ⟨rfl, rfl, by simp [hcp, cRet], .inl ⟨by simp [cRet], rfl, by simp [hcp, cKind]⟩⟩
    · rename_i hge
      obtain ⟨e1, e2, e3, e4⟩ := proceed_eff s op s.front rfl (by omega) h.content
      refine ⟨e1, e2, by simp [hcp, cRet], ?_⟩
      rcases e4 with ⟨e5, e6⟩ | ⟨rfl, e5, e6, e7⟩
      · exact .inl ⟨e5, e3, by rw [e6, hcp]; rfl⟩
      · refine .inr ⟨.front, by simp [hcp, cKind, normC], e5, e6, by rw [e3, e7], ?_⟩
        intro h0
        exfalso
        simp only [need] at hge
        have : absQ s ≠ [] := by intro hq; rw [hq] at hlen; simp at hlen; omega
        revert h0; cases hq : absQ s <;> simp_all [cStep]
  · rename_i op f hcp
    obtain ⟨hf, hv⟩ := h.c_ldBack op f hcp
    split at hs <;> simp only [Option.some.injEq, Prod.mk.injEq] at hs <;> obtain ⟨rfl, -⟩ := hs
    · rename_i hlt
      have hq : (absQ s).length < need op := by omega
      have hc : cStep (absQ s) (normC op) = (absQ s, [0]) := by
        rw [cStep_norm]
        cases op with
        | pop k => simp only [need] at hq; simp only [cStep]; rw [if_neg (by omega)]
        | front => simp only [need] at hq; cases hq2 : absQ s <;> simp_all [cStep]
        | popf1 => simp only [need] at hq; cases hq2 : absQ s <;> simp_all [cStep]
        | popf2 v => simp only [need] at hq; cases hq2 : absQ s <;> simp_all [cStep]
      refine ⟨rfl, rfl, by simp [hcp, cRet], .inr ⟨normC op, by simp [hcp, cKind], by simp [cKind], ?_, ?_, ?_⟩⟩
      · rw [hc]; simp [cRet]
      · rw [hc]; rfl
      · intro _; exact ⟨op, f, hcp, hq⟩
    · rename_i hge
      obtain ⟨e1, e2, e3, e4⟩ := proceed_eff { s with cback := s.back } op f hf (by dsimp only; omega) h.content
      refine ⟨e1, e2, by simp [hcp, cRet], ?_⟩
      have ha : absQ { s with cback := s.back } = absQ s := rfl
      rw [ha] at e3 e4
      rcases e4 with ⟨e5, e6⟩ | ⟨rfl, e5, e6, e7⟩
      · exact .inl ⟨e5, e3, by rw [e6, hcp]; rfl⟩
      · refine .inr ⟨.front, by simp [hcp, cKind, normC], e5, e6, by rw [e3, e7], ?_⟩
        intro h0
        exfalso
        simp only [need] at hge
        have : absQ s ≠ [] := by intro hq; rw [hq] at hlen; simp at hlen; omega
        revert h0; cases hq : absQ s <;> simp_all [cStep]
  · rename_i k f hcp
    obtain ⟨hf, hk⟩ := h.c_stFront k f hcp
    subst hf
    simp only [Option.some.injEq, Prod.mk.injEq] at hs
    obtain ⟨rfl, -⟩ := hs
    have hrd : readCells s.buf s.cap s.front k = (absQ s).take k :=
      readCells_eq s.buf s.cap s.front k s.pushed (by rw [← h.back_eq]; omega)
        (fun j h1 h2 => h.content j h1 (by omega))
    have hc : cStep (absQ s) (.pop k) = ((absQ s).drop k, 1 :: (absQ s).take k) := by
      simp only [cStep]; rw [if_pos (by omega)]
    refine ⟨rfl, rfl, by simp [hcp, cRet], .inr ⟨.pop k, by simp [hcp, cKind], by simp [cKind], ?_, ?_, ?_⟩⟩
    · rw [hc, ← hrd]; simp [cRet]
    · rw [hc]; simp only [absQ, List.drop_drop]
    · rw [hc]; intro h0; simp at h0
  · rename_i v f hcp
    obtain ⟨hf, hk, hv⟩ := h.c_stFrontPF v f hcp
    subst hf
    simp only [Option.some.injEq, Prod.mk.injEq] at hs
    obtain ⟨rfl, -⟩ := hs
    have hq := drop_cons_of_getElem? s.pushed s.front v hv
    have hc : cStep (absQ s) .popf1 = (s.pushed.drop (s.front + 1), [1, v]) := by
      simp only [absQ, hq, cStep]
    refine ⟨rfl, rfl, by simp [hcp, cRet], .inr ⟨.popf1, by simp [hcp, cKind], by simp [cKind], ?_, ?_, ?_⟩⟩
    · rw [hc]; simp [cRet]
    · rw [hc]; rfl
    · rw [hc]; intro h0; simp at h0
  · simp at hs

theorem step_tid (s : St) (t : Tid) (r : St × Ev) (hs : step s t = some r) : t = 0 ∨ t = 1 := by
  unfold step at hs
  split at hs
  · left; assumption
  · split at hs
    · right; assumption
    · simp at hs

theorem invoke_eff (s s' : St) (t : Tid) (op : GOp) (hs : invoke s t op = some s') :
    (t = 0 ∧ s.pp = .idle ∧ ∃ vs, batchOf op = some vs ∧ s' = { s with pp := .ldBack vs }) ∨
    (t = 1 ∧ s.cp = .idle ∧ ∃ c, consOf op = some c ∧ s' = { s with cp := .ldFront c }) := by
  unfold invoke at hs
  split at hs
  · split at hs
    · rename_i vs hpp hb
      simp at hs; subst hs
      exact .inl ⟨by assumption, hpp, vs, hb, rfl⟩
    · simp at hs
  · split at hs
    · split at hs
      · rename_i c hcp hc
        simp at hs; subst hs
        exact .inr ⟨by assumption, hcp, c, hc, rfl⟩
      · simp at hs
    · simp at hs

theorem result_eff (s s' : St) (t : Tid) (r : GRet) (hs : result s t = some (s', r)) :
    (t = 0 ∧ s.pp = .done r ∧ s' = { s with pp := .idle }) ∨
    (t = 1 ∧ s.cp = .done r ∧ s' = { s with cp := .idle }) := by
  unfold result at hs
  split at hs
  · split at hs
    · rename_i r0 hpp
      simp at hs; obtain ⟨rfl, rfl⟩ := hs
      exact .inl ⟨by assumption, hpp, rfl⟩
    · simp at hs
  · split at hs
    · split at hs
      · rename_i r0 hcp
        simp at hs; obtain ⟨rfl, rfl⟩ := hs
        exact .inr ⟨by assumption, hcp, rfl⟩
      · simp at hs
    · simp at hs

theorem normC_of_consOf (op : GOp) (c : COp) (h : consOf op = some c) : normC c = c := by
  cases c with
  | popf2 v => exact absurd rfl (consOf_ne_popf2 op _ h v)
  | _ => rfl

theorem lpRet_zero (s : St) : lpRet s 0 = pRet s.pp := rfl
theorem lpRet_one (s : St) : lpRet s 1 = cRet s.cp := rfl
theorem lpRet_other (s : St) (t : Tid) (h0 : t ≠ 0) (h1 : t ≠ 1) : lpRet s t = none := by simp [lpRet, h0, h1]

/-! ### The machine with the invoked operations remembered -/

/-- The machine state together with the operation last invoked by the producer and by the consumer. -/
structure GS where
  s : St
  pop : Option GOp
  cop : Option GOp

def gmodel : Model GS where
  invoke g t op := (invoke g.s t op).map (fun s' => if t = 0 then ⟨s', some op, g.cop⟩ else ⟨s', g.pop, some op⟩)
  step g t := (step g.s t).map (fun r => (⟨r.1, g.pop, g.cop⟩, r.2))
  result g t := (result g.s t).map (fun r => (⟨r.1, g.pop, g.cop⟩, r.2))

def ginit (cap : Nat) : GS := ⟨init cap, none, none⟩

/-- The operation thread `t` is executing, while its result is not fixed. -/
def gopOf (g : GS) (t : Tid) : Option GOp :=
  if t = 0 then (if (pBatch g.s.pp).isSome then g.pop else none)
  else if t = 1 then (if (cKind g.s.cp).isSome then g.cop else none) else none

theorem gopOf_zero (g : GS) : gopOf g 0 = if (pBatch g.s.pp).isSome then g.pop else none := rfl
theorem gopOf_one (g : GS) : gopOf g 1 = if (cKind g.s.cp).isSome then g.cop else none := rfl
theorem gopOf_other (g : GS) (t : Tid) (h0 : t ≠ 0) (h1 : t ≠ 1) : gopOf g t = none := by simp [gopOf, h0, h1]

/-- `RingInv`, the constant capacity, and: the program counters run the operation remembered. -/
structure GOK (cap : Nat) (g : GS) : Prop where
  inv : RingInv g.s
  cap_eq : g.s.cap = cap
  pop : ∀ vs, pBatch g.s.pp = some vs → ∃ op, g.pop = some op ∧ batchOf op = some vs
  cop : ∀ c, cKind g.s.cp = some c → ∃ op, g.cop = some op ∧ consOf op = some c

/-- Thread `t` is about to perform the load that makes its operation fail: the producer's re-load of `front_`
    with fewer than `count` free cells, the consumer's re-load of `back_` with fewer than the needed elements. -/
def FailAt (g : GS) (t : Tid) : Prop :=
  (t = 0 ∧ ∃ vs b, g.s.pp = .ldFront vs b ∧ g.s.cap < (absQ g.s).length + vs.length) ∨
  (t = 1 ∧ ∃ op f, g.s.cp = .ldBack op f ∧ (absQ g.s).length < need op)

def qsys (cap : Nat) : LinX.QSys GS where
  spec := ringSpec cap
  model := gmodel
  init := ginit cap
  Inv := GOK cap
  absQ := fun g => absQ g.s
  lpRet := fun g t => lpRet g.s t
  postRet := fun g t => lpRet g.s t
  opOf := gopOf
  FailAt := FailAt

theorem qsys_invoke (cap : Nat) (g : GS) (t : Tid) (op : GOp) (g' : GS) (hI : GOK cap g)
    (hs : gmodel.invoke g t op = some g') : LinX.InvokeOK (qsys cap) g t op g' := by
  simp only [gmodel, Option.map_eq_some_iff] at hs
  obtain ⟨s1, hs1, rfl⟩ := hs
  have hinv' := inv_invoke g.s t op s1 hI.inv hs1
  rcases invoke_eff g.s s1 t op hs1 with ⟨rfl, hpp, vs, hb, rfl⟩ | ⟨rfl, hcp, c, hc, rfl⟩
  · simp only [↓reduceIte]
    refine ⟨⟨hinv', hI.cap_eq, ?_, hI.cop⟩, ⟨?_, ?_⟩, ?_, ?_, ?_, rfl⟩
    · intro vs' h; simp only [pBatch, Option.some.injEq] at h; subst h; exact ⟨op, rfl, hb⟩
    · intro t2 ht; simp only [qsys, lpRet, if_neg ht]
    · intro t2 ht; simp only [qsys, gopOf, if_neg ht]
    · simp only [qsys, lpRet_zero, hpp, pRet]
    · simp only [qsys, gopOf_zero, pBatch, Option.isSome_some, if_true]
    · simp only [qsys, lpRet_zero, pRet]
  · simp only [show ((1 : Tid) = 0) = False from by simp, ↓reduceIte]
    refine ⟨⟨hinv', hI.cap_eq, hI.pop, ?_⟩, ⟨?_, ?_⟩, ?_, ?_, ?_, rfl⟩
    · intro c' h; simp only [cKind, Option.some.injEq] at h; subst h
      exact ⟨op, rfl, by rw [normC_of_consOf op c hc]; exact hc⟩
    · intro t2 ht
      by_cases h0 : t2 = 0
      · subst h0; rfl
      · simp only [qsys]; rw [lpRet_other _ _ h0 ht, lpRet_other _ _ h0 ht]
    · intro t2 ht
      by_cases h0 : t2 = 0
      · subst h0; rfl
      · simp only [qsys]; rw [gopOf_other _ _ h0 ht, gopOf_other _ _ h0 ht]
    · simp only [qsys, lpRet_one, hcp, cRet]
    · simp only [qsys, gopOf_one, cKind, Option.isSome_some, if_true]
    · simp only [qsys, lpRet_one, cRet]

theorem qsys_result (cap : Nat) (g : GS) (t : Tid) (g' : GS) (r : GRet) (hI : GOK cap g)
    (hs : gmodel.result g t = some (g', r)) : LinX.ResultOK (qsys cap) g t r g' := by
  simp only [gmodel, Option.map_eq_some_iff] at hs
  obtain ⟨⟨s1, r1⟩, hs1, heq⟩ := hs
  simp only [Prod.mk.injEq] at heq
  obtain ⟨rfl, rfl⟩ := heq
  have hinv' := inv_result g.s t (s1, r1) hI.inv hs1
  rcases result_eff g.s s1 t r1 hs1 with ⟨rfl, hpp, rfl⟩ | ⟨rfl, hcp, rfl⟩
  · refine ⟨⟨hinv', hI.cap_eq, ?_, hI.cop⟩, ⟨?_, ?_⟩, ?_, ?_, ?_, rfl⟩
    · intro vs' h; simp [pBatch] at h
    · intro t2 ht; simp only [qsys, lpRet, if_neg ht]
    · intro t2 ht; simp only [qsys, gopOf, if_neg ht]
    · simp only [qsys, lpRet_zero, hpp, pRet]
    · simp only [qsys, lpRet_zero, pRet]
    · simp [qsys, gopOf_zero, pBatch]
  · refine ⟨⟨hinv', hI.cap_eq, hI.pop, ?_⟩, ⟨?_, ?_⟩, ?_, ?_, ?_, rfl⟩
    · intro c' h; simp [cKind] at h
    · intro t2 ht
      by_cases h0 : t2 = 0
      · subst h0; rfl
      · simp only [qsys]; rw [lpRet_other _ _ h0 ht, lpRet_other _ _ h0 ht]
    · intro t2 ht
      by_cases h0 : t2 = 0
      · subst h0; rfl
      · simp only [qsys]; rw [gopOf_other _ _ h0 ht, gopOf_other _ _ h0 ht]
    · simp only [qsys, lpRet_one, hcp, cRet]
    · simp only [qsys, lpRet_one, cRet]
    · simp [qsys, gopOf_one, cKind]

theorem qsys_step (cap : Nat) (g : GS) (t : Tid) (g' : GS) (ev : Ev) (hI : GOK cap g)
    (hs : gmodel.step g t = some (g', ev)) : LinX.StepOK (qsys cap) g t g' := by
  simp only [gmodel, Option.map_eq_some_iff] at hs
  obtain ⟨⟨s1, e⟩, hs1, heq⟩ := hs
  simp only [Prod.mk.injEq] at heq
  obtain ⟨rfl, rfl⟩ := heq
  have hinv' := inv_step' g.s t (s1, e) hI.inv hs1
  have hcapeq := hI.cap_eq
  rcases step_tid _ _ _ hs1 with rfl | rfl
  · obtain ⟨hcp, hcap, hret, hcase⟩ := p_step g.s s1 e hI.inv hs1
    rw [hcapeq] at hcase
    refine ⟨⟨hinv', hcap.trans hcapeq, ?_, ?_⟩, ⟨?_, ?_⟩, ?_, ?_, ?_, ?_, ?_⟩
    · intro vs hv
      rcases hcase with ⟨-, -, hb⟩ | ⟨vs0, -, hb, -⟩
      · exact hI.pop vs (hb ▸ hv)
      · rw [hb] at hv; cases hv
    · intro c hc; exact hI.cop c (hcp ▸ hc)
    · intro t2 ht; simp only [qsys, lpRet, if_neg ht]; rw [hcp]
    · intro t2 ht; simp only [qsys, gopOf, if_neg ht]; rw [hcp]
    · intro h1 r h2
      simp only [qsys, lpRet_zero] at h1 h2 ⊢
      rcases hcase with ⟨hn, -, -⟩ | ⟨vs, hb, -, hr, ha, -⟩
      · rw [hn] at h2; cases h2
      · obtain ⟨op, hop, hbo⟩ := hI.pop vs hb
        rw [hr] at h2
        simp only [Option.some.injEq] at h2
        subst h2
        refine ⟨op, by simp [gopOf_zero, hb, hop], ?_⟩
        rw [ha]; exact ringSpec_push cap _ op vs hbo
    · intro hc
      simp only [qsys, lpRet_zero] at hc ⊢
      rcases hc with hc | hc
      · exact absurd hret hc
      · rcases hcase with ⟨-, ha, -⟩ | ⟨vs, -, -, hr, -⟩
        · exact ha
        · rw [hr] at hc; cases hc
    · intro r hr
      simp only [qsys, lpRet_zero] at hr
      rw [hret] at hr; cases hr
    · intro hp
      simp only [qsys, lpRet_zero] at hp
      rcases hcase with ⟨-, -, hb⟩ | ⟨vs, -, -, hr, -⟩
      · simp only [qsys, gopOf_zero, hb]
      · rw [hr] at hp; cases hp
    · intro h1 h2
      simp only [qsys, lpRet_zero] at h1 h2
      rcases hcase with ⟨hn, -, -⟩ | ⟨vs, -, -, hr, -, hf⟩
      · rw [hn] at h2; cases h2
      · rw [hr] at h2
        simp only [Option.some.injEq] at h2
        obtain ⟨b, hpp, hlt⟩ := hf h2
        exact .inl ⟨rfl, vs, b, hpp, by rw [hcapeq]; exact hlt⟩
  · obtain ⟨hpp, hcap, hret, hcase⟩ := c_step g.s s1 e hI.inv hs1
    refine ⟨⟨hinv', hcap.trans hcapeq, ?_, ?_⟩, ⟨?_, ?_⟩, ?_, ?_, ?_, ?_, ?_⟩
    · intro vs hv; exact hI.pop vs (hpp ▸ hv)
    · intro c hc
      rcases hcase with ⟨-, -, hb⟩ | ⟨c0, -, hb, -⟩
      · exact hI.cop c (hb ▸ hc)
      · rw [hb] at hc; cases hc
    · intro t2 ht
      by_cases h0 : t2 = 0
      · subst h0; simp only [qsys, lpRet_zero]; rw [hpp]
      · simp only [qsys]; rw [lpRet_other _ _ h0 ht, lpRet_other _ _ h0 ht]
    · intro t2 ht
      by_cases h0 : t2 = 0
      · subst h0; simp only [qsys, gopOf_zero]; rw [hpp]
      · simp only [qsys]; rw [gopOf_other _ _ h0 ht, gopOf_other _ _ h0 ht]
    · intro h1 r h2
      simp only [qsys, lpRet_one] at h1 h2 ⊢
      rcases hcase with ⟨hn, -, -⟩ | ⟨c, hb, -, hr, ha, -⟩
      · rw [hn] at h2; cases h2
      · obtain ⟨op, hop, hbo⟩ := hI.cop c hb
        rw [hr] at h2
        simp only [Option.some.injEq] at h2
        subst h2
        refine ⟨op, by simp [gopOf_one, hb, hop], ?_⟩
        rw [ha]; exact ringSpec_cons cap _ op c hbo
    · intro hc
      simp only [qsys, lpRet_one] at hc ⊢
      rcases hc with hc | hc
      · exact absurd hret hc
      · rcases hcase with ⟨-, ha, -⟩ | ⟨c, -, -, hr, -⟩
        · exact ha
        · rw [hr] at hc; cases hc
    · intro r hr
      simp only [qsys, lpRet_one] at hr
      rw [hret] at hr; cases hr
    · intro hp
      simp only [qsys, lpRet_one] at hp
      rcases hcase with ⟨-, -, hb⟩ | ⟨c, -, -, hr, -⟩
      · simp only [qsys, gopOf_one, hb]
      · rw [hr] at hp; cases hp
    · intro h1 h2
      simp only [qsys, lpRet_one] at h1 h2
      rcases hcase with ⟨hn, -, -⟩ | ⟨c, -, -, hr, -, hf⟩
      · rw [hn] at h2; cases h2
      · rw [hr] at h2
        simp only [Option.some.injEq] at h2
        obtain ⟨op, f, hcp, hlt⟩ := hf h2
        exact .inr ⟨rfl, op, f, hcp, hlt⟩

theorem gok_init (cap : Nat) (hcap : 0 < cap) : GOK cap (ginit cap) :=
  ⟨inv_init cap hcap, rfl, by intro vs h; simp [ginit, init, pBatch] at h,
    by intro c h; simp [ginit, init, cKind] at h⟩

theorem qsys_ok (cap : Nat) (hcap : 0 < cap) : (qsys cap).OK where
  ret0 := ring_ret0 cap
  spec_init := rfl
  inv_init := gok_init cap hcap
  abs_init := by simp [qsys, ginit, init, absQ]
  lp_init := by intro t; simp [qsys, ginit, init, lpRet, pRet, cRet]
  op_init := by intro t; simp [qsys, ginit, init, gopOf, pBatch, cKind]
  post_lp := by intro s t r h; exact h
  post_op := by
    intro g t r h
    simp only [qsys] at h ⊢
    by_cases h0 : t = 0
    · subst h0
      rw [lpRet_zero] at h
      rw [gopOf_zero]
      cases hpp : g.s.pp <;> simp_all [pRet, pBatch]
    · by_cases h1 : t = 1
      · subst h1
        rw [lpRet_one] at h
        rw [gopOf_one]
        cases hcp : g.s.cp <;> simp_all [cRet, cKind]
      · exact gopOf_other g t h0 h1
  lp_post := by intro s t r h _; exact h
  invoke := by intro g t op g' hI hs; exact qsys_invoke cap g t op g' hI hs
  step := by intro g t g' ev hI hs; exact qsys_step cap g t g' ev hI hs
  result := by intro g t g' r hI hs; exact qsys_result cap g t g' r hI hs

/-! ### `gmodel` has exactly the runs of `model` -/

theorem apply_lift (s s' : St) (t : Tid) (a : Act) (o : Obs) (h : model.apply s t a = some (s', o))
    (p c : Option GOp) : ∃ p' c', gmodel.apply ⟨s, p, c⟩ t a = some (⟨s', p', c'⟩, o) := by
  rcases Model.apply_cases h with ⟨op, rfl, hs, rfl⟩ | ⟨e, rfl, hs, rfl⟩ | ⟨r, rfl, hs, rfl⟩
  · by_cases ht : t = 0
    · subst ht; exact ⟨some op, c, by simpa [Model.apply, gmodel, model] using hs⟩
    · exact ⟨p, some op, by simpa [Model.apply, gmodel, model, ht] using hs⟩
  · exact ⟨p, c, by simpa [Model.apply, gmodel, model] using hs⟩
  · exact ⟨p, c, by simpa [Model.apply, gmodel, model] using hs⟩

theorem run_lift : ∀ (sched : List (Tid × Act)) (s s' : St) (os : List (Tid × Obs)) (p c : Option GOp),
    model.run s sched = some (s', os) → ∃ p' c', gmodel.run ⟨s, p, c⟩ sched = some (⟨s', p', c'⟩, os) := by
  intro sched
  induction sched with
  | nil =>
    intro s s' os p c h
    simp only [Model.run, Option.some.injEq, Prod.mk.injEq] at h
    obtain ⟨rfl, rfl⟩ := h
    exact ⟨p, c, rfl⟩
  | cons x rest ih =>
    intro s s' os p c h
    obtain ⟨t, a⟩ := x
    obtain ⟨s1, o, os2, hap, hrr, rfl⟩ := Model.run_cons.mp h
    obtain ⟨p1, c1, h1⟩ := apply_lift s s1 t a o hap p c
    obtain ⟨p2, c2, h2⟩ := ih s1 s' os2 p1 c1 hrr
    exact ⟨p2, c2, by simp only [Model.run, h1, h2]⟩

theorem apply_proj (g g' : GS) (t : Tid) (a : Act) (o : Obs) (h : gmodel.apply g t a = some (g', o)) :
    model.apply g.s t a = some (g'.s, o) := by
  cases a with
  | invoke op =>
    simp only [Model.apply, gmodel, model, Option.map_eq_some_iff, Prod.mk.injEq] at h ⊢
    obtain ⟨g4, ⟨s4, h4, rfl⟩, rfl, rfl⟩ := h
    refine ⟨s4, h4, ?_, rfl⟩
    split <;> rfl
  | step =>
    simp only [Model.apply, gmodel, model, Option.map_eq_some_iff, Prod.mk.injEq] at h ⊢
    obtain ⟨q4, ⟨r4, h4, rfl⟩, rfl, rfl⟩ := h
    exact ⟨r4, h4, rfl, rfl⟩
  | ret =>
    simp only [Model.apply, gmodel, model, Option.map_eq_some_iff, Prod.mk.injEq] at h ⊢
    obtain ⟨q4, ⟨r4, h4, rfl⟩, rfl, rfl⟩ := h
    exact ⟨r4, h4, rfl, rfl⟩

theorem run_proj : ∀ (sched : List (Tid × Act)) (g g' : GS) (os : List (Tid × Obs)),
    gmodel.run g sched = some (g', os) → model.run g.s sched = some (g'.s, os) := by
  intro sched
  induction sched with
  | nil =>
    intro g g' os h
    simp only [Model.run, Option.some.injEq, Prod.mk.injEq] at h ⊢
    exact ⟨by rw [h.1], h.2⟩
  | cons x rest ih =>
    intro g g' os h
    obtain ⟨t, a⟩ := x
    obtain ⟨g1, o, os2, hap, hrr, rfl⟩ := Model.run_cons.mp h
    simp only [Model.run, apply_proj g g1 t a o hap, ih g1 g' os2 hrr]

/-! ### Main theorems -/

/-- **Linearizability of the ring buffer, history level** (batches included).  For every capacity, every client
    program of the producer (thread 0) and of the consumer (thread 1) and every schedule, the history of the
    completed operations — the calls and the values RETURNED to the clients — extended by response records for the
    pending operations that have passed their linearization point (at most one per thread, completed with the
    result fixed there), is linearizable to the bounded FIFO with batches `ringSpec cap`. -/
theorem ring_linearizable (cap : Nat) (hcap : 0 < cap) (sched : List (Tid × Act)) (s : St) (os : List (Tid × Obs))
    (h : model.run (init cap) sched = some (s, os)) :
    ∃ extra : List (OpRec GOp GRet),
      (∀ e ∈ extra, pendingOf os e.tid = some (e.op, e.inv) ∧ e.res = os.length ∧ lpRet s e.tid = some e.ret) ∧
      extra.Pairwise (fun a b => a.tid ≠ b.tid) ∧
      Linearizable (ringSpec cap) (historyOf os ++ extra) := by
  obtain ⟨p', c', hg⟩ := run_lift sched (init cap) s os none none h
  exact LinX.linearizable (qsys_ok cap hcap) sched ⟨s, p', c'⟩ os hg

/-- A failing operation failed for the right reason, at an instant inside its interval: if a completed operation
    returned `[0]`, there is an instant `j` strictly between its call and its return such that, in the state `s1`
    reached by the first `j` actions, the calling thread is about to perform the load that makes it fail, and the
    abstract queue leaves fewer than `count` free cells (producer) / holds fewer than the needed elements
    (consumer). -/
theorem ring_fail_hindsight (cap : Nat) (hcap : 0 < cap) (sched : List (Tid × Act)) (s : St)
    (os : List (Tid × Obs)) (h : model.run (init cap) sched = some (s, os)) (r : OpRec GOp GRet)
    (hr : r ∈ historyOf os) (hret : r.ret = [0]) :
    ∃ j s1, r.inv < j ∧ j < r.res ∧ model.run (init cap) (sched.take j) = some (s1, os.take j) ∧
      ((r.tid = 0 ∧ ∃ vs b, s1.pp = .ldFront vs b ∧ cap < (absQ s1).length + vs.length) ∨
       (r.tid = 1 ∧ ∃ op f, s1.cp = .ldBack op f ∧ (absQ s1).length < need op)) := by
  obtain ⟨p', c', hg⟩ := run_lift sched (init cap) s os none none h
  obtain ⟨j, g1, e1, e2, hrun, hok, e4⟩ := LinX.fail_hindsight (qsys_ok cap hcap) sched _ os hg r hr hret
  refine ⟨j, g1.s, e1, e2, run_proj _ _ _ _ hrun, ?_⟩
  rcases e4 with ⟨ht, vs, b, hpp, hlt⟩ | ⟨ht, op, f, hcp, hlt⟩
  · exact .inl ⟨ht, vs, b, hpp, by rw [← hok.cap_eq]; exact hlt⟩
  · exact .inr ⟨ht, op, f, hcp, hlt⟩

/-! ### Single-element programs: `Spec.bfifo cap` -/

/-- The `bfifo` name of a single-element operation: `push v` / `pushn v 1 ↦ enq v`, `pop` / `pop 1` / `popn 1` /
    `popf ↦ deq`, `front ↦ front`; `none` for a batch of another size. -/
def specOp? (op : GOp) : Option GOp :=
  match batchOf op with
  | some vs => (match vs with
    | [v] => some ⟨"enq", [v]⟩
    | _ => none)
  | none => match consOf op with
    | some (.pop k) => if k = 1 then some ⟨"deq", []⟩ else none
    | some .front => some ⟨"front", []⟩
    | some .popf1 => some ⟨"deq", []⟩
    | _ => none

def specOp (op : GOp) : GOp := (specOp? op).getD op

def specRec (r : OpRec GOp GRet) : OpRec GOp GRet := { r with op := specOp r.op }

/-- Every operation called in `os` is a single-element operation. -/
def SingleOps (os : List (Tid × Obs)) : Prop := ∀ x ∈ os, ∀ op, x.2 = .call op → (specOp? op).isSome

theorem ringSpec_bfifo (cap : Nat) (q q' : List Int) (op op' : GOp) (r : GRet) (ho : specOp? op = some op')
    (h : (ringSpec cap).next q op r = some q') : (bfifo cap).next q op' r = some q' := by
  simp only [ringSpec, bfifo, SeqHistory.detSpec_next_iff] at h ⊢
  unfold ringStep at h
  unfold specOp? at ho
  cases hb : batchOf op with
  | some vs =>
    simp only [hb] at h ho
    split at ho
    · simp only [Option.some.injEq] at ho; subst ho
      simp only [pStep, List.length_singleton, Option.some.injEq] at h
      simp only [bfifoStep]
      by_cases hl : q.length < cap
      · have hl' : q.length + 1 ≤ cap := by omega
        simp only [hl', ↓reduceIte] at h
        simp only [hl, ↓reduceIte, h]
      · have hl' : ¬ q.length + 1 ≤ cap := by omega
        simp only [hl', ↓reduceIte] at h
        simp only [hl, ↓reduceIte, h]
    · simp at ho
  | none =>
    simp only [hb] at h ho
    cases hc : consOf op with
    | none => simp [hc] at h
    | some c =>
      simp only [hc, Option.map_some, Option.some.injEq] at h ho
      cases c with
      | pop k =>
        simp only at ho
        split at ho
        · rename_i hk; subst hk
          simp only [Option.some.injEq] at ho; subst ho
          cases q <;> simp_all [bfifoStep, cStep]
        · simp at ho
      | front =>
        simp only [Option.some.injEq] at ho; subst ho
        cases q <;> simp_all [bfifoStep, cStep]
      | popf1 =>
        simp only [Option.some.injEq] at ho; subst ho
        cases q <;> simp_all [bfifoStep, cStep]
      | popf2 v => simp at ho

theorem legal_bfifo (cap : Nat) : ∀ (l : List (OpRec GOp GRet)) (st : List Int),
    (∀ o ∈ l, (specOp? o.op).isSome) → Legal (ringSpec cap) st l → Legal (bfifo cap) st (l.map specRec) := by
  intro l
  induction l with
  | nil => intro st _ _; trivial
  | cons o l ih =>
    intro st hs hl
    obtain ⟨st1, hn, hl'⟩ := hl
    obtain ⟨op', ho⟩ := Option.isSome_iff_exists.mp (hs o (by simp))
    refine ⟨st1, ?_, ih st1 (fun o' ho' => hs o' (List.mem_cons_of_mem _ ho')) hl'⟩
    simp only [specRec, specOp, ho, Option.getD_some]
    exact ringSpec_bfifo cap st st1 o.op op' o.ret ho hn

theorem linearizable_bfifo (cap : Nat) (ops : List (OpRec GOp GRet)) (hs : ∀ o ∈ ops, (specOp? o.op).isSome)
    (h : Linearizable (ringSpec cap) ops) : Linearizable (bfifo cap) (ops.map specRec) := by
  obtain ⟨perm, hperm, hrt, hlegal⟩ := h
  refine ⟨perm.map specRec, hperm.map specRec, ?_, ?_⟩
  · unfold RespectsRT at hrt ⊢
    rw [List.pairwise_map]
    exact hrt
  · exact legal_bfifo cap perm [] (fun o ho => hs o (hperm.mem_iff.mp ho)) hlegal

/-- **Linearizability to `Spec.bfifo cap`** for programs of single-element operations: the history of calls and
    returned values, completed as in `ring_linearizable`, with the operations renamed to the vocabulary of `bfifo`
    (`specRec`), is linearizable to the bounded FIFO queue of capacity `cap`: `enq` fails iff the queue is full at
    its linearization point, `deq` / `front` fail iff it is empty. -/
theorem ring_linearizable_bfifo (cap : Nat) (hcap : 0 < cap) (sched : List (Tid × Act)) (s : St)
    (os : List (Tid × Obs)) (h : model.run (init cap) sched = some (s, os)) (hsingle : SingleOps os) :
    ∃ extra : List (OpRec GOp GRet),
      (∀ e ∈ extra, pendingOf os e.tid = some (e.op, e.inv) ∧ e.res = os.length ∧ lpRet s e.tid = some e.ret) ∧
      extra.Pairwise (fun a b => a.tid ≠ b.tid) ∧
      Linearizable (bfifo cap) ((historyOf os ++ extra).map specRec) := by
  obtain ⟨extra, hex, hpw, hlin⟩ := ring_linearizable cap hcap sched s os h
  refine ⟨extra, hex, hpw, linearizable_bfifo cap _ ?_ hlin⟩
  intro o ho
  rcases List.mem_append.mp ho with ho | ho
  · have := (historyOf_sound os o ho).1
    exact hsingle _ (List.mem_of_getElem? this) o.op rfl
  · have := pendingOf_sound os o.tid o.op o.inv (hex o ho).1
    exact hsingle _ (List.mem_of_getElem? this) o.op rfl

theorem ring_linearizable_bfifo_no_effect_pending (cap : Nat) (hcap : 0 < cap) (sched : List (Tid × Act)) (s : St)
    (os : List (Tid × Obs)) (h : model.run (init cap) sched = some (s, os)) (hsingle : SingleOps os)
    (hq : ∀ t, lpRet s t = none) : Linearizable (bfifo cap) ((historyOf os).map specRec) := by
  obtain ⟨extra, hex, -, hlin⟩ := ring_linearizable_bfifo cap hcap sched s os h hsingle
  have : extra = [] := by
    apply List.eq_nil_iff_forall_not_mem.mpr
    intro e he
    have := (hex e he).2.2
    rw [hq] at this; simp at this
  simpa [this] using hlin

theorem ring_linearizable_bfifo_complete_runs (cap : Nat) (hcap : 0 < cap) (sched : List (Tid × Act)) (s : St)
    (os : List (Tid × Obs)) (h : model.run (init cap) sched = some (s, os)) (hsingle : SingleOps os)
    (hp : s.pp = .idle) (hc : s.cp = .idle) : Linearizable (bfifo cap) ((historyOf os).map specRec) :=
  ring_linearizable_bfifo_no_effect_pending cap hcap sched s os h hsingle
    (by intro t; simp [lpRet, hp, hc, pRet, cRet])

/-- Executable form of `SingleOps`. -/
def singleOpsB (os : List (Tid × Obs)) : Bool :=
  os.all (fun x => match x.2 with
    | .call op => (specOp? op).isSome
    | _ => true)

theorem singleOps_of_check (os : List (Tid × Obs)) (h : singleOpsB os = true) : SingleOps os := by
  intro x hx op hop
  have := List.all_eq_true.mp h x hx
  simpa [hop] using this

end CdsVerif.Algo.Ring
