/-
  Linearization-point bookkeeping on program counters, the effect of a step on the abstract map (`StepEff`) and its
  form for a step that leaves the memory alone (`EffOk`).

  Linearization points.
    * successful `insert`: the level-0 CAS of `insert_at_position`; successful `erase`: the level-0 marking CAS of
      `try_remove_at`;
    * key found by `find_position` with `bStopIfFound` (failed `insert`, `find`, `contains` on the slow path): the load
      `pCur->next(lvl)` that reads an UNMARKED word of an item with the key (on any level: an item unmarked on an upper
      level is unmarked on level 0, and it is published, so it is linked) — tentative until the validation of
      `pPred->next(lvl)`, withdrawn if that fails;
    * key found by `find_fastpath`: the load of `pCur->next(0)` that reads an unmarked word (the repair);
    * key absent: the validated level-0 load of `pPred->next(0)` that reads null or an item with a larger key
      (`pPred` is unmarked, hence linked);
    * `erase` that loses the race for the level-0 mark ("erase contention", answers false): the instant right after
      the marking CAS of the WINNER — a helped linearization point: from then on the loser's answer is fixed.  (If the
      item is already marked when the loser's traversal validates it, the validation is the point.)
-/
import CdsVerif.Algo.SkipList.Inv
namespace CdsVerif.Algo.SkipList
open CdsVerif.Machine CdsVerif.Spec CdsVerif.Lin
open CdsVerif.Algo.Michael (Chain Lt LPok isRO insAfter Has)

def wop (key val : Nat → Int) : Why → Option GOp
  | .insS n => some ⟨"insert", [key n, val n]⟩
  | .eraS k => some ⟨"erase", [k]⟩
  | .fndS k => some ⟨"find", [k]⟩
  | .conS k => some ⟨"contains", [k]⟩
  | .insFix _ => none
  | .eraFix _ _ => none
  | .renew _ _ _ => none

def wpost : Why → Option GRet
  | .insS _ => none
  | .eraS _ => none
  | .fndS _ => none
  | .conS _ => none
  | .insFix _ => some [1]
  | .eraFix _ v => some [1, v]
  | .renew _ _ _ => some [1]

/-- The answer of a traversal that stops at an item with the key. -/
def wfound (val : Nat → Int) : Why → Nat → Option GRet
  | .insS _, _ => some [0]
  | .eraS _, _ => none
  | .fndS _, c => some [1, val c]
  | .conS _, _ => some [1]
  | .insFix _, _ => none
  | .eraFix _ _, _ => none
  | .renew _ _ _, _ => none

def fop : Fop → GOp
  | .fnd k => ⟨"find", [k]⟩
  | .con k => ⟨"contains", [k]⟩

/-- The operation in progress, before its (definitive) linearization point. -/
def opOf (key val : Nat → Int) : PC → Option GOp
  | .idle => none
  | .fLd1 w _ _ _ _ _ => wop key val w
  | .fLd2 w _ _ _ _ _ _ _ => wop key val w
  | .fSucc w _ _ _ _ _ _ => wop key val w
  | .fChk w _ _ _ _ _ _ _ _ => wop key val w
  | .hUnl w _ _ _ _ _ => wop key val w
  | .hLd1 w _ _ _ _ _ => wop key val w
  | .hLd2 w _ _ _ _ _ _ _ => wop key val w
  | .hCas w _ _ _ _ _ _ => wop key val w
  | .hSub w _ _ _ => wop key val w
  | .iClr n _ _ _ => some ⟨"insert", [key n, val n]⟩
  | .iSt0 n _ _ => some ⟨"insert", [key n, val n]⟩
  | .iCas0 n _ _ => some ⟨"insert", [key n, val n]⟩
  | .iUpA _ _ _ _ _ => none
  | .iUpB _ _ _ _ => none
  | .iSubFix _ _ _ _ => none
  | .gHgt _ => none
  | .gCas _ _ => none
  | .eLd k _ _ _ _ => some ⟨"erase", [k]⟩
  | .eMk k _ _ _ _ _ => some ⟨"erase", [k]⟩
  | .e0Ld k _ _ _ => some ⟨"erase", [k]⟩
  | .e0Mk k _ _ _ _ => some ⟨"erase", [k]⟩
  | .eH1 _ _ _ _ _ => none
  | .eH2 _ _ _ _ _ _ => none
  | .eHSub _ _ _ _ _ => none
  | .qHgt o _ => some (fop o)
  | .qLd1 o _ _ _ => some (fop o)
  | .qLd2 o _ _ _ _ _ => some (fop o)
  | .qChk o _ => some (fop o)
  | .done _ => none

/-- The result of an operation that has passed its definitive linearization point. -/
def postRet (val : Nat → Int) : PC → Option GRet
  | .idle => none
  | .fLd1 w _ _ _ _ _ => wpost w
  | .fLd2 w _ _ _ _ _ _ _ => wpost w
  | .fSucc w _ _ _ _ _ _ => wpost w
  | .fChk w _ _ _ _ _ _ _ _ => wpost w
  | .hUnl w _ _ _ _ _ => wpost w
  | .hLd1 w _ _ _ _ _ => wpost w
  | .hLd2 w _ _ _ _ _ _ _ => wpost w
  | .hCas w _ _ _ _ _ _ => wpost w
  | .hSub w _ _ _ => wpost w
  | .iClr _ _ _ _ => none
  | .iSt0 _ _ _ => none
  | .iCas0 _ _ _ => none
  | .iUpA _ _ _ _ _ => some [1]
  | .iUpB _ _ _ _ => some [1]
  | .iSubFix _ _ _ _ => some [1]
  | .gHgt _ => some [1]
  | .gCas _ _ => some [1]
  | .eLd _ _ _ _ _ => none
  | .eMk _ _ _ _ _ _ => none
  | .e0Ld _ _ _ _ => none
  | .e0Mk _ _ _ _ _ => none
  | .eH1 _ d _ _ _ => some [1, val d]
  | .eH2 _ d _ _ _ _ => some [1, val d]
  | .eHSub _ d _ _ _ => some [1, val d]
  | .qHgt _ _ => none
  | .qLd1 _ _ _ _ => none
  | .qLd2 _ _ _ _ _ _ => none
  | .qChk _ _ => none
  | .done r => some r

/-- The result fixed so far: definitive (`postRet`), tentative (a traversal that has read an unmarked item with the
    key and has not validated yet), or fixed by another thread (an erase whose victim has been marked by a
    competitor: it will answer false). -/
def lpRet (mk : Nat → Bool) (key val : Nat → Int) : PC → Option GRet
  | .idle => none
  | .fLd1 w _ _ _ _ _ => wpost w
  | .fLd2 w _ _ _ _ _ _ _ => wpost w
  | .fSucc w _ _ _ _ _ _ => wpost w
  | .fChk w _ _ cur _ sm _ _ _ => if sm = false ∧ key cur = wkey key w ∧ wstop w = true then wfound val w cur else wpost w
  | .hUnl w _ _ _ _ _ => wpost w
  | .hLd1 w _ _ _ _ _ => wpost w
  | .hLd2 w _ _ _ _ _ _ _ => wpost w
  | .hCas w _ _ _ _ _ _ => wpost w
  | .hSub w _ _ _ => wpost w
  | .iClr _ _ _ _ => none
  | .iSt0 _ _ _ => none
  | .iCas0 _ _ _ => none
  | .iUpA _ _ _ _ _ => some [1]
  | .iUpB _ _ _ _ => some [1]
  | .iSubFix _ _ _ _ => some [1]
  | .gHgt _ => some [1]
  | .gCas _ _ => some [1]
  | .eLd _ d _ _ _ => if mk d = true then some [0] else none
  | .eMk _ d _ _ _ _ => if mk d = true then some [0] else none
  | .e0Ld _ d _ _ => if mk d = true then some [0] else none
  | .e0Mk _ d _ _ _ => if mk d = true then some [0] else none
  | .eH1 _ d _ _ _ => some [1, val d]
  | .eH2 _ d _ _ _ _ => some [1, val d]
  | .eHSub _ d _ _ _ => some [1, val d]
  | .qHgt _ _ => none
  | .qLd1 _ _ _ _ => none
  | .qLd2 _ _ _ _ _ _ => none
  | .qChk _ _ => none
  | .done r => some r

theorem wop_none_of_wpost {key val : Nat → Int} {w : Why} {r : GRet} (h : wpost w = some r) : wop key val w = none := by
  cases w <;> simp_all [wpost, wop]

theorem opOf_none_of_post {key val : Nat → Int} {pc : PC} {r : GRet} (h : postRet val pc = some r) :
    opOf key val pc = none := by
  cases pc <;> simp only [postRet, opOf, reduceCtorEq] at h ⊢ <;> first | rfl | exact wop_none_of_wpost h

theorem lpRet_of_post {mk : Nat → Bool} {key val : Nat → Int} {pc : PC} {r : GRet} (h : postRet val pc = some r) :
    lpRet mk key val pc = some r := by
  cases pc <;> simp only [postRet, lpRet, reduceCtorEq] at h ⊢ <;> first | exact h | skip
  case fChk w _ _ cur _ sm _ _ _ =>
    split
    next hc => cases w <;> simp_all [wpost, wstop]
    next => exact h

theorem postRet_none_of_lp {mk : Nat → Bool} {key val : Nat → Int} {pc : PC} (h : lpRet mk key val pc = none) :
    postRet val pc = none := by
  cases hp : postRet val pc with
  | none => rfl
  | some r => rw [lpRet_of_post hp] at h; simp at h

/-- A result that is fixed but not definitive belongs to a read-only operation. -/
theorem ro_of_tentative {mk : Nat → Bool} {key val : Nat → Int} {pc : PC} {r : GRet} (h : lpRet mk key val pc = some r)
    (hp : postRet val pc = none) : ∃ op, opOf key val pc = some op ∧ isRO op r = true := by
  cases pc <;> simp only [postRet, lpRet, opOf, reduceCtorEq] at h hp ⊢ <;> (try (rw [hp] at h; simp at h; done)) <;>
    (try (simp at h; done))
  case fChk w _ _ cur _ sm _ _ _ =>
    split at h
    next hc => cases w <;> simp_all [wfound, wop, wstop, isRO]
    next => rw [hp] at h; simp at h
  all_goals (split at h <;> simp at h; subst h; simp [isRO])

/-! ### The effect of a step -/

structure StepEff (s : St) (t : Tid) (s' : St) (L L' : List Nat) : Prop where
  frame : ∀ t2, t2 ≠ t → s'.pc t2 = s.pc t2
  key : s'.key = s.key
  val : s'.val = s.val
  lp : lpRet (mk0 s.mark) s.key s.val (s.pc t) = none → ∀ r, lpRet (mk0 s'.mark) s'.key s'.val (s'.pc t) = some r →
        ∃ op, opOf s.key s.val (s.pc t) = some op ∧
          LPok (Has (mk0 s.mark) s.key s.val L) op r (Has (mk0 s'.mark) s'.key s'.val L')
  nolp : (lpRet (mk0 s.mark) s.key s.val (s.pc t) ≠ none ∨ lpRet (mk0 s'.mark) s'.key s'.val (s'.pc t) = none) →
        ∀ k v, Has (mk0 s'.mark) s'.key s'.val L' k v ↔ Has (mk0 s.mark) s.key s.val L k v
  keep : ∀ r, lpRet (mk0 s.mark) s.key s.val (s.pc t) = some r →
          lpRet (mk0 s'.mark) s'.key s'.val (s'.pc t) = some r ∨
          ((∃ op, opOf s.key s.val (s.pc t) = some op ∧ isRO op r = true) ∧
            lpRet (mk0 s'.mark) s'.key s'.val (s'.pc t) = none)
  pkeep : ∀ r, postRet s.val (s.pc t) = some r → postRet s'.val (s'.pc t) = some r
  op : postRet s'.val (s'.pc t) = none → opOf s'.key s'.val (s'.pc t) = opOf s.key s.val (s.pc t)
  busy : s.pc t ≠ .idle ∧ s'.pc t ≠ .idle
  /-- The level-0 marks change only at the linearization point of a successful erase; right after it the key of the
      victim is absent. -/
  marks : mk0 s'.mark = mk0 s.mark ∨
    ∃ d, mk0 s.mark d = false ∧ mk0 s'.mark = upd (mk0 s.mark) d true ∧
      lpRet (mk0 s.mark) s.key s.val (s.pc t) = none ∧ (lpRet (mk0 s'.mark) s'.key s'.val (s'.pc t)).isSome = true ∧
      ∀ w, ¬ Has (mk0 s'.mark) s'.key s'.val L' (s.key d) w

/-- What a step from `pc` to `pc'` that leaves the abstract map `H` alone has to satisfy. -/
structure EffOk (mk : Nat → Bool) (key val : Nat → Int) (H : Int → Int → Prop) (pc pc' : PC) : Prop where
  lp : lpRet mk key val pc = none → ∀ r, lpRet mk key val pc' = some r → ∃ op, opOf key val pc = some op ∧ LPok H op r H
  keep : ∀ r, lpRet mk key val pc = some r → lpRet mk key val pc' = some r ∨
      ((∃ op, opOf key val pc = some op ∧ isRO op r = true) ∧ lpRet mk key val pc' = none)
  pkeep : ∀ r, postRet val pc = some r → postRet val pc' = some r
  op : postRet val pc' = none → opOf key val pc' = opOf key val pc
  busy : pc ≠ .idle ∧ pc' ≠ .idle

theorem ne_idle_of_op {key val : Nat → Int} {pc : PC} {op : GOp} (h : opOf key val pc = some op) : pc ≠ .idle :=
  fun e => by rw [e] at h; cases h

theorem ne_idle_of_post {val : Nat → Int} {pc : PC} {r : GRet} (h : postRet val pc = some r) : pc ≠ .idle :=
  fun e => by rw [e] at h; cases h

section eff
variable {mk : Nat → Bool} {key val : Nat → Int} {H : Int → Int → Prop} {pc pc' : PC}

/-- Nothing the log looks at changes. -/
theorem eff_same (h1 : opOf key val pc' = opOf key val pc) (h2 : postRet val pc' = postRet val pc)
    (h3 : lpRet mk key val pc' = lpRet mk key val pc) (hb : pc ≠ .idle ∧ pc' ≠ .idle) : EffOk mk key val H pc pc' where
  lp := fun h r hr => by rw [h3, h] at hr; cases hr
  keep := fun r hr => Or.inl (h3 ▸ hr)
  pkeep := fun r hr => h2 ▸ hr
  op := fun _ => h1
  busy := hb

/-- An `erase` that goes on looking at the level-0 mark of its node `d`. -/
theorem eff_erasing {k : Int} {d : Nat} (h1 : opOf key val pc = some ⟨"erase", [k]⟩)
    (h1' : opOf key val pc' = some ⟨"erase", [k]⟩)
    (h2 : lpRet mk key val pc = if mk d = true then some [0] else none)
    (h2' : lpRet mk key val pc' = if mk d = true then some [0] else none)
    (hp : postRet val pc = none) (hp' : postRet val pc' = none) (hb : pc ≠ .idle ∧ pc' ≠ .idle) :
    EffOk mk key val H pc pc' :=
  eff_same (h1'.trans h1.symm) (hp'.trans hp.symm) (h2'.trans h2.symm) hb

/-- The step is a definitive linearization point and the operation is over. -/
theorem eff_done {op : GOp} {r : GRet} (hop : opOf key val pc = some op) (hl : lpRet mk key val pc = none)
    (hLP : LPok H op r H) : EffOk mk key val H pc (.done r) where
  lp := fun _ r' hr' => by cases hr'; exact ⟨op, hop, hLP⟩
  keep := fun r' hr' => by rw [hl] at hr'; cases hr'
  pkeep := fun r' hr' => by rw [postRet_none_of_lp hl] at hr'; cases hr'
  op := nofun
  busy := ⟨ne_idle_of_op hop, nofun⟩

/-- Before and after the step the operation is past its definitive linearization point, with the same result. -/
theorem eff_post {r : GRet} (h2 : postRet val pc = some r) (h2' : postRet val pc' = some r) : EffOk mk key val H pc pc' where
  lp := fun h => by rw [lpRet_of_post h2] at h; cases h
  keep := fun r' hr' => Or.inl (by rw [← hr', lpRet_of_post h2, lpRet_of_post h2'])
  pkeep := fun r' hr' => by rw [← hr', h2, h2']
  op := fun h => by rw [h2'] at h; cases h
  busy := ⟨ne_idle_of_post h2, ne_idle_of_post h2'⟩

/-- Nothing is fixed before or after the step. -/
theorem eff_pre (h1 : opOf key val pc' = opOf key val pc) (hl : lpRet mk key val pc = none)
    (hl' : lpRet mk key val pc' = none) (hne : pc ≠ .idle ∧ pc' ≠ .idle) : EffOk mk key val H pc pc' :=
  eff_same h1 (by rw [postRet_none_of_lp hl, postRet_none_of_lp hl']) (by rw [hl, hl']) hne

/-- A result fixed before the step is confirmed: the operation is over. -/
theorem eff_confirm {r : GRet} (hl : lpRet mk key val pc = some r) (hp : postRet val pc = none) (hne : pc ≠ .idle) :
    EffOk mk key val H pc (.done r) where
  lp := fun h => by rw [hl] at h; cases h
  keep := fun r' hr' => Or.inl (hl.symm.trans hr')
  pkeep := fun r' hr' => by rw [hp] at hr'; cases hr'
  op := nofun
  busy := ⟨hne, nofun⟩

/-- A tentative result, if there is one, is withdrawn. -/
theorem eff_withdraw (h1 : opOf key val pc' = opOf key val pc) (h2 : postRet val pc' = postRet val pc)
    (h3 : lpRet mk key val pc' = postRet val pc) (hb : pc ≠ .idle ∧ pc' ≠ .idle) : EffOk mk key val H pc pc' where
  lp := fun h r hr => by rw [h3, postRet_none_of_lp h] at hr; cases hr
  keep := fun r hr => by
    cases hp : postRet val pc with
    | some r' => left; rw [h3, hp, ← hr, lpRet_of_post hp]
    | none => exact Or.inr ⟨ro_of_tentative hr hp, h3.trans hp⟩
  pkeep := fun r hr => h2 ▸ hr
  op := fun _ => h1
  busy := hb

end eff

/-! ### Linearization-point lemmas -/

theorem lp_absent_w {H : Int → Int → Prop} {key val : Nat → Int} {w : Why} (hw : wop key val w ≠ none)
    (hins : ∀ n, w ≠ .insS n) (h0 : ∀ v, ¬ H (wkey key w) v) : ∃ op, wop key val w = some op ∧ LPok H op [0] H := by
  cases w <;> simp only [wop, wkey, ne_eq, not_true_eq_false, reduceCtorEq, not_false_eq_true] at hw h0 ⊢
  · exact absurd rfl (hins _)
  · exact ⟨_, rfl, LPok.ro_none h0 (fun _ _ => Iff.rfl) (Or.inl rfl)⟩
  · exact ⟨_, rfl, LPok.ro_none h0 (fun _ _ => Iff.rfl) (Or.inr (Or.inl rfl))⟩
  · exact ⟨_, rfl, LPok.ro_none h0 (fun _ _ => Iff.rfl) (Or.inr (Or.inr rfl))⟩

theorem lp_present_w {H : Int → Int → Prop} {key val : Nat → Int} {w : Why} {cur : Nat} {r : GRet}
    (hr : wfound val w cur = some r) (h0 : H (wkey key w) (val cur)) : ∃ op, wop key val w = some op ∧ LPok H op r H := by
  cases w <;> simp only [wfound, wop, wkey, reduceCtorEq, Option.some.injEq] at hr h0 ⊢ <;> subst hr
  · exact ⟨_, rfl, LPok.ro_some h0 (fun _ _ => Iff.rfl) (Or.inl ⟨_, rfl, rfl⟩)⟩
  · exact ⟨_, rfl, LPok.ro_some h0 (fun _ _ => Iff.rfl) (Or.inr (Or.inl ⟨rfl, rfl⟩))⟩
  · exact ⟨_, rfl, LPok.ro_some h0 (fun _ _ => Iff.rfl) (Or.inr (Or.inr ⟨rfl, rfl⟩))⟩

theorem lp_absent_f {H : Int → Int → Prop} {o : Fop} (h0 : ∀ v, ¬ H (fkey o) v) : LPok H (fop o) [0] H := by
  cases o <;> simp only [fkey, fop] at h0 ⊢
  · exact LPok.ro_none h0 (fun _ _ => Iff.rfl) (Or.inr (Or.inl rfl))
  · exact LPok.ro_none h0 (fun _ _ => Iff.rfl) (Or.inr (Or.inr rfl))

theorem lp_present_f {H : Int → Int → Prop} {val : Nat → Int} {o : Fop} {cur : Nat} {r : GRet}
    (hr : ffound val o cur = .done r) (h0 : H (fkey o) (val cur)) : LPok H (fop o) r H := by
  cases o <;> simp only [ffound, fkey, fop, PC.done.injEq] at hr h0 ⊢ <;> subst hr
  · exact LPok.ro_some h0 (fun _ _ => Iff.rfl) (Or.inr (Or.inl ⟨rfl, rfl⟩))
  · exact LPok.ro_some h0 (fun _ _ => Iff.rfl) (Or.inr (Or.inr ⟨rfl, rfl⟩))

theorem lp_absent_e {H : Int → Int → Prop} {k : Int} (h0 : ∀ v, ¬ H k v) : LPok H ⟨"erase", [k]⟩ [0] H :=
  LPok.ro_none h0 (fun _ _ => Iff.rfl) (Or.inl rfl)

/-- An unmarked published item is in the abstract map. -/
theorem GOk.has_of_unmarked {m : Mem} {L : List Nat} (h : GOk m L) {a : Nat} (ha : Pub m L a) (hm : m.mark a 0 = false) :
    Has (mk0 m.mark) m.key m.val L (m.key a) (m.val a) :=
  ⟨a, h.unm_mem (Or.inr ha.2) hm, ha.1, hm, rfl, rfl⟩

/-- Unmarked on a level it reaches: unmarked on level 0. -/
theorem GOk.unmarked0 {m : Mem} {L : List Nat} (h : GOk m L) {a l : Nat} (hl : l < m.ht a) (hm : m.mark a l = false) :
    m.mark a 0 = false := by
  cases e : m.mark a 0 with
  | false => rfl
  | true => rw [h.mmono a l e hl] at hm; simp at hm

end CdsVerif.Algo.SkipList
