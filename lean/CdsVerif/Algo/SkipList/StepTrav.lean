/-
  The steps of `find_position` / `renew_insert_position` / `help_remove` that only load.
-/
import CdsVerif.Algo.SkipList.StepBase
namespace CdsVerif.Algo.SkipList
open CdsVerif.Machine CdsVerif.Spec CdsVerif.Lin
open CdsVerif.Algo.Michael (Chain Lt LPok isRO insAfter Has)

theorem tok_levelDone {c : Cfg} (hc : 0 < c.maxH) {m : Mem} {L : List Nat} (hg : GOk m L) {w : Why} {lvl pred : Nat}
    {cur : Option Nat} {nc : Bool} {pp : List Nat} {ps : List (Option Nat)}
    (hw : WOk m L w) (hl : ListsOk c m L pp ps) (hp : PredOk m L (wkey m.key w) pred)
    (hcur : ∀ x, cur = some x → CurOk m L lvl x)
    (hk : ∀ x, cur = some x → lvl = 0 → (nc = true → m.key x = wkey m.key w) ∧ (nc = false → wkey m.key w < m.key x)) :
    TOk c m L (levelDone m.val m.ht w lvl pred cur nc pp ps) := by
  have hl' := hl.set (lvl := lvl) hp.lk hcur
  unfold levelDone
  split
  next h0 =>
    subst h0
    have hpp : (pp.set 0 pred).getD 0 0 = pred := getD_set_same _ _ _ _ (by rw [hl.1]; exact hc)
    have hps : (ps.set 0 cur).getD 0 none = cur := getD_set_same _ _ _ _ (by rw [hl.2.1]; exact hc)
    have hpos := hg.hpos
    cases w <;> simp only [finish, WOk, wkey] at hw hp ⊢
    case insS n =>
      split
      · simp [TOk]
      next hn =>
        have hip : InsPos m n (pp.set 0 pred) (ps.set 0 cur) := by
          refine ⟨?_, ?_⟩
          · rw [hpp]
            rcases hp with e | e
            · exact Or.inl e
            · exact Or.inr e.2
          · intro x hx; rw [hps] at hx
            have := hk x hx rfl
            cases nc with
            | true => simp [hx] at hn
            | false => exact this.2 rfl
        unfold startLink; split <;> simp only [TOk]
        · exact ⟨hw, hl', hip, Nat.le_refl _⟩
        · exact ⟨hw, hl', hip⟩
    case eraS k =>
      cases cur with
      | none => simp [TOk]
      | some d =>
        dsimp only
        split
        next hn =>
          have hd := hcur d rfl
          have hkd := (hk d rfl rfl).1 hn
          unfold startRemove; split <;> simp only [TOk]
          · refine ⟨hl', ⟨hd.1, hd.2.1⟩, hkd, by omega, by have := hpos d; omega, ?_⟩
            intro l h1 h2; omega
          · refine ⟨hl', ⟨hd.1, hd.2.1⟩, hkd, ?_⟩
            intro l h1 h2; omega
        · simp [TOk]
    case fndS k => cases cur <;> dsimp only <;> (try split) <;> simp [TOk]
    case conS k => split <;> simp [TOk]
    case insFix n => simp [TOk]
    case eraFix k v => simp [TOk]
    case renew n l p => split <;> simp only [TOk] <;> first | exact ⟨hw.1, hl', hw.2.1, hw.2.2⟩ | exact ⟨hw.1, hl'⟩
  next h0 =>
    simp only [TOk]; exact ⟨hw, hl', hp⟩


section eff
variable {mk : Nat → Bool} {key val : Nat → Int} {H : Int → Int → Prop}

/-- Into `try_remove_at`: if the victim is marked already, the erase has lost. -/
theorem eff_remove {pc : PC} {ht : Nat → Nat} {k : Int} {d : Nat} {pp : List Nat} {ps : List (Option Nat)}
    (hop : opOf key val pc = some ⟨"erase", [k]⟩) (hl : lpRet mk key val pc = none)
    (hLP : mk d = true → LPok H ⟨"erase", [k]⟩ [0] H) : EffOk mk key val H pc (startRemove ht k d pp ps) := by
  have h1 : opOf key val (startRemove ht k d pp ps) = some ⟨"erase", [k]⟩ := by unfold startRemove; split <;> rfl
  have h2 : lpRet mk key val (startRemove ht k d pp ps) = if mk d = true then some [0] else none := by
    unfold startRemove; split <;> rfl
  refine ⟨fun _ r hr => ?_, fun r hr => ?_, fun r hr => ?_, fun _ => h1.trans hop.symm, ne_idle_of_op hop, ne_idle_of_op h1⟩
  · rw [h2] at hr
    split at hr
    next hm => cases hr; exact ⟨_, hop, hLP hm⟩
    · cases hr
  · rw [hl] at hr; cases hr
  · rw [postRet_none_of_lp hl] at hr; cases hr

theorem eff_levelDone {pc : PC} {ht : Nat → Nat} {w : Why} {lvl pred : Nat} {cur : Option Nat} {nc : Bool} {pp : List Nat}
    {ps : List (Option Nat)}
    (h1 : opOf key val pc = wop key val w) (h2 : postRet val pc = wpost w) (h3 : lpRet mk key val pc = wpost w)
    (hne : pc ≠ .idle)
    (hstop : ∀ x, cur = some x → nc = true → wstop w = false)
    (habs : lvl = 0 → (cur = none ∨ nc = false) → (∀ n, w ≠ .insS n) → ∀ v, ¬ H (wkey key w) v)
    (hmk : ∀ x, cur = some x → lvl = 0 → nc = true → mk x = true → ∀ v, ¬ H (wkey key w) v) :
    EffOk mk key val H pc (levelDone val ht w lvl pred cur nc pp ps) := by
  unfold levelDone
  split
  next h0 =>
    cases w <;> simp only [finish, wop, wpost, wkey, wstop] at h1 h2 h3 hstop habs hmk ⊢
    case insS n =>
      split
      next hc =>
        cases cur with
        | none => simp at hc
        | some x => simp at hc; have := hstop x rfl hc; simp at this
      next =>
        unfold startLink
        split <;> exact eff_pre (by rw [h1]; rfl) h3 rfl ⟨hne, nofun⟩
    case eraS k =>
      cases cur with
      | none => exact eff_done h1 h3 (lp_absent_e (habs h0 (Or.inl rfl) nofun))
      | some d =>
        dsimp only
        split
        next hn => exact eff_remove h1 h3 (fun hm => lp_absent_e (hmk d rfl h0 hn hm))
        next hn => exact eff_done h1 h3 (lp_absent_e (habs h0 (Or.inr (by simpa using hn)) nofun))
    case fndS k =>
      cases cur with
      | none => exact eff_done h1 h3 (lp_absent_f (o := .fnd k) (habs h0 (Or.inl rfl) nofun))
      | some d =>
        dsimp only
        split
        next hn => have := hstop d rfl hn; simp at this
        next hn => exact eff_done h1 h3 (lp_absent_f (o := .fnd k) (habs h0 (Or.inr (by simpa using hn)) nofun))
    case conS k =>
      split
      next hc =>
        cases cur with
        | none => simp at hc
        | some x => simp at hc; have := hstop x rfl hc; simp at this
      next hc =>
        refine eff_done h1 h3 (lp_absent_f (o := .con k) (habs h0 ?_ nofun))
        cases cur with
        | none => exact Or.inl rfl
        | some x => simp at hc; exact Or.inr hc
    case insFix n => exact eff_post h2 rfl
    case eraFix k v => exact eff_post h2 rfl
    case renew n l p => split <;> exact eff_post h2 rfl
  next h0 =>
    exact eff_same (by rw [h1]; rfl) (by rw [h2]; rfl) (by rw [h3]; rfl) ⟨hne, nofun⟩

end eff

theorem lpRet_fChk_of_not {mk : Nat → Bool} {key val : Nat → Int} {w : Why} {lvl pred cur : Nat} {sx : Option Nat}
    {sm nc : Bool} {pp : List Nat} {ps : List (Option Nat)} (h : ¬ (sm = false ∧ key cur = wkey key w ∧ wstop w = true)) :
    lpRet mk key val (.fChk w lvl pred cur sx sm nc pp ps) = wpost w := by
  simp only [lpRet, h, if_false]

theorem wpost_none_of_stop {w : Why} (h : wstop w = true) : wpost w = none := by
  cases w <;> first | rfl | cases h

theorem pnode_levelDone {val : Nat → Int} {ht : Nat → Nat} {w : Why} {lvl pred : Nat} {cur : Option Nat} {nc : Bool}
    {pp : List Nat} {ps : List (Option Nat)} {n : Nat}
    (hn : pnode (levelDone val ht w lvl pred cur nc pp ps) = some n) : wnode w = some n := by
  unfold levelDone at hn
  split at hn
  · cases w <;> simp only [finish, startLink, startRemove] at hn <;> (repeat' split at hn) <;>
      simp_all [pnode, wnode]
  · exact hn

/-- A traversal that stops at an item with the key ends the operation with the answer `wfound`. -/
theorem finish_stop {val : Nat → Int} {ht : Nat → Nat} {w : Why} {cur : Nat} {pp : List Nat} {ps : List (Option Nat)}
    (hst : wstop w = true) : ∃ r, finish val ht w true (some cur) pp ps = .done r ∧ wfound val w cur = some r := by
  cases w <;> first | exact ⟨_, rfl, rfl⟩ | cases hst

section steps
variable {c : Cfg} {s s' : St} {t : Tid} {ev : Ev} {L : List Nat}

theorem sinvl_step_fLd1 {w : Why} {lvl pred : Nat} {nc : Bool} {pp : List Nat} {ps : List (Option Nat)}
    (h : SInvL c s L) (hpc : s.pc t = .fLd1 w lvl pred nc pp ps) (hs : step c s t = some (s', ev)) :
    ∃ L', SInvL c s' L' ∧ StepEff s t s' L L' := by
  have ht := h.tok hpc
  simp only [step, hpc] at hs; cases hs
  exact quiet_step h hpc ht ⟨rfl, rfl, rfl, rfl⟩ ⟨nofun, nofun⟩

theorem sinvl_step_fLd2 (hc : 0 < c.maxH) {w : Why} {lvl pred : Nat} {nc : Bool} {pp : List Nat} {ps : List (Option Nat)}
    {x : Option Nat} {m : Bool}
    (h : SInvL c s L) (hpc : s.pc t = .fLd2 w lvl pred nc pp ps x m) (hs : step c s t = some (s', ev)) :
    ∃ L', SInvL c s' L' ∧ StepEff s t s' L L' := by
  obtain ⟨hw, hl, hp⟩ := h.tok hpc
  simp only [step, hpc] at hs
  split at hs <;> cases hs
  next hv =>
    unfold afterLd2
    split
    · exact quiet_step h hpc (tok_retry hw hl) ⟨rfl, rfl, rfl, rfl⟩ ⟨nofun, nofun⟩
    next hm =>
      split
      · -- `pPred->next(lvl)` is null and unmarked: on level 0 the key is absent
        refine pc_only h hpc (tok_levelDone hc h.g hw hl hp nofun nofun) (fun _ => pnode_levelDone)
          (eff_levelDone rfl rfl rfl nofun nofun ?_ nofun)
        intro h0 _ _
        subst h0
        have hm' : s.mark pred 0 = false := by rw [hv.2]; simpa using hm
        refine h.g.absent_at hp hm' fun c' (hc' : s.next pred 0 = some c') => ?_
        rw [hv.1] at hc'; cases hc'
      next cur => exact quiet_step h hpc ⟨hw, hl, hp, h.g.ptr pred lvl cur hv.1⟩ ⟨rfl, rfl, rfl, rfl⟩ ⟨nofun, nofun⟩
  next => exact quiet_step h hpc ⟨hw, hl, hp⟩ ⟨rfl, rfl, rfl, rfl⟩ ⟨nofun, nofun⟩

/-- The load of `pCur->next(lvl)`: if it reads an unmarked word of an item with the key, the answer of a traversal
    that stops there is fixed, tentatively. -/
theorem sinvl_step_fSucc {w : Why} {lvl pred cur : Nat} {nc : Bool} {pp : List Nat} {ps : List (Option Nat)}
    (h : SInvL c s L) (hpc : s.pc t = .fSucc w lvl pred cur nc pp ps) (hs : step c s t = some (s', ev)) :
    ∃ L', SInvL c s' L' ∧ StepEff s t s' L L' := by
  obtain ⟨hw, hl, hp, hcu⟩ := h.tok hpc
  simp only [step, hpc] at hs; cases hs
  refine pc_only h hpc ⟨hw, hl, hp, hcu⟩ (fun _ hn => hn) ⟨?_, ?_, fun r hr => hr, fun _ => rfl, nofun, nofun⟩
  · intro h0 r hr
    have h0' : wpost w = none := h0
    simp only [lpRet] at hr
    split at hr
    next hcond =>
      have hm0 : s.mark cur 0 = false := h.g.unmarked0 (a := cur) (l := lvl) hcu.2.2 hcond.1
      have hhas := h.g.has_of_unmarked (a := cur) ⟨hcu.1, hcu.2.1⟩ hm0
      have hk : s.key cur = wkey s.key w := hcond.2.1
      exact lp_present_w hr (by rw [← hk]; exact hhas)
    next => rw [h0'] at hr; cases hr
  · intro r hr
    have hr' : wpost w = some r := hr
    left
    simp only [lpRet]
    split
    next hcond => rw [wpost_none_of_stop hcond.2.2] at hr'; cases hr'
    next => exact hr'

/-- The validation of `pPred->next(lvl)`: a tentative answer is confirmed or withdrawn; on level 0, a successor with
    a larger key shows that the key is absent. -/
theorem sinvl_step_fChk (hc : 0 < c.maxH) {w : Why} {lvl pred cur : Nat} {sx : Option Nat} {sm nc : Bool} {pp : List Nat}
    {ps : List (Option Nat)}
    (h : SInvL c s L) (hpc : s.pc t = .fChk w lvl pred cur sx sm nc pp ps) (hs : step c s t = some (s', ev)) :
    ∃ L', SInvL c s' L' ∧ StepEff s t s' L L' := by
  obtain ⟨hw, hl, hp, hcu⟩ := h.tok hpc
  simp only [step, hpc] at hs
  split at hs <;> cases hs
  next hv =>
    unfold afterChk
    split
    next hsm =>
      -- `pCur` is marked: help to unlink it (`renew_insert_position` gives up on its own item)
      have hl0 : lpRet (mk0 s.mark) s.key s.val (.fChk w lvl pred cur sx sm nc pp ps) = wpost w :=
        lpRet_fChk_of_not (by simp [hsm])
      have hhelp := quiet_step (unl' := s.unl) (hgt' := s.hgt) (pc' := .hUnl w lvl pred cur pp ps) h hpc ⟨hw, hl, hp, hcu⟩
        ⟨rfl, rfl, rfl, hl0.symm⟩ ⟨nofun, nofun⟩
      cases w <;> dsimp only <;> (try split) <;> first | exact hhelp | exact pc_only h hpc ⟨hw.1, hl⟩ nofun (eff_post rfl rfl)
    next hsm =>
      split
      next hlt =>
        have hl0 : lpRet (mk0 s.mark) s.key s.val (.fChk w lvl pred cur sx sm nc pp ps) = wpost w :=
          lpRet_fChk_of_not (by intro hx; have := hx.2.1; omega)
        exact quiet_step h hpc ⟨hw, hl, Or.inr ⟨hcu.2.1, hlt⟩⟩ ⟨rfl, rfl, rfl, hl0.symm⟩ ⟨nofun, nofun⟩
      next hlt =>
        split
        next heq =>
          -- the tentative linearization is confirmed
          obtain ⟨r, hf1, hf2⟩ := finish_stop (val := s.val) (ht := s.ht) (cur := cur) (pp := pp) (ps := ps) heq.2
          rw [hf1]
          have hsm' : sm = false := by simpa using hsm
          have hl0 : lpRet (mk0 s.mark) s.key s.val (.fChk w lvl pred cur sx sm nc pp ps) = some r := by
            simp only [lpRet, hsm', heq.1, heq.2, and_self, if_true]; exact hf2
          exact pc_only h hpc trivial nofun (eff_confirm hl0 (wpost_none_of_stop heq.2) nofun)
        next hne =>
          have hl0 : lpRet (mk0 s.mark) s.key s.val (.fChk w lvl pred cur sx sm nc pp ps) = wpost w :=
            lpRet_fChk_of_not (by intro hx; exact hne ⟨hx.2.1, hx.2.2⟩)
          have hkgt : ¬ s.key cur = wkey s.key w → wkey s.key w < s.key cur := by intro e; omega
          have hpm : s.mark pred 0 = false → s.next pred 0 = some cur → pred ∈ L ∧ cur ∈ L := fun e1 e2 =>
            ⟨h.g.unm_mem hp.lk e1, (h.g.next_mem (h.g.unm_mem hp.lk e1) e2).2⟩
          refine pc_only h hpc (tok_levelDone hc h.g hw hl hp (fun x hx => Option.some.inj hx ▸ hcu) ?_)
            (fun _ => pnode_levelDone) (eff_levelDone rfl rfl hl0 nofun ?_ ?_ ?_)
          · intro x hx _
            cases hx
            exact ⟨fun e => by simpa using e, fun e => hkgt (by simpa using e)⟩
          · intro x _ hnc
            have : s.key cur = wkey s.key w := by simpa using hnc
            cases hst : wstop w with
            | false => rfl
            | true => exact absurd ⟨this, hst⟩ hne
          · -- level 0, the successor has a larger key: the key is absent
            intro h0 hor _
            subst h0
            have hnc : ¬ s.key cur = wkey s.key w := by
              rcases hor with e | e
              · cases e
              · simpa using e
            refine h.g.absent_at hp hv.2 fun c' (hc' : s.next pred 0 = some c') => ?_
            rw [hv.1] at hc'; cases hc'
            exact hkgt hnc
          · -- level 0, the successor has the key but is marked: the key is absent
            intro x hx h0 hnc hmk v
            cases hx; subst h0
            have hk : s.key cur = wkey s.key w := by simpa using hnc
            rw [← hk]
            exact h.g.absent_marked (hpm hv.2 hv.1).2 hcu.1 hmk v
  next =>
    -- a tentative linearization is withdrawn
    exact pc_only h hpc (tok_retry hw hl) (fun _ hn => hn) (eff_withdraw rfl rfl rfl ⟨nofun, nofun⟩)

theorem sinvl_step_hUnl {w : Why} {lvl pred cur : Nat} {pp : List Nat} {ps : List (Option Nat)}
    (h : SInvL c s L) (hpc : s.pc t = .hUnl w lvl pred cur pp ps) (hs : step c s t = some (s', ev)) :
    ∃ L', SInvL c s' L' ∧ StepEff s t s' L L' := by
  obtain ⟨hw, hl, hp, hcu⟩ := h.tok hpc
  simp only [step, hpc] at hs; cases hs
  split
  · exact quiet_step h hpc ⟨hw, hl, hp, hcu⟩ ⟨rfl, rfl, rfl, rfl⟩ ⟨nofun, nofun⟩
  · exact quiet_step h hpc (tok_retry hw hl) ⟨rfl, rfl, rfl, rfl⟩ ⟨nofun, nofun⟩

theorem sinvl_step_hLd1 {w : Why} {lvl pred cur : Nat} {pp : List Nat} {ps : List (Option Nat)}
    (h : SInvL c s L) (hpc : s.pc t = .hLd1 w lvl pred cur pp ps) (hs : step c s t = some (s', ev)) :
    ∃ L', SInvL c s' L' ∧ StepEff s t s' L L' := by
  have ht := h.tok hpc
  simp only [step, hpc] at hs; cases hs
  exact quiet_step h hpc ht ⟨rfl, rfl, rfl, rfl⟩ ⟨nofun, nofun⟩

theorem sinvl_step_hLd2 {w : Why} {lvl pred cur : Nat} {pp : List Nat} {ps : List (Option Nat)} {x : Option Nat} {m : Bool}
    (h : SInvL c s L) (hpc : s.pc t = .hLd2 w lvl pred cur pp ps x m) (hs : step c s t = some (s', ev)) :
    ∃ L', SInvL c s' L' ∧ StepEff s t s' L L' := by
  obtain ⟨hw, hl, hp, hcu⟩ := h.tok hpc
  simp only [step, hpc] at hs
  split at hs <;> cases hs
  next hv =>
    split
    next hm =>
      exact quiet_step h hpc ⟨hw, hl, hp, hcu, hv.2.trans hm, hv.1⟩ ⟨rfl, rfl, rfl, rfl⟩ ⟨nofun, nofun⟩
    · exact quiet_step h hpc (tok_retry hw hl) ⟨rfl, rfl, rfl, rfl⟩ ⟨nofun, nofun⟩
  next => exact quiet_step h hpc ⟨hw, hl, hp, hcu⟩ ⟨rfl, rfl, rfl, rfl⟩ ⟨nofun, nofun⟩

theorem sinvl_step_hSub {w : Why} {cur : Nat} {pp : List Nat} {ps : List (Option Nat)}
    (h : SInvL c s L) (hpc : s.pc t = .hSub w cur pp ps) (hs : step c s t = some (s', ev)) :
    ∃ L', SInvL c s' L' ∧ StepEff s t s' L L' := by
  obtain ⟨hw, hl⟩ := h.tok hpc
  simp only [step, hpc] at hs; cases hs
  exact quiet_step h hpc (tok_retry hw hl) ⟨rfl, rfl, rfl, rfl⟩ ⟨nofun, nofun⟩

end steps

end CdsVerif.Algo.SkipList
