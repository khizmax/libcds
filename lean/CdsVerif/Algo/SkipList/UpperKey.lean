/-
  An inductive weakening of "every level is ordered" that needs no reasoning about the unlink counter: in every reachable
  state EVERY tower word, on every level, of every item (linked or not) points forward in the key order, non-strictly:
  `next a l = some b → a = head ∨ key a ≤ key b`.  Consequently the walk of every level from the head is non-decreasing
  in the key.  (Strictness on the upper levels — no two items with the same key on one upper level — and the sub-list
  relation between levels need the top-down unlinking discipline of `m_nUnlink`; not proved.)
-/
import CdsVerif.Algo.SkipList.Lin
import CdsVerif.Algo.SkipList.Abs
namespace CdsVerif.Algo.SkipList
open CdsVerif.Machine CdsVerif.Spec CdsVerif.Lin

def KPP (key : Nat → Int) (K : Int) (pp : List Nat) : Prop := ∀ i, pp.getD i 0 = 0 ∨ key (pp.getD i 0) < K
def KPS (key : Nat → Int) (K : Int) (ps : List (Option Nat)) : Prop := ∀ i c, ps.getD i none = some c → K ≤ key c
def KL (key : Nat → Int) (K : Int) (pp : List Nat) (ps : List (Option Nat)) : Prop := KPP key K pp ∧ KPS key K ps

/-- The positions a thread has recorded bracket its key, on every level. -/
def KOk (key : Nat → Int) : PC → Prop
  | .idle => True
  | .fLd1 w _ _ _ pp ps => KL key (wkey key w) pp ps
  | .fLd2 w _ _ _ pp ps _ _ => KL key (wkey key w) pp ps
  | .fSucc w _ _ _ _ pp ps => KL key (wkey key w) pp ps
  | .fChk w _ _ _ _ _ _ pp ps => KL key (wkey key w) pp ps
  | .hUnl w _ _ _ pp ps => KL key (wkey key w) pp ps
  | .hLd1 w _ _ _ pp ps => KL key (wkey key w) pp ps
  | .hLd2 w _ _ _ pp ps _ _ => KL key (wkey key w) pp ps
  | .hCas w _ _ _ pp ps _ => KL key (wkey key w) pp ps
  | .hSub w _ pp ps => KL key (wkey key w) pp ps
  | .iClr n _ pp ps => KL key (key n) pp ps
  | .iSt0 n pp ps => KL key (key n) pp ps
  | .iCas0 n pp ps => KL key (key n) pp ps
  | .iUpA n _ _ pp ps => KL key (key n) pp ps
  | .iUpB n _ pp ps => KL key (key n) pp ps
  | .iSubFix n _ pp ps => KL key (key n) pp ps
  | .gHgt _ => True
  | .gCas _ _ => True
  | .eLd k _ _ pp ps => KL key k pp ps
  | .eMk k _ _ _ pp ps => KL key k pp ps
  | .e0Ld k _ pp ps => KL key k pp ps
  | .e0Mk k _ _ pp ps => KL key k pp ps
  | .eH1 k d _ pp ps => KL key k pp ps ∧ key d = k
  | .eH2 k d _ _ pp ps => KL key k pp ps ∧ key d = k
  | .eHSub k d _ pp ps => KL key k pp ps ∧ key d = k
  | .qHgt _ _ => True
  | .qLd1 _ _ _ _ => True
  | .qLd2 _ _ _ _ _ _ => True
  | .qChk _ _ => True
  | .done _ => True

theorem KL.set {key : Nat → Int} {K : Int} {pp : List Nat} {ps : List (Option Nat)} {lvl pred : Nat} {cur : Option Nat}
    (h : KL key K pp ps) (hp : pred = 0 ∨ key pred < K) (hc : ∀ x, cur = some x → K ≤ key x) :
    KL key K (pp.set lvl pred) (ps.set lvl cur) := by
  refine ⟨?_, ?_⟩
  · intro i
    rcases getD_set_cases pp lvl i pred 0 with ⟨-, e⟩ | e <;> rw [e]
    · exact hp
    · exact h.1 i
  · intro i x hx
    rcases getD_set_cases ps lvl i cur none with ⟨-, e⟩ | e <;> rw [e] at hx
    · exact hc x hx
    · exact h.2 i x hx

theorem KL.replicate (key : Nat → Int) (K : Int) (n : Nat) : KL key K (List.replicate n 0) (List.replicate n none) := by
  refine ⟨?_, ?_⟩
  · intro i; left
    simp only [List.getD_eq_getElem?_getD, List.getElem?_replicate]
    split <;> rfl
  · intro i x hx
    simp only [List.getD_eq_getElem?_getD, List.getElem?_replicate] at hx
    split at hx <;> simp at hx

theorem kok_levelDone {key val : Nat → Int} {ht : Nat → Nat} {w : Why} {lvl pred : Nat} {cur : Option Nat} {nc : Bool}
    {pp : List Nat} {ps : List (Option Nat)} (h : KL key (wkey key w) pp ps) (hp : pred = 0 ∨ key pred < wkey key w)
    (hc : ∀ x, cur = some x → wkey key w ≤ key x) (hnc : ∀ x, cur = some x → nc = true → key x = wkey key w) :
    KOk key (levelDone val ht w lvl pred cur nc pp ps) := by
  have h' := h.set (lvl := lvl) hp hc
  have h0 := h.set (lvl := 0) hp hc
  unfold levelDone
  split
  · cases w <;> simp only [finish, startLink, startRemove, wkey] at h0 hnc ⊢ <;> (repeat' split) <;>
      simp only [KOk] <;> first | trivial | exact h0 | skip
    all_goals first
      | exact ⟨h0, hnc _ rfl (by assumption)⟩
      | exact h0
  · simp only [KOk]; exact h'

theorem kok_retry {key : Nat → Int} {c : Cfg} {w : Why} {pp : List Nat} {ps : List (Option Nat)}
    (h : KL key (wkey key w) pp ps) : KOk key (retry c w pp ps) := by
  simp only [retry, KOk]; exact h

theorem kok_fslow (key : Nat → Int) (c : Cfg) (o : Fop) : KOk key (fslow c o) := by
  cases o <;> exact kok_retry (KL.replicate _ _ _)

/-- Opens a step: one goal per branch of `step` at the program counter `hpc`, with `s'` replaced by the new state. -/
macro "kstep_open2" hs:ident hpc:ident : tactic =>
  `(tactic| (simp only [step, $hpc:ident] at $hs:ident; (repeat' split at $hs:ident) <;>
      simp only [Option.some.injEq, Prod.mk.injEq] at $hs:ident <;> obtain ⟨hh, -⟩ := $hs:ident <;> subst hh <;>
      dsimp only))

macro "kstep_open" hs:ident hpc:ident : tactic =>
  `(tactic| (simp only [step, $hpc:ident] at $hs:ident; (repeat' split at $hs:ident) <;>
      simp only [Option.some.injEq, Prod.mk.injEq] at $hs:ident <;> obtain ⟨hh, -⟩ := $hs:ident <;> subst hh <;>
      dsimp only <;> simp only [upd_same]))

macro "kclose" hk:ident : tactic =>
  `(tactic| first
    | (simp only [KOk]; exact $hk:ident)
    | exact kok_retry $hk:ident
    | (simp only [KOk]; done)
    | (unfold nextUp; split <;> first | (simp only [KOk]; done) | (simp only [KOk]; exact $hk:ident))
    | (unfold nextMark; split <;> simp only [KOk] <;> exact $hk:ident)
    | exact kok_fslow _ _ _)

/-- The stepping thread keeps its bracket. -/
theorem kok_step {c : Cfg} {s s' : St} {t : Tid} {ev : Ev} {L : List Nat} (hl : SInvL c s L) (hk : KOk s.key (s.pc t))
    (hs : step c s t = some (s', ev)) : KOk s'.key (s'.pc t) := by
  have ht := hl.thr t
  cases hpc : s.pc t <;> rw [hpc] at hk ht <;> simp only [KOk] at hk <;> simp only [TOk] at ht
  case idle => simp [step, hpc] at hs
  case done => simp [step, hpc] at hs
  case fLd2 w lvl pred nc pp ps x m =>
    kstep_open hs hpc
    · unfold afterLd2
      split
      · exact kok_retry hk
      · split
        · exact kok_levelDone hk ht.2.2.lt (by simp) (by simp)
        · simp only [KOk]; exact hk
    · simp only [KOk]; exact hk
  case fChk w lvl pred cur sx sm nc pp ps =>
    kstep_open hs hpc
    · unfold afterChk
      split
      · cases w <;> dsimp only <;> (try split) <;> simp only [KOk] <;> exact hk
      · split
        · simp only [KOk]; exact hk
        · split
          next heq => cases w <;> simp_all [finish, wstop, KOk]
          next hne =>
            refine kok_levelDone hk ht.2.2.1.lt ?_ ?_
            · intro x hx; simp only [Option.some.injEq] at hx; subst hx
              have : ¬ s.key cur < wkey s.key w := by assumption
              omega
            · intro x hx hnc; simp only [Option.some.injEq] at hx; subst hx; simpa using hnc
    · exact kok_retry hk
  case iCas0 => kstep_open hs hpc <;> first | kclose hk | exact kok_retry (w := .insS _) hk
  case iUpB => kstep_open hs hpc <;> first | kclose hk | exact kok_retry (w := .renew _ _ _) hk
  case iSubFix => kstep_open hs hpc; exact kok_retry (w := .insFix _) hk
  case e0Mk =>
    kstep_open hs hpc
    · simp only [KOk]; exact ⟨hk, ht.2.2.1⟩
    · simp [KOk]
    · simp only [KOk]; exact hk
  case eH2 =>
    kstep_open hs hpc
    · simp only [KOk]; exact hk
    · exact kok_retry (w := .eraFix _ _) hk.1
  case qLd2 =>
    kstep_open hs hpc
    · unfold afterQ qDown
      repeat' split
      all_goals first | (simp [KOk]; done) | exact kok_fslow _ _ _ | (cases ‹Fop› <;> simp [ffound, KOk])
    · simp [KOk]
  case qChk o cur =>
    kstep_open hs hpc
    · exact kok_fslow _ _ _
    · cases o <;> simp [ffound, KOk]
  all_goals (kstep_open hs hpc <;> kclose hk)

/-- Every tower word points forward in the key order (non-strictly). -/
def KGf (next : Nat → Nat → Option Nat) (key : Nat → Int) : Prop := ∀ a l b, next a l = some b → a = 0 ∨ key a ≤ key b

theorem KGf.write {next : Nat → Nat → Option Nat} {key : Nat → Int} (h : KGf next key) {a l : Nat} {v : Option Nat}
    (hv : ∀ b, v = some b → a = 0 ∨ key a ≤ key b) : KGf (upd2' next a l v) key := by
  intro a2 l2 b hb
  simp only [upd2'] at hb
  split at hb
  next hc => rw [hc.1]; exact hv b hb
  · exact h a2 l2 b hb

/-- The towers of items that are not allocated yet are null. -/
def KUf (next : Nat → Nat → Option Nat) (cnt : Nat) : Prop := ∀ a, cnt ≤ a → ∀ l, next a l = none

theorem KUf.write {next : Nat → Nat → Option Nat} {cnt : Nat} (h : KUf next cnt) {a l : Nat} {v : Option Nat}
    (ha : a < cnt) : KUf (upd2' next a l v) cnt := by
  intro a2 h2 l2
  simp only [upd2']
  split
  next hc => omega
  · exact h a2 h2 l2

theorem lt_cnt_of_pp {c : Cfg} {m : Mem} {L : List Nat} (hg : GOk m L) {pp : List Nat} {ps : List (Option Nat)}
    (h : ListsOk c m L pp ps) (i : Nat) : pp.getD i 0 < m.cnt := by
  rcases h.2.2.1 i with e | e
  · rw [e]; exact hg.cpos
  · exact hg.lt_cnt e

/-- Every write of a tower word goes to an allocated item and stores a forward pointer. -/
theorem kn_step {c : Cfg} {s s' : St} {t : Tid} {ev : Ev} {L : List Nat} (hl : SInvL c s L) (hg : KGf s.next s.key)
    (hu : KUf s.next s.cnt) (hk : KOk s.key (s.pc t)) (hs : step c s t = some (s', ev)) :
    KGf s'.next s'.key ∧ KUf s'.next s'.cnt := by
  have ht := hl.thr t
  have hgl := hl.g
  cases hpc : s.pc t <;> rw [hpc] at hk ht <;> simp only [KOk] at hk <;> simp only [TOk] at ht
  case idle => simp [step, hpc] at hs
  case done => simp [step, hpc] at hs
  case hCas w lvl pred cur pp ps x =>
    kstep_open2 hs hpc
    · rename_i hv
      refine ⟨hg.write ?_, hu.write (ht.2.2.1.lk.elim (fun e => e ▸ hgl.cpos) hgl.lt_cnt)⟩
      intro b hb
      rw [← ht.2.2.2.2.2] at hb
      have h1 := hg pred lvl cur hv.1
      have h2 := hg cur lvl b hb
      have hc0 : cur ≠ 0 := ht.2.2.2.1.1
      rcases h1 with e | e
      · exact Or.inl e
      · rcases h2 with e2 | e2
        · exact absurd e2 hc0
        · exact Or.inr (Int.le_trans e e2)
    · exact ⟨hg, hu⟩
  case iClr n lvl pp ps => kstep_open2 hs hpc <;> exact ⟨hg.write (by simp), hu.write ht.1.2.1⟩
  case iSt0 n pp ps =>
    kstep_open2 hs hpc
    exact ⟨hg.write (fun b hb => Or.inr (hk.2 0 b hb)), hu.write ht.1.2.1⟩
  case iCas0 n pp ps =>
    kstep_open2 hs hpc
    · refine ⟨hg.write ?_, hu.write (lt_cnt_of_pp hgl ht.2.1 0)⟩
      intro b hb; simp only [Option.some.injEq] at hb; subst hb
      exact (hk.1 0).imp_right Int.le_of_lt
    · exact ⟨hg, hu⟩
  case iUpA n lvl p pp ps =>
    kstep_open2 hs hpc
    · exact ⟨hg.write (fun b hb => Or.inr (hk.2 lvl b hb)), hu.write (hgl.lt_cnt ht.1.2)⟩
    · exact ⟨hg, hu⟩
  case iUpB n lvl pp ps =>
    kstep_open2 hs hpc
    · refine ⟨hg.write ?_, hu.write (lt_cnt_of_pp hgl ht.2.1 lvl)⟩
      intro b hb; simp only [Option.some.injEq] at hb; subst hb
      exact (hk.1 lvl).imp_right Int.le_of_lt
    · exact ⟨hg, hu⟩
  case eH2 k d lvl x pp ps =>
    kstep_open2 hs hpc
    · refine ⟨hg.write ?_, hu.write (lt_cnt_of_pp hgl ht.1 lvl)⟩
      intro b hb
      rw [← ht.2.2.2.2] at hb
      have h2 := hg d lvl b hb
      rcases hk.1.1 lvl with e | e
      · exact Or.inl e
      · rcases h2 with e2 | e2
        · exact absurd e2 ht.2.1
        · right; rw [hk.2] at e2; exact Int.le_trans (Int.le_of_lt e) e2
    · exact ⟨hg, hu⟩
  all_goals (kstep_open2 hs hpc <;> exact ⟨hg, hu⟩)

/-- The additional invariant. -/
structure KInv (s : St) : Prop where
  fwd : KGf s.next s.key
  thr : ∀ t, KOk s.key (s.pc t)
  unalloc : KUf s.next s.cnt

theorem kinv_init (c : Cfg) : KInv (init c) := by
  refine ⟨?_, ?_, ?_⟩
  · intro a l b h; simp [init] at h
  · intro t; simp [init, KOk]
  · intro a _ l; simp [init]

theorem kinv_step {c : Cfg} (hc : 0 < c.maxH) (hmt : c.markTest = true) {s s' : St} {t : Tid} {ev : Ev} {L : List Nat}
    (hl : SInvL c s L) (hk : KInv s) (hs : step c s t = some (s', ev)) : KInv s' := by
  obtain ⟨L', -, he⟩ := sinvl_step hc hmt hl hs
  have hn := kn_step hl hk.fwd hk.unalloc (hk.thr t) hs
  refine ⟨hn.1, ?_, hn.2⟩
  intro t2
  by_cases e : t2 = t
  · subst e; exact kok_step hl (hk.thr t2) hs
  · rw [he.frame t2 e, he.key]; exact hk.thr t2

theorem kinv_result {s s' : St} {t : Tid} {r : GRet} (hk : KInv s) (hs : result s t = some (s', r)) : KInv s' := by
  unfold result at hs
  split at hs
  next r' hpc =>
    simp only [Option.some.injEq, Prod.mk.injEq] at hs; obtain ⟨rfl, rfl⟩ := hs
    refine ⟨hk.fwd, ?_, hk.unalloc⟩
    intro t2
    dsimp only
    unfold upd; split
    · simp [KOk]
    · exact hk.thr t2
  next => simp at hs

theorem kok_congr {c : Cfg} {m : Mem} {L : List Nat} (hg : GOk m L) {key' : Nat → Int} {pc : PC} (ht : TOk c m L pc)
    (h : ∀ a, a < m.cnt → key' a = m.key a) (hk : KOk m.key pc) : KOk key' pc := by
  have hpp : ∀ {pp ps K}, ListsOk c m L pp ps → KL m.key K pp ps → KL key' K pp ps := by
    intro pp ps K hl hkl
    refine ⟨?_, ?_⟩
    · intro i
      rcases hkl.1 i with e | e
      · exact Or.inl e
      · right; rw [h _ (lt_cnt_of_pp hg hl i)]; exact e
    · intro i x hx
      rw [h x (hg.lt_cnt (hl.2.2.2 i x hx).2.1)]; exact hkl.2 i x hx
  have hwk : ∀ {w}, WOk m L w → wkey key' w = wkey m.key w := fun hw => wkey_congr hg hw h
  cases pc <;> simp only [KOk] at hk ⊢ <;> simp only [TOk] at ht <;> (try trivial)
  case fLd1 | fLd2 | fSucc | fChk | hUnl | hLd1 | hLd2 | hCas => rw [hwk ht.1]; exact hpp ht.2.1 hk
  case hSub => rw [hwk ht.1]; exact hpp ht.2 hk
  case iClr | iSt0 | iCas0 => rw [h _ ht.1.2.1]; exact hpp ht.2.1 hk
  case iUpA | iUpB => rw [h _ (hg.lt_cnt ht.1.2)]; exact hpp ht.2.1 hk
  case iSubFix => rw [h _ (hg.lt_cnt ht.1.2)]; exact hpp ht.2 hk
  case eLd | eMk | e0Ld | e0Mk => exact hpp ht.1 hk
  case eH1 | eH2 | eHSub => exact ⟨hpp ht.1 hk.1, by rw [h _ (hg.mcnt _ ht.2.2.1).2]; exact hk.2⟩

theorem kinv_invoke {c : Cfg} {s s' : St} {t : Tid} {op : GOp} {L : List Nat} (hl : SInvL c s L) (hk : KInv s)
    (hs : invoke c s t op = some s') : KInv s' := by
  obtain ⟨name, args⟩ := op
  unfold invoke at hs
  split at hs
  next k v hidle hname hargs =>
    simp only [Option.some.injEq] at hs; subst hs
    have hstab : ∀ a, a < s.cnt → upd s.key s.cnt k a = s.key a := by
      intro a ha; have : a ≠ s.cnt := Nat.ne_of_lt ha; simp [upd, this]
    refine ⟨?_, ?_, ?_⟩
    · intro a l b hb
      have hb' : s.next a l = some b := hb
      have ha : a < s.cnt := by
        apply Classical.byContradiction; intro hn
        rw [hk.unalloc a (by omega) l] at hb'; simp at hb'
      have hbl : b < s.cnt := hl.g.lt_cnt (hl.g.ptr a l b hb').2.1
      show a = 0 ∨ upd s.key s.cnt k a ≤ upd s.key s.cnt k b
      rw [hstab a ha, hstab b hbl]; exact hk.fwd a l b hb'
    · intro t2
      dsimp only
      unfold upd
      split
      · exact kok_retry (KL.replicate _ _ _)
      · exact kok_congr (m := mem! s) hl.g (hl.thr t2) hstab (hk.thr t2)
    · intro a ha l; exact hk.unalloc a (by dsimp only at ha; omega) l
  next k hidle hname hargs =>
    simp only [Option.some.injEq] at hs; subst hs
    refine ⟨hk.fwd, ?_, hk.unalloc⟩
    intro t2; dsimp only; unfold upd; split
    · exact kok_retry (KL.replicate _ _ _)
    · exact hk.thr t2
  next k hidle hname hargs =>
    simp only [Option.some.injEq] at hs; subst hs
    refine ⟨hk.fwd, ?_, hk.unalloc⟩
    intro t2; dsimp only; unfold upd; split
    · simp [KOk]
    · exact hk.thr t2
  next k hidle hname hargs =>
    simp only [Option.some.injEq] at hs; subst hs
    refine ⟨hk.fwd, ?_, hk.unalloc⟩
    intro t2; dsimp only; unfold upd; split
    · simp [KOk]
    · exact hk.thr t2
  next => simp at hs

theorem kinv_reachable {c : Cfg} (hc : 0 < c.maxH) (hmt : c.markTest = true) (sched : List (Tid × Act)) (s : St)
    (os : List (Tid × Obs)) (h : (model c).run (init c) sched = some (s, os)) : KInv s := by
  refine ((model c).inv_of_inductive (fun s => (∃ L, SInvL c s L) ∧ KInv s) ?_ sched (init c) s os
    ⟨⟨[0], sinv_init c⟩, kinv_init c⟩ h).2
  rintro s t a s' o ⟨⟨L, hl⟩, hk⟩ hap
  rcases Model.apply_cases hap with ⟨op, -, hi, -⟩ | ⟨e, -, hs, -⟩ | ⟨r, -, hr, -⟩
  · exact ⟨⟨L, (sinvl_invoke hl hi).1⟩, kinv_invoke hl hk hi⟩
  · exact ⟨(sinvl_step hc hmt hl hs).imp fun _ h => h.1, kinv_step hc hmt hl hk hs⟩
  · exact ⟨⟨L, (sinvl_result hl hr).1⟩, kinv_result hk hr⟩

/-! ### The walk of a level -/

theorem walk_lower {nx : Nat → Option Nat} {key : Nat → Int}
    (hnx : ∀ a b, nx a = some b → b ≠ 0 ∧ (a = 0 ∨ key a ≤ key b)) :
    ∀ (fuel : Nat) (p : Option Nat) (lo : Int), (∀ x, p = some x → x ≠ 0 ∧ lo ≤ key x) →
      ∀ b, b ∈ Michael.walk nx fuel p → b ≠ 0 ∧ lo ≤ key b
  | 0, _, _, _, b, hb => by simp [Michael.walk] at hb
  | _ + 1, none, _, _, b, hb => by simp [Michael.walk] at hb
  | f + 1, some a, lo, hp, b, hb => by
    simp only [Michael.walk, List.mem_cons] at hb
    have ha := hp a rfl
    rcases hb with e | hb
    · rw [e]; exact ha
    · refine walk_lower hnx f (nx a) lo ?_ b hb
      intro x hx
      have := hnx a x hx
      refine ⟨this.1, ?_⟩
      rcases this.2 with e | e
      · exact absurd e ha.1
      · exact Int.le_trans ha.2 e

theorem walk_nondecreasing {nx : Nat → Option Nat} {key : Nat → Int}
    (hnx : ∀ a b, nx a = some b → b ≠ 0 ∧ (a = 0 ∨ key a ≤ key b)) :
    ∀ (fuel : Nat) (p : Option Nat), (∀ x, p = some x → x ≠ 0) →
      (Michael.walk nx fuel p).Pairwise (fun a b => key a ≤ key b)
  | 0, _, _ => by simp [Michael.walk]
  | _ + 1, none, _ => by simp [Michael.walk]
  | f + 1, some a, hp => by
    simp only [Michael.walk]
    have ha := hp a rfl
    refine List.Pairwise.cons ?_ (walk_nondecreasing hnx f (nx a) (fun x hx => (hnx a x hx).1))
    intro b hb
    refine (walk_lower hnx f (nx a) (key a) ?_ b hb).2
    intro x hx
    have := hnx a x hx
    refine ⟨this.1, ?_⟩
    rcases this.2 with e | e
    · exact absurd e ha
    · exact e

/-- Every level, walked from the head, is non-decreasing in the key, and consists of published items. -/
theorem levelNodes_nondecreasing {c : Cfg} {s : St} {L : List Nat} (hl : SInvL c s L) (hk : KInv s) (l : Nat) :
    (levelNodes s l).Pairwise (fun a b => s.key a ≤ s.key b) := by
  unfold levelNodes
  have hnx : ∀ a b, (fun a => s.next a l) a = some b → b ≠ 0 ∧ (a = 0 ∨ s.key a ≤ s.key b) :=
    fun a b hb => ⟨(hl.g.ptr a l b hb).1, hk.fwd a l b hb⟩
  exact walk_nondecreasing hnx s.cnt (s.next 0 l) (fun x hx => (hl.g.ptr 0 l x hx).1)

end CdsVerif.Algo.SkipList
