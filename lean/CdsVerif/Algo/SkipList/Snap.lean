/-
  C18 "reachable ⇒ well-formed", SkipListSet machine: the machine state rendered as the `SNAP skip` dump of the real
  object (`harness/clients/snap.cpp`, `SkipSnap::dump`: one group per level, level 0 first, up to the highest
  non-empty level; a group is the chain of that level from the head tower; per node its key and the mark bit of its
  `next[level]`), and the lemmas that connect LEVEL 0 of the dump with the invariant `SInvL` (`Algo/SkipList/Inv.lean`,
  `Level0.lean`).  Property theorems are in `Props/C18Reach.lean`.

  The invariant of the machine says nothing on the order of the UPPER levels (it only says that every tower word
  holds null or a published item with a tall enough tower: `GOk.ptr`), so the clause "every level is an ordered
  sub-list of the level below" (`subChain` in `skipWf`) is NOT derived here; `snapOf0` is the level-0 part of the
  dump, for which `skipWf` is exactly "level 0 is strictly increasing".

  The machine has no item counter, so nothing is said on `size()`.
-/
import CdsVerif.Algo.SkipList.Level0
import CdsVerif.Props.C18
namespace CdsVerif.Algo.SkipList
open CdsVerif.Machine CdsVerif.Spec CdsVerif.Snapshot

/-- One dumped level. -/
def snapLevel (s : St) (l : Nat) : List SNode := (levelNodes s l).map (fun a => ⟨s.key a, s.mark a l⟩)

/-- Drop the empty levels at the top (the real dump prints up to the highest non-empty level). -/
def stripTop {α : Type} : List (List α) → List (List α)
  | [] => []
  | a :: t =>
    match stripTop t with
    | [] => if a.isEmpty then [] else [a]
    | b :: t' => a :: b :: t'

/-- The `SNAP skip` dump of a machine state with `maxH` levels. -/
def snapOf (maxH : Nat) (s : St) : SkipSnap := stripTop ((List.range maxH).map (snapLevel s))

/-- The dump as the tokens of a `SNAP` line of the harness (`skip L k m … L k m …`; not wired into the driver). -/
def snapTokens (maxH : Nat) (s : St) : List String :=
  "skip" :: (snapOf maxH s).flatMap (fun lv => "L" :: lv.flatMap (fun n => [toString n.key, if n.marked then "1" else "0"]))

/-- Level 0 of the dump alone. -/
def snapOf0 (s : St) : SkipSnap := [snapLevel s 0]

/-- The abstract set as a list of keys (the keys of `absMap`, in level-0 order). -/
def absKeys (s : St) : List Int := (absMap s).map (·.1)

theorem stripTop_head {α : Type} (a : List α) (t : List (List α)) : (stripTop (a :: t)).headD [] = a := by
  unfold stripTop
  split
  · split
    · rename_i h; simpa using (List.isEmpty_iff.1 h).symm
    · rfl
  · rfl

/-- Level 0 of the full dump is `snapLevel s 0`. -/
theorem snapOf_head (maxH : Nat) (s : St) (h : 0 < maxH) : (snapOf maxH s).headD [] = snapLevel s 0 := by
  unfold snapOf
  obtain ⟨n, rfl⟩ : ∃ n, maxH = n + 1 := ⟨maxH - 1, by omega⟩
  rw [List.range_succ_eq_map, List.map_cons]
  exact stripTop_head _ _

theorem skipAbs_level0 (s : St) : ∀ l : List Nat,
    ((l.map (fun a => (⟨s.key a, s.mark a 0⟩ : SNode))).filter (fun n => !n.marked)).map (·.key) =
      ((l.filter (fun a => !s.mark a 0)).map (fun a => (s.key a, s.val a))).map (·.1)
  | [] => rfl
  | a :: l => by
    have ih := skipAbs_level0 s l
    cases hm : s.mark a 0 <;> simp [hm] <;> simpa using ih

theorem skipAbs_snapOf0 (s : St) : skipAbs (snapOf0 s) = absKeys s := skipAbs_level0 s (levelNodes s 0)

theorem skipAbs_snapOf (maxH : Nat) (s : St) (h : 0 < maxH) : skipAbs (snapOf maxH s) = absKeys s := by
  unfold skipAbs
  rw [snapOf_head maxH s h]
  exact skipAbs_level0 s (levelNodes s 0)

/-- The keys of a dumped level are strictly increasing when the items of the level are. -/
theorem levelKeys_snapLevel_sorted (s : St) (l : Nat) (h : (levelNodes s l).Pairwise (fun a b => s.key a < s.key b)) :
    (levelKeys (snapLevel s l)).Pairwise (· < ·) := by
  unfold levelKeys snapLevel
  rw [List.map_map, List.pairwise_map]
  exact h

theorem SInvL.level0_keys_sorted {c : Cfg} {s : St} {L : List Nat} (h : SInvL c s L) :
    (levelKeys (snapLevel s 0)).Pairwise (· < ·) :=
  levelKeys_snapLevel_sorted s 0 h.level0.1

theorem SInvL.snap0_wf {c : Cfg} {s : St} {L : List Nat} (h : SInvL c s L) : skipWf (snapOf0 s) = true := by
  have := (CdsVerif.Props.C18.sortedLt_iff _).2 h.level0_keys_sorted
  simp only [skipWf, snapOf0, List.headD_cons, skipLevels, List.map_cons, List.map_nil, subChain, Bool.and_true]
  exact this

theorem SInvL.absKeys_sorted {c : Cfg} {s : St} {L : List Nat} (h : SInvL c s L) : (absKeys s).Pairwise (· < ·) := by
  rw [← skipAbs_snapOf0]
  exact (CdsVerif.Props.C18.C18_skiplist _ h.snap0_wf).2.2.2.1

end CdsVerif.Algo.SkipList
