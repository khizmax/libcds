/-
  The steps that write a tower word: CAS (link, unlink, mark) and the plain stores into the private item of an insert.
-/
import CdsVerif.Algo.SkipList.StepMisc
namespace CdsVerif.Algo.SkipList
open CdsVerif.Machine CdsVerif.Spec CdsVerif.Lin
open CdsVerif.Algo.Michael (Chain Lt LPok isRO insAfter Has)

section steps
variable {c : Cfg} {s s' : St} {t : Tid} {ev : Ev} {L : List Nat}

/-- A successful unlinking CAS `pred.next(lvl) : cur -> cur.next(lvl)` (`help_remove`, `try_remove_at`): on level 0
    the marked item `cur` leaves the list, on an upper level only the tower word changes. -/
theorem unlink_step {pc pc' : PC} {lvl pred cur : Nat} (h : SInvL c s L) (hpc : s.pc t = pc)
    (hp : pred = 0 ∨ Lk (mem! s) L pred) (hv : s.next pred lvl = some cur ∧ s.mark pred lvl = false)
    (hcm : s.mark cur lvl = true)
    (htok : ∀ {m' : Mem} {L' : List Nat}, MemLe none (mem! s) L m' L' → TOk c m' L' pc')
    (hpn : ∀ n, pnode pc' = some n → pnode pc = some n)
    (heff : EffOk (mk0 s.mark) s.key s.val (Has (mk0 s.mark) s.key s.val L) pc pc') :
    ∃ L', SInvL c { s with next := upd2' s.next pred lvl (s.next cur lvl), pc := upd s.pc t pc' } L' ∧
      StepEff s t { s with next := upd2' s.next pred lvl (s.next cur lvl), pc := upd s.pc t pc' } L L' := by
  by_cases h0 : lvl = 0
  · subst h0
    have hw := h.g.unlink0 (h.g.unm_mem hp hv.2) hv.2 hv.1 hcm
    exact write_step h hpc none hw nofun (htok hw.2) hpn rfl
      (Michael.has_erase h.g.nodup (show mk0 s.mark cur = true from hcm)) heff
  · have hw := h.g.upper_next h0 hv.2 (h.g.ptr cur lvl)
    exact write_step h hpc none hw nofun (htok hw.2) hpn rfl (fun _ _ => Iff.rfl) heff

theorem sinvl_step_hCas {w : Why} {lvl pred cur : Nat} {pp : List Nat} {ps : List (Option Nat)} {x : Option Nat}
    (h : SInvL c s L) (hpc : s.pc t = .hCas w lvl pred cur pp ps x) (hs : step c s t = some (s', ev)) :
    ∃ L', SInvL c s' L' ∧ StepEff s t s' L L' := by
  obtain ⟨hw, hl, hp, hcu, hcm, hcx⟩ := h.tok hpc
  simp only [step, hpc] at hs
  split at hs <;> cases hs
  next hv =>
    cases hcx
    exact unlink_step h hpc hp.lk hv hcm (fun hle => ⟨hw.mono h.g hle nofun, hl.mono h.g hle⟩) (fun _ hn => hn)
      (eff_same rfl rfl rfl ⟨nofun, nofun⟩)
  next => exact quiet_step h hpc (tok_retry hw hl) ⟨rfl, rfl, rfl, rfl⟩ ⟨nofun, nofun⟩

theorem sinvl_step_eH2 {k : Int} {d lvl : Nat} {x : Option Nat} {pp : List Nat} {ps : List (Option Nat)}
    (h : SInvL c s L) (hpc : s.pc t = .eH2 k d lvl x pp ps) (hs : step c s t = some (s', ev)) :
    ∃ L', SInvL c s' L' ∧ StepEff s t s' L L' := by
  obtain ⟨hl, hd0, hdm, hlt, hdx⟩ := h.tok hpc
  simp only [step, hpc] at hs
  split at hs <;> cases hs
  next hv =>
    cases hdx
    exact unlink_step h hpc (hl.2.2.1 lvl) hv (h.g.mmono d lvl hdm hlt)
      (fun hle => ⟨hl.mono h.g hle, hd0, marked_mono h.g hle hdm hlt⟩) nofun (eff_post (r := [1, s.val d]) rfl rfl)
  next =>
    exact pc_only h hpc (tok_retry (w := .eraFix k (s.val d)) trivial hl) nofun (eff_post (r := [1, s.val d]) rfl rfl)

theorem sinvl_step_iUpA {n lvl : Nat} {p : Option Nat} {pp : List Nat} {ps : List (Option Nat)}
    (h : SInvL c s L) (hpc : s.pc t = .iUpA n lvl p pp ps) (hs : step c s t = some (s', ev)) :
    ∃ L', SInvL c s' L' ∧ StepEff s t s' L L' := by
  obtain ⟨hn, hl, h1, h2⟩ := h.tok hpc
  simp only [step, hpc] at hs
  split at hs <;> cases hs
  next hv =>
    have hw := h.g.upper_next (a := n) (l := lvl) (v := ps.getD lvl none) (by omega) hv.2 (hl.2.2.2 lvl)
    exact write_step h hpc none hw nofun ⟨hn.mono hw.2, hl.mono h.g hw.2, h1, h2⟩ nofun rfl (fun _ _ => Iff.rfl)
      (eff_post (r := [1]) rfl rfl)
  next => exact pc_only h hpc ⟨hn, hl⟩ nofun (eff_post (r := [1]) rfl rfl)

theorem sinvl_step_iUpB {n lvl : Nat} {pp : List Nat} {ps : List (Option Nat)}
    (h : SInvL c s L) (hpc : s.pc t = .iUpB n lvl pp ps) (hs : step c s t = some (s', ev)) :
    ∃ L', SInvL c s' L' ∧ StepEff s t s' L L' := by
  obtain ⟨hn, hl, h1, h2⟩ := h.tok hpc
  simp only [step, hpc] at hs
  split at hs <;> cases hs
  next hv =>
    have hw := h.g.upper_next (a := pp.getD lvl 0) (l := lvl) (v := some n) (by omega) hv.2
      (fun b hb => Option.some.inj hb ▸ ⟨hn.1, hn.2, h2⟩)
    unfold nextUp
    split
    next hlt =>
      exact write_step h hpc none hw nofun ⟨hn.mono hw.2, hl.mono h.g hw.2, Nat.le_add_left 1 lvl, hlt⟩ nofun rfl
        (fun _ _ => Iff.rfl) (eff_post (r := [1]) rfl rfl)
    · exact write_step h hpc none hw nofun trivial nofun rfl (fun _ _ => Iff.rfl) (eff_post (r := [1]) rfl rfl)
  next =>
    exact pc_only h hpc (tok_retry (w := .renew n lvl (ps.getD lvl none)) ⟨hn, h1, h2⟩ hl) nofun
      (eff_post (r := [1]) rfl rfl)

theorem sinvl_step_eMk {k : Int} {d lvl : Nat} {sx : Option Nat} {pp : List Nat} {ps : List (Option Nat)}
    (h : SInvL c s L) (hpc : s.pc t = .eMk k d lvl sx pp ps) (hs : step c s t = some (s', ev)) :
    ∃ L', SInvL c s' L' ∧ StepEff s t s' L L' := by
  have ht : TOk c (mem! s) L (.eLd k d lvl pp ps) := h.tok (pc := .eMk k d lvl sx pp ps) hpc
  simp only [step, hpc] at hs
  split at hs <;> cases hs
  next hv =>
    have hl0 : lvl ≠ 0 := Nat.ne_of_gt ht.2.2.2.1
    have hw := h.g.upper_mark (d := d) (l := lvl) hl0
    exact write_step h hpc none hw nofun (tok_nextMark (tok_mono h.g hw.2 nofun ht) (upd2'_same _ _ _ _))
      (fun _ hn => by rw [pnode_nextMark] at hn; cases hn) (mk0_upd_pos _ _ _ _ hl0) (fun _ _ => Iff.rfl)
      (eff_nextMark rfl rfl rfl nofun)
  next =>
    split
    next hm =>
      exact pc_only h hpc (tok_nextMark ht hm) (fun _ hn => by rw [pnode_nextMark] at hn; cases hn)
        (eff_nextMark rfl rfl rfl nofun)
    · exact quiet_step h hpc ht ⟨rfl, rfl, rfl, rfl⟩ ⟨nofun, nofun⟩

theorem sinvl_step_iClr {n lvl : Nat} {pp : List Nat} {ps : List (Option Nat)}
    (h : SInvL c s L) (hpc : s.pc t = .iClr n lvl pp ps) (hs : step c s t = some (s', ev)) :
    ∃ L', SInvL c s' L' ∧ StepEff s t s' L L' := by
  obtain ⟨hn, hl, hip, h1⟩ := h.tok hpc
  simp only [step, hpc] at hs; cases hs
  have hw := h.g.priv_write (n := n) (l := lvl) (v := none) hn nofun
  split
  · exact write_step h hpc (some n) hw (fun _ e => e) ⟨hn.write, hl.mono h.g hw.2, hip, Nat.le_add_left 1 lvl⟩
      (fun _ hn => hn) (mk0_priv_write hn.2.2.2) (fun _ _ => Iff.rfl) (eff_pre rfl rfl rfl ⟨nofun, nofun⟩)
  · exact write_step h hpc (some n) hw (fun _ e => e) ⟨hn.write, hl.mono h.g hw.2, hip⟩
      (fun _ hn => hn) (mk0_priv_write hn.2.2.2) (fun _ _ => Iff.rfl) (eff_pre rfl rfl rfl ⟨nofun, nofun⟩)

theorem sinvl_step_iSt0 {n : Nat} {pp : List Nat} {ps : List (Option Nat)}
    (h : SInvL c s L) (hpc : s.pc t = .iSt0 n pp ps) (hs : step c s t = some (s', ev)) :
    ∃ L', SInvL c s' L' ∧ StepEff s t s' L L' := by
  obtain ⟨hn, hl, hip⟩ := h.tok hpc
  simp only [step, hpc] at hs; cases hs
  have hw := h.g.priv_write (n := n) (l := 0) (v := ps.getD 0 none) hn (hl.2.2.2 0)
  exact write_step h hpc (some n) hw (fun _ e => e) ⟨hn.write, hl.mono h.g hw.2, hip, upd2'_same _ _ _ _⟩
    (fun _ hn => hn) (mk0_priv_write hn.2.2.2) (fun _ _ => Iff.rfl) (eff_pre rfl rfl rfl ⟨nofun, nofun⟩)

/-- The level-0 CAS of `insert_at_position`: the linearization point of a successful insert. -/
theorem sinvl_step_iCas0 {n : Nat} {pp : List Nat} {ps : List (Option Nat)}
    (h : SInvL c s L) (hpc : s.pc t = .iCas0 n pp ps) (hs : step c s t = some (s', ev)) :
    ∃ L', SInvL c s' L' ∧ StepEff s t s' L L' := by
  obtain ⟨hn, hl, hip, hnx⟩ := h.tok hpc
  simp only [step, hpc] at hs
  split at hs <;> cases hs
  next hv =>
    have hpL := h.g.unm_mem (hl.2.2.1 0) hv.2
    have hnx' : s.next n 0 = s.next (pp.getD 0 0) 0 := (show s.next n 0 = ps.getD 0 none from hnx).trans hv.1.symm
    have hnc : ∀ c', s.next (pp.getD 0 0) 0 = some c' → s.key n < s.key c' := by
      intro c' hc'; rw [hv.1] at hc'; exact hip.2 c' hc'
    obtain ⟨hg', hle⟩ := h.g.link0 (p := pp.getD 0 0) (n := n) hpL hv.2 hn hnx' hip.1 hnc
    have hmemn : n ∈ insAfter (pp.getD 0 0) n L := (Michael.mem_insAfter hpL).mpr (Or.inr rfl)
    have hlp : LPok (Has (mk0 s.mark) s.key s.val L) ⟨"insert", [s.key n, s.val n]⟩ [1]
        (Has (mk0 s.mark) s.key s.val (insAfter (pp.getD 0 0) n L)) :=
      LPok.ins_ok (h.g.absent hpL hip.1 hnc)
        (fun j w => Michael.has_insert hpL hn.1 (show mk0 s.mark n = false from hn.2.2.2) j w)
    have hpost : postRet s.val (nextUp s.ht n 0 pp ps) = some [1] := by unfold nextUp; split <;> rfl
    refine ⟨_, mem_step h hpc (some n) hg' hle (fun _ e => e) ?_ ?_, StepEff.at_lp hpc rfl rfl hpost hlp (Or.inl rfl)⟩
    · unfold nextUp
      split
      next hlt => exact ⟨⟨hn.1, Or.inl hmemn⟩, hl.mono h.g hle, Nat.le_refl _, hlt⟩
      · trivial
    · intro n' hn'; unfold nextUp at hn'; split at hn' <;> cases hn'
  next => exact pc_only h hpc (tok_retry (w := .insS n) hn hl) (fun _ hn => hn) (eff_pre rfl rfl rfl ⟨nofun, nofun⟩)

/-- The level-0 marking CAS of `try_remove_at`: the linearization point of a successful erase (and of the erases of
    the same item that lose against it). -/
theorem sinvl_step_e0Mk {k : Int} {d : Nat} {p : Option Nat} {pp : List Nat} {ps : List (Option Nat)}
    (h : SInvL c s L) (hpc : s.pc t = .e0Mk k d p pp ps) (hs : step c s t = some (s', ev)) :
    ∃ L', SInvL c s' L' ∧ StepEff s t s' L L' := by
  obtain ⟨hl, hd, hk, hup⟩ := h.tok hpc
  have hk : s.key d = k := hk
  simp only [step, hpc] at hs
  split at hs <;> cases hs
  next hv =>
    have hdL := h.g.unm_mem (Or.inr hd.2) hv.2
    obtain ⟨hg', hle⟩ := h.g.mark0 hdL hd.1 hup
    have hmk : mk0 (upd2' s.mark d 0 true) = upd (mk0 s.mark) d true := mk0_upd_zero _ _ _
    have hhm : ∀ j w, Has (mk0 (upd2' s.mark d 0 true)) s.key s.val L j w ↔
        (Has (mk0 s.mark) s.key s.val L j w ∧ j ≠ s.key d) := by
      intro j w; rw [hmk]; exact Michael.has_mark h.g.sorted hdL hd.1 j w
    have hold : lpRet (mk0 s.mark) s.key s.val (.e0Mk k d p pp ps) = none := by
      simp only [lpRet, mk0, hv.2]; simp
    have hlp : LPok (Has (mk0 s.mark) s.key s.val L) ⟨"erase", [k]⟩ [1, s.val d]
        (Has (mk0 (upd2' s.mark d 0 true)) s.key s.val L) := by
      refine LPok.era_ok (v := s.val d) ?_ (fun j w => by rw [hhm, hk])
      rw [← hk]; exact h.g.has_of_unmarked (a := d) hd hv.2
    refine ⟨L, mem_step h hpc none hg' hle nofun ?_ nofun,
      StepEff.at_lp hpc rfl hold rfl hlp (Or.inr ⟨d, hv.2, hmk, hold, rfl, fun w hw => ((hhm _ w).mp hw).2 rfl⟩)⟩
    exact ⟨hl.mono h.g hle, hd.1, upd2'_same _ _ _ _, Nat.sub_lt (h.g.hpos d) Nat.one_pos⟩
  next =>
    split
    next hm =>
      -- the item has been marked by a competitor: the answer fixed then is given
      have hold : lpRet (mk0 s.mark) s.key s.val (.e0Mk k d p pp ps) = some [0] := by
        simp only [lpRet, mk0, hm, if_true]
      exact pc_only h hpc trivial nofun (eff_confirm hold rfl nofun)
    · exact quiet_step h hpc ⟨hl, hd, hk, hup⟩ ⟨rfl, rfl, rfl, rfl⟩ ⟨nofun, nofun⟩

end steps

end CdsVerif.Algo.SkipList
