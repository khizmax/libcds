/-
  The writes of the skip-list machine, one lemma per kind: the global invariant is preserved and the change is one
  that the other threads tolerate (`MemLe`); `SInvL.assemble` puts a step together.
-/
import CdsVerif.Algo.SkipList.Eff
namespace CdsVerif.Algo.SkipList
open CdsVerif.Machine CdsVerif.Spec CdsVerif.Lin
open CdsVerif.Algo.Michael (Chain Lt LPok isRO insAfter Has)

theorem SInvL.assemble {c : Cfg} {s s' : St} {L L' : List Nat} {t : Tid} (h : SInvL c s L) (own : Option Nat)
    (hg' : GOk (mem! s') L') (hle : MemLe own (mem! s) L (mem! s') L')
    (hown : ∀ n, own = some n → pnode (s.pc t) = some n)
    (hpc : ∀ t2, t2 ≠ t → s'.pc t2 = s.pc t2)
    (htok : TOk c (mem! s') L' (s'.pc t))
    (hpn : ∀ n, pnode (s'.pc t) = some n → pnode (s.pc t) = some n) : SInvL c s' L' := by
  refine ⟨hg', ?_, ?_⟩
  · intro t2
    by_cases e : t2 = t
    · subst e; exact htok
    · rw [hpc t2 e]
      refine tok_mono h.g hle ?_ (h.thr t2)
      intro n hn hc
      exact e (h.own t2 t n hn (hown n hc.symm))
  · intro t1 t2 n h1 h2
    by_cases e1 : t1 = t <;> by_cases e2 : t2 = t
    · rw [e1, e2]
    · subst e1; rw [hpc t2 e2] at h2; exact h.own t1 t2 n (hpn n h1) h2
    · subst e2; rw [hpc t1 e1] at h1; exact h.own t1 t2 n h1 (hpn n h2)
    · rw [hpc t1 e1] at h1; rw [hpc t2 e2] at h2; exact h.own t1 t2 n h1 h2

section upd
variable {m : Mem} {L : List Nat}

theorem Lk.of_mem {a : Nat} (h : a ∈ L) : Lk m L a := Or.inl h

/-- What the other threads see of a successful CAS on the pointer of word `( p, l )`: the word was unmarked, a level-0
    word belongs to a linked cell, items leave the list only marked and only `own` enters it. -/
theorem MemLe.cas_next {own : Option Nat} {L' : List Nat} {p l : Nat} (v : Option Nat) (hpm : m.mark p l = false)
    (hp : l = 0 → p ∈ L) (hL : ∀ a, a ∈ L → a ∈ L' ∨ m.mark a 0 = true) (hL' : ∀ n, n ∈ L' → n ∈ L ∨ some n = own) :
    MemLe own m L ⟨upd2' m.next p l v, m.mark, m.key, m.val, m.ht, m.cnt⟩ L' where
  stab := fun _ _ => ⟨rfl, rfl, rfl⟩
  cnt := Nat.le_refl _
  lk := fun a ha => ha.elim (hL a) Or.inr
  frz := fun a l' hm _ => ⟨hm, upd2'_other _ _ _ _ _ _ fun hc => by rw [hc.1, hc.2, hpm] at hm; cases hm⟩
  priv := fun n h1 h2 h3 =>
    ⟨fun hc => (hL' n hc).elim h1 h3, h2, upd2'_other _ _ _ _ _ _ fun hc => h1 (hc.1 ▸ hp hc.2.symm)⟩

/-- The pointer clause of `GOk` after a write to one pointer. -/
theorem GOk.ptr_write (h : GOk m L) {own : Option Nat} {m' : Mem} {L' : List Nat} (hle : MemLe own m L m' L') {p l : Nat}
    {v : Option Nat} (hnext : m'.next = upd2' m.next p l v) (hv : ∀ b, v = some b → CurOk m' L' l b) :
    ∀ a l' b, m'.next a l' = some b → CurOk m' L' l' b := by
  intro a l' b hb
  simp only [hnext, upd2'] at hb
  split at hb
  next hc => rw [hc.2]; exact hv b hb
  · exact (h.ptr a l' b hb).mono h hle

/-- The level-0 CAS of `insert_at_position`. -/
theorem GOk.link0 (h : GOk m L) {p n : Nat} (hp : p ∈ L) (hpm : m.mark p 0 = false) (hn : Priv m L n)
    (hnx : m.next n 0 = m.next p 0) (hpn : p = 0 ∨ m.key p < m.key n)
    (hnc : ∀ c, m.next p 0 = some c → m.key n < m.key c) :
    GOk ⟨upd2' m.next p 0 (some n), m.mark, m.key, m.val, m.ht, m.cnt⟩ (insAfter p n L) ∧
    MemLe (some n) m L ⟨upd2' m.next p 0 (some n), m.mark, m.key, m.val, m.ht, m.cnt⟩ (insAfter p n L) := by
  have hmem : ∀ a, a ∈ insAfter p n L ↔ (a ∈ L ∨ a = n) := fun a => Michael.mem_insAfter hp
  have hle : MemLe (some n) m L ⟨upd2' m.next p 0 (some n), m.mark, m.key, m.val, m.ht, m.cnt⟩ (insAfter p n L) :=
    MemLe.cas_next _ hpm (fun _ => hp) (fun a ha => Or.inl ((hmem a).mpr (Or.inl ha)))
      (fun a ha => ((hmem a).mp ha).imp_right (congrArg some))
  refine ⟨⟨?_, ?_, ?_, h.cpos, h.mcnt, h.ptr_write hle rfl ?_, h.mmono, h.hpos⟩, hle⟩
  · show Chain (nx0 (upd2' m.next p 0 (some n))) (some 0) (insAfter p n L)
    rw [nx0_upd_zero]
    exact Michael.Chain.insAfter (nx := nx0 m.next) hnx h.chain h.nodup hp hn.2.2.1
  · refine Michael.pairwise_insAfter (nx := nx0 m.next) Michael.Lt.trans ⟨hn.1, hpn⟩ ?_ h.chain h.sorted hp
    intro c hc
    exact ⟨(h.next_mem hp hc).1, Or.inr (hnc c hc)⟩
  · intro a ha
    rcases (hmem a).mp ha with h1 | h1
    · exact h.alloc a h1
    · rw [h1]; exact hn.2.1
  · intro b hb
    cases hb
    exact ⟨hn.1, Or.inl ((hmem n).mpr (Or.inr rfl)), h.hpos n⟩

/-- A successful unlinking CAS on level 0 (`help_remove`, `try_remove_at`). -/
theorem GOk.unlink0 (h : GOk m L) {p cu : Nat} (hp : p ∈ L) (hpm : m.mark p 0 = false) (hpc : m.next p 0 = some cu)
    (hcm : m.mark cu 0 = true) :
    GOk ⟨upd2' m.next p 0 (m.next cu 0), m.mark, m.key, m.val, m.ht, m.cnt⟩ (L.erase cu) ∧
    MemLe none m L ⟨upd2' m.next p 0 (m.next cu 0), m.mark, m.key, m.val, m.ht, m.cnt⟩ (L.erase cu) := by
  have hle : MemLe none m L ⟨upd2' m.next p 0 (m.next cu 0), m.mark, m.key, m.val, m.ht, m.cnt⟩ (L.erase cu) := by
    refine MemLe.cas_next _ hpm (fun _ => hp) (fun a ha => ?_) (fun a ha => Or.inl (List.mem_of_mem_erase ha))
    by_cases e : a = cu
    · rw [e]; exact Or.inr hcm
    · exact Or.inl ((List.mem_erase_of_ne e).mpr ha)
  refine ⟨⟨?_, h.sorted.sublist List.erase_sublist, fun a ha => h.alloc a (List.mem_of_mem_erase ha), h.cpos, h.mcnt,
    h.ptr_write hle rfl (fun b hb => (h.ptr cu 0 b hb).mono h hle), h.mmono, h.hpos⟩, hle⟩
  show Chain (nx0 (upd2' m.next p 0 (m.next cu 0))) (some 0) (L.erase cu)
  rw [nx0_upd_zero]
  exact Michael.Chain.unlink (nx := nx0 m.next) hpc h.chain h.nodup hp

/-- A successful CAS on an upper-level word: any published item tall enough may be written. -/
theorem GOk.upper_next (h : GOk m L) {a l : Nat} {v : Option Nat} (hl : l ≠ 0) (hm : m.mark a l = false)
    (hv : ∀ b, v = some b → CurOk m L l b) :
    GOk ⟨upd2' m.next a l v, m.mark, m.key, m.val, m.ht, m.cnt⟩ L ∧
    MemLe none m L ⟨upd2' m.next a l v, m.mark, m.key, m.val, m.ht, m.cnt⟩ L := by
  have hle : MemLe none m L ⟨upd2' m.next a l v, m.mark, m.key, m.val, m.ht, m.cnt⟩ L :=
    MemLe.cas_next _ hm (fun e => absurd e hl) (fun _ => Or.inl) (fun _ => Or.inl)
  refine ⟨⟨?_, h.sorted, h.alloc, h.cpos, h.mcnt, h.ptr_write hle rfl hv, h.mmono, h.hpos⟩, hle⟩
  show Chain (nx0 (upd2' m.next a l v)) (some 0) L
  rw [nx0_upd_pos _ _ _ _ hl]; exact h.chain

/-- A marking CAS: on an upper level, or on level 0 of a linked item whose upper levels are marked. -/
theorem GOk.set_mark (h : GOk m L) {d l : Nat}
    (hd : l = 0 → d ∈ L ∧ d ≠ 0 ∧ ∀ l', 0 < l' → l' < m.ht d → m.mark d l' = true) :
    GOk ⟨m.next, upd2' m.mark d l true, m.key, m.val, m.ht, m.cnt⟩ L ∧
    MemLe none m L ⟨m.next, upd2' m.mark d l true, m.key, m.val, m.ht, m.cnt⟩ L := by
  have hge : ∀ a l2, m.mark a l2 = true → upd2' m.mark d l true a l2 = true := by
    intro a l2 hm; simp only [upd2']; split
    · rfl
    · exact hm
  have hcase : ∀ a, upd2' m.mark d l true a 0 = true → (a = d ∧ l = 0) ∨ m.mark a 0 = true := by
    intro a ha; simp only [upd2'] at ha; split at ha
    next hc => exact Or.inl ⟨hc.1, hc.2.symm⟩
    · exact Or.inr ha
  have hle : MemLe none m L ⟨m.next, upd2' m.mark d l true, m.key, m.val, m.ht, m.cnt⟩ L := by
    refine ⟨fun _ _ => ⟨rfl, rfl, rfl⟩, Nat.le_refl _, fun a ha => ha.imp_right (hge a 0),
      fun a l2 hm _ => ⟨hge a l2 hm, rfl⟩, fun n h1 h2 _ => ⟨h1, Bool.eq_false_iff.mpr fun ht => ?_, rfl⟩⟩
    rcases hcase n ht with e | e
    · exact h1 (e.1 ▸ (hd e.2).1)
    · rw [h2] at e; cases e
  refine ⟨⟨h.chain, h.sorted, h.alloc, h.cpos, ?_, fun a l2 b hb => (h.ptr a l2 b hb).mono h hle, ?_, h.hpos⟩, hle⟩
  · intro a ha
    rcases hcase a ha with e | e
    · rw [e.1]; exact ⟨(hd e.2).2.1, h.alloc d (hd e.2).1⟩
    · exact h.mcnt a e
  · intro a l2 ha hl2
    rcases hcase a ha with e | e
    · obtain ⟨rfl, rfl⟩ := e
      by_cases e0 : l2 = 0
      · rw [e0]; exact ha
      · exact hge a l2 ((hd rfl).2.2 l2 (Nat.pos_of_ne_zero e0) hl2)
    · exact hge a l2 (h.mmono a l2 e hl2)

/-- A marking CAS on an upper level. -/
theorem GOk.upper_mark (h : GOk m L) {d l : Nat} (hl : l ≠ 0) :
    GOk ⟨m.next, upd2' m.mark d l true, m.key, m.val, m.ht, m.cnt⟩ L ∧
    MemLe none m L ⟨m.next, upd2' m.mark d l true, m.key, m.val, m.ht, m.cnt⟩ L :=
  h.set_mark fun e => absurd e hl

/-- The marking CAS on level 0: the linearization point of a successful erase. -/
theorem GOk.mark0 (h : GOk m L) {d : Nat} (hd : d ∈ L) (hd0 : d ≠ 0)
    (hup : ∀ l, 0 < l → l < m.ht d → m.mark d l = true) :
    GOk ⟨m.next, upd2' m.mark d 0 true, m.key, m.val, m.ht, m.cnt⟩ L ∧
    MemLe none m L ⟨m.next, upd2' m.mark d 0 true, m.key, m.val, m.ht, m.cnt⟩ L :=
  h.set_mark fun _ => ⟨hd, hd0, hup⟩

/-- A plain store into the private item of an insert leaves the level-0 marks alone. -/
theorem mk0_priv_write {mark : Nat → Nat → Bool} {n l : Nat} (hn : mark n 0 = false) :
    mk0 (upd2' mark n l false) = mk0 mark := by
  funext a; simp only [mk0, upd2']; split
  next hc => rw [hc.1, hn]
  · rfl

theorem has_priv_write {mark : Nat → Nat → Bool} {key val : Nat → Int} {L : List Nat} {n l : Nat}
    (hn : mark n 0 = false) (k v : Int) :
    Has (mk0 (upd2' mark n l false)) key val L k v ↔ Has (mk0 mark) key val L k v := by
  rw [mk0_priv_write hn]

theorem has_upper_mark {mark : Nat → Nat → Bool} {key val : Nat → Int} {L : List Nat} {d l : Nat} (hl : l ≠ 0)
    (k v : Int) : Has (mk0 (upd2' mark d l true)) key val L k v ↔ Has (mk0 mark) key val L k v := by
  rw [mk0_upd_pos _ _ _ _ hl]

/-- A plain store into the private item of an insert. -/
theorem GOk.priv_write (h : GOk m L) {n l : Nat} {v : Option Nat} (hn : Priv m L n) (hv : ∀ b, v = some b → CurOk m L l b) :
    GOk ⟨upd2' m.next n l v, upd2' m.mark n l false, m.key, m.val, m.ht, m.cnt⟩ L ∧
    MemLe (some n) m L ⟨upd2' m.next n l v, upd2' m.mark n l false, m.key, m.val, m.ht, m.cnt⟩ L := by
  have hm0 : ∀ a, upd2' m.mark n l false a 0 = m.mark a 0 := congrFun (mk0_priv_write hn.2.2.2)
  have hne : ∀ a l2, Lk m L a → ¬ (a = n ∧ l2 = l) := by
    rintro a l2 ha ⟨rfl, -⟩
    rcases ha with ha | ha
    · exact hn.2.2.1 ha
    · rw [hn.2.2.2] at ha; cases ha
  have hle : MemLe (some n) m L ⟨upd2' m.next n l v, upd2' m.mark n l false, m.key, m.val, m.ht, m.cnt⟩ L := by
    refine ⟨fun _ _ => ⟨rfl, rfl, rfl⟩, Nat.le_refl _, fun a ha => ha.imp_right (hm0 a).trans, ?_, ?_⟩
    · intro a l2 hm2 ha
      exact ⟨(upd2'_other _ _ _ _ _ _ (hne a l2 ha)).trans hm2, upd2'_other _ _ _ _ _ _ (hne a l2 ha)⟩
    · intro n2 h1 h2 h3
      exact ⟨h1, (hm0 n2).trans h2, upd2'_other _ _ _ _ _ _ fun hc => h3 (hc.1 ▸ rfl)⟩
  refine ⟨⟨?_, h.sorted, h.alloc, h.cpos, fun a ha => h.mcnt a ((hm0 a).symm.trans ha),
    h.ptr_write hle rfl (fun b hb => (hv b hb).mono h hle), ?_, h.hpos⟩, hle⟩
  · show Chain (nx0 (upd2' m.next n l v)) (some 0) L
    by_cases e : l = 0
    · subst e; rw [nx0_upd_zero]; exact Michael.Chain.upd hn.2.2.1 h.chain
    · rw [nx0_upd_pos _ _ _ _ e]; exact h.chain
  · intro a l2 ha hl2
    have ha' := (hm0 a).symm.trans ha
    exact (upd2'_other _ _ _ _ _ _ (hne a l2 (Or.inr ha'))).trans (h.mmono a l2 ha' hl2)

theorem Priv.write {n l : Nat} {v : Option Nat} (hn : Priv m L n) :
    Priv ⟨upd2' m.next n l v, upd2' m.mark n l false, m.key, m.val, m.ht, m.cnt⟩ L n :=
  ⟨hn.1, hn.2.1, hn.2.2.1, (congrFun (mk0_priv_write hn.2.2.2) n).trans hn.2.2.2⟩

/-- Allocation of the item of an insert: nothing that exists changes, and the new item is private. -/
theorem GOk.fresh (h : GOk m L) (k v : Int) {hn : Nat} (hh : 1 ≤ hn) :
    GOk ⟨m.next, m.mark, upd m.key m.cnt k, upd m.val m.cnt v, upd m.ht m.cnt hn, m.cnt + 1⟩ L ∧
    MemLe none m L ⟨m.next, m.mark, upd m.key m.cnt k, upd m.val m.cnt v, upd m.ht m.cnt hn, m.cnt + 1⟩ L ∧
    Priv ⟨m.next, m.mark, upd m.key m.cnt k, upd m.val m.cnt v, upd m.ht m.cnt hn, m.cnt + 1⟩ L m.cnt := by
  have hstab : ∀ a, a < m.cnt → upd m.key m.cnt k a = m.key a ∧ upd m.val m.cnt v a = m.val a ∧
      upd m.ht m.cnt hn a = m.ht a := fun a ha =>
    ⟨upd_other _ _ _ _ (Nat.ne_of_lt ha), upd_other _ _ _ _ (Nat.ne_of_lt ha), upd_other _ _ _ _ (Nat.ne_of_lt ha)⟩
  have hle : MemLe none m L ⟨m.next, m.mark, upd m.key m.cnt k, upd m.val m.cnt v, upd m.ht m.cnt hn, m.cnt + 1⟩ L :=
    ⟨hstab, Nat.le_succ _, fun _ x => x, fun _ _ hm _ => ⟨hm, rfl⟩, fun _ h1 h2 _ => ⟨h1, h2, rfl⟩⟩
  refine ⟨⟨h.chain, ?_, fun a ha => Nat.lt_succ_of_lt (h.alloc a ha), Nat.le_succ_of_le h.cpos,
    fun a ha => ⟨(h.mcnt a ha).1, Nat.lt_succ_of_lt (h.mcnt a ha).2⟩, fun a l b hb => (h.ptr a l b hb).mono h hle, ?_, ?_⟩,
    hle, Nat.ne_of_gt h.cpos, Nat.lt_succ_self _, fun hm => Nat.lt_irrefl _ (h.alloc _ hm), ?_⟩
  · refine List.Pairwise.imp_of_mem ?_ h.sorted
    intro a b ha hb hab
    unfold Lt at *
    dsimp only at hab ⊢
    rw [(hstab a (h.alloc a ha)).1, (hstab b (h.alloc b hb)).1]; exact hab
  · intro a l ha hl
    have hl' : l < upd m.ht m.cnt hn a := hl
    rw [(hstab a (h.mcnt a ha).2).2.2] at hl'
    exact h.mmono a l ha hl'
  · intro a
    show 1 ≤ upd m.ht m.cnt hn a
    unfold upd; split
    · exact hh
    · exact h.hpos a
  · exact Bool.eq_false_iff.mpr fun e => Nat.lt_irrefl _ (h.mcnt _ e).2

end upd

end CdsVerif.Algo.SkipList
