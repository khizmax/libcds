/-
  The remaining steps that change no tower word: `increase_height`, the loads of `try_remove_at`, the level counter,
  and `find_fastpath`.
-/
import CdsVerif.Algo.SkipList.StepTrav
namespace CdsVerif.Algo.SkipList
open CdsVerif.Machine CdsVerif.Spec CdsVerif.Lin
open CdsVerif.Algo.Michael (Chain Lt LPok isRO insAfter Has)

theorem listsOk_replicate (c : Cfg) (m : Mem) (L : List Nat) :
    ListsOk c m L (List.replicate c.maxH 0) (List.replicate c.maxH none) := by
  refine ⟨by simp, by simp, ?_, ?_⟩
  · intro i; left
    simp only [List.getD_eq_getElem?_getD, List.getElem?_replicate]
    split <;> rfl
  · intro i x hx
    simp only [List.getD_eq_getElem?_getD, List.getElem?_replicate] at hx
    split at hx <;> simp at hx

theorem tok_nextMark {c : Cfg} {m : Mem} {L : List Nat} {k : Int} {d lvl : Nat} {pp : List Nat} {ps : List (Option Nat)}
    (h : TOk c m L (.eLd k d lvl pp ps)) (hm : m.mark d lvl = true) : TOk c m L (nextMark k d lvl pp ps) := by
  simp only [TOk] at h
  obtain ⟨h1, h2, h3, h4, h5, h6⟩ := h
  unfold nextMark
  split <;> simp only [TOk]
  · refine ⟨h1, h2, h3, by omega, by omega, ?_⟩
    intro l hl1 hl2
    by_cases e : l = lvl
    · rw [e]; exact hm
    · exact h6 l (by omega) hl2
  · refine ⟨h1, h2, h3, ?_⟩
    intro l hl1 hl2
    by_cases e : l = lvl
    · rw [e]; exact hm
    · exact h6 l (by omega) hl2

theorem eff_nextMark {mk : Nat → Bool} {key val : Nat → Int} {H : Int → Int → Prop} {pc : PC} {k : Int} {d lvl : Nat}
    {pp : List Nat} {ps : List (Option Nat)}
    (h1 : opOf key val pc = some ⟨"erase", [k]⟩)
    (h2 : lpRet mk key val pc = if mk d = true then some [0] else none)
    (hp : postRet val pc = none) (hb : pc ≠ .idle) : EffOk mk key val H pc (nextMark k d lvl pp ps) := by
  unfold nextMark
  split <;> exact eff_same h1.symm hp.symm h2.symm ⟨hb, nofun⟩

theorem pnode_nextMark {k : Int} {d lvl : Nat} {pp : List Nat} {ps : List (Option Nat)} :
    pnode (nextMark k d lvl pp ps) = none := by
  unfold nextMark; split <;> rfl

section steps
variable {c : Cfg} {s s' : St} {t : Tid} {ev : Ev} {L : List Nat}

theorem sinvl_step_iSubFix {n lvl : Nat} {pp : List Nat} {ps : List (Option Nat)}
    (h : SInvL c s L) (hpc : s.pc t = .iSubFix n lvl pp ps) (hs : step c s t = some (s', ev)) :
    ∃ L', SInvL c s' L' ∧ StepEff s t s' L L' := by
  obtain ⟨hn, hl⟩ := h.tok hpc
  simp only [step, hpc] at hs; cases hs
  exact pc_only h hpc (tok_retry (w := .insFix n) hn hl) nofun (eff_post (r := [1]) rfl rfl)

theorem sinvl_step_gHgt {n : Nat}
    (h : SInvL c s L) (hpc : s.pc t = .gHgt n) (hs : step c s t = some (s', ev)) :
    ∃ L', SInvL c s' L' ∧ StepEff s t s' L L' := by
  simp only [step, hpc] at hs; cases hs
  split <;> exact pc_only h hpc trivial nofun (eff_post (r := [1]) rfl rfl)

theorem sinvl_step_gCas {n cur : Nat}
    (h : SInvL c s L) (hpc : s.pc t = .gCas n cur) (hs : step c s t = some (s', ev)) :
    ∃ L', SInvL c s' L' ∧ StepEff s t s' L L' := by
  simp only [step, hpc] at hs; cases hs
  exact pc_only h hpc trivial nofun (eff_post (r := [1]) rfl rfl)

theorem sinvl_step_eLd {k : Int} {d lvl : Nat} {pp : List Nat} {ps : List (Option Nat)}
    (h : SInvL c s L) (hpc : s.pc t = .eLd k d lvl pp ps) (hs : step c s t = some (s', ev)) :
    ∃ L', SInvL c s' L' ∧ StepEff s t s' L L' := by
  have ht := h.tok hpc
  simp only [step, hpc] at hs; cases hs
  split
  next hm =>
    exact pc_only h hpc (tok_nextMark ht hm) (fun _ hn => by rw [pnode_nextMark] at hn; cases hn)
      (eff_nextMark rfl rfl rfl nofun)
  · exact quiet_step h hpc ht ⟨rfl, rfl, rfl, rfl⟩ ⟨nofun, nofun⟩

theorem sinvl_step_e0Ld {k : Int} {d : Nat} {pp : List Nat} {ps : List (Option Nat)}
    (h : SInvL c s L) (hpc : s.pc t = .e0Ld k d pp ps) (hs : step c s t = some (s', ev)) :
    ∃ L', SInvL c s' L' ∧ StepEff s t s' L L' := by
  have ht := h.tok hpc
  simp only [step, hpc] at hs; cases hs
  exact quiet_step h hpc ht ⟨rfl, rfl, rfl, rfl⟩ ⟨nofun, nofun⟩

theorem sinvl_step_eH1 {k : Int} {d lvl : Nat} {pp : List Nat} {ps : List (Option Nat)}
    (h : SInvL c s L) (hpc : s.pc t = .eH1 k d lvl pp ps) (hs : step c s t = some (s', ev)) :
    ∃ L', SInvL c s' L' ∧ StepEff s t s' L L' := by
  obtain ⟨hl, hd0, hdm, hlt⟩ := h.tok hpc
  simp only [step, hpc] at hs; cases hs
  exact quiet_step h hpc ⟨hl, hd0, hdm, hlt, rfl⟩ ⟨rfl, rfl, rfl, rfl⟩ ⟨nofun, nofun⟩

theorem sinvl_step_eHSub {k : Int} {d lvl : Nat} {pp : List Nat} {ps : List (Option Nat)}
    (h : SInvL c s L) (hpc : s.pc t = .eHSub k d lvl pp ps) (hs : step c s t = some (s', ev)) :
    ∃ L', SInvL c s' L' ∧ StepEff s t s' L L' := by
  obtain ⟨hl, hd0, hdm, hlt⟩ := h.tok hpc
  simp only [step, hpc] at hs; cases hs
  split
  · exact pc_only h hpc trivial nofun (eff_post (r := [1, s.val d]) rfl rfl)
  · exact quiet_step h hpc ⟨hl, hd0, hdm, Nat.lt_of_le_of_lt (Nat.sub_le _ _) hlt⟩ ⟨rfl, rfl, rfl, rfl⟩ ⟨nofun, nofun⟩

theorem sinvl_step_qHgt {o : Fop} {att : Nat}
    (h : SInvL c s L) (hpc : s.pc t = .qHgt o att) (hs : step c s t = some (s', ev)) :
    ∃ L', SInvL c s' L' ∧ StepEff s t s' L L' := by
  simp only [step, hpc] at hs; cases hs
  exact quiet_step h hpc (Or.inl rfl) ⟨rfl, rfl, rfl, rfl⟩ ⟨nofun, nofun⟩

theorem sinvl_step_qLd1 {o : Fop} {lvl pred att : Nat}
    (h : SInvL c s L) (hpc : s.pc t = .qLd1 o lvl pred att) (hs : step c s t = some (s', ev)) :
    ∃ L', SInvL c s' L' ∧ StepEff s t s' L L' := by
  have ht := h.tok hpc
  simp only [step, hpc] at hs; cases hs
  exact quiet_step h hpc ht ⟨rfl, rfl, rfl, rfl⟩ ⟨nofun, nofun⟩

theorem tok_fslow (c : Cfg) (m : Mem) (L : List Nat) (o : Fop) : TOk c m L (fslow c o) := by
  cases o <;> exact tok_retry trivial (listsOk_replicate c m L)

theorem pnode_fslow (c : Cfg) (o : Fop) : pnode (fslow c o) = none := by
  cases o <;> rfl

theorem eff_fslow {mk : Nat → Bool} {key val : Nat → Int} {H : Int → Int → Prop} {pc : PC} {c : Cfg} {o : Fop}
    (h1 : opOf key val pc = some (fop o)) (h2 : lpRet mk key val pc = none) (hb : pc ≠ .idle) :
    EffOk mk key val H pc (fslow c o) := by
  cases o <;> exact eff_pre h1.symm h2 rfl ⟨hb, nofun⟩

theorem sinvl_step_qLd2 (hmt : c.markTest = true) {o : Fop} {lvl pred att : Nat} {x : Option Nat} {m : Bool}
    (h : SInvL c s L) (hpc : s.pc t = .qLd2 o lvl pred att x m) (hs : step c s t = some (s', ev)) :
    ∃ L', SInvL c s' L' ∧ StepEff s t s' L L' := by
  have ht : PredOk (mem! s) L (fkey o) pred := h.tok hpc
  simp only [step, hpc] at hs
  split at hs <;> cases hs
  next hv =>
    -- the fast path goes down a level; on level 0 the key is absent
    have hdown : (s.mark pred lvl = false) → (∀ c', x = some c' → fkey o < s.key c') →
        ∃ L', SInvL c { s with pc := upd s.pc t (qDown o lvl pred att) } L' ∧
          StepEff s t { s with pc := upd s.pc t (qDown o lvl pred att) } L L' := by
      intro hm' hx
      unfold qDown
      split
      next h0 =>
        subst h0
        refine pc_only h hpc trivial nofun (eff_done rfl rfl (lp_absent_f (h.g.absent_at ht hm' ?_)))
        intro c' (hc' : s.next pred 0 = some c')
        exact hx c' (hv.1 ▸ hc')
      · exact quiet_step h hpc ht ⟨rfl, rfl, rfl, rfl⟩ ⟨nofun, nofun⟩
    unfold afterQ
    split
    · split
      · exact quiet_step h hpc trivial ⟨rfl, rfl, rfl, rfl⟩ ⟨nofun, nofun⟩
      · exact pc_only h hpc (tok_fslow _ _ _ _) (fun _ hn => by rw [pnode_fslow] at hn; cases hn)
          (eff_fslow rfl rfl nofun)
    next hm =>
      have hm' : s.mark pred lvl = false := by rw [hv.2]; simpa using hm
      split
      · exact hdown hm' nofun
      next cur =>
        have hcu := h.g.ptr pred lvl cur hv.1
        split
        next hlt => exact quiet_step h hpc (Or.inr ⟨hcu.2.1, hlt⟩) ⟨rfl, rfl, rfl, rfl⟩ ⟨nofun, nofun⟩
        next hlt =>
          split
          next heq =>
            exact quiet_step h hpc ⟨⟨hcu.1, hcu.2.1⟩, heq⟩ ⟨rfl, rfl, rfl, rfl⟩ ⟨nofun, nofun⟩
          next hne =>
            refine hdown hm' fun c' hc' => ?_
            cases hc'; omega
  next => exact quiet_step h hpc ht ⟨rfl, rfl, rfl, rfl⟩ ⟨nofun, nofun⟩

/-- The load of `pCur->next(0)` on the fast path: an unmarked word is the linearization point of "found". -/
theorem sinvl_step_qChk {o : Fop} {cur : Nat}
    (h : SInvL c s L) (hpc : s.pc t = .qChk o cur) (hs : step c s t = some (s', ev)) :
    ∃ L', SInvL c s' L' ∧ StepEff s t s' L L' := by
  obtain ⟨hcu, hk⟩ := h.tok hpc
  simp only [step, hpc] at hs; cases hs
  split
  · exact pc_only h hpc (tok_fslow _ _ _ _) (fun _ hn => by rw [pnode_fslow] at hn; cases hn) (eff_fslow rfl rfl nofun)
  next hm =>
    have hhas := h.g.has_of_unmarked (a := cur) hcu (by simpa using hm)
    obtain ⟨r, hr⟩ : ∃ r, ffound s.val o cur = .done r := by cases o <;> exact ⟨_, rfl⟩
    rw [hr]
    exact pc_only h hpc trivial nofun (eff_done rfl rfl (lp_present_f hr (by rw [← show s.key cur = fkey o from hk]; exact hhas)))

end steps

end CdsVerif.Algo.SkipList
