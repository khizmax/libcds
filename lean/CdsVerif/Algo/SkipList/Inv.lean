/-
  The invariant of the skip-list machine that linearizability rests on.

  Level 0 is a Harris–Michael list (`Chain` from the head, strictly sorted, marks = logical deletion); every tower word
  on every level holds null or a PUBLISHED item (linked on level 0 or marked there) that is tall enough for the level;
  an item marked on level 0 is marked on all its upper levels; the head tower is never marked.  Per thread (`TOk`, by
  program counter): every pointer a thread holds is the head or a published item, the predecessor has a smaller key,
  the item of an insert is private until the level-0 CAS, a helper's successor was read from a marked (frozen) word.

  The upper levels need nothing else for linearizability: a traversal compares keys itself before it advances, so
  whatever the upper levels point at (published items), the search arrives on level 0 at a published predecessor with
  a smaller key, and the level-0 validation decides.  The unlink counter `m_nUnlink` and `m_nHeight` only steer the
  control flow.
-/
import CdsVerif.Algo.SkipList.Model
import CdsVerif.Algo.Michael.Lin
namespace CdsVerif.Algo.SkipList
open CdsVerif.Machine CdsVerif.Spec CdsVerif.Lin
open CdsVerif.Algo.Michael (Chain Lt LPok isRO insAfter Has)

/-! ### Level 0 of the two-index tables -/

def nx0 (next : Nat → Nat → Option Nat) : Nat → Option Nat := fun a => next a 0
def mk0 (mark : Nat → Nat → Bool) : Nat → Bool := fun a => mark a 0

theorem upd2'_same {α : Type} (f : Nat → Nat → α) (i j : Nat) (v : α) : upd2' f i j v i j = v := by simp [upd2']
theorem upd2'_other {α : Type} (f : Nat → Nat → α) (i j i' j' : Nat) (v : α) (h : ¬ (i' = i ∧ j' = j)) :
    upd2' f i j v i' j' = f i' j' := by simp [upd2', h]

/-- One level of a two-index table after a write: on the level written it is the one-index update, the other levels
    are unchanged. -/
theorem upd2'_level_same {α : Type} (f : Nat → Nat → α) (a l : Nat) (v : α) :
    (fun b => upd2' f a l v b l) = upd (fun b => f b l) a v := by
  funext b; simp only [upd2', upd, and_true]
theorem upd2'_level_other {α : Type} (f : Nat → Nat → α) (a l l' : Nat) (v : α) (hl : l ≠ l') :
    (fun b => upd2' f a l v b l') = fun b => f b l' := by
  funext b; exact upd2'_other f a l b l' v (fun e => hl e.2.symm)

theorem nx0_upd_zero (f : Nat → Nat → Option Nat) (a : Nat) (v : Option Nat) : nx0 (upd2' f a 0 v) = upd (nx0 f) a v :=
  upd2'_level_same f a 0 v
theorem nx0_upd_pos (f : Nat → Nat → Option Nat) (a l : Nat) (v : Option Nat) (hl : l ≠ 0) : nx0 (upd2' f a l v) = nx0 f :=
  upd2'_level_other f a l 0 v hl
theorem mk0_upd_zero (f : Nat → Nat → Bool) (a : Nat) (v : Bool) : mk0 (upd2' f a 0 v) = upd (mk0 f) a v :=
  upd2'_level_same f a 0 v
theorem mk0_upd_pos (f : Nat → Nat → Bool) (a l : Nat) (v : Bool) (hl : l ≠ 0) : mk0 (upd2' f a l v) = mk0 f :=
  upd2'_level_other f a l 0 v hl

/-! ### Lists of positions -/

/-- A position read after `set`: the new entry (only at the index written), or the old one. -/
theorem getD_set_cases {α : Type} (l : List α) (i j : Nat) (a d : α) :
    (i = j ∧ (l.set i a).getD j d = a) ∨ (l.set i a).getD j d = l.getD j d := by
  simp only [List.getD_eq_getElem?_getD, List.getElem?_set]
  by_cases e : i = j
  · subst e
    by_cases h : i < l.length <;> simp [h]
  · simp [e]

theorem getD_set_same {α : Type} (l : List α) (i : Nat) (a d : α) (h : i < l.length) : (l.set i a).getD i d = a := by
  simp [List.getD_eq_getElem?_getD, h]

/-! ### Memory -/

structure Mem where
  next : Nat → Nat → Option Nat
  mark : Nat → Nat → Bool
  key : Nat → Int
  val : Nat → Int
  ht : Nat → Nat
  cnt : Nat

macro "mem!" s:term:max : term => `(Mem.mk ($s).next ($s).mark ($s).key ($s).val ($s).ht ($s).cnt)

/-- Linked on level 0, or logically deleted. -/
def Lk (m : Mem) (L : List Nat) (a : Nat) : Prop := a ∈ L ∨ m.mark a 0 = true
/-- A published item. -/
def Pub (m : Mem) (L : List Nat) (a : Nat) : Prop := a ≠ 0 ∧ Lk m L a
/-- The item of an insert before the level-0 CAS. -/
def Priv (m : Mem) (L : List Nat) (n : Nat) : Prop := n ≠ 0 ∧ n < m.cnt ∧ n ∉ L ∧ m.mark n 0 = false
def PredOk (m : Mem) (L : List Nat) (k : Int) (p : Nat) : Prop := p = 0 ∨ (Lk m L p ∧ m.key p < k)
def CurOk (m : Mem) (L : List Nat) (lvl c : Nat) : Prop := c ≠ 0 ∧ Lk m L c ∧ lvl < m.ht c
def PPok (m : Mem) (L : List Nat) (pp : List Nat) : Prop := ∀ i, pp.getD i 0 = 0 ∨ Lk m L (pp.getD i 0)
def PSok (m : Mem) (L : List Nat) (ps : List (Option Nat)) : Prop := ∀ i c, ps.getD i none = some c → CurOk m L i c
def ListsOk (c : Cfg) (m : Mem) (L : List Nat) (pp : List Nat) (ps : List (Option Nat)) : Prop :=
  pp.length = c.maxH ∧ ps.length = c.maxH ∧ PPok m L pp ∧ PSok m L ps
/-- The level-0 position of an insert brackets the key of the new item. -/
def InsPos (m : Mem) (n : Nat) (pp : List Nat) (ps : List (Option Nat)) : Prop :=
  (pp.getD 0 0 = 0 ∨ m.key (pp.getD 0 0) < m.key n) ∧ ∀ c, ps.getD 0 none = some c → m.key n < m.key c

structure GOk (m : Mem) (L : List Nat) : Prop where
  chain : Chain (nx0 m.next) (some 0) L
  sorted : L.Pairwise (Lt m.key)
  alloc : ∀ a, a ∈ L → a < m.cnt
  cpos : 1 ≤ m.cnt
  mcnt : ∀ a, m.mark a 0 = true → a ≠ 0 ∧ a < m.cnt
  ptr : ∀ a l b, m.next a l = some b → CurOk m L l b
  mmono : ∀ a l, m.mark a 0 = true → l < m.ht a → m.mark a l = true
  hpos : ∀ a, 1 ≤ m.ht a

def WOk (m : Mem) (L : List Nat) : Why → Prop
  | .insS n => Priv m L n
  | .eraS _ => True
  | .fndS _ => True
  | .conS _ => True
  | .insFix n => Pub m L n
  | .eraFix _ _ => True
  | .renew n l _ => Pub m L n ∧ 1 ≤ l ∧ l < m.ht n

def TOk (c : Cfg) (m : Mem) (L : List Nat) : PC → Prop
  | .idle => True
  | .fLd1 w _ pred _ pp ps => WOk m L w ∧ ListsOk c m L pp ps ∧ PredOk m L (wkey m.key w) pred
  | .fLd2 w _ pred _ pp ps _ _ => WOk m L w ∧ ListsOk c m L pp ps ∧ PredOk m L (wkey m.key w) pred
  | .fSucc w lvl pred cur _ pp ps =>
    WOk m L w ∧ ListsOk c m L pp ps ∧ PredOk m L (wkey m.key w) pred ∧ CurOk m L lvl cur
  | .fChk w lvl pred cur _ _ _ pp ps =>
    WOk m L w ∧ ListsOk c m L pp ps ∧ PredOk m L (wkey m.key w) pred ∧ CurOk m L lvl cur
  | .hUnl w lvl pred cur pp ps =>
    WOk m L w ∧ ListsOk c m L pp ps ∧ PredOk m L (wkey m.key w) pred ∧ CurOk m L lvl cur
  | .hLd1 w lvl pred cur pp ps =>
    WOk m L w ∧ ListsOk c m L pp ps ∧ PredOk m L (wkey m.key w) pred ∧ CurOk m L lvl cur
  | .hLd2 w lvl pred cur pp ps _ _ =>
    WOk m L w ∧ ListsOk c m L pp ps ∧ PredOk m L (wkey m.key w) pred ∧ CurOk m L lvl cur
  | .hCas w lvl pred cur pp ps x =>
    WOk m L w ∧ ListsOk c m L pp ps ∧ PredOk m L (wkey m.key w) pred ∧ CurOk m L lvl cur ∧
      m.mark cur lvl = true ∧ m.next cur lvl = x
  | .hSub w _ pp ps => WOk m L w ∧ ListsOk c m L pp ps
  | .iClr n lvl pp ps => Priv m L n ∧ ListsOk c m L pp ps ∧ InsPos m n pp ps ∧ 1 ≤ lvl
  | .iSt0 n pp ps => Priv m L n ∧ ListsOk c m L pp ps ∧ InsPos m n pp ps
  | .iCas0 n pp ps => Priv m L n ∧ ListsOk c m L pp ps ∧ InsPos m n pp ps ∧ m.next n 0 = ps.getD 0 none
  | .iUpA n lvl _ pp ps => Pub m L n ∧ ListsOk c m L pp ps ∧ 1 ≤ lvl ∧ lvl < m.ht n
  | .iUpB n lvl pp ps => Pub m L n ∧ ListsOk c m L pp ps ∧ 1 ≤ lvl ∧ lvl < m.ht n
  | .iSubFix n _ pp ps => Pub m L n ∧ ListsOk c m L pp ps
  | .gHgt _ => True
  | .gCas _ _ => True
  | .eLd k d lvl pp ps =>
    ListsOk c m L pp ps ∧ Pub m L d ∧ m.key d = k ∧ 1 ≤ lvl ∧ lvl < m.ht d ∧
      ∀ l, lvl < l → l < m.ht d → m.mark d l = true
  | .eMk k d lvl _ pp ps =>
    ListsOk c m L pp ps ∧ Pub m L d ∧ m.key d = k ∧ 1 ≤ lvl ∧ lvl < m.ht d ∧
      ∀ l, lvl < l → l < m.ht d → m.mark d l = true
  | .e0Ld k d pp ps =>
    ListsOk c m L pp ps ∧ Pub m L d ∧ m.key d = k ∧ ∀ l, 0 < l → l < m.ht d → m.mark d l = true
  | .e0Mk k d _ pp ps =>
    ListsOk c m L pp ps ∧ Pub m L d ∧ m.key d = k ∧ ∀ l, 0 < l → l < m.ht d → m.mark d l = true
  | .eH1 _ d lvl pp ps => ListsOk c m L pp ps ∧ d ≠ 0 ∧ m.mark d 0 = true ∧ lvl < m.ht d
  | .eH2 _ d lvl x pp ps => ListsOk c m L pp ps ∧ d ≠ 0 ∧ m.mark d 0 = true ∧ lvl < m.ht d ∧ m.next d lvl = x
  | .eHSub _ d lvl pp ps => ListsOk c m L pp ps ∧ d ≠ 0 ∧ m.mark d 0 = true ∧ lvl < m.ht d
  | .qHgt _ _ => True
  | .qLd1 o _ pred _ => PredOk m L (fkey o) pred
  | .qLd2 o _ pred _ _ _ => PredOk m L (fkey o) pred
  | .qChk o cur => Pub m L cur ∧ m.key cur = fkey o
  | .done _ => True

def wnode : Why → Option Nat
  | .insS n => some n
  | .eraS _ => none
  | .fndS _ => none
  | .conS _ => none
  | .insFix _ => none
  | .eraFix _ _ => none
  | .renew _ _ _ => none

/-- The private item of a thread. -/
def pnode : PC → Option Nat
  | .idle => none
  | .fLd1 w _ _ _ _ _ => wnode w
  | .fLd2 w _ _ _ _ _ _ _ => wnode w
  | .fSucc w _ _ _ _ _ _ => wnode w
  | .fChk w _ _ _ _ _ _ _ _ => wnode w
  | .hUnl w _ _ _ _ _ => wnode w
  | .hLd1 w _ _ _ _ _ => wnode w
  | .hLd2 w _ _ _ _ _ _ _ => wnode w
  | .hCas w _ _ _ _ _ _ => wnode w
  | .hSub w _ _ _ => wnode w
  | .iClr n _ _ _ => some n
  | .iSt0 n _ _ => some n
  | .iCas0 n _ _ => some n
  | .iUpA _ _ _ _ _ => none
  | .iUpB _ _ _ _ => none
  | .iSubFix _ _ _ _ => none
  | .gHgt _ => none
  | .gCas _ _ => none
  | .eLd _ _ _ _ _ => none
  | .eMk _ _ _ _ _ _ => none
  | .e0Ld _ _ _ _ => none
  | .e0Mk _ _ _ _ _ => none
  | .eH1 _ _ _ _ _ => none
  | .eH2 _ _ _ _ _ _ => none
  | .eHSub _ _ _ _ _ => none
  | .qHgt _ _ => none
  | .qLd1 _ _ _ _ => none
  | .qLd2 _ _ _ _ _ _ => none
  | .qChk _ _ => none
  | .done _ => none

def Own (pc : Tid → PC) : Prop := ∀ t1 t2 n, pnode (pc t1) = some n → pnode (pc t2) = some n → t1 = t2

structure SInvL (c : Cfg) (s : St) (L : List Nat) : Prop where
  g : GOk (mem! s) L
  thr : ∀ t, TOk c (mem! s) L (s.pc t)
  own : Own s.pc

theorem sinv_init (c : Cfg) : SInvL c (init c) [0] := by
  refine ⟨?_, ?_, ?_⟩
  · constructor <;> simp [init, Chain, nx0, CurOk]
  · intro t; simp [init, TOk]
  · intro t1 t2 n h; simp [init, pnode] at h

theorem forall_upd {P : PC → Prop} {pc : Tid → PC} {t : Tid} {pc' : PC} (h : ∀ t2, t2 ≠ t → P (pc t2)) (h' : P pc') :
    ∀ t2, P (upd pc t pc' t2) :=
  Machine.forall_upd (T := fun _ => P) h' h

/-- Thread `t` moves to `pc'`, which owns nothing new. -/
theorem Own.upd {pc : Tid → PC} (h : Own pc) (t : Tid) (pc' : PC)
    (hi : ∀ n, pnode pc' = some n → pnode (pc t) = some n) : Own (Machine.upd pc t pc') :=
  Machine.own_upd (g := pnode) h fun u hu n hn hun => hu (h u t n hun (hi n hn))

/-! ### Consequences of the global part -/

theorem GOk.head_cons {m : Mem} {L : List Nat} (h : GOk m L) : ∃ l, L = 0 :: l := by
  have hc := h.chain
  cases L with
  | nil => simp [Chain] at hc
  | cons a r => simp only [Chain, Option.some.injEq] at hc; exact ⟨r, by rw [hc.1]⟩

theorem GOk.zero_mem {m : Mem} {L : List Nat} (h : GOk m L) : 0 ∈ L := by
  obtain ⟨l, rfl⟩ := h.head_cons; simp

theorem GOk.nodup {m : Mem} {L : List Nat} (h : GOk m L) : L.Nodup := Michael.sorted_nodup h.sorted

theorem GOk.lt_cnt {m : Mem} {L : List Nat} (h : GOk m L) {a : Nat} (ha : Lk m L a) : a < m.cnt := by
  rcases ha with ha | ha
  · exact h.alloc a ha
  · exact (h.mcnt a ha).2

theorem GOk.mark0_head {m : Mem} {L : List Nat} (h : GOk m L) : m.mark 0 0 = false := by
  cases e : m.mark 0 0 with
  | false => rfl
  | true => exact absurd rfl (h.mcnt 0 e).1

/-- The level-0 successor of a linked cell is a linked item. -/
theorem GOk.next_mem {m : Mem} {L : List Nat} (h : GOk m L) {a b : Nat} (ha : a ∈ L) (hb : m.next a 0 = some b) :
    b ≠ 0 ∧ b ∈ L := by
  have h1 := Chain.succ_mem h.chain ha (show nx0 m.next a = some b from hb)
  obtain ⟨l, rfl⟩ := h.head_cons
  simp only [List.tail_cons] at h1
  have := (List.pairwise_cons.mp h.sorted).1 b h1
  exact ⟨this.1, List.mem_cons_of_mem _ h1⟩

/-- An unmarked published cell (or the head) is linked. -/
theorem GOk.unm_mem {m : Mem} {L : List Nat} (h : GOk m L) {a : Nat} (ha : a = 0 ∨ Lk m L a) (hm : m.mark a 0 = false) :
    a ∈ L := by
  rcases ha with rfl | ha | ha
  · exact h.zero_mem
  · exact ha
  · rw [hm] at ha; simp at ha

theorem GOk.gap {m : Mem} {L : List Nat} (h : GOk m L) {p : Nat} {k : Int} (hp : p ∈ L)
    (hpk : p = 0 ∨ m.key p < k) (hck : ∀ c, m.next p 0 = some c → k < m.key c) :
    ∀ a, a ∈ L → a ≠ 0 → m.key a ≠ k := by
  intro a ha ha0 hk
  rcases Chain.around h.chain h.sorted hp a ha with e | hlt | ⟨c, hc, e | hlt⟩
  · subst e
    rcases hpk with h0 | h0
    · exact ha0 h0
    · omega
  · unfold Lt at hlt
    rcases hlt.2 with h0 | h0
    · exact ha0 h0
    · rcases hpk with h1 | h1
      · exact hlt.1 h1
      · omega
  · subst e; have := hck a hc; omega
  · unfold Lt at hlt
    have := hck c hc
    rcases hlt.2 with h0 | h0
    · have hc0 := (h.next_mem hp hc).1; exact hc0 h0
    · omega

theorem GOk.absent {m : Mem} {L : List Nat} (h : GOk m L) {p : Nat} {k : Int} (hp : p ∈ L)
    (hpk : p = 0 ∨ m.key p < k) (hck : ∀ c, m.next p 0 = some c → k < m.key c) :
    ∀ w, ¬ Has (mk0 m.mark) m.key m.val L k w := by
  rintro w ⟨a, ha, ha0, -, hk, -⟩
  exact h.gap hp hpk hck a ha ha0 hk

/-- A linked, logically deleted item with key `k`: the key is absent. -/
theorem GOk.absent_marked {m : Mem} {L : List Nat} (h : GOk m L) {d : Nat} (hd : d ∈ L) (hd0 : d ≠ 0)
    (hm : m.mark d 0 = true) : ∀ w, ¬ Has (mk0 m.mark) m.key m.val L (m.key d) w := by
  rintro w ⟨a, ha, ha0, hma, hk, -⟩
  have := Michael.sorted_inj h.sorted a d ha hd ha0 hd0 hk
  subst this
  simp only [mk0] at hma; rw [hm] at hma; simp at hma

/-! ### Monotonicity of the per-thread part -/

/-- What a step of another thread (whose private item, if it writes to one, is `own`) may do to the memory. -/
structure MemLe (own : Option Nat) (m : Mem) (L : List Nat) (m' : Mem) (L' : List Nat) : Prop where
  stab : ∀ a, a < m.cnt → m'.key a = m.key a ∧ m'.val a = m.val a ∧ m'.ht a = m.ht a
  cnt : m.cnt ≤ m'.cnt
  lk : ∀ a, Lk m L a → Lk m' L' a
  frz : ∀ a l, m.mark a l = true → Lk m L a → m'.mark a l = true ∧ m'.next a l = m.next a l
  priv : ∀ n, n ∉ L → m.mark n 0 = false → some n ≠ own → n ∉ L' ∧ m'.mark n 0 = false ∧ m'.next n 0 = m.next n 0

theorem MemLe.refl (own : Option Nat) (m : Mem) (L : List Nat) : MemLe own m L m L :=
  ⟨fun _ _ => ⟨rfl, rfl, rfl⟩, Nat.le_refl _, fun _ h => h, fun _ _ h _ => ⟨h, rfl⟩, fun _ h1 h2 _ => ⟨h1, h2, rfl⟩⟩

section mono
variable {own : Option Nat} {m m' : Mem} {L L' : List Nat}

/-- Key, payload and height of a published item do not change. -/
theorem MemLe.stab_lk (hle : MemLe own m L m' L') (hg : GOk m L) {a : Nat} (ha : Lk m L a) :
    m'.key a = m.key a ∧ m'.val a = m.val a ∧ m'.ht a = m.ht a := hle.stab a (hg.lt_cnt ha)

theorem Pub.mono (hle : MemLe own m L m' L') {a : Nat} (h : Pub m L a) : Pub m' L' a := ⟨h.1, hle.lk a h.2⟩

theorem CurOk.mono (hg : GOk m L) (hle : MemLe own m L m' L') {l a : Nat} (h : CurOk m L l a) : CurOk m' L' l a :=
  ⟨h.1, hle.lk a h.2.1, (hle.stab_lk hg h.2.1).2.2 ▸ h.2.2⟩

theorem PredOk.mono (hg : GOk m L) (hle : MemLe own m L m' L') {k : Int} {p : Nat} (h : PredOk m L k p) :
    PredOk m' L' k p :=
  h.imp_right fun (h : Lk m L p ∧ m.key p < k) => ⟨hle.lk p h.1, (hle.stab_lk hg h.1).1 ▸ h.2⟩

theorem ListsOk.mono {c : Cfg} (hg : GOk m L) (hle : MemLe own m L m' L') {pp : List Nat} {ps : List (Option Nat)}
    (h : ListsOk c m L pp ps) : ListsOk c m' L' pp ps :=
  ⟨h.1, h.2.1, fun i => (h.2.2.1 i).imp_right (hle.lk _), fun i x hx => (h.2.2.2 i x hx).mono hg hle⟩

theorem Priv.mono (hle : MemLe own m L m' L') {n : Nat} (hn : some n ≠ own) (h : Priv m L n) : Priv m' L' n := by
  have := hle.priv n h.2.2.1 h.2.2.2 hn
  exact ⟨h.1, Nat.lt_of_lt_of_le h.2.1 hle.cnt, this.1, this.2.1⟩

/-- The key a traversal looks for is that of an allocated item, or a constant. -/
theorem wkey_congr (hg : GOk m L) {w : Why} (h : WOk m L w) {key' : Nat → Int} (hk : ∀ a, a < m.cnt → key' a = m.key a) :
    wkey key' w = wkey m.key w := by
  cases w <;> simp only [wkey]
  · exact hk _ h.2.1
  · exact hk _ (hg.lt_cnt h.2)
  · exact hk _ (hg.lt_cnt h.1.2)

theorem wkey_mono (hg : GOk m L) (hle : MemLe own m L m' L') {w : Why} (h : WOk m L w) : wkey m'.key w = wkey m.key w :=
  wkey_congr hg h fun a ha => (hle.stab a ha).1

theorem WOk.mono (hg : GOk m L) (hle : MemLe own m L m' L') {w : Why} (hn : ∀ n, wnode w = some n → some n ≠ own)
    (h : WOk m L w) : WOk m' L' w := by
  cases w <;> simp only [WOk] at h ⊢
  · exact Priv.mono hle (hn _ rfl) h
  · exact Pub.mono hle h
  · exact ⟨Pub.mono hle h.1, h.2.1, (hle.stab_lk hg h.1.2).2.2 ▸ h.2.2⟩

theorem InsPos.mono {c : Cfg} (hg : GOk m L) (hle : MemLe own m L m' L') {n : Nat} {pp : List Nat}
    {ps : List (Option Nat)} (hn : n < m.cnt) (hl : ListsOk c m L pp ps) (h : InsPos m n pp ps) : InsPos m' n pp ps := by
  have e := (hle.stab n hn).1
  refine ⟨?_, ?_⟩
  · rcases h.1 with e0 | h1
    · exact Or.inl e0
    · rcases hl.2.2.1 0 with e0 | hk
      · exact Or.inl e0
      · right; rw [e, (hle.stab_lk hg hk).1]; exact h1
  · intro x hx
    rw [e, (hle.stab_lk hg (hl.2.2.2 0 x hx).2.1).1]; exact h.2 x hx

/-- The common part of `TOk` at the program counters of a traversal. -/
theorem trav_mono {c : Cfg} (hg : GOk m L) (hle : MemLe own m L m' L') {w : Why} {pred : Nat} {pp : List Nat}
    {ps : List (Option Nat)} (hn : ∀ n, wnode w = some n → some n ≠ own) (hw : WOk m L w) (hl : ListsOk c m L pp ps)
    (hp : PredOk m L (wkey m.key w) pred) :
    WOk m' L' w ∧ ListsOk c m' L' pp ps ∧ PredOk m' L' (wkey m'.key w) pred :=
  ⟨hw.mono hg hle hn, hl.mono hg hle, wkey_mono hg hle hw ▸ hp.mono hg hle⟩

/-- The common part of `TOk` at the program counters of `try_remove_at` before the level-0 mark: the victim stays
    published, with its key, and its levels above `lvl` stay marked. -/
theorem victim_mono (hg : GOk m L) (hle : MemLe own m L m' L') {d lvl : Nat} {k : Int} (hd : Pub m L d) (hk : m.key d = k)
    (hup : ∀ l, lvl < l → l < m.ht d → m.mark d l = true) :
    Pub m' L' d ∧ m'.key d = k ∧ ∀ l, lvl < l → l < m'.ht d → m'.mark d l = true := by
  have e := hle.stab_lk hg hd.2
  refine ⟨hd.mono hle, e.1 ▸ hk, fun l h1 h2 => ?_⟩
  rw [e.2.2] at h2
  exact (hle.frz d l (hup l h1 h2) hd.2).1

/-- The common part of `TOk` at the program counters of `try_remove_at` after the level-0 mark. -/
theorem marked_mono (hg : GOk m L) (hle : MemLe own m L m' L') {d lvl : Nat} (hm : m.mark d 0 = true) (hl : lvl < m.ht d) :
    m'.mark d 0 = true ∧ lvl < m'.ht d :=
  ⟨(hle.frz d 0 hm (Or.inr hm)).1, (hle.stab_lk hg (Or.inr hm)).2.2 ▸ hl⟩

end mono

theorem tok_mono {c : Cfg} {own : Option Nat} {m m' : Mem} {L L' : List Nat} (hg : GOk m L)
    (hle : MemLe own m L m' L') {pc : PC} (hn : ∀ n, pnode pc = some n → some n ≠ own) (h : TOk c m L pc) :
    TOk c m' L' pc := by
  cases pc <;> simp only [TOk, pnode] at h hn ⊢
  case fLd1 | fLd2 => exact trav_mono hg hle hn h.1 h.2.1 h.2.2
  case fSucc | fChk | hUnl | hLd1 | hLd2 =>
    have ht := trav_mono hg hle hn h.1 h.2.1 h.2.2.1
    exact ⟨ht.1, ht.2.1, ht.2.2, h.2.2.2.mono hg hle⟩
  case hCas =>
    have ht := trav_mono hg hle hn h.1 h.2.1 h.2.2.1
    have hf := hle.frz _ _ h.2.2.2.2.1 h.2.2.2.1.2.1
    exact ⟨ht.1, ht.2.1, ht.2.2, h.2.2.2.1.mono hg hle, hf.1, hf.2.trans h.2.2.2.2.2⟩
  case hSub => exact ⟨h.1.mono hg hle hn, h.2.mono hg hle⟩
  case iClr n _ _ _ =>
    exact ⟨h.1.mono hle (hn n rfl), h.2.1.mono hg hle, h.2.2.1.mono hg hle h.1.2.1 h.2.1, h.2.2.2⟩
  case iSt0 n _ _ => exact ⟨h.1.mono hle (hn n rfl), h.2.1.mono hg hle, h.2.2.mono hg hle h.1.2.1 h.2.1⟩
  case iCas0 n _ _ =>
    have hx := (hle.priv n h.1.2.2.1 h.1.2.2.2 (hn n rfl)).2.2
    exact ⟨h.1.mono hle (hn n rfl), h.2.1.mono hg hle, h.2.2.1.mono hg hle h.1.2.1 h.2.1, hx.trans h.2.2.2⟩
  case iUpA | iUpB => exact ⟨h.1.mono hle, h.2.1.mono hg hle, h.2.2.1, (hle.stab_lk hg h.1.2).2.2 ▸ h.2.2.2⟩
  case iSubFix => exact ⟨h.1.mono hle, h.2.mono hg hle⟩
  case eLd | eMk =>
    have hv := victim_mono hg hle h.2.1 h.2.2.1 h.2.2.2.2.2
    exact ⟨h.1.mono hg hle, hv.1, hv.2.1, h.2.2.2.1, (hle.stab_lk hg h.2.1.2).2.2 ▸ h.2.2.2.2.1, hv.2.2⟩
  case e0Ld | e0Mk => exact ⟨h.1.mono hg hle, victim_mono hg hle h.2.1 h.2.2.1 h.2.2.2⟩
  case eH1 | eHSub => exact ⟨h.1.mono hg hle, h.2.1, marked_mono hg hle h.2.2.1 h.2.2.2⟩
  case eH2 d lvl _ _ _ =>
    have hf := hle.frz d lvl (hg.mmono d lvl h.2.2.1 h.2.2.2.1) (Or.inr h.2.2.1)
    have hk := marked_mono hg hle h.2.2.1 h.2.2.2.1
    exact ⟨h.1.mono hg hle, h.2.1, hk.1, hk.2, hf.2.trans h.2.2.2.2⟩
  case qLd1 | qLd2 => exact h.mono hg hle
  case qChk => exact ⟨h.1.mono hle, (hle.stab_lk hg h.1.2).1 ▸ h.2⟩

end CdsVerif.Algo.SkipList
