/-
  The dump of ALL levels of a skip-list machine state (`snapOf`, `Snap.lean`) is well-formed in the sense of C18
  (`skipWf`: level 0 strictly increasing, every level a sub-list of the level below) as soon as
    * the executable structural predicate `invB` (`Abs.lean`), which `cdsdriver replay skiplist` evaluates on every
      state of every replayed trace, holds (`invB_skipWf`); or
    * level 0 is strictly sorted — a THEOREM for every reachable state (`SInvL.level0`) — and every upper level chain
      is a sub-list of the chain below (`UpperOk`: the clause that is not proved inductive) (`skipWf_of_upper`).
-/
import CdsVerif.Algo.SkipList.Snap
namespace CdsVerif.Algo.SkipList
open CdsVerif.Machine CdsVerif.Spec CdsVerif.Snapshot

/-- The test `isSublist` of `Abs.lean` is sound. -/
theorem isSublist_sound : ∀ (l1 l2 : List Nat), isSublist l1 l2 = true → l1.Sublist l2
  | [], l2, _ => List.nil_sublist l2
  | _ :: _, [], h => by simp [isSublist] at h
  | a :: l1, b :: l2, h => by
    simp only [isSublist] at h
    split at h
    next e => subst e; exact (isSublist_sound l1 l2 h).cons_cons a
    next => exact (isSublist_sound (a :: l1) l2 h).cons b

/-- Every level is a sub-list of the level below, pointwise form. -/
def SubLevels (ls : List (List Int)) : Prop := ∀ i, i + 1 < ls.length → (ls.getD (i + 1) []).Sublist (ls.getD i [])

theorem subChain_of_subLevels : ∀ (ls : List (List Int)), SubLevels ls → subChain ls = true
  | [], _ => rfl
  | [_], _ => rfl
  | a :: b :: t, h => by
    simp only [subChain, Bool.and_eq_true]
    refine ⟨List.isSublist_iff_sublist.2 (by simpa using h 0 (by simp)), subChain_of_subLevels (b :: t) ?_⟩
    intro i hi
    have := h (i + 1) (by simp at hi ⊢; omega)
    simpa using this

theorem stripTop_prefix {α : Type} : ∀ (l : List (List α)), stripTop l <+: l
  | [] => List.prefix_refl _
  | a :: t => by
    have ih := stripTop_prefix t
    unfold stripTop
    split
    next h =>
      split
      · exact List.nil_prefix
      · rw [h] at ih; exact (List.prefix_cons_inj a).2 List.nil_prefix
    next b t' h => rw [← h]; exact (List.prefix_cons_inj a).2 ih

theorem subLevels_prefix {l1 l2 : List (List Int)} (hp : l1 <+: l2) (h : SubLevels l2) : SubLevels l1 := by
  obtain ⟨r, rfl⟩ := hp
  intro i hi
  have := h i (by simp; omega)
  have e1 : (l1 ++ r).getD (i + 1) [] = l1.getD (i + 1) [] := by
    simp [List.getD_eq_getElem?_getD, List.getElem?_append_left hi]
  have e2 : (l1 ++ r).getD i [] = l1.getD i [] := by
    simp [List.getD_eq_getElem?_getD, List.getElem?_append_left (show i < l1.length by omega)]
  rw [e1, e2] at this; exact this

/-- Every upper level chain (up to `maxH`) is a sub-list of the chain below. -/
def UpperOk (maxH : Nat) (s : St) : Prop := ∀ l, l + 1 < maxH → (levelNodes s (l + 1)).Sublist (levelNodes s l)

theorem subLevels_snap (maxH : Nat) (s : St) (h : UpperOk maxH s) :
    SubLevels (skipLevels ((List.range maxH).map (snapLevel s))) := by
  intro i hi
  simp only [skipLevels, List.length_map, List.length_range] at hi
  have e : ∀ j, j < maxH → (skipLevels ((List.range maxH).map (snapLevel s))).getD j [] =
      (levelNodes s j).map (fun a => s.key a) := by
    intro j hj
    simp [skipLevels, List.getD_eq_getElem?_getD, hj, snapLevel, levelKeys]
  rw [e (i + 1) hi, e i (by omega)]
  exact (h i hi).map _

theorem skipLevels_prefix {l1 l2 : SkipSnap} (h : l1 <+: l2) : skipLevels l1 <+: skipLevels l2 := by
  obtain ⟨r, rfl⟩ := h
  exact ⟨skipLevels r, by simp [skipLevels]⟩

/-- The dump of all levels is well-formed when level 0 is strictly sorted and the upper levels are sub-lists. -/
theorem skipWf_of_upper (maxH : Nat) (s : St) (hm : 0 < maxH)
    (h0 : (levelNodes s 0).Pairwise (fun a b => s.key a < s.key b)) (hu : UpperOk maxH s) :
    skipWf (snapOf maxH s) = true := by
  simp only [skipWf, Bool.and_eq_true]
  constructor
  · rw [snapOf_head maxH s hm]
    exact (CdsVerif.Props.C18.sortedLt_iff _).2 (levelKeys_snapLevel_sorted s 0 h0)
  · refine subChain_of_subLevels _ (subLevels_prefix (skipLevels_prefix ?_) (subLevels_snap maxH s hu))
    exact stripTop_prefix _

/-- `invB` (the predicate evaluated on every replayed state) implies the sub-list clause. -/
theorem upperOk_of_invB (maxH : Nat) (s : St) (h : invB maxH s = true) : UpperOk maxH s := by
  intro l hl
  simp only [invB, wellFormed, Bool.and_eq_true, List.all_eq_true, List.mem_range] at h
  have := (h.1.1.1 (l + 1) hl).2
  simp only [Nat.add_sub_cancel, Bool.or_eq_true, beq_iff_eq] at this
  rcases this with e | e
  · omega
  · exact isSublist_sound _ _ e

theorem level0_of_invB (maxH : Nat) (s : St) (hm : 0 < maxH) (h : invB maxH s = true) :
    (levelNodes s 0).Pairwise (fun a b => s.key a < s.key b) := by
  simp only [invB, wellFormed, Bool.and_eq_true, List.all_eq_true, List.mem_range] at h
  have := (h.1.1.1 0 hm).1
  simpa using this

/-- **The replay-time check certifies the C18 well-formedness of the full dump.** -/
theorem invB_skipWf (maxH : Nat) (s : St) (hm : 0 < maxH) (h : invB maxH s = true) : skipWf (snapOf maxH s) = true :=
  skipWf_of_upper maxH s hm (level0_of_invB maxH s hm h) (upperOk_of_invB maxH s h)

end CdsVerif.Algo.SkipList
