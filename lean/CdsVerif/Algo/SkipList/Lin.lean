/-
  Linearizability of the skip-list machine (repaired fast path) with respect to `Spec.map`, as an instance of the
  ghost-log construction of `Base/LPLin.lean`: an entry is appended at every linearization point, tentative entries (a
  traversal that has read an unmarked item with the key but has not validated its predecessor yet) are withdrawn when
  the validation fails.

  HELPED linearization points.  When an erase marks level 0 of its victim, every other thread that is inside
  `try_remove_at` for the same item will answer "not found" (its marking CAS can only fail on the marked word), no
  matter what happens later — the item may be unlinked and the key inserted again before the loser runs.  The loser's
  result is therefore fixed by the winner's step, right behind the winner's own.
-/
import CdsVerif.Algo.SkipList.Reach
import CdsVerif.Base.LPLin
namespace CdsVerif.Algo.SkipList
open CdsVerif.Machine CdsVerif.Spec CdsVerif.Lin CdsVerif.GhostLog
open CdsVerif.Algo.Michael (Chain Lt LPok isRO insAfter Has)

theorem SInvL.unique {c : Cfg} {s : St} {L1 L2 : List Nat} (h1 : SInvL c s L1) (h2 : SInvL c s L2) : L1 = L2 :=
  Michael.Chain.functional h1.g.chain h2.g.chain

/-! ### The machine as an instance of `Base/LPLin.lean` -/

/-- A specification state represents the machine state if it holds exactly the pairs of the unmarked items of the
    level-0 chain; results of read-only operations are inert. -/
def sys (c : Cfg) : LPLin.Sys St MapSt where
  spec := Spec.map
  model := model c
  init := init c
  Inv := fun s => ∃ L, SInvL c s L
  Abs := fun m s => ∀ L, SInvL c s L → ∀ k v, mfind m k = some v ↔ Has (mk0 s.mark) s.key s.val L k v
  lpRet := fun s t => lpRet (mk0 s.mark) s.key s.val (s.pc t)
  postRet := fun s t => postRet s.val (s.pc t)
  opOf := fun s t => opOf s.key s.val (s.pc t)
  inert := isRO

theorem sys_ok {c : Cfg} (hc : 0 < c.maxH) (hmt : c.markTest = true) : (sys c).HelpOK where
  inert_ok := fun _ _ hro _ _ hn => Michael.map_ro hn hro
  inv_init := ⟨[0], sinv_init c⟩
  abs_init := by
    intro L hl k v
    cases hl.unique (sinv_init c)
    show mfind Spec.map.init k = some v ↔ Has (mk0 (init c).mark) (init c).key (init c).val [0] k v
    simp [Spec.map, detSpec, init, Has, mfind]
  lp_init := by intro t; simp [sys, init, lpRet]
  op_init := by intro t; simp [sys, init, opOf]
  lp_post := by
    intro s t r _ h
    cases hp : postRet s.val (s.pc t) with
    | some r' => exact .inl (hp.trans ((lpRet_of_post (mk := mk0 s.mark) (key := s.key) hp).symm.trans h))
    | none =>
      obtain ⟨op, ho, hro⟩ := ro_of_tentative h hp
      exact .inr (.of_op ho hro)
  invoke := by
    intro s t op s' ⟨L, hl⟩ hs
    obtain ⟨hl', he⟩ := sinvl_invoke hl hs
    refine ⟨⟨L, hl'⟩, ⟨?_, ?_⟩, ?_, he.now.1, he.now.2, ?_⟩
    · intro t2 ht; simp only [sys]; rw [he.frame t2 ht, he.lps t2 ht]
    · intro t2 ht; simp only [sys]; rw [he.frame t2 ht, he.ops t2 ht]
    · simp [sys, he.was, lpRet]
    · intro m hm L2 hl2 k v
      cases hl2.unique hl'
      exact (hm L hl k v).trans (he.abs k v).symm
  step := by
    intro s t s' ev ⟨L, hl⟩ hs
    obtain ⟨L', hl', he⟩ := sinvl_step hc hmt hl hs
    have hto' : ∀ {m}, (∀ k v, mfind m k = some v ↔ Has (mk0 s'.mark) s'.key s'.val L' k v) → (sys c).Abs m s' := by
      intro m hm L2 hl2
      cases hl2.unique hl'
      exact hm
    -- the other threads: an erase of the item that this step marks has lost
    have hoth : ∀ u, u ≠ t → (sys c).lpRet s' u = (sys c).lpRet s u ∨
        ((sys c).lpRet s u = none ∧ (sys c).lpRet s' u = some [0] ∧
          ∃ kk, opOf s.key s.val (s.pc u) = some ⟨"erase", [kk]⟩ ∧
            ∀ w, ¬ Has (mk0 s'.mark) s'.key s'.val L' kk w) := by
      intro u hu
      simp only [sys, he.frame u hu, he.key, he.val]
      rcases he.marks with hmk | ⟨d, hd, hmk, -, -, habs⟩
      · left; rw [hmk]
      · rw [hmk]
        rcases lp_other (m := mem! s) (hl.thr u) (mk := mk0 s.mark) (d := d) hd with e | ⟨e1, e2, e3⟩
        · exact Or.inl e
        · exact Or.inr ⟨e1, e2, s.key d, e3, by rw [he.key, he.val] at habs; rw [← hmk]; exact habs⟩
    refine LPLin.HelpStepOK.of_own ⟨L', hl'⟩ ?_ ?_ ?_ ?_ ?_ ?_
    · intro h1 r h2
      obtain ⟨op, ho, hok⟩ := he.lp h1 r h2
      exact ⟨op, ho, fun m hm => (hok m (hm L hl)).imp fun _ hm' => ⟨hm'.1, hto' hm'.2⟩⟩
    · intro hcase m hm
      exact hto' fun k v => (hm L hl k v).trans (he.nolp hcase k v).symm
    · intro r hr
      exact (he.keep r hr).imp id (fun ⟨⟨op, ho, hro⟩, hn⟩ => ⟨.of_op ho hro, hn⟩)
    · intro u hu r hr
      rcases hoth u hu with e | ⟨e, -⟩
      · exact e.trans hr
      · rw [e] at hr; cases hr
    · intro u hu h0 r hr
      rcases hoth u hu with e | ⟨-, e, kk, ho, habs⟩
      · rw [e, h0] at hr; cases hr
      · cases Option.some.inj (e.symm.trans hr)
        exact ⟨_, ho, fun m hm => (LPok.ro_none habs (fun _ _ => Iff.rfl) (Or.inl rfl) m (hm L' hl')).imp
          fun _ hm' => ⟨hm'.1, hto' hm'.2⟩⟩
    · intro u op (ho : opOf s'.key s'.val (s'.pc u) = some op)
      by_cases hu : u = t
      · subst hu
        cases hp : postRet s'.val (s'.pc u) with
        | some r => rw [opOf_none_of_post hp] at ho; cases ho
        | none => rw [he.op hp] at ho; exact ho
      · rw [he.frame u hu, he.key, he.val] at ho; exact ho
  result := by
    intro s t s' r ⟨L, hl⟩ hs
    obtain ⟨hl', hdone, hidl, hframe, hkey, hval, hmark⟩ := sinvl_result hl hs
    refine ⟨⟨L, hl'⟩, ⟨?_, ?_⟩, ?_, ?_, ?_, ?_⟩
    · intro t2 ht; simp only [sys]; rw [hframe t2 ht, hkey, hval, hmark]
    · intro t2 ht; simp only [sys]; rw [hframe t2 ht, hkey, hval]
    · simp [sys, hdone, lpRet]
    · simp [sys, hidl, lpRet]
    · simp [sys, hidl, opOf]
    · intro m hm L2 hl2
      cases hl2.unique hl'
      rw [hkey, hval, hmark]; exact hm L hl

/-! ### Main theorems -/

/-- **Linearizability of the lock-free skip list** (repaired fast path; Herlihy–Wing with completion of pending
    operations), in the form of `Michael.michael_linearizable`. -/
theorem skiplist_linearizable {c : Cfg} (hc : 0 < c.maxH) (hmt : c.markTest = true) (sched : List (Tid × Act)) (s : St)
    (os : List (Tid × Obs)) (h : (model c).run (init c) sched = some (s, os)) :
    ∃ extra : List (OpRec GOp GRet),
      (∀ e ∈ extra, Michael.pendingOf os e.tid = some (e.op, e.inv) ∧ e.res = os.length ∧
          postRet s.val (s.pc e.tid) = some e.ret) ∧
      extra.Pairwise (fun a b => a.tid ≠ b.tid) ∧
      Linearizable Spec.map (Michael.historyOf os ++ extra) := by
  rw [Michael.historyOf_eq, Michael.pendingOf_eq]
  exact (sys_ok hc hmt).linearizable sched s os h

theorem skiplist_linearizable_no_effect_pending {c : Cfg} (hc : 0 < c.maxH) (hmt : c.markTest = true)
    (sched : List (Tid × Act)) (s : St) (os : List (Tid × Obs)) (h : (model c).run (init c) sched = some (s, os))
    (hq : ∀ t, postRet s.val (s.pc t) = none) : Linearizable Spec.map (Michael.historyOf os) :=
  Michael.historyOf_eq os ▸ (sys_ok hc hmt).linearizable_no_effect_pending sched s os h hq

theorem skiplist_linearizable_complete_runs {c : Cfg} (hc : 0 < c.maxH) (hmt : c.markTest = true)
    (sched : List (Tid × Act)) (s : St) (os : List (Tid × Obs)) (h : (model c).run (init c) sched = some (s, os))
    (hq : ∀ t, s.pc t = .idle) : Linearizable Spec.map (Michael.historyOf os) :=
  skiplist_linearizable_no_effect_pending hc hmt sched s os h (fun t => by simp [hq t, postRet])

/-- The invariant holds in every state of every run. -/
theorem sinv_run {c : Cfg} (hc : 0 < c.maxH) (hmt : c.markTest = true) (sched : List (Tid × Act)) (s : St)
    (os : List (Tid × Obs)) (h : (model c).run (init c) sched = some (s, os)) : ∃ L, SInvL c s L :=
  (sys_ok hc hmt).inv_reachable s ⟨sched, os, h⟩

end CdsVerif.Algo.SkipList
