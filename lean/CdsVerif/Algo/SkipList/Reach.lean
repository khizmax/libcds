/-
  The invariant holds in every reachable state of the skip-list machine (`markTest = true`, `0 < maxH`).
-/
import CdsVerif.Algo.SkipList.StepCas
namespace CdsVerif.Algo.SkipList
open CdsVerif.Machine CdsVerif.Spec CdsVerif.Lin
open CdsVerif.Algo.Michael (Chain Lt LPok isRO insAfter Has)

theorem sinvl_step {c : Cfg} (hc : 0 < c.maxH) (hmt : c.markTest = true) {s s' : St} {t : Tid} {ev : Ev} {L : List Nat}
    (h : SInvL c s L) (hs : step c s t = some (s', ev)) : ∃ L', SInvL c s' L' ∧ StepEff s t s' L L' := by
  cases hpc : s.pc t with
  | idle => simp [step, hpc] at hs
  | done r => simp [step, hpc] at hs
  | fLd1 w lvl pred nc pp ps => exact sinvl_step_fLd1 h hpc hs
  | fLd2 w lvl pred nc pp ps x m => exact sinvl_step_fLd2 hc h hpc hs
  | fSucc w lvl pred cur nc pp ps => exact sinvl_step_fSucc h hpc hs
  | fChk w lvl pred cur sx sm nc pp ps => exact sinvl_step_fChk hc h hpc hs
  | hUnl w lvl pred cur pp ps => exact sinvl_step_hUnl h hpc hs
  | hLd1 w lvl pred cur pp ps => exact sinvl_step_hLd1 h hpc hs
  | hLd2 w lvl pred cur pp ps x m => exact sinvl_step_hLd2 h hpc hs
  | hCas w lvl pred cur pp ps x => exact sinvl_step_hCas h hpc hs
  | hSub w cur pp ps => exact sinvl_step_hSub h hpc hs
  | iClr n lvl pp ps => exact sinvl_step_iClr h hpc hs
  | iSt0 n pp ps => exact sinvl_step_iSt0 h hpc hs
  | iCas0 n pp ps => exact sinvl_step_iCas0 h hpc hs
  | iUpA n lvl p pp ps => exact sinvl_step_iUpA h hpc hs
  | iUpB n lvl pp ps => exact sinvl_step_iUpB h hpc hs
  | iSubFix n lvl pp ps => exact sinvl_step_iSubFix h hpc hs
  | gHgt n => exact sinvl_step_gHgt h hpc hs
  | gCas n cur => exact sinvl_step_gCas h hpc hs
  | eLd k d lvl pp ps => exact sinvl_step_eLd h hpc hs
  | eMk k d lvl sx pp ps => exact sinvl_step_eMk h hpc hs
  | e0Ld k d pp ps => exact sinvl_step_e0Ld h hpc hs
  | e0Mk k d p pp ps => exact sinvl_step_e0Mk h hpc hs
  | eH1 k d lvl pp ps => exact sinvl_step_eH1 h hpc hs
  | eH2 k d lvl x pp ps => exact sinvl_step_eH2 h hpc hs
  | eHSub k d lvl pp ps => exact sinvl_step_eHSub h hpc hs
  | qHgt o att => exact sinvl_step_qHgt h hpc hs
  | qLd1 o lvl pred att => exact sinvl_step_qLd1 h hpc hs
  | qLd2 o lvl pred att x m => exact sinvl_step_qLd2 hmt h hpc hs
  | qChk o cur => exact sinvl_step_qChk h hpc hs

/-! ### Invocation and return -/

theorem wnode_priv {m : Mem} {L : List Nat} {w : Why} {n : Nat} (h : WOk m L w) (hn : wnode w = some n) : Priv m L n := by
  cases w <;> simp only [wnode, reduceCtorEq, Option.some.injEq] at hn
  subst hn; exact h

theorem pnode_priv {c : Cfg} {m : Mem} {L : List Nat} {pc : PC} {n : Nat} (h : TOk c m L pc) (hn : pnode pc = some n) :
    Priv m L n := by
  cases pc <;> simp only [pnode, reduceCtorEq] at hn <;> simp only [TOk] at h
  case fLd1 | fLd2 | fSucc | fChk | hUnl | hLd1 | hLd2 | hCas | hSub => exact wnode_priv h.1 hn
  case iClr | iSt0 | iCas0 => cases hn; exact h.1

theorem wop_congr {key key' val val' : Nat → Int} {w : Why} (h : ∀ n, wnode w = some n → key' n = key n ∧ val' n = val n) :
    wop key' val' w = wop key val w := by
  cases w <;> simp only [wop]
  have := h _ rfl
  rw [this.1, this.2]

theorem opOf_congr {key key' val val' : Nat → Int} {pc : PC}
    (h : ∀ n, pnode pc = some n → key' n = key n ∧ val' n = val n) : opOf key' val' pc = opOf key val pc := by
  cases pc <;> simp only [opOf] <;> first | rfl | exact wop_congr h | (have := h _ rfl; rw [this.1, this.2])

theorem lpRet_congr {c : Cfg} {m : Mem} {L : List Nat} (hg : GOk m L) {mk : Nat → Bool} {key' val' : Nat → Int} {pc : PC}
    (ht : TOk c m L pc) (h : ∀ a, a < m.cnt → key' a = m.key a ∧ val' a = m.val a) :
    lpRet mk key' val' pc = lpRet mk m.key m.val pc ∧ postRet val' pc = postRet m.val pc := by
  cases pc <;> simp only [lpRet, postRet, and_self] <;> simp only [TOk] at ht
  case fChk w lvl pred cur sx sm nc pp ps =>
    have hcu : cur < m.cnt := hg.lt_cnt ht.2.2.2.2.1
    have hwk : wkey key' w = wkey m.key w := wkey_congr hg ht.1 fun a ha => (h a ha).1
    have hwf : wfound val' w cur = wfound m.val w cur := by
      cases w <;> simp only [wfound]
      rw [(h cur hcu).2]
    rw [(h cur hcu).1, hwk, hwf]; exact ⟨rfl, trivial⟩
  case eH1 | eH2 | eHSub => rw [(h _ (hg.mcnt _ ht.2.2.1).2).2]

structure InvokeEff (s : St) (t : Tid) (op : GOp) (s' : St) (L : List Nat) : Prop where
  frame : ∀ t2, t2 ≠ t → s'.pc t2 = s.pc t2
  ops : ∀ t2, t2 ≠ t → opOf s'.key s'.val (s.pc t2) = opOf s.key s.val (s.pc t2)
  lps : ∀ t2, t2 ≠ t → lpRet (mk0 s'.mark) s'.key s'.val (s.pc t2) = lpRet (mk0 s.mark) s.key s.val (s.pc t2)
  was : s.pc t = .idle
  now : opOf s'.key s'.val (s'.pc t) = some op ∧ lpRet (mk0 s'.mark) s'.key s'.val (s'.pc t) = none
  abs : ∀ k v, Has (mk0 s'.mark) s'.key s'.val L k v ↔ Has (mk0 s.mark) s.key s.val L k v

theorem invoke_simple {c : Cfg} {s : St} {L : List Nat} {t : Tid} {pc' : PC} {op : GOp} (h : SInvL c s L)
    (hidle : s.pc t = .idle) (htok : TOk c (mem! s) L pc') (hpn : pnode pc' = none)
    (hop : opOf s.key s.val pc' = some op) (hlp : lpRet (mk0 s.mark) s.key s.val pc' = none) :
    SInvL c { s with pc := upd s.pc t pc' } L ∧ InvokeEff s t op { s with pc := upd s.pc t pc' } L := by
  constructor
  · exact mem_step h rfl none h.g (MemLe.refl _ _ _) nofun htok (fun _ hn => by rw [hpn] at hn; cases hn)
  · exact ⟨fun t2 ht => by simp [upd, ht], fun _ _ => rfl, fun _ _ => rfl, hidle, by simp only [upd_same]; exact ⟨hop, hlp⟩,
      fun _ _ => Iff.rfl⟩

theorem sinvl_invoke {c : Cfg} {s s' : St} {t : Tid} {op : GOp} {L : List Nat}
    (h : SInvL c s L) (hs : invoke c s t op = some s') : SInvL c s' L ∧ InvokeEff s t op s' L := by
  obtain ⟨name, args⟩ := op
  unfold invoke at hs
  split at hs
  next k v hidle hname hargs =>
    -- insert
    simp only at hname hargs; subst hname; subst hargs
    simp only [Option.some.injEq] at hs; subst hs
    have hg := h.g
    obtain ⟨hg', hle, hnew⟩ := hg.fresh (m := mem! s) k v (hn := c.height s.cnt) (by unfold Cfg.height; omega)
    have hstab : ∀ a, a < s.cnt → upd s.key s.cnt k a = s.key a ∧ upd s.val s.cnt v a = s.val a ∧
        upd s.ht s.cnt (c.height s.cnt) a = s.ht a := hle.stab
    have hnlt : ∀ t2 n, pnode (s.pc t2) = some n → n < s.cnt := fun t2 n hn => (pnode_priv (h.thr t2) hn).2.1
    constructor
    · refine ⟨hg', ?_, ?_⟩
      · refine forall_upd (P := TOk c _ L) (fun t2 _ => tok_mono hg hle (by simp) (h.thr t2)) ?_
        exact tok_retry (w := .insS s.cnt) hnew (listsOk_replicate _ _ _)
      · intro t1 t2 n h1 h2
        dsimp only at h1 h2
        unfold upd at h1 h2
        by_cases e1 : t1 = t <;> by_cases e2 : t2 = t <;> simp only [e1, e2, if_true, if_false] at h1 h2
        · rw [e1, e2]
        · simp only [retry, pnode, wnode, Option.some.injEq] at h1
          have := hnlt t2 n h2; omega
        · simp only [retry, pnode, wnode, Option.some.injEq] at h2
          have := hnlt t1 n h1; omega
        · exact h.own t1 t2 n h1 h2
    · refine ⟨fun t2 ht => by simp [upd, ht], ?_, ?_, hidle, ?_, ?_⟩
      · intro t2 _
        exact opOf_congr (fun n hn => ⟨(hstab n (hnlt t2 n hn)).1, (hstab n (hnlt t2 n hn)).2.1⟩)
      · intro t2 _
        exact (lpRet_congr (m := mem! s) hg (h.thr t2) (fun a ha => ⟨(hstab a ha).1, (hstab a ha).2.1⟩)).1
      · simp only [upd_same]
        refine ⟨?_, rfl⟩
        simp [retry, opOf, wop, upd]
      · intro k' v'
        unfold Has
        constructor
        · rintro ⟨a, ha, h0, h1, h2, h3⟩
          have e := hstab a (hg.alloc a ha)
          exact ⟨a, ha, h0, h1, by rw [← e.1]; exact h2, by rw [← e.2.1]; exact h3⟩
        · rintro ⟨a, ha, h0, h1, h2, h3⟩
          have e := hstab a (hg.alloc a ha)
          exact ⟨a, ha, h0, h1, by show upd s.key s.cnt k a = k'; rw [e.1]; exact h2,
            by show upd s.val s.cnt v a = v'; rw [e.2.1]; exact h3⟩
  next k hidle hname hargs =>
    simp only at hname hargs; subst hname; subst hargs
    simp only [Option.some.injEq] at hs; subst hs
    exact invoke_simple h hidle (tok_retry (w := .eraS k) (by simp [WOk]) (listsOk_replicate _ _ _)) rfl rfl rfl
  next k hidle hname hargs =>
    simp only at hname hargs; subst hname; subst hargs
    simp only [Option.some.injEq] at hs; subst hs
    exact invoke_simple h hidle (by simp [TOk]) rfl rfl rfl
  next k hidle hname hargs =>
    simp only at hname hargs; subst hname; subst hargs
    simp only [Option.some.injEq] at hs; subst hs
    exact invoke_simple h hidle (by simp [TOk]) rfl rfl rfl
  next => simp at hs

theorem sinvl_result {c : Cfg} {s s' : St} {t : Tid} {r : GRet} {L : List Nat}
    (h : SInvL c s L) (hs : result s t = some (s', r)) :
    SInvL c s' L ∧ s.pc t = .done r ∧ s'.pc t = .idle ∧ (∀ t2, t2 ≠ t → s'.pc t2 = s.pc t2) ∧
      s'.key = s.key ∧ s'.val = s.val ∧ s'.mark = s.mark := by
  unfold result at hs
  split at hs
  next r' hpc =>
    simp only [Option.some.injEq, Prod.mk.injEq] at hs; obtain ⟨rfl, rfl⟩ := hs
    refine ⟨?_, hpc, by simp [upd], fun t2 h2 => by simp [upd, h2], rfl, rfl, rfl⟩
    exact mem_step (pc' := .idle) h rfl none h.g (MemLe.refl _ _ _) nofun trivial nofun
  next => simp at hs

/-- The effect of a level-0 mark on the OTHER threads: the erases of the same item have lost. -/
theorem lp_other {c : Cfg} {m : Mem} {L : List Nat} {pc : PC} (ht : TOk c m L pc) {mk : Nat → Bool} {d : Nat}
    (hd : mk d = false) :
    lpRet (upd mk d true) m.key m.val pc = lpRet mk m.key m.val pc ∨
      (lpRet mk m.key m.val pc = none ∧ lpRet (upd mk d true) m.key m.val pc = some [0] ∧
        opOf m.key m.val pc = some ⟨"erase", [m.key d]⟩) := by
  have key : ∀ (k : Int) (d2 : Nat), m.key d2 = k →
      (if upd mk d true d2 = true then some [0] else none) = (if mk d2 = true then some ([0] : GRet) else none) ∨
      ((if mk d2 = true then some ([0] : GRet) else none) = none ∧
        (if upd mk d true d2 = true then some ([0] : GRet) else none) = some [0] ∧
        some (⟨"erase", [k]⟩ : GOp) = some ⟨"erase", [m.key d]⟩) := by
    intro k d2 hk
    by_cases e : d2 = d
    · subst e; right; simp [upd, hd, hk]
    · left; simp [upd, e]
  cases pc
  case eLd | eMk | e0Ld | e0Mk => exact key _ _ ht.2.2.1
  all_goals (left; rfl)

end CdsVerif.Algo.SkipList
