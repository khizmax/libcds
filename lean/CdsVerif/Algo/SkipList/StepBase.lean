/-
  How one step of thread `t` from `pc` to `pc'` is put together: the invariant (`mem_step`), its effect summary
  (`StepEff.of_pcs` and the forms for the usual kinds of step), and both for a step that changes no tower word
  (`pc_only`: loads, failed CAS, the counters `m_nUnlink` / `m_nHeight`).  The program counters are named by
  `hpc : s.pc t = pc`, so that for a concrete `pc` the side conditions on `pnode`, `opOf`, `lpRet` compute.
-/
import CdsVerif.Algo.SkipList.Upd
namespace CdsVerif.Algo.SkipList
open CdsVerif.Machine CdsVerif.Spec CdsVerif.Lin
open CdsVerif.Algo.Michael (Chain Lt LPok isRO insAfter Has)

theorem SInvL.tok {c : Cfg} {s : St} {L : List Nat} {t : Tid} {pc : PC} (h : SInvL c s L) (hpc : s.pc t = pc) :
    TOk c (mem! s) L pc := hpc ▸ h.thr t

section step
variable {c : Cfg} {s : St} {L L' : List Nat} {t : Tid} {pc pc' : PC} {next' : Nat → Nat → Option Nat}
  {mark' : Nat → Nat → Bool} {unl' : Nat → Nat} {hgt' : Nat}

/-- The invariant after a step that changes tower words in a way the other threads tolerate.  `own` is the private
    item of `t`, if the step writes to it. -/
theorem mem_step (h : SInvL c s L) (hpc : s.pc t = pc) (own : Option Nat)
    (hg' : GOk ⟨next', mark', s.key, s.val, s.ht, s.cnt⟩ L')
    (hle : MemLe own (mem! s) L ⟨next', mark', s.key, s.val, s.ht, s.cnt⟩ L')
    (hown : ∀ n, own = some n → pnode pc = some n)
    (htok : TOk c ⟨next', mark', s.key, s.val, s.ht, s.cnt⟩ L' pc')
    (hpn : ∀ n, pnode pc' = some n → pnode pc = some n) :
    SInvL c ⟨next', mark', unl', hgt', s.key, s.val, s.ht, s.cnt, upd s.pc t pc'⟩ L' := by
  subst hpc
  refine h.assemble (t := t) own hg' hle hown (fun t2 ht => upd_other _ _ _ _ ht) ?_ ?_
  · simp only [upd_same]; exact htok
  · simp only [upd_same]; exact hpn

/-- `StepEff` of a step that leaves keys and payloads alone, with the program counters of `t` named. -/
theorem StepEff.of_pcs (hpc : s.pc t = pc)
    (lp : lpRet (mk0 s.mark) s.key s.val pc = none → ∀ r, lpRet (mk0 mark') s.key s.val pc' = some r →
      ∃ op, opOf s.key s.val pc = some op ∧
        LPok (Has (mk0 s.mark) s.key s.val L) op r (Has (mk0 mark') s.key s.val L'))
    (nolp : (lpRet (mk0 s.mark) s.key s.val pc ≠ none ∨ lpRet (mk0 mark') s.key s.val pc' = none) →
      ∀ k v, Has (mk0 mark') s.key s.val L' k v ↔ Has (mk0 s.mark) s.key s.val L k v)
    (keep : ∀ r, lpRet (mk0 s.mark) s.key s.val pc = some r → lpRet (mk0 mark') s.key s.val pc' = some r ∨
      ((∃ op, opOf s.key s.val pc = some op ∧ isRO op r = true) ∧ lpRet (mk0 mark') s.key s.val pc' = none))
    (pkeep : ∀ r, postRet s.val pc = some r → postRet s.val pc' = some r)
    (op : postRet s.val pc' = none → opOf s.key s.val pc' = opOf s.key s.val pc)
    (busy : pc ≠ .idle ∧ pc' ≠ .idle)
    (marks : mk0 mark' = mk0 s.mark ∨
      ∃ d, mk0 s.mark d = false ∧ mk0 mark' = upd (mk0 s.mark) d true ∧ lpRet (mk0 s.mark) s.key s.val pc = none ∧
        (lpRet (mk0 mark') s.key s.val pc').isSome = true ∧ ∀ w, ¬ Has (mk0 mark') s.key s.val L' (s.key d) w) :
    StepEff s t ⟨next', mark', unl', hgt', s.key, s.val, s.ht, s.cnt, upd s.pc t pc'⟩ L L' := by
  subst hpc
  refine ⟨fun t2 ht => upd_other _ _ _ _ ht, rfl, rfl, ?_, ?_, ?_, ?_, ?_, ?_, ?_⟩ <;> simp only [upd_same] <;> assumption

/-- The step is no linearization point of a successful insert or erase: the level-0 marks stay and the abstract map
    is the same for the new list. -/
theorem eff_mem_step (hpc : s.pc t = pc) (hmk : mk0 mark' = mk0 s.mark)
    (hhas : ∀ k v, Has (mk0 s.mark) s.key s.val L' k v ↔ Has (mk0 s.mark) s.key s.val L k v)
    (heff : EffOk (mk0 s.mark) s.key s.val (Has (mk0 s.mark) s.key s.val L) pc pc') :
    StepEff s t ⟨next', mark', unl', hgt', s.key, s.val, s.ht, s.cnt, upd s.pc t pc'⟩ L L' := by
  refine StepEff.of_pcs hpc ?_ (fun _ => hmk ▸ hhas) (hmk ▸ heff.keep) heff.pkeep heff.op heff.busy (Or.inl hmk)
  rw [hmk]
  intro h0 r hr
  obtain ⟨op, h1, h2⟩ := heff.lp h0 r hr
  exact ⟨op, h1, fun m hm => (h2 m hm).imp fun m' hm' => ⟨hm'.1, fun k v => (hm'.2 k v).trans (hhas k v).symm⟩⟩

/-- The definitive linearization point of an operation that changes the abstract map. -/
theorem StepEff.at_lp (hpc : s.pc t = pc) {op : GOp} {r : GRet} (hop : opOf s.key s.val pc = some op)
    (hl : lpRet (mk0 s.mark) s.key s.val pc = none) (hpost : postRet s.val pc' = some r)
    (hLP : LPok (Has (mk0 s.mark) s.key s.val L) op r (Has (mk0 mark') s.key s.val L'))
    (marks : mk0 mark' = mk0 s.mark ∨
      ∃ d, mk0 s.mark d = false ∧ mk0 mark' = upd (mk0 s.mark) d true ∧ lpRet (mk0 s.mark) s.key s.val pc = none ∧
        (lpRet (mk0 mark') s.key s.val pc').isSome = true ∧ ∀ w, ¬ Has (mk0 mark') s.key s.val L' (s.key d) w) :
    StepEff s t ⟨next', mark', unl', hgt', s.key, s.val, s.ht, s.cnt, upd s.pc t pc'⟩ L L' := by
  have hl' : lpRet (mk0 mark') s.key s.val pc' = some r := lpRet_of_post hpost
  refine StepEff.of_pcs hpc ?_ ?_ ?_ ?_ ?_ ⟨ne_idle_of_op hop, ne_idle_of_post hpost⟩ marks
  · intro _ r' hr'
    rw [hl'] at hr'; cases hr'
    exact ⟨op, hop, hLP⟩
  · intro hor
    rcases hor with e | e
    · exact absurd hl e
    · rw [hl'] at e; cases e
  · intro r' hr'; rw [hl] at hr'; cases hr'
  · intro r' hr'; rw [postRet_none_of_lp hl] at hr'; cases hr'
  · intro e; rw [hpost] at e; cases e

/-- A step that writes tower words and is no linearization point of a successful insert or erase. -/
theorem write_step (h : SInvL c s L) (hpc : s.pc t = pc) (own : Option Nat)
    (hw : GOk ⟨next', mark', s.key, s.val, s.ht, s.cnt⟩ L' ∧
      MemLe own (mem! s) L ⟨next', mark', s.key, s.val, s.ht, s.cnt⟩ L')
    (hown : ∀ n, own = some n → pnode pc = some n)
    (htok : TOk c ⟨next', mark', s.key, s.val, s.ht, s.cnt⟩ L' pc')
    (hpn : ∀ n, pnode pc' = some n → pnode pc = some n) (hmk : mk0 mark' = mk0 s.mark)
    (hhas : ∀ k v, Has (mk0 s.mark) s.key s.val L' k v ↔ Has (mk0 s.mark) s.key s.val L k v)
    (heff : EffOk (mk0 s.mark) s.key s.val (Has (mk0 s.mark) s.key s.val L) pc pc') :
    ∃ L', SInvL c ⟨next', mark', unl', hgt', s.key, s.val, s.ht, s.cnt, upd s.pc t pc'⟩ L' ∧
      StepEff s t ⟨next', mark', unl', hgt', s.key, s.val, s.ht, s.cnt, upd s.pc t pc'⟩ L L' :=
  ⟨L', mem_step h hpc own hw.1 hw.2 hown htok hpn, eff_mem_step hpc hmk hhas heff⟩

/-- A step that changes no tower word. -/
theorem pc_only (h : SInvL c s L) (hpc : s.pc t = pc) (htok : TOk c (mem! s) L pc')
    (hpn : ∀ n, pnode pc' = some n → pnode pc = some n)
    (heff : EffOk (mk0 s.mark) s.key s.val (Has (mk0 s.mark) s.key s.val L) pc pc') :
    ∃ L', SInvL c ⟨s.next, s.mark, unl', hgt', s.key, s.val, s.ht, s.cnt, upd s.pc t pc'⟩ L' ∧
      StepEff s t ⟨s.next, s.mark, unl', hgt', s.key, s.val, s.ht, s.cnt, upd s.pc t pc'⟩ L L' :=
  write_step h hpc none ⟨h.g, MemLe.refl _ _ _⟩ nofun htok hpn rfl (fun _ _ => Iff.rfl) heff

/-- A step that changes no tower word and nothing the log looks at. -/
theorem quiet_step (h : SInvL c s L) (hpc : s.pc t = pc) (htok : TOk c (mem! s) L pc')
    (hsame : pnode pc' = pnode pc ∧ opOf s.key s.val pc' = opOf s.key s.val pc ∧ postRet s.val pc' = postRet s.val pc ∧
      lpRet (mk0 s.mark) s.key s.val pc' = lpRet (mk0 s.mark) s.key s.val pc)
    (hb : pc ≠ .idle ∧ pc' ≠ .idle) :
    ∃ L', SInvL c ⟨s.next, s.mark, unl', hgt', s.key, s.val, s.ht, s.cnt, upd s.pc t pc'⟩ L' ∧
      StepEff s t ⟨s.next, s.mark, unl', hgt', s.key, s.val, s.ht, s.cnt, upd s.pc t pc'⟩ L L' :=
  pc_only h hpc htok (fun _ hn => hsame.1 ▸ hn) (eff_same hsame.2.1 hsame.2.2.1 hsame.2.2.2 hb)

end step

theorem ListsOk.set {c : Cfg} {m : Mem} {L : List Nat} {pp : List Nat} {ps : List (Option Nat)} {lvl pred : Nat}
    {cur : Option Nat} (h : ListsOk c m L pp ps) (hp : pred = 0 ∨ Lk m L pred) (hc : ∀ x, cur = some x → CurOk m L lvl x) :
    ListsOk c m L (pp.set lvl pred) (ps.set lvl cur) := by
  refine ⟨by simp [h.1], by simp [h.2.1], ?_, ?_⟩
  · intro i
    rcases getD_set_cases pp lvl i pred 0 with ⟨-, e⟩ | e <;> rw [e]
    · exact hp
    · exact h.2.2.1 i
  · intro i x hx
    rcases getD_set_cases ps lvl i cur none with ⟨rfl, e⟩ | e <;> rw [e] at hx
    · exact hc x hx
    · exact h.2.2.2 i x hx

theorem PredOk.lk {m : Mem} {L : List Nat} {k : Int} {p : Nat} (h : PredOk m L k p) : p = 0 ∨ Lk m L p :=
  h.imp_right And.left

theorem PredOk.lt {m : Mem} {L : List Nat} {k : Int} {p : Nat} (h : PredOk m L k p) : p = 0 ∨ m.key p < k :=
  h.imp_right And.right

/-- The key is absent when an unmarked predecessor points past it on level 0. -/
theorem GOk.absent_at {m : Mem} {L : List Nat} (h : GOk m L) {k : Int} {p : Nat} (hp : PredOk m L k p)
    (hm : m.mark p 0 = false) (hnx : ∀ c, m.next p 0 = some c → k < m.key c) :
    ∀ v, ¬ Has (mk0 m.mark) m.key m.val L k v :=
  h.absent (h.unm_mem hp.lk hm) hp.lt hnx

theorem tok_retry {c : Cfg} {m : Mem} {L : List Nat} {w : Why} {pp : List Nat} {ps : List (Option Nat)}
    (hw : WOk m L w) (hl : ListsOk c m L pp ps) : TOk c m L (retry c w pp ps) :=
  ⟨hw, hl, Or.inl rfl⟩

end CdsVerif.Algo.SkipList
