/-
  Inductive invariant of the pool monitor model.

  Spin bit        sb1 sb2 : `sbit n` is exactly the thread inside a spin-bit section of node `n` (pc `lkSt` / `unSt`);
                  rs0 rs1 : m_RefSpin = 2 * (number of users) + (1 if the spin bit is held)   -- the counting invariant
  Users           und um ucs uref : `users n` is a duplicate-free list of exactly the threads that are inside the
                  critical section of `n` or at a program counter between the reference increment and decrement
  Program points  ncs pCasL pCasU pStL pStU pTas pWait pRel
  Attachment      att : a lock id is attached to at most one node;  pnd pfree pown pfr : the free pool is duplicate-free and
                  its ids are attached to no node, held by nobody and below `fresh`;  afr ofr : never-used ids are unattached
                  and unheld;  f* : a detached lock on its way back to the pool is nowhere else
  Pool locks      lh0 lh1 : the lock word is set exactly when there is an owner;  lcs csa cso : the owner of the lock attached
                  to node `n` is exactly the thread inside the critical section of `n`
  Lazy attach     pn : a node without a lock has no user except the one thread that is about to attach one (and that thread
                  saw reference count 0: the `assert( cur == 0 )` of the source);  un : a node without users has no lock
-/
import CdsVerif.Algo.PoolMonitor.Model
namespace CdsVerif.Algo.PoolMonitor
open CdsVerif.Machine CdsVerif.Spec

/-- The node whose spin bit the thread holds. -/
def spinNode : PC → Option Nat
  | .idle => none
  | .lkLd _ => none
  | .lkCas _ _ => none
  | .lkSt n _ => some n
  | .lkTas _ _ => none
  | .lkWait _ _ => none
  | .unRel _ => none
  | .unLd _ => none
  | .unCas _ _ => none
  | .unSt n _ => some n
  | .fin _ => none
  | .done _ => none

/-- The node on which the thread holds a reference while being inside `lock` / `unlock` and outside the critical section. -/
def refNode : PC → Option Nat
  | .idle => none
  | .lkLd _ => none
  | .lkCas _ _ => none
  | .lkSt n _ => some n
  | .lkTas n _ => some n
  | .lkWait n _ => some n
  | .unRel _ => none
  | .unLd n => some n
  | .unCas n _ => some n
  | .unSt n _ => some n
  | .fin _ => none
  | .done _ => none

/-- The node the thread is operating on while outside its critical section. -/
def opNode : PC → Option Nat
  | .idle => none
  | .lkLd n => some n
  | .lkCas n _ => some n
  | .lkSt n _ => some n
  | .lkTas n _ => some n
  | .lkWait n _ => some n
  | .unRel _ => none
  | .unLd n => some n
  | .unCas n _ => some n
  | .unSt n _ => some n
  | .fin _ => none
  | .done _ => none

structure PInv (s : St) : Prop where
  sb1 : ∀ n t, s.sbit n = some t → spinNode (s.pc t) = some n
  sb2 : ∀ n t, spinNode (s.pc t) = some n → s.sbit n = some t
  rs0 : ∀ n, s.sbit n = none → s.refspin n = 2 * (s.users n).length
  rs1 : ∀ n t, s.sbit n = some t → s.refspin n = 2 * (s.users n).length + 1
  und : ∀ n, (s.users n).Nodup
  um : ∀ n t, t ∈ s.users n → s.cs t n = true ∨ refNode (s.pc t) = some n
  ucs : ∀ n t, s.cs t n = true → t ∈ s.users n
  uref : ∀ n t, refNode (s.pc t) = some n → t ∈ s.users n
  ncs : ∀ n t, opNode (s.pc t) = some n → s.cs t n = false
  pCasL : ∀ t n c, s.pc t = .lkCas n c → c % 2 = 0
  pCasU : ∀ t n c, s.pc t = .unCas n c → c % 2 = 0
  pStL : ∀ t n c, s.pc t = .lkSt n c → s.refspin n = c + 3
  pStU : ∀ t n c, s.pc t = .unSt n c → s.refspin n = c + 1
  pTas : ∀ t n k, s.pc t = .lkTas n k → s.plock n = some k
  pWait : ∀ t n k, s.pc t = .lkWait n k → s.plock n = some k
  pRel : ∀ t n, s.pc t = .unRel n → s.cs t n = true
  att : ∀ n1 n2 k, s.plock n1 = some k → s.plock n2 = some k → n1 = n2
  pnd : s.pool.Nodup
  pfree : ∀ k n, k ∈ s.pool → s.plock n ≠ some k
  pown : ∀ k, k ∈ s.pool → s.lowner k = none
  pfr : ∀ k, k ∈ s.pool → k < s.fresh
  afr : ∀ n k, s.plock n = some k → k < s.fresh
  ofr : ∀ k t, s.lowner k = some t → k < s.fresh
  fpool : ∀ t k, s.pc t = .fin (some k) → k ∉ s.pool
  ffr : ∀ t k, s.pc t = .fin (some k) → k < s.fresh
  fatt : ∀ t k n, s.pc t = .fin (some k) → s.plock n ≠ some k
  fown : ∀ t k, s.pc t = .fin (some k) → s.lowner k = none
  funi : ∀ t1 t2 k, s.pc t1 = .fin (some k) → s.pc t2 = .fin (some k) → t1 = t2
  lh0 : ∀ k, s.lheld k = false → s.lowner k = none
  lh1 : ∀ k, s.lowner k = none → s.lheld k = false
  lcs : ∀ k t n, s.lowner k = some t → s.plock n = some k → s.cs t n = true
  csa : ∀ t n, s.cs t n = true → s.plock n ≠ none
  cso : ∀ t n k, s.cs t n = true → s.plock n = some k → s.lowner k = some t
  pn : ∀ n t, s.plock n = none → t ∈ s.users n → s.pc t = .lkSt n 0
  un : ∀ n, s.users n = [] → s.plock n = none

theorem clr_even (v : Nat) : clr v % 2 = 0 := by unfold clr; omega
theorem clr_le (v : Nat) : clr v ≤ v := by unfold clr; omega
theorem clr_of_even (v : Nat) (h : v % 2 = 0) : clr v = v := by unfold clr; omega

theorem mem_len1 {l : List Nat} {a b : Nat} (h : l.length = 1) (ha : a ∈ l) (hb : b ∈ l) : a = b := by
  match l, h with
  | [x], _ => simp at ha hb; rw [ha, hb]

set_option linter.unusedSimpArgs false in
theorem pinv_init (cap : Nat) : PInv (init cap) := by
  constructor <;> intros <;> simp_all [init, List.nodup_range] <;> (try simp_all [spinNode, refNode, opNode])

/-- Bring groups of invariant clauses into the context. -/
macro "inv_A" h:ident : tactic =>
  `(tactic| (have := PInv.sb1 $h; have := PInv.sb2 $h; have := PInv.rs0 $h; have := PInv.rs1 $h; have := PInv.und $h
             have := PInv.um $h; have := PInv.ucs $h; have := PInv.uref $h; have := PInv.ncs $h
             have := PInv.pCasL $h; have := PInv.pCasU $h; have := PInv.pStL $h; have := PInv.pStU $h
             have := PInv.pRel $h))
macro "inv_B" h:ident : tactic =>
  `(tactic| (have := PInv.pTas $h; have := PInv.pWait $h; have := PInv.att $h; have := PInv.pnd $h
             have := PInv.pfree $h; have := PInv.pown $h; have := PInv.pfr $h; have := PInv.afr $h; have := PInv.ofr $h
             have := PInv.fpool $h; have := PInv.ffr $h; have := PInv.fatt $h; have := PInv.fown $h
             have := PInv.funi $h))
macro "inv_C" h:ident : tactic =>
  `(tactic| (have := PInv.lh0 $h; have := PInv.lh1 $h; have := PInv.lcs $h; have := PInv.csa $h; have := PInv.cso $h
             have := PInv.pn $h; have := PInv.un $h))

macro "pgrind" : tactic => `(tactic| grind [upd, upd2, spinNode, refNode, opNode, clr_even])
macro "pgrind_big" : tactic =>
  `(tactic| grind (instances := 6000) (splits := 14) [upd, upd2, spinNode, refNode, opNode, clr_even])

/- `pg h X` closes clause `X` of `PInv` for the post-state: the clause is unchanged, or `grind` proves it from the same
   clause of the pre-state, then from the spin-bit / users group, then from the whole invariant. -/
open Lean in
macro "pg" h:ident x:ident : tactic => do
  let f := mkIdent (`CdsVerif.Algo.PoolMonitor.PInv ++ x.getId.eraseMacroScopes)
  `(tactic| first
    | (dsimp only; exact $f $h)
    | (intros; have := $f $h; (try dsimp only at *); pgrind)
    | (intros; inv_A $h; (try dsimp only at *); pgrind)
    | (intros; inv_A $h; inv_B $h; inv_C $h; (try dsimp only at *); pgrind_big))

/-! ### The invariant by memory and by thread

`PInv s` says something about the memory alone (`MInv`), something about the memory and the program counter of each
single thread (`TInv`), and that no two threads give back the same lock.  A step of thread `t` has to re-establish
`MInv` and the `TInv` of `t`; the clauses of another thread `u` read little of the memory (`Tol`: its own row of `cs`, its
own membership in `users`, whether it holds a spin bit, the word and the lock of a node it works on), and no step of `t`
changes that (`TInv.tol`). -/

/-- The shared memory of a state: everything but the program counters. -/
structure Mem where
  refspin : Nat → Nat
  plock : Nat → Option Nat
  lheld : Nat → Bool
  pool : List Nat
  fresh : Nat
  cs : Tid → Nat → Bool
  users : Nat → List Tid
  sbit : Nat → Option Tid
  lowner : Nat → Option Tid

abbrev St.mem (s : St) : Mem := ⟨s.refspin, s.plock, s.lheld, s.pool, s.fresh, s.cs, s.users, s.sbit, s.lowner⟩

structure MInv (m : Mem) : Prop where
  rs0 : ∀ n, m.sbit n = none → m.refspin n = 2 * (m.users n).length
  rs1 : ∀ n t, m.sbit n = some t → m.refspin n = 2 * (m.users n).length + 1
  und : ∀ n, (m.users n).Nodup
  ucs : ∀ n t, m.cs t n = true → t ∈ m.users n
  att : ∀ n1 n2 k, m.plock n1 = some k → m.plock n2 = some k → n1 = n2
  pnd : m.pool.Nodup
  pfree : ∀ k n, k ∈ m.pool → m.plock n ≠ some k
  pown : ∀ k, k ∈ m.pool → m.lowner k = none
  pfr : ∀ k, k ∈ m.pool → k < m.fresh
  afr : ∀ n k, m.plock n = some k → k < m.fresh
  ofr : ∀ k t, m.lowner k = some t → k < m.fresh
  lh0 : ∀ k, m.lheld k = false → m.lowner k = none
  lh1 : ∀ k, m.lowner k = none → m.lheld k = false
  lcs : ∀ k t n, m.lowner k = some t → m.plock n = some k → m.cs t n = true
  csa : ∀ t n, m.cs t n = true → m.plock n ≠ none
  cso : ∀ t n k, m.cs t n = true → m.plock n = some k → m.lowner k = some t
  un : ∀ n, m.users n = [] → m.plock n = none

/-- The expected value of a CAS loop on `m_RefSpin`. -/
def casCur : PC → Option Nat
  | .lkCas _ c => some c
  | .unCas _ c => some c
  | _ => none

/-- Inside the spin-bit section of `lock`: the node and the count seen. -/
def lkStAt : PC → Option (Nat × Nat)
  | .lkSt n c => some (n, c)
  | _ => none

/-- Inside the spin-bit section of `unlock`: the node and the count seen. -/
def unStAt : PC → Option (Nat × Nat)
  | .unSt n c => some (n, c)
  | _ => none

/-- The node and its pool lock, which the thread is about to take or waiting for. -/
def waitLock : PC → Option (Nat × Nat)
  | .lkTas n k => some (n, k)
  | .lkWait n k => some (n, k)
  | _ => none

/-- The node whose pool lock the thread is about to release. -/
def relNode : PC → Option Nat
  | .unRel n => some n
  | _ => none

/-- The detached lock the thread is about to give back to the pool. -/
def finLock : PC → Option Nat
  | .fin k => k
  | _ => none

/-- What `PInv` says about thread `t` at program counter `pc`. -/
structure TInv (m : Mem) (t : Tid) (pc : PC) : Prop where
  sb1 : ∀ n, m.sbit n = some t → spinNode pc = some n
  sb2 : ∀ n, spinNode pc = some n → m.sbit n = some t
  um : ∀ n, t ∈ m.users n → m.cs t n = true ∨ refNode pc = some n
  uref : ∀ n, refNode pc = some n → t ∈ m.users n
  ncs : ∀ n, opNode pc = some n → m.cs t n = false
  casEven : ∀ c, casCur pc = some c → c % 2 = 0
  stL : ∀ n c, lkStAt pc = some (n, c) → m.refspin n = c + 3
  stU : ∀ n c, unStAt pc = some (n, c) → m.refspin n = c + 1
  lock : ∀ n k, waitLock pc = some (n, k) → m.plock n = some k
  rel : ∀ n, relNode pc = some n → m.cs t n = true
  fpool : ∀ k, finLock pc = some k → k ∉ m.pool
  ffr : ∀ k, finLock pc = some k → k < m.fresh
  fatt : ∀ k n, finLock pc = some k → m.plock n ≠ some k
  fown : ∀ k, finLock pc = some k → m.lowner k = none
  pn : ∀ n, m.plock n = none → t ∈ m.users n → lkStAt pc = some (n, 0)

section
variable {s : St}

theorem PInv.mem (h : PInv s) : MInv s.mem :=
  ⟨h.rs0, h.rs1, h.und, h.ucs, h.att, h.pnd, h.pfree, h.pown, h.pfr, h.afr, h.ofr, h.lh0, h.lh1, h.lcs, h.csa, h.cso,
   h.un⟩

theorem PInv.thread (h : PInv s) (t : Tid) : TInv s.mem t (s.pc t) where
  sb1 := fun n => h.sb1 n t
  sb2 := fun n => h.sb2 n t
  um := fun n => h.um n t
  uref := fun n => h.uref n t
  ncs := fun n => h.ncs n t
  casEven := fun c e => by
    cases hp : s.pc t <;> simp only [hp, casCur, Option.some.injEq, reduceCtorEq] at e
    · exact e ▸ h.pCasL t _ _ hp
    · exact e ▸ h.pCasU t _ _ hp
  stL := fun n c e => by
    cases hp : s.pc t <;> simp only [hp, lkStAt, Option.some.injEq, Prod.mk.injEq, reduceCtorEq] at e
    exact e.1 ▸ e.2 ▸ h.pStL t _ _ hp
  stU := fun n c e => by
    cases hp : s.pc t <;> simp only [hp, unStAt, Option.some.injEq, Prod.mk.injEq, reduceCtorEq] at e
    exact e.1 ▸ e.2 ▸ h.pStU t _ _ hp
  lock := fun n k e => by
    cases hp : s.pc t <;> simp only [hp, waitLock, Option.some.injEq, Prod.mk.injEq, reduceCtorEq] at e
    · exact e.1 ▸ e.2 ▸ h.pTas t _ _ hp
    · exact e.1 ▸ e.2 ▸ h.pWait t _ _ hp
  rel := fun n e => by
    cases hp : s.pc t <;> simp only [hp, relNode, Option.some.injEq, reduceCtorEq] at e
    exact e ▸ h.pRel t _ hp
  fpool := fun k e => by
    cases hp : s.pc t <;> simp only [hp, finLock, reduceCtorEq] at e
    exact h.fpool t k (e ▸ hp)
  ffr := fun k e => by
    cases hp : s.pc t <;> simp only [hp, finLock, reduceCtorEq] at e
    exact h.ffr t k (e ▸ hp)
  fatt := fun k n e => by
    cases hp : s.pc t <;> simp only [hp, finLock, reduceCtorEq] at e
    exact h.fatt t k n (e ▸ hp)
  fown := fun k e => by
    cases hp : s.pc t <;> simp only [hp, finLock, reduceCtorEq] at e
    exact h.fown t k (e ▸ hp)
  pn := fun n e1 e2 => by rw [h.pn n t e1 e2]; rfl

theorem PInv.thread_at (h : PInv s) {t : Tid} {pc : PC} (hpc : s.pc t = pc) : TInv s.mem t pc :=
  hpc ▸ h.thread t

theorem finLock_iff {pc : PC} {k : Nat} : finLock pc = some k ↔ pc = .fin (some k) := by
  cases pc <;> simp [finLock]

theorem PInv.of_parts (hM : MInv s.mem) (hT : ∀ t, TInv s.mem t (s.pc t))
    (hE : ∀ t u k, finLock (s.pc t) = some k → finLock (s.pc u) = some k → t = u) : PInv s where
  sb1 := fun n t => (hT t).sb1 n
  sb2 := fun n t => (hT t).sb2 n
  rs0 := hM.rs0
  rs1 := hM.rs1
  und := hM.und
  um := fun n t => (hT t).um n
  ucs := hM.ucs
  uref := fun n t => (hT t).uref n
  ncs := fun n t => (hT t).ncs n
  pCasL := fun t n c e => (hT t).casEven c (by rw [e]; rfl)
  pCasU := fun t n c e => (hT t).casEven c (by rw [e]; rfl)
  pStL := fun t n c e => (hT t).stL n c (by rw [e]; rfl)
  pStU := fun t n c e => (hT t).stU n c (by rw [e]; rfl)
  pTas := fun t n k e => (hT t).lock n k (by rw [e]; rfl)
  pWait := fun t n k e => (hT t).lock n k (by rw [e]; rfl)
  pRel := fun t n e => (hT t).rel n (by rw [e]; rfl)
  att := hM.att
  pnd := hM.pnd
  pfree := hM.pfree
  pown := hM.pown
  pfr := hM.pfr
  afr := hM.afr
  ofr := hM.ofr
  fpool := fun t k e => (hT t).fpool k (finLock_iff.2 e)
  ffr := fun t k e => (hT t).ffr k (finLock_iff.2 e)
  fatt := fun t k n e => (hT t).fatt k n (finLock_iff.2 e)
  fown := fun t k e => (hT t).fown k (finLock_iff.2 e)
  funi := fun t u k e1 e2 => hE t u k (finLock_iff.2 e1) (finLock_iff.2 e2)
  lh0 := hM.lh0
  lh1 := hM.lh1
  lcs := hM.lcs
  csa := hM.csa
  cso := hM.cso
  pn := fun n t e1 e2 => by
    have := (hT t).pn n e1 e2
    cases hp : s.pc t <;> simp only [hp, lkStAt, Option.some.injEq, Prod.mk.injEq, reduceCtorEq] at this
    rw [this.1, this.2]
  un := hM.un

end

/-- What the clauses of thread `u` read of the memory: a change of the memory from `m` to `m'` that keeps this is none
    of its business. -/
structure Tol (u : Tid) (fk : Option Nat) (m m' : Mem) : Prop where
  sbit : ∀ n, m'.sbit n = some u ↔ m.sbit n = some u
  users : ∀ n, u ∈ m'.users n ↔ u ∈ m.users n
  cs : ∀ n, m'.cs u n = m.cs u n
  refspin : ∀ n, m.sbit n = some u → m'.refspin n = m.refspin n
  plock : ∀ n, u ∈ m.users n → m'.plock n = m.plock n
  fin : ∀ k, fk = some k → k ∉ m.pool → k < m.fresh → (∀ n, m.plock n ≠ some k) → m.lowner k = none →
    k ∉ m'.pool ∧ k < m'.fresh ∧ (∀ n, m'.plock n ≠ some k) ∧ m'.lowner k = none

theorem spinNode_of_lkStAt {pc : PC} {n c : Nat} (e : lkStAt pc = some (n, c)) : spinNode pc = some n := by
  cases pc <;> simp_all [lkStAt, spinNode]
theorem spinNode_of_unStAt {pc : PC} {n c : Nat} (e : unStAt pc = some (n, c)) : spinNode pc = some n := by
  cases pc <;> simp_all [unStAt, spinNode]
theorem refNode_of_waitLock {pc : PC} {n k : Nat} (e : waitLock pc = some (n, k)) : refNode pc = some n := by
  cases pc <;> simp_all [waitLock, refNode]

theorem TInv.tol {m m' : Mem} {u : Tid} {pc : PC} (h : TInv m u pc) (ht : Tol u (finLock pc) m m') : TInv m' u pc where
  sb1 := fun n e => h.sb1 n ((ht.sbit n).1 e)
  sb2 := fun n e => (ht.sbit n).2 (h.sb2 n e)
  um := fun n e => ht.cs n ▸ h.um n ((ht.users n).1 e)
  uref := fun n e => (ht.users n).2 (h.uref n e)
  ncs := fun n e => ht.cs n ▸ h.ncs n e
  casEven := h.casEven
  stL := fun n c e => by
    rw [ht.refspin n (h.sb2 n (spinNode_of_lkStAt e))]; exact h.stL n c e
  stU := fun n c e => by
    rw [ht.refspin n (h.sb2 n (spinNode_of_unStAt e))]; exact h.stU n c e
  lock := fun n k e => by
    rw [ht.plock n (h.uref n (refNode_of_waitLock e))]; exact h.lock n k e
  rel := fun n e => ht.cs n ▸ h.rel n e
  fpool := fun k e => (ht.fin k e (h.fpool k e) (h.ffr k e) (fun n => h.fatt k n e) (h.fown k e)).1
  ffr := fun k e => (ht.fin k e (h.fpool k e) (h.ffr k e) (fun n => h.fatt k n e) (h.fown k e)).2.1
  fatt := fun k n e => (ht.fin k e (h.fpool k e) (h.ffr k e) (fun n => h.fatt k n e) (h.fown k e)).2.2.1 n
  fown := fun k e => (ht.fin k e (h.fpool k e) (h.ffr k e) (fun n => h.fatt k n e) (h.fown k e)).2.2.2
  pn := fun n e1 e2 => by
    have hu := (ht.users n).1 e2
    exact h.pn n (ht.plock n hu ▸ e1) hu

/-- The rule for one step of thread `t`. -/
theorem PInv.frame {s s' : St} {t : Tid} (h : PInv s) (hpc : ∀ u, u ≠ t → s'.pc u = s.pc u)
    (hM : MInv s'.mem) (hT : TInv s'.mem t (s'.pc t)) (hO : ∀ u, u ≠ t → Tol u (finLock (s.pc u)) s.mem s'.mem)
    (hE : ∀ u k, u ≠ t → finLock (s'.pc t) = some k → finLock (s.pc u) ≠ some k) : PInv s' := by
  refine PInv.of_parts hM (fun u => ?_) (fun u v k e1 e2 => ?_)
  · by_cases hu : u = t
    · rw [hu]; exact hT
    · rw [hpc u hu]; exact (h.thread u).tol (hO u hu)
  · by_cases hu : u = t
    · by_cases hv : v = t
      · rw [hu, hv]
      · rw [hu] at e1; rw [hpc v hv] at e2; exact absurd e2 (hE v k hv e1)
    · by_cases hv : v = t
      · rw [hv] at e2; rw [hpc u hu] at e1; exact absurd e1 (hE u k hu e2)
      · rw [hpc u hu] at e1; rw [hpc v hv] at e2
        exact h.funi u v k (finLock_iff.1 e1) (finLock_iff.1 e2)

theorem Tol.refl (u : Tid) (fk : Option Nat) (m : Mem) : Tol u fk m m :=
  ⟨fun _ => Iff.rfl, fun _ => Iff.rfl, fun _ => rfl, fun _ _ => rfl, fun _ _ => rfl, fun _ _ a b c d => ⟨a, b, c, d⟩⟩

/-- A step that only moves the program counter of `t` to one that gives back no lock. -/
theorem PInv.move {s : St} {t : Tid} {q : PC} (h : PInv s) (hT : TInv s.mem t q) (hq : finLock q = none) :
    PInv { s with pc := upd s.pc t q } :=
  h.frame (s' := { s with pc := upd s.pc t q }) (fun u hu => upd_other _ _ _ _ hu) h.mem
    (by rw [show St.pc _ t = q from upd_same _ _ _]; exact hT) (fun u _ => Tol.refl u _ _)
    (fun u k _ e => by rw [show St.pc _ t = q from upd_same _ _ _, hq] at e; cases e)

/-! ### Preservation -/

section
variable {s s' : St} {t : Tid} {ev : Ev}

theorem pinv_invoke {op : GOp} (h : PInv s) (hs : invoke s t op = some s') : PInv s' := by
  have hT := h.thread t
  unfold invoke at hs
  split at hs
  next hpc _ _ =>
    rw [hpc] at hT
    split at hs
    · cases hs
    next hc =>
      cases hs
      exact h.move { hT with ncs := fun n e => by cases e; exact Bool.eq_false_iff.2 hc } rfl
  next hpc _ _ =>
    rw [hpc] at hT
    split at hs
    next hc =>
      cases hs
      exact h.move { hT with rel := fun n e => by cases e; exact hc } rfl
    · cases hs
  · cases hs

theorem pinv_step_lkTas {n k : Nat} (h : PInv s) (hpc : s.pc t = .lkTas n k) (hs : step s t = some (s', ev)) :
    PInv s' := by
  have hT := h.thread_at hpc
  have hM := h.mem
  simp only [step, hpc] at hs
  split at hs
  next hh =>
    cases hs
    exact h.move { hT with } rfl
  next hh =>
    cases hs
    have hpl : s.plock n = some k := hT.lock n k rfl
    have hfree : s.lowner k = none := h.lh0 k (by simpa using hh)
    have hnocs : ∀ u, s.cs u n = false := fun u => by
      cases hc : s.cs u n with
      | false => rfl
      | true => have := h.cso u n k hc hpl; rw [hfree] at this; cases this
    have hmem : t ∈ s.users n := hT.uref n rfl
    refine h.frame (t := t) (fun u hu => upd_other _ _ _ _ hu) ?_ ?_ (fun u hu => ?_) (fun u k' _ e => ?_)
    · exact { hM with
        ucs := fun n' t' e => by
          by_cases hc : t' = t ∧ n' = n
          · rw [hc.1, hc.2]; exact hmem
          · exact h.ucs n' t' (by simpa [upd2, hc] using e)
        pown := fun k' e => by
          have : k' ≠ k := fun e' => h.pfree k n (e' ▸ e) hpl
          simp only [upd_other _ _ _ _ this]; exact h.pown k' e
        ofr := fun k' t' e => by
          by_cases hk : k' = k
          · rw [hk]; exact h.afr n k hpl
          · exact h.ofr k' t' (by simpa [upd_other _ _ _ _ hk] using e)
        lh0 := fun k' e => by
          by_cases hk : k' = k
          · simp [hk] at e
          · simp only [upd_other _ _ _ _ hk] at e ⊢; exact h.lh0 k' e
        lh1 := fun k' e => by
          by_cases hk : k' = k
          · simp [hk] at e
          · simp only [upd_other _ _ _ _ hk] at e ⊢; exact h.lh1 k' e
        lcs := fun k' t' n' e1 e2 => by
          by_cases hk : k' = k
          · subst hk
            have : n' = n := h.att n' n k' e2 hpl
            simp only [upd_same, Option.some.injEq] at e1
            simp [upd2, ← e1, this]
          · have := h.lcs k' t' n' (by simpa [upd_other _ _ _ _ hk] using e1) e2
            simp only [upd2]; split
            · rfl
            · exact this
        csa := fun t' n' e => by
          by_cases hc : t' = t ∧ n' = n
          · rw [hc.2]; exact fun e' => nomatch e'.symm.trans hpl
          · exact h.csa t' n' (by simpa [upd2, hc] using e)
        cso := fun t' n' k' e1 e2 => by
          by_cases hc : t' = t ∧ n' = n
          · rw [hc.2] at e2
            obtain rfl : k = k' := Option.some.inj (hpl.symm.trans e2)
            simp [hc.1]
          · have hcs : s.cs t' n' = true := by simpa [upd2, hc] using e1
            have hk : k' ≠ k := fun e' => by
              have := h.att n' n k (e' ▸ e2) hpl
              rw [this, hnocs] at hcs; cases hcs
            simp only [upd_other _ _ _ _ hk]; exact h.cso t' n' k' hcs e2 }
    · rw [show St.pc _ t = .done [] from upd_same _ _ _]
      exact { hT with
        um := fun n' e => by
          rcases hT.um n' e with e' | e'
          · exact .inl (by simp only [upd2] at e' ⊢; split <;> simp [e'])
          · cases e'; exact .inl (by simp [upd2])
        uref := nofun
        ncs := nofun
        lock := nofun
        rel := nofun
        fown := nofun }
    · exact { Tol.refl u (finLock (s.pc u)) s.mem with
        cs := fun n' => by simp [upd2, hu]
        fin := fun k' _ a b c d => ⟨a, b, c, by
          have : k' ≠ k := fun e' => c n (e' ▸ hpl)
          simp only [upd_other _ _ _ _ this]; exact d⟩ }
    · rw [show St.pc _ t = .done [] from upd_same _ _ _] at e; cases e

theorem pinv_step_unRel {n : Nat} (h : PInv s) (hpc : s.pc t = .unRel n) (hs : step s t = some (s', ev)) :
    PInv s' := by
  have hT := h.thread_at hpc
  have hM := h.mem
  simp only [step, hpc] at hs
  split at hs
  next k hpl =>
    cases hs
    have hcs : s.cs t n = true := hT.rel n rfl
    have ho : s.lowner k = some t := h.cso t n k hcs hpl
    have hmem : t ∈ s.users n := h.ucs n t hcs
    have hne : ∀ t' n', upd2 s.cs t n false t' n' = true → s.cs t' n' = true ∧ ¬ (t' = t ∧ n' = n) := fun t' n' e => by
      simp only [upd2] at e; split at e
      · cases e
      next hc => exact ⟨e, hc⟩
    refine h.frame (t := t) (fun u hu => upd_other _ _ _ _ hu) ?_ ?_ (fun u hu => ?_) (fun u k' _ e => ?_)
    · exact { hM with
        ucs := fun n' t' e => h.ucs n' t' (hne t' n' e).1
        pown := fun k' e => by
          by_cases hk : k' = k
          · rw [hk]; exact upd_same _ _ _
          · simp only [upd_other _ _ _ _ hk]; exact h.pown k' e
        ofr := fun k' t' e => by
          by_cases hk : k' = k
          · simp [hk] at e
          · exact h.ofr k' t' (by simpa [upd_other _ _ _ _ hk] using e)
        lh0 := fun k' e => by
          by_cases hk : k' = k
          · rw [hk]; exact upd_same _ _ _
          · simp only [upd_other _ _ _ _ hk] at e ⊢; exact h.lh0 k' e
        lh1 := fun k' e => by
          by_cases hk : k' = k
          · rw [hk]; exact upd_same _ _ _
          · simp only [upd_other _ _ _ _ hk] at e ⊢; exact h.lh1 k' e
        lcs := fun k' t' n' e1 e2 => by
          by_cases hk : k' = k
          · simp [hk] at e1
          · have := h.lcs k' t' n' (by simpa [upd_other _ _ _ _ hk] using e1) e2
            simp only [upd2]; split
            next hc => rw [hc.2] at e2; exact absurd (Option.some.inj (e2.symm.trans hpl)) hk
            · exact this
        csa := fun t' n' e => h.csa t' n' (hne t' n' e).1
        cso := fun t' n' k' e1 e2 => by
          obtain ⟨hcs', hc⟩ := hne t' n' e1
          have ho' := h.cso t' n' k' hcs' e2
          have hk : k' ≠ k := fun e' => by
            rw [e'] at e2 ho'
            exact hc ⟨Option.some.inj (ho'.symm.trans ho), h.att n' n k e2 hpl⟩
          simp only [upd_other _ _ _ _ hk]; exact ho' }
    · rw [show St.pc _ t = .unLd n from upd_same _ _ _]
      exact { hT with
        um := fun n' e => by
          by_cases hn : n' = n
          · exact .inr (by rw [hn]; rfl)
          · rcases hT.um n' e with e' | e'
            · exact .inl (by simp only [upd2] at e' ⊢; split <;> simp_all)
            · cases e'
        uref := fun n' e => by cases e; exact hmem
        ncs := fun n' e => by cases e; simp [upd2]
        rel := nofun
        fown := nofun }
    · exact { Tol.refl u (finLock (s.pc u)) s.mem with
        cs := fun n' => by simp [upd2, hu]
        fin := fun k' _ a b c d => ⟨a, b, c, by
          by_cases hk : k' = k
          · rw [hk]; exact upd_same _ _ _
          · simp only [upd_other _ _ _ _ hk]; exact d⟩ }
    · rw [show St.pc _ t = .unLd n from upd_same _ _ _] at e; cases e
  · cases hs

theorem pinv_step_unCas {n cur : Nat} (h : PInv s) (hpc : s.pc t = .unCas n cur) (hs : step s t = some (s', ev)) :
    PInv s' := by
  have hT := h.thread_at hpc
  have hM := h.mem
  simp only [step, hpc] at hs
  split at hs
  next heq =>
    cases hs
    have hev : cur % 2 = 0 := hT.casEven cur rfl
    have hsb : s.sbit n = none := by
      cases hq : s.sbit n with
      | none => rfl
      | some t' => have := h.rs1 n t' hq; omega
    have hlen := h.rs0 n hsb
    refine h.frame (t := t) (fun u hu => upd_other _ _ _ _ hu) ?_ ?_ (fun u hu => ?_) (fun u k' _ e => ?_)
    · exact { hM with
        rs0 := fun n' e => by
          by_cases hn : n' = n
          · simp [hn] at e
          · simp only [upd_other _ _ _ _ hn] at e ⊢; exact h.rs0 n' e
        rs1 := fun n' t' e => by
          by_cases hn : n' = n
          · dsimp only [St.mem]; rw [hn, upd_same, ← heq, hlen]
          · simp only [upd_other _ _ _ _ hn] at e ⊢; exact h.rs1 n' t' e }
    · rw [show St.pc _ t = .unSt n cur from upd_same _ _ _]
      exact { hT with
        sb1 := fun n' e => by
          by_cases hn : n' = n
          · rw [hn]; rfl
          · exact nomatch hT.sb1 n' (by simpa [upd_other _ _ _ _ hn] using e)
        sb2 := fun n' e => by cases e; exact upd_same _ _ _
        casEven := nofun
        stL := nofun
        stU := fun n' c e => by cases e; exact upd_same _ _ _
        pn := fun n' a b => nomatch hT.pn n' a b }
    · exact { Tol.refl u (finLock (s.pc u)) s.mem with
        sbit := fun n' => by
          dsimp only [St.mem]
          by_cases hn : n' = n
          · rw [hn, hsb]; simp [Ne.symm hu]
          · simp only [upd_other _ _ _ _ hn]
        refspin := fun n' e => by
          dsimp only [St.mem] at e ⊢
          have hn : n' ≠ n := fun e' => by rw [e', hsb] at e; cases e
          simp only [upd_other _ _ _ _ hn] }
    · rw [show St.pc _ t = .unSt n cur from upd_same _ _ _] at e; cases e
  next hne =>
    cases hs
    exact h.move { hT with casEven := fun c e => Option.some.inj e ▸ clr_even _ } rfl

theorem pinv_step_lkCas {n cur : Nat} (h : PInv s) (hpc : s.pc t = .lkCas n cur) (hs : step s t = some (s', ev)) :
    PInv s' := by
  have hT := h.thread_at hpc
  have hM := h.mem
  simp only [step, hpc] at hs
  split at hs
  next heq =>
    cases hs
    have hev : cur % 2 = 0 := hT.casEven cur rfl
    have hsb : s.sbit n = none := by
      cases hq : s.sbit n with
      | none => rfl
      | some t' => have := h.rs1 n t' hq; omega
    have hlen := h.rs0 n hsb
    have hnotin : t ∉ s.users n := fun hm => by
      rcases hT.um n hm with e | e
      · exact Bool.false_ne_true ((hT.ncs n rfl).symm.trans e)
      · cases e
    -- a node without a lock has no user: a user would be inside the spin-bit section
    have hcur0 : s.plock n = none → cur = 0 := fun hp => by
      have : s.users n = [] := List.eq_nil_iff_forall_not_mem.mpr fun x hx => by
        have h2 := h.sb2 n x (by rw [h.pn n x hp hx]; rfl)
        rw [hsb] at h2; cases h2
      rw [this] at hlen; exact heq.symm.trans hlen
    refine h.frame (t := t) (fun u hu => upd_other _ _ _ _ hu) ?_ ?_ (fun u hu => ?_) (fun u k' _ e => ?_)
    · exact { hM with
        rs0 := fun n' e => by
          by_cases hn : n' = n
          · simp [hn] at e
          · simp only [upd_other _ _ _ _ hn] at e ⊢; exact h.rs0 n' e
        rs1 := fun n' t' e => by
          by_cases hn : n' = n
          · dsimp only [St.mem]; rw [hn, upd_same, upd_same, ← heq, hlen, List.length_cons]; omega
          · simp only [upd_other _ _ _ _ hn] at e ⊢; exact h.rs1 n' t' e
        und := fun n' => by
          by_cases hn : n' = n
          · dsimp only [St.mem]; rw [hn, upd_same]; exact List.nodup_cons.2 ⟨hnotin, h.und n⟩
          · simp only [upd_other _ _ _ _ hn]; exact h.und n'
        ucs := fun n' t' e => by
          by_cases hn : n' = n
          · dsimp only [St.mem]; rw [hn, upd_same]; exact List.mem_cons_of_mem _ (h.ucs n t' (hn ▸ e))
          · simp only [upd_other _ _ _ _ hn]; exact h.ucs n' t' e
        un := fun n' e => by
          by_cases hn : n' = n
          · simp [hn] at e
          · exact h.un n' (by simpa [upd_other _ _ _ _ hn] using e) }
    · rw [show St.pc _ t = .lkSt n cur from upd_same _ _ _]
      exact { hT with
        sb1 := fun n' e => by
          by_cases hn : n' = n
          · rw [hn]; rfl
          · exact nomatch hT.sb1 n' (by simpa [upd_other _ _ _ _ hn] using e)
        sb2 := fun n' e => by cases e; exact upd_same _ _ _
        um := fun n' e => by
          by_cases hn : n' = n
          · exact .inr (by rw [hn]; rfl)
          · rcases hT.um n' (by simpa [upd_other _ _ _ _ hn] using e) with e' | e'
            · exact .inl e'
            · cases e'
        uref := fun n' e => by cases e; dsimp only [St.mem]; rw [upd_same]; exact List.mem_cons_self
        casEven := nofun
        stL := fun n' c e => by cases e; exact upd_same _ _ _
        stU := nofun
        pn := fun n' a b => by
          by_cases hn : n' = n
          · rw [hn, hcur0 (hn ▸ a)]; rfl
          · exact nomatch hT.pn n' a (by simpa [upd_other _ _ _ _ hn] using b) }
    · exact { Tol.refl u (finLock (s.pc u)) s.mem with
        sbit := fun n' => by
          dsimp only [St.mem]
          by_cases hn : n' = n
          · rw [hn, hsb]; simp [Ne.symm hu]
          · simp only [upd_other _ _ _ _ hn]
        users := fun n' => by
          dsimp only [St.mem]
          by_cases hn : n' = n
          · rw [hn, upd_same]; exact List.mem_cons.trans (or_iff_right hu)
          · simp only [upd_other _ _ _ _ hn]
        refspin := fun n' e => by
          dsimp only [St.mem] at e ⊢
          have hn : n' ≠ n := fun e' => by rw [e', hsb] at e; cases e
          simp only [upd_other _ _ _ _ hn] }
    · rw [show St.pc _ t = .lkSt n cur from upd_same _ _ _] at e; cases e
  next hne =>
    cases hs
    exact h.move { hT with casEven := fun c e => Option.some.inj e ▸ clr_even _ } rfl

/-- The store that ends the spin-bit section of `lock`, a pool lock being attached. -/
theorem PInv.storeLk {n cur k : Nat} (h : PInv s) (hpc : s.pc t = .lkSt n cur) (hk : s.plock n = some k) :
    PInv { s with refspin := upd s.refspin n (cur + 2), pc := upd s.pc t (.lkTas n k), sbit := upd s.sbit n none } := by
  have hT := h.thread_at hpc
  have hM := h.mem
  have hsbt : s.sbit n = some t := hT.sb2 n rfl
  have hr : s.refspin n = cur + 3 := hT.stL n cur rfl
  have hr1 := h.rs1 n t hsbt
  refine h.frame (t := t) (fun u hu => upd_other _ _ _ _ hu) ?_ ?_ (fun u hu => ?_) (fun u k' _ e => ?_)
  · exact { hM with
      rs0 := fun n' e => by
        by_cases hn : n' = n
        · dsimp only [St.mem]; rw [hn, upd_same]; omega
        · simp only [upd_other _ _ _ _ hn] at e ⊢; exact h.rs0 n' e
      rs1 := fun n' t' e => by
        by_cases hn : n' = n
        · simp [hn] at e
        · simp only [upd_other _ _ _ _ hn] at e ⊢; exact h.rs1 n' t' e }
  · rw [show St.pc _ t = .lkTas n k from upd_same _ _ _]
    exact { hT with
      sb1 := fun n' e => by
        by_cases hn : n' = n
        · simp [hn] at e
        · exact absurd (Option.some.inj (hT.sb1 n' (by simpa [upd_other _ _ _ _ hn] using e))).symm hn
      sb2 := nofun
      stL := nofun
      stU := nofun
      lock := fun n' k' e => by cases e; exact hk
      pn := fun n' a b => by
        have := hT.pn n' a b
        cases this
        exact nomatch a.symm.trans hk }
  · exact { Tol.refl u (finLock (s.pc u)) s.mem with
      sbit := fun n' => by
        dsimp only [St.mem]
        by_cases hn : n' = n
        · rw [hn, hsbt]; simp [Ne.symm hu]
        · simp only [upd_other _ _ _ _ hn]
      refspin := fun n' e => by
        dsimp only [St.mem] at e ⊢
        have hn : n' ≠ n := fun e' => by rw [e', hsbt] at e; exact hu (Option.some.inj e).symm
        simp only [upd_other _ _ _ _ hn] }
  · rw [show St.pc _ t = .lkTas n k from upd_same _ _ _] at e; cases e

/-- Inside the spin-bit section of `lock`, no lock being attached: the pool hands out a free lock `k` (one of the free
    bag or a never-used one) and the thread attaches it. -/
theorem PInv.attach {n cur k : Nat} (h : PInv s) (hpc : s.pc t = .lkSt n cur) (hnone : s.plock n = none)
    (hk : k ∈ s.pool ∨ s.fresh ≤ k) :
    PInv { s with plock := upd s.plock n (some k), pool := s.pool.erase k,
                  fresh := if k < s.fresh then s.fresh else k + 1 } := by
  have hT := h.thread_at hpc
  have hM := h.mem
  have hmem : t ∈ s.users n := hT.uref n rfl
  have hmem' : ∀ x, x ∈ s.pool.erase k ↔ x ≠ k ∧ x ∈ s.pool := fun x => h.pnd.mem_erase_iff
  have hkatt : ∀ n', s.plock n' ≠ some k := fun n' hn' => by
    rcases hk with hk | hk
    · exact h.pfree k n' hk hn'
    · have := h.afr n' k hn'; omega
  have hkown : s.lowner k = none := by
    rcases hk with hk | hk
    · exact h.pown k hk
    · cases ho : s.lowner k with
      | none => rfl
      | some t' => have := h.ofr k t' ho; omega
  have hfr : s.fresh ≤ (if k < s.fresh then s.fresh else k + 1) ∧ k < (if k < s.fresh then s.fresh else k + 1) := by
    split <;> omega
  generalize (if k < s.fresh then s.fresh else k + 1) = F' at *
  -- the users of a node without a lock are inside the spin-bit section
  have hsole : ∀ u, u ∈ s.users n → u = t := fun u hu => by
    have h2 := h.sb2 n u (by rw [h.pn n u hnone hu]; rfl)
    exact Option.some.inj (h2.symm.trans (hT.sb2 n rfl))
  refine h.frame (t := t) (fun u _ => rfl) ?_ ?_ (fun u hu => ?_) (fun u k' _ e => ?_)
  · exact { hM with
      att := fun n1 n2 k' e1 e2 => by
        dsimp only [St.mem] at e1 e2
        by_cases h1 : n1 = n <;> by_cases h2 : n2 = n
        · rw [h1, h2]
        · rw [h1, upd_same] at e1; rw [upd_other _ _ _ _ h2, ← e1] at e2; exact absurd e2 (hkatt n2)
        · rw [h2, upd_same] at e2; rw [upd_other _ _ _ _ h1, ← e2] at e1; exact absurd e1 (hkatt n1)
        · rw [upd_other _ _ _ _ h1] at e1; rw [upd_other _ _ _ _ h2] at e2; exact h.att n1 n2 k' e1 e2
      pnd := h.pnd.erase k
      pfree := fun k' n' e => by
        obtain ⟨hk', hp⟩ := (hmem' k').1 e
        by_cases hn : n' = n
        · dsimp only [St.mem]; rw [hn, upd_same]; exact fun e' => hk' (Option.some.inj e').symm
        · simp only [upd_other _ _ _ _ hn]; exact h.pfree k' n' hp
      pown := fun k' e => h.pown k' ((hmem' k').1 e).2
      pfr := fun k' e => Nat.lt_of_lt_of_le (h.pfr k' ((hmem' k').1 e).2) hfr.1
      afr := fun n' k' e => by
        by_cases hn : n' = n
        · dsimp only [St.mem] at e; rw [hn, upd_same] at e; exact Option.some.inj e ▸ hfr.2
        · exact Nat.lt_of_lt_of_le (h.afr n' k' (by simpa [upd_other _ _ _ _ hn] using e)) hfr.1
      ofr := fun k' t' e => Nat.lt_of_lt_of_le (h.ofr k' t' e) hfr.1
      lcs := fun k' t' n' e1 e2 => by
        by_cases hn : n' = n
        · dsimp only [St.mem] at e1 e2; rw [hn, upd_same] at e2
          rw [← Option.some.inj e2, hkown] at e1; cases e1
        · exact h.lcs k' t' n' e1 (by simpa [upd_other _ _ _ _ hn] using e2)
      csa := fun t' n' e => by
        by_cases hn : n' = n
        · dsimp only [St.mem]; rw [hn, upd_same]; nofun
        · simp only [upd_other _ _ _ _ hn]; exact h.csa t' n' e
      cso := fun t' n' k' e1 e2 => by
        by_cases hn : n' = n
        · exact absurd hnone (h.csa t' n (hn ▸ e1))
        · exact h.cso t' n' k' e1 (by simpa [upd_other _ _ _ _ hn] using e2)
      un := fun n' e => by
        by_cases hn : n' = n
        · dsimp only [St.mem] at e; rw [hn] at e; rw [e] at hmem; cases hmem
        · simp only [upd_other _ _ _ _ hn]; exact h.un n' e }
  · rw [hpc]
    exact { hT with
      lock := nofun
      fpool := nofun
      ffr := nofun
      fatt := nofun
      pn := fun n' a b => by
        by_cases hn : n' = n
        · simp [hn] at a
        · exact hT.pn n' (by simpa [upd_other _ _ _ _ hn] using a) b }
  · exact { Tol.refl u (finLock (s.pc u)) s.mem with
      plock := fun n' e => by
        have hn : n' ≠ n := fun e' => hu (hsole u (e' ▸ e))
        simp only [upd_other _ _ _ _ hn]
      fin := fun k' _ a b c d => ⟨fun e => a ((hmem' k').1 e).2, Nat.lt_of_lt_of_le b hfr.1, fun n' => by
        have hkk : k' ≠ k := fun e' => by
          have b' : k' < s.fresh := b
          rcases hk with hk | hk
          · exact a (e' ▸ hk)
          · omega
        by_cases hn : n' = n
        · dsimp only [St.mem]; rw [hn, upd_same]; exact fun e' => hkk (Option.some.inj e').symm
        · simp only [upd_other _ _ _ _ hn]; exact c n', d⟩ }
  · rw [hpc] at e; cases e

theorem pinv_step_lkSt {n cur : Nat} (h : PInv s) (hpc : s.pc t = .lkSt n cur) (hs : step s t = some (s', ev)) :
    PInv s' := by
  simp only [step, hpc] at hs
  split at hs
  next k hk =>
    cases hs
    exact h.storeLk hpc hk
  next hnone =>
    split at hs
    next k rest hpool =>
      cases hs
      have hin : k ∈ s.pool := by rw [hpool]; exact List.mem_cons_self
      have := (h.attach hpc hnone (.inl hin)).storeLk hpc (upd_same _ _ _)
      rw [if_pos (h.pfr k hin), hpool, List.erase_cons_head] at this
      exact this
    next hpool =>
      cases hs
      have := (h.attach hpc hnone (.inr (Nat.le_refl _))).storeLk hpc (upd_same _ _ _)
      rw [if_neg (Nat.lt_irrefl _), hpool, List.erase_nil, ← hpool] at this
      exact this

theorem pinv_step_unSt {n cur : Nat} (h : PInv s) (hpc : s.pc t = .unSt n cur) (hs : step s t = some (s', ev)) :
    PInv s' := by
  have hT := h.thread_at hpc
  have hM := h.mem
  simp only [step, hpc] at hs
  have hsbt : s.sbit n = some t := hT.sb2 n rfl
  have hr : s.refspin n = cur + 1 := hT.stU n cur rfl
  have hr1 := h.rs1 n t hsbt
  have hmem : t ∈ s.users n := hT.uref n rfl
  have hpos : 0 < (s.users n).length := List.length_pos_of_mem hmem
  have hmem' : ∀ x, x ∈ (s.users n).erase t ↔ x ≠ t ∧ x ∈ s.users n := fun x => (h.und n).mem_erase_iff
  have hlen' : ((s.users n).erase t).length = (s.users n).length - 1 := List.length_erase_of_mem hmem
  have hcs : s.cs t n = false := hT.ncs n rfl
  -- what does not depend on whether the lock is detached
  have rs0 : ∀ n', upd s.sbit n none n' = none →
      upd s.refspin n (cur - 2) n' = 2 * (upd s.users n ((s.users n).erase t) n').length := fun n' e => by
    by_cases hn : n' = n
    · rw [hn, upd_same, upd_same]; omega
    · simp only [upd_other _ _ _ _ hn] at e ⊢; exact h.rs0 n' e
  have rs1 : ∀ n' t', upd s.sbit n none n' = some t' →
      upd s.refspin n (cur - 2) n' = 2 * (upd s.users n ((s.users n).erase t) n').length + 1 := fun n' t' e => by
    by_cases hn : n' = n
    · simp [hn] at e
    · simp only [upd_other _ _ _ _ hn] at e ⊢; exact h.rs1 n' t' e
  have und : ∀ n', (upd s.users n ((s.users n).erase t) n').Nodup := fun n' => by
    by_cases hn : n' = n
    · rw [hn, upd_same]; exact (h.und n).erase t
    · simp only [upd_other _ _ _ _ hn]; exact h.und n'
  have ucs : ∀ n' t', s.cs t' n' = true → t' ∈ upd s.users n ((s.users n).erase t) n' := fun n' t' e => by
    by_cases hn : n' = n
    · rw [hn, upd_same]
      exact (hmem' t').2 ⟨fun e' => (by rw [e', hn, hcs] at e; cases e), h.ucs n t' (hn ▸ e)⟩
    · simp only [upd_other _ _ _ _ hn]; exact h.ucs n' t' e
  have sb1 : ∀ n' (q : PC), spinNode q = none → upd s.sbit n none n' = some t → spinNode q = some n' := fun n' q _ e => by
    by_cases hn : n' = n
    · simp [hn] at e
    · exact absurd (Option.some.inj (hT.sb1 n' (by simpa [upd_other _ _ _ _ hn] using e))).symm hn
  have um : ∀ n' (q : PC), t ∈ upd s.users n ((s.users n).erase t) n' → s.cs t n' = true ∨ refNode q = some n' :=
    fun n' q e => by
      by_cases hn : n' = n
      · rw [hn, upd_same] at e; exact absurd rfl ((hmem' t).1 e).1
      · rcases hT.um n' (by simpa [upd_other _ _ _ _ hn] using e) with e' | e'
        · exact .inl e'
        · exact absurd (Option.some.inj e').symm hn
  have tol : ∀ u, u ≠ t → ∀ n', (upd s.sbit n none n' = some u ↔ s.sbit n' = some u) ∧
      (u ∈ upd s.users n ((s.users n).erase t) n' ↔ u ∈ s.users n') ∧
      (s.sbit n' = some u → upd s.refspin n (cur - 2) n' = s.refspin n') := fun u hu n' => by
    by_cases hn : n' = n
    · rw [hn, upd_same, upd_same, hsbt]
      exact ⟨by simp [Ne.symm hu], (hmem' u).trans (and_iff_right hu), fun e => absurd (Option.some.inj e).symm hu⟩
    · rw [upd_other _ _ _ _ hn, upd_other _ _ _ _ hn, upd_other _ _ _ _ hn]; exact ⟨Iff.rfl, Iff.rfl, fun _ => rfl⟩
  split at hs
  next h2 =>
    cases hs
    have hone : (s.users n).length = 1 := by omega
    have hsole : ∀ x, x ∈ s.users n → x = t := fun x hx => mem_len1 hone hx hmem
    have hnocs : ∀ u, s.cs u n = false := fun u => by
      cases hc : s.cs u n with
      | false => rfl
      | true => have := hsole u (h.ucs n u hc); rw [this, hcs] at hc; cases hc
    have hfree : ∀ k, s.plock n = some k → s.lowner k = none := fun k hk => by
      cases ho : s.lowner k with
      | none => rfl
      | some t' => have := h.lcs k t' n ho hk; rw [hnocs] at this; cases this
    have hpl : ∀ n' k, upd s.plock n none n' = some k → n' ≠ n ∧ s.plock n' = some k := fun n' k e => by
      by_cases hn : n' = n
      · simp [hn] at e
      · exact ⟨hn, by simpa [upd_other _ _ _ _ hn] using e⟩
    refine h.frame (t := t) (fun u hu => upd_other _ _ _ _ hu) ?_ ?_ (fun u hu => ?_) (fun u k' hu e => ?_)
    · exact { hM with
        rs0 := rs0
        rs1 := rs1
        und := und
        ucs := ucs
        att := fun n1 n2 k e1 e2 => h.att n1 n2 k (hpl n1 k e1).2 (hpl n2 k e2).2
        pfree := fun k n' e e' => h.pfree k n' e (hpl n' k e').2
        afr := fun n' k e => h.afr n' k (hpl n' k e).2
        lcs := fun k t' n' e1 e2 => h.lcs k t' n' e1 (hpl n' k e2).2
        csa := fun t' n' e => by
          have hn : n' ≠ n := fun e' => by dsimp only [St.mem] at e; rw [e', hnocs] at e; cases e
          simp only [upd_other _ _ _ _ hn]; exact h.csa t' n' e
        cso := fun t' n' k e1 e2 => h.cso t' n' k e1 (hpl n' k e2).2
        un := fun n' e => by
          by_cases hn : n' = n
          · dsimp only [St.mem]; rw [hn, upd_same]
          · simp only [upd_other _ _ _ _ hn] at e ⊢; exact h.un n' e }
    · rw [show St.pc _ t = .fin (s.plock n) from upd_same _ _ _]
      exact { hT with
        sb1 := fun n' => sb1 n' _ rfl
        sb2 := nofun
        um := fun n' => um n' _
        uref := nofun
        ncs := nofun
        stL := nofun
        stU := nofun
        lock := nofun
        fpool := fun k e e' => h.pfree k n e' e
        ffr := fun k e => h.afr n k e
        fatt := fun k n' e e' => (hpl n' k e').1 (h.att n' n k (hpl n' k e').2 e)
        fown := fun k e => hfree k e
        pn := fun n' a b => by
          by_cases hn : n' = n
          · dsimp only [St.mem] at b; rw [hn, upd_same] at b; exact absurd rfl ((hmem' t).1 b).1
          · exact nomatch hT.pn n' (by simpa [upd_other _ _ _ _ hn] using a) (by simpa [upd_other _ _ _ _ hn] using b) }
    · exact { Tol.refl u (finLock (s.pc u)) s.mem with
        sbit := fun n' => (tol u hu n').1
        users := fun n' => (tol u hu n').2.1
        refspin := fun n' => (tol u hu n').2.2
        plock := fun n' e => by
          have hn : n' ≠ n := fun e' => hu (hsole u (e' ▸ e))
          simp only [upd_other _ _ _ _ hn]
        fin := fun k _ a b c d => ⟨a, b, fun n' e => c n' (hpl n' k e).2, d⟩ }
    · rw [show St.pc _ t = .fin (s.plock n) from upd_same _ _ _] at e
      exact fun e' => (h.thread u).fatt k' n e' e
  next h2 =>
    cases hs
    refine h.frame (t := t) (fun u hu => upd_other _ _ _ _ hu) ?_ ?_ (fun u hu => ?_) (fun u k' _ e => ?_)
    · exact { hM with
        rs0 := rs0
        rs1 := rs1
        und := und
        ucs := ucs
        un := fun n' e => by
          by_cases hn : n' = n
          · dsimp only [St.mem] at e; rw [hn, upd_same] at e; rw [e] at hlen'; simp at hlen'; omega
          · exact h.un n' (by simpa [upd_other _ _ _ _ hn] using e) }
    · rw [show St.pc _ t = .fin none from upd_same _ _ _]
      exact { hT with
        sb1 := fun n' => sb1 n' _ rfl
        sb2 := nofun
        um := fun n' => um n' _
        uref := nofun
        ncs := nofun
        stL := nofun
        stU := nofun
        pn := fun n' a b => by
          by_cases hn : n' = n
          · dsimp only [St.mem] at b; rw [hn, upd_same] at b; exact absurd rfl ((hmem' t).1 b).1
          · exact nomatch hT.pn n' a (by simpa [upd_other _ _ _ _ hn] using b) }
    · exact { Tol.refl u (finLock (s.pc u)) s.mem with
        sbit := fun n' => (tol u hu n').1
        users := fun n' => (tol u hu n').2.1
        refspin := fun n' => (tol u hu n').2.2 }
    · rw [show St.pc _ t = .fin none from upd_same _ _ _] at e; cases e

/-- On the way out of `unlock`: the detached lock goes back to the pool. -/
theorem PInv.giveBack {k : Nat} {q : PC} (h : PInv s) (hpc : s.pc t = .fin (some k)) (hq : q = .fin none ∨ q = .idle) :
    PInv { s with pool := s.pool ++ [k], pc := upd s.pc t q } := by
  have hT := h.thread_at hpc
  have hM := h.mem
  have hmem2 : ∀ x, x ∈ s.pool ++ [k] ↔ x ∈ s.pool ∨ x = k := fun x => by simp
  refine h.frame (t := t) (fun u hu => upd_other _ _ _ _ hu) ?_ ?_ (fun u hu => ?_) (fun u k' _ e => ?_)
  · exact { hM with
      pnd := List.nodup_append.2 ⟨h.pnd, List.nodup_cons.2 ⟨List.not_mem_nil, List.nodup_nil⟩, fun a ha b hb e => by
        rw [List.mem_singleton] at hb; exact hT.fpool k rfl (hb ▸ e ▸ ha)⟩
      pfree := fun k' n e => ((hmem2 k').1 e).elim (h.pfree k' n) (fun e' => e' ▸ hT.fatt k n rfl)
      pown := fun k' e => ((hmem2 k').1 e).elim (h.pown k') (fun e' => e' ▸ hT.fown k rfl)
      pfr := fun k' e => ((hmem2 k').1 e).elim (h.pfr k') (fun e' => e' ▸ hT.ffr k rfl) }
  · rw [show St.pc _ t = q from upd_same _ _ _]
    rcases hq with rfl | rfl <;>
      exact { hT with fpool := nofun, ffr := nofun, fatt := nofun, fown := nofun }
  · exact { Tol.refl u (finLock (s.pc u)) s.mem with
      fin := fun k' e a b c d => ⟨fun e' => ((hmem2 k').1 e').elim a (fun e'' => by
        have := h.funi u t k' (finLock_iff.1 e) (e'' ▸ hpc)
        exact hu this), b, c, d⟩ }
  · rw [show St.pc _ t = q from upd_same _ _ _] at e
    rcases hq with rfl | rfl <;> cases e

theorem pinv_result {r : GRet} (h : PInv s) (hs : result s t = some (s', r)) : PInv s' := by
  unfold result at hs
  split at hs
  next r' hpc =>
    cases hs
    exact h.move { h.thread_at hpc with } rfl
  next hpc =>
    cases hs
    exact h.move { h.thread_at hpc with } rfl
  next k hpc =>
    cases hs
    exact h.giveBack hpc (.inr rfl)
  · cases hs

theorem pinv_step (h : PInv s) (hs : step s t = some (s', ev)) : PInv s' := by
  cases hpc : s.pc t with
  | idle => simp [step, hpc] at hs
  | done r => simp [step, hpc] at hs
  | fin k => simp [step, hpc] at hs
  | lkLd n =>
    simp only [step, hpc] at hs
    cases hs
    exact h.move { h.thread_at hpc with casEven := fun c e => Option.some.inj e ▸ clr_even _ } rfl
  | lkCas n c => exact pinv_step_lkCas h hpc hs
  | lkSt n c => exact pinv_step_lkSt h hpc hs
  | lkTas n k => exact pinv_step_lkTas h hpc hs
  | lkWait n k =>
    simp only [step, hpc] at hs
    cases hs
    exact h.move (by split <;> exact { h.thread_at hpc with }) (by split <;> rfl)
  | unRel n => exact pinv_step_unRel h hpc hs
  | unLd n =>
    simp only [step, hpc] at hs
    cases hs
    exact h.move { h.thread_at hpc with casEven := fun c e => Option.some.inj e ▸ clr_even _ } rfl
  | unCas n c => exact pinv_step_unCas h hpc hs
  | unSt n c => exact pinv_step_unSt h hpc hs

end

theorem pinv_apply (s : St) (t : Tid) (a : Act) (s' : St) (o : Obs) (h : PInv s)
    (hap : model.apply s t a = some (s', o)) : PInv s' := by
  rcases Model.apply_cases hap with ⟨op, -, hs1, -⟩ | ⟨e, -, hs1, -⟩ | ⟨r, -, hs1, -⟩
  · exact pinv_invoke h hs1
  · exact pinv_step h hs1
  · exact pinv_result h hs1

theorem pinv_reachable (cap : Nat) (s : St) (h : model.Reachable (init cap) s) : PInv s :=
  model.inv_reachable PInv (init cap) (pinv_init cap) pinv_apply s h

/-! ### Step-level facts quoted by the property theorems -/

/-- Thread `t` is a user of node `n`: inside its critical section, or inside `lock( n )` after the reference increment,
    or inside `unlock( n )` before the reference decrement. -/
def User (s : St) (t : Tid) (n : Nat) : Prop := s.cs t n = true ∨ refNode (s.pc t) = some n

theorem invoke_frame {s s' : St} {t : Tid} {op : GOp} (hs : invoke s t op = some s') :
    s'.plock = s.plock ∧ s'.pool = s.pool := by
  unfold invoke at hs
  split at hs
  · split at hs <;> simp at hs; subst hs; simp
  · split at hs <;> simp at hs; subst hs; simp
  · simp at hs

/-- The only step that removes a lock from a node is the final store of an `unlock` that saw reference count 1. -/
theorem step_plock {s s' : St} {t : Tid} {ev : Ev} (hs : step s t = some (s', ev)) (n : Nat) :
    s'.plock n = s.plock n ∨ s.plock n = none ∨
    (s.pc t = .unSt n 2 ∧ s'.plock n = none ∧ s'.pc t = .fin (s.plock n) ∧
      s'.users n = (s.users n).erase t ∧ s'.refspin n = 0) := by
  cases hpc : s.pc t <;> simp only [step, hpc] at hs
  case idle => simp at hs
  case done => simp at hs
  case fin => simp at hs
  case lkLd n' => simp at hs; obtain ⟨rfl, -⟩ := hs; simp
  case lkCas n' c => split at hs <;> simp at hs <;> obtain ⟨rfl, -⟩ := hs <;> simp
  case lkSt n' c =>
    split at hs
    · simp at hs; obtain ⟨rfl, -⟩ := hs; simp
    · split at hs <;> simp at hs <;> obtain ⟨rfl, -⟩ := hs <;> dsimp only <;> grind [upd]
  case lkTas n' k => split at hs <;> simp at hs <;> obtain ⟨rfl, -⟩ := hs <;> simp
  case lkWait n' k => simp at hs; obtain ⟨rfl, -⟩ := hs; simp
  case unRel n' =>
    split at hs
    · simp at hs; obtain ⟨rfl, -⟩ := hs; simp
    · simp at hs
  case unLd n' => simp at hs; obtain ⟨rfl, -⟩ := hs; simp
  case unCas n' c => split at hs <;> simp at hs <;> obtain ⟨rfl, -⟩ := hs <;> simp
  case unSt n' c =>
    split at hs <;> simp at hs <;> obtain ⟨rfl, -⟩ := hs <;> dsimp only <;> grind [upd]

/-- No step puts a lock into the free pool. -/
theorem step_pool {s s' : St} {t : Tid} {ev : Ev} (hs : step s t = some (s', ev)) (k : Nat) (hk : k ∈ s'.pool) :
    k ∈ s.pool := by
  cases hpc : s.pc t <;> simp only [step, hpc] at hs
  case idle => simp at hs
  case done => simp at hs
  case fin => simp at hs
  case lkLd n' => simp at hs; obtain ⟨rfl, -⟩ := hs; exact hk
  case lkCas n' c => split at hs <;> simp at hs <;> obtain ⟨rfl, -⟩ := hs <;> exact hk
  case lkSt n' c =>
    split at hs
    · simp at hs; obtain ⟨rfl, -⟩ := hs; exact hk
    · split at hs
      next k0 rest hp => simp at hs; obtain ⟨rfl, -⟩ := hs; dsimp only at hk; rw [hp]; exact List.mem_cons_of_mem _ hk
      next hp => simp at hs; obtain ⟨rfl, -⟩ := hs; exact hk
  case lkTas n' k => split at hs <;> simp at hs <;> obtain ⟨rfl, -⟩ := hs <;> exact hk
  case lkWait n' k => simp at hs; obtain ⟨rfl, -⟩ := hs; exact hk
  case unRel n' =>
    split at hs
    · simp at hs; obtain ⟨rfl, -⟩ := hs; exact hk
    · simp at hs
  case unLd n' => simp at hs; obtain ⟨rfl, -⟩ := hs; exact hk
  case unCas n' c => split at hs <;> simp at hs <;> obtain ⟨rfl, -⟩ := hs <;> exact hk
  case unSt n' c => split at hs <;> simp at hs <;> obtain ⟨rfl, -⟩ := hs <;> exact hk

theorem result_frame {s s' : St} {t : Tid} {r : GRet} (hs : result s t = some (s', r)) :
    s'.plock = s.plock ∧ (s'.pool = s.pool ∨ ∃ k, s.pc t = .fin (some k) ∧ s'.pool = s.pool ++ [k]) := by
  unfold result at hs
  split at hs
  · simp at hs; obtain ⟨rfl, -⟩ := hs; simp
  · simp at hs; obtain ⟨rfl, -⟩ := hs; simp
  next k hpc => simp at hs; obtain ⟨rfl, -⟩ := hs; simp [hpc]
  · simp at hs

theorem eq_singleton {l : List Nat} {a : Nat} (h : l.length = 1) (ha : a ∈ l) : l = [a] := by
  match l, h with
  | [x], _ => simp at ha; rw [ha]

/-- (c) A lock enters the free pool only on the way out of an `unlock` that detached it, and at that moment it is held by
    nobody, attached to no node, and no thread is about to acquire it or waiting for it. -/
theorem dealloc_only_unused {s s' : St} {t : Tid} {a : Act} {o : Obs} (h : PInv s)
    (hap : model.apply s t a = some (s', o)) (k : Nat) (h0 : k ∉ s.pool) (h1 : k ∈ s'.pool) :
    a = .ret ∧ s.pc t = .fin (some k) ∧ s.lheld k = false ∧ s.lowner k = none ∧ (∀ n, s.plock n ≠ some k) ∧
    (∀ t' n, s.pc t' ≠ .lkTas n k) ∧ (∀ t' n, s.pc t' ≠ .lkWait n k) ∧ (∀ t', s.pc t' = .fin (some k) → t' = t) := by
  rcases Model.apply_cases hap with ⟨op, rfl, hs, -⟩ | ⟨ev, rfl, hs, -⟩ | ⟨r, rfl, hs, -⟩
  · rw [(invoke_frame hs).2] at h1; exact absurd h1 h0
  · exact absurd (step_pool hs k h1) h0
  · rcases (result_frame hs).2 with hp | ⟨k', hpc, hp⟩
    · rw [hp] at h1; exact absurd h1 h0
    · rw [hp] at h1
      have hk : k = k' := by simpa [h0] using h1
      subst hk
      have hown := h.fown t k hpc
      refine ⟨rfl, hpc, h.lh1 k hown, hown, fun n => h.fatt t k n hpc, ?_, ?_, fun t' ht' => h.funi t' t k ht' hpc⟩
      · intro t' n hq; exact h.fatt t k n hpc (h.pTas t' n k hq)
      · intro t' n hq; exact h.fatt t k n hpc (h.pWait t' n k hq)

/-- (c) A lock is detached from its node only by the final store of an `unlock` whose CAS saw exactly one reference (its own):
    the detaching thread is the only user of the node, nobody is inside the critical section, nobody holds the lock,
    and nobody is between its reference increment and its acquisition of the lock. -/
theorem detach_only_last {s s' : St} {t : Tid} {a : Act} {o : Obs} (h : PInv s)
    (hap : model.apply s t a = some (s', o)) (n k : Nat) (h0 : s.plock n = some k) (h1 : s'.plock n ≠ some k) :
    a = .step ∧ s.pc t = .unSt n 2 ∧ s.refspin n = 3 ∧ s.users n = [t] ∧
    s'.plock n = none ∧ s'.users n = [] ∧ s'.refspin n = 0 ∧ s'.pc t = .fin (some k) ∧
    s.lheld k = false ∧ (∀ t', s.cs t' n = false) ∧ (∀ t', refNode (s.pc t') = some n → t' = t) := by
  rcases Model.apply_cases hap with ⟨op, rfl, hs, -⟩ | ⟨ev, rfl, hs, -⟩ | ⟨r, rfl, hs, -⟩
  · rw [(invoke_frame hs).1] at h1; exact absurd h0 h1
  · rcases step_plock hs n with he | he | ⟨hpc, hn, hpc', hu, hr⟩
    · rw [he] at h1; exact absurd h0 h1
    · rw [he] at h0; cases h0
    · have hr0 := h.pStU t n 2 hpc
      have hsb := h.sb2 n t (by simp [hpc, spinNode])
      have hr1 := h.rs1 n t hsb
      have hlen : (s.users n).length = 1 := by omega
      have hmem : t ∈ s.users n := h.uref n t (by simp [hpc, refNode])
      have hus := eq_singleton hlen hmem
      have hcs : s.cs t n = false := h.ncs n t (by simp [hpc, opNode])
      have hnocs : ∀ t', s.cs t' n = false := by
        intro t'
        cases hc : s.cs t' n with
        | false => rfl
        | true =>
          have := h.ucs n t' hc
          rw [hus] at this; simp at this; subst this; rw [hcs] at hc; cases hc
      refine ⟨rfl, hpc, by omega, hus, hn, by rw [hu, hus]; simp, hr, by rw [hpc', h0], ?_, hnocs, ?_⟩
      · cases hl : s.lheld k with
        | false => rfl
        | true =>
          cases ho : s.lowner k with
          | none => have := h.lh1 k ho; rw [hl] at this; cases this
          | some t' => have := h.lcs k t' n ho h0; rw [hnocs t'] at this; cases this
      · intro t' ht'
        have := h.uref n t' ht'
        rw [hus] at this; simpa using this
  · rw [(result_frame hs).1] at h1; exact absurd h0 h1

/-- The first step of `unlock` finds the node's lock attached and held by the caller. -/
theorem unRel_enabled {s : St} {t : Tid} {n : Nat} (h : PInv s) (hpc : s.pc t = .unRel n) :
    ∃ k, s.plock n = some k ∧ s.lowner k = some t ∧ s.lheld k = true ∧ (step s t).isSome := by
  have hcs := h.pRel t n hpc
  cases hp : s.plock n with
  | none => exact absurd hp (h.csa t n hcs)
  | some k =>
    have ho := h.cso t n k hcs hp
    refine ⟨k, rfl, ho, ?_, by simp [step, hpc, hp]⟩
    cases hl : s.lheld k with
    | true => rfl
    | false => have := h.lh0 k hl; rw [ho] at this; cases this

/-- (a) At most one thread is inside the critical section of a node. -/
theorem cs_mutex {s : St} (h : PInv s) (n : Nat) (t1 t2 : Tid) (h1 : s.cs t1 n = true) (h2 : s.cs t2 n = true) :
    t1 = t2 := by
  cases hp : s.plock n with
  | none => exact absurd hp (h.csa t1 n h1)
  | some k =>
    have o1 := h.cso t1 n k h1 hp
    have o2 := h.cso t2 n k h2 hp
    rw [o1] at o2; injection o2

/-- The non-atomic field `m_pLock` of node `n`: a thread that is about to write it (attach in `lock`, detach in `unlock`) is
    the only thread at a program point that accesses it. -/
theorem plock_access_exclusive {s : St} (h : PInv s) (n : Nat) (t1 t2 : Tid)
    (hw : (∃ c, s.pc t1 = .lkSt n c ∧ s.plock n = none) ∨ s.pc t1 = .unSt n 2)
    (ha : (∃ c, s.pc t2 = .lkSt n c) ∨ (∃ c, s.pc t2 = .unSt n c) ∨ s.pc t2 = .unRel n) : t1 = t2 := by
  have hu2 : t2 ∈ s.users n := by
    rcases ha with ⟨c, hc⟩ | ⟨c, hc⟩ | hc
    · exact h.uref n t2 (by simp [hc, refNode])
    · exact h.uref n t2 (by simp [hc, refNode])
    · exact h.ucs n t2 (h.pRel t2 n hc)
  rcases hw with ⟨c, hc, hp⟩ | hc
  · have hs1 := h.sb2 n t1 (by simp [hc, spinNode])
    have h2 := h.pn n t2 hp hu2
    have hs2 := h.sb2 n t2 (by simp [h2, spinNode])
    rw [hs1] at hs2; injection hs2
  · have hr0 := h.pStU t1 n 2 hc
    have hsb := h.sb2 n t1 (by simp [hc, spinNode])
    have hr1 := h.rs1 n t1 hsb
    have hlen : (s.users n).length = 1 := by omega
    have hmem : t1 ∈ s.users n := h.uref n t1 (by simp [hc, refNode])
    exact mem_len1 hlen hmem hu2

/-- (c) The counting invariant: the reference count in m_RefSpin is the number of users of the node, and bit 0 is set
    exactly while some thread is inside a spin-bit section of the node. -/
theorem refcount_counts {s : St} (h : PInv s) (n : Nat) :
    ∃ us : List Tid, us.Nodup ∧ (∀ t, t ∈ us ↔ User s t n) ∧
      ((∀ t, spinNode (s.pc t) ≠ some n) → s.refspin n = 2 * us.length) ∧
      (∀ t, spinNode (s.pc t) = some n → s.refspin n = 2 * us.length + 1) ∧
      s.refspin n / 2 = us.length := by
  refine ⟨s.users n, h.und n, ?_, ?_, ?_, ?_⟩
  · intro t
    constructor
    · exact h.um n t
    · rintro (hc | hr)
      · exact h.ucs n t hc
      · exact h.uref n t hr
  · intro hno
    cases hq : s.sbit n with
    | none => exact h.rs0 n hq
    | some t => exact absurd (h.sb1 n t hq) (hno t)
  · intro t ht
    exact h.rs1 n t (h.sb2 n t ht)
  · cases hq : s.sbit n with
    | none => have := h.rs0 n hq; omega
    | some t => have := h.rs1 n t hq; omega

/-- (d) The spin bit is a lock: at most one thread is inside an attach / detach section of a node. -/
theorem spinbit_mutex {s : St} (h : PInv s) (n : Nat) (t1 t2 : Tid)
    (h1 : spinNode (s.pc t1) = some n) (h2 : spinNode (s.pc t2) = some n) : t1 = t2 := by
  have a := h.sb2 n t1 h1
  have b := h.sb2 n t2 h2
  rw [a] at b; injection b

end CdsVerif.Algo.PoolMonitor
