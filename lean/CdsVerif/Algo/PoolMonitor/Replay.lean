/-
  Replay machine of `cds::sync::pool_monitor`: the machine of Algo/PoolMonitor/Model with the lock pool as an
  ENVIRONMENT that chooses.

  In Model the pool is a FIFO of ids and the two pool calls are folded into neighbouring steps (`allocate` into the store
  that ends the spin-bit section of `lock`, `deallocate` into the return of `unlock`), so the machine PREDICTS which lock the
  pool hands out and when it gets it back.  The real pool is a concurrent component of its own (vyukov_queue_pool): which
  free lock it hands out depends on the order of its own operations, and its calls happen strictly between the atomic
  operations of pool_monitor.  Here the pool calls are transitions of their own whose lock id is an INPUT (the harness
  reports them as pseudo-events, tools/poolmon_pre.py turns them into the two `pool_*` invocations below):

      pool_alloc [t, k]   thread t, inside the spin-bit section of `lock( n )` (pc `lkSt n cur`) with no lock attached:
                          the pool hands out lock k and the thread attaches it (`pLock = p.m_pLock = m_Pool.allocate( 1 )`).
                          Enabled for ANY free k: a member of the free bag `pool`, or a never-used id (`fresh ≤ k`).
      pool_free [t, k]    thread t, after the last store of `unlock` that detached lock k (pc `fin (some k)`):
                          `m_Pool.deallocate( pLock, 1 )` puts k into the free bag.

  and the folded versions are disabled: the store of `lkSt` needs a lock attached, `unlock` returns only from `fin none`.
  Every other transition is the one of Model, unchanged.

  This is the nondeterministic-choice generalisation of `Model.step`: "take the head of the FIFO (or `fresh`)" becomes
  "take any free id", and the instants of the two pool calls are free within the window the source gives them.
    * `PInv` is an inductive invariant of the replay machine (`rpinv_reachable`), hence every state theorem of C22 holds for it;
      the two transition theorems (detach only by the last user, return only when unused) are re-proved (`rdetach_only_last`,
      `rdealloc_only_unused`);
    * the machine of Model is the special case "FIFO choice, pool call immediately before the folded step": every transition of
      Model is one or two transitions of the replay machine (`model_*_sim`), so every state reachable in Model is reachable here
      (`model_reachable_replay`).
-/
import CdsVerif.Algo.PoolMonitor.Inv
namespace CdsVerif.Algo.PoolMonitor
open CdsVerif.Machine CdsVerif.Spec

/-- The pool hands out lock `k` to thread `t`, which attaches it to the node whose spin bit it holds. -/
def poolAlloc (s : St) (t : Tid) (k : Nat) : Option St :=
  match s.pc t with
  | .lkSt n _ =>
    if s.plock n = none ∧ (k ∈ s.pool ∨ s.fresh ≤ k) then
      some { s with plock := upd s.plock n (some k), pool := s.pool.erase k,
                    fresh := if k < s.fresh then s.fresh else k + 1 }
    else none
  | _ => none

/-- The pool takes back the lock `k` that thread `t` detached. -/
def poolFree (s : St) (t : Tid) (k : Nat) : Option St :=
  match s.pc t with
  | .fin (some k') =>
    if k' = k then some { s with pool := s.pool ++ [k], pc := upd s.pc t (.fin none) } else none
  | _ => none

def rinvoke (s : St) (t : Tid) (op : GOp) : Option St :=
  if op.name = "pool_alloc" then
    match op.args with
    | [_, k] => poolAlloc s t k.toNat
    | _ => none
  else if op.name = "pool_free" then
    match op.args with
    | [_, k] => poolFree s t k.toNat
    | _ => none
  else invoke s t op

def rstep (s : St) (t : Tid) : Option (St × Ev) :=
  match s.pc t with
  | .lkSt n _ =>
    match s.plock n with
    | some _ => step s t
    | none => none          -- the pool has not been asked yet
  | _ => step s t

def rresult (s : St) (t : Tid) : Option (St × GRet) :=
  match s.pc t with
  | .fin (some _) => none   -- the detached lock has not been given back yet
  | _ => result s t

def rmodel : Model St := ⟨rinvoke, rstep, rresult⟩

/-! ### `PInv` is an invariant of the replay machine -/

theorem rstep_sub {s : St} {t : Tid} {r : St × Ev} (h : rstep s t = some r) : step s t = some r := by
  unfold rstep at h
  split at h
  · split at h
    · exact h
    · cases h
  · exact h

theorem rresult_sub {s : St} {t : Tid} {r : St × GRet} (h : rresult s t = some r) : result s t = some r := by
  unfold rresult at h
  split at h
  · cases h
  · exact h

theorem pinv_poolAlloc {s s' : St} {t : Tid} {k : Nat} (h : PInv s) (hs : poolAlloc s t k = some s') : PInv s' := by
  unfold poolAlloc at hs
  split at hs
  next n cur hpc =>
    split at hs
    next hg =>
      cases hs
      exact h.attach hpc hg.1 hg.2
    next => cases hs
  next => cases hs

theorem pinv_poolFree {s s' : St} {t : Tid} {k : Nat} (h : PInv s) (hs : poolFree s t k = some s') : PInv s' := by
  unfold poolFree at hs
  split at hs
  next k' hpc =>
    split at hs
    next he =>
      subst he
      cases hs
      exact h.giveBack hpc (.inl rfl)
    next => cases hs
  next => cases hs

theorem pinv_rinvoke {s s' : St} {t : Tid} {op : GOp} (h : PInv s) (hs : rinvoke s t op = some s') : PInv s' := by
  unfold rinvoke at hs
  split at hs
  · split at hs
    · exact pinv_poolAlloc h hs
    · cases hs
  · split at hs
    · split at hs
      · exact pinv_poolFree h hs
      · cases hs
    · exact pinv_invoke h hs

theorem rpinv_apply (s : St) (t : Tid) (a : Act) (s' : St) (o : Obs) (h : PInv s)
    (hap : rmodel.apply s t a = some (s', o)) : PInv s' := by
  rcases Model.apply_cases hap with ⟨op, -, hs, -⟩ | ⟨ev, -, hs, -⟩ | ⟨r, -, hs, -⟩
  · exact pinv_rinvoke h hs
  · exact pinv_step h (rstep_sub hs)
  · exact pinv_result h (rresult_sub hs)

/-- Every state the replay machine reaches, under any schedule and ANY choices of the pool, satisfies `PInv`. -/
theorem rpinv_reachable (cap : Nat) (s : St) (h : rmodel.Reachable (init cap) s) : PInv s :=
  rmodel.inv_reachable PInv (init cap) (pinv_init cap) rpinv_apply s h

/-! ### The two transition theorems of C22, for the replay machine -/

theorem rinvoke_frame {s s' : St} {t : Tid} {op : GOp} (hs : rinvoke s t op = some s') :
    (∀ n, s'.plock n = s.plock n ∨ s.plock n = none) ∧
    (s'.pool = s.pool ∨ (∃ k, s'.pool = s.pool.erase k) ∨ ∃ k, s.pc t = .fin (some k) ∧ s'.pool = s.pool ++ [k]) := by
  unfold rinvoke at hs
  split at hs
  · split at hs
    · unfold poolAlloc at hs
      split at hs
      next n cur hpc =>
        split at hs
        next hg =>
          simp at hs; subst hs
          refine ⟨fun n' => ?_, Or.inr (Or.inl ⟨_, rfl⟩)⟩
          dsimp only
          by_cases hn : n' = n
          · subst hn; exact Or.inr hg.1
          · left; simp [upd, hn]
        next => simp at hs
      next => simp at hs
    · cases hs
  · split at hs
    · split at hs
      · unfold poolFree at hs
        split at hs
        next k' hpc =>
          split at hs
          next he => subst he; simp at hs; subst hs; exact ⟨fun _ => Or.inl rfl, Or.inr (Or.inr ⟨_, hpc, rfl⟩)⟩
          next => simp at hs
        next => simp at hs
      · cases hs
    · have := invoke_frame hs
      exact ⟨fun n => Or.inl (by rw [this.1]), Or.inl this.2⟩

/-- (c) for the replay machine: a lock is detached from its node only by the final store of an `unlock` whose CAS saw exactly
    one reference; nobody is inside the critical section, holds the lock, or is between reference increment and acquisition. -/
theorem rdetach_only_last {s s' : St} {t : Tid} {a : Act} {o : Obs} (h : PInv s)
    (hap : rmodel.apply s t a = some (s', o)) (n k : Nat) (h0 : s.plock n = some k) (h1 : s'.plock n ≠ some k) :
    a = .step ∧ s.pc t = .unSt n 2 ∧ s.refspin n = 3 ∧ s.users n = [t] ∧
    s'.plock n = none ∧ s'.users n = [] ∧ s'.refspin n = 0 ∧ s'.pc t = .fin (some k) ∧
    s.lheld k = false ∧ (∀ t', s.cs t' n = false) ∧ (∀ t', refNode (s.pc t') = some n → t' = t) := by
  rcases Model.apply_cases hap with ⟨op, rfl, hs, -⟩ | ⟨ev, rfl, hs, -⟩ | ⟨r, rfl, hs, -⟩
  · rcases (rinvoke_frame hs).1 n with he | he
    · rw [he] at h1; exact absurd h0 h1
    · rw [he] at h0; cases h0
  · have hm : model.apply s t .step = some (s', .ev ev) := by
      simp [Model.apply, model, rstep_sub hs]
    exact detach_only_last h hm n k h0 h1
  · have hm : model.apply s t .ret = some (s', .ret r) := by
      simp [Model.apply, model, rresult_sub hs]
    exact detach_only_last h hm n k h0 h1

/-- (c) for the replay machine: a lock enters the free bag only by the `pool_free` of the thread that detached it, and at
    that moment it is held by nobody, attached to no node, and no thread is about to acquire it or waiting for it. -/
theorem rdealloc_only_unused {s s' : St} {t : Tid} {a : Act} {o : Obs} (h : PInv s)
    (hap : rmodel.apply s t a = some (s', o)) (k : Nat) (h0 : k ∉ s.pool) (h1 : k ∈ s'.pool) :
    (∃ op, a = .invoke op ∧ op.name = "pool_free") ∧ s.pc t = .fin (some k) ∧ s.lheld k = false ∧ s.lowner k = none ∧
    (∀ n, s.plock n ≠ some k) ∧ (∀ t' n, s.pc t' ≠ .lkTas n k) ∧ (∀ t' n, s.pc t' ≠ .lkWait n k) ∧
    (∀ t', s.pc t' = .fin (some k) → t' = t) := by
  rcases Model.apply_cases hap with ⟨op, rfl, hs, -⟩ | ⟨ev, rfl, hs, -⟩ | ⟨r, rfl, hs, -⟩
  · rcases (rinvoke_frame hs).2 with hp | ⟨k', hp⟩ | ⟨k', hpc, hp⟩
    · rw [hp] at h1; exact absurd h1 h0
    · rw [hp] at h1; exact absurd (List.mem_of_mem_erase h1) h0
    · rw [hp] at h1
      have hk : k = k' := by simpa [h0] using h1
      subst hk
      have hname : op.name = "pool_free" := by
        change rinvoke s t op = some s' at hs
        unfold rinvoke at hs
        split at hs
        next hn =>
          split at hs
          · unfold poolAlloc at hs; rw [hpc] at hs; simp at hs
          · cases hs
        next hn =>
          split at hs
          next hn2 => exact hn2
          next hn2 =>
            exfalso
            unfold invoke at hs
            rw [hpc] at hs
            simp at hs
      have hown := h.fown t k hpc
      refine ⟨⟨op, rfl, hname⟩, hpc, h.lh1 k hown, hown, fun n => h.fatt t k n hpc, ?_, ?_,
              fun t' ht' => h.funi t' t k ht' hpc⟩
      · intro t' n hq; exact h.fatt t k n hpc (h.pTas t' n k hq)
      · intro t' n hq; exact h.fatt t k n hpc (h.pWait t' n k hq)
  · exact absurd (step_pool (rstep_sub hs) k h1) h0
  · rcases (result_frame (rresult_sub hs)).2 with hp | ⟨k', hpc, hp⟩
    · rw [hp] at h1; exact absurd h1 h0
    · exfalso
      change rresult s t = some (s', r) at hs
      unfold rresult at hs
      rw [hpc] at hs
      cases hs

/-! ### Model is the FIFO special case -/

/-- `lock` / `unlock` are invoked in the replay machine as in Model. -/
theorem model_invoke_sim {s s' : St} {t : Tid} {op : GOp} (hs : invoke s t op = some s') : rinvoke s t op = some s' := by
  have hn : op.name = "lock" ∨ op.name = "unlock" := by
    unfold invoke at hs
    split at hs
    next h1 h2 h3 => exact Or.inl h2
    next h1 h2 h3 => exact Or.inr h2
    · cases hs
  unfold rinvoke
  rcases hn with hn | hn <;> simp [hn, hs]

/-- A step of Model is the same step of the replay machine, or — the store that ends the spin-bit section of `lock` on a node
    without a lock — the pool's choice of the FIFO head (or of the next fresh id) followed by that store. -/
theorem model_step_sim {s s' : St} {t : Tid} {ev : Ev} (h : PInv s) (hs : step s t = some (s', ev)) :
    rstep s t = some (s', ev) ∨
    ∃ k s1, rinvoke s t ⟨"pool_alloc", [(t : Int), (k : Int)]⟩ = some s1 ∧ rstep s1 t = some (s', ev) := by
  cases hpc : s.pc t with
  | lkSt n cur =>
    cases hp : s.plock n with
    | some k => left; simp [rstep, hpc, hp, hs]
    | none =>
      right
      simp only [step, hpc, hp] at hs
      split at hs
      next k rest hpool =>
        simp at hs; obtain ⟨rfl, rfl⟩ := hs
        have hk : k ∈ s.pool := by simp [hpool]
        have hlt := h.pfr k hk
        refine ⟨k, { s with plock := upd s.plock n (some k), pool := s.pool.erase k,
                                 fresh := if k < s.fresh then s.fresh else k + 1 }, ?_, ?_⟩
        · simp [rinvoke, poolAlloc, hpc, hp, hk]
        · simp [rstep, step, upd, hpc, hlt, hpool]
      next hpool =>
        simp at hs; obtain ⟨rfl, rfl⟩ := hs
        refine ⟨s.fresh, { s with plock := upd s.plock n (some s.fresh), pool := s.pool.erase s.fresh,
                                       fresh := if s.fresh < s.fresh then s.fresh else s.fresh + 1 }, ?_, ?_⟩
        · simp [rinvoke, poolAlloc, hpc, hp]
        · simp [rstep, step, upd, hpc, hpool]
  | idle => left; simpa [rstep, hpc] using hs
  | lkLd n => left; simpa [rstep, hpc] using hs
  | lkCas n c => left; simpa [rstep, hpc] using hs
  | lkTas n k => left; simpa [rstep, hpc] using hs
  | lkWait n k => left; simpa [rstep, hpc] using hs
  | unRel n => left; simpa [rstep, hpc] using hs
  | unLd n => left; simpa [rstep, hpc] using hs
  | unCas n c => left; simpa [rstep, hpc] using hs
  | unSt n c => left; simpa [rstep, hpc] using hs
  | fin k => left; simpa [rstep, hpc] using hs
  | done r => left; simpa [rstep, hpc] using hs

/-- A return of Model is the same return of the replay machine, or — `unlock` returning with a detached lock — the pool taking
    the lock back followed by the return. -/
theorem model_result_sim {s s' : St} {t : Tid} {r : GRet} (hs : result s t = some (s', r)) :
    rresult s t = some (s', r) ∨
    ∃ k s1, rinvoke s t ⟨"pool_free", [(t : Int), (k : Int)]⟩ = some s1 ∧ rresult s1 t = some (s', r) := by
  cases hpc : s.pc t with
  | fin ko =>
    cases ko with
    | none => left; simpa [rresult, hpc] using hs
    | some k =>
      right
      simp [result, hpc] at hs
      obtain ⟨rfl, rfl⟩ := hs
      refine ⟨k, { s with pool := s.pool ++ [k], pc := upd s.pc t (.fin none) }, ?_, ?_⟩
      · simp [rinvoke, poolFree, hpc]
      · simp [rresult, result, upd]
        funext j; by_cases hj : j = t <;> simp [upd, hj]
  | idle => left; simpa [rresult, hpc] using hs
  | lkLd n => left; simpa [rresult, hpc] using hs
  | lkCas n c => left; simpa [rresult, hpc] using hs
  | lkSt n c => left; simpa [rresult, hpc] using hs
  | lkTas n k => left; simpa [rresult, hpc] using hs
  | lkWait n k => left; simpa [rresult, hpc] using hs
  | unRel n => left; simpa [rresult, hpc] using hs
  | unLd n => left; simpa [rresult, hpc] using hs
  | unCas n c => left; simpa [rresult, hpc] using hs
  | unSt n c => left; simpa [rresult, hpc] using hs
  | done r' => left; simpa [rresult, hpc] using hs

/-- Every action of Model is a run of one or two actions of the replay machine with the same end state. -/
theorem model_apply_sim {s s' : St} {t : Tid} {a : Act} {o : Obs} (h : PInv s)
    (hap : model.apply s t a = some (s', o)) : ∃ sched os, rmodel.run s sched = some (s', os) := by
  rcases Model.apply_cases hap with ⟨op, rfl, hs, -⟩ | ⟨ev, rfl, hs, -⟩ | ⟨r, rfl, hs, -⟩
  · exact ⟨[(t, .invoke op)], [(t, .call op)], by simp [Model.run, Model.apply, rmodel, model_invoke_sim hs]⟩
  · rcases model_step_sim h hs with h1 | ⟨k, s1, h1, h2⟩
    · exact ⟨[(t, .step)], [(t, .ev ev)], by simp [Model.run, Model.apply, rmodel, h1]⟩
    · exact ⟨[(t, .invoke ⟨"pool_alloc", [(t : Int), (k : Int)]⟩), (t, .step)], _,
        by simp [Model.run, Model.apply, rmodel, h1, h2]; rfl⟩
  · rcases model_result_sim hs with h1 | ⟨k, s1, h1, h2⟩
    · exact ⟨[(t, .ret)], [(t, .ret r)], by simp [Model.run, Model.apply, rmodel, h1]⟩
    · exact ⟨[(t, .invoke ⟨"pool_free", [(t : Int), (k : Int)]⟩), (t, .ret)], _,
        by simp [Model.run, Model.apply, rmodel, h1, h2]; rfl⟩

theorem model_run_sim : ∀ (sched : List (Tid × Act)) (s0 s : St) (os : List (Tid × Obs)), PInv s0 →
    model.run s0 sched = some (s, os) → ∃ sched' os', rmodel.run s0 sched' = some (s, os') := by
  intro sched
  induction sched with
  | nil =>
    intro s0 s os _ hr
    simp [Model.run] at hr
    exact ⟨[], [], by simp [Model.run, hr.1]⟩
  | cons x rest ih =>
    intro s0 s os hi hr
    obtain ⟨t, a⟩ := x
    simp only [Model.run] at hr
    cases hap : model.apply s0 t a with
    | none => simp [hap] at hr
    | some p =>
      obtain ⟨s1, o⟩ := p
      simp only [hap] at hr
      cases hrr : model.run s1 rest with
      | none => simp [hrr] at hr
      | some q =>
        obtain ⟨s2, os2⟩ := q
        simp only [hrr, Option.some.injEq, Prod.mk.injEq] at hr
        obtain ⟨rfl, -⟩ := hr
        obtain ⟨p1, o1, hp1⟩ := model_apply_sim hi hap
        obtain ⟨p2, o2, hp2⟩ := ih s1 s2 os2 (pinv_apply s0 t a s1 o hi hap) hrr
        exact ⟨p1 ++ p2, o1 ++ o2, Model.run_append hp1 hp2⟩

/-- The machine of Model (FIFO pool, pool calls folded into the neighbouring steps) is a special case of the replay machine:
    every state it reaches is reached by the replay machine. -/
theorem model_reachable_replay (cap : Nat) (s : St) (h : model.Reachable (init cap) s) :
    rmodel.Reachable (init cap) s := by
  obtain ⟨sched, os, hr⟩ := h
  exact model_run_sim sched (init cap) s os (pinv_init cap) hr

/-! ### Driver side -/

/-- Locations of the replay vocabulary: node words and pool lock words. -/
def relevantLoc (loc : String) : Bool := loc.startsWith "N" || loc.startsWith "P"

/-- Initial state from the header word `cap=<number of preallocated pool locks>`. -/
def initCfg (cfg : List String) : St :=
  match cfg.find? (·.startsWith "cap=") with
  | some w => init (w.drop 4).toString.toNat!
  | none => init 0

end CdsVerif.Algo.PoolMonitor
