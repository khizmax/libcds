/-
  Preservation of the StripedSet invariant (`Inv.lean`): client actions, the acquisition of the cell lock under both
  policies (the refinable re-check is `sinv_step_aChk`; `sinv_step_aLk` needs `cfg.recheck = true`) and the operation
  under the cell lock.
-/
import CdsVerif.Algo.Striped.Thread
namespace CdsVerif.Algo.Striped
open CdsVerif.Machine CdsVerif.Spec

variable {cfg : Cfg} {s s' : St} {t : Tid} {ev : Ev}

theorem sinv_invoke {op : GOp} (h : SInv cfg s) (hs : invoke cfg s t op = some s') :
    SInv cfg s' := by
  have hT := h.thread t
  unfold invoke at hs
  split at hs
  next k hidle hk =>
    rw [hidle] at hT
    cases hs
    have hop : ∀ o, some op = some o → ∃ k, okey o = some k := fun o e => Option.some.inj e ▸ ⟨k, hk⟩
    refine h.move ?_ (by split <;> exact fun _ _ => trivial)
    split
    next hr => exact { hT with pol_r := fun _ => hr, okop := hop }
    next hr => exact { hT with pol_s := fun _ => by simpa using hr, okop := hop }
  next => cases hs

theorem sinv_result {r : GRet} (h : SInv cfg s) (hs : result s t = some (s', r)) :
    SInv cfg s' := by
  have hT := h.thread t
  unfold result at hs
  split at hs
  next r' hpc =>
    rw [hpc] at hT
    cases hs
    exact h.move { hT with } (fun _ _ => trivial)
  next => cases hs

/-- Striping: a resizer would hold every cell, and there is no sweep. -/
theorem sinv_step_sLk {op : GOp}
    (h : SInv cfg s) (hpc : s.pc t = .sLk op) (hs : step cfg s t = some (s', ev)) : SInv cfg s' := by
  have hT := hpc ▸ h.thread t
  have hstr := hT.pol_s rfl
  have hm : cfg.h (keyD op) % s.asz 0 < s.asz 0 := Nat.mod_lt _ (h.mem.aszpos 0 (Nat.zero_le _))
  simp only [step, hpc] at hs
  split at hs
  next =>
    cases hs
    exact h.move { hT with } (fun _ _ => trivial)
  next hl =>
    cases hs
    have hfree : s.lk 0 (cfg.h (keyD op) % s.asz 0) = false := by simpa using hl
    refine h.lock (Nat.zero_le _) hfree
      { hT with
        pol_s := nofun
        held := fun g c hh => by cases hh.of_cell rfl rfl rfl; exact upd2_same _ _ _ _
        cell := fun g c e => by cases e; exact ⟨Nat.zero_le _, hm⟩
        cgen := fun g c _ e => by cases e; exact (h.mem.str0 hstr).1.symm
        ckey := fun _ g c e => by cases e; rfl
        rs_cell := fun hr => absurd hr (by simp [hstr]) }
      (fun u hu => ?_)
    cases hr : roleOf (s.pc u) with
    | none => trivial
    | cell c => trivial
    | resize =>
      have := (h.thread u).held 0 _ (.resizing hstr (roleOf_resize.mp hr) hm)
      exact Bool.false_ne_true (hfree ▸ h.mem.l1 _ _ _ this)
    | sweep i =>
      obtain ⟨g, e⟩ := roleOf_sweep.mp hr
      have := (h.thread u).pol_r (sweepOf_ref e)
      rw [hstr] at this; cases this

theorem sinv_step_aAccL {op : GOp}
    (h : SInv cfg s) (hpc : s.pc t = .aAccL op) (hs : step cfg s t = some (s', ev)) : SInv cfg s' := by
  have hT := hpc ▸ h.thread t
  simp only [step, hpc] at hs
  split at hs
  next =>
    cases hs
    exact h.move { hT with } (fun _ _ => trivial)
  next hl =>
    cases hs
    exact h.enter (by simpa using hl) { hT with acc2 := fun _ => rfl } (fun _ _ => trivial)

theorem sinv_step_aAccU {op : GOp}
    (h : SInv cfg s) (hpc : s.pc t = .aAccU op) (hs : step cfg s t = some (s', ev)) : SInv cfg s' := by
  have hT := hpc ▸ h.thread t
  simp only [step, hpc] at hs
  cases hs
  have hin : s.accBy = some t := hT.acc2 rfl
  exact h.frame (q := .aLk op s.gen) _ rfl { h.mem with acc1 := nofun }
    { hT with acc2 := nofun, garr := fun g e => by cases e; exact Nat.le_refl _ }
    (fun u hu => (h.thread u).keep
      { Keeps.rfl with accBy := fun e => absurd (Option.some.inj (hin.symm.trans e)).symm hu })
    (fun _ _ => trivial)

theorem sinv_step_aLk {op : GOp} {g : Nat}
    (h : SInv cfg s) (hre : cfg.recheck = true) (hpc : s.pc t = .aLk op g)
    (hs : step cfg s t = some (s', ev)) : SInv cfg s' := by
  have hT := hpc ▸ h.thread t
  have hg := hT.garr g rfl
  have hm : cfg.h (keyD op) % s.asz g < s.asz g := Nat.mod_lt _ (h.mem.aszpos g hg)
  simp only [step, hpc, hre, if_true] at hs
  split at hs
  next =>
    cases hs
    exact h.move { hT with } (fun _ _ => trivial)
  next hl =>
    cases hs
    exact h.lock hg (by simpa using hl)
      { hT with
        held := fun g c hh => by cases hh.of_cell rfl rfl rfl; exact upd2_same _ _ _ _
        cell := fun g c e => by cases e; exact ⟨hg, hm⟩
        garr := nofun
        cgen := nofun
        ckey := fun _ g c e => by cases e; rfl }
      (fun _ _ => trivial)

/-- The re-check: `m_Owner` is 0, so nobody holds the resize lock or sweeps, and the array read is the current one. -/
theorem sinv_step_aChk {op : GOp} {g c : Nat}
    (h : SInv cfg s) (hpc : s.pc t = .aChk op g c) (hs : step cfg s t = some (s', ev)) : SInv cfg s' := by
  have hT := hpc ▸ h.thread t
  have hr := hT.pol_r rfl
  simp only [step, hpc] at hs
  cases hs
  by_cases hc : (s.owner = none ∨ s.owner = some t) ∧ s.gen = g
  · have hnone : s.owner = none := hc.1.elim id (fun ho => absurd (hT.own1 ho).1 Bool.false_ne_true)
    rw [if_pos hc]
    exact h.move (q := .bMask op g c)
      { hT with
        pol_r := nofun
        cgen := fun g c _ e => by cases e; exact hc.2.symm
        rs_cell := fun _ _ => h.mem.rs_none hr hnone }
      (fun u _ => compat_cell (h.no_owner hr hnone u) c)
  · rw [if_neg hc]
    exact h.move { hT with } (fun _ _ => trivial)

theorem sinv_step_aRel {op : GOp} {g c : Nat}
    (h : SInv cfg s) (hpc : s.pc t = .aRel op g c) (hs : step cfg s t = some (s', ev)) : SInv cfg s' := by
  have hT := hpc ▸ h.thread t
  simp only [step, hpc] at hs
  cases hs
  exact h.unlock (hT.held g c (.cell rfl))
    { hT with held := fun _ _ hh => (nomatch hh.of_cell rfl rfl rfl), cell := nofun, cgen := nofun, ckey := nofun }
    (fun _ _ => trivial)

theorem sinv_step_bMask {op : GOp} {g c : Nat}
    (h : SInv cfg s) (hpc : s.pc t = .bMask op g c) (hs : step cfg s t = some (s', ev)) : SInv cfg s' := by
  have hT := hpc ▸ h.thread t
  simp only [step, hpc] at hs
  cases hs
  exact h.move { hT with bidx := fun _ _ e => by cases e; rfl } (h.compat_same hpc rfl)

/-- The bucket step: the new content of the bucket is placed and has no key twice (`mapStep_mem`, `mapStep_uniq`). -/
theorem sinv_step_bOp {op : GOp} {g c b : Nat}
    (h : SInv cfg s) (hpc : s.pc t = .bOp op g c b) (hs : step cfg s t = some (s', ev)) : SInv cfg s' := by
  have hT := hpc ▸ h.thread t
  obtain ⟨k, hk⟩ := hT.okop op rfl
  have hb := hT.bidx op b rfl
  simp only [step, hpc] at hs
  split at hs
  next m' r hm =>
    cases hs
    refine h.frame _ rfl { h.mem with place := ?_, uniq := ?_ } ?_ (fun u _ => { h.thread u with })
      (by split <;> exact h.compat_same hpc rfl)
    · intro b' e (he : e ∈ upd s.bkt b m' b')
      by_cases hbb : b' = b
      · rw [hbb, upd_same] at he
        rw [hbb]
        rcases mapStep_mem hk hm e he with h1 | h1
        · exact h.place b e h1
        · rw [h1, hb, keyD_of_okey hk]; rfl
      · rw [upd_other _ _ _ _ hbb] at he
        exact h.place b' e he
    · intro b'
      show KeyUniq (upd s.bkt b m' b')
      by_cases hbb : b' = b
      · rw [hbb, upd_same]; exact mapStep_uniq hk hm (h.uniq b)
      · rw [upd_other _ _ _ _ hbb]; exact h.uniq b'
    · split <;> exact { hT with ckey := nofun, bidx := nofun, okop := nofun }
  next => cases hs

theorem sinv_step_bCnt {r : GRet} {g c : Nat}
    (h : SInv cfg s) (hpc : s.pc t = .bCnt r g c) (hs : step cfg s t = some (s', ev)) : SInv cfg s' := by
  have hT := hpc ▸ h.thread t
  simp only [step, hpc] at hs
  cases hs
  exact h.frame _ rfl h.mem { hT with } (fun u _ => h.thread u) (h.compat_same hpc rfl)

theorem sinv_step_bPol {r : GRet} {g c n : Nat}
    (h : SInv cfg s) (hpc : s.pc t = .bPol r g c n) (hs : step cfg s t = some (s', ev)) : SInv cfg s' := by
  have hT := hpc ▸ h.thread t
  simp only [step, hpc] at hs
  cases hs
  exact h.move { hT with } (h.compat_same hpc rfl)

theorem sinv_step_bUnl {r : GRet} {g c : Nat} {rz dec : Bool}
    (h : SInv cfg s) (hpc : s.pc t = .bUnl r g c rz dec) (hs : step cfg s t = some (s', ev)) : SInv cfg s' := by
  have hT := hpc ▸ h.thread t
  simp only [step, hpc] at hs
  cases hs
  refine h.unlock (hT.held g c (.cell rfl)) ?_ (by unfold afterUnl; split <;> (try split) <;> exact fun _ _ => trivial)
  unfold afterUnl
  split <;> (try split) <;> exact
    { hT with
      held := fun _ _ hh => nomatch hh.of_cell rfl rfl rfl
      cell := nofun
      cgen := nofun
      rs_cell := fun _ => nofun }

theorem sinv_step_eDec {r : GRet}
    (h : SInv cfg s) (hpc : s.pc t = .eDec r) (hs : step cfg s t = some (s', ev)) : SInv cfg s' := by
  have hT := hpc ▸ h.thread t
  simp only [step, hpc] at hs
  cases hs
  exact h.frame _ rfl h.mem { hT with } (fun u _ => h.thread u) (fun _ _ => trivial)

end CdsVerif.Algo.Striped
