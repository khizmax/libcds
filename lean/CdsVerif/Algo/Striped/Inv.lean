/-
  Inductive invariant of the StripedSet model (both mutex policies), needs `cfg.recheck = true`.

  `SInv cfg s` has three parts: clauses about the shared memory alone (`MInv`), about the memory and the program
  counter of ONE thread (`TInv`, in which the program counter enters through classifying functions only), and about the
  program counters of TWO threads (`Compat` of their `Role`s).

  Policy          pol_r pol_s str0 asz0 : the program points of one policy do not occur under the other; striping never
                  touches `gen` / `owner`; lock array 0 has `cap0` cells
  Cell locks      held : a thread is the ghost holder of every cell whose lock it holds (`HoldsAt`: its own cell between
                  the acquisition and the release; the striping resizer holds cells 0 .. i-1 while locking, all cells
                  while resizing, cells i .. n-1 while unlocking);  l1 : a held lock's word is set;
                  fut cell garr : cells of future lock arrays are held by nobody, and nobody is about to lock one
  Owner / access  own1 own2 : `m_Owner` names exactly the thread inside acquire_resize .. release_resize;
                  acc1 acc2 : the `m_access` word is set while somebody is inside the section, and that is one thread
  Exclusion       `Compat` : while a thread is between "resize lock obtained" and "resize lock given back" (`excl`), no
                  thread is inside a cell section (`inCell`: re-check passed .. cell unlocked), and there is at most one
                  such thread; the refinable owner's sweep: every thread inside a cell section holds a cell the sweep
                  has not reached yet;  cgen : a thread inside a cell section locked a cell of the CURRENT array
  Buckets         ckey : the cell is the one of the key;  bidx : the bucket index computed from the loaded mask is the
                  one of the CURRENT mask;  okop : operations are keyed;  place uniq : every item sits in bucket
                  `h key % capacity`, no bucket holds a key twice
  Sizes           oldm oldc newsz aszpos rs_* dvd pow2 : the resizer's local copies are current; the refinable lock
                  array is as large as the table except between the swap and the store of the mask; the capacity is
                  `cap0 * 2 ^ j`
-/
import CdsVerif.Algo.Striped.Lemmas
namespace CdsVerif.Algo.Striped
open CdsVerif.Machine CdsVerif.Spec

/-- the single cell ( g, c ) whose lock the thread holds -/
def cellOf : PC → Option (Nat × Nat)
  | .idle => none | .sLk _ => none | .sWait _ => none | .aOwn _ => none | .aAccL _ => none | .aAccW _ => none
  | .aAccU _ => none | .aLk _ _ => none | .aWait _ _ => none
  | .aChk _ g c => some (g, c) | .aRel _ g c => some (g, c)
  | .bMask _ g c => some (g, c) | .bOp _ g c _ => some (g, c) | .bCnt _ g c => some (g, c)
  | .bPol _ g c _ => some (g, c) | .bUnl _ g c _ _ => some (g, c)
  | .eDec _ => none | .zOld _ => none | .zLk _ _ _ => none | .zWait _ _ _ => none | .zCas _ _ _ => none
  | .zTry _ _ _ _ => none | .zTryU _ _ g i => some (g, i)
  | .zChk _ _ => none | .zCapSt _ _ => none | .zInit _ _ _ => none | .zAccL _ _ => none | .zAccW _ _ => none
  | .zAccU _ _ => none | .zCnt _ _ => none | .zMask _ _ _ => none | .zMove _ _ => none | .zRelO _ => none
  | .zUnl _ _ => none | .done _ => none

/-- inside a cell section: the lock is held and (refinable) the re-check has succeeded -/
def inCell : PC → Bool
  | .bMask _ _ _ => true | .bOp _ _ _ _ => true | .bCnt _ _ _ => true | .bPol _ _ _ _ => true | .bUnl _ _ _ _ _ => true
  | .idle => false | .sLk _ => false | .sWait _ => false | .aOwn _ => false | .aAccL _ => false | .aAccW _ => false
  | .aAccU _ => false | .aLk _ _ => false | .aWait _ _ => false | .aChk _ _ _ => false | .aRel _ _ _ => false
  | .eDec _ => false | .zOld _ => false | .zLk _ _ _ => false | .zWait _ _ _ => false | .zCas _ _ _ => false
  | .zTry _ _ _ _ => false | .zTryU _ _ _ _ => false
  | .zChk _ _ => false | .zCapSt _ _ => false | .zInit _ _ _ => false | .zAccL _ _ => false | .zAccW _ _ => false
  | .zAccU _ _ => false | .zCnt _ _ => false | .zMask _ _ _ => false | .zMove _ _ => false | .zRelO _ => false
  | .zUnl _ _ => false | .done _ => false

/-- the resize lock is held: from the end of `lock_all` / of the owner's sweep to the beginning of the release -/
def excl : PC → Bool
  | .zChk _ _ => true | .zCapSt _ _ => true | .zInit _ _ _ => true | .zAccL _ _ => true | .zAccW _ _ => true
  | .zAccU _ _ => true | .zCnt _ _ => true | .zMask _ _ _ => true | .zMove _ _ => true
  | .idle => false | .sLk _ => false | .sWait _ => false | .aOwn _ => false | .aAccL _ => false | .aAccW _ => false
  | .aAccU _ => false | .aLk _ _ => false | .aWait _ _ => false | .aChk _ _ _ => false | .aRel _ _ _ => false
  | .bMask _ _ _ => false | .bOp _ _ _ _ => false | .bCnt _ _ _ => false | .bPol _ _ _ _ => false | .bUnl _ _ _ _ _ => false
  | .eDec _ => false | .zOld _ => false | .zLk _ _ _ => false | .zWait _ _ _ => false | .zCas _ _ _ => false
  | .zTry _ _ _ _ => false | .zTryU _ _ _ _ => false | .zRelO _ => false | .zUnl _ _ => false | .done _ => false

/-- refinable: the thread whose id is in `m_Owner` -/
def ownPC : PC → Bool
  | .zTry _ _ _ _ => true | .zTryU _ _ _ _ => true | .zRelO _ => true
  | .zChk _ _ => true | .zCapSt _ _ => true | .zInit _ _ _ => true | .zAccL _ _ => true | .zAccW _ _ => true
  | .zAccU _ _ => true | .zCnt _ _ => true | .zMask _ _ _ => true | .zMove _ _ => true
  | .idle => false | .sLk _ => false | .sWait _ => false | .aOwn _ => false | .aAccL _ => false | .aAccW _ => false
  | .aAccU _ => false | .aLk _ _ => false | .aWait _ _ => false | .aChk _ _ _ => false | .aRel _ _ _ => false
  | .bMask _ _ _ => false | .bOp _ _ _ _ => false | .bCnt _ _ _ => false | .bPol _ _ _ _ => false | .bUnl _ _ _ _ _ => false
  | .eDec _ => false | .zOld _ => false | .zLk _ _ _ => false | .zWait _ _ _ => false | .zCas _ _ _ => false
  | .zUnl _ _ => false | .done _ => false

/-- program points of the refinable policy only -/
def refOnly : PC → Bool
  | .aOwn _ => true | .aAccL _ => true | .aAccW _ => true | .aAccU _ => true | .aLk _ _ => true | .aWait _ _ => true
  | .aChk _ _ _ => true | .aRel _ _ _ => true | .zCas _ _ _ => true | .zTry _ _ _ _ => true | .zTryU _ _ _ _ => true
  | .zCapSt _ _ => true | .zInit _ _ _ => true | .zAccL _ _ => true | .zAccW _ _ => true | .zAccU _ _ => true
  | .zRelO _ => true
  | _ => false

/-- program points of the striping policy only -/
def strOnly : PC → Bool
  | .sLk _ => true | .sWait _ => true | .zLk _ _ _ => true | .zWait _ _ _ => true | .zUnl _ _ => true
  | _ => false

/-- inside the `m_access` section -/
def accPC : PC → Bool
  | .aAccU _ => true | .zAccU _ _ => true
  | .idle => false | .sLk _ => false | .sWait _ => false | .aOwn _ => false | .aAccL _ => false | .aAccW _ => false
  | .aLk _ _ => false | .aWait _ _ => false | .aChk _ _ _ => false | .aRel _ _ _ => false
  | .bMask _ _ _ => false | .bOp _ _ _ _ => false | .bCnt _ _ _ => false | .bPol _ _ _ _ => false | .bUnl _ _ _ _ _ => false
  | .eDec _ => false | .zOld _ => false | .zLk _ _ _ => false | .zWait _ _ _ => false | .zCas _ _ _ => false
  | .zTry _ _ _ _ => false | .zTryU _ _ _ _ => false
  | .zChk _ _ => false | .zCapSt _ _ => false | .zInit _ _ _ => false | .zAccL _ _ => false | .zAccW _ _ => false
  | .zCnt _ _ => false | .zMask _ _ _ => false | .zMove _ _ => false | .zRelO _ => false
  | .zUnl _ _ => false | .done _ => false

/-- the operation of a thread that has not performed its bucket step yet -/
def opOf : PC → Option GOp
  | .sLk op => some op | .sWait op => some op | .aOwn op => some op | .aAccL op => some op | .aAccW op => some op
  | .aAccU op => some op | .aLk op _ => some op | .aWait op _ => some op | .aChk op _ _ => some op
  | .aRel op _ _ => some op | .bMask op _ _ => some op | .bOp op _ _ _ => some op
  | .idle => none
  | .bCnt _ _ _ => none | .bPol _ _ _ _ => none | .bUnl _ _ _ _ _ => none
  | .eDec _ => none | .zOld _ => none | .zLk _ _ _ => none | .zWait _ _ _ => none | .zCas _ _ _ => none
  | .zTry _ _ _ _ => none | .zTryU _ _ _ _ => none
  | .zChk _ _ => none | .zCapSt _ _ => none | .zInit _ _ _ => none | .zAccL _ _ => none | .zAccW _ _ => none
  | .zAccU _ _ => none | .zCnt _ _ => none | .zMask _ _ _ => none | .zMove _ _ => none | .zRelO _ => none
  | .zUnl _ _ => none | .done _ => none

/-- the result of a thread that has performed its bucket step (its linearization point) -/
def retOf : PC → Option GRet
  | .bCnt r _ _ => some r | .bPol r _ _ _ => some r | .bUnl r _ _ _ _ => some r
  | .eDec r => some r | .zOld r => some r | .zLk r _ _ => some r | .zWait r _ _ => some r | .zCas r _ _ => some r
  | .zTry r _ _ _ => some r | .zTryU r _ _ _ => some r
  | .zChk r _ => some r | .zCapSt r _ => some r | .zInit r _ _ => some r | .zAccL r _ => some r | .zAccW r _ => some r
  | .zAccU r _ => some r | .zCnt r _ => some r | .zMask r _ _ => some r | .zMove r _ => some r | .zRelO r => some r
  | .zUnl r _ => some r | .done r => some r
  | .idle => none
  | .sLk _ => none | .sWait _ => none | .aOwn _ => none | .aAccL _ => none | .aAccW _ => none
  | .aAccU _ => none | .aLk _ _ => none | .aWait _ _ => none | .aChk _ _ _ => none
  | .aRel _ _ _ => none | .bMask _ _ _ => none | .bOp _ _ _ _ => none

/-- the operation and the cell of a thread that holds its cell and has not performed the bucket step yet -/
def opCell : PC → Option (GOp × Nat × Nat)
  | .aChk op g c => some (op, g, c) | .aRel op g c => some (op, g, c)
  | .bMask op g c => some (op, g, c) | .bOp op g c _ => some (op, g, c)
  | _ => none

/-- the resizer's copy `nOldCapacity` once it has been validated under the resize lock -/
def oldOf : PC → Option Nat
  | .zCapSt _ old => some old | .zInit _ old _ => some old | .zAccL _ old => some old | .zAccW _ old => some old
  | .zAccU _ old => some old | .zCnt _ old => some old | .zMask _ old _ => some old
  | _ => none

/-- refinable: the new lock array exists and is not yet the current one -/
def preSwap : PC → Bool
  | .zInit _ _ _ => true | .zAccL _ _ => true | .zAccW _ _ => true | .zAccU _ _ => true
  | _ => false

/-- refinable: between the swap of the lock array and the store of the new mask -/
def midSwap : PC → Bool
  | .zCnt _ _ => true | .zMask _ _ _ => true
  | _ => false

/-- striping `lock_all`: cells `0 .. i - 1` are locked -/
def lockingTo : PC → Option Nat
  | .zLk _ _ i => some i | .zWait _ _ i => some i
  | _ => none

/-- striping `unlock_all`: cells `i ..` are still locked -/
def unlockingFrom : PC → Option Nat
  | .zUnl _ i => some i
  | _ => none

/-- refinable `acquire`: the lock array read inside the `m_access` section -/
def arrOf : PC → Option Nat
  | .aLk _ g => some g | .aWait _ g => some g
  | _ => none

/-- the owner's sweep over lock array `g` has reached cell `i` -/
def sweepOf : PC → Option (Nat × Nat)
  | .zTry _ _ g i => some (g, i) | .zTryU _ _ g i => some (g, i)
  | _ => none

/-- the operation and the bucket it is about to be applied to -/
def bktOf : PC → Option (GOp × Nat)
  | .bOp op _ _ b => some (op, b)
  | _ => none

/-- the number of buckets to rehash -/
def ocOf : PC → Option Nat
  | .zMask _ _ oc => some oc
  | _ => none

/-- The shared memory the invariant reads: everything but the program counters, `m_nCapacity` and the item counter. -/
structure Mem where
  lk : Nat → Nat → Bool
  gen : Nat
  asz : Nat → Nat
  owner : Option Tid
  access : Bool
  mask : Nat
  bkt : Nat → MapSt
  holder : Nat → Nat → Option Tid
  accBy : Option Tid

def St.mem (s : St) : Mem := ⟨s.lk, s.gen, s.asz, s.owner, s.access, s.mask, s.bkt, s.holder, s.accBy⟩

structure MInv (cfg : Cfg) (m : Mem) : Prop where
  str0 : cfg.refinable = false → m.gen = 0 ∧ m.owner = none
  asz0 : m.asz 0 = cfg.cap0
  aszpos : ∀ g, g ≤ m.gen → 0 < m.asz g
  l1 : ∀ g c u, m.holder g c = some u → m.lk g c = true
  fut : ∀ g c u, m.holder g c = some u → g ≤ m.gen
  acc1 : ∀ u, m.accBy = some u → m.access = true
  rs_none : cfg.refinable = true → m.owner = none → m.asz m.gen = m.mask + 1
  dvd : cfg.cap0 ∣ m.mask + 1
  pow2 : ∃ e, m.mask + 1 = 2 ^ e
  place : Placed cfg.h (m.mask + 1) m.bkt
  uniq : ∀ b, KeyUniq (m.bkt b)

/-- The cells whose lock a thread at `pc` holds (`n` = the size of lock array 0): its own cell; under striping the
    cells `lock_all` has locked, all cells during the resize, and the cells `unlock_all` has not released yet. -/
def HoldsAt (cfg : Cfg) (n : Nat) (pc : PC) (g c : Nat) : Prop :=
  cellOf pc = some (g, c) ∨
  (g = 0 ∧ ((∃ i, lockingTo pc = some i ∧ c < i) ∨
            (cfg.refinable = false ∧ excl pc = true ∧ c < n) ∨
            (∃ i, unlockingFrom pc = some i ∧ i ≤ c ∧ c < n)))

/-- What `SInv` says about thread `u` at program counter `pc`.  The program counter enters through classifying
    functions only, so that the clauses of two program counters with the same classification are the same
    propositions up to computation. -/
structure TInv (cfg : Cfg) (m : Mem) (u : Tid) (pc : PC) : Prop where
  pol_r : refOnly pc = true → cfg.refinable = true
  pol_s : strOnly pc = true → cfg.refinable = false
  held : ∀ g c, HoldsAt cfg (m.asz 0) pc g c → m.holder g c = some u
  cell : ∀ g c, cellOf pc = some (g, c) → g ≤ m.gen ∧ c < m.asz g
  lkto : ∀ i, lockingTo pc = some i → i < m.asz 0
  unlfrom : ∀ i, unlockingFrom pc = some i → i < m.asz 0
  garr : ∀ g, arrOf pc = some g → g ≤ m.gen
  own1 : m.owner = some u → ownPC pc = true ∧ cfg.refinable = true
  own2 : cfg.refinable = true → ownPC pc = true → m.owner = some u
  acc2 : accPC pc = true → m.accBy = some u
  sweep : ∀ g i, sweepOf pc = some (g, i) → g = m.gen ∧ i < m.asz g
  cgen : ∀ g c, inCell pc = true → cellOf pc = some (g, c) → g = m.gen
  ckey : ∀ op g c, opCell pc = some (op, g, c) → c = cfg.h (keyD op) % m.asz g
  bidx : ∀ op b, bktOf pc = some (op, b) → b = cfg.h (keyD op) % (m.mask + 1)
  okop : ∀ op, opOf pc = some op → ∃ k, okey op = some k
  oldm : ∀ old, oldOf pc = some old → old = m.mask + 1
  oldc : ∀ oc, ocOf pc = some oc → oc = m.mask + 1
  newsz : ∀ old, preSwap pc = true → oldOf pc = some old → m.asz (m.gen + 1) = 2 * old
  rs_own : cfg.refinable = true → ownPC pc = true → midSwap pc = false → m.asz m.gen = m.mask + 1
  rs_mid : ∀ old, cfg.refinable = true → midSwap pc = true → oldOf pc = some old → m.asz m.gen = 2 * old
  rs_cell : cfg.refinable = true → inCell pc = true → m.asz m.gen = m.mask + 1

/-! ### Roles: what a program point claims against the other threads -/

inductive Role
  | none
  | cell (c : Nat)     -- inside the section of cell `c` of the current lock array
  | resize             -- the resize lock is held
  | sweep (i : Nat)    -- owner; cells below `i` have been found free after the CAS on `m_Owner`

def roleOf : PC → Role
  | .bMask _ _ c => .cell c | .bOp _ _ c _ => .cell c | .bCnt _ _ c => .cell c | .bPol _ _ c _ => .cell c
  | .bUnl _ _ c _ _ => .cell c
  | .zChk _ _ => .resize | .zCapSt _ _ => .resize | .zInit _ _ _ => .resize | .zAccL _ _ => .resize
  | .zAccW _ _ => .resize | .zAccU _ _ => .resize | .zCnt _ _ => .resize | .zMask _ _ _ => .resize
  | .zMove _ _ => .resize
  | .zTry _ _ _ i => .sweep i | .zTryU _ _ _ i => .sweep i
  | _ => .none

/-- A resize excludes cell sections and other resizes; a cell section is on a cell the sweep has not passed. -/
def Compat (a b : Role) : Prop :=
  match a with
  | .none => True
  | .cell c => match b with
    | .resize => False
    | .sweep i => i ≤ c
    | _ => True
  | .resize => match b with
    | .cell _ => False
    | .resize => False
    | _ => True
  | .sweep i => match b with
    | .cell c => i ≤ c
    | _ => True

structure SInv (cfg : Cfg) (s : St) : Prop where
  mem : MInv cfg s.mem
  thread : ∀ t, TInv cfg s.mem t (s.pc t)
  compat : ∀ t u, t ≠ u → Compat (roleOf (s.pc t)) (roleOf (s.pc u))

theorem cap0_pos (cfg : Cfg) : 0 < cfg.cap0 := Nat.pow_pos (by decide)

theorem sinv_init (cfg : Cfg) : SInv cfg (init cfg) := by
  have hc := cap0_pos cfg
  have hm : cfg.cap0 - 1 + 1 = cfg.cap0 := by omega
  refine ⟨?_, fun t => ?_, fun _ _ _ => trivial⟩
  · constructor
    case dvd => simp only [init, St.mem, hm]; exact Nat.dvd_refl _
    case pow2 => exact ⟨cfg.k0, by simp only [init, St.mem, hm]; rfl⟩
    all_goals (intros; simp_all [init, St.mem, Placed, KeyUniq, withKey])
  · constructor
    all_goals (intros; simp_all [init, St.mem, HoldsAt, cellOf, inCell, excl, ownPC, refOnly, strOnly, accPC, opOf, opCell,
      oldOf, preSwap, midSwap, lockingTo, unlockingFrom, arrOf, sweepOf, bktOf, ocOf])

/-! ### Relations between the classifications -/

theorem inCell_cell {pc : PC} (h : inCell pc = true) : ∃ g c, cellOf pc = some (g, c) := by
  cases pc <;> simp [inCell] at h <;> exact ⟨_, _, rfl⟩

theorem excl_own {pc : PC} (h : excl pc = true) : ownPC pc = true := by
  cases pc <;> simp [excl] at h <;> rfl

theorem opCell_cell {pc : PC} {op : GOp} {g c : Nat} (h : opCell pc = some (op, g, c)) : cellOf pc = some (g, c) := by
  cases pc <;> simp [opCell] at h <;> simp [cellOf, h]

theorem preSwap_excl {pc : PC} (h : preSwap pc = true) : excl pc = true := by
  cases pc <;> simp [preSwap] at h <;> rfl

theorem midSwap_excl {pc : PC} (h : midSwap pc = true) : excl pc = true := by
  cases pc <;> simp [midSwap] at h <;> rfl

theorem oldOf_excl {pc : PC} {o : Nat} (h : oldOf pc = some o) : excl pc = true := by
  cases pc <;> simp [oldOf] at h <;> rfl

theorem roleOf_resize {pc : PC} : roleOf pc = .resize ↔ excl pc = true := by
  cases pc <;> simp [roleOf, excl]

theorem roleOf_cell {pc : PC} {c : Nat} : roleOf pc = .cell c ↔ inCell pc = true ∧ ∃ g, cellOf pc = some (g, c) := by
  cases pc <;> simp [roleOf, inCell, cellOf]

theorem roleOf_sweep {pc : PC} {i : Nat} : roleOf pc = .sweep i ↔ ∃ g, sweepOf pc = some (g, i) := by
  cases pc <;> simp [roleOf, sweepOf]

theorem sweepOf_own {pc : PC} {x : Nat × Nat} (h : sweepOf pc = some x) : ownPC pc = true := by
  cases pc <;> simp [sweepOf] at h <;> rfl

theorem sweepOf_ref {pc : PC} {x : Nat × Nat} (h : sweepOf pc = some x) : refOnly pc = true := by
  cases pc <;> simp [sweepOf] at h <;> rfl

theorem bktOf_inCell {pc : PC} {x : GOp × Nat} (h : bktOf pc = some x) : inCell pc = true := by
  cases pc <;> simp [bktOf] at h <;> rfl

theorem ocOf_own {pc : PC} {oc : Nat} (h : ocOf pc = some oc) : ownPC pc = true := by
  cases pc <;> simp [ocOf] at h <;> rfl

theorem own_excl_or_ref {pc : PC} (h : ownPC pc = true) : excl pc = true ∨ refOnly pc = true := by
  cases pc <;> simp [ownPC] at h <;> simp [excl, refOnly]

/-! ### The clauses that the refinement proof and the properties quote, in terms of the state -/

theorem SInv.okop {cfg : Cfg} {s : St} (h : SInv cfg s) (t : Tid) (op : GOp) (e : opOf (s.pc t) = some op) :
    ∃ k, okey op = some k :=
  (h.thread t).okop op e

theorem SInv.bidx {cfg : Cfg} {s : St} (h : SInv cfg s) (t : Tid) (op : GOp) (g c b : Nat)
    (e : s.pc t = .bOp op g c b) : b = cfg.h (keyD op) % (s.mask + 1) :=
  (h.thread t).bidx op b (by rw [e]; rfl)

theorem SInv.own1 {cfg : Cfg} {s : St} (h : SInv cfg s) :
    ∀ t, s.owner = some t → ownPC (s.pc t) = true ∧ cfg.refinable = true :=
  fun t => (h.thread t).own1

theorem SInv.own2 {cfg : Cfg} {s : St} (h : SInv cfg s) :
    ∀ t, cfg.refinable = true → ownPC (s.pc t) = true → s.owner = some t :=
  fun t => (h.thread t).own2

theorem SInv.excl1 {cfg : Cfg} {s : St} (h : SInv cfg s) (t t' : Tid) (hex : excl (s.pc t') = true)
    (hin : inCell (s.pc t) = true) : False := by
  obtain ⟨g, c, hc⟩ := inCell_cell hin
  have ht' : roleOf (s.pc t') = .resize := roleOf_resize.mpr hex
  have ht : roleOf (s.pc t) = .cell c := roleOf_cell.mpr ⟨hin, g, hc⟩
  by_cases hne : t' = t
  · rw [hne, ht] at ht'; cases ht'
  · have := h.compat t' t hne
    rw [ht', ht] at this; exact this

theorem SInv.exclu {cfg : Cfg} {s : St} (h : SInv cfg s) (t1 t2 : Tid) (h1 : excl (s.pc t1) = true)
    (h2 : excl (s.pc t2) = true) : t1 = t2 :=
  Classical.byContradiction fun hne => by
    have := h.compat t1 t2 hne
    rw [roleOf_resize.mpr h1, roleOf_resize.mpr h2] at this; exact this

theorem SInv.dvd {cfg : Cfg} {s : St} (h : SInv cfg s) : cfg.cap0 ∣ s.mask + 1 := h.mem.dvd

theorem SInv.pow2 {cfg : Cfg} {s : St} (h : SInv cfg s) : ∃ e, s.mask + 1 = 2 ^ e := h.mem.pow2

theorem SInv.place {cfg : Cfg} {s : St} (h : SInv cfg s) : Placed cfg.h (s.mask + 1) s.bkt := h.mem.place

theorem SInv.uniq {cfg : Cfg} {s : St} (h : SInv cfg s) : ∀ b, KeyUniq (s.bkt b) := h.mem.uniq

/-! ### Closing one clause of `SInv` for a post-state by search -/

macro "inv_all" h:ident : tactic =>
  `(tactic| (have := SInv.mem $h; have := SInv.thread $h; have := SInv.compat $h))

macro "sgrind" : tactic =>
  `(tactic| grind [upd, upd2, cellOf, inCell, excl, ownPC, refOnly, strOnly, accPC, opOf, retOf, opCell, oldOf, preSwap, midSwap])
macro "sgrind_big" : tactic =>
  `(tactic| grind (instances := 6000) (splits := 14) [upd, upd2, cellOf, inCell, excl, ownPC, refOnly, strOnly, accPC, opOf, retOf, opCell, oldOf, preSwap, midSwap])

/- `pg h X` closes clause `X` of `SInv` for the post-state: the clause is unchanged or has been prepared as a hypothesis,
   or `grind` proves it from the same clause of the pre-state, or from the whole invariant. -/
open Lean in
macro "pg" h:ident x:ident : tactic => do
  let f := mkIdent (`CdsVerif.Algo.Striped.SInv ++ x.getId.eraseMacroScopes)
  `(tactic| focus (first
    | ((try dsimp only); first | exact $f $h | assumption)
    | (intros; have := $f $h; (try dsimp only at *); first | done | sgrind)
    | (intros; inv_all $h; (try dsimp only at *); first | done | sgrind_big)))

end CdsVerif.Algo.Striped
