/-
  Rules for proving that a step preserves `SInv`.

  A step of thread `t` rewrites `s.pc t` only, so after it
    * the other threads' `TInv` has to survive the change of the memory (`TInv.keep`: a thread notices only what
      `Keeps` lists),
    * `TInv` has to be established for the new program counter of `t`,
    * the role of the new program counter has to be compatible with the roles of the others (nothing to prove if the
      role is the old one or none).
  `SInv.frame` is this rule; `SInv.move`, `SInv.lock`, `SInv.unlock`, `SInv.enter` are its instances
  for the kinds of step the machine has many of.
-/
import CdsVerif.Algo.Striped.Inv
namespace CdsVerif.Algo.Striped
open CdsVerif.Machine CdsVerif.Spec

/-- thread `t` takes the lock of cell ( g, c ) -/
def Mem.lock (m : Mem) (g c : Nat) (t : Tid) : Mem :=
  { m with lk := upd2 m.lk g c true, holder := upd2 m.holder g c (some t) }

/-- the lock of cell ( g, c ) is released -/
def Mem.unlock (m : Mem) (g c : Nat) : Mem :=
  { m with lk := upd2 m.lk g c false, holder := upd2 m.holder g c none }

theorem HoldsAt.cell {cfg : Cfg} {n : Nat} {pc : PC} {g c : Nat} (e : cellOf pc = some (g, c)) : HoldsAt cfg n pc g c :=
  Or.inl e

theorem HoldsAt.locking {cfg : Cfg} {n : Nat} {pc : PC} {i c : Nat} (e : lockingTo pc = some i) (hc : c < i) :
    HoldsAt cfg n pc 0 c :=
  Or.inr ⟨rfl, Or.inl ⟨i, e, hc⟩⟩

theorem HoldsAt.resizing {cfg : Cfg} {n : Nat} {pc : PC} {c : Nat} (hr : cfg.refinable = false) (hex : excl pc = true)
    (hc : c < n) : HoldsAt cfg n pc 0 c :=
  Or.inr ⟨rfl, Or.inr (Or.inl ⟨hr, hex, hc⟩)⟩

theorem HoldsAt.unlocking {cfg : Cfg} {n : Nat} {pc : PC} {i c : Nat} (e : unlockingFrom pc = some i) (h1 : i ≤ c)
    (h2 : c < n) : HoldsAt cfg n pc 0 c :=
  Or.inr ⟨rfl, Or.inr (Or.inr ⟨i, e, h1, h2⟩)⟩

/-- at a program point outside the striping resize, the thread holds its own cell only -/
theorem HoldsAt.of_cell {cfg : Cfg} {n : Nat} {pc : PC} {g c : Nat} (h : HoldsAt cfg n pc g c)
    (h1 : lockingTo pc = none) (h2 : excl pc = false) (h3 : unlockingFrom pc = none) : cellOf pc = some (g, c) := by
  rcases h with e | ⟨-, ⟨i, e, -⟩ | ⟨-, e, -⟩ | ⟨i, e, -⟩⟩
  · exact e
  · rw [h1] at e; cases e
  · rw [h2] at e; cases e
  · rw [h3] at e; cases e

theorem HoldsAt.of_locking {cfg : Cfg} {n : Nat} {pc : PC} {g c i : Nat} (h : HoldsAt cfg n pc g c)
    (h0 : cellOf pc = none) (h1 : lockingTo pc = some i) (h2 : excl pc = false) (h3 : unlockingFrom pc = none) :
    g = 0 ∧ c < i := by
  rcases h with e | ⟨hg, ⟨j, e, hc⟩ | ⟨-, e, -⟩ | ⟨j, e, -⟩⟩
  · rw [h0] at e; cases e
  · rw [h1] at e; cases e; exact ⟨hg, hc⟩
  · rw [h2] at e; cases e
  · rw [h3] at e; cases e

theorem HoldsAt.of_resizing {cfg : Cfg} {n : Nat} {pc : PC} {g c : Nat} (h : HoldsAt cfg n pc g c)
    (h0 : cellOf pc = none) (h1 : lockingTo pc = none) (h3 : unlockingFrom pc = none) :
    g = 0 ∧ cfg.refinable = false ∧ c < n := by
  rcases h with e | ⟨hg, ⟨j, e, -⟩ | ⟨hr, -, hc⟩ | ⟨j, e, -⟩⟩
  · rw [h0] at e; cases e
  · rw [h1] at e; cases e
  · exact ⟨hg, hr, hc⟩
  · rw [h3] at e; cases e

theorem HoldsAt.of_unlocking {cfg : Cfg} {n : Nat} {pc : PC} {g c i : Nat} (h : HoldsAt cfg n pc g c)
    (h0 : cellOf pc = none) (h1 : lockingTo pc = none) (h2 : excl pc = false) (h3 : unlockingFrom pc = some i) :
    g = 0 ∧ i ≤ c ∧ c < n := by
  rcases h with e | ⟨hg, ⟨j, e, -⟩ | ⟨-, e, -⟩ | ⟨j, e, hc⟩⟩
  · rw [h0] at e; cases e
  · rw [h1] at e; cases e
  · rw [h2] at e; cases e
  · rw [h3] at e; cases e; exact ⟨hg, hc⟩

theorem Compat.symm {a b : Role} (h : Compat a b) : Compat b a := by
  cases a <;> cases b <;> exact h

/-- The rule for one step of thread `t` to program counter `q`. -/
theorem SInv.frame {cfg : Cfg} {s : St} {t : Tid} {q : PC} (h : SInv cfg s) (s' : St) (hpc : s'.pc = upd s.pc t q)
    (hM : MInv cfg s'.mem)
    (hT : TInv cfg s'.mem t q)
    (hO : ∀ u, u ≠ t → TInv cfg s'.mem u (s.pc u))
    (hC : ∀ u, u ≠ t → Compat (roleOf q) (roleOf (s.pc u))) : SInv cfg s' :=
  ⟨hM, hpc ▸ forall_upd hT hO, fun _ _ huv =>
    hpc ▸ pairs_upd (E := fun p q => Compat (roleOf p) (roleOf q)) Compat.symm h.compat hC huv⟩

/-- The role of the program counter `p` of `t` is compatible with the others; so is the same role at another one. -/
theorem SInv.compat_same {cfg : Cfg} {s : St} {t : Tid} {p q : PC} (h : SInv cfg s) (hpc : s.pc t = p)
    (e : roleOf q = roleOf p) : ∀ u, u ≠ t → Compat (roleOf q) (roleOf (s.pc u)) :=
  fun u hu => by rw [e, ← hpc]; exact h.compat t u (Ne.symm hu)

/-! ### What a thread notices of a change of the memory -/

/-- The memory changes from `m` to `m'` in a way thread `u` at `pc` does not notice: it keeps the locks it holds, lock
    arrays are only added, `m_Owner` and `m_access` name `u` as before; for the owner and for a thread inside a cell
    section the current lock array, the array in preparation and the table size stay as they are. -/
structure Keeps (m m' : Mem) (u : Tid) (pc : PC) : Prop where
  holder : ∀ g c, m.holder g c = some u → m'.holder g c = some u
  gen : m.gen ≤ m'.gen
  asz : ∀ g, g ≤ m.gen → m'.asz g = m.asz g
  owner : m'.owner = some u ↔ m.owner = some u
  accBy : m.accBy = some u → m'.accBy = some u
  crit : inCell pc = true ∨ ownPC pc = true → m'.gen = m.gen ∧ m'.mask = m.mask
  prep : preSwap pc = true → m'.asz (m.gen + 1) = m.asz (m.gen + 1)

theorem TInv.keep {cfg : Cfg} {m m' : Mem} {u : Tid} {pc : PC} (h : TInv cfg m u pc) (k : Keeps m m' u pc) :
    TInv cfg m' u pc where
  pol_r := h.pol_r
  pol_s := h.pol_s
  held := fun g c hh => k.holder g c (h.held g c (k.asz 0 (Nat.zero_le _) ▸ hh))
  cell := fun g c e =>
    have := h.cell g c e
    ⟨Nat.le_trans this.1 k.gen, k.asz g this.1 ▸ this.2⟩
  lkto := fun i e => k.asz 0 (Nat.zero_le _) ▸ h.lkto i e
  unlfrom := fun i e => k.asz 0 (Nat.zero_le _) ▸ h.unlfrom i e
  garr := fun g e => Nat.le_trans (h.garr g e) k.gen
  own1 := fun e => h.own1 (k.owner.mp e)
  own2 := fun hr ho => k.owner.mpr (h.own2 hr ho)
  acc2 := fun e => k.accBy (h.acc2 e)
  sweep := fun g i e => by
    obtain ⟨hg, -⟩ := k.crit (Or.inr (sweepOf_own e))
    have := h.sweep g i e
    rw [hg, k.asz g (Nat.le_of_eq this.1)]; exact this
  cgen := fun g c hin e => (k.crit (Or.inl hin)).1 ▸ h.cgen g c hin e
  ckey := fun op g c e => k.asz g (h.cell g c (opCell_cell e)).1 ▸ h.ckey op g c e
  bidx := fun op b e => (k.crit (Or.inl (bktOf_inCell e))).2 ▸ h.bidx op b e
  okop := h.okop
  oldm := fun old e => (k.crit (Or.inr (excl_own (oldOf_excl e)))).2 ▸ h.oldm old e
  oldc := fun oc e => (k.crit (Or.inr (ocOf_own e))).2 ▸ h.oldc oc e
  newsz := fun old hp e => by
    obtain ⟨hg, -⟩ := k.crit (Or.inr (excl_own (preSwap_excl hp)))
    rw [hg, k.prep hp]; exact h.newsz old hp e
  rs_own := fun hr ho hm => by
    obtain ⟨hg, hk⟩ := k.crit (Or.inr ho)
    rw [hg, hk, k.asz m.gen (Nat.le_refl _)]; exact h.rs_own hr ho hm
  rs_mid := fun old hr hm e => by
    obtain ⟨hg, -⟩ := k.crit (Or.inr (excl_own (midSwap_excl hm)))
    rw [hg, k.asz m.gen (Nat.le_refl _)]; exact h.rs_mid old hr hm e
  rs_cell := fun hr hin => by
    obtain ⟨hg, hk⟩ := k.crit (Or.inl hin)
    rw [hg, hk, k.asz m.gen (Nat.le_refl _)]; exact h.rs_cell hr hin

theorem Keeps.rfl {m : Mem} {u : Tid} {pc : PC} : Keeps m m u pc :=
  ⟨fun _ _ e => e, Nat.le_refl _, fun _ _ => Eq.refl _, Iff.rfl, id, fun _ => ⟨Eq.refl _, Eq.refl _⟩, fun _ => Eq.refl _⟩

/-- Taking a free lock: every thread keeps what it holds. -/
theorem Keeps.lock {cfg : Cfg} {m : Mem} (hM : MInv cfg m) {g c : Nat} (hfree : m.lk g c = false) (t u : Tid) (pc : PC) :
    Keeps m (m.lock g c t) u pc :=
  { Keeps.rfl with
    holder := fun g' c' e => by
      have hne : ¬ (g' = g ∧ c' = c) := fun ⟨e1, e2⟩ => by
        rw [e1, e2] at e
        exact Bool.false_ne_true (hfree ▸ hM.l1 g c u e)
      exact (upd2_other _ _ _ _ _ _ hne).trans e }

/-- Releasing a lock that thread `t` holds: the other threads keep what they hold. -/
theorem Keeps.unlock {m : Mem} {g c : Nat} {t u : Tid} (hheld : m.holder g c = some t) (hu : u ≠ t) (pc : PC) :
    Keeps m (m.unlock g c) u pc :=
  { Keeps.rfl with
    holder := fun g' c' e => by
      have hne : ¬ (g' = g ∧ c' = c) := fun ⟨e1, e2⟩ => by
        rw [e1, e2, hheld] at e
        exact hu (Option.some.inj e).symm
      exact (upd2_other _ _ _ _ _ _ hne).trans e }

/-! ### Instances of the frame rule -/

/-- A step that only moves the program counter of `t`. -/
theorem SInv.move {cfg : Cfg} {s : St} {t : Tid} {q : PC} (h : SInv cfg s) (hT : TInv cfg s.mem t q)
    (hC : ∀ u, u ≠ t → Compat (roleOf q) (roleOf (s.pc u))) : SInv cfg { s with pc := upd s.pc t q } :=
  h.frame _ rfl h.mem hT (fun u _ => h.thread u) hC

theorem MInv.lock {cfg : Cfg} {m : Mem} (hM : MInv cfg m) {g c : Nat} (hg : g ≤ m.gen) (t : Tid) :
    MInv cfg (m.lock g c t) :=
  { hM with
    l1 := fun g' c' u e => by
      by_cases hc : g' = g ∧ c' = c
      · rw [hc.1, hc.2]; exact upd2_same _ _ _ _
      · rw [show (m.lock g c t).lk g' c' = m.lk g' c' from upd2_other _ _ _ _ _ _ hc]
        rw [show (m.lock g c t).holder g' c' = m.holder g' c' from upd2_other _ _ _ _ _ _ hc] at e
        exact hM.l1 g' c' u e
    fut := fun g' c' u e => by
      by_cases hc : g' = g ∧ c' = c
      · rw [hc.1]; exact hg
      · rw [show (m.lock g c t).holder g' c' = m.holder g' c' from upd2_other _ _ _ _ _ _ hc] at e
        exact hM.fut g' c' u e }

theorem MInv.unlock {cfg : Cfg} {m : Mem} (hM : MInv cfg m) (g c : Nat) : MInv cfg (m.unlock g c) :=
  { hM with
    l1 := fun g' c' u e => by
      by_cases hc : g' = g ∧ c' = c
      · rw [hc.1, hc.2, show (m.unlock g c).holder g c = none from upd2_same _ _ _ _] at e; cases e
      · rw [show (m.unlock g c).lk g' c' = m.lk g' c' from upd2_other _ _ _ _ _ _ hc]
        rw [show (m.unlock g c).holder g' c' = m.holder g' c' from upd2_other _ _ _ _ _ _ hc] at e
        exact hM.l1 g' c' u e
    fut := fun g' c' u e => by
      by_cases hc : g' = g ∧ c' = c
      · rw [hc.1, hc.2, show (m.unlock g c).holder g c = none from upd2_same _ _ _ _] at e; cases e
      · rw [show (m.unlock g c).holder g' c' = m.holder g' c' from upd2_other _ _ _ _ _ _ hc] at e
        exact hM.fut g' c' u e }

/-- Thread `t` takes the free lock of cell ( g, c ) of an existing lock array. -/
theorem SInv.lock {cfg : Cfg} {s : St} {t : Tid} {q : PC} {g c : Nat} (h : SInv cfg s) (hg : g ≤ s.gen)
    (hfree : s.lk g c = false) (hT : TInv cfg (s.mem.lock g c t) t q)
    (hC : ∀ u, u ≠ t → Compat (roleOf q) (roleOf (s.pc u))) :
    SInv cfg { s with lk := upd2 s.lk g c true, holder := upd2 s.holder g c (some t), pc := upd s.pc t q } :=
  h.frame _ rfl (h.mem.lock hg t) hT (fun u _ => (h.thread u).keep (Keeps.lock h.mem hfree t u _)) hC

/-- Thread `t` releases the lock of cell ( g, c ), which it holds. -/
theorem SInv.unlock {cfg : Cfg} {s : St} {t : Tid} {q : PC} {g c : Nat} (h : SInv cfg s)
    (hheld : s.holder g c = some t) (hT : TInv cfg (s.mem.unlock g c) t q)
    (hC : ∀ u, u ≠ t → Compat (roleOf q) (roleOf (s.pc u))) :
    SInv cfg { s with lk := upd2 s.lk g c false, holder := upd2 s.holder g c none, pc := upd s.pc t q } :=
  h.frame _ rfl (h.mem.unlock g c) hT (fun u hu => (h.thread u).keep (Keeps.unlock hheld hu _)) hC

/-- thread `t` enters the `m_access` section -/
def Mem.enter (m : Mem) (t : Tid) : Mem := { m with access := true, accBy := some t }

/-- Thread `t` takes the free spin lock `m_access`. -/
theorem SInv.enter {cfg : Cfg} {s : St} {t : Tid} {q : PC} (h : SInv cfg s) (hfree : s.access = false)
    (hT : TInv cfg (s.mem.enter t) t q) (hC : ∀ u, u ≠ t → Compat (roleOf q) (roleOf (s.pc u))) :
    SInv cfg { s with access := true, accBy := some t, pc := upd s.pc t q } :=
  h.frame _ rfl { h.mem with acc1 := fun _ _ => rfl } hT
    (fun u _ => (h.thread u).keep
      { Keeps.rfl with accBy := fun e => absurd (hfree ▸ h.mem.acc1 u e) Bool.false_ne_true })
    hC

/-! ### Threads that do not notice what the owner and the resizer do -/

/-- Under the refinable policy with `m_Owner = 0` no thread is at an owner's program point. -/
theorem SInv.no_owner {cfg : Cfg} {s : St} (h : SInv cfg s) (hr : cfg.refinable = true) (hn : s.owner = none) (u : Tid) :
    ownPC (s.pc u) = false := by
  cases ho : ownPC (s.pc u) with
  | false => rfl
  | true => exact nomatch hn.symm.trans (h.own2 u hr ho)

/-- While `t` has the resize lock, no other thread is inside a cell section or at an owner's program point. -/
theorem SInv.alone {cfg : Cfg} {s : St} {t u : Tid} (h : SInv cfg s) (hex : excl (s.pc t) = true) (hu : u ≠ t) :
    ¬ (inCell (s.pc u) = true ∨ ownPC (s.pc u) = true) := by
  rintro (hin | ho)
  · exact h.excl1 u t hex hin
  · rcases own_excl_or_ref ho with hx | hx
    · exact hu (h.exclu u t hx hex)
    · have hr := (h.thread u).pol_r hx
      exact hu (Option.some.inj ((h.own2 u hr ho).symm.trans (h.own2 t hr (excl_own hex))))

/-- A thread that is not at an owner's program point is compatible with a cell section. -/
theorem compat_cell {pc : PC} (h : ownPC pc = false) (c : Nat) : Compat (.cell c) (roleOf pc) := by
  cases pc <;> simp [ownPC] at h <;> trivial

theorem compat_sweep_zero (r : Role) : Compat (.sweep 0) r := by
  cases r with
  | cell c => exact Nat.zero_le c
  | _ => trivial

end CdsVerif.Algo.Striped
