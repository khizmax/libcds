/-
  Preservation of the StripedSet invariant (`Inv.lean`): `resize()` under both policies — `lock_all` / `unlock_all`
  (striping), `acquire_resize` with its sweep over the old lock array, the replacement of the lock array and
  `release_resize` (refinable), and `internal_resize` (the rehash is `sinv_step_zMask`).
-/
import CdsVerif.Algo.Striped.Thread
namespace CdsVerif.Algo.Striped
open CdsVerif.Machine CdsVerif.Spec

variable {cfg : Cfg} {s s' : St} {t : Tid} {ev : Ev}

theorem sinv_step_zOld {r : GRet}
    (h : SInv cfg s) (hpc : s.pc t = .zOld r) (hs : step cfg s t = some (s', ev)) : SInv cfg s' := by
  have hT := hpc ▸ h.thread t
  simp only [step, hpc] at hs
  cases hs
  refine h.move ?_ (by split <;> exact fun _ _ => trivial)
  split
  next hr => exact { hT with pol_r := fun _ => hr }
  next hr =>
    exact { hT with
      pol_s := fun _ => by simpa using hr
      held := fun g c hh => absurd (hh.of_locking rfl rfl rfl rfl).2 (Nat.not_lt_zero c)
      lkto := fun i e => by cases e; exact h.mem.aszpos 0 (Nat.zero_le _) }

/-- `lock_all`: with the last cell every cell is locked by `t`, so nobody is inside a cell section or holds them all. -/
theorem sinv_step_zLk {r : GRet} {old i : Nat}
    (h : SInv cfg s) (hpc : s.pc t = .zLk r old i) (hs : step cfg s t = some (s', ev)) : SInv cfg s' := by
  have hT := hpc ▸ h.thread t
  have hstr := hT.pol_s rfl
  have hi : i < s.asz 0 := hT.lkto i rfl
  simp only [step, hpc] at hs
  split at hs
  next =>
    cases hs
    exact h.move { hT with } (fun _ _ => trivial)
  next hl =>
    cases hs
    have hfree : s.lk 0 i = false := by simpa using hl
    have hheld : ∀ c, c < i + 1 → upd2 s.holder 0 i (some t) 0 c = some t := fun c hc => by
      by_cases hci : c = i
      · rw [hci]; exact upd2_same _ _ _ _
      · exact (upd2_other _ _ _ _ _ _ (fun e => hci e.2)).trans (hT.held 0 c (.locking rfl (by omega)))
    by_cases hlt : i + 1 < s.asz 0
    · rw [if_pos hlt]
      exact h.lock (q := .zLk r old (i + 1)) (Nat.zero_le _) hfree
        { hT with
          held := fun g c hh => by obtain ⟨rfl, hc⟩ := hh.of_locking rfl rfl rfl rfl; exact hheld c hc
          lkto := fun _ e => by cases e; exact hlt }
        (fun _ _ => trivial)
    · rw [if_neg hlt]
      refine h.lock (q := .zChk r old) (Nat.zero_le _) hfree
        { hT with
          pol_s := nofun
          held := fun g c hh => by
            obtain ⟨rfl, -, hc⟩ := hh.of_resizing rfl rfl rfl
            have hc' : c < s.asz 0 := hc
            exact hheld c (by omega)
          lkto := nofun
          own1 := fun e => nomatch (h.mem.str0 hstr).2.symm.trans e
          own2 := fun hr => absurd hr (by simp [hstr])
          rs_own := fun hr => absurd hr (by simp [hstr]) }
        (fun u hu => ?_)
      cases hr : roleOf (s.pc u) with
      | none => trivial
      | sweep j => trivial
      | cell c =>
        obtain ⟨hin, g, hc⟩ := roleOf_cell.mp hr
        have hu1 := (h.thread u).held g c (.cell hc)
        have hu2 : g ≤ s.gen ∧ c < s.asz g := (h.thread u).cell g c hc
        have hg : g = 0 := by have : s.gen = 0 := (h.mem.str0 hstr).1; omega
        subst hg
        by_cases hci : c < i
        · have := hT.held 0 c (.locking rfl hci)
          exact hu (Option.some.inj (hu1.symm.trans this))
        · have hci' : c = i := by omega
          subst hci'
          exact Bool.false_ne_true (hfree ▸ h.mem.l1 0 c u hu1)
      | resize =>
        have := (h.thread u).held 0 i (.resizing hstr (roleOf_resize.mp hr) hi)
        exact Bool.false_ne_true (hfree ▸ h.mem.l1 _ _ _ this)

/-- `acquire_resize`: a successful CAS on `m_Owner` starts the sweep at cell 0 of the current lock array. -/
theorem sinv_step_zCas {r : GRet} {old att : Nat}
    (h : SInv cfg s) (hpc : s.pc t = .zCas r old att) (hs : step cfg s t = some (s', ev)) : SInv cfg s' := by
  have hT := hpc ▸ h.thread t
  have hr := hT.pol_r rfl
  simp only [step, hpc] at hs
  split at hs
  next hnone =>
    cases hs
    exact h.frame (q := .zTry r old s.gen 0) _ rfl
      { h.mem with str0 := fun hr' => absurd hr (by simp [hr']), rs_none := fun _ => nofun }
      { hT with
        own1 := fun _ => ⟨rfl, hr⟩
        own2 := fun _ _ => rfl
        sweep := fun _ _ e => by cases e; exact ⟨rfl, h.mem.aszpos _ (Nat.le_refl _)⟩
        rs_own := fun _ _ _ => h.mem.rs_none hr hnone }
      (fun u hu => (h.thread u).keep
        { Keeps.rfl with
          owner := ⟨fun e => absurd (Option.some.inj e) (Ne.symm hu), fun e => nomatch hnone.symm.trans e⟩ })
      (fun _ _ => compat_sweep_zero _)
  next u hu =>
    cases hs
    refine h.move ?_ (by split <;> exact fun _ _ => trivial)
    split
    · exact { hT with }
    · exact { hT with pol_r := nofun }

theorem sinv_step_zTry {r : GRet} {old g i : Nat}
    (h : SInv cfg s) (hpc : s.pc t = .zTry r old g i) (hs : step cfg s t = some (s', ev)) : SInv cfg s' := by
  have hT := hpc ▸ h.thread t
  have hsw := hT.sweep g i rfl
  simp only [step, hpc] at hs
  split at hs
  next =>
    cases hs
    exact h
  next hl =>
    cases hs
    exact h.lock (q := .zTryU r old g i) (Nat.le_of_eq hsw.1) (by simpa using hl)
      { hT with
        held := fun _ _ hh => by cases hh.of_cell rfl rfl rfl; exact upd2_same _ _ _ _
        cell := fun _ _ e => by cases e; exact ⟨Nat.le_of_eq hsw.1, hsw.2⟩
        cgen := nofun }
      (h.compat_same hpc rfl)

/-- The sweep moves on: a thread inside a cell section holds a cell of the current array at or beyond `i`, and it is
    not cell `i`, which `t` holds.  After the last cell no such thread is left. -/
theorem sinv_step_zTryU {r : GRet} {old g i : Nat}
    (h : SInv cfg s) (hpc : s.pc t = .zTryU r old g i) (hs : step cfg s t = some (s', ev)) : SInv cfg s' := by
  have hT := hpc ▸ h.thread t
  have hr := hT.pol_r rfl
  have hsw : g = s.gen ∧ i < s.asz g := hT.sweep g i rfl
  have hheld : s.holder g i = some t := hT.held g i (.cell rfl)
  simp only [step, hpc] at hs
  cases hs
  have hne : ∀ u, u ≠ t → ∀ c, roleOf (s.pc u) = .cell c → i + 1 ≤ c ∧ c < s.asz g := by
    intro u hu c hc
    obtain ⟨hin, g2, hcell⟩ := roleOf_cell.mp hc
    have h1 : i ≤ c := by
      have := h.compat t u (Ne.symm hu)
      rw [hpc, hc] at this
      exact this
    have hg : g2 = g := ((h.thread u).cgen g2 c hin hcell).trans hsw.1.symm
    have h2 : s.holder g2 c = some u := (h.thread u).held g2 c (.cell hcell)
    have h3 : c < s.asz g2 := ((h.thread u).cell g2 c hcell).2
    rw [hg] at h2 h3
    have hci : c ≠ i := fun e => by
      rw [e] at h2
      exact hu (Option.some.inj (h2.symm.trans hheld))
    exact ⟨by omega, h3⟩
  by_cases hl : i + 1 < s.asz g
  · rw [if_pos hl]
    refine h.unlock (q := .zTry r old g (i + 1)) hheld
      { hT with
        held := fun _ _ hh => (nomatch hh.of_cell rfl rfl rfl)
        cell := nofun
        sweep := fun _ _ e => by cases e; exact ⟨hsw.1, hl⟩
        cgen := nofun }
      (fun u hu => ?_)
    cases hc : roleOf (s.pc u) with
    | cell c => exact (hne u hu c hc).1
    | _ => trivial
  · rw [if_neg hl]
    refine h.unlock (q := .zChk r old) hheld
      { hT with
        pol_r := nofun
        held := fun _ _ hh => absurd (hh.of_resizing rfl rfl rfl).2.1 (by simp [hr])
        cell := nofun
        sweep := nofun
        cgen := nofun }
      (fun u hu => ?_)
    cases hc : roleOf (s.pc u) with
    | none => trivial
    | sweep j => trivial
    | cell c =>
      have := hne u hu c hc
      show False
      omega
    | resize =>
      have h1 := h.own2 u hr (excl_own (roleOf_resize.mp hc))
      exact hu (Option.some.inj (h1.symm.trans (hT.own2 hr rfl)))

/-- Leaving the resize: the refinable owner goes on to `release_resize`, the striping resizer to `unlock_all`. -/
theorem TInv.afterResize {cfg : Cfg} {m : Mem} {t : Tid} {r : GRet} {old : Nat} (hT : TInv cfg m t (.zChk r old))
    (hM : MInv cfg m) : TInv cfg m t (afterResize cfg r) := by
  unfold Striped.afterResize
  split
  next hr =>
    exact { hT with pol_r := fun _ => hr, held := fun _ _ hh => (nomatch hh.of_cell rfl rfl rfl) }
  next hr =>
    have hr' : cfg.refinable = false := by simpa using hr
    exact { hT with
      pol_s := fun _ => hr'
      held := fun g c hh => by
        obtain ⟨rfl, -, hc⟩ := hh.of_unlocking rfl rfl rfl rfl
        exact hT.held 0 c (.resizing hr' rfl hc)
      unlfrom := fun _ e => by cases e; exact hM.aszpos 0 (Nat.zero_le _)
      own1 := fun e => nomatch (hM.str0 hr').2.symm.trans e
      own2 := fun _ => nofun
      rs_own := fun _ => nofun }

theorem roleOf_afterResize (cfg : Cfg) (r : GRet) : roleOf (afterResize cfg r) = .none := by
  unfold afterResize
  split <;> rfl

theorem sinv_step_zChk {r : GRet} {old : Nat}
    (h : SInv cfg s) (hpc : s.pc t = .zChk r old) (hs : step cfg s t = some (s', ev)) : SInv cfg s' := by
  have hT := hpc ▸ h.thread t
  simp only [step, hpc] at hs
  cases hs
  by_cases ho : old = s.mask + 1
  · rw [if_pos ho]
    refine h.move ?_ (by split <;> exact h.compat_same hpc rfl)
    split
    next hr =>
      exact { hT with
        pol_r := fun _ => hr
        oldm := fun _ e => by cases e; exact ho
        newsz := fun _ => nofun
        rs_mid := fun _ _ => nofun }
    next hr =>
      exact { hT with
        oldm := fun _ e => by cases e; exact ho
        newsz := fun _ => nofun
        rs_own := fun hr' => absurd hr' hr
        rs_mid := fun _ hr' => absurd hr' hr }
  · rw [if_neg ho]
    exact h.move (hT.afterResize h.mem) (fun _ _ => roleOf_afterResize cfg r ▸ trivial)

/-- The new lock array gets its size; only the resizer looks at it before the swap. -/
theorem sinv_step_zCapSt {r : GRet} {old : Nat}
    (h : SInv cfg s) (hpc : s.pc t = .zCapSt r old) (hs : step cfg s t = some (s', ev)) : SInv cfg s' := by
  have hT := hpc ▸ h.thread t
  have hex : excl (s.pc t) = true := by rw [hpc]; rfl
  simp only [step, hpc] at hs
  cases hs
  have hasz : ∀ g, g ≤ s.gen → upd s.asz (s.gen + 1) (2 * old) g = s.asz g :=
    fun g hg => upd_other _ _ _ _ (by omega)
  have hk : ∀ u pc, (preSwap pc = true → False) →
      Keeps s.mem { s.mem with asz := upd s.asz (s.gen + 1) (2 * old) } u pc := fun u pc hp =>
    { Keeps.rfl with asz := hasz, prep := fun e => (hp e).elim }
  exact h.frame (q := .zInit r old 0) _ rfl
    { h.mem with
      asz0 := (hasz 0 (Nat.zero_le _)).trans h.mem.asz0
      aszpos := fun g hg => by
        show 0 < upd s.asz (s.gen + 1) (2 * old) g
        rw [hasz g hg]; exact h.mem.aszpos g hg
      rs_none := fun hr hn => (hasz _ (Nat.le_refl _)).trans (h.mem.rs_none hr hn) }
    { hT.keep (hk t _ nofun) with newsz := fun _ _ e => by cases e; exact upd_same _ _ _ }
    (fun u hu => (h.thread u).keep (hk u _ fun e => h.alone hex hu (Or.inr (excl_own (preSwap_excl e)))))
    (h.compat_same hpc rfl)

theorem sinv_step_zInit {r : GRet} {old i : Nat}
    (h : SInv cfg s) (hpc : s.pc t = .zInit r old i) (hs : step cfg s t = some (s', ev)) : SInv cfg s' := by
  have hT := hpc ▸ h.thread t
  simp only [step, hpc] at hs
  cases hs
  exact h.frame _ rfl
    { h.mem with
      l1 := fun g c u e =>
        (upd2_other _ _ _ _ _ _ (fun e' => by have : g ≤ s.gen := h.mem.fut g c u e; omega)).trans (h.mem.l1 g c u e) }
    (by split <;> exact { hT with }) (fun u _ => { h.thread u with })
    (by split <;> exact h.compat_same hpc rfl)

theorem sinv_step_zAccL {r : GRet} {old : Nat}
    (h : SInv cfg s) (hpc : s.pc t = .zAccL r old) (hs : step cfg s t = some (s', ev)) : SInv cfg s' := by
  have hT := hpc ▸ h.thread t
  simp only [step, hpc] at hs
  split at hs
  next =>
    cases hs
    exact h.move (q := .zAccW r old) { hT with } (h.compat_same hpc rfl)
  next hl =>
    cases hs
    exact h.enter (q := .zAccU r old) (by simpa using hl) { hT with acc2 := fun _ => rfl } (h.compat_same hpc rfl)

/-- The swap of the lock array: the other threads are neither in a cell section nor owners, so they read the
    generation only as a bound. -/
theorem sinv_step_zAccU {r : GRet} {old : Nat}
    (h : SInv cfg s) (hpc : s.pc t = .zAccU r old) (hs : step cfg s t = some (s', ev)) : SInv cfg s' := by
  have hT := hpc ▸ h.thread t
  have hr := hT.pol_r rfl
  have hex : excl (s.pc t) = true := by rw [hpc]; rfl
  have hold := hT.oldm old rfl
  have hnew : s.asz (s.gen + 1) = 2 * old := hT.newsz old rfl rfl
  have hown : s.owner = some t := hT.own2 hr rfl
  have hacc : s.accBy = some t := hT.acc2 rfl
  simp only [step, hpc] at hs
  cases hs
  exact h.frame (q := .zCnt r old) _ rfl
    { h.mem with
      str0 := fun hr' => absurd hr (by simp [hr'])
      aszpos := fun g hg => by
        by_cases hgg : g ≤ s.gen
        · exact h.mem.aszpos g hgg
        · have hg' : g ≤ s.gen + 1 := hg
          have : g = s.gen + 1 := by omega
          show 0 < s.asz g
          rw [this, hnew]; omega
      fut := fun g c u e => Nat.le_succ_of_le (h.mem.fut g c u e)
      acc1 := nofun
      rs_none := fun _ hn => nomatch hown.symm.trans hn }
    { hT with
      pol_r := nofun
      cell := nofun
      garr := nofun
      acc2 := nofun
      sweep := nofun
      cgen := nofun
      newsz := fun _ => nofun
      rs_own := fun _ _ => nofun
      rs_mid := fun _ _ _ e => by cases e; exact hnew
      rs_cell := fun _ => nofun }
    (fun u hu => (h.thread u).keep
      { Keeps.rfl (pc := s.pc u) with
        gen := Nat.le_succ _
        accBy := fun e => absurd (Option.some.inj (hacc.symm.trans e)).symm hu
        crit := fun hx => absurd hx (h.alone hex hu)
        prep := fun hp => absurd (Or.inr (excl_own (preSwap_excl hp))) (h.alone hex hu) })
    (h.compat_same hpc rfl)

theorem sinv_step_zCnt {r : GRet} {old : Nat}
    (h : SInv cfg s) (hpc : s.pc t = .zCnt r old) (hs : step cfg s t = some (s', ev)) : SInv cfg s' := by
  have hT := hpc ▸ h.thread t
  simp only [step, hpc] at hs
  cases hs
  exact h.move (q := .zMask r old (s.mask + 1)) { hT with oldc := fun _ e => by cases e; rfl } (h.compat_same hpc rfl)

/-- The rehash: the table doubles (`rehash_place`, `rehash_uniq`); the other threads do not read the mask. -/
theorem sinv_step_zMask {r : GRet} {old oc : Nat}
    (h : SInv cfg s) (hpc : s.pc t = .zMask r old oc) (hs : step cfg s t = some (s', ev)) : SInv cfg s' := by
  have hT := hpc ▸ h.thread t
  have hex : excl (s.pc t) = true := by rw [hpc]; rfl
  have hold : old = s.mask + 1 := hT.oldm old rfl
  have hoc : oc = s.mask + 1 := hT.oldc oc rfl
  have hm1 : 2 * old - 1 + 1 = 2 * old := by omega
  have hpl : Placed cfg.h oc s.bkt := hoc ▸ h.place
  simp only [step, hpc] at hs
  cases hs
  exact h.frame (q := .zMove r _) _ rfl
    { h.mem with
      rs_none := fun hr hn => nomatch (hT.own2 hr rfl).symm.trans hn
      dvd := by
        show cfg.cap0 ∣ 2 * old - 1 + 1
        rw [hm1, hold]; exact Nat.dvd_trans h.dvd (Nat.dvd_mul_left _ 2)
      pow2 := by
        obtain ⟨e, he⟩ := h.pow2
        exact ⟨e + 1, by show 2 * old - 1 + 1 = 2 ^ (e + 1); rw [hm1, hold, he, Nat.pow_succ]; omega⟩
      place := by
        show Placed cfg.h (2 * old - 1 + 1) _
        rw [hm1]; exact rehash_place cfg.h oc (2 * old) s.bkt
      uniq := rehash_uniq cfg.h oc (2 * old) s.bkt hpl (by omega) (by omega) h.uniq }
    { hT with
      bidx := nofun
      oldm := nofun
      oldc := nofun
      newsz := fun _ => nofun
      rs_own := fun hr _ _ => by
        show s.asz s.gen = 2 * old - 1 + 1
        rw [hm1]; exact hT.rs_mid old hr rfl rfl
      rs_mid := fun _ _ => nofun
      rs_cell := fun _ => nofun }
    (fun u hu => (h.thread u).keep
      { Keeps.rfl with crit := fun hx => absurd hx (h.alone hex hu) })
    (h.compat_same hpc rfl)

theorem sinv_step_zMove {r : GRet} {n : Nat}
    (h : SInv cfg s) (hpc : s.pc t = .zMove r n) (hs : step cfg s t = some (s', ev)) : SInv cfg s' := by
  have hT := hpc ▸ h.thread t
  simp only [step, hpc] at hs
  cases n with
  | succ n' =>
    cases hs
    exact h.move (q := .zMove r n') { hT with } (h.compat_same hpc rfl)
  | zero =>
    cases hs
    exact h.move (TInv.afterResize (old := 0) { hT with } h.mem) (fun _ _ => roleOf_afterResize cfg r ▸ trivial)

/-- `release_resize`: the owner was past the swap, so the current lock array has the size of the table. -/
theorem sinv_step_zRelO {r : GRet}
    (h : SInv cfg s) (hpc : s.pc t = .zRelO r) (hs : step cfg s t = some (s', ev)) : SInv cfg s' := by
  have hT := hpc ▸ h.thread t
  have hr := hT.pol_r rfl
  have hown : s.owner = some t := hT.own2 hr rfl
  simp only [step, hpc] at hs
  cases hs
  exact h.frame (q := .done r) _ rfl
    { h.mem with
      str0 := fun hr' => ⟨(h.mem.str0 hr').1, rfl⟩
      rs_none := fun hr _ => hT.rs_own hr rfl rfl }
    { hT with pol_r := nofun, own1 := nofun, own2 := fun _ => nofun, rs_own := fun _ => nofun }
    (fun u hu => (h.thread u).keep
      { Keeps.rfl with owner := ⟨nofun, fun e => absurd (Option.some.inj (hown.symm.trans e)).symm hu⟩ })
    (fun _ _ => trivial)

theorem sinv_step_zUnl {r : GRet} {i : Nat}
    (h : SInv cfg s) (hpc : s.pc t = .zUnl r i) (hs : step cfg s t = some (s', ev)) : SInv cfg s' := by
  have hT := hpc ▸ h.thread t
  have hi := hT.unlfrom i rfl
  have hheld := hT.held 0 i (.unlocking rfl (Nat.le_refl _) hi)
  simp only [step, hpc] at hs
  cases hs
  by_cases hl : i + 1 < s.asz 0
  · rw [if_pos hl]
    exact h.unlock (q := .zUnl r (i + 1)) hheld
      { hT with
        held := fun g c hh => by
          obtain ⟨rfl, h1, h2⟩ := hh.of_unlocking rfl rfl rfl rfl
          exact (upd2_other _ _ _ _ _ _ (fun e => by omega)).trans (hT.held 0 c (.unlocking rfl (by omega) h2))
        unlfrom := fun _ e => by cases e; exact hl }
      (fun _ _ => trivial)
  · rw [if_neg hl]
    exact h.unlock (q := .done r) hheld
      { hT with pol_s := nofun, held := fun _ _ hh => (nomatch hh.of_cell rfl rfl rfl), unlfrom := nofun }
      (fun _ _ => trivial)

end CdsVerif.Algo.Striped
