/-
  Linearizability of the StripedSet model (property C16, both mutex policies) with respect to the sequential map
  `Spec.map`.

  Linearization point of EVERY operation (insert, update, erase, find, contains; successful or not): its bucket step
  `bOp`, executed under the cell lock.  At that step the thread's result becomes fixed (`retOf`), the bucket
  `h key % capacity` evolves by `Spec.mapStep`, and — because every key lives in exactly that bucket (`SInv.place`, which
  rests on the lock discipline: the bucket index was computed from the CURRENT mask, `SInv.bidx`) — the abstract map
  `look` evolves by the same `Spec.map` transition (`bOp_refines`).  Every other step leaves the abstract map unchanged;
  for the rehash step this is `rehash_step` (no element lost or duplicated).

  The ghost-log construction of `Base/LPLin.lean` turns this into linearizability of every run, with completion of
  pending operations.
-/
import CdsVerif.Algo.Striped.Log
import CdsVerif.Base.LPLin
namespace CdsVerif.Algo.Striped
open CdsVerif.Machine CdsVerif.Spec CdsVerif.Lin

/-! ### What a step does to the program counter of its thread -/

theorem step_frame {cfg : Cfg} {s s' : St} {t : Tid} {ev : Ev} (hs : step cfg s t = some (s', ev)) :
    ∀ t2, t2 ≠ t → s'.pc t2 = s.pc t2 := by
  intro t2 ht
  cases hpc : s.pc t
  all_goals (simp only [step, hpc] at hs)
  all_goals (try (simp at hs; done))
  all_goals (try split at hs)
  all_goals (try (simp at hs; done))
  all_goals (simp at hs; obtain ⟨rfl, -⟩ := hs)
  all_goals (first | rfl | simp [upd, ht])

/-- The result is fixed at the bucket step and nowhere else; the operation is remembered until then. -/
theorem step_pc {cfg : Cfg} {s s' : St} {t : Tid} {ev : Ev} (hs : step cfg s t = some (s', ev)) :
    s.pc t ≠ .idle ∧ s'.pc t ≠ .idle ∧
    (∀ r, retOf (s.pc t) = some r → retOf (s'.pc t) = some r) ∧
    (retOf (s'.pc t) = none → opOf (s'.pc t) = opOf (s.pc t)) ∧
    (retOf (s.pc t) = none → ∀ r, retOf (s'.pc t) = some r → ∃ op g c b, s.pc t = .bOp op g c b) := by
  cases hpc : s.pc t
  all_goals (simp only [step, hpc] at hs)
  all_goals (try (simp at hs; done))
  all_goals (try split at hs)
  all_goals (try (simp at hs; done))
  all_goals (simp at hs; obtain ⟨rfl, -⟩ := hs)
  all_goals (try simp only [upd_same, afterUnl, afterResize])
  all_goals (repeat' split)
  all_goals (simp [retOf, opOf, hpc])

/-! ### Refinement: the bucket step is the `Spec.map` transition of the abstract map -/

/-- what the bucket step does -/
theorem bOp_step {cfg : Cfg} {s s' : St} {t : Tid} {ev : Ev} {op : GOp} {g c b : Nat}
    (hpc : s.pc t = .bOp op g c b) (hs : step cfg s t = some (s', ev)) :
    ∃ m' r, mapStep (s.bkt b) op = some (m', r) ∧ s'.bkt = upd s.bkt b m' ∧ s'.mask = s.mask ∧
      retOf (s'.pc t) = some r := by
  simp only [step, hpc] at hs
  split at hs
  · next m' r hm =>
    simp at hs; obtain ⟨rfl, -⟩ := hs
    refine ⟨m', r, hm, rfl, rfl, ?_⟩
    simp only [upd_same]
    split <;> simp [retOf]
  · simp at hs

/-- **The linearization point.**  In a state satisfying the invariant, the bucket step of thread `t` (operation `op`,
    result `r`) is the `Spec.map` transition `op ↦ r` on every sequential map that agrees with the table on all
    lookups, and the new table agrees with the new map. -/
theorem bOp_refines {cfg : Cfg} {s s' : St} {t : Tid} {ev : Ev} {op : GOp} {g c b : Nat} (h : SInv cfg s)
    (hpc : s.pc t = .bOp op g c b) (hs : step cfg s t = some (s', ev)) :
    ∃ r, retOf (s'.pc t) = some r ∧
      ∀ m : MapSt, (∀ k, mfind m k = look cfg s k) →
        ∃ m', Spec.map.next m op r = some m' ∧ ∀ k, mfind m' k = look cfg s' k := by
  obtain ⟨mb, r, hm, hbkt, hmask, hret⟩ := bOp_step hpc hs
  refine ⟨r, hret, ?_⟩
  intro m hag
  obtain ⟨k, hk⟩ := h.okop t op (by simp [hpc, opOf])
  have hkd := keyD_of_okey hk
  have hb := h.bidx t op g c b hpc
  rw [hkd] at hb
  have hko := okey_keyOf hk
  have hmk : mfind m k = mfind (s.bkt b) k := by rw [hag k, look, ← hb]
  obtain ⟨m', hstepm, hmk'⟩ := mapStep_transfer hko hmk hm
  refine ⟨m', (map_next_iff _ _ _ _).mpr hstepm, ?_⟩
  intro k'
  rw [look, hbkt, hmask]
  by_cases hkk : k = k'
  · subst hkk
    rw [← hb, upd_same, hmk']
  · rw [mapStep_frame hko hstepm k' hkk, hag k', look]
    by_cases hh : cfg.h k' % (s.mask + 1) = b
    · rw [hh, upd_same, mapStep_frame hko hm k' hkk]
    · rw [upd_other _ _ _ _ hh]

/-- Every step that is not a bucket step leaves every lookup unchanged (for the rehash: `rehash_step`). -/
theorem other_step_look {cfg : Cfg} {s s' : St} {t : Tid} {ev : Ev} (h : SInv cfg s)
    (hs : step cfg s t = some (s', ev)) (hn : ∀ op g c b, s.pc t ≠ .bOp op g c b) :
    ∀ k, look cfg s' k = look cfg s k := by
  by_cases hz : ∃ r old oc, s.pc t = .zMask r old oc
  · obtain ⟨r, old, oc, hpc⟩ := hz
    exact (rehash_step h hpc hs).2.1
  · have := table_frame hs hn (fun r old oc hpc => hz ⟨r, old, oc, hpc⟩)
    intro k
    simp only [look, this.1, this.2]

/-! ### The machine as an instance of `Base/LPLin.lean` -/

theorem invoke_eff {cfg : Cfg} {s s' : St} {t : Tid} {op : GOp} (hs : invoke cfg s t op = some s') :
    s.pc t = .idle ∧ ∃ pc', s' = { s with pc := upd s.pc t pc' } ∧ opOf pc' = some op ∧ retOf pc' = none := by
  unfold invoke at hs
  split at hs
  · next k hidle hk =>
    simp at hs; subst hs
    refine ⟨hidle, _, rfl, ?_⟩
    split <;> simp [opOf, retOf]
  · simp at hs

theorem result_eff {s s' : St} {t : Tid} {r : GRet} (hs : result s t = some (s', r)) :
    s.pc t = .done r ∧ s' = { s with pc := upd s.pc t .idle } := by
  unfold result at hs
  split at hs
  · next r' hd => simp at hs; obtain ⟨rfl, rfl⟩ := hs; exact ⟨hd, rfl⟩
  · simp at hs

/-- A specification state represents the machine state if it answers every key as the table does (`look`); no
    linearization is tentative. -/
def sys (cfg : Cfg) : LPLin.Sys St MapSt where
  spec := Spec.map
  model := model cfg
  init := init cfg
  Inv := SInv cfg
  Abs := fun m s => ∀ k, mfind m k = look cfg s k
  lpRet := fun s t => retOf (s.pc t)
  postRet := fun s t => retOf (s.pc t)
  opOf := fun s t => opOf (s.pc t)
  inert := fun _ _ => false

theorem sys_ok (cfg : Cfg) (hre : cfg.recheck = true) : (sys cfg).OK where
  inert_ok := by intro op r h; cases h
  inv_init := sinv_init cfg
  abs_init := by intro k; simp [sys, Spec.map, detSpec, init, look, mfind]
  lp_init := by intro t; simp [sys, init, retOf]
  op_init := by intro t; simp [sys, init, opOf]
  post_op := by
    intro s t r _ h
    simp only [sys] at h ⊢
    revert h; cases s.pc t <;> simp [opOf, retOf]
  lp_post := by intro s t r _ h; exact .inl h
  invoke := by
    intro s t op s' hl hs
    obtain ⟨hwas, pc', rfl, hop', hret'⟩ := invoke_eff hs
    refine ⟨sinv_invoke hl hs, ⟨?_, ?_⟩, ?_, ?_, ?_, fun m hm => hm⟩
    · intro t2 ht; simp only [sys, upd, if_neg ht]
    · intro t2 ht; simp only [sys, upd, if_neg ht]
    · simp [sys, hwas, retOf]
    · simp only [sys, upd_same, hop']
    · simp only [sys, upd_same, hret']
  step := by
    intro s t s' ev hl hs
    have hframe := step_frame hs
    obtain ⟨-, -, hkeep, hopk, hlponly⟩ := step_pc hs
    refine ⟨sinv_step hre hl hs, ⟨?_, ?_⟩, ?_, ?_, fun r hr => .inl (hkeep r hr), hopk⟩
    · intro t2 ht; simp only [sys]; rw [hframe t2 ht]
    · intro t2 ht; simp only [sys]; rw [hframe t2 ht]
    · -- the bucket step: linearization point
      intro h1 r h2
      obtain ⟨op, g, c, b, hpc⟩ := hlponly h1 r h2
      obtain ⟨r', hr', hnext⟩ := bOp_refines hl hpc hs
      have hrr : r' = r := Option.some.inj (hr'.symm.trans h2)
      exact ⟨op, by simp [sys, hpc, opOf], hrr ▸ hnext⟩
    · -- any other step leaves every lookup unchanged
      intro hc m hm k
      have hnb : ∀ op g c b, s.pc t ≠ .bOp op g c b := by
        intro op g c b hpc
        obtain ⟨r, hr, -⟩ := bOp_refines hl hpc hs
        rcases hc with hc | hc
        · exact hc (by simp [sys, hpc, retOf])
        · rw [show retOf (s'.pc t) = none from hc] at hr; cases hr
      exact (hm k).trans (other_step_look hl hs hnb k).symm
  result := by
    intro s t s' r hl hs
    obtain ⟨hdone, rfl⟩ := result_eff hs
    refine ⟨sinv_result hl hs, ⟨?_, ?_⟩, ?_, ?_, ?_, fun m hm => hm⟩
    · intro t2 ht; simp only [sys, upd, if_neg ht]
    · intro t2 ht; simp only [sys, upd, if_neg ht]
    · simp [sys, hdone, retOf]
    · simp [sys, retOf]
    · simp [sys, opOf]

/-! ### Main theorems -/

/-- **Linearizability of StripedSet** (Herlihy–Wing, with completion of pending operations), both mutex policies.
    For every run of the model, the history of the completed operations, extended by response records `extra` for
    the operations still pending at the end that have performed their bucket step (they get the result fixed there and
    the response time "end of the run"; at most one per thread), is linearizable to the sequential map.  Pending
    operations that have not reached their bucket step are dropped. -/
theorem striped_linearizable (cfg : Cfg) (hre : cfg.recheck = true) (sched : List (Tid × Act)) (s : St)
    (os : List (Tid × Obs)) (h : (model cfg).run (init cfg) sched = some (s, os)) :
    ∃ extra : List (OpRec GOp GRet),
      (∀ e ∈ extra, pendingOf os e.tid = some (e.op, e.inv) ∧ e.res = os.length ∧
          retOf (s.pc e.tid) = some e.ret) ∧
      extra.Pairwise (fun a b => a.tid ≠ b.tid) ∧
      Linearizable Spec.map (historyOf os ++ extra) := by
  rw [historyOf_eq, pendingOf_eq]
  exact LPLin.linearizable (sys_ok cfg hre) sched s os h

/-- Runs at whose end no thread is between its bucket step and its return. -/
theorem striped_linearizable_no_effect_pending (cfg : Cfg) (hre : cfg.recheck = true) (sched : List (Tid × Act))
    (s : St) (os : List (Tid × Obs)) (h : (model cfg).run (init cfg) sched = some (s, os))
    (hq : ∀ t, retOf (s.pc t) = none) : Linearizable Spec.map (historyOf os) :=
  historyOf_eq os ▸ LPLin.linearizable_no_effect_pending (sys_ok cfg hre) sched s os h hq

/-- Runs in which every invoked operation has returned. -/
theorem striped_linearizable_complete_runs (cfg : Cfg) (hre : cfg.recheck = true) (sched : List (Tid × Act))
    (s : St) (os : List (Tid × Obs)) (h : (model cfg).run (init cfg) sched = some (s, os))
    (hq : ∀ t, s.pc t = .idle) : Linearizable Spec.map (historyOf os) :=
  striped_linearizable_no_effect_pending cfg hre sched s os h (fun t => by simp [hq t, retOf])

end CdsVerif.Algo.Striped
