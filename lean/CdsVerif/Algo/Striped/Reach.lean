/-
  The StripedSet invariant holds in every reachable state (for the library's `acquire`, i.e. `cfg.recheck = true`),
  and what it says in plain terms: lock discipline (A) and "no element is lost or duplicated" (B).
-/
import CdsVerif.Algo.Striped.StepA
import CdsVerif.Algo.Striped.StepZ
namespace CdsVerif.Algo.Striped
open CdsVerif.Machine CdsVerif.Spec

theorem sinv_step {cfg : Cfg} (hre : cfg.recheck = true) {s s' : St} {t : Tid} {ev : Ev} (h : SInv cfg s)
    (hs : step cfg s t = some (s', ev)) : SInv cfg s' := by
  cases hpc : s.pc t with
  | idle => simp [step, hpc] at hs
  | done r => simp [step, hpc] at hs
  | sWait op | aOwn op | aAccW op | aWait op g | zWait r old i | zAccW r old =>
    -- a load in a wait loop: the thread stays, or goes on to a program point of the same kind
    have hT := hpc ▸ h.thread t
    simp only [step, hpc] at hs
    cases hs
    exact h.move (by split <;> exact { hT with }) (by split <;> exact h.compat_same hpc rfl)
  | sLk op => exact sinv_step_sLk h hpc hs
  | aAccL op => exact sinv_step_aAccL h hpc hs
  | aAccU op => exact sinv_step_aAccU h hpc hs
  | aLk op g => exact sinv_step_aLk h hre hpc hs
  | aChk op g c => exact sinv_step_aChk h hpc hs
  | aRel op g c => exact sinv_step_aRel h hpc hs
  | bMask op g c => exact sinv_step_bMask h hpc hs
  | bOp op g c b => exact sinv_step_bOp h hpc hs
  | bCnt r g c => exact sinv_step_bCnt h hpc hs
  | bPol r g c n => exact sinv_step_bPol h hpc hs
  | bUnl r g c rz dec => exact sinv_step_bUnl h hpc hs
  | eDec r => exact sinv_step_eDec h hpc hs
  | zOld r => exact sinv_step_zOld h hpc hs
  | zLk r old i => exact sinv_step_zLk h hpc hs
  | zCas r old att => exact sinv_step_zCas h hpc hs
  | zTry r old g i => exact sinv_step_zTry h hpc hs
  | zTryU r old g i => exact sinv_step_zTryU h hpc hs
  | zChk r old => exact sinv_step_zChk h hpc hs
  | zCapSt r old => exact sinv_step_zCapSt h hpc hs
  | zInit r old i => exact sinv_step_zInit h hpc hs
  | zAccL r old => exact sinv_step_zAccL h hpc hs
  | zAccU r old => exact sinv_step_zAccU h hpc hs
  | zCnt r old => exact sinv_step_zCnt h hpc hs
  | zMask r old oc => exact sinv_step_zMask h hpc hs
  | zMove r n => exact sinv_step_zMove h hpc hs
  | zRelO r => exact sinv_step_zRelO h hpc hs
  | zUnl r i => exact sinv_step_zUnl h hpc hs

theorem sinv_apply {cfg : Cfg} (hre : cfg.recheck = true) {s s' : St} {t : Tid} {a : Act} {o : Obs} (h : SInv cfg s)
    (hap : (model cfg).apply s t a = some (s', o)) : SInv cfg s' := by
  rcases Model.apply_cases hap with ⟨op, -, hs1, -⟩ | ⟨e, -, hs1, -⟩ | ⟨r, -, hs1, -⟩
  · exact sinv_invoke h hs1
  · exact sinv_step hre h hs1
  · exact sinv_result h hs1

theorem sinv_reachable {cfg : Cfg} (hre : cfg.recheck = true) {s : St} (hr : (model cfg).Reachable (init cfg) s) :
    SInv cfg s :=
  (model cfg).inv_reachable (SInv cfg) (init cfg) (sinv_init cfg)
    (fun _ _ _ _ _ h hap => sinv_apply hre h hap) s hr

/-! ### A. Lock discipline -/

/-- Thread `t` holds the lock of cell `c` of lock array `g`: it is between the acquisition and the release of that
    cell in an operation, in the sweep of `acquire_resize`, or (striping) in `lock_all` … `unlock_all`. -/
def Holds (cfg : Cfg) (s : St) (t : Tid) (g c : Nat) : Prop :=
  cellOf (s.pc t) = some (g, c) ∨
  (g = 0 ∧ ((∃ r old i, (s.pc t = .zLk r old i ∨ s.pc t = .zWait r old i) ∧ c < i) ∨
            (cfg.refinable = false ∧ excl (s.pc t) = true ∧ c < s.asz 0) ∨
            (∃ r i, s.pc t = .zUnl r i ∧ i ≤ c ∧ c < s.asz 0)))

theorem Holds.at {cfg : Cfg} {s : St} {t : Tid} {g c : Nat} (hh : Holds cfg s t g c) :
    HoldsAt cfg (s.asz 0) (s.pc t) g c := by
  rcases hh with hc | ⟨rfl, ⟨r, old, i, hpc | hpc, hci⟩ | ⟨hr, hex, hc⟩ | ⟨r, i, hpc, h1, h2⟩⟩
  · exact .cell hc
  · exact .locking (by rw [hpc]; rfl) hci
  · exact .locking (by rw [hpc]; rfl) hci
  · exact .resizing hr hex hc
  · exact .unlocking (by rw [hpc]; rfl) h1 h2

theorem holds_holder {cfg : Cfg} {s : St} (h : SInv cfg s) {t : Tid} {g c : Nat} (hh : Holds cfg s t g c) :
    s.holder g c = some t ∧ s.lk g c = true :=
  have h1 := (h.thread t).held g c hh.at
  ⟨h1, h.mem.l1 g c t h1⟩

/-- Per-cell mutual exclusion. -/
theorem lock_mutex {cfg : Cfg} {s : St} (h : SInv cfg s) {t1 t2 : Tid} {g c : Nat}
    (h1 : Holds cfg s t1 g c) (h2 : Holds cfg s t2 g c) : t1 = t2 := by
  have a := (holds_holder h h1).1
  have b := (holds_holder h h2).1
  rw [a] at b; injection b

/-- A thread performs its bucket operation on the bucket the CURRENT mask selects, while it holds the lock that
    CURRENTLY guards that bucket. -/
theorem bucket_access {cfg : Cfg} {s : St} (h : SInv cfg s) {t : Tid} {op : GOp} {g c b : Nat}
    (hpc : s.pc t = .bOp op g c b) :
    b = cfg.h (keyD op) % (s.mask + 1) ∧ Holds cfg s t g c ∧ s.lk g c = true ∧
    (cfg.refinable = false → g = 0 ∧ s.asz 0 = cfg.cap0 ∧ c = b % cfg.cap0) ∧
    (cfg.refinable = true → g = s.gen ∧ s.asz s.gen = s.mask + 1 ∧ c = b) := by
  have hb := h.bidx t op g c b hpc
  have hcell : cellOf (s.pc t) = some (g, c) := by simp [hpc, cellOf]
  have hin : inCell (s.pc t) = true := by simp [hpc, inCell]
  have hck : c = cfg.h (keyD op) % s.asz g := (h.thread t).ckey op g c (by rw [hpc]; rfl)
  have ha0 : s.asz 0 = cfg.cap0 := h.mem.asz0
  have hh : Holds cfg s t g c := Or.inl hcell
  refine ⟨hb, hh, (holds_holder h hh).2, ?_, ?_⟩
  · intro hr
    have hg : g = 0 := by
      have : g ≤ s.gen := ((h.thread t).cell g c hcell).1
      have : s.gen = 0 := (h.mem.str0 hr).1
      omega
    subst hg
    refine ⟨rfl, ha0, ?_⟩
    rw [hck, hb, ha0, mod_mod_dvd _ _ _ h.dvd]
  · intro hr
    have hg : g = s.gen := (h.thread t).cgen g c hin hcell
    have hsz : s.asz s.gen = s.mask + 1 := (h.thread t).rs_cell hr hin
    refine ⟨hg, hsz, ?_⟩
    rw [hck, hb, hg, hsz]

/-- A resize runs alone: while a thread has the resize lock (all cell locks under `striping`; owner after the sweep
    under `refinable`) — in particular at the rehash step — no other thread is inside a cell section, it is the only such
    thread; under `striping` it holds every cell lock and so nobody else holds any; under `refinable` it is the owner. -/
theorem resize_exclusive {cfg : Cfg} {s : St} (h : SInv cfg s) {t' : Tid} (hex : excl (s.pc t') = true) :
    (∀ t, inCell (s.pc t) = false) ∧ (∀ t2, excl (s.pc t2) = true → t2 = t') ∧
    (cfg.refinable = false → (∀ c, c < cfg.cap0 → Holds cfg s t' 0 c) ∧ ∀ t g c, Holds cfg s t g c → t = t') ∧
    (cfg.refinable = true → s.owner = some t') := by
  refine ⟨?_, fun t2 h2 => h.exclu t2 t' h2 hex, ?_, fun hr => h.own2 t' hr (excl_own hex)⟩
  · intro t
    cases hi : inCell (s.pc t) with
    | false => rfl
    | true => exact absurd hi (fun hi => h.excl1 t t' hex hi)
  · intro hr
    have ha0 : s.asz 0 = cfg.cap0 := h.mem.asz0
    have hall : ∀ c, c < cfg.cap0 → Holds cfg s t' 0 c := by
      intro c hc
      exact Or.inr ⟨rfl, Or.inr (Or.inl ⟨hr, hex, by rw [ha0]; exact hc⟩)⟩
    refine ⟨hall, ?_⟩
    intro t g c hh
    have hg0 : s.gen = 0 := (h.mem.str0 hr).1
    have h1 := (holds_holder h hh).1
    have hg : g = 0 := by have : g ≤ s.gen := h.mem.fut g c t h1; omega
    subst hg
    have hc : c < cfg.cap0 := by
      rcases hh with hc | ⟨-, ⟨r, old, i, hpc | hpc, hci⟩ | ⟨-, -, hc⟩ | ⟨r, i, hpc, -, h2⟩⟩
      · exact ha0 ▸ ((h.thread t).cell 0 c hc).2
      · have : i < s.asz 0 := (h.thread t).lkto i (by rw [hpc]; rfl)
        omega
      · have : i < s.asz 0 := (h.thread t).lkto i (by rw [hpc]; rfl)
        omega
      · exact ha0 ▸ hc
      · exact ha0 ▸ h2
    exact lock_mutex h hh (hall c hc)

/-- The `m_access` section is entered by one thread at a time (it protects the plain shared_ptr `m_arrLocks`). -/
theorem access_mutex {cfg : Cfg} {s : St} (h : SInv cfg s) {t1 t2 : Tid}
    (h1 : accPC (s.pc t1) = true) (h2 : accPC (s.pc t2) = true) : t1 = t2 := by
  exact Option.some.inj (((h.thread t1).acc2 h1).symm.trans ((h.thread t2).acc2 h2))

/-- refinable: a thread that has locked a cell and passed the re-check works with the CURRENT lock array, and that array
    has exactly one cell per bucket; the array cannot be replaced before the thread unlocks its cell. -/
theorem cell_array_current {cfg : Cfg} {s : St} (h : SInv cfg s) {t : Tid} {g c : Nat}
    (hin : inCell (s.pc t) = true) (hc : cellOf (s.pc t) = some (g, c)) :
    g = s.gen ∧ (cfg.refinable = true → s.asz s.gen = s.mask + 1) ∧ ∀ t', excl (s.pc t') = false := by
  refine ⟨(h.thread t).cgen g c hin hc, fun hr => (h.thread t).rs_cell hr hin, ?_⟩
  intro t'
  cases he : excl (s.pc t') with
  | false => rfl
  | true => exact absurd hin (fun hi => h.excl1 t t' he hi)

/-! ### B. No element is lost or duplicated -/

/-- the abstract map of a state: what a lookup of key `k` finds -/
def look (cfg : Cfg) (s : St) (k : Int) : Option Int := mfind (s.bkt (cfg.h k % (s.mask + 1))) k

/-- Only the bucket step and the rehash step change the table. -/
theorem table_frame {cfg : Cfg} {s s' : St} {t : Tid} {ev : Ev} (hs : step cfg s t = some (s', ev))
    (h1 : ∀ op g c b, s.pc t ≠ .bOp op g c b) (h2 : ∀ r old oc, s.pc t ≠ .zMask r old oc) :
    s'.bkt = s.bkt ∧ s'.mask = s.mask := by
  cases hpc : s.pc t
  all_goals (try (exact absurd hpc (h1 _ _ _ _)))
  all_goals (try (exact absurd hpc (h2 _ _ _)))
  all_goals (simp only [step, hpc] at hs)
  all_goals (try (simp at hs; done))
  all_goals (try split at hs)
  all_goals (simp at hs; obtain ⟨rfl, -⟩ := hs; exact ⟨rfl, rfl⟩)

/-- The rehash step: the mask doubles, every lookup finds what it found before, and every item occurs in its new
    bucket exactly as often as it occurred in its old bucket. -/
theorem rehash_step {cfg : Cfg} {s s' : St} {t : Tid} {ev : Ev} (h : SInv cfg s) {r : GRet} {old oc : Nat}
    (hpc : s.pc t = .zMask r old oc) (hs : step cfg s t = some (s', ev)) :
    s'.mask + 1 = 2 * (s.mask + 1) ∧ (∀ k, look cfg s' k = look cfg s k) ∧
    ∀ e : Int × Int, (s'.bkt (cfg.h e.1 % (s'.mask + 1))).count e = (s.bkt (cfg.h e.1 % (s.mask + 1))).count e := by
  simp only [step, hpc] at hs
  simp at hs; obtain ⟨rfl, -⟩ := hs
  have hold : old = s.mask + 1 := (h.thread t).oldm old (by rw [hpc]; rfl)
  have hoc : oc = s.mask + 1 := (h.thread t).oldc oc (by rw [hpc]; rfl)
  have hm1 : 2 * old - 1 + 1 = 2 * old := by omega
  have hpl := h.place
  rw [← hoc] at hpl
  have hocpos : 0 < oc := by omega
  have hnpos : 0 < 2 * old := by omega
  refine ⟨by dsimp only; omega, ?_, ?_⟩
  · intro k
    simp only [look, hm1]
    rw [rehash_find cfg.h oc (2 * old) s.bkt hpl hocpos hnpos k, hoc]
  · intro e
    simp only [hm1]
    rw [rehash_count cfg.h oc (2 * old) s.bkt hpl hocpos hnpos e, hoc]

end CdsVerif.Algo.Striped
