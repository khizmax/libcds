/-
  insert / erase / resize of the sequential CuckooSet model on states satisfying the invariant `CInv`
  (well-formed tables, every key in the probe set its hash selects, no key twice, item counter = number of nodes),
  the room predicate of resize (`ResizeRoom`) and decidable checkers for concrete states.
-/
import CdsVerif.Algo.Cuckoo.Lemmas
namespace CdsVerif.Algo.Cuckoo

/-- the invariant of the set (named `CInv`: `Inv` is taken by core) -/
structure CInv (c : Cfg) (s : St) : Prop where
  wf : WF s
  placed : Placed c s
  nodup : s.elems.Nodup
  count : s.count = s.elems.length

theorem Ext.perm {c : Cfg} {s s' : St} {a r : List Int} (h : Ext c s s' a r) : (s'.elems ++ r).Perm (s.elems ++ a) :=
  List.perm_iff_count.mpr (fun k => by have := h.cnt k; simp only [List.count_append]; unfold cnt at this; exact this)

theorem WF_count {s : St} (h : WF s) (n : Nat) : WF { s with count := n } := ⟨h.1, h.2.1, h.2.2⟩

theorem contains_true_iff_cnt {c : Cfg} {s : St} (hp : Placed c s) (k : Int) : contains c s k = true ↔ 0 < cnt s k := by
  rw [contains_iff hp, mem_elems_iff_cnt]

theorem contains_false_iff_cnt {c : Cfg} {s : St} (hp : Placed c s) (k : Int) : contains c s k = false ↔ cnt s k = 0 := by
  have := contains_true_iff_cnt hp k
  cases h : contains c s k <;> simp [h] at this ⊢ <;> omega

theorem cnt_le_one {c : Cfg} {s : St} (h : CInv c s) (k : Int) : cnt s k ≤ 1 := List.nodup_iff_count.mp h.nodup k

/-! ### the three ways a state changes -/

/-- A change of the linked keys that leaves no key twice, the item counter following the number of nodes. -/
theorem CInv_of_ext {c : Cfg} {s s' : St} {a r : List Int} (hi : CInv c s) (he : Ext c s s' a r)
    (hm : ∀ q, cnt s q + a.count q ≤ 1 + r.count q) (hc : s'.count = s.count + a.length - r.length) : CInv c s' := by
  refine ⟨he.wf, he.placed hi.placed, List.nodup_iff_count.mpr (fun q => ?_), ?_⟩
  · have a := he.cnt q
    have b := hm q
    unfold cnt at a b
    omega
  · have := he.perm.length_eq
    rw [List.length_append, List.length_append] at this
    rw [hc, hi.count]
    omega

theorem CInv_add {c : Cfg} {s s' : St} {k : Int} (hi : CInv c s) (he : Ext c s s' [k] []) (hk : cnt s k = 0)
    (hc : s'.count = s.count + 1) : CInv c s' := by
  refine CInv_of_ext hi he (fun q => ?_) hc
  have b := cnt_le_one hi q
  rw [List.count_singleton]
  split
  · rename_i e
    rw [← beq_iff_eq.mp e, hk]
    exact Nat.le_refl 1
  · omega

theorem CInv_remove {c : Cfg} {s s' : St} {k : Int} (hi : CInv c s) (he : Ext c s s' [] [k])
    (hc : s'.count = s.count - 1) : CInv c s' :=
  CInv_of_ext hi he (fun q => Nat.le_trans (cnt_le_one hi q) (Nat.le_add_right 1 _)) hc

theorem CInv_same {c : Cfg} {s s' : St} (hi : CInv c s) (he : Ext c s s' [] []) (hc : s'.count = s.count) : CInv c s' :=
  CInv_of_ext hi he (cnt_le_one hi) hc

/-! ### erase -/

theorem findTable_some {c : Cfg} {s : St} {k : Int} {b : Bool} (h : findTable c s k = some b) : k ∈ s.bucketOf c b k := by
  unfold findTable at h
  split at h
  · cases h; assumption
  · split at h
    · cases h; assumption
    · cases h

theorem erase_absent (c : Cfg) (s : St) (k : Int) (h : contains c s k = false) : erase c s k = (s, false) := by
  unfold contains at h
  unfold erase
  cases hf : findTable c s k with
  | none => rfl
  | some b => rw [hf] at h; cases h

theorem erase_present (c : Cfg) (s : St) (k : Int) (hw : WF s) (h : contains c s k = true) :
    (erase c s k).2 = true ∧ Ext c s (erase c s k).1 [] [k] ∧ (erase c s k).1.count = s.count - 1
      ∧ (erase c s k).1.cap = s.cap := by
  unfold contains at h
  unfold erase
  cases hf : findTable c s k with
  | none => rw [hf] at h; cases h
  | some b =>
    have hm := findTable_some hf
    have hi := bidx_lt hw c b k
    refine ⟨rfl, Ext.count_irrel ?_ _, rfl, by simp⟩
    refine ⟨WF_putBucket hw _ _ _, fun q => ?_, fun hp => ?_⟩
    · have a := cnt_putBucket hw b (s.bidx c b k) ((s.bucketOf c b k).erase k) hi q
      have pos : 0 < (s.bucketOf c b k).count k := List.count_pos_iff.mpr hm
      have e : (s.tab b).getD (s.bidx c b k) [] = s.bucketOf c b k := rfl
      rw [e, List.count_erase] at a
      simp only [List.count_nil, List.count_cons, beq_iff_eq] at a ⊢
      by_cases hq : k = q
      · subst hq; simp only [if_true] at a ⊢; omega
      · simp only [hq, if_false] at a ⊢; omega
    · exact Placed_putBucket hw hp b _ _ hi (fun q hq => hp b _ q (List.mem_of_mem_erase hq))

/-! ### resize -/

theorem resizeG_ext (c : Cfg) (s : St) (h : WF s) : Ext c s (resizeG c s).1 [] (resizeG c s).2 := by
  obtain ⟨a, b, -, -, e⟩ := resizeG_spec c s h.2.2
  exact ⟨a, fun k => by simpa using e k, fun _ => b⟩

/-- no element finds both of its target probe sets full while `xs` are re-inserted into `s` -/
def roomAll (c : Cfg) : St → List Int → Bool
  | _, [] => true
  | s, x :: xs =>
    (decide ((s.bucketOf c false x).length < c.pset) || decide ((s.bucketOf c true x).length < c.pset))
      && roomAll c (reinsert c s x).1 xs

/-- the room hypothesis of resize(): during the re-insertion of the nodes of the old tables (in the order resize() walks
    them) into the doubled tables, no node finds both of its probe sets full -/
def ResizeRoom (c : Cfg) (s : St) : Prop := roomAll c (fresh s) s.order = true

instance (c : Cfg) (s : St) : Decidable (ResizeRoom c s) := by unfold ResizeRoom; infer_instance

theorem reinsert_room (c : Cfg) (s : St) (x : Int)
    (h : (s.bucketOf c false x).length < c.pset ∨ (s.bucketOf c true x).length < c.pset) : (reinsert c s x).2 = [] := by
  unfold reinsert
  split; · rfl
  split; · rfl
  split; · rfl
  split; · rfl
  omega

theorem reinsert_no_room (c : Cfg) (s : St) (x : Int) (ht : c.thr ≤ c.pset)
    (h : ¬ ((s.bucketOf c false x).length < c.pset ∨ (s.bucketOf c true x).length < c.pset)) : (reinsert c s x).2 = [x] := by
  unfold reinsert
  split; · omega
  split; · omega
  split; · omega
  split; · omega
  rfl

theorem roomAll_lost (c : Cfg) (xs : List Int) : ∀ s, roomAll c s xs = true → (reinsertAll c s xs).2 = [] := by
  induction xs with
  | nil => intro s _; rfl
  | cons x xs ih =>
    intro s h
    unfold roomAll at h
    simp only [Bool.and_eq_true, Bool.or_eq_true, decide_eq_true_eq] at h
    unfold reinsertAll
    simp only [reinsert_room c s x h.1, ih _ h.2, List.append_nil]

/-- the converse (threshold within the probe-set size): the room hypothesis is exactly "resize() loses nothing" -/
theorem lost_roomAll (c : Cfg) (ht : c.thr ≤ c.pset) (xs : List Int) : ∀ s, (reinsertAll c s xs).2 = [] → roomAll c s xs = true := by
  induction xs with
  | nil => intro s _; rfl
  | cons x xs ih =>
    intro s h
    unfold reinsertAll at h
    simp only [List.append_eq_nil_iff] at h
    unfold roomAll
    simp only [Bool.and_eq_true, Bool.or_eq_true, decide_eq_true_eq]
    refine ⟨?_, ih _ h.2⟩
    apply Classical.byContradiction
    intro hn
    rw [reinsert_no_room c s x ht hn] at h
    cases h.1

theorem resizeRoom_lost {c : Cfg} {s : St} (h : ResizeRoom c s) : (resizeG c s).2 = [] := roomAll_lost c _ _ h

theorem resizeRoom_iff {c : Cfg} {s : St} (ht : c.thr ≤ c.pset) : ResizeRoom c s ↔ (resizeG c s).2 = [] :=
  ⟨resizeRoom_lost, lost_roomAll c ht _ _⟩

/-! ### insert -/

theorem insertLoop_present (c : Cfg) (f : Nat) (s : St) (k : Int) (h : contains c s k = true) :
    insertLoop c (f + 1) s k = some (s, false, []) := by
  unfold insertLoop; rw [if_pos h]

theorem cnt_count_irrel (s : St) (n : Nat) (k : Int) : cnt { s with count := n } k = cnt s k := rfl

/-- insert() into a probe set of table `b` that is above the threshold but not full: link the node and relocate; the
    first pair is the outcome if the relocation succeeds, the second the outcome of the resize that follows if it gives up -/
theorem place_relocate_ext (c : Cfg) {s : St} (hw : WF s) (b : Bool) (k : Int) :
    let r := relocateFrom c { s.place c b k with count := s.count + 1 } b (s.bidx c b k)
    (Ext c s r.1 [k] [] ∧ r.1.count = s.count + 1) ∧
      Ext c s (resizeG c r.1).1 [k] (resizeG c r.1).2 ∧ (resizeG c r.1).1.count = s.count + 1 := by
  intro r
  have p := (place_ext c hw b k).count_irrel (s.count + 1)
  obtain ⟨r1, -, r3⟩ := relocateFrom_ext c { s.place c b k with count := s.count + 1 } b (s.bidx c b k) p.wf
  have t : Ext c s r.1 [k] [] := p.trans r1
  exact ⟨⟨t, r3⟩, t.trans (resizeG_ext c _ t.wf), by rw [(resizeG_spec c _ t.wf.2.2).2.2.2.1]; exact r3⟩

/-- insert() of an absent key, whatever path it takes (fuel permitting): result `true`, item counter + 1, and the linked
    keys are the old ones plus `k` minus the keys lost by the resizes on the way -/
theorem insertLoop_absent (c : Cfg) (f : Nat) : ∀ (s : St) (k : Int) (r : St × Bool × List Int), WF s → Placed c s →
    contains c s k = false → insertLoop c f s k = some r →
    r.2.1 = true ∧ Ext c s r.1 [k] r.2.2 ∧ r.1.count = s.count + 1 := by
  induction f with
  | zero => intro s k r _ _ _ h; cases h
  | succ f ih =>
    intro s k r hw hp hc h
    unfold insertLoop at h
    rw [if_neg (by simp [hc])] at h
    split at h
    · cases h
      exact ⟨rfl, (place_ext c hw false k).count_irrel _, rfl⟩
    split at h
    · cases h
      exact ⟨rfl, (place_ext c hw true k).count_irrel _, rfl⟩
    split at h
    · obtain ⟨⟨t, tc⟩, u, uc⟩ := place_relocate_ext c hw false k
      simp only at h
      split at h
      · cases h; exact ⟨rfl, t, tc⟩
      · cases h; exact ⟨rfl, u, uc⟩
    split at h
    · obtain ⟨⟨t, tc⟩, u, uc⟩ := place_relocate_ext c hw true k
      simp only at h
      split at h
      · cases h; exact ⟨rfl, t, tc⟩
      · cases h; exact ⟨rfl, u, uc⟩
    · have g := resizeG_ext c s hw
      obtain ⟨gw, gp, -, g4, ge⟩ := resizeG_spec c s hw.2.2
      have hc' : contains c (resizeG c s).1 k = false := by
        rw [contains_false_iff_cnt gp]
        have := ge k
        have := (contains_false_iff_cnt hp k).mp hc
        omega
      simp only at h
      split at h
      · rename_i s' r' d hr
        cases h
        obtain ⟨i1, i2, i3⟩ := ih (resizeG c s).1 k (s', r', d) gw gp hc' hr
        exact ⟨i1, g.trans i2, by rw [i3, g4]⟩
      · cases h

/-! ### decidable checkers for concrete states -/

def wfB (s : St) : Bool := s.t0.length == s.cap && s.t1.length == s.cap && decide (0 < s.cap)

def placedB (c : Cfg) (s : St) : Bool :=
  (List.range s.cap).all (fun i =>
    ((s.t0.getD i []).all fun k => idx s.cap (c.h1 k) == i) && ((s.t1.getD i []).all fun k => idx s.cap (c.h2 k) == i))

def cinvB (c : Cfg) (s : St) : Bool :=
  wfB s && placedB c s && decide s.elems.Nodup && s.count == s.elems.length

theorem WF_of_wfB {s : St} (h : wfB s = true) : WF s := by
  simpa [wfB, WF, and_assoc] using h

theorem Placed_of_placedB {c : Cfg} {s : St} (hw : WF s) (h : placedB c s = true) : Placed c s := by
  intro b i k hk
  by_cases hi : i < s.cap
  · unfold placedB at h
    rw [List.all_eq_true] at h
    have := h i (List.mem_range.mpr hi)
    simp only [Bool.and_eq_true, List.all_eq_true, beq_iff_eq] at this
    cases b
    · exact this.1 k hk
    · exact this.2 k hk
  · exfalso
    have : (s.tab b).getD i [] = [] := by
      rw [List.getD_eq_getElem?_getD, List.getElem?_eq_none (by rw [hw.tab_length]; omega)]; rfl
    rw [this] at hk; cases hk

theorem CInv_of_cinvB {c : Cfg} {s : St} (h : cinvB c s = true) : CInv c s := by
  unfold cinvB at h
  simp only [Bool.and_eq_true, decide_eq_true_eq, beq_iff_eq] at h
  obtain ⟨⟨⟨a, b⟩, n⟩, e⟩ := h
  exact ⟨WF_of_wfB a, Placed_of_placedB (WF_of_wfB a) b, n, e⟩

theorem CInv_empty (c : Cfg) {cap : Nat} (h : 0 < cap) : CInv c (empty cap) := by
  refine ⟨by simp [WF, empty, h], ?_, ?_, ?_⟩
  · intro b i k hk
    have e : ((empty cap).tab b).getD i [] = [] := by cases b <;> exact getD_replicate_nil _ _
    rw [e] at hk; cases hk
  · simp [St.elems, empty]
  · simp [St.elems, empty]

/-! ### contains() after a change of the linked nodes, by counting copies -/

theorem Ext.contains_same {c : Cfg} {s s' : St} (he : Ext c s s' [] []) (hp : Placed c s) (q : Int) :
    contains c s' q = contains c s q := by
  have hcnt := he.cnt q
  simp only [List.count_nil, Nat.add_zero] at hcnt
  rw [Bool.eq_iff_iff, contains_true_iff_cnt (he.placed hp), contains_true_iff_cnt hp, hcnt]

theorem Ext.contains_add {c : Cfg} {s s' : St} {k : Int} (he : Ext c s s' [k] []) (hp : Placed c s) (q : Int) :
    contains c s' q = (decide (q = k) || contains c s q) := by
  have hcnt := he.cnt q
  simp only [List.count_nil, List.count_cons, beq_iff_eq, Nat.add_zero, Nat.zero_add] at hcnt
  rw [Bool.eq_iff_iff, contains_true_iff_cnt (he.placed hp), Bool.or_eq_true, contains_true_iff_cnt hp, decide_eq_true_eq]
  split at hcnt <;> omega

theorem Ext.contains_remove {c : Cfg} {s s' : St} {k : Int} (he : Ext c s s' [] [k]) (hi : CInv c s) (q : Int) :
    contains c s' q = (contains c s q && decide (q ≠ k)) := by
  have hcnt := he.cnt q
  have hone := cnt_le_one hi q
  simp only [List.count_nil, List.count_cons, beq_iff_eq, Nat.add_zero, Nat.zero_add] at hcnt
  rw [Bool.eq_iff_iff, contains_true_iff_cnt (he.placed hi.placed), Bool.and_eq_true, contains_true_iff_cnt hi.placed,
    decide_eq_true_eq]
  split at hcnt <;> omega

/-- insert() of a present key leaves every answer of contains() as the insert law states it -/
theorem contains_eq_or_of_present {c : Cfg} {s : St} {k : Int} (h : contains c s k = true) (q : Int) :
    contains c s q = (decide (q = k) || contains c s q) := by
  by_cases e : q = k
  · subst e; simp [h]
  · simp [e]

/-- erase() of an absent key leaves every answer of contains() as the erase law states it -/
theorem contains_eq_and_of_absent {c : Cfg} {s : St} {k : Int} (h : contains c s k = false) (q : Int) :
    contains c s q = (contains c s q && decide (q ≠ k)) := by
  by_cases e : q = k
  · subst e; simp [h]
  · simp [e]

theorem ceil2Aux_pos : ∀ (f p n : Nat), 0 < p → 0 < ceil2Aux f p n
  | 0, _, _, h => h
  | f + 1, p, n, h => by
    unfold ceil2Aux
    split
    · exact h
    · exact ceil2Aux_pos f (2 * p) n (by omega)

end CdsVerif.Algo.Cuckoo
