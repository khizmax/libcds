/-
  Lemmas about the sequential CuckooSet model (Model.lean): what every primitive does to the multiset of linked keys
  (`cnt`), to well-formedness (`WF`) and to the placement of the keys (`Placed`: every key sits in the probe set its
  hash selects under the current bucket count).
-/
import CdsVerif.Algo.Cuckoo.Model
namespace CdsVerif.Algo.Cuckoo

/-! ### tables -/

theorem getD_set (t : Table) (i j : Nat) (b : Bucket) :
    (t.set i b).getD j [] = if i = j ∧ i < t.length then b else t.getD j [] := by
  simp only [List.getD_eq_getElem?_getD, List.getElem?_set]
  split <;> split <;> simp_all <;> omega

theorem count_flatten_set (t : Table) (i : Nat) (b : Bucket) (k : Int) (h : i < t.length) :
    ((t.set i b).flatten).count k + (t.getD i []).count k = t.flatten.count k + b.count k := by
  induction t generalizing i with
  | nil => simp at h
  | cons x xs ih =>
    cases i with
    | zero => simp [List.count_append]; omega
    | succ i =>
      simp only [List.length_cons, Nat.add_lt_add_iff_right] at h
      have := ih i h
      simp [List.count_append] at this ⊢; omega

theorem mem_flatten_getD (t : Table) (k : Int) : k ∈ t.flatten ↔ ∃ i, k ∈ t.getD i [] := by
  constructor
  · intro h
    obtain ⟨l, hl, hk⟩ := List.mem_flatten.mp h
    obtain ⟨i, hi, rfl⟩ := List.getElem_of_mem hl
    exact ⟨i, by simp [List.getD_eq_getElem?_getD, hi, hk]⟩
  · rintro ⟨i, hi⟩
    by_cases h : i < t.length
    · simp [List.getD_eq_getElem?_getD, h] at hi
      exact List.mem_flatten.mpr ⟨t[i], List.getElem_mem h, hi⟩
    · simp [List.getD_eq_getElem?_getD] at hi
      rw [List.getElem?_eq_none (by omega)] at hi; simp at hi

theorem getD_replicate_nil (n i : Nat) : (List.replicate n ([] : Bucket)).getD i [] = [] := by
  simp only [List.getD_eq_getElem?_getD, List.getElem?_replicate]
  split <;> rfl

theorem flatten_replicate_nil (n : Nat) : (List.replicate n ([] : Bucket)).flatten = [] := by
  induction n with
  | zero => rfl
  | succ n ih => simp [List.replicate_succ, ih]

/-! ### probe sets -/

theorem bInsert_perm (bk : Bucket) (k : Int) : (bInsert bk k).Perm (k :: bk) := by
  induction bk with
  | nil => simp [bInsert]
  | cons x xs ih =>
    unfold bInsert; split
    · exact List.Perm.refl _
    · exact (List.Perm.cons x ih).trans (List.Perm.swap k x xs)

/-- on a probe set that does not hold the key (the only case without duplicates) the node goes to the END -/
theorem bInsert_of_not_mem (bk : Bucket) (k : Int) (h : k ∉ bk) : bInsert bk k = bk ++ [k] := by
  induction bk with
  | nil => rfl
  | cons x xs ih =>
    unfold bInsert
    simp only [List.mem_cons, not_or] at h
    rw [if_neg (fun e => h.1 e.symm), ih h.2]; rfl

theorem count_bInsert (bk : Bucket) (k q : Int) : (bInsert bk k).count q = bk.count q + (if k = q then 1 else 0) := by
  rw [(bInsert_perm bk k).count_eq, List.count_cons]
  simp only [beq_iff_eq]

theorem mem_bInsert (bk : Bucket) (k q : Int) : q ∈ bInsert bk k ↔ q = k ∨ q ∈ bk := by
  rw [(bInsert_perm bk k).mem_iff, List.mem_cons]

theorem length_bInsert (bk : Bucket) (k : Int) : (bInsert bk k).length = bk.length + 1 := by
  rw [(bInsert_perm bk k).length_eq, List.length_cons]

/-! ### states -/

/-- both tables have `cap` probe sets and `cap` is positive -/
def WF (s : St) : Prop := s.t0.length = s.cap ∧ s.t1.length = s.cap ∧ 0 < s.cap

/-- every key sits in the probe set its hash selects under the current bucket count -/
def Placed (c : Cfg) (s : St) : Prop := ∀ b i k, k ∈ (s.tab b).getD i [] → idx s.cap (c.hash b k) = i

/-- multiplicity of `k` among the linked nodes -/
def cnt (s : St) (k : Int) : Nat := s.elems.count k

theorem cnt_eq (s : St) (k : Int) : cnt s k = (s.tab false).flatten.count k + (s.tab true).flatten.count k := by
  simp [cnt, St.elems, St.tab, List.count_append]

theorem idx_lt {cap : Nat} (h : 0 < cap) (x : Nat) : idx cap x < cap := by
  have := @Nat.and_le_right x (cap - 1)
  unfold idx; omega

theorem WF.tab_length {s : St} (h : WF s) (b : Bool) : (s.tab b).length = s.cap := by
  cases b <;> simp [St.tab, h.1, h.2.1]

theorem bidx_lt {s : St} (h : WF s) (c : Cfg) (b : Bool) (k : Int) : s.bidx c b k < s.cap := idx_lt h.2.2 _

@[simp] theorem cap_putBucket (s : St) (b : Bool) (i : Nat) (bk : Bucket) : (s.putBucket b i bk).cap = s.cap := by
  cases b <;> rfl

@[simp] theorem count_putBucket (s : St) (b : Bool) (i : Nat) (bk : Bucket) : (s.putBucket b i bk).count = s.count := by
  cases b <;> rfl

theorem tab_putBucket (s : St) (b b' : Bool) (i : Nat) (bk : Bucket) :
    (s.putBucket b i bk).tab b' = if b' = b then (s.tab b).set i bk else s.tab b' := by
  cases b <;> cases b' <;> simp [St.putBucket, St.setTab, St.tab]

theorem WF_putBucket {s : St} (h : WF s) (b : Bool) (i : Nat) (bk : Bucket) : WF (s.putBucket b i bk) := by
  obtain ⟨h0, h1, h2⟩ := h
  cases b <;> simp [WF, St.putBucket, St.setTab, St.tab, h0, h1, h2]

theorem getD_putBucket {s : St} (h : WF s) (b b' : Bool) (i j : Nat) (bk : Bucket) (hi : i < s.cap) :
    ((s.putBucket b i bk).tab b').getD j [] = if b' = b ∧ j = i then bk else (s.tab b').getD j [] := by
  rw [tab_putBucket]
  by_cases hb : b' = b
  · subst hb
    rw [if_pos rfl, getD_set, h.tab_length]
    by_cases hj : j = i
    · subst hj; simp [hi]
    · have : ¬ (i = j ∧ i < s.cap) := fun e => hj e.1.symm
      simp [hj, this]
  · simp [hb]

theorem cnt_putBucket {s : St} (h : WF s) (b : Bool) (i : Nat) (bk : Bucket) (hi : i < s.cap) (k : Int) :
    cnt (s.putBucket b i bk) k + ((s.tab b).getD i []).count k = cnt s k + bk.count k := by
  have hl : i < (s.tab b).length := by rw [h.tab_length]; exact hi
  have := count_flatten_set (s.tab b) i bk k hl
  rw [cnt_eq, cnt_eq, tab_putBucket, tab_putBucket]
  cases b <;> simp at this ⊢ <;> omega

theorem Placed_putBucket {c : Cfg} {s : St} (h : WF s) (hp : Placed c s) (b : Bool) (i : Nat) (bk : Bucket) (hi : i < s.cap)
    (hb : ∀ k ∈ bk, idx s.cap (c.hash b k) = i) : Placed c (s.putBucket b i bk) := by
  intro b' j k hk
  rw [getD_putBucket h b b' i j bk hi] at hk
  rw [cap_putBucket]
  split at hk
  · rename_i e; rw [e.1, e.2]; exact hb k hk
  · exact hp b' j k hk

/-- `s'` holds the nodes of `s`, plus `add`, minus `rem` -/
structure Ext (c : Cfg) (s s' : St) (add rem : List Int) : Prop where
  wf : WF s'
  cnt : ∀ k, cnt s' k + rem.count k = cnt s k + add.count k
  placed : Placed c s → Placed c s'

theorem Ext.refl {c : Cfg} {s : St} (h : WF s) : Ext c s s [] [] := ⟨h, fun _ => rfl, id⟩

theorem Ext.trans {c : Cfg} {s s' s'' : St} {a r a' r' : List Int} (h1 : Ext c s s' a r) (h2 : Ext c s' s'' a' r') :
    Ext c s s'' (a ++ a') (r ++ r') :=
  ⟨h2.wf, fun k => by have := h1.cnt k; have := h2.cnt k; simp only [List.count_append]; omega, fun p => h2.placed (h1.placed p)⟩

/-- a node unlinked and linked again -/
theorem Ext.cancel {c : Cfg} {s s' : St} {x : Int} {a r : List Int} (h : Ext c s s' (x :: a) (x :: r)) : Ext c s s' a r :=
  ⟨h.wf, fun k => by have := h.cnt k; simp only [List.count_cons] at this; omega, h.placed⟩

theorem Ext.count_irrel {c : Cfg} {s s' : St} {a r : List Int} (h : Ext c s s' a r) (n : Nat) :
    Ext c s { s' with count := n } a r := ⟨h.wf, h.cnt, h.placed⟩

theorem Ext.count_irrel_left {c : Cfg} {s s' : St} {a r : List Int} (h : Ext c s s' a r) (n : Nat) :
    Ext c { s with count := n } s' a r := ⟨h.wf, h.cnt, h.placed⟩

/-- linking `x` into its probe set of table `b` -/
theorem place_ext (c : Cfg) {s : St} (h : WF s) (b : Bool) (x : Int) : Ext c s (s.place c b x) [x] [] := by
  have hi := bidx_lt h c b x
  refine ⟨WF_putBucket h _ _ _, fun k => ?_, fun hp => ?_⟩
  · have := cnt_putBucket h b (s.bidx c b x) (bInsert (s.bucketOf c b x) x) hi k
    rw [count_bInsert] at this
    simp only [St.place, St.bucketOf, List.count_nil, List.count_cons, beq_iff_eq, List.count_nil] at this ⊢
    omega
  · refine Placed_putBucket h hp b _ _ hi (fun k hk => ?_)
    rcases (mem_bInsert _ _ _).mp hk with e | hk
    · subst e; rfl
    · exact hp b _ k hk

@[simp] theorem cap_place (c : Cfg) (s : St) (b : Bool) (x : Int) : (s.place c b x).cap = s.cap := cap_putBucket _ _ _ _
@[simp] theorem count_place (c : Cfg) (s : St) (b : Bool) (x : Int) : (s.place c b x).count = s.count := count_putBucket _ _ _ _

/-- unlinking the first node `v` of probe set `i` of table `b` -/
theorem dropHead_ext (c : Cfg) {s : St} (h : WF s) (b : Bool) (i : Nat) (hi : i < s.cap) (v : Int) (rest : Bucket)
    (e : (s.tab b).getD i [] = v :: rest) : Ext c s (s.putBucket b i rest) [] [v] := by
  refine ⟨WF_putBucket h _ _ _, fun k => ?_, fun hp => ?_⟩
  · have := cnt_putBucket h b i rest hi k
    rw [e] at this
    simp only [List.count_cons, beq_iff_eq, List.count_nil] at this ⊢
    omega
  · exact Placed_putBucket h hp b i rest hi (fun k hk => hp b i k (by rw [e]; exact List.mem_cons_of_mem _ hk))

/-- putting `v` back at the front of the probe set it was taken from -/
theorem putBack_ext (c : Cfg) {s : St} (h : WF s) (b : Bool) (i : Nat) (hi : i < s.cap) (v : Int) (rest : Bucket)
    (e : (s.tab b).getD i [] = v :: rest) : Ext c s ((s.putBucket b i rest).putBucket b i (v :: rest)) [] [] := by
  have h1 := WF_putBucket h b i rest
  refine ⟨WF_putBucket h1 _ _ _, fun k => ?_, fun hp => ?_⟩
  · have a := cnt_putBucket h b i rest hi k
    have a' := cnt_putBucket h1 b i (v :: rest) (by simpa using hi) k
    rw [getD_putBucket h b b i i rest hi] at a'
    rw [e] at a
    simp only [and_self, if_true, List.count_nil] at a' ⊢
    omega
  · refine Placed_putBucket h1 ((dropHead_ext c h b i hi v rest e).placed hp) b i _ (by simpa using hi) (fun k hk => ?_)
    rw [cap_putBucket]
    exact hp b i k (by rw [e]; exact hk)

/-! ### relocate -/

theorem relocateRounds_ext (c : Cfg) (n : Nat) : ∀ (s : St) (b : Bool) (gk : Int), WF s →
    Ext c s (relocateRounds c n s b gk).1 [] [] ∧ (relocateRounds c n s b gk).1.cap = s.cap
      ∧ (relocateRounds c n s b gk).1.count = s.count := by
  induction n with
  | zero => intro s b gk h; exact ⟨Ext.refl h, rfl, rfl⟩
  | succ n ih =>
    intro s b gk h
    unfold relocateRounds
    simp only
    split
    · exact ⟨Ext.refl h, rfl, rfl⟩
    · split
      · exact ⟨Ext.refl h, rfl, rfl⟩
      · rename_i v rest e
        have hi := bidx_lt h c b gk
        have d := dropHead_ext c h b _ hi v rest e
        have p := place_ext c d.wf (!b) v
        have dp : Ext c s ((s.putBucket b (s.bidx c b gk) rest).place c (!b) v) [] [] := (d.trans p).cancel
        split
        · exact ⟨dp, by simp, by simp⟩
        · split
          · obtain ⟨r1, r2, r3⟩ := ih ((s.putBucket b (s.bidx c b gk) rest).place c (!b) v) (!b) v dp.wf
            exact ⟨dp.trans r1, by rw [r2]; simp, by rw [r3]; simp⟩
          · exact ⟨putBack_ext c h b _ hi v rest e, by simp, by simp⟩

theorem relocateFrom_ext (c : Cfg) (s : St) (b : Bool) (i : Nat) (h : WF s) :
    Ext c s (relocateFrom c s b i).1 [] [] ∧ (relocateFrom c s b i).1.cap = s.cap ∧ (relocateFrom c s b i).1.count = s.count := by
  unfold relocateFrom
  split
  · exact relocateRounds_ext c _ s b _ h
  · exact ⟨Ext.refl h, rfl, rfl⟩

/-! ### resize -/

theorem reinsert_ext (c : Cfg) (s : St) (x : Int) (h : WF s) :
    Ext c s (reinsert c s x).1 [x] (reinsert c s x).2 ∧ (reinsert c s x).1.cap = s.cap ∧ (reinsert c s x).1.count = s.count := by
  unfold reinsert
  split
  · exact ⟨place_ext c h false x, by simp, by simp⟩
  · split
    · exact ⟨place_ext c h true x, by simp, by simp⟩
    · split
      · have p := place_ext c h false x
        obtain ⟨r1, r2, r3⟩ := relocateFrom_ext c (s.place c false x) false (s.bidx c false x) p.wf
        exact ⟨p.trans r1, by rw [r2]; simp, by rw [r3]; simp⟩
      · split
        · have p := place_ext c h true x
          obtain ⟨r1, r2, r3⟩ := relocateFrom_ext c (s.place c true x) true (s.bidx c true x) p.wf
          exact ⟨p.trans r1, by rw [r2]; simp, by rw [r3]; simp⟩
        · exact ⟨⟨h, fun _ => rfl, id⟩, rfl, rfl⟩

theorem reinsertAll_ext (c : Cfg) (xs : List Int) : ∀ (s : St), WF s →
    Ext c s (reinsertAll c s xs).1 xs (reinsertAll c s xs).2 ∧ (reinsertAll c s xs).1.cap = s.cap
      ∧ (reinsertAll c s xs).1.count = s.count := by
  induction xs with
  | nil => intro s h; exact ⟨Ext.refl h, rfl, rfl⟩
  | cons x xs ih =>
    intro s h
    obtain ⟨r1, r2, r3⟩ := reinsert_ext c s x h
    obtain ⟨q1, q2, q3⟩ := ih (reinsert c s x).1 r1.wf
    unfold reinsertAll
    exact ⟨r1.trans q1, by simp only; rw [q2, r2], by simp only; rw [q3, r3]⟩

/-- the doubled empty tables resize() starts from -/
def fresh (s : St) : St := { empty (2 * s.cap) with count := s.count }

theorem fresh_WF {s : St} (h : 0 < s.cap) : WF (fresh s) := by
  simp [WF, fresh, empty]; omega

theorem fresh_cnt (s : St) (k : Int) : cnt (fresh s) k = 0 := by
  simp [cnt, St.elems, fresh, empty]

theorem fresh_placed (c : Cfg) (s : St) : Placed c (fresh s) := by
  intro b i k hk
  have e : ((fresh s).tab b).getD i [] = [] := by cases b <;> exact getD_replicate_nil _ _
  rw [e] at hk; cases hk

theorem resizeG_eq (c : Cfg) (s : St) : resizeG c s = reinsertAll c (fresh s) s.order := rfl

/-- resize(), unconditionally: the new tables are well formed, every key sits in the probe set its hash selects, and
    the linked keys are the old ones minus exactly the lost ones -/
theorem resizeG_spec (c : Cfg) (s : St) (h : 0 < s.cap) :
    WF (resizeG c s).1 ∧ Placed c (resizeG c s).1 ∧ (resizeG c s).1.cap = 2 * s.cap ∧ (resizeG c s).1.count = s.count
      ∧ ∀ k, cnt (resizeG c s).1 k + (resizeG c s).2.count k = cnt s k := by
  obtain ⟨r1, r2, r3⟩ := reinsertAll_ext c s.order (fresh s) (fresh_WF h)
  rw [resizeG_eq]
  refine ⟨r1.wf, r1.placed (fresh_placed c s), r2, r3, fun k => ?_⟩
  have := r1.cnt k
  rw [fresh_cnt] at this
  simpa [cnt, St.elems, St.order] using this

/-! ### contains -/

theorem mem_elems (s : St) (k : Int) : k ∈ s.elems ↔ ∃ b i, k ∈ (s.tab b).getD i [] := by
  simp only [St.elems, List.mem_append, mem_flatten_getD]
  constructor
  · rintro (⟨i, h⟩ | ⟨i, h⟩)
    · exact ⟨false, i, h⟩
    · exact ⟨true, i, h⟩
  · rintro ⟨b, i, h⟩
    cases b
    · exact Or.inl ⟨i, h⟩
    · exact Or.inr ⟨i, h⟩

/-- on well-placed tables contains() is membership -/
theorem contains_iff {c : Cfg} {s : St} (hp : Placed c s) (k : Int) : contains c s k = true ↔ k ∈ s.elems := by
  rw [mem_elems]
  unfold contains findTable
  constructor
  · intro h
    split at h
    · rename_i h0; exact ⟨false, _, h0⟩
    · split at h
      · rename_i h1; exact ⟨true, _, h1⟩
      · simp at h
  · rintro ⟨b, i, h⟩
    have e := hp b i k h
    cases b
    · have : k ∈ s.bucketOf c false k := by unfold St.bucketOf St.bidx; rw [e]; exact h
      simp [this]
    · have : k ∈ s.bucketOf c true k := by unfold St.bucketOf St.bidx; rw [e]; exact h
      split <;> simp_all

theorem mem_elems_iff_cnt (s : St) (k : Int) : k ∈ s.elems ↔ 0 < cnt s k := by
  unfold cnt; exact List.count_pos_iff.symm

end CdsVerif.Algo.Cuckoo
