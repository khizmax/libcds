/-
Helper definitions and lemmas for the bit-string splitters (property C25, splitters part)
and for FeldmanHashSet addressing (property C28).

Everything here is about the hand models of `CdsVerif.Algo.Splitter.Model`
(`BS`, `NS`) and about the generated `CdsVerif.Gen.Feldman.metrics_make`.
All statements are universally quantified theorems; nothing is checked by sampling.
-/
import CdsVerif.Algo.Splitter.Model
import CdsVerif.Gen.Feldman

namespace CdsVerif.Algo.Splitter

/-! ## Vocabulary -/

/-- the `n`-bit field of `src` that starts at bit `pos` -/
def bitsAt (src pos n : Nat) : Nat := (src / 2 ^ pos) % 2 ^ n

/-- well-formed splitter state: `offset_ < 8`, the source consists of bytes, and the cursor is
    inside the source, or exactly at its end with `offset_ = 0` -/
def BS.WF (s : BS) : Prop :=
  s.off < 8 ∧ (∀ b ∈ s.bytes, b < 256) ∧
    (s.cur < s.bytes.length ∨ (s.cur = s.bytes.length ∧ s.off = 0))

instance (s : BS) : Decidable s.WF := by unfold BS.WF; infer_instance

/-- number of bits of the source -/
def BS.total (s : BS) : Nat := 8 * s.bytes.length

/-- the source as a (little-endian) number -/
def BS.src (s : BS) : Nat := leValue s.bytes

/-- run `cut` successively with the widths `ws`; returns (results, final state, ub) -/
def runCuts (w : Nat) : BS → List Nat → List Nat × BS × Bool
  | s, [] => ([], s, false)
  | s, c :: cs =>
    let r := s.cut w c
    let q := runCuts w r.2.1 cs
    (r.1 :: q.1, q.2.1, r.2.2 || q.2.2)

/-- the same for `byte_splitter::cut` -/
def runByteCuts (w : Nat) : BS → List Nat → List Nat × BS × Bool
  | s, [] => ([], s, false)
  | s, c :: cs =>
    let r := s.byteCut w c
    let q := runByteCuts w r.2.1 cs
    (r.1 :: q.1, q.2.1, r.2.2 || q.2.2)

/-- the same for `number_splitter<uint64_t>::cut`; results are reported as naturals -/
def runCutsNS : NS → List Nat → List Nat × NS × Bool
  | s, [] => ([], s, false)
  | s, c :: cs =>
    let r := s.cut (BitVec.ofNat 32 c)
    let q := runCutsNS r.2.1 cs
    (r.1.toNat :: q.1, q.2.1, r.2.2 || q.2.2)

/-- `Σ_i rs[i] * 2^(acc + ws[0] + … + ws[i-1])` -/
def fieldSumFrom : Nat → List Nat → List Nat → Nat
  | acc, w :: ws, r :: rs => r * 2 ^ acc + fieldSumFrom (acc + w) ws rs
  | _, _, _ => 0

/-- `Σ_i rs[i] * 2^(ws[0] + … + ws[i-1])`: the fields `rs` of widths `ws` laid side by side -/
def fieldSum (ws rs : List Nat) : Nat := fieldSumFrom 0 ws rs

/-- Horner form of `fieldSum` (used in the proofs) -/
def assemble : List Nat → List Nat → Nat
  | w :: ws, r :: rs => r + 2 ^ w * assemble ws rs
  | _, _ => 0

/-- the cuts `traverse` makes below the head node: `cut arrW` until `eos()` -/
def cutsUntilEos (w arrW : Nat) : Nat → BS → List Nat
  | 0, _ => []
  | fuel + 1, s =>
    if s.eos then [] else
      let r := s.cut w arrW
      r.1 :: cutsUntilEos w arrW fuel r.2.1

/-- The slot indices FeldmanHashSet computes for a hash: `traverse_data::reset` does
    `splitter.reset(); cut(head_node_size_log)`, then `traverse` does `cut(array_node_size_log)`
    per level.  (`uint_type = unsigned`, so `w = 32`.)  The fuel `8 * length` is never exhausted for `arrW ≥ 1`. -/
def pathOf (headW arrW : Nat) (s : BS) : List Nat :=
  let r := s.reset.cut 32 headW
  r.1 :: cutsUntilEos 32 arrW (8 * s.bytes.length) r.2.1

def cutsUntilEosNS (arrW : Nat) : Nat → NS → List Nat
  | 0, _ => []
  | fuel + 1, s =>
    if s.eos then [] else
      let r := s.cut (BitVec.ofNat 32 arrW)
      r.1.toNat :: cutsUntilEosNS arrW fuel r.2.1

/-- the same path for `number_splitter<uint64_t>` (the splitter `select_splitter` picks for integral hashes) -/
def pathOfNS (headW arrW : Nat) (s : NS) : List Nat :=
  let r := ({ s with shift := 0 } : NS).cut (BitVec.ofNat 32 headW)
  r.1.toNat :: cutsUntilEosNS arrW 64 r.2.1

/-! ## `bitsAt` and `leValue` arithmetic -/

theorem bitsAt_zero_width (x p : Nat) : bitsAt x p 0 = 0 := by
  simp [bitsAt, Nat.mod_one]

theorem bitsAt_lt (x p n : Nat) : bitsAt x p n < 2 ^ n :=
  Nat.mod_lt _ (Nat.two_pow_pos n)

theorem bitsAt_add (x p d b : Nat) :
    bitsAt x p (d + b) = bitsAt x p d + 2 ^ d * bitsAt x (p + d) b := by
  unfold bitsAt
  rw [Nat.pow_add 2 d b, Nat.mod_mul, Nat.pow_add 2 p d, ← Nat.div_div_eq_div_mul]

theorem bitsAt_zero_pos_of_lt {x n : Nat} (h : x < 2 ^ n) : bitsAt x 0 n = x := by
  simp [bitsAt, Nat.mod_eq_of_lt h]

theorem leValue_lt : ∀ (bs : List Nat), (∀ b ∈ bs, b < 256) → leValue bs < 2 ^ (8 * bs.length)
  | [], _ => by simp [leValue]
  | b :: bs, h => by
    have h1 : b < 256 := h b (by simp)
    have h2 := leValue_lt bs (fun x hx => h x (by simp [hx]))
    have : 2 ^ (8 * (b :: bs).length) = 256 * 2 ^ (8 * bs.length) := by
      rw [List.length_cons, Nat.mul_add, Nat.pow_add]; simp [Nat.mul_comm]
    rw [this]; simp only [leValue]; omega

theorem leValue_div : ∀ (k : Nat) (bs : List Nat), (∀ b ∈ bs, b < 256) →
    leValue bs / 2 ^ (k * 8) = leValue (bs.drop k)
  | 0, bs, _ => by simp
  | k + 1, [], _ => by simp [leValue]
  | k + 1, b :: bs, h => by
    have h1 : b < 256 := h b (by simp)
    have ih := leValue_div k bs (fun x hx => h x (by simp [hx]))
    have : 2 ^ ((k + 1) * 8) = 256 * 2 ^ (k * 8) := by
      rw [Nat.add_mul, Nat.pow_add]; simp [Nat.mul_comm]
    rw [this, ← Nat.div_div_eq_div_mul]
    simp only [leValue, List.drop_succ_cons]
    rw [show (b + 256 * leValue bs) / 256 = leValue bs by omega, ih]

/-- a field that lies inside one byte can be read from that byte -/
theorem byte_bitsAt (bs : List Nat) (hb : ∀ b ∈ bs, b < 256) (cur off n : Nat)
    (hcur : cur < bs.length) (hn : off + n ≤ 8) :
    (bs.getD cur 0 / 2 ^ off) % 2 ^ n = bitsAt (leValue bs) (off + cur * 8) n := by
  unfold bitsAt
  rw [Nat.add_comm off, Nat.pow_add, ← Nat.div_div_eq_div_mul, leValue_div cur bs hb,
    List.drop_eq_getElem_cons hcur]
  have hget : bs.getD cur 0 = bs[cur] := by simp [List.getD_eq_getElem?_getD, hcur]
  rw [hget]
  simp only [leValue]
  generalize leValue (List.drop (cur + 1) bs) = r
  generalize bs[cur] = b
  rw [← Nat.mod_mul_right_div_self, ← Nat.mod_mul_right_div_self, ← Nat.pow_add]
  have h256 : 256 = 2 ^ (off + n) * 2 ^ (8 - (off + n)) := by
    rw [← Nat.pow_add, show off + n + (8 - (off + n)) = 8 by omega]
  have : (b + 256 * r) % 2 ^ (off + n) = b % 2 ^ (off + n) := by
    rw [h256, Nat.mul_assoc, Nat.add_mul_mod_self_left]
  rw [this]

theorem or_shift_eq_add {a d : Nat} (h : a < 2 ^ d) (b : Nat) : a ||| b * 2 ^ d = a + b * 2 ^ d := by
  rw [Nat.or_comm, Nat.add_comm, ← Nat.shiftLeft_eq, Nat.shiftLeft_add_eq_or_of_lt h]

/-! ## `split_bitstring::cut` -/

/-- one loop iteration of `split_bitstring::cut` under the loop invariant -/
theorem cutIter_spec (w count : Nat) (hcw : count ≤ w) (pos0 done : Nat) (s : BS) (hwf : s.WF)
    (hend : pos0 + count ≤ 8 * s.bytes.length) (hdone : done < count)
    (hpos : s.bitOffset = pos0 + done) :
    ∃ bits s', 1 ≤ bits ∧ done + bits ≤ count ∧
      cutIter w count (bitsAt (leValue s.bytes) pos0 done) done s false
        = (bitsAt (leValue s.bytes) pos0 (done + bits), done + bits, s', false) ∧
      s'.WF ∧ s'.bytes = s.bytes ∧ s'.bitOffset = pos0 + (done + bits) := by
  obtain ⟨hoff, hb, hcur⟩ := hwf
  have hcur' : s.cur < s.bytes.length := by unfold BS.bitOffset at hpos; omega
  generalize hbits : (if count - done > 8 - s.off then 8 - s.off else count - done) = bits
  have hb1 : 1 ≤ bits := by subst hbits; split <;> omega
  have hb2 : done + bits ≤ count := by subst hbits; split <;> omega
  have hb3 : s.off + bits ≤ 8 := by subst hbits; split <;> omega
  have hpiece := byte_bitsAt s.bytes hb s.cur s.off bits hcur' hb3
  have hposeq : s.off + s.cur * 8 = pos0 + done := hpos
  rw [hposeq] at hpiece
  have hlt : bitsAt (leValue s.bytes) (pos0 + done) bits * 2 ^ done < 2 ^ w := by
    have h1 := bitsAt_lt (leValue s.bytes) (pos0 + done) bits
    calc _ < 2 ^ bits * 2 ^ done := Nat.mul_lt_mul_of_pos_right h1 (Nat.two_pow_pos _)
      _ = 2 ^ (bits + done) := (Nat.pow_add ..).symm
      _ ≤ 2 ^ w := Nat.pow_le_pow_right (by omega) (by omega)
  refine ⟨bits, if s.off + bits = 8 then { s with off := 0, cur := s.cur + 1 } else { s with off := s.off + bits },
    hb1, hb2, ?_, ?_⟩
  · simp only [cutIter, hbits, hpiece]
    rw [Nat.mod_eq_of_lt (show done < w by omega), Nat.mod_eq_of_lt hlt,
      or_shift_eq_add (bitsAt_lt ..), bitsAt_add, Nat.mul_comm]
    simp [show ¬ (s.bytes.length ≤ s.cur) by omega, show ¬ (w ≤ done) by omega]
  · split
    · refine ⟨⟨by simp, hb, ?_⟩, rfl, ?_⟩
      · have h1 : s.cur + 1 ≤ s.bytes.length := by omega
        rcases Nat.lt_or_eq_of_le h1 with h | h
        · exact Or.inl h
        · exact Or.inr ⟨h, rfl⟩
      · simp only [BS.bitOffset]; omega
    · refine ⟨⟨by simp only; omega, hb, Or.inl hcur'⟩, rfl, ?_⟩
      simp only [BS.bitOffset]; omega

/-- the loop of `split_bitstring::cut` -/
theorem cutLoop_spec (w count : Nat) (hcw : count ≤ w) (pos0 : Nat) :
    ∀ (fuel done : Nat) (s : BS), s.WF → pos0 + count ≤ 8 * s.bytes.length → done ≤ count →
      s.bitOffset = pos0 + done → count - done ≤ fuel →
      let r := cutLoop w count fuel (bitsAt (leValue s.bytes) pos0 done) done s false
      r.1 = bitsAt (leValue s.bytes) pos0 count ∧ r.2.1.WF ∧ r.2.1.bytes = s.bytes ∧
        r.2.1.bitOffset = pos0 + count ∧ r.2.2 = false := by
  intro fuel
  induction fuel with
  | zero =>
    intro done s hwf hend hd hpos hf
    have : done = count := by omega
    subst this
    exact ⟨rfl, hwf, rfl, hpos, rfl⟩
  | succ fuel ih =>
    intro done s hwf hend hd hpos hf
    by_cases hlt : done < count
    · obtain ⟨bits, s', hb1, hb2, hiter, hwf', hbytes', hpos'⟩ :=
        cutIter_spec w count hcw pos0 done s hwf hend hlt hpos
      simp only [cutLoop, hlt, if_true, hiter]
      have := ih (done + bits) s' hwf' (by rw [hbytes']; exact hend) hb2 hpos' (by omega)
      rw [hbytes'] at this
      exact this
    · have : done = count := by omega
      subst this
      simp only [cutLoop, Nat.lt_irrefl, if_false]
      exact ⟨trivial, hwf, trivial, hpos, trivial⟩

/-- `split_bitstring::cut`: foundation lemma -/
theorem BS.cut_spec (w : Nat) (s : BS) (count : Nat) (hwf : s.WF) (hcw : count ≤ w)
    (hend : s.bitOffset + count ≤ s.total) :
    (s.cut w count).2.2 = false ∧
    (s.cut w count).1 = bitsAt s.src s.bitOffset count ∧
    (s.cut w count).2.1.bitOffset = s.bitOffset + count ∧
    (s.cut w count).2.1.WF ∧
    (s.cut w count).2.1.bytes = s.bytes := by
  have := cutLoop_spec w count hcw s.bitOffset count 0 s hwf hend (Nat.zero_le _) rfl (by omega)
  rw [bitsAt_zero_width] at this
  obtain ⟨h1, h2, h3, h4, h5⟩ := this
  exact ⟨h5, h1, h4, h2, h3⟩

theorem BS.WF.eos_iff {s : BS} (h : s.WF) : s.eos = true ↔ s.bitOffset = s.total := by
  obtain ⟨h1, _, h3⟩ := h
  simp only [BS.eos, BS.bitOffset, BS.total, decide_eq_true_eq]
  omega

theorem BS.WF.bitOffset_le {s : BS} (h : s.WF) : s.bitOffset ≤ s.total := by
  obtain ⟨h1, _, h3⟩ := h
  simp only [BS.bitOffset, BS.total]
  omega

/-- `split_bitstring::safe_cut` -/
theorem BS.safeCut_spec (w : Nat) (s : BS) (count : Nat) (hwf : s.WF) (hcw : count ≤ w)
    (htot : s.total < 2 ^ 32) :
    (s.safeCut w count).2.2 = false ∧
    (s.safeCut w count).1 = bitsAt s.src s.bitOffset (min count (s.total - s.bitOffset)) ∧
    (s.safeCut w count).2.1.bitOffset = s.bitOffset + min count (s.total - s.bitOffset) ∧
    (s.safeCut w count).2.1.bitOffset ≤ s.total ∧
    (s.safeCut w count).2.1.WF ∧
    (s.safeCut w count).2.1.bytes = s.bytes := by
  have hle := hwf.bitOffset_le
  unfold BS.safeCut
  by_cases heos : s.eos = true
  · have hp := hwf.eos_iff.mp heos
    have hn : min count (s.total - s.bitOffset) = 0 := by omega
    simp only [heos, if_true, hn, bitsAt_zero_width]
    exact ⟨trivial, trivial, rfl, hle, hwf, trivial⟩
  · have hcur : s.cur < s.bytes.length := by simpa [BS.eos] using heos
    have hoff := hwf.1
    have hrest : ((s.bytes.length - s.cur - 1) * 8 + (8 - s.off)) % 2 ^ 32 = s.total - s.bitOffset := by
      have : (s.bytes.length - s.cur - 1) * 8 + (8 - s.off) = s.total - s.bitOffset := by
        simp only [BS.total, BS.bitOffset]; omega
      rw [this]; exact Nat.mod_eq_of_lt (by omega)
    have hmin : (if s.total - s.bitOffset < count then s.total - s.bitOffset else count)
        = min count (s.total - s.bitOffset) := by split <;> omega
    simp only [heos, hrest, hmin]
    generalize hn : min count (s.total - s.bitOffset) = n
    by_cases hn0 : n = 0
    · subst hn0
      simp only [bitsAt_zero_width]
      exact ⟨rfl, rfl, rfl, hle, hwf, rfl⟩
    · have hc := BS.cut_spec w s n hwf (by omega) (by omega)
      simp only [hn0, ne_eq, not_false_eq_true, if_true, Bool.false_eq_true, if_false]
      obtain ⟨h1, h2, h3, h4, h5⟩ := hc
      exact ⟨h1, h2, h3, by omega, h4, h5⟩

/-! ## Reconstruction -/

theorem fieldSumFrom_eq (acc : Nat) : ∀ (ws rs : List Nat),
    fieldSumFrom acc ws rs = 2 ^ acc * assemble ws rs
  | [], _ => by simp [fieldSumFrom, assemble]
  | _ :: _, [] => by simp [fieldSumFrom, assemble]
  | w :: ws, r :: rs => by
    simp only [fieldSumFrom, assemble]
    rw [fieldSumFrom_eq (acc + w) ws rs, Nat.pow_add, Nat.mul_add, Nat.mul_assoc, Nat.mul_comm r]
termination_by ws => ws.length

theorem fieldSum_eq_assemble (ws rs : List Nat) : fieldSum ws rs = assemble ws rs := by
  simp [fieldSum, fieldSumFrom_eq]

/-- a field followed by the fields of the rest is the fields of the whole -/
theorem fieldSum_cons_bitsAt {src pos c r : Nat} {cs rs : List Nat} (hr : r = bitsAt src pos c)
    (hrs : fieldSum cs rs = bitsAt src (pos + c) cs.sum) :
    fieldSum (c :: cs) (r :: rs) = bitsAt src pos (c + cs.sum) := by
  rw [fieldSum_eq_assemble] at hrs ⊢
  simp only [assemble]
  rw [hr, hrs, bitsAt_add]

/-- What the three splitters have in common: `cut` reads the field of a fixed number `src` at a cursor
`pos` and advances the cursor (for states satisfying `Inv`, widths satisfying `okw`, below `limit`);
so a run of cuts reads consecutive fields, which laid side by side are one wide field. -/
theorem run_spec {σ : Type} (cut : σ → Nat → Nat × σ × Bool) (run : σ → List Nat → List Nat × σ × Bool)
    (hnil : ∀ s, run s [] = ([], s, false))
    (hcons : ∀ s c cs, run s (c :: cs) =
      ((cut s c).1 :: (run (cut s c).2.1 cs).1, (run (cut s c).2.1 cs).2.1,
        (cut s c).2.2 || (run (cut s c).2.1 cs).2.2))
    (Inv : σ → Prop) (okw : Nat → Prop) (pos : σ → Nat) (src limit : Nat)
    (hcut : ∀ s c, Inv s → okw c → pos s + c ≤ limit →
      (cut s c).2.2 = false ∧ (cut s c).1 = bitsAt src (pos s) c ∧
      pos (cut s c).2.1 = pos s + c ∧ Inv (cut s c).2.1) :
    ∀ (ws : List Nat) (s : σ), Inv s → (∀ c ∈ ws, okw c) → pos s + ws.sum ≤ limit →
      (run s ws).2.2 = false ∧ (run s ws).1.length = ws.length ∧
      fieldSum ws (run s ws).1 = bitsAt src (pos s) ws.sum ∧
      pos (run s ws).2.1 = pos s + ws.sum ∧ Inv (run s ws).2.1
  | [], s, hinv, _, _ => by
    rw [hnil]
    simp [fieldSum, fieldSumFrom, bitsAt_zero_width, hinv]
  | c :: cs, s, hinv, hws, hend => by
    simp only [List.sum_cons] at hend ⊢
    obtain ⟨h1, h2, h3, h4⟩ := hcut s c hinv (hws c (by simp)) (by omega)
    obtain ⟨i1, i2, i3, i4, i5⟩ := run_spec cut run hnil hcons Inv okw pos src limit hcut cs (cut s c).2.1 h4
      (fun x hx => hws x (by simp [hx])) (by rw [h3]; omega)
    rw [h3] at i3
    rw [hcons]
    simp only [List.length_cons]
    rw [h1, i1, i2, fieldSum_cons_bitsAt h2 i3, i4, h3]
    exact ⟨rfl, rfl, rfl, by omega, i5⟩

theorem runCuts_spec (w : Nat) (ws : List Nat) (s : BS) (hwf : s.WF) (hws : ∀ c ∈ ws, c ≤ w)
    (hend : s.bitOffset + ws.sum ≤ s.total) :
    (runCuts w s ws).2.2 = false ∧ (runCuts w s ws).1.length = ws.length ∧
    fieldSum ws (runCuts w s ws).1 = bitsAt s.src s.bitOffset ws.sum ∧
    (runCuts w s ws).2.1.bitOffset = s.bitOffset + ws.sum ∧
    (runCuts w s ws).2.1.WF ∧ (runCuts w s ws).2.1.bytes = s.bytes :=
  run_spec (fun t c => t.cut w c) (runCuts w) (fun _ => rfl) (fun _ _ _ => rfl)
    (fun t => t.WF ∧ t.bytes = s.bytes) (· ≤ w) BS.bitOffset s.src s.total
    (fun t c ht hc he => by
      obtain ⟨h1, h2, h3, h4, h5⟩ := BS.cut_spec w t c ht.1 hc (by rw [BS.total, ht.2]; exact he)
      exact ⟨h1, by rw [h2, BS.src, ht.2]; rfl, h3, h4, h5.trans ht.2⟩)
    ws s ⟨hwf, rfl⟩ hws hend

theorem leValue_inj : ∀ (a b : List Nat), a.length = b.length → (∀ x ∈ a, x < 256) →
    (∀ x ∈ b, x < 256) → leValue a = leValue b → a = b
  | [], [], _, _, _, _ => rfl
  | [], _ :: _, h, _, _, _ => by simp at h
  | _ :: _, [], h, _, _, _ => by simp at h
  | x :: a, y :: b, hl, ha, hb, h => by
    have hx : x < 256 := ha x (by simp)
    have hy : y < 256 := hb y (by simp)
    simp only [leValue] at h
    have h1 : x = y := by omega
    have h2 : leValue a = leValue b := by omega
    rw [h1, leValue_inj a b (by simpa using hl) (fun z hz => ha z (by simp [hz]))
      (fun z hz => hb z (by simp [hz])) h2]

theorem BS.reset_WF {s : BS} (hb : ∀ b ∈ s.bytes, b < 256) : s.reset.WF := by
  refine ⟨by simp [BS.reset], hb, ?_⟩
  show 0 < s.bytes.length ∨ (0 = s.bytes.length ∧ 0 = 0)
  omega

/-- cutting the whole source into fields reconstructs it -/
theorem runCuts_reconstruct (w : Nat) (ws : List Nat) (s : BS) (hwf : s.WF) (hpos : s.bitOffset = 0)
    (hws : ∀ c ∈ ws, c ≤ w) (hsum : ws.sum = s.total) :
    (runCuts w s ws).2.2 = false ∧ (runCuts w s ws).1.length = ws.length ∧
    fieldSum ws (runCuts w s ws).1 = s.src := by
  obtain ⟨h1, h2, h3, _⟩ := runCuts_spec w ws s hwf hws (by omega)
  refine ⟨h1, h2, ?_⟩
  rw [h3, hpos, hsum]
  exact bitsAt_zero_pos_of_lt (leValue_lt s.bytes hwf.2.1)

/-! ## The Feldman path as a list of fields -/

theorem BS.WF.not_eos {s : BS} (h : s.WF) (hlt : s.bitOffset < s.total) : s.eos = false := by
  cases he : s.eos with
  | false => rfl
  | true => have := h.eos_iff.mp he; omega

theorem cutsUntilEos_eq (w arrW : Nat) (harr : 1 ≤ arrW) (hw : arrW ≤ w) :
    ∀ (k fuel : Nat) (s : BS), s.WF → s.bitOffset + k * arrW = s.total → k ≤ fuel →
      cutsUntilEos w arrW fuel s = (runCuts w s (List.replicate k arrW)).1 := by
  intro k
  induction k with
  | zero =>
    intro fuel s hwf hpos _
    have heos : s.eos = true := hwf.eos_iff.mpr (by omega)
    cases fuel <;> simp [cutsUntilEos, heos, runCuts]
  | succ k ih =>
    intro fuel s hwf hpos hf
    obtain ⟨fuel, rfl⟩ : ∃ f, fuel = f + 1 := ⟨fuel - 1, by omega⟩
    have hmul : (k + 1) * arrW = k * arrW + arrW := Nat.succ_mul k arrW
    have heos : s.eos = false := hwf.not_eos (by omega)
    obtain ⟨_, _, h3, h4, h5⟩ := BS.cut_spec w s arrW hwf hw (by omega)
    have htot : (s.cut w arrW).2.1.total = s.total := by simp only [BS.total, h5]
    simp only [cutsUntilEos, heos, List.replicate_succ, runCuts, Bool.false_eq_true, if_false]
    rw [ih fuel (s.cut w arrW).2.1 h4 (by rw [h3, htot]; omega) (by omega)]

theorem sum_replicate (k a : Nat) : (List.replicate k a).sum = k * a := by
  induction k with
  | zero => simp
  | succ k ih => simp [List.replicate_succ, ih, Nat.succ_mul, Nat.add_comm]

/-- the path is the list of fields of widths `headW, arrW, …, arrW` -/
theorem pathOf_eq_runCuts (headW arrW m : Nat) (s : BS) (hb : ∀ b ∈ s.bytes, b < 256)
    (hh : headW ≤ 32) (ha1 : 1 ≤ arrW) (ha : arrW ≤ 32) (hsum : headW + m * arrW = 8 * s.bytes.length) :
    pathOf headW arrW s = (runCuts 32 s.reset (headW :: List.replicate m arrW)).1 := by
  have hwf := BS.reset_WF hb
  have hp0 : s.reset.bitOffset = 0 := rfl
  have ht0 : s.reset.total = 8 * s.bytes.length := rfl
  obtain ⟨_, _, h3, h4, h5⟩ := BS.cut_spec 32 s.reset headW hwf hh (by omega)
  have htot : (s.reset.cut 32 headW).2.1.total = s.reset.total := by simp only [BS.total, h5]
  have hm : m ≤ m * arrW := Nat.le_mul_of_pos_right m ha1
  simp only [pathOf, runCuts]
  rw [cutsUntilEos_eq 32 arrW ha1 ha m (8 * s.bytes.length) _ h4 (by rw [h3, htot]; omega) (by omega)]

/-! ## `byte_splitter` -/

theorem byte_eq_bitsAt (bs : List Nat) (hb : ∀ b ∈ bs, b < 256) (cur : Nat) (hcur : cur < bs.length) :
    bs.getD cur 0 = bitsAt (leValue bs) (cur * 8) 8 := by
  have h := byte_bitsAt bs hb cur 0 8 hcur (by omega)
  have hlt : bs.getD cur 0 < 256 := by
    rw [List.getD_eq_getElem?_getD, List.getElem?_eq_getElem hcur]
    exact hb _ (List.getElem_mem hcur)
  rw [Nat.zero_add] at h
  rw [← h]
  simp only [Nat.pow_zero, Nat.div_one, Nat.reducePow]
  exact (Nat.mod_eq_of_lt hlt).symm

/-- the loop of `byte_splitter::cut` -/
theorem byteCutLoop_spec (w k : Nat) (hkw : 8 * k ≤ w) (cur0 : Nat) :
    ∀ (fuel j : Nat) (s : BS), (∀ b ∈ s.bytes, b < 256) → cur0 + k ≤ s.bytes.length → j ≤ k →
      s.cur = cur0 + j → k - j ≤ fuel →
      let r := byteCutLoop w (8 * k) fuel (bitsAt (leValue s.bytes) (cur0 * 8) (8 * j)) (8 * j) s false
      r.1 = bitsAt (leValue s.bytes) (cur0 * 8) (8 * k) ∧ r.2.1 = { s with cur := cur0 + k } ∧
        r.2.2 = false := by
  intro fuel
  induction fuel with
  | zero =>
    intro j s _ _ hj hcur hf
    have : j = k := by omega
    subst this
    refine ⟨rfl, ?_, rfl⟩
    show s = _
    cases s; simp_all
  | succ fuel ih =>
    intro j s hb hend hj hcur hf
    by_cases hlt : j < k
    · have hlt' : 8 * j < 8 * k := by omega
      have hcl : s.cur < s.bytes.length := by omega
      have hbyte := byte_eq_bitsAt s.bytes hb s.cur hcl
      have hpos : s.cur * 8 = cur0 * 8 + 8 * j := by omega
      rw [hpos] at hbyte
      have hlt2 : bitsAt (leValue s.bytes) (cur0 * 8 + 8 * j) 8 * 2 ^ (8 * j) < 2 ^ w := by
        have h1 := bitsAt_lt (leValue s.bytes) (cur0 * 8 + 8 * j) 8
        calc _ < 2 ^ 8 * 2 ^ (8 * j) := Nat.mul_lt_mul_of_pos_right h1 (Nat.two_pow_pos _)
          _ = 2 ^ (8 + 8 * j) := (Nat.pow_add ..).symm
          _ ≤ 2 ^ w := Nat.pow_le_pow_right (by omega) (by omega)
      simp only [byteCutLoop, hlt', if_true, hbyte]
      rw [Nat.mod_eq_of_lt (show 8 * j < w by omega), Nat.mod_eq_of_lt hlt2,
        or_shift_eq_add (bitsAt_lt ..), Nat.mul_comm _ (2 ^ (8 * j)), ← bitsAt_add,
        show 8 * j + 8 = 8 * (j + 1) by omega]
      have hub : (false || decide (s.bytes.length ≤ s.cur) || decide (w ≤ 8 * j)) = false := by
        simp; omega
      simp only [ge_iff_le, hub]
      have := ih (j + 1) { s with cur := s.cur + 1 } hb hend (by omega) (by simp only; omega) (by omega)
      simp only at this
      obtain ⟨h1, h2, h3⟩ := this
      exact ⟨h1, h2, h3⟩
    · have : j = k := by omega
      subst this
      simp only [byteCutLoop, Nat.lt_irrefl, if_false]
      exact ⟨trivial, by cases s; simp_all, trivial⟩

/-- `byte_splitter::cut` -/
theorem BS.byteCut_spec (w : Nat) (s : BS) (count : Nat) (hwf : s.WF) (hoff : s.off = 0)
    (h8 : count % 8 = 0) (hcw : count ≤ w) (hend : s.bitOffset + count ≤ s.total) :
    (s.byteCut w count).2.2 = false ∧
    (s.byteCut w count).1 = bitsAt s.src s.bitOffset count ∧
    (s.byteCut w count).2.1.bitOffset = s.bitOffset + count ∧
    (s.byteCut w count).2.1.WF ∧ (s.byteCut w count).2.1.off = 0 ∧
    (s.byteCut w count).2.1.bytes = s.bytes := by
  obtain ⟨k, rfl⟩ : ∃ k, count = 8 * k := ⟨count / 8, by omega⟩
  simp only [BS.bitOffset, BS.total, hoff, Nat.zero_add] at hend ⊢
  have := byteCutLoop_spec w k hcw s.cur (8 * k / 8 + 1) 0 s hwf.2.1 (by omega) (by omega) rfl (by omega)
  simp only [Nat.mul_zero, bitsAt_zero_width] at this
  obtain ⟨h1, h2, h3⟩ := this
  unfold BS.byteCut
  rw [h3, h1, h2]
  refine ⟨rfl, rfl, by simp only [hoff]; omega, ⟨by simp only [hoff]; omega, hwf.2.1, ?_⟩, hoff, rfl⟩
  simp only [hoff]
  have : s.cur + k ≤ s.bytes.length := by omega
  rcases Nat.lt_or_eq_of_le this with h | h
  · exact Or.inl h
  · exact Or.inr ⟨h, trivial⟩

/-- `byte_splitter::safe_cut` -/
theorem BS.byteSafeCut_spec (w : Nat) (s : BS) (count : Nat) (hwf : s.WF) (hoff : s.off = 0)
    (h8 : count % 8 = 0) (hcw : count ≤ w) (htot : s.total < 2 ^ 32) :
    (s.byteSafeCut w count).2.2 = false ∧
    (s.byteSafeCut w count).1 = bitsAt s.src s.bitOffset (min count (s.total - s.bitOffset)) ∧
    (s.byteSafeCut w count).2.1.bitOffset = s.bitOffset + min count (s.total - s.bitOffset) ∧
    (s.byteSafeCut w count).2.1.bitOffset ≤ s.total ∧
    (s.byteSafeCut w count).2.1.WF ∧ (s.byteSafeCut w count).2.1.off = 0 ∧
    (s.byteSafeCut w count).2.1.bytes = s.bytes := by
  have hle := hwf.bitOffset_le
  unfold BS.byteSafeCut
  by_cases heos : s.eos = true
  · have hp := hwf.eos_iff.mp heos
    have hn : min count (s.total - s.bitOffset) = 0 := by omega
    simp only [heos, if_true, hn, bitsAt_zero_width]
    exact ⟨trivial, trivial, rfl, hle, hwf, hoff, trivial⟩
  · have hcur : s.cur < s.bytes.length := by simpa [BS.eos] using heos
    have hrest : ((s.bytes.length - s.cur) * 8) % 2 ^ 32 = s.total - s.bitOffset := by
      have : (s.bytes.length - s.cur) * 8 = s.total - s.bitOffset := by
        simp only [BS.total, BS.bitOffset, hoff]; omega
      rw [this]; exact Nat.mod_eq_of_lt (by omega)
    have hmin : (if s.total - s.bitOffset < count then s.total - s.bitOffset else count)
        = min count (s.total - s.bitOffset) := by split <;> omega
    simp only [heos, hrest, hmin]
    have hn8 : min count (s.total - s.bitOffset) % 8 = 0 := by
      simp only [BS.total, BS.bitOffset, hoff]; omega
    generalize hn : min count (s.total - s.bitOffset) = n at hn8
    by_cases hn0 : n = 0
    · subst hn0
      simp only [bitsAt_zero_width]
      exact ⟨rfl, rfl, rfl, hle, hwf, hoff, rfl⟩
    · have hc := BS.byteCut_spec w s n hwf hoff hn8 (by omega) (by omega)
      simp only [hn0, ne_eq, not_false_eq_true, if_true, Bool.false_eq_true, if_false]
      obtain ⟨h1, h2, h3, h4, h5, h6⟩ := hc
      exact ⟨h1, h2, h3, by omega, h4, h5, h6⟩

theorem runByteCuts_spec (w : Nat) (ws : List Nat) (s : BS) (hwf : s.WF) (hoff : s.off = 0)
    (hws : ∀ c ∈ ws, c % 8 = 0 ∧ c ≤ w) (hend : s.bitOffset + ws.sum ≤ s.total) :
    (runByteCuts w s ws).2.2 = false ∧ (runByteCuts w s ws).1.length = ws.length ∧
    fieldSum ws (runByteCuts w s ws).1 = bitsAt s.src s.bitOffset ws.sum ∧
    (runByteCuts w s ws).2.1.bitOffset = s.bitOffset + ws.sum ∧
    (runByteCuts w s ws).2.1.WF ∧ (runByteCuts w s ws).2.1.bytes = s.bytes := by
  obtain ⟨h1, h2, h3, h4, h5, -, h6⟩ :=
    run_spec (fun t c => t.byteCut w c) (runByteCuts w) (fun _ => rfl) (fun _ _ _ => rfl)
      (fun t => t.WF ∧ t.off = 0 ∧ t.bytes = s.bytes) (fun c => c % 8 = 0 ∧ c ≤ w) BS.bitOffset s.src s.total
      (fun t c ht hc he => by
        obtain ⟨h1, h2, h3, h4, h4', h5⟩ :=
          BS.byteCut_spec w t c ht.1 ht.2.1 hc.1 hc.2 (by rw [BS.total, ht.2.2]; exact he)
        exact ⟨h1, by rw [h2, BS.src, ht.2.2]; rfl, h3, h4, h4', h5.trans ht.2.2⟩)
      ws s ⟨hwf, hoff, rfl⟩ hws hend
  exact ⟨h1, h2, h3, h4, h5, h6⟩

theorem runByteCuts_reconstruct (w : Nat) (ws : List Nat) (s : BS) (hwf : s.WF) (hoff : s.off = 0)
    (hcur : s.cur = 0) (hws : ∀ c ∈ ws, c % 8 = 0 ∧ c ≤ w) (hsum : ws.sum = s.total) :
    (runByteCuts w s ws).2.2 = false ∧ (runByteCuts w s ws).1.length = ws.length ∧
    fieldSum ws (runByteCuts w s ws).1 = s.src := by
  have hpos : s.bitOffset = 0 := by simp [BS.bitOffset, hcur, hoff]
  obtain ⟨h1, h2, h3, _⟩ := runByteCuts_spec w ws s hwf hoff hws (by omega)
  refine ⟨h1, h2, ?_⟩
  rw [h3, hpos, hsum]
  exact bitsAt_zero_pos_of_lt (leValue_lt s.bytes hwf.2.1)

/-! ## `number_splitter<uint64_t>` -/

section NumberSplitter
open CdsVerif.Gen.Splitter

theorem one_shiftLeft_toNat (n : Nat) (h : n < 64) : ((1#64) <<< (n % 64)).toNat = 2 ^ n := by
  rw [Nat.mod_eq_of_lt h, BitVec.toNat_shiftLeft, BitVec.toNat_ofNat, Nat.shiftLeft_eq]
  have : 2 ^ n < 2 ^ 64 := Nat.pow_lt_pow_right (by omega) h
  simp only [Nat.reducePow, Nat.reduceMod, Nat.one_mul] at this ⊢
  exact Nat.mod_eq_of_lt this

theorem mask_toNat (c : Nat) (h : c < 64) : (((1#64) <<< (c % 64)) - 1#64).toNat = 2 ^ c - 1 := by
  have h1 : 2 ^ c < 2 ^ 64 := Nat.pow_lt_pow_right (by omega) h
  have h2 : 0 < 2 ^ c := Nat.two_pow_pos c
  rw [BitVec.toNat_sub, one_shiftLeft_toNat c h]
  simp only [BitVec.toNat_ofNat, Nat.reducePow, Nat.reduceMod] at h1 ⊢
  omega

/-- `number_splitter<uint64_t>::cut` -/
theorem NS.cut_spec (s : NS) (count : BitVec 32) (hs : s.shift.toNat < 64) (hc : count.toNat < 64) :
    (s.cut count).2.2 = false ∧
    (s.cut count).1.toNat = bitsAt s.number.toNat s.shift.toNat count.toNat ∧
    (s.cut count).2.1.shift.toNat = s.shift.toNat + count.toNat ∧
    (s.cut count).2.1.number = s.number := by
  refine ⟨?_, ?_, ?_, rfl⟩
  · simp [NS.cut, number_cut64_ub]; omega
  · simp only [NS.cut, number_cut64]
    rw [BitVec.toNat_and, BitVec.toNat_ushiftRight, mask_toNat _ hc, Nat.mod_eq_of_lt hs,
      Nat.and_two_pow_sub_one_eq_mod, Nat.shiftRight_eq_div_pow]
    rfl
  · simp only [NS.cut, number_cut64]
    rw [BitVec.toNat_add]; omega

theorem NS.eos_eq (s : NS) : s.eos = decide (64 ≤ s.shift.toNat) := by
  simp [NS.eos, number_eos64, BitVec.ule]
  omega

theorem NS.safeCut_spec (s : NS) (count : BitVec 32) (hs : s.shift.toNat ≤ 64) (hc : count.toNat < 64) :
    (s.safeCut count).2.2 = false ∧
    (s.safeCut count).1.toNat = bitsAt s.number.toNat s.shift.toNat (min count.toNat (64 - s.shift.toNat)) ∧
    (s.safeCut count).2.1.shift.toNat = s.shift.toNat + min count.toNat (64 - s.shift.toNat) ∧
    (s.safeCut count).2.1.number = s.number := by
  unfold NS.safeCut
  have heos := s.eos_eq
  by_cases h64 : s.shift.toNat = 64
  · have : s.eos = true := by rw [heos]; simp [h64]
    simp [this, h64, bitsAt_zero_width]
  · have hlt : s.shift.toNat < 64 := by omega
    have : s.eos = false := by rw [heos]; simp; omega
    have hrest : ((number_rest_count64 s.shift).setWidth 32).toNat = 64 - s.shift.toNat := by
      simp only [number_rest_count64, BitVec.toNat_setWidth, BitVec.toNat_sub, BitVec.toNat_mul, BitVec.toNat_ofNat]
      omega
    generalize (number_rest_count64 s.shift).setWidth 32 = rest at hrest
    simp only [this, Bool.false_eq_true, if_false]
    have hc' : (if rest.ult count then rest else count).toNat = min count.toNat (64 - s.shift.toNat) := by
      simp only [BitVec.ult, decide_eq_true_eq]; split <;> omega
    generalize (if rest.ult count then rest else count) = c' at hc'
    rw [← hc']
    by_cases h0 : c' = 0
    · subst h0; simp [bitsAt_zero_width]
    · simp only [h0, ne_eq, not_false_eq_true, if_true]
      exact NS.cut_spec s c' hlt (by omega)

theorem ofNat32_toNat (c : Nat) (h : c < 64) : (BitVec.ofNat 32 c).toNat = c := by
  rw [BitVec.toNat_ofNat]; exact Nat.mod_eq_of_lt (by omega)

theorem runCutsNS_spec (ws : List Nat) (s : NS) (hws : ∀ c ∈ ws, 1 ≤ c ∧ c < 64)
    (hend : s.shift.toNat + ws.sum ≤ 64) :
    (runCutsNS s ws).2.2 = false ∧ (runCutsNS s ws).1.length = ws.length ∧
    fieldSum ws (runCutsNS s ws).1 = bitsAt s.number.toNat s.shift.toNat ws.sum ∧
    (runCutsNS s ws).2.1.shift.toNat = s.shift.toNat + ws.sum ∧
    (runCutsNS s ws).2.1.number = s.number :=
  run_spec (fun t c => ((t.cut (BitVec.ofNat 32 c)).1.toNat, (t.cut (BitVec.ofNat 32 c)).2)) runCutsNS
    (fun _ => rfl) (fun _ _ _ => rfl)
    (fun t => t.number = s.number) (fun c => 1 ≤ c ∧ c < 64) (fun t => t.shift.toNat) s.number.toNat 64
    (fun t c ht hc he => by
      have hcn := ofNat32_toNat c hc.2
      obtain ⟨h1, h2, h3, h4⟩ := NS.cut_spec t (BitVec.ofNat 32 c) (by omega) (by omega)
      rw [hcn] at h2 h3
      exact ⟨h1, by rw [← ht]; exact h2, h3, h4.trans ht⟩)
    ws s rfl hws hend

theorem runCutsNS_reconstruct (ws : List Nat) (s : NS) (hshift : s.shift = 0)
    (hws : ∀ c ∈ ws, 1 ≤ c ∧ c < 64) (hsum : ws.sum = 64) :
    (runCutsNS s ws).2.2 = false ∧ (runCutsNS s ws).1.length = ws.length ∧
    fieldSum ws (runCutsNS s ws).1 = s.number.toNat := by
  have h0 : s.shift.toNat = 0 := by rw [hshift]; rfl
  obtain ⟨h1, h2, h3, _⟩ := runCutsNS_spec ws s hws (by omega)
  refine ⟨h1, h2, ?_⟩
  rw [h3, h0, hsum]
  exact bitsAt_zero_pos_of_lt s.number.isLt

theorem cutsUntilEosNS_eq (arrW : Nat) (harr : 1 ≤ arrW) (hw : arrW < 64) :
    ∀ (k fuel : Nat) (s : NS), s.shift.toNat + k * arrW = 64 → k ≤ fuel →
      cutsUntilEosNS arrW fuel s = (runCutsNS s (List.replicate k arrW)).1 := by
  intro k
  induction k with
  | zero =>
    intro fuel s hpos _
    have heos : s.eos = true := by rw [NS.eos_eq]; simp; omega
    cases fuel <;> simp [cutsUntilEosNS, heos, runCutsNS]
  | succ k ih =>
    intro fuel s hpos hf
    obtain ⟨fuel, rfl⟩ : ∃ f, fuel = f + 1 := ⟨fuel - 1, by omega⟩
    have hmul : (k + 1) * arrW = k * arrW + arrW := Nat.succ_mul k arrW
    have heos : s.eos = false := by rw [NS.eos_eq]; simp; omega
    obtain ⟨_, _, h3, _⟩ := NS.cut_spec s (BitVec.ofNat 32 arrW) (by omega)
      (by rw [ofNat32_toNat arrW hw]; exact hw)
    rw [ofNat32_toNat arrW hw] at h3
    simp only [cutsUntilEosNS, heos, List.replicate_succ, runCutsNS, Bool.false_eq_true, if_false]
    rw [ih fuel (s.cut (BitVec.ofNat 32 arrW)).2.1 (by rw [h3]; omega) (by omega)]

theorem pathOfNS_eq_runCuts (headW arrW m : Nat) (s : NS) (hh : headW < 64) (ha1 : 1 ≤ arrW)
    (ha : arrW < 64) (hsum : headW + m * arrW = 64) :
    pathOfNS headW arrW s = (runCutsNS { s with shift := 0 } (headW :: List.replicate m arrW)).1 := by
  obtain ⟨_, _, h3, _⟩ := NS.cut_spec { s with shift := 0 } (BitVec.ofNat 32 headW)
    (show (0#32).toNat < 64 by decide)
    (by rw [ofNat32_toNat headW hh]; exact hh)
  rw [ofNat32_toNat headW hh] at h3
  have hm : m ≤ m * arrW := Nat.le_mul_of_pos_right m ha1
  simp only [pathOfNS, runCutsNS]
  rw [cutsUntilEosNS_eq arrW ha1 ha m 64 _ (by rw [h3]; simp; omega) (by omega)]

end NumberSplitter

/-! ## `feldman_hashset::details::metrics::make` -/

section Metrics
open CdsVerif.Gen.Feldman

/-- the normalisation of `metrics::make` on naturals -/
def normArr (ab : Nat) : Nat := max ab 2
def normHead0 (hb H : Nat) : Nat := min H (max hb 4)
def normHead (hb ab H : Nat) : Nat :=
  normHead0 hb H + (H - normHead0 hb H) % normArr ab

theorem ite_ult_toNat (x y a b : BitVec 64) :
    (if BitVec.ult x y then a else b).toNat = if x.toNat < y.toNat then a.toNat else b.toNat := by
  simp only [BitVec.ult, decide_eq_true_eq]; split <;> rfl

theorem metrics_make_toNat (hb ab hsz : BitVec 64) (hH : hsz.toNat * 8 < 2 ^ 64) :
    (metrics_make hb ab hsz).1.toNat = normHead hb.toNat ab.toNat (hsz.toNat * 8) ∧
    (metrics_make hb ab hsz).2.2.1.toNat = normArr ab.toNat := by
  have hhash : (hsz * 8#64).toNat = hsz.toNat * 8 := by
    rw [BitVec.toNat_mul]; exact Nat.mod_eq_of_lt hH
  generalize hHb : hsz * 8#64 = Hb at hhash
  generalize hsz.toNat * 8 = H at *
  simp only [metrics_make, hHb]
  have ha : (if BitVec.ult ab 2#64 then 2#64 else ab).toNat = normArr ab.toNat := by
    rw [ite_ult_toNat]; simp only [normArr, BitVec.toNat_ofNat, Nat.reducePow, Nat.reduceMod]; split <;> omega
  generalize (if BitVec.ult ab 2#64 then 2#64 else ab) = a2 at ha ⊢
  have hh2 : (if BitVec.ult hb 4#64 then 4#64 else hb).toNat = if hb.toNat < 4 then 4 else hb.toNat := by
    rw [ite_ult_toNat]; simp only [BitVec.toNat_ofNat, Nat.reducePow, Nat.reduceMod]
  generalize (if BitVec.ult hb 4#64 then 4#64 else hb) = h2 at hh2 ⊢
  have hh4 : (if BitVec.ult Hb h2 then Hb else h2).toNat = normHead0 hb.toNat H := by
    rw [ite_ult_toNat, hhash, hh2]; simp only [normHead0]; split <;> split <;> omega
  generalize (if BitVec.ult Hb h2 then Hb else h2) = h4 at hh4 ⊢
  have hle : h4.toNat ≤ H := by rw [hh4]; unfold normHead0; omega
  have hsub : (Hb - h4).toNat = H - h4.toNat := by
    rw [BitVec.toNat_sub, hhash]; omega
  have hmod : ((Hb - h4) % a2).toNat = (H - h4.toNat) % a2.toNat := by
    rw [BitVec.toNat_umod, hsub]
  refine ⟨?_, ha⟩
  unfold normHead
  rw [← hh4, ← ha, ← hmod]
  have hmle : ((Hb - h4) % a2).toNat ≤ H - h4.toNat := by rw [hmod]; exact Nat.mod_le _ _
  split
  · rw [BitVec.toNat_add]; omega
  · rename_i h
    simp at h
    simp [h]

theorem normArr_ge (ab : Nat) : 2 ≤ normArr ab := by unfold normArr; omega
theorem normHead_le (hb ab H : Nat) : normHead hb ab H ≤ H := by
  unfold normHead
  have h0 : normHead0 hb H ≤ H := by unfold normHead0; omega
  have := Nat.mod_le (H - normHead0 hb H) (normArr ab)
  omega
theorem normHead_exact (hb ab H : Nat) :
    normHead hb ab H + (H - normHead0 hb H) / normArr ab * normArr ab = H := by
  unfold normHead
  have h0 : normHead0 hb H ≤ H := by unfold normHead0; omega
  have := Nat.mod_add_div (H - normHead0 hb H) (normArr ab)
  rw [Nat.mul_comm] at this
  omega

theorem metrics_make_sizes (hb ab hsz : BitVec 64) :
    (metrics_make hb ab hsz).2.1 = (1#64) <<< ((metrics_make hb ab hsz).1.toNat % 64) ∧
    (metrics_make hb ab hsz).2.2.2 = (1#64) <<< ((metrics_make hb ab hsz).2.2.1.toNat % 64) :=
  ⟨rfl, rfl⟩

theorem metrics_make_ub_eq (hb ab hsz : BitVec 64) :
    metrics_make_ub hb ab hsz =
      (((metrics_make hb ab hsz).2.2.1 == 0#64) || decide ((metrics_make hb ab hsz).1.toNat ≥ 64)
        || decide ((metrics_make hb ab hsz).2.2.1.toNat ≥ 64)) := by
  simp only [metrics_make_ub, metrics_make]
  split <;> split <;> split <;> split <;> simp_all

end Metrics

/-! ## Injectivity of the Feldman path -/

/-- the source is the `fieldSum` of its path (so the path determines the hash), and the path has `m + 1` slots -/
theorem pathOf_reconstruct (headW arrW m : Nat) (s : BS) (hb : ∀ b ∈ s.bytes, b < 256)
    (hh : headW ≤ 32) (ha1 : 1 ≤ arrW) (ha : arrW ≤ 32) (hsum : headW + m * arrW = 8 * s.bytes.length) :
    fieldSum (headW :: List.replicate m arrW) (pathOf headW arrW s) = leValue s.bytes ∧
    (pathOf headW arrW s).length = m + 1 := by
  have hws : ∀ c ∈ headW :: List.replicate m arrW, c ≤ 32 := by
    intro c hc
    rcases List.mem_cons.mp hc with rfl | hc
    · exact hh
    · rw [(List.mem_replicate.mp hc).2]; exact ha
  have hs : (headW :: List.replicate m arrW).sum = s.reset.total := by
    rw [List.sum_cons, sum_replicate]; exact hsum
  obtain ⟨_, h2, h3⟩ := runCuts_reconstruct 32 _ s.reset (BS.reset_WF hb) rfl hws hs
  rw [pathOf_eq_runCuts headW arrW m s hb hh ha1 ha hsum, h3, h2]
  exact ⟨rfl, by simp⟩

theorem pathOf_length (headW arrW m : Nat) (s : BS) (hb : ∀ b ∈ s.bytes, b < 256)
    (hh : headW ≤ 32) (ha1 : 1 ≤ arrW) (ha : arrW ≤ 32) (hsum : headW + m * arrW = 8 * s.bytes.length) :
    (pathOf headW arrW s).length = m + 1 :=
  (pathOf_reconstruct headW arrW m s hb hh ha1 ha hsum).2

theorem pathOf_injective (headW arrW m : Nat) (a b : BS) (hab : ∀ x ∈ a.bytes, x < 256)
    (hbb : ∀ x ∈ b.bytes, x < 256) (hlen : a.bytes.length = b.bytes.length)
    (hh : headW ≤ 32) (ha1 : 1 ≤ arrW) (ha : arrW ≤ 32) (hsum : headW + m * arrW = 8 * a.bytes.length)
    (hpath : pathOf headW arrW a = pathOf headW arrW b) : a.bytes = b.bytes := by
  have h1 := (pathOf_reconstruct headW arrW m a hab hh ha1 ha hsum).1
  have h2 := (pathOf_reconstruct headW arrW m b hbb hh ha1 ha (by rw [← hlen]; exact hsum)).1
  rw [hpath, h2] at h1
  exact (leValue_inj _ _ hlen hab hbb h1.symm)

theorem pathOfNS_fieldSum (headW arrW m : Nat) (s : NS) (hh1 : 1 ≤ headW) (hh : headW < 64)
    (ha1 : 1 ≤ arrW) (ha : arrW < 64) (hsum : headW + m * arrW = 64) :
    fieldSum (headW :: List.replicate m arrW) (pathOfNS headW arrW s) = s.number.toNat ∧
    (pathOfNS headW arrW s).length = m + 1 := by
  have hws : ∀ c ∈ headW :: List.replicate m arrW, 1 ≤ c ∧ c < 64 := by
    intro c hc
    rcases List.mem_cons.mp hc with rfl | hc
    · exact ⟨hh1, hh⟩
    · rw [(List.mem_replicate.mp hc).2]; exact ⟨ha1, ha⟩
  have hs : (headW :: List.replicate m arrW).sum = 64 := by
    rw [List.sum_cons, sum_replicate]; exact hsum
  obtain ⟨_, h2, h3⟩ := runCutsNS_reconstruct _ { s with shift := 0 } rfl hws hs
  rw [pathOfNS_eq_runCuts headW arrW m s hh ha1 ha hsum, h3, h2]
  simp

theorem pathOfNS_injective (headW arrW m : Nat) (a b : NS) (hh1 : 1 ≤ headW) (hh : headW < 64)
    (ha1 : 1 ≤ arrW) (ha : arrW < 64) (hsum : headW + m * arrW = 64)
    (hpath : pathOfNS headW arrW a = pathOfNS headW arrW b) : a.number = b.number := by
  have h1 := (pathOfNS_fieldSum headW arrW m a hh1 hh ha1 ha hsum).1
  have h2 := (pathOfNS_fieldSum headW arrW m b hh1 hh ha1 ha hsum).1
  rw [hpath, h2] at h1
  exact BitVec.eq_of_toNat_eq h1.symm

end CdsVerif.Algo.Splitter
