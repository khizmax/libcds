/-
  C13 — the Harris–Michael ordered list (cds::intrusive::MichaelList<HP>: insert, erase with functor, find with
  functor, contains) is a linearizable set / map: every concurrent history of the atomic-step model
  `Algo/Michael/Model.lean` is linearizable to `Spec.map`; no key is ever present twice; a marked node is frozen;
  a node is marked by exactly one erase.
  Property theorems only; the model, the invariant and the proofs live in
  `Algo/Michael/{Model,Lemmas,Inv,Thread,Effect,StepSearch,StepCas,Reach,Lin}.lean`.

  Route completed: FULL linearizability for all schedules, any number of threads and any keys, including the
  hindsight linearization points of the unsuccessful `find` / `erase` / `contains` and of the "key found" answers
  (failed `insert`, successful `find` / `contains`), by a ghost log with tentative entries that are withdrawn when the
  re-validation `pPrev->load() == pCur` fails.  No `…_partial` fallback was needed.

  Assumption of the model (not proved here): a node is not reused while any thread may still hold a pointer to it
  (garbage-collected heap).  This is what the hazard pointers taken by `guards.protect` provide (C01/C02).
  Tie to the real code: traces of the harness client `list`, variant `imichael_hp_named`, are replayed step by step
  by `cdsdriver replay michael` (atomic events and results).
-/
import CdsVerif.Algo.Michael.Lin
namespace CdsVerif.Props.C13Michael
open CdsVerif.Machine CdsVerif.Lin CdsVerif.Spec CdsVerif.Algo

/-- Linearizability, general form (Herlihy–Wing with completion of pending operations).  For EVERY schedule (any
    number of threads, any client program of `insert k v` / `erase k` / `find k` / `contains k`, any keys, any
    interleaving of the atomic steps), the history of the completed operations of the run — extended by response
    records for pending operations that have already passed their linearization point definitively (at most one
    per thread; each is an operation pending in `os`, completed with the result fixed at its linearization point
    and the response time "end of run"), all other pending operations being dropped — is linearizable to the
    sequential map: `insert k v → [1] | [0]`, `erase k → [1, v] | [0]`, `find k → [1, v] | [0]`,
    `contains k → [1] | [0]`.

    The literal statement "`historyOf os` is linearizable" is FALSE for runs that stop between the successful CAS
    of an `insert` and its return while another thread has already found the key (see the `example`s below): such
    an `insert` has to be completed, which is what `extra` does. -/
theorem C13_michael_linearizable (sched : List (Tid × Act)) (s : Michael.St) (os : List (Tid × Obs))
    (h : Michael.model.run Michael.init sched = some (s, os)) :
    ∃ extra : List (OpRec GOp GRet),
      (∀ e ∈ extra, Michael.pendingOf os e.tid = some (e.op, e.inv) ∧ e.res = os.length ∧
          Michael.postRet s.val (s.pc e.tid) = some e.ret) ∧
      extra.Pairwise (fun a b => a.tid ≠ b.tid) ∧
      Linearizable map (Michael.historyOf os ++ extra) :=
  Michael.michael_linearizable sched s os h

/-- Runs in which every invoked operation has returned: the history is linearizable as it is. -/
theorem C13_michael_linearizable_complete_runs (sched : List (Tid × Act)) (s : Michael.St) (os : List (Tid × Obs))
    (h : Michael.model.run Michael.init sched = some (s, os)) (hq : ∀ t, s.pc t = .idle) :
    Linearizable map (Michael.historyOf os) :=
  Michael.michael_linearizable_complete_runs sched s os h hq

/-- More generally: runs at whose end no thread is between its definitive linearization point and its return
    (threads may be in the middle of operations that have not taken effect; these are dropped). -/
theorem C13_michael_linearizable_no_effect_pending (sched : List (Tid × Act)) (s : Michael.St)
    (os : List (Tid × Obs)) (h : Michael.model.run Michael.init sched = some (s, os))
    (hq : ∀ t, Michael.postRet s.val (s.pc t) = none) :
    Linearizable map (Michael.historyOf os) :=
  Michael.michael_linearizable_no_effect_pending sched s os h hq

/-- `historyOf` is faithful: a record's `inv` / `res` are the positions of its call and return observations. -/
theorem C13_michael_history_sound (os : List (Tid × Obs)) (r : OpRec GOp GRet) (h : r ∈ Michael.historyOf os) :
    os[r.inv]? = some (r.tid, .call r.op) ∧ os[r.res]? = some (r.tid, .ret r.ret) ∧ r.inv < r.res :=
  Michael.historyOf_sound os r h

/-- Every completed operation takes effect at an instant strictly inside its interval: there is `j` with
    `call < j < return` such that in the state reached by the first `j` actions of the run the abstract map (the
    `(key, payload)` pairs of the unmarked nodes reachable from the head) answers the operation with the returned
    result according to the sequential specification. -/
theorem C13_michael_effect_instant (sched : List (Tid × Act)) (s : Michael.St) (os : List (Tid × Obs))
    (h : Michael.model.run Michael.init sched = some (s, os)) (r : OpRec GOp GRet) (hr : r ∈ Michael.historyOf os) :
    ∃ j s1, r.inv < j ∧ j < r.res ∧ Michael.model.run Michael.init (sched.take j) = some (s1, os.take j) ∧
      ∃ m', map.next (Michael.absMap s1) r.op r.ret = some m' :=
  Michael.michael_effect_instant sched s os h r hr

/-- Hindsight, "absent": an `erase k` / `find k` / `contains k` that answered `[0]` has an instant strictly between
    its call and its return at which no unmarked node reachable from the head carried the key `k`. -/
theorem C13_michael_absent_hindsight (sched : List (Tid × Act)) (s : Michael.St) (os : List (Tid × Obs))
    (h : Michael.model.run Michael.init sched = some (s, os)) (r : OpRec GOp GRet) (hr : r ∈ Michael.historyOf os)
    (k : Int) (hop : r.op = ⟨"erase", [k]⟩ ∨ r.op = ⟨"find", [k]⟩ ∨ r.op = ⟨"contains", [k]⟩) (hret : r.ret = [0]) :
    ∃ j s1, r.inv < j ∧ j < r.res ∧ Michael.model.run Michael.init (sched.take j) = some (s1, os.take j) ∧
      ∀ v, (k, v) ∉ Michael.absMap s1 :=
  Michael.michael_absent_hindsight sched s os h r hr k hop hret

/-- Hindsight, "present": a failing `insert k _`, a `find k → [1, v]`, a `contains k → [1]`, an `erase k → [1, v]`
    has an instant strictly between its call and its return at which an unmarked node reachable from the head
    carried the key `k`, with the payload that is reported (if one is reported). -/
theorem C13_michael_present_hindsight (sched : List (Tid × Act)) (s : Michael.St) (os : List (Tid × Obs))
    (h : Michael.model.run Michael.init sched = some (s, os)) (r : OpRec GOp GRet) (hr : r ∈ Michael.historyOf os)
    (k : Int)
    (hop : (∃ v, r.op = ⟨"insert", [k, v]⟩ ∧ r.ret = [0]) ∨ (∃ v, r.op = ⟨"find", [k]⟩ ∧ r.ret = [1, v]) ∨
      (r.op = ⟨"contains", [k]⟩ ∧ r.ret = [1]) ∨ (∃ v, r.op = ⟨"erase", [k]⟩ ∧ r.ret = [1, v])) :
    ∃ j s1 v, r.inv < j ∧ j < r.res ∧ Michael.model.run Michael.init (sched.take j) = some (s1, os.take j) ∧
      (k, v) ∈ Michael.absMap s1 ∧ ∀ w, r.ret = [1, w] → w = v :=
  Michael.michael_present_hindsight sched s os h r hr k hop

/-- Refinement: in a reachable state, the step at which thread `t` fixes its result `r` — tentatively for the
    hindsight points — (successful CAS of `link_node`, successful marking CAS of `unlink_node`, validating load of
    `pCur->m_pNext` / of `m_pHead`, successful validation of `pPrev`, successful helping CAS that empties the tail) is
    exactly the `Spec.map` transition of `t`'s operation with result `r` on the abstract map; every other step
    (in particular every physical unlink) leaves the abstract map unchanged. -/
theorem C13_michael_lp_refines (s s' : Michael.St) (t : Tid) (ev : Ev)
    (hreach : Michael.model.Reachable Michael.init s) (hs : Michael.step s t = some (s', ev)) :
    (Michael.lpRet s.key s.val (s.pc t) = none → ∀ r, Michael.lpRet s'.key s'.val (s'.pc t) = some r →
      ∃ op m', Michael.opOf s.key s.val (s.pc t) = some op ∧ map.next (Michael.absMap s) op r = some m' ∧
        ∀ k v, mfind m' k = some v ↔ (k, v) ∈ Michael.absMap s') ∧
    ((Michael.lpRet s.key s.val (s.pc t) ≠ none ∨ Michael.lpRet s'.key s'.val (s'.pc t) = none) →
      ∀ k v, (k, v) ∈ Michael.absMap s' ↔ (k, v) ∈ Michael.absMap s) :=
  Michael.step_refines hreach hs

/-- Structure of the reachable states: following the pointers from `m_pHead` (cell 0) visits the finite list
    `absNodes s` and ends in null; ALL linked nodes, marked or not, are strictly sorted by key, hence pairwise
    different; they are allocated nodes; `m_pHead` is never marked. -/
theorem C13_michael_chain_sorted (s : Michael.St) (hreach : Michael.model.Reachable Michael.init s) :
    Michael.Chain s.next (some 0) (0 :: Michael.absNodes s) ∧
      (Michael.absNodes s).Pairwise (fun a b => s.key a < s.key b) ∧ (Michael.absNodes s).Nodup ∧
      (∀ a, a ∈ Michael.absNodes s → 0 < a ∧ a < s.cnt) ∧ s.mark 0 = false :=
  Michael.reachable_structure s hreach

/-- No key is ever present twice: in every reachable state the keys of the abstract map (= of the unmarked nodes
    reachable from the head) are strictly increasing, in particular duplicate-free. -/
theorem C13_michael_no_duplicate_keys (s : Michael.St) (hreach : Michael.model.Reachable Michael.init s) :
    (Michael.absMap s).Pairwise (fun p q => p.1 < q.1) ∧ ((Michael.absMap s).map (·.1)).Nodup :=
  Michael.reachable_no_duplicate_keys s hreach

/-- A marked (logically deleted) node is frozen: no action of any thread changes its link or removes its mark. -/
theorem C13_michael_marked_frozen (s s' : Michael.St) (t : Tid) (a : Act) (o : Obs)
    (hreach : Michael.model.Reachable Michael.init s) (hap : Michael.model.apply s t a = some (s', o))
    (x : Nat) (hx : s.mark x = true) : s'.mark x = true ∧ s'.next x = s.next x :=
  Michael.marked_frozen hreach hap x hx

/-- Unlinked nodes are marked, and every node ever inserted and not marked is reachable from the head:
    (1) a node that is linked or marked stays linked or marked under every action (only marked nodes leave the
        chain);
    (2) the successful CAS of `link_node` puts the new node on the chain, unmarked. -/
theorem C13_michael_linked_or_marked_forever (s s' : Michael.St) (t : Tid) (a : Act) (o : Obs)
    (hreach : Michael.model.Reachable Michael.init s) (hap : Michael.model.apply s t a = some (s', o))
    (x : Nat) (hx : x ∈ Michael.absNodes s ∨ s.mark x = true) : x ∈ Michael.absNodes s' ∨ s'.mark x = true :=
  Michael.linked_or_marked_forever hreach hap x hx

theorem C13_michael_insert_links (s s' : Michael.St) (t : Tid) (ev : Ev)
    (hreach : Michael.model.Reachable Michael.init s) (hs : Michael.step s t = some (s', ev))
    (n p : Nat) (c : Option Nat) (hpc : s.pc t = .iCas n p c) (hpc' : s'.pc t = .done [1]) :
    n ∈ Michael.absNodes s' ∧ s'.mark n = false :=
  Michael.insert_links hreach hs n p c hpc hpc'

/-- A node is marked by exactly one `erase`, the one that returns success for it.
    (1) The only step that sets the mark of a node `a` is the marking CAS of a thread erasing `key a`, applied to a
        node that is on the chain; after it that thread is definitively going to return `[1, val a]`.
    (2) A thread is in that state (`eUnl … a …`) only by having set the mark of `a` in its last step.
    (3) No two threads are in that state for the same node.
    Together with `C13_michael_marked_frozen` (a mark is never removed, so the precondition "unmarked" of (1) can
    hold at most once per node) every node is marked at most once. -/
theorem C13_michael_erase_once (s s' : Michael.St) (t : Tid) (ev : Ev)
    (hreach : Michael.model.Reachable Michael.init s) (hs : Michael.step s t = some (s', ev)) :
    (∀ a, s.mark a = false → s'.mark a = true →
      ∃ k p x, s.pc t = .eMark k p a x ∧ s'.pc t = .eUnl k p a x ∧ s.key a = k ∧ a ∈ Michael.absNodes s ∧
        Michael.postRet s'.val (s'.pc t) = some [1, s.val a]) ∧
    (∀ k p a x, s'.pc t = .eUnl k p a x → s.mark a = false ∧ s'.mark a = true) ∧
    (∀ t1 t2 k1 p1 a x1 k2 p2 x2, s'.pc t1 = .eUnl k1 p1 a x1 → s'.pc t2 = .eUnl k2 p2 a x2 → t1 = t2) :=
  Michael.erase_once hreach hs

/-! ### Non-vacuity -/

def steps (t : Tid) (n : Nat) : List (Tid × Act) := List.replicate n (t, .step)
def ins (k v : Int) : GOp := ⟨"insert", [k, v]⟩
def era (k : Int) : GOp := ⟨"erase", [k]⟩
def fnd (k : Int) : GOp := ⟨"find", [k]⟩
def con (k : Int) : GOp := ⟨"contains", [k]⟩

/-- Two inserts race on the same position.  Both threads find the list empty and prepare `CAS( head, null, · )`;
    thread 0 wins; thread 1's CAS fails (`cas- head n1 null`), it clears its node's link, searches again and links
    `n2` behind `n1`.  Rendered as harness trace lines in the comments. -/
def raceSched : List (Tid × Act) :=
  [(0, .invoke (ins 5 10))] ++ steps 0 3 ++ [(1, .invoke (ins 7 20))] ++ steps 1 3 ++ steps 0 1 ++ steps 1 9 ++
  [(0, .ret), (1, .ret)]

def raceObs : List (Tid × Obs) :=
  [(0, .call (ins 5 10)),                   -- T 0 C insert [5, 10]
   (0, .ev ⟨"ld", "head", "null", ""⟩),     -- T 0 A ld head null           (protect: load)
   (0, .ev ⟨"ld", "head", "null", ""⟩),     -- T 0 A ld head null           (protect: validating load)
   (0, .ev ⟨"st", "n1", "null", ""⟩),       -- T 0 A st n1 null             (link_node: pNode->m_pNext = pCur)
   (1, .call (ins 7 20)),                   -- T 1 C insert [7, 20]
   (1, .ev ⟨"ld", "head", "null", ""⟩),
   (1, .ev ⟨"ld", "head", "null", ""⟩),
   (1, .ev ⟨"st", "n2", "null", ""⟩),
   (0, .ev ⟨"cas+", "head", "null", "n1"⟩), -- T 0 A cas+ head null n1      (linearization point of insert 5)
   (1, .ev ⟨"cas-", "head", "n1", "null"⟩), -- T 1 A cas- head n1 null      (seen n1, expected null): retry
   (1, .ev ⟨"st", "n2", "null", ""⟩),       -- T 1 A st n2 null             (link_node undoes its store)
   (1, .ev ⟨"ld", "head", "n1", ""⟩),
   (1, .ev ⟨"ld", "head", "n1", ""⟩),
   (1, .ev ⟨"ld", "n1", "null", ""⟩),       -- T 1 A ld n1 null             (protect pCur->m_pNext: load)
   (1, .ev ⟨"ld", "n1", "null", ""⟩),       --                              (validating load)
   (1, .ev ⟨"ld", "head", "n1", ""⟩),       -- T 1 A ld head n1             (pPrev->load() == pCur)
   (1, .ev ⟨"st", "n2", "null", ""⟩),
   (1, .ev ⟨"cas+", "n1", "null", "n2"⟩),   -- T 1 A cas+ n1 null n2        (linearization point of insert 7)
   (0, .ret [1]),
   (1, .ret [1])]

example : (Michael.model.run Michael.init raceSched).map (·.2) = some raceObs := by decide +kernel

example : (Michael.model.run Michael.init raceSched).map
    (fun r => (Michael.absNodes r.1, Michael.absMap r.1, linCheck map (Michael.historyOf r.2))) =
    some ([1, 2], [(5, 10), (7, 20)], true) := by decide +kernel

/-- An erase leaves a marked node behind, a later insert's search unlinks it.  Thread 1 marks `n1` (logical
    deletion) and is delayed before its physical unlink; thread 0's `insert 7` reads `n1.next = null|1`, helps
    (`cas+ head n1 null`) and links `n2`; thread 1's own unlink CAS then fails (`cas- head n2 n1`) and it returns
    success all the same. -/
def helpSched : List (Tid × Act) :=
  [(0, .invoke (ins 5 10))] ++ steps 0 4 ++ [(0, .ret), (1, .invoke (era 5))] ++ steps 1 6 ++
  [(0, .invoke (ins 7 20))] ++ steps 0 8 ++ [(0, .ret)] ++ steps 1 1 ++ [(1, .ret)]

example : (Michael.model.run Michael.init helpSched).map (fun r => r.2.drop 12) =
    some [(1, .ev ⟨"cas+", "n1", "null", "null|1"⟩),  -- T 1 A cas+ n1 null null|1   (linearization point of erase 5)
          (0, .call (ins 7 20)),
          (0, .ev ⟨"ld", "head", "n1", ""⟩),
          (0, .ev ⟨"ld", "head", "n1", ""⟩),
          (0, .ev ⟨"ld", "n1", "null|1", ""⟩),        -- T 0 A ld n1 null|1          (pCur is logically deleted)
          (0, .ev ⟨"ld", "n1", "null|1", ""⟩),
          (0, .ev ⟨"ld", "head", "n1", ""⟩),
          (0, .ev ⟨"cas+", "head", "n1", "null"⟩),    -- T 0 A cas+ head n1 null     (helping: physical unlink)
          (0, .ev ⟨"st", "n2", "null", ""⟩),
          (0, .ev ⟨"cas+", "head", "null", "n2"⟩),
          (0, .ret [1]),
          (1, .ev ⟨"cas-", "head", "n2", "n1"⟩),      -- T 1 A cas- head n2 n1       (the eraser's own unlink fails)
          (1, .ret [1, 10])] := by decide +kernel

example : (Michael.model.run Michael.init helpSched).map
    (fun r => (Michael.absNodes r.1, Michael.absMap r.1, r.1.mark 1, linCheck map (Michael.historyOf r.2))) =
    some ([2], [(7, 20)], true, true) := by decide +kernel

/-- An erase / erase race on one key.  Both threads find `n1`; thread 0's marking CAS wins, thread 1's fails
    (`cas- n1 null|1 null`); thread 1 searches again, unlinks the marked node on behalf of thread 0 and answers 0;
    thread 0's own unlink fails and it answers `[1, 10]`. -/
def eraseRace : List (Tid × Act) :=
  [(0, .invoke (ins 5 10))] ++ steps 0 4 ++ [(0, .ret), (0, .invoke (era 5)), (1, .invoke (era 5))] ++
  steps 0 5 ++ steps 1 5 ++ steps 0 1 ++ steps 1 7 ++ [(1, .ret)] ++ steps 0 1 ++ [(0, .ret)]

example : (Michael.model.run Michael.init eraseRace).map (fun r => r.2.drop 18) =
    some [(0, .ev ⟨"cas+", "n1", "null", "null|1"⟩),  -- thread 0 marks n1
          (1, .ev ⟨"cas-", "n1", "null|1", "null"⟩),  -- T 1 A cas- n1 null|1 null   (seen null|1, expected null)
          (1, .ev ⟨"ld", "head", "n1", ""⟩),
          (1, .ev ⟨"ld", "head", "n1", ""⟩),
          (1, .ev ⟨"ld", "n1", "null|1", ""⟩),
          (1, .ev ⟨"ld", "n1", "null|1", ""⟩),
          (1, .ev ⟨"ld", "head", "n1", ""⟩),
          (1, .ev ⟨"cas+", "head", "n1", "null"⟩),    -- helping; the list is empty now: erase 5 answers 0 here
          (1, .ret [0]),
          (0, .ev ⟨"cas-", "head", "null", "n1"⟩),
          (0, .ret [1, 10])] := by decide +kernel

example : (Michael.model.run Michael.init eraseRace).map (fun r => Michael.historyOf r.2) =
    some [⟨0, ins 5 10, [1], 0, 5⟩, ⟨1, era 5, [0], 7, 26⟩, ⟨0, era 5, [1, 10], 6, 28⟩] := by decide +kernel

example : linCheck map [⟨0, ins 5 10, [1], 0, 5⟩, ⟨1, era 5, [0], 7, 26⟩, ⟨0, era 5, [1, 10], 6, 28⟩] = true := by
  decide +kernel

/-- Hindsight: a find that sees a node being deleted.  Thread 0's `find 5` validates `n1.next = null` (unmarked):
    its tentative linearization point, `n1` IS in the abstract map.  Then thread 1 marks `n1` (erase 5 takes
    effect).  Then thread 0 validates `head == n1` successfully and answers `[1, 10]` — at that step the abstract
    map is empty.  The history is linearizable only because the find is placed at the earlier load. -/
def findHindsight : List (Tid × Act) :=
  [(0, .invoke (ins 5 10))] ++ steps 0 4 ++ [(0, .ret), (0, .invoke (fnd 5))] ++ steps 0 4 ++
  [(1, .invoke (era 5))] ++ steps 1 6

set_option synthInstance.maxSize 2000 in
example : (Michael.model.run Michael.init findHindsight).map
    (fun r => (Michael.absMap r.1, r.1.pc 0, Michael.lpRet r.1.key r.1.val (r.1.pc 0),
      Michael.step r.1 0 |>.map (fun q => (q.1.pc 0, q.2)))) =
    some ([], .sChk (.fnd 5) 0 1 none false, some [1, 10], some (.done [1, 10], ⟨"ld", "head", "n1", ""⟩)) := by
  decide +kernel

example : (Michael.model.run Michael.init (findHindsight ++ [(0, .step), (0, .ret), (1, .step), (1, .ret)])).map
    (fun r => Michael.historyOf r.2) =
    some [⟨0, ins 5 10, [1], 0, 5⟩, ⟨0, fnd 5, [1, 10], 6, 19⟩, ⟨1, era 5, [1, 10], 11, 21⟩] := by decide +kernel

example : linCheck map [⟨0, ins 5 10, [1], 0, 5⟩, ⟨0, fnd 5, [1, 10], 6, 19⟩, ⟨1, era 5, [1, 10], 11, 21⟩] = true := by
  decide +kernel

/-- A tentative linearization that is withdrawn.  As above, but thread 1 also unlinks `n1` and returns before thread
    0 re-validates: `head` is null, the validation fails (`ld head null`), thread 0 restarts and answers `[0]` with a
    new linearization point (the validating load of the empty head). -/
def findWithdrawn : List (Tid × Act) :=
  findHindsight ++ steps 1 1 ++ [(1, .ret)] ++ steps 0 3 ++ [(0, .ret)]

example : (Michael.model.run Michael.init findWithdrawn).map (fun r => (r.2.drop 6).filter (fun x => x.1 == 0)) =
    some [(0, .call (fnd 5)),
          (0, .ev ⟨"ld", "head", "n1", ""⟩),
          (0, .ev ⟨"ld", "head", "n1", ""⟩),
          (0, .ev ⟨"ld", "n1", "null", ""⟩),
          (0, .ev ⟨"ld", "n1", "null", ""⟩),        -- tentative linearization point (5 is present)
          (0, .ev ⟨"ld", "head", "null", ""⟩),      -- validation of pPrev fails: withdrawn, try_again
          (0, .ev ⟨"ld", "head", "null", ""⟩),
          (0, .ev ⟨"ld", "head", "null", ""⟩),      -- linearization point of the failing find (list empty)
          (0, .ret [0])] := by decide +kernel

example : (Michael.model.run Michael.init findWithdrawn).map (fun r => linCheck map (Michael.historyOf r.2)) =
    some true := by decide +kernel

/-- A `contains` that runs into the marked node: it reads `n1.next = null|1`, unlinks `n1` itself and answers 0
    (linearization point: its helping CAS, after which `head` is the last cell). -/
def containsMarked : List (Tid × Act) :=
  [(0, .invoke (ins 5 10))] ++ steps 0 4 ++ [(0, .ret), (1, .invoke (era 5))] ++ steps 1 6 ++
  [(0, .invoke (con 5))] ++ steps 0 6 ++ [(0, .ret)] ++ steps 1 1 ++ [(1, .ret)]

example : (Michael.model.run Michael.init containsMarked).map (fun r => r.2.drop 13) =
    some [(0, .call (con 5)),
          (0, .ev ⟨"ld", "head", "n1", ""⟩),
          (0, .ev ⟨"ld", "head", "n1", ""⟩),
          (0, .ev ⟨"ld", "n1", "null|1", ""⟩),
          (0, .ev ⟨"ld", "n1", "null|1", ""⟩),
          (0, .ev ⟨"ld", "head", "n1", ""⟩),
          (0, .ev ⟨"cas+", "head", "n1", "null"⟩),
          (0, .ret [0]),
          (1, .ev ⟨"cas-", "head", "null", "n1"⟩),
          (1, .ret [1, 10])] := by decide +kernel

/-- Why pending operations must be completed: thread 0 has linked `n1` (its insert has taken effect) but not yet
    returned; thread 1's `find 5` answers `[1, 10]`.  The history of completed operations alone is not
    linearizable ... -/
def pendingSched : List (Tid × Act) :=
  [(0, .invoke (ins 5 10))] ++ steps 0 4 ++ [(1, .invoke (fnd 5))] ++ steps 1 5 ++ [(1, .ret)]

example : (Michael.model.run Michael.init pendingSched).map (fun r => Michael.historyOf r.2) =
    some [⟨1, fnd 5, [1, 10], 5, 11⟩] := by decide +kernel

example : ¬ Linearizable map [⟨1, fnd 5, [1, 10], 5, 11⟩] :=
  not_linearizable_of_linCheck_eq_false map _ (by decide) (by decide +kernel)

/-- ... and `extra` of `C13_michael_linearizable` repairs it: with the pending insert completed, it is. -/
example : Linearizable map ([⟨1, fnd 5, [1, 10], 5, 11⟩] ++ [⟨0, ins 5 10, [1], 0, 12⟩]) :=
  linCheck_sound map _ (by decide +kernel)

end CdsVerif.Props.C13Michael
