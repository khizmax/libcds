/-
  C19 — thread-safe iterators: the judgement of the relational oracle of the harness client
  (harness/clients/iter.cpp), as decidable definitions over a logged iteration, so that the clauses checked by
  the client are fixed in one place and their mutual consistency (non-vacuity) is machine-checked.
  The algorithm-level theorems (IterableList machine with its iterator, for every schedule) are in
  Props/C19Iterable.lean; the Feldman iterators and the hash sets over IterableList have no machine and are
  decided by this oracle on explored schedules of the real code.
-/
import CdsVerif.Base.Spec
namespace CdsVerif.Props.C19

/-- One successful addition of an element (`id` identifies the object, not the key). -/
structure Add where
  id : Nat
  key : Int
  inv : Nat
  res : Nat
deriving DecidableEq, Repr

/-- One successful removal (erase / replacing update / erase_at / extract) of a key. -/
structure Rem where
  key : Int
  inv : Nat
  res : Nat
deriving DecidableEq, Repr

/-- One position of the iteration. -/
structure Visit where
  id : Nat
  key : Int
deriving DecidableEq, Repr

/-- The element was certainly present for the whole iteration `[tb, te]`: its addition had completed before the
    iteration began and no successful removal of its key that ended after the addition was invoked had been invoked
    before the iteration ended. -/
def presentThroughout (rems : List Rem) (tb te : Nat) (a : Add) : Bool :=
  decide (a.res < tb) && rems.all (fun r => !(r.key == a.key && decide (r.res > a.inv) && decide (r.inv < te)))

/-- at least once -/
def complete (adds : List Add) (rems : List Rem) (tb te : Nat) (vs : List Visit) : Bool :=
  adds.all fun a => !presentThroughout rems tb te a || vs.any (·.id == a.id)

/-- exactly once (lists and the hash sets over them) -/
def once (adds : List Add) (rems : List Rem) (tb te : Nat) (vs : List Visit) : Bool :=
  adds.all fun a => !presentThroughout rems tb te a || (vs.filter (·.id == a.id)).length == 1

/-- increasing key order among the elements present throughout (IterableList) -/
def ordered (adds : List Add) (rems : List Rem) (tb te : Nat) (vs : List Visit) : Bool :=
  let ks := (vs.filter fun v => adds.any fun a => a.id == v.id && presentThroughout rems tb te a).map (·.key)
  ks.zip ks.tail |>.all fun (a, b) => decide (a < b)

theorem once_implies_complete (adds : List Add) (rems : List Rem) (tb te : Nat) (vs : List Visit)
    (h : once adds rems tb te vs = true) : complete adds rems tb te vs = true := by
  unfold once at h
  unfold complete
  rw [List.all_eq_true] at h ⊢
  intro a ha
  have hor := h a ha
  rw [Bool.or_eq_true] at hor ⊢
  refine hor.imp_right fun hone => ?_
  -- a filtered list of length one has a member
  have hne : vs.filter (·.id == a.id) ≠ [] := fun h0 => by simp [h0] at hone
  obtain ⟨x, hx⟩ := List.exists_mem_of_ne_nil _ hne
  exact List.any_eq_true.2 ⟨x, (List.mem_filter.1 hx).1, (List.mem_filter.1 hx).2⟩

/-- A removal that overlaps the iteration takes the element out of the quantifier. -/
example : presentThroughout [⟨5, 20, 30⟩] 10 40 ⟨1, 5, 1, 2⟩ = false := by decide
/-- An element added before and never touched is covered. -/
example : presentThroughout [⟨6, 20, 30⟩] 10 40 ⟨1, 5, 1, 2⟩ = true := by decide
/-- A missed element is reported, a visited one is not. -/
example : complete [⟨1, 5, 1, 2⟩, ⟨2, 7, 3, 4⟩] [] 10 40 [⟨2, 7⟩] = false := by decide
example : once [⟨1, 5, 1, 2⟩, ⟨2, 7, 3, 4⟩] [] 10 40 [⟨1, 5⟩, ⟨2, 7⟩] = true := by decide
/-- An element inserted while the iteration runs may be yielded out of order without breaking the clause. -/
example : ordered [⟨1, 5, 1, 2⟩, ⟨3, 1, 15, 16⟩] [] 10 40 [⟨1, 5⟩, ⟨3, 1⟩] = true := by decide
example : ordered [⟨1, 5, 1, 2⟩, ⟨3, 1, 3, 4⟩] [] 10 40 [⟨1, 5⟩, ⟨3, 1⟩] = false := by decide

end CdsVerif.Props.C19
