/-
  C09 — the Treiber stack (cds::intrusive::TreiberStack, push / pop without elimination back-off) is a
  linearizable LIFO stack: every concurrent history of the atomic-step model `Algo/Treiber/Model.lean` is
  linearizable to `Spec.lifo`.
  Property theorems only; the model, the invariants and the proof live in `Algo/Treiber/{Model,Inv,Lin}.lean`.

  Assumption of the model (not proved here): a node is not reused while any thread may still hold a pointer to it
  (garbage-collected heap).  This is what the hazard pointer taken by `guard.protect( m_Top )` provides.
-/
import CdsVerif.Algo.Treiber.Lin
namespace CdsVerif.Props.C09Treiber
open CdsVerif.Machine CdsVerif.Lin CdsVerif.Spec CdsVerif.Algo

/-- Linearizability, general form (Herlihy–Wing with completion of pending operations).  For EVERY schedule
    (any number of threads, any client program of `push v` / `pop`, any interleaving of the atomic steps), the
    history of the completed operations of the run — extended by response records for those pending operations
    that have already passed their linearization point (at most one per thread; each is an operation pending in
    `os`, completed with the result fixed at its linearization point and the response time "end of run"), all
    other pending operations being dropped — is linearizable to the sequential LIFO stack.

    The literal statement "`historyOf os` is linearizable" is FALSE for runs that stop between the successful CAS
    of a `push` and its return while another thread has already popped the value (see the last `example`):
    such a `push` has to be completed, which is what `extra` does. -/
theorem C09_treiber_linearizable (sched : List (Tid × Act)) (s : Treiber.St) (os : List (Tid × Obs))
    (h : Treiber.model.run Treiber.init sched = some (s, os)) :
    ∃ extra : List (OpRec GOp GRet),
      (∀ e ∈ extra, Treiber.pendingOf os e.tid = some (e.op, e.inv) ∧ e.res = os.length ∧
          Treiber.postRet (s.pc e.tid) = some e.ret) ∧
      extra.Pairwise (fun a b => a.tid ≠ b.tid) ∧
      Linearizable lifo (Treiber.historyOf os ++ extra) :=
  Treiber.treiber_linearizable sched s os h

/-- Runs in which every invoked operation has returned: the history is linearizable as it is. -/
theorem C09_treiber_linearizable_complete_runs (sched : List (Tid × Act)) (s : Treiber.St) (os : List (Tid × Obs))
    (h : Treiber.model.run Treiber.init sched = some (s, os)) (hq : ∀ t, s.pc t = .idle) :
    Linearizable lifo (Treiber.historyOf os) :=
  Treiber.treiber_linearizable_complete_runs sched s os h hq

/-- More generally: runs at whose end no thread is between its linearization point and its return (threads may be
    in the middle of operations that have not taken effect; these are dropped). -/
theorem C09_treiber_linearizable_no_effect_pending (sched : List (Tid × Act)) (s : Treiber.St)
    (os : List (Tid × Obs)) (h : Treiber.model.run Treiber.init sched = some (s, os))
    (hq : ∀ t, Treiber.postRet (s.pc t) = none) :
    Linearizable lifo (Treiber.historyOf os) :=
  Treiber.treiber_linearizable_no_effect_pending sched s os h hq

/-- `historyOf` is faithful: a record's `inv` / `res` are the positions of its call and return observations. -/
theorem C09_treiber_history_sound (os : List (Tid × Obs)) (r : OpRec GOp GRet) (h : r ∈ Treiber.historyOf os) :
    os[r.inv]? = some (r.tid, .call r.op) ∧ os[r.res]? = some (r.tid, .ret r.ret) ∧ r.inv < r.res :=
  Treiber.historyOf_sound os r h

/-- No invention: every value returned by a `pop` is the argument of a `push` that was invoked before the `pop`
    returned. -/
theorem C09_treiber_no_invention (sched : List (Tid × Act)) (s : Treiber.St) (os : List (Tid × Obs))
    (h : Treiber.model.run Treiber.init sched = some (s, os)) (r : OpRec GOp GRet)
    (hr : r ∈ Treiber.historyOf os) (hop : r.op = ⟨"pop", []⟩) (v : Int) (hret : r.ret = [1, v]) :
    ∃ i t', i < r.res ∧ os[i]? = some (t', .call ⟨"push", [v]⟩) :=
  Treiber.treiber_no_invention sched s os h r hr hop v hret

/-- `pop` answers "empty" only when the stack is empty: in a reachable state, the step at which a thread fixes the
    result `[0]` is the validating load of `top` inside `guard.protect` reading null, and the abstract stack
    (the values along the chain from `top`) is empty at that instant. -/
theorem C09_treiber_pop_empty_means_empty (s s' : Treiber.St) (t : Tid) (ev : Ev)
    (hreach : Treiber.model.Reachable Treiber.init s) (hs : Treiber.step s t = some (s', ev))
    (hpre : Treiber.postRet (s.pc t) = none) (hpost : Treiber.postRet (s'.pc t) = some [0]) :
    (∃ p, s.pc t = .popLd2 p) ∧ s.top = none ∧ Treiber.absStack s = [] ∧ Treiber.absStack s' = [] ∧
      ev = ⟨"ld", "top", "null", ""⟩ :=
  Treiber.treiber_pop_empty_means_empty s s' t ev hreach hs hpre hpost

/-- Refinement: in a reachable state, the step at which thread `t` fixes its result `r` (successful CAS of `push`,
    successful CAS of `pop`, validating null load of `pop`) is exactly the `lifo` transition of `t`'s operation
    with result `r` on the abstract stack; every other step leaves the abstract stack unchanged. -/
theorem C09_treiber_lp_refines (s s' : Treiber.St) (t : Tid) (ev : Ev)
    (hreach : Treiber.model.Reachable Treiber.init s) (hs : Treiber.step s t = some (s', ev)) :
    (Treiber.postRet (s.pc t) = none → ∀ r, Treiber.postRet (s'.pc t) = some r →
      ∃ op, Treiber.opOf s.val (s.pc t) = some op ∧
        lifo.next (Treiber.absStack s) op r = some (Treiber.absStack s')) ∧
    ((Treiber.postRet (s.pc t) ≠ none ∨ Treiber.postRet (s'.pc t) = none) →
      Treiber.absStack s' = Treiber.absStack s) :=
  Treiber.step_refines (Treiber.sinv_reachable s hreach) hs

/-- Structure of the reachable states: the chain from `top` is finite, duplicate-free and made of published nodes,
    and a node that has left the chain is never linked in again. -/
theorem C09_treiber_chain (s : Treiber.St) (hreach : Treiber.model.Reachable Treiber.init s) :
    Treiber.Chain s.next s.top (Treiber.absNodes s) ∧ (Treiber.absNodes s).Nodup ∧
      ∀ a ∈ Treiber.absNodes s, Treiber.Pub s a :=
  Treiber.reachable_chain s hreach

theorem C09_treiber_never_relinked (s s' : Treiber.St) (t : Tid) (a : Act) (o : Obs)
    (hreach : Treiber.model.Reachable Treiber.init s) (hap : Treiber.model.apply s t a = some (s', o))
    (x : Nat) (hx : Treiber.Pub s x) (hout : x ∉ Treiber.absNodes s) :
    Treiber.Pub s' x ∧ x ∉ Treiber.absNodes s' :=
  Treiber.never_relinked (Treiber.sinv_reachable s hreach) hap x hx hout

/-! ### Non-vacuity -/

/-- Two pushers race: thread 1 wins the CAS, thread 0's CAS fails (`cas- top n2 null`), it re-links its node and
    succeeds; then thread 2 pops the last pushed value.  Rendered as harness trace lines in the comments. -/
def raceSched : List (Tid × Act) :=
  [(0, .invoke ⟨"push", [7]⟩), (1, .invoke ⟨"push", [8]⟩), (0, .step), (1, .step), (0, .step), (1, .step),
   (1, .step), (0, .step), (0, .step), (0, .step), (0, .ret), (1, .ret),
   (2, .invoke ⟨"pop", []⟩), (2, .step), (2, .step), (2, .step), (2, .step), (2, .step), (2, .ret)]

def raceObs : List (Tid × Obs) :=
  [(0, .call ⟨"push", [7]⟩),               -- T 0 C push [7]
   (1, .call ⟨"push", [8]⟩),               -- T 1 C push [8]
   (0, .ev ⟨"ld", "top", "null", ""⟩),     -- T 0 A ld top null
   (1, .ev ⟨"ld", "top", "null", ""⟩),     -- T 1 A ld top null
   (0, .ev ⟨"st", "n1", "null", ""⟩),      -- T 0 A st n1 null
   (1, .ev ⟨"st", "n2", "null", ""⟩),      -- T 1 A st n2 null
   (1, .ev ⟨"cas+", "top", "null", "n2"⟩), -- T 1 A cas+ top null n2
   (0, .ev ⟨"cas-", "top", "n2", "null"⟩), -- T 0 A cas- top n2 null      (seen n2, expected null)
   (0, .ev ⟨"st", "n1", "n2", ""⟩),        -- T 0 A st n1 n2
   (0, .ev ⟨"cas+", "top", "n2", "n1"⟩),   -- T 0 A cas+ top n2 n1
   (0, .ret [1]), (1, .ret [1]),
   (2, .call ⟨"pop", []⟩),
   (2, .ev ⟨"ld", "top", "n1", ""⟩),       -- T 2 A ld top n1             (protect: first load)
   (2, .ev ⟨"ld", "top", "n1", ""⟩),       -- T 2 A ld top n1             (protect: validating load)
   (2, .ev ⟨"ld", "n1", "n2", ""⟩),        -- T 2 A ld n1 n2
   (2, .ev ⟨"cas+", "top", "n1", "n2"⟩),   -- T 2 A cas+ top n1 n2
   (2, .ev ⟨"st", "n1", "null", ""⟩),      -- T 2 A st n1 null            (clear_links)
   (2, .ret [1, 7])]

example : (Treiber.model.run Treiber.init raceSched).map (·.2) = some raceObs := by decide

example : Treiber.historyOf raceObs =
    [⟨0, ⟨"push", [7]⟩, [1], 0, 10⟩, ⟨1, ⟨"push", [8]⟩, [1], 1, 11⟩, ⟨2, ⟨"pop", []⟩, [1, 7], 12, 18⟩] := by decide

example : linCheck lifo (Treiber.historyOf raceObs) = true := by decide

/-- A pop that sees the stack change between the two loads of `protect` re-validates; a pop on an empty stack
    returns `[0]` at a validating null load. -/
example : (Treiber.model.run Treiber.init
    [(0, .invoke ⟨"pop", []⟩), (0, .step), (1, .invoke ⟨"push", [3]⟩), (1, .step), (1, .step), (1, .step),
     (0, .step), (0, .step), (2, .invoke ⟨"pop", []⟩), (2, .step), (2, .step), (2, .step), (2, .step),
     (0, .step), (0, .step), (0, .step), (0, .step), (0, .ret)]).map (fun r => r.2.filter (fun x => x.1 == 0))
    = some [(0, .call ⟨"pop", []⟩),
            (0, .ev ⟨"ld", "top", "null", ""⟩),      -- first load: null
            (0, .ev ⟨"ld", "top", "n1", ""⟩),        -- validating load differs: repeat
            (0, .ev ⟨"ld", "top", "n1", ""⟩),        -- validated
            (0, .ev ⟨"ld", "n1", "null", ""⟩),
            (0, .ev ⟨"cas-", "top", "null", "n1"⟩),  -- thread 2 popped n1 meanwhile
            (0, .ev ⟨"ld", "top", "null", ""⟩),
            (0, .ev ⟨"ld", "top", "null", ""⟩),      -- linearization point of the empty pop
            (0, .ret [0])] := by decide

/-- Why pending operations must be completed: thread 0's push has taken effect (successful CAS) but has not
    returned when the run stops; thread 1 has popped the value.  The history of completed operations alone
    (`pop → 5` on a stack nobody has pushed to) is not linearizable. -/
def pendingSched : List (Tid × Act) :=
  [(0, .invoke ⟨"push", [5]⟩), (0, .step), (0, .step), (0, .step),
   (1, .invoke ⟨"pop", []⟩), (1, .step), (1, .step), (1, .step), (1, .step), (1, .step), (1, .ret)]

example : (Treiber.model.run Treiber.init pendingSched).map (fun r => Treiber.historyOf r.2) =
    some [⟨1, ⟨"pop", []⟩, [1, 5], 4, 10⟩] := by decide

example : ¬ Linearizable lifo [⟨1, ⟨"pop", []⟩, [1, 5], 4, 10⟩] :=
  not_linearizable_of_linCheck_eq_false lifo _ (by decide) (by decide)

/-- ... and `extra` of `C09_treiber_linearizable` repairs it: with the pending push completed, it is. -/
example : Linearizable lifo ([⟨1, ⟨"pop", []⟩, [1, 5], 4, 10⟩] ++ [⟨0, ⟨"push", [5]⟩, [1], 0, 11⟩]) :=
  linCheck_sound lifo _ (by decide)

end CdsVerif.Props.C09Treiber
