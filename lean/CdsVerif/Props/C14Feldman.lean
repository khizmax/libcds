/-
  C14 — FeldmanHashSet (cds::intrusive::FeldmanHashSet<HP>: the multi-level array hash set of Feldman, LaBorde and
  Dechev; insert, update, erase with functor, find with functor, contains) is a linearizable set / map, for every
  hash whose bit string is cut into equally many slot indices for every key and is injective:
    * the structure is a tree of array nodes; every item sits on the path of its hash; a slot goes null ↔ data freely,
      data → converting → array-node pointer and never back; at most one item per key;
    * `expand_slot` publishes the new array node only after the displaced item has been copied into it, so expansion
      never hides an item: a traversal started at any time, from the head array or from any level reached so far, finds
      every item that is in the set;
    * every concurrent history of the atomic-step model `Algo/Feldman/Model.lean` is linearizable to `Spec.map` (full
      proof: every linearization point is definitive, no hindsight argument is needed — the unsuccessful operations are
      linearized at the last load of `protect`, which confirms the slot value the answer is computed from).
  Property theorems only; the model, the invariant and the proofs live in
  `Algo/Feldman/{Model,Lemmas,Inv,StepA,StepB,StepC,StepD,Reach,Refine,Log,Lin,Facts}.lean`.

  Hypotheses.  `PathHyp c`: all paths have `c.depth` components and different keys have different paths — for the real
  splitter this is `C28_path_injective_ns` and the length clause of `pathOfNS_fieldSum` (`Props/C28.lean`,
  `Algo/Splitter/Lemmas.lean`); nothing else about the hash is used (in particular not the widths of the array nodes).
  It is PROVED for the configurations the trace replay runs (`cfgH hb ab shift` with the slices covering the 64 bits:
  `C14_feldman_harness_hyp`, `C14_feldman_harness_hyp_all`; `C14_feldman_linearizable_harness` is the main theorem with
  no hash hypothesis left) and for `cfgDeep d`.
  `c.copyFirst = true`: the order of `expand_slot` in the library; with `false` (the seeded change
  /verif/seeded/C14-feldman-expand-order) the theorems are false: see the last section.
  Assumptions of the model (not proved here): garbage-collected heap (an item or array node is not reused while a thread
  may still hold a pointer to it: hazard pointers, C01/C02); sequentially consistent interleavings; strong CAS.
  Tie to the real code: traces of the harness client `hashset`, variant `ifset_hp_named`, are replayed step by step by
  `cdsdriver replay feldman` (atomic events, allocation order of the array nodes, results).
-/
import CdsVerif.Algo.Feldman.Facts
import CdsVerif.Algo.Feldman.HarnessCfg
namespace CdsVerif.Props.C14Feldman
open CdsVerif.Machine CdsVerif.Lin CdsVerif.Spec CdsVerif.Algo

/-! ### (2) Linearizability -/

/-- Linearizability, general form (Herlihy–Wing with completion of pending operations), for every hash satisfying
    `PathHyp`, every schedule, any number of threads, any client program of `insert k v` / `update k v allow` /
    `erase k` / `find k` / `contains k`, any keys.  The history of the completed operations of the run — extended by
    response records for pending operations that have passed their linearization point (at most one per thread;
    result fixed at the linearization point, response time "end of run"), all other pending operations being
    dropped — is linearizable to the sequential map: `insert → [1] | [0]`, `update → [1, 1] | [1, 0] | [0, 0]`,
    `erase → [1, v] | [0]`, `find → [1, v] | [0]`, `contains → [1] | [0]`. -/
theorem C14_feldman_linearizable (c : Feldman.Cfg) (hp : Feldman.PathHyp c) (hcf : c.copyFirst = true)
    (sched : List (Tid × Act)) (s : Feldman.St) (os : List (Tid × Obs))
    (h : (Feldman.model c).run Feldman.init sched = some (s, os)) :
    ∃ extra : List (OpRec GOp GRet),
      (∀ e ∈ extra, Feldman.pendingOf os e.tid = some (e.op, e.inv) ∧ e.res = os.length ∧
          Feldman.retOf (s.pc e.tid) = some e.ret) ∧
      extra.Pairwise (fun a b => a.tid ≠ b.tid) ∧
      Linearizable map (Feldman.historyOf os ++ extra) :=
  Feldman.feldman_linearizable hp hcf sched s os h

/-- Runs in which every invoked operation has returned: the history is linearizable as it is. -/
theorem C14_feldman_linearizable_complete_runs (c : Feldman.Cfg) (hp : Feldman.PathHyp c) (hcf : c.copyFirst = true)
    (sched : List (Tid × Act)) (s : Feldman.St) (os : List (Tid × Obs))
    (h : (Feldman.model c).run Feldman.init sched = some (s, os)) (hq : ∀ t, s.pc t = .idle) :
    Linearizable map (Feldman.historyOf os) :=
  Feldman.feldman_linearizable_complete_runs hp hcf sched s os h hq

/-- Runs at whose end no thread is between its linearization point and its return. -/
theorem C14_feldman_linearizable_no_effect_pending (c : Feldman.Cfg) (hp : Feldman.PathHyp c)
    (hcf : c.copyFirst = true) (sched : List (Tid × Act)) (s : Feldman.St) (os : List (Tid × Obs))
    (h : (Feldman.model c).run Feldman.init sched = some (s, os)) (hq : ∀ t, Feldman.retOf (s.pc t) = none) :
    Linearizable map (Feldman.historyOf os) :=
  Feldman.feldman_linearizable_no_effect_pending hp hcf sched s os h hq

/-- `historyOf` is faithful: a record's `inv` / `res` are the positions of its call and return observations. -/
theorem C14_feldman_history_sound (os : List (Tid × Obs)) (r : OpRec GOp GRet) (h : r ∈ Feldman.historyOf os) :
    os[r.inv]? = some (r.tid, .call r.op) ∧ os[r.res]? = some (r.tid, .ret r.ret) ∧ r.inv < r.res :=
  Feldman.historyOf_sound os r h

/-- Refinement.  In a reachable state, the step at which thread `t` fixes its result `r` (the successful CAS
    null → item of insert / update, item → null of erase, old item → item of update; for every other answer the last
    load of `protect`) is exactly the `Spec.map` transition of `t`'s operation with result `r` on the abstract map
    `look` (key ↦ payload found by a traversal from the head array); every other step — every step of `expand_slot`,
    every failed CAS, every load — leaves the abstract map unchanged. -/
theorem C14_feldman_lp_refines (c : Feldman.Cfg) (hp : Feldman.PathHyp c) (hcf : c.copyFirst = true)
    (s s' : Feldman.St) (t : Tid) (ev : Ev) (hreach : (Feldman.model c).Reachable Feldman.init s)
    (hs : Feldman.step c s t = some (s', ev)) :
    (∀ r, Feldman.retOf (s'.pc t) = some r →
      ∃ op, Feldman.opOf (s.pc t) = some op ∧
        ∀ m : MapSt, (∀ k, mfind m k = Feldman.look c s k) →
          ∃ m', map.next m op r = some m' ∧ ∀ k, mfind m' k = Feldman.look c s' k) ∧
    (Feldman.retOf (s'.pc t) = none → ∀ k, Feldman.look c s' k = Feldman.look c s k) :=
  Feldman.step_refines hp hcf (Feldman.reachable_sinv hp hcf s hreach) hs

/-! ### (1) Structure -/

/-- The structure is a tree.  In every reachable state: an array-node pointer sits in exactly the slot named by the
    node's `pParent` / `idxParent` (so an array node has at most one parent slot), the child was allocated after its
    parent (no cycles), its prefix is the parent's prefix extended by the slot index, and it is not deeper than the
    hash is long; an array node is published (it is the head array or its parent slot points to it) iff a walk from
    the head array reaches it, and that walk is its prefix. -/
theorem C14_feldman_tree (c : Feldman.Cfg) (hp : Feldman.PathHyp c) (hcf : c.copyFirst = true) (s : Feldman.St)
    (hreach : (Feldman.model c).Reachable Feldman.init s) :
    (∀ a i b, s.cell a i = .arr b → s.par b = a ∧ s.pidx b = i ∧ a < b ∧ b < s.acnt ∧ s.pre b = s.pre a ++ [i] ∧
      (s.pre b).length < c.depth) ∧
    (∀ a, Feldman.Pub s a → Feldman.walk s.cell 0 (s.pre a) = some a) ∧
    (∀ p a, Feldman.walk s.cell 0 p = some a → Feldman.Pub s a ∧ s.pre a = p) :=
  Feldman.reachable_tree hp hcf s hreach

/-- Every item sits on the path of its hash: an item in slot `i` of array node `a` (published or being prepared by
    `expand_slot`) has `prefix( a ) ++ [i]` as the beginning of its path; if `a` is published, the traversal from the
    head array along the item's hash stops exactly at that slot and finds the item. -/
theorem C14_feldman_on_path (c : Feldman.Cfg) (hp : Feldman.PathHyp c) (hcf : c.copyFirst = true) (s : Feldman.St)
    (hreach : (Feldman.model c).Reachable Feldman.init s) (a i : Nat) (n : Feldman.Node)
    (hc : s.cell a i = .data n ∨ s.cell a i = .conv n) :
    (c.path n.key).take ((s.pre a).length + 1) = s.pre a ++ [i] ∧
    (Feldman.Pub s a → Feldman.stop s.cell 0 (c.path n.key) = some (a, i) ∧ Feldman.look c s n.key = some n.val) :=
  Feldman.reachable_on_path hp hcf s hreach a i n hc

/-- The life of a slot under one step (`SlotStep old new`): unchanged; null → data; data → null, data → the same
    item converting, data → another item of the same key (update); converting → array-node pointer.  In particular a
    converting slot never goes back and an array-node pointer is never removed or changed. -/
theorem C14_feldman_slot_life (c : Feldman.Cfg) (hp : Feldman.PathHyp c) (hcf : c.copyFirst = true)
    (s s' : Feldman.St) (t : Tid) (ev : Ev) (hreach : (Feldman.model c).Reachable Feldman.init s)
    (hs : Feldman.step c s t = some (s', ev)) (a i : Nat) :
    s.cell a i = s'.cell a i ∨ (s.cell a i = .null ∧ ∃ n, s'.cell a i = .data n) ∨
    (∃ n, s.cell a i = .data n ∧
      (s'.cell a i = .null ∨ s'.cell a i = .conv n ∨ ∃ n', s'.cell a i = .data n' ∧ n'.key = n.key)) ∨
    (∃ n b, s.cell a i = .conv n ∧ s'.cell a i = .arr b) :=
  Feldman.step_slot hcf (Feldman.reachable_sinv hp hcf s hreach) hs a i

/-- What `expand_slot` guarantees about the moved item.  The only step that turns a converting slot `(a, i)` holding
    item `n` into the pointer to an array node `b` is the publishing CAS of the thread that converted the slot (so that
    CAS never fails: `CDS_VERIFY`); at that instant `b` hangs below `(a, i)` and contains `n`, in the slot given by the
    hash of `n` at the level of `b`, and nothing else; `n` was found by a traversal before the step and every lookup
    answers after the step what it answered before.  (The seeded changes C14-feldman-expand-order and
    C14-feldman-expand-slot-retry-any break exactly this: the first publishes an empty `b`, the second copies a stale
    item into `b`.) -/
theorem C14_feldman_expand_publish (c : Feldman.Cfg) (hp : Feldman.PathHyp c) (hcf : c.copyFirst = true)
    (s s' : Feldman.St) (t : Tid) (ev : Ev) (hreach : (Feldman.model c).Reachable Feldman.init s)
    (hs : Feldman.step c s t = some (s', ev)) (a i b : Nat) (n : Feldman.Node)
    (hc : s.cell a i = .conv n) (hc' : s'.cell a i = .arr b) :
    (∃ op lvl, s.pc t = .xPub op a lvl n b ∧ i = Feldman.sl c (Feldman.okey op) lvl ∧ (s.pre b).length = lvl + 1) ∧
    s'.cell b (Feldman.sl c n.key (s.pre b).length) = .data n ∧
    (∀ j, j ≠ Feldman.sl c n.key (s.pre b).length → s'.cell b j = .null) ∧
    s'.par b = a ∧ s'.pidx b = i ∧
    Feldman.look c s n.key = some n.val ∧ ∀ k, Feldman.look c s' k = Feldman.look c s k :=
  Feldman.expand_publish hp hcf (Feldman.reachable_sinv hp hcf s hreach) hs a i b n hc hc'

/-! ### (3) No key twice; nothing hides an item -/

/-- At most one item per key: two slots of published array nodes that hold (plain or converting) items with the same
    key are the same slot, holding the same item. -/
theorem C14_feldman_no_duplicate_keys (c : Feldman.Cfg) (hp : Feldman.PathHyp c) (hcf : c.copyFirst = true)
    (s : Feldman.St) (hreach : (Feldman.model c).Reachable Feldman.init s) (a i a' i' : Nat) (n n' : Feldman.Node)
    (hpub : Feldman.Pub s a) (hpub' : Feldman.Pub s a')
    (hc : s.cell a i = .data n ∨ s.cell a i = .conv n) (hc' : s.cell a' i' = .data n' ∨ s.cell a' i' = .conv n')
    (hk : n.key = n'.key) : a = a' ∧ i = i' ∧ n = n' :=
  Feldman.reachable_unique hp hcf s hreach a i a' i' n n' hpub hpub' hc hc' hk

/-- The abstract map is exactly the content of the slots: `k ↦ v` is found by a traversal from the head array iff a
    slot of a published array node holds an item with key `k` and payload `v`. -/
theorem C14_feldman_found_iff_present (c : Feldman.Cfg) (hp : Feldman.PathHyp c) (hcf : c.copyFirst = true)
    (s : Feldman.St) (hreach : (Feldman.model c).Reachable Feldman.init s) (k v : Int) :
    Feldman.look c s k = some v ↔
      ∃ a i n, Feldman.Pub s a ∧ (s.cell a i = .data n ∨ s.cell a i = .conv n) ∧ n.key = k ∧ n.val = v :=
  Feldman.reachable_look_some hp hcf s hreach k v

/-- A traversal in progress is as good as one started now: the array node and level an operation has reached are on the
    walk from the head array along the hash of its key (array-node pointers are never removed), there is a slot index
    left, and continuing from there finds what a traversal from the head array would find. -/
theorem C14_feldman_traversal_in_progress (c : Feldman.Cfg) (hp : Feldman.PathHyp c) (hcf : c.copyFirst = true)
    (s : Feldman.St) (hreach : (Feldman.model c).Reachable Feldman.init s) (t : Tid) (op : Feldman.Op) (a lvl : Nat)
    (hpo : Feldman.posOf (s.pc t) = some (op, a, lvl)) :
    Feldman.walk s.cell 0 ((c.path (Feldman.okey op)).take lvl) = some a ∧ lvl < c.depth ∧
    Feldman.look c s (Feldman.okey op) =
      Feldman.go s.cell (Feldman.okey op) a ((c.path (Feldman.okey op)).drop lvl) :=
  Feldman.reachable_pos hp hcf s hreach t op a lvl hpo

/-- Expansion never hides an item: if `k ↦ v` is in the set before a step and not after it, the step is the successful
    CAS of an `erase k` (which answers `[1, v]`) or of an `update` of `k` (which puts its own item in the same slot).
    No step of `expand_slot`, of any thread, is among them. -/
theorem C14_feldman_only_erase_removes (c : Feldman.Cfg) (hp : Feldman.PathHyp c) (hcf : c.copyFirst = true)
    (s s' : Feldman.St) (t : Tid) (ev : Ev) (hreach : (Feldman.model c).Reachable Feldman.init s)
    (hs : Feldman.step c s t = some (s', ev)) (k v : Int) (h1 : Feldman.look c s k = some v)
    (h2 : Feldman.look c s' k ≠ some v) :
    (∃ op a lvl n, s.pc t = .casEra op a lvl n ∧ Feldman.okey op = k ∧ s'.pc t = .done [1, v]) ∨
    (∃ op a lvl n, s.pc t = .casUpd op a lvl n ∧ Feldman.okey op = k ∧ s'.pc t = .done [1, 0]) :=
  Feldman.look_removed hp hcf (Feldman.reachable_sinv hp hcf s hreach) hs k v h1 h2

/-- The hypotheses are satisfiable at every depth (so none of the theorems above is vacuous): `cfgDeep d` is the WORST
    hash of depth `d + 1` — all keys share the first `d` slot indices and differ at the last level, every pair of keys
    forces `d` nested expansions.  (For the splitter of the real code the two clauses of `PathHyp` are
    `C28_path_injective_ns` and `pathOfNS_fieldSum`; they hold for the 2^64 hash values.  The harness configurations
    `cfgH hb ab shift` are instances too: `C14_feldman_harness_hyp` at the end of this file — the hash `key << shift` is
    perfect on the keys `0 ≤ k`, `k * 2 ^ shift < 2 ^ 64`, the only ones the harness uses, and `Feldman.pathOf` is
    extended injectively to the other integers, for which that hash functor violates the precondition of the real
    container.) -/
theorem C14_feldman_hyp_satisfiable (d : Nat) :
    Feldman.PathHyp (Feldman.cfgDeep d) ∧ (Feldman.cfgDeep d).copyFirst = true :=
  Feldman.cfgDeep_hyp d

/-! ### (4) Non-vacuity (head 4 bits, array nodes 2 bits, hash = key << 3: the configuration `hb=4 ab=2 shift=3` of the
    harness; keys 2, 4, 6 share the head slot 0 and differ at level 1: slots 1, 2, 3) -/

def cfg : Feldman.Cfg := Feldman.cfgH 4 2 3
def steps (t : Tid) (n : Nat) : List (Tid × Act) := List.replicate n (t, .step)
def ins (k v : Int) : GOp := ⟨"insert", [k, v]⟩
def era (k : Int) : GOp := ⟨"erase", [k]⟩
def fnd (k : Int) : GOp := ⟨"find", [k]⟩

/-- Two keys sharing a prefix force an expansion.  `insert 2` lands in `h0`; `insert 4` finds another key there,
    allocates `a1`, converts the slot, copies `n1` into `a1.1`, publishes `a1`, re-reads `h0`, descends and inserts into
    `a1.2`; a later `find 2` goes through `a1`.  Rendered as harness trace lines in the comments. -/
def expandSched : List (Tid × Act) :=
  [(0, .invoke (ins 2 10))] ++ steps 0 4 ++ [(0, .ret), (0, .invoke (ins 4 20))] ++ steps 0 12 ++ [(0, .ret),
   (1, .invoke (fnd 2))] ++ steps 1 4 ++ [(1, .ret)]

example : ((Feldman.model cfg).run Feldman.init expandSched).map (fun r => r.2.drop 6) =
    some [(0, .call (ins 4 20)),
          (0, .ev ⟨"ld", "h0", "n1", ""⟩),              -- T 0 A ld h0 n1             (traverse)
          (0, .ev ⟨"ld", "h0", "n1", ""⟩),              -- T 0 A ld h0 n1             (protect: load)
          (0, .ev ⟨"ld", "h0", "n1", ""⟩),              -- T 0 A ld h0 n1             (protect: validating load)
          (0, .ev ⟨"alloc", "a1", "4", ""⟩),            -- T 0 A alloc a1 4           (alloc_array_node)
          (0, .ev ⟨"cas+", "h0", "n1", "n1|1"⟩),        -- T 0 A cas+ h0 n1 n1|1      (flag_array_converting)
          (0, .ev ⟨"st", "a1.1", "n1", ""⟩),            -- T 0 A st a1.1 n1           (the displaced item is copied first)
          (0, .ev ⟨"cas+", "h0", "n1|1", "a1|2"⟩),      -- T 0 A cas+ h0 n1|1 a1|2    (… and then the array node is published)
          (0, .ev ⟨"ld", "h0", "a1|2", ""⟩),
          (0, .ev ⟨"ld", "a1.2", "null", ""⟩),
          (0, .ev ⟨"ld", "a1.2", "null", ""⟩),
          (0, .ev ⟨"ld", "a1.2", "null", ""⟩),
          (0, .ev ⟨"cas+", "a1.2", "null", "n2"⟩),      -- linearization point of insert 4
          (0, .ret [1]),
          (1, .call (fnd 2)),
          (1, .ev ⟨"ld", "h0", "a1|2", ""⟩),
          (1, .ev ⟨"ld", "a1.1", "n1", ""⟩),
          (1, .ev ⟨"ld", "a1.1", "n1", ""⟩),
          (1, .ev ⟨"ld", "a1.1", "n1", ""⟩),            -- linearization point of find 2
          (1, .ret [1, 10])] := by decide +kernel

set_option synthInstance.maxSize 2000 in
example : ((Feldman.model cfg).run Feldman.init expandSched).map
    (fun r => (r.1.cell 0 0, r.1.cell 1 1, r.1.cell 1 2, r.1.pre 1, Feldman.look cfg r.1 2, Feldman.look cfg r.1 4,
      Feldman.look cfg r.1 6, linCheck map (Feldman.historyOf r.2))) =
    some (.arr 1, .data ⟨1, 2, 10⟩, .data ⟨2, 4, 20⟩, [0], some 10, some 20, none, true) := by decide +kernel

/-- An insert racing with the expansion of its slot.  Thread 0 (`insert 4`) has put `h0` into the converting state;
    thread 1 (`insert 6`) reads `n1|1` and waits (re-reads); after the publication it reads `a1|2`, descends and inserts
    into `a1.3`; thread 0 then finishes in `a1.2`. -/
def raceSched : List (Tid × Act) :=
  [(0, .invoke (ins 2 10))] ++ steps 0 4 ++ [(0, .ret), (0, .invoke (ins 4 20))] ++ steps 0 5 ++
  [(1, .invoke (ins 6 30))] ++ steps 1 2 ++ steps 0 2 ++ steps 1 5 ++ [(1, .ret)] ++ steps 0 5 ++ [(0, .ret)]

example : ((Feldman.model cfg).run Feldman.init raceSched).map (fun r => r.2.drop 11) =
    some [(0, .ev ⟨"cas+", "h0", "n1", "n1|1"⟩),
          (1, .call (ins 6 30)),
          (1, .ev ⟨"ld", "h0", "n1|1", ""⟩),            -- T 1 A ld h0 n1|1           (converting: back off, re-read)
          (1, .ev ⟨"ld", "h0", "n1|1", ""⟩),
          (0, .ev ⟨"st", "a1.1", "n1", ""⟩),
          (0, .ev ⟨"cas+", "h0", "n1|1", "a1|2"⟩),
          (1, .ev ⟨"ld", "h0", "a1|2", ""⟩),            -- T 1 A ld h0 a1|2           (now an array node: descend)
          (1, .ev ⟨"ld", "a1.3", "null", ""⟩),
          (1, .ev ⟨"ld", "a1.3", "null", ""⟩),
          (1, .ev ⟨"ld", "a1.3", "null", ""⟩),
          (1, .ev ⟨"cas+", "a1.3", "null", "n3"⟩),
          (1, .ret [1]),
          (0, .ev ⟨"ld", "h0", "a1|2", ""⟩),
          (0, .ev ⟨"ld", "a1.2", "null", ""⟩),
          (0, .ev ⟨"ld", "a1.2", "null", ""⟩),
          (0, .ev ⟨"ld", "a1.2", "null", ""⟩),
          (0, .ev ⟨"cas+", "a1.2", "null", "n2"⟩),
          (0, .ret [1])] := by decide +kernel

example : ((Feldman.model cfg).run Feldman.init raceSched).map
    (fun r => (Feldman.look cfg r.1 2, Feldman.look cfg r.1 4, Feldman.look cfg r.1 6,
      linCheck map (Feldman.historyOf r.2))) = some (some 10, some 20, some 30, true) := by decide +kernel

/-- An erase of the item being moved.  Thread 1 (`erase 2`) has validated `h0 = n1`; thread 0 converts the slot; thread
    1's CAS fails (`cas- h0 n1|1 n1`), it goes back to `traverse` WITHOUT resetting its position, waits, follows the new
    array-node pointer and erases `n1` from `a1.1`, where `expand_slot` has put it. -/
def eraseMovedSched : List (Tid × Act) :=
  [(0, .invoke (ins 2 10))] ++ steps 0 4 ++ [(0, .ret), (1, .invoke (era 2))] ++ steps 1 3 ++
  [(0, .invoke (ins 4 20))] ++ steps 0 5 ++ steps 1 2 ++ steps 0 2 ++ steps 1 5 ++ [(1, .ret)] ++ steps 0 5 ++ [(0, .ret)]

example : ((Feldman.model cfg).run Feldman.init eraseMovedSched).map (fun r => r.2.drop 15) =
    some [(0, .ev ⟨"cas+", "h0", "n1", "n1|1"⟩),
          (1, .ev ⟨"cas-", "h0", "n1|1", "n1"⟩),        -- T 1 A cas- h0 n1|1 n1      (seen n1|1, expected n1): retry
          (1, .ev ⟨"ld", "h0", "n1|1", ""⟩),            -- waits
          (0, .ev ⟨"st", "a1.1", "n1", ""⟩),
          (0, .ev ⟨"cas+", "h0", "n1|1", "a1|2"⟩),
          (1, .ev ⟨"ld", "h0", "a1|2", ""⟩),
          (1, .ev ⟨"ld", "a1.1", "n1", ""⟩),
          (1, .ev ⟨"ld", "a1.1", "n1", ""⟩),
          (1, .ev ⟨"ld", "a1.1", "n1", ""⟩),
          (1, .ev ⟨"cas+", "a1.1", "n1", "null"⟩),      -- linearization point of erase 2
          (1, .ret [1, 10]),
          (0, .ev ⟨"ld", "h0", "a1|2", ""⟩),
          (0, .ev ⟨"ld", "a1.2", "null", ""⟩),
          (0, .ev ⟨"ld", "a1.2", "null", ""⟩),
          (0, .ev ⟨"ld", "a1.2", "null", ""⟩),
          (0, .ev ⟨"cas+", "a1.2", "null", "n2"⟩),
          (0, .ret [1])] := by decide +kernel

example : ((Feldman.model cfg).run Feldman.init eraseMovedSched).map
    (fun r => (r.1.cell 1 1, Feldman.look cfg r.1 2, Feldman.look cfg r.1 4, linCheck map (Feldman.historyOf r.2))) =
    some (.null, none, some 20, true) := by decide +kernel

/-- Nested expansions under the worst hash `cfgDeep 2` (a configuration for which the hypotheses are PROVED): keys 0 and
    1 share two levels; `insert 1` expands `h0`, then `a1.0`, and lands in `a2.2`; both keys are found afterwards. -/
def deepSched : List (Tid × Act) :=
  [(0, .invoke (ins 0 10))] ++ steps 0 4 ++ [(0, .ret), (0, .invoke (ins 1 20))] ++ steps 0 20 ++ [(0, .ret)]

set_option synthInstance.maxSize 2000 in
example : ((Feldman.model (Feldman.cfgDeep 2)).run Feldman.init deepSched).map
    (fun r => ((r.2.drop 10).filter (fun x => match x.2 with | .ev e => e.kind != "ld" | _ => false),
      r.1.pre 2, Feldman.look (Feldman.cfgDeep 2) r.1 0, Feldman.look (Feldman.cfgDeep 2) r.1 1,
      linCheck map (Feldman.historyOf r.2))) =
    some ([(0, .ev ⟨"alloc", "a1", "4", ""⟩),
           (0, .ev ⟨"cas+", "h0", "n1", "n1|1"⟩),
           (0, .ev ⟨"st", "a1.0", "n1", ""⟩),
           (0, .ev ⟨"cas+", "h0", "n1|1", "a1|2"⟩),
           (0, .ev ⟨"alloc", "a2", "4", ""⟩),
           (0, .ev ⟨"cas+", "a1.0", "n1", "n1|1"⟩),
           (0, .ev ⟨"st", "a2.0", "n1", ""⟩),
           (0, .ev ⟨"cas+", "a1.0", "n1|1", "a2|2"⟩),
           (0, .ev ⟨"cas+", "a2.2", "null", "n2"⟩)],
          [0, 0], some 10, some 20, true) := by decide +kernel

/-! ### The order of `expand_slot` is needed -/

/-- the model of the seeded change C14-feldman-expand-order: the new array node is published BEFORE the copy -/
def cfgBad : Feldman.Cfg := Feldman.cfgH 4 2 3 false

/-- Thread 0 (`insert 4`) publishes the empty `a1` and is delayed before the copy; thread 1's `find 2` descends into
    `a1`, reads `a1.1 = null` and answers "not found" although `insert 2` has returned and nobody erases: the abstract
    map has lost key 2 (`look … 2 = none`) by a step that is not an erase … -/
def badSched : List (Tid × Act) :=
  [(0, .invoke (ins 2 10))] ++ steps 0 4 ++ [(0, .ret), (0, .invoke (ins 4 20))] ++ steps 0 6 ++
  [(1, .invoke (fnd 2))] ++ steps 1 4 ++ [(1, .ret)]

set_option synthInstance.maxSize 2000 in
example : ((Feldman.model cfgBad).run Feldman.init badSched).map
    (fun r => (r.2.drop 11, Feldman.look cfgBad r.1 2, Feldman.retOf (r.1.pc 0), Feldman.retOf (r.1.pc 1),
      Feldman.historyOf r.2)) =
    some ([(0, .ev ⟨"cas+", "h0", "n1", "n1|1"⟩),
           (0, .ev ⟨"cas+", "h0", "n1|1", "a1|2"⟩),     -- published empty
           (1, .call (fnd 2)),
           (1, .ev ⟨"ld", "h0", "a1|2", ""⟩),
           (1, .ev ⟨"ld", "a1.1", "null", ""⟩),
           (1, .ev ⟨"ld", "a1.1", "null", ""⟩),
           (1, .ev ⟨"ld", "a1.1", "null", ""⟩),
           (1, .ret [0])],
          none, none, none,
          [⟨0, ins 2 10, [1], 0, 5⟩, ⟨1, fnd 2, [0], 13, 18⟩]) := by decide +kernel

/-- … and the history is not linearizable: `C14_feldman_linearizable_no_effect_pending` fails for `copyFirst = false`
    (no thread of the run above is between a linearization point and its return). -/
example : ¬ Linearizable map [⟨0, ins 2 10, [1], 0, 5⟩, ⟨1, fnd 2, [0], 13, 18⟩] :=
  not_linearizable_of_linCheck_eq_false map _ (by decide) (by decide +kernel)

/-! ### The replayed configurations are instances

  `cdsdriver replay feldman` builds `Feldman.cfgH hb ab shift` from the header words `hb= ab= shift=` of a harness trace
  (`Feldman.replayInit`).  The harness client `hashset`, variant `ifset_hp_named`, uses the effective geometries
  `(hb, ab)` = (4, 2), (4, 3), (6, 2), (7, 3) — in each the head slice and the `(64 - hb) / ab` array slices cover the 64
  bits exactly —, `shift` ∈ {0, 2, 3, 5, 8, 13, 30, 56} and keys 0 … 5; `cfg = cfgH 4 2 3` above is one of them.
  On the keys `0 ≤ k`, `k * 2 ^ shift < 2 ^ 64` the paths of `cfgH` are the slices of the code's hash `key << shift` (the
  FeldmanHashSet precondition "perfect hash" holds there: the slices are the digits of a 64-bit value); off that domain
  the hash functor of the harness is not perfect, the real container's precondition fails, and the model's path is an
  arbitrary injective extension that no replayed trace uses (`Feldman.pathOf`).
  Proof: `Algo/Feldman/HarnessCfg.lean` (`cfgH_hyp`). -/

/-- The hypotheses of all theorems of this file hold for the configuration `hb=4 ab=2 shift=3` of the trace replay. -/
theorem C14_feldman_harness_hyp :
    Feldman.PathHyp (Feldman.cfgH 4 2 3) ∧ (Feldman.cfgH 4 2 3).copyFirst = true :=
  Feldman.cfgH_4_2_3_hyp

/-- … and for every geometry whose slices cover the 64 bits exactly, any shift. -/
theorem C14_feldman_harness_hyp_general (hb ab shift : Nat) (hsum : hb + ab * ((64 - hb) / ab) = 64) :
    Feldman.PathHyp (Feldman.cfgH hb ab shift) ∧ (Feldman.cfgH hb ab shift).copyFirst = true :=
  ⟨Feldman.cfgH_hyp hb ab shift true hsum, rfl⟩

/-- In particular for all the geometries the harness replays, with every shift. -/
theorem C14_feldman_harness_hyp_all (g : Nat × Nat) (hg : g ∈ [(4, 2), (4, 3), (6, 2), (7, 3)]) (shift : Nat) :
    Feldman.PathHyp (Feldman.cfgH g.1 g.2 shift) ∧ (Feldman.cfgH g.1 g.2 shift).copyFirst = true := by
  simp only [List.mem_cons, List.not_mem_nil, or_false] at hg
  rcases hg with rfl | rfl | rfl | rfl <;> exact C14_feldman_harness_hyp_general _ _ shift (by decide)

/-- `C14_feldman_linearizable` for the replayed configuration `hb=4 ab=2 shift=3`: no hypothesis on the hash is left. -/
theorem C14_feldman_linearizable_harness
    (sched : List (Tid × Act)) (s : Feldman.St) (os : List (Tid × Obs))
    (h : (Feldman.model (Feldman.cfgH 4 2 3)).run Feldman.init sched = some (s, os)) :
    ∃ extra : List (OpRec GOp GRet),
      (∀ e ∈ extra, Feldman.pendingOf os e.tid = some (e.op, e.inv) ∧ e.res = os.length ∧
          Feldman.retOf (s.pc e.tid) = some e.ret) ∧
      extra.Pairwise (fun a b => a.tid ≠ b.tid) ∧
      Linearizable map (Feldman.historyOf os ++ extra) :=
  C14_feldman_linearizable (Feldman.cfgH 4 2 3) C14_feldman_harness_hyp.1 C14_feldman_harness_hyp.2 sched s os h

/-- The same for every replayed geometry and shift (`hsum` is `by decide` for (4, 2), (4, 3), (6, 2), (7, 3)). -/
theorem C14_feldman_linearizable_harness_general (hb ab shift : Nat) (hsum : hb + ab * ((64 - hb) / ab) = 64)
    (sched : List (Tid × Act)) (s : Feldman.St) (os : List (Tid × Obs))
    (h : (Feldman.model (Feldman.cfgH hb ab shift)).run Feldman.init sched = some (s, os)) :
    ∃ extra : List (OpRec GOp GRet),
      (∀ e ∈ extra, Feldman.pendingOf os e.tid = some (e.op, e.inv) ∧ e.res = os.length ∧
          Feldman.retOf (s.pc e.tid) = some e.ret) ∧
      extra.Pairwise (fun a b => a.tid ≠ b.tid) ∧
      Linearizable map (Feldman.historyOf os ++ extra) :=
  C14_feldman_linearizable (Feldman.cfgH hb ab shift) (C14_feldman_harness_hyp_general hb ab shift hsum).1 rfl
    sched s os h

/-- Complete runs of the replayed configuration. -/
theorem C14_feldman_linearizable_complete_runs_harness
    (sched : List (Tid × Act)) (s : Feldman.St) (os : List (Tid × Obs))
    (h : (Feldman.model (Feldman.cfgH 4 2 3)).run Feldman.init sched = some (s, os)) (hq : ∀ t, s.pc t = .idle) :
    Linearizable map (Feldman.historyOf os) :=
  C14_feldman_linearizable_complete_runs (Feldman.cfgH 4 2 3) C14_feldman_harness_hyp.1 C14_feldman_harness_hyp.2
    sched s os h hq

/-- The theorem applied to the concrete runs above (which are runs of `cfg = cfgH 4 2 3`): whatever `expandSched` /
    `raceSched` produce is linearizable — by the theorem, not by running `linCheck`. -/
example (s : Feldman.St) (os : List (Tid × Obs)) (h : (Feldman.model cfg).run Feldman.init expandSched = some (s, os)) :
    ∃ extra : List (OpRec GOp GRet),
      (∀ e ∈ extra, Feldman.pendingOf os e.tid = some (e.op, e.inv) ∧ e.res = os.length ∧
          Feldman.retOf (s.pc e.tid) = some e.ret) ∧
      extra.Pairwise (fun a b => a.tid ≠ b.tid) ∧
      Linearizable map (Feldman.historyOf os ++ extra) :=
  C14_feldman_linearizable_harness expandSched s os h

example (s : Feldman.St) (os : List (Tid × Obs)) (h : (Feldman.model cfg).run Feldman.init raceSched = some (s, os))
    (hq : ∀ t, s.pc t = .idle) : Linearizable map (Feldman.historyOf os) :=
  C14_feldman_linearizable_complete_runs_harness raceSched s os h hq

/-- The run exists (so the examples above are not vacuous). -/
example : ((Feldman.model cfg).run Feldman.init expandSched).isSome = true := by decide +kernel

/-- The paths of the keys used above, and a key outside the domain of the harness hash. -/
example : (Feldman.pathOf 4 2 3 2).take 3 = [0, 1, 0] ∧ (Feldman.pathOf 4 2 3 4).take 3 = [0, 2, 0] ∧
    (Feldman.pathOf 4 2 3 6).take 3 = [0, 3, 0] ∧ (Feldman.pathOf 4 2 3 2).length = 31 ∧
    Feldman.pathOf 4 2 3 (-1) = (2 ^ 64 + 3) :: List.replicate 30 0 := by decide +kernel

end CdsVerif.Props.C14Feldman
