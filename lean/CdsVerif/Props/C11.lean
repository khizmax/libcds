/-
  C11 — the history oracle of tie H for the bounded max-priority queue.  The theorems about the atomic-step
  machine of `MSPriorityQueue` are in `Props/C11MSPQ.lean`.
-/
import CdsVerif.Base.Spec
namespace CdsVerif.Props.C11
open CdsVerif.Lin CdsVerif.Spec

/-- The oracle of tie H is exact: a history of the real container is accepted by the driver iff it is
    linearizable to the sequential specification. -/
theorem C11_history_oracle_exact (cap : Nat) (ops : List (OpRec GOp GRet)) (hwf : ∀ o ∈ ops, o.inv ≤ o.res) :
    linCheck (maxpq cap) ops = true ↔ Linearizable (maxpq cap) ops :=
  linCheck_iff _ ops hwf

end CdsVerif.Props.C11
