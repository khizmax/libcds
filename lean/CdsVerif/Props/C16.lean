/-
  C16 — the history oracle of tie H.  The algorithm-level theorems are in Props/C16Striped.lean.
-/
import CdsVerif.Base.Spec
namespace CdsVerif.Props.C16
open CdsVerif.Lin CdsVerif.Spec

/-- The oracle of tie H is exact: a history of the real container is accepted by the driver iff it is
    linearizable to the sequential specification. -/
theorem C16_history_oracle_exact  (ops : List (OpRec GOp GRet)) (hwf : ∀ o ∈ ops, o.inv ≤ o.res) :
    linCheck map ops = true ↔ Linearizable map ops :=
  linCheck_iff _ ops hwf

end CdsVerif.Props.C16
