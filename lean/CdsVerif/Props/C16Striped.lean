/-
  C16 — `cds::container::StripedSet` / `cds::intrusive::StripedSet` with the `striping` and the `refinable` mutex
  policies (cds/intrusive/striped_set.h, cds/intrusive/striped_set/striping_policy.h) is a linearizable set / map
  across concurrent resizes; no element is lost or duplicated by a resize racing with updates.
  Property theorems only; the atomic-step model, the invariant and the proofs live in
  `Algo/Striped/{Model,Lemmas,Inv,Thread,StepA,StepZ,Reach,Log,Lin}.lean`.  (CuckooSet is not covered here.)

  The theorems hold for EVERY schedule: any number of threads, any client program of `insert k v`, `update k v allow`,
  `erase k`, `find k`, `contains k`, any keys, any interleaving of the atomic steps, any hash function `cfg.h : Int → Nat`,
  any initial capacity `2 ^ cfg.k0` (= number of cell locks), any load-factor resizing policy
  "resize when size * den > bucket_count * num", both policies (`cfg.refinable`).  They are stated for `cfg.recheck = true`
  (the library's `refinable::acquire`, which re-reads `m_Owner` after locking the cell) and they NEED it: with
  `cfg.recheck = false` (the seeded change /verif/seeded/C16-refinable-owner-recheck) the `example`s at the end of this
  file exhibit a run that breaks the lock discipline, loses an element and is not linearizable.

  Granularity of the model (see `Algo/Striped/Model.lean`): one step per atomic operation of the code, in source order;
  the operation on a bucket (a sequential container used under its cell lock) is ONE step; the rehash of a resize is ONE
  step in total (taken at the store of the new mask), which theorem `C16_striped_resize_exclusive` justifies: no other
  thread is inside a cell section then.  Memory reclamation of replaced lock arrays is not modelled beyond "not reused".

  Completed route: FULL linearizability for both policies.  No `…_partial` fallback was needed.
  Tie to the real code: traces of the harness client `striped`, hidden variants `tie_striping` / `tie_refinable`, are
  replayed step by step (atomic events, pseudo-events of the bucket operations and of the rehash with the complete table
  layout, results) by `cdsdriver replay striped`.
-/
import CdsVerif.Algo.Striped.Lin
import CdsVerif.Algo.Striped.Replay
namespace CdsVerif.Props.C16Striped
open CdsVerif.Machine CdsVerif.Lin CdsVerif.Spec CdsVerif.Algo CdsVerif.Algo.Striped

/-! ### A. Lock discipline -/

/-- Per-cell mutual exclusion (both policies): in a reachable state no two threads hold the lock of the same cell of
    the same lock array.  `Holds` covers the cell sections of the operations, the sweep of `acquire_resize`, and (striping)
    `lock_all` … `unlock_all` of a resize; a thread that holds a lock is its ghost holder and the lock word is set. -/
theorem C16_striped_lock_mutex (cfg : Cfg) (hre : cfg.recheck = true) (s : St)
    (hreach : (model cfg).Reachable (init cfg) s) (t1 t2 : Tid) (g c : Nat)
    (h1 : Holds cfg s t1 g c) (h2 : Holds cfg s t2 g c) : t1 = t2 ∧ s.lk g c = true :=
  ⟨lock_mutex (sinv_reachable hre hreach) h1 h2, (holds_holder (sinv_reachable hre hreach) h1).2⟩

/-- A thread touches a bucket only while it holds the lock that CURRENTLY guards it.  A thread about to perform its
    bucket step on bucket `b` (program point `bOp`): `b` is the bucket the CURRENT mask selects for the key; the thread
    holds cell `( g, c )`; under `striping` that is lock `b mod nlocks` of the one lock array; under `refinable` the lock
    array it locked is still the current one (`g = s.gen`: what the re-check established and nobody can have changed
    since), that array has one cell per bucket, and `c = b`. -/
theorem C16_striped_bucket_under_current_lock (cfg : Cfg) (hre : cfg.recheck = true) (s : St)
    (hreach : (model cfg).Reachable (init cfg) s) (t : Tid) (op : GOp) (g c b : Nat)
    (hpc : s.pc t = .bOp op g c b) :
    b = cfg.h (keyD op) % (s.mask + 1) ∧ Holds cfg s t g c ∧ s.lk g c = true ∧
    (cfg.refinable = false → g = 0 ∧ s.asz 0 = cfg.cap0 ∧ c = b % cfg.cap0) ∧
    (cfg.refinable = true → g = s.gen ∧ s.asz s.gen = s.mask + 1 ∧ c = b) :=
  bucket_access (sinv_reachable hre hreach) hpc

/-- A resize runs alone.  While a thread `t'` has the resize lock (`excl`: from the end of `lock_all` / of the owner's
    sweep until it starts to give the lock back; this includes the rehash step `zMask`): no thread is inside a cell
    section (lock held and, refinable, re-check passed: `inCell`), in particular none is inside a bucket operation; `t'`
    is the only such thread; under `striping` it holds every cell lock and nobody else holds any cell lock; under
    `refinable` it is the owner (other threads may transiently hold a cell lock of the old array between their
    `lock()` and their failing re-check — that is what the re-check is for — but none of them is past the re-check). -/
theorem C16_striped_resize_exclusive (cfg : Cfg) (hre : cfg.recheck = true) (s : St)
    (hreach : (model cfg).Reachable (init cfg) s) (t' : Tid) (hex : excl (s.pc t') = true) :
    (∀ t, inCell (s.pc t) = false) ∧ (∀ t2, excl (s.pc t2) = true → t2 = t') ∧
    (cfg.refinable = false → (∀ c, c < cfg.cap0 → Holds cfg s t' 0 c) ∧ ∀ t g c, Holds cfg s t g c → t = t') ∧
    (cfg.refinable = true → s.owner = some t') :=
  resize_exclusive (sinv_reachable hre hreach) hex

/-- refinable: `m_Owner` names exactly the thread between its successful CAS in `acquire_resize` and its
    `release_resize` (so there is at most one), and it is 0 under `striping`. -/
theorem C16_refinable_owner (cfg : Cfg) (hre : cfg.recheck = true) (s : St)
    (hreach : (model cfg).Reachable (init cfg) s) :
    (∀ t, s.owner = some t → ownPC (s.pc t) = true ∧ cfg.refinable = true) ∧
    (∀ t, cfg.refinable = true → ownPC (s.pc t) = true → s.owner = some t) :=
  ⟨(sinv_reachable hre hreach).own1, (sinv_reachable hre hreach).own2⟩

/-- refinable: the `m_access` section (which protects the plain shared_ptr `m_arrLocks`) holds one thread at a time. -/
theorem C16_refinable_access_mutex (cfg : Cfg) (hre : cfg.recheck = true) (s : St)
    (hreach : (model cfg).Reachable (init cfg) s) (t1 t2 : Tid)
    (h1 : accPC (s.pc t1) = true) (h2 : accPC (s.pc t2) = true) : t1 = t2 :=
  access_mutex (sinv_reachable hre hreach) h1 h2

/-- refinable: from the successful re-check to the unlock of its cell a thread works with the CURRENT lock array; that
    array has one cell per bucket; and no thread has the resize lock, so the array and the table cannot be replaced. -/
theorem C16_refinable_array_current (cfg : Cfg) (hre : cfg.recheck = true) (s : St)
    (hreach : (model cfg).Reachable (init cfg) s) (t : Tid) (g c : Nat)
    (hin : inCell (s.pc t) = true) (hc : cellOf (s.pc t) = some (g, c)) :
    g = s.gen ∧ (cfg.refinable = true → s.asz s.gen = s.mask + 1) ∧ ∀ t', excl (s.pc t') = false :=
  cell_array_current (sinv_reachable hre hreach) hin hc

/-! ### B. No element is lost or duplicated -/

/-- The abstract map is well defined in every reachable state: the capacity is a power of two (so the code's
    `nHash & m_nBucketMask` is the model's `nHash % capacity`) and a multiple of the initial capacity; every item sits in
    bucket `h key % capacity` — hence a key occurs in at most one bucket — and no bucket holds a key twice. -/
theorem C16_striped_no_loss_no_dup (cfg : Cfg) (hre : cfg.recheck = true) (s : St)
    (hreach : (model cfg).Reachable (init cfg) s) :
    (∃ e, s.mask + 1 = 2 ^ e ∧ ∀ x : Nat, x &&& s.mask = x % (s.mask + 1)) ∧ cfg.cap0 ∣ s.mask + 1 ∧
    (∀ b k v, (k, v) ∈ s.bkt b → b = cfg.h k % (s.mask + 1)) ∧
    (∀ b, ((s.bkt b).map (·.1)).Nodup) := by
  have h := sinv_reachable hre hreach
  refine ⟨?_, h.dvd, fun b k v hm => (h.place b (k, v) hm).symm, fun b => keyUniq_nodup (h.uniq b)⟩
  obtain ⟨e, he⟩ := h.pow2
  refine ⟨e, he, fun x => ?_⟩
  rw [he, Nat.eq_sub_of_add_eq he]
  exact and_mask_eq_mod x e

/-- A resize leaves the abstract map unchanged.  The rehash step (the only step of a resize that touches the table)
    doubles the capacity; every lookup finds afterwards what it found before; every item occurs in its new bucket exactly
    as often as it occurred in its old bucket (nothing lost, nothing duplicated). -/
theorem C16_striped_resize_preserves (cfg : Cfg) (hre : cfg.recheck = true) (s s' : St) (t : Tid) (ev : Ev)
    (hreach : (model cfg).Reachable (init cfg) s) (r : GRet) (old oc : Nat) (hpc : s.pc t = .zMask r old oc)
    (hs : step cfg s t = some (s', ev)) :
    s'.mask + 1 = 2 * (s.mask + 1) ∧ (∀ k, look cfg s' k = look cfg s k) ∧
    ∀ e : Int × Int, (s'.bkt (cfg.h e.1 % (s'.mask + 1))).count e = (s.bkt (cfg.h e.1 % (s.mask + 1))).count e :=
  rehash_step (sinv_reachable hre hreach) hpc hs

/-- Only the bucket step and the rehash step change the table; in particular every other step of a resize (locking,
    the sweep, replacing the lock array, the loads of the mask, unlocking) leaves buckets and mask alone. -/
theorem C16_striped_table_frame (cfg : Cfg) (s s' : St) (t : Tid) (ev : Ev) (hs : step cfg s t = some (s', ev))
    (h1 : ∀ op g c b, s.pc t ≠ .bOp op g c b) (h2 : ∀ r old oc, s.pc t ≠ .zMask r old oc) :
    s'.bkt = s.bkt ∧ s'.mask = s.mask :=
  table_frame hs h1 h2

/-! ### C. Linearizability -/

/-- Refinement.  In a reachable state, the bucket step of a thread (operation `op`) fixes its result `r` and is exactly
    the `Spec.map` transition `op ↦ r` of the abstract map (of every sequential map that agrees with the table on all
    lookups); every other step leaves every lookup unchanged. -/
theorem C16_striped_lp_refines (cfg : Cfg) (hre : cfg.recheck = true) (s s' : St) (t : Tid) (ev : Ev)
    (hreach : (model cfg).Reachable (init cfg) s) (hs : step cfg s t = some (s', ev)) :
    (∀ op g c b, s.pc t = .bOp op g c b →
      ∃ r, retOf (s'.pc t) = some r ∧
        ∀ m : MapSt, (∀ k, mfind m k = look cfg s k) →
          ∃ m', map.next m op r = some m' ∧ ∀ k, mfind m' k = look cfg s' k) ∧
    ((∀ op g c b, s.pc t ≠ .bOp op g c b) → ∀ k, look cfg s' k = look cfg s k) :=
  ⟨fun _ _ _ _ hpc => bOp_refines (sinv_reachable hre hreach) hpc hs,
   fun hn => other_step_look (sinv_reachable hre hreach) hs hn⟩

/-- **Linearizability, striping policy** (Herlihy–Wing with completion of pending operations).  For EVERY schedule of the
    model with the `striping` policy, the history of the completed operations of the run — extended by response records
    for the pending operations that have already performed their bucket step (at most one per thread; each is an
    operation pending in `os`, completed with the result fixed at its bucket step and the response time "end of run"),
    all other pending operations being dropped — is linearizable to the sequential map: `insert k v → [1] | [0]`,
    `update k v allow → [1, 1] | [1, 0] | [0, 0]`, `erase k → [1, v] | [0]`, `find k → [1, v] | [0]`,
    `contains k → [1] | [0]`.  Resizes may run at any time. -/
theorem C16_striped_linearizable (cfg : Cfg) (hpol : cfg.refinable = false) (hre : cfg.recheck = true)
    (sched : List (Tid × Act)) (s : St) (os : List (Tid × Obs))
    (h : (model cfg).run (init cfg) sched = some (s, os)) :
    ∃ extra : List (OpRec GOp GRet),
      (∀ e ∈ extra, pendingOf os e.tid = some (e.op, e.inv) ∧ e.res = os.length ∧
          retOf (s.pc e.tid) = some e.ret) ∧
      extra.Pairwise (fun a b => a.tid ≠ b.tid) ∧
      Linearizable map (historyOf os ++ extra) :=
  let _ := hpol
  striped_linearizable cfg hre sched s os h

/-- **Linearizability, refinable policy**: the same statement for the policy that replaces the lock array at every
    resize.  It needs the re-check of `refinable::acquire` (`hre`). -/
theorem C16_refinable_linearizable (cfg : Cfg) (hpol : cfg.refinable = true) (hre : cfg.recheck = true)
    (sched : List (Tid × Act)) (s : St) (os : List (Tid × Obs))
    (h : (model cfg).run (init cfg) sched = some (s, os)) :
    ∃ extra : List (OpRec GOp GRet),
      (∀ e ∈ extra, pendingOf os e.tid = some (e.op, e.inv) ∧ e.res = os.length ∧
          retOf (s.pc e.tid) = some e.ret) ∧
      extra.Pairwise (fun a b => a.tid ≠ b.tid) ∧
      Linearizable map (historyOf os ++ extra) :=
  let _ := hpol
  striped_linearizable cfg hre sched s os h

/-- Runs in which every invoked operation has returned (either policy): the history is linearizable as it is. -/
theorem C16_striped_linearizable_complete_runs (cfg : Cfg) (hre : cfg.recheck = true) (sched : List (Tid × Act))
    (s : St) (os : List (Tid × Obs)) (h : (model cfg).run (init cfg) sched = some (s, os))
    (hq : ∀ t, s.pc t = .idle) : Linearizable map (historyOf os) :=
  striped_linearizable_complete_runs cfg hre sched s os h hq

/-- More generally: runs at whose end no thread is between its bucket step and its return. -/
theorem C16_striped_linearizable_no_effect_pending (cfg : Cfg) (hre : cfg.recheck = true) (sched : List (Tid × Act))
    (s : St) (os : List (Tid × Obs)) (h : (model cfg).run (init cfg) sched = some (s, os))
    (hq : ∀ t, retOf (s.pc t) = none) : Linearizable map (historyOf os) :=
  striped_linearizable_no_effect_pending cfg hre sched s os h hq

/-- `historyOf` is faithful: a record's `inv` / `res` are the positions of its call and return observations. -/
theorem C16_striped_history_sound (os : List (Tid × Obs)) (r : OpRec GOp GRet) (h : r ∈ historyOf os) :
    os[r.inv]? = some (r.tid, .call r.op) ∧ os[r.res]? = some (r.tid, .ret r.ret) ∧ r.inv < r.res :=
  historyOf_sound os r h

/-- Every state the trace-replay driver reaches while it accepts a real trace is a state of a run of the machine these
    theorems are about (same schedule, same observations). -/
theorem C16_striped_replay_is_run (sched : List (Tid × Act)) (s s' : RSt) (os : List (Tid × Obs))
    (h : modelR.run s sched = some (s', os)) : s'.cfg = s.cfg ∧ (model s.cfg).run s.st sched = some (s'.st, os) :=
  modelR_run sched s s' os h

/-! ### D. Non-vacuity -/

def steps (t : Tid) (n : Nat) : List (Tid × Act) := List.replicate n (t, .step)
def ins (k v : Int) : GOp := ⟨"insert", [k, v]⟩
def fnd (k : Int) : GOp := ⟨"find", [k]⟩

/-- two cell locks, identity hash, resize when size > bucket_count -/
def cfgS : Cfg := { refinable := false, k0 := 1, num := 1, den := 1, h := fun k => k.toNat }
def cfgR : Cfg := { refinable := true, k0 := 1, num := 1, den := 1, h := fun k => k.toNat }

/-- Striping.  Thread 0 inserts 1, 3, 5; the third insert resizes the table to 4 buckets (the two locks stay).  Then
    `insert 0` (thread 0) and `insert 2` (thread 1) go to DIFFERENT buckets (0 and 2) guarded by the SAME lock 0: thread 1
    waits (`xchg lk0 1 1`, `ld lk0 1`).  Thread 1's insert then triggers the next resize (5 items > 4 buckets); while it
    holds all locks, thread 0's `find 5` waits on cell lock 1 (`xchg lk1 1 1`, `ld lk1 1`) and proceeds after
    `unlock_all`, with the new mask 7. -/
def stripingSched : List (Tid × Act) :=
  [(0, .invoke (ins 1 10))] ++ steps 0 6 ++ [(0, .ret)] ++ [(0, .invoke (ins 3 30))] ++ steps 0 6 ++ [(0, .ret)] ++
  [(0, .invoke (ins 5 50))] ++ steps 0 18 ++ [(0, .ret)] ++
  [(0, .invoke (ins 0 100))] ++ steps 0 1 ++ [(1, .invoke (ins 2 20))] ++ steps 1 2 ++ steps 0 5 ++ [(0, .ret)] ++
  steps 1 10 ++ [(0, .invoke (fnd 5))] ++ steps 0 2 ++ steps 1 11 ++ [(1, .ret)] ++ steps 0 5 ++ [(0, .ret)]

example : ((model cfgS).run (init cfgS) stripingSched).map (fun r => r.2.drop 16) =
    some [(0, .call (ins 5 50)),
          (0, .ev ⟨"xchg", "lk1", "0", "1"⟩),
          (0, .ev ⟨"ld", "mask", "1", ""⟩),
          (0, .ev ⟨"insert", "b1", "5", "1"⟩),            -- the bucket step (pseudo-event)
          (0, .ev ⟨"add", "count", "2", "1"⟩),
          (0, .ev ⟨"ld", "mask", "1", ""⟩),               -- resizing policy: 3 > 2 * 1
          (0, .ev ⟨"st", "lk1", "0", ""⟩),
          (0, .ev ⟨"ld", "mask", "1", ""⟩),               -- resize(): nOldCapacity
          (0, .ev ⟨"xchg", "lk0", "0", "1"⟩),             -- lock_all
          (0, .ev ⟨"xchg", "lk1", "0", "1"⟩),
          (0, .ev ⟨"ld", "mask", "1", ""⟩),               -- unchanged
          (0, .ev ⟨"ld", "mask", "1", ""⟩),               -- internal_resize: nOldCapacity
          (0, .ev ⟨"st", "mask", "3", ""⟩),               -- new table + rehash
          (0, .ev ⟨"ld", "mask", "3", ""⟩),               -- one load per moved item
          (0, .ev ⟨"ld", "mask", "3", ""⟩),
          (0, .ev ⟨"ld", "mask", "3", ""⟩),
          (0, .ev ⟨"rehash", "tbl", "4", "1=1:10,5:50;3=3:30"⟩),
          (0, .ev ⟨"st", "lk0", "0", ""⟩),                -- unlock_all
          (0, .ev ⟨"st", "lk1", "0", ""⟩),
          (0, .ret [1]),
          (0, .call (ins 0 100)),
          (0, .ev ⟨"xchg", "lk0", "0", "1"⟩),             -- bucket 0, lock 0
          (1, .call (ins 2 20)),
          (1, .ev ⟨"xchg", "lk0", "1", "1"⟩),             -- bucket 2, lock 0 as well: wait
          (1, .ev ⟨"ld", "lk0", "1", ""⟩),
          (0, .ev ⟨"ld", "mask", "3", ""⟩),
          (0, .ev ⟨"insert", "b0", "0", "1"⟩),
          (0, .ev ⟨"add", "count", "3", "1"⟩),
          (0, .ev ⟨"ld", "mask", "3", ""⟩),
          (0, .ev ⟨"st", "lk0", "0", ""⟩),
          (0, .ret [1]),
          (1, .ev ⟨"ld", "lk0", "0", ""⟩),
          (1, .ev ⟨"xchg", "lk0", "0", "1"⟩),
          (1, .ev ⟨"ld", "mask", "3", ""⟩),
          (1, .ev ⟨"insert", "b2", "2", "1"⟩),
          (1, .ev ⟨"add", "count", "4", "1"⟩),
          (1, .ev ⟨"ld", "mask", "3", ""⟩),               -- 5 > 4: resize
          (1, .ev ⟨"st", "lk0", "0", ""⟩),
          (1, .ev ⟨"ld", "mask", "3", ""⟩),
          (1, .ev ⟨"xchg", "lk0", "0", "1"⟩),
          (1, .ev ⟨"xchg", "lk1", "0", "1"⟩),             -- thread 1 holds all cell locks
          (0, .call (fnd 5)),
          (0, .ev ⟨"xchg", "lk1", "1", "1"⟩),             -- thread 0 waits on a cell lock during the resize
          (0, .ev ⟨"ld", "lk1", "1", ""⟩),
          (1, .ev ⟨"ld", "mask", "3", ""⟩),
          (1, .ev ⟨"ld", "mask", "3", ""⟩),
          (1, .ev ⟨"st", "mask", "7", ""⟩),
          (1, .ev ⟨"ld", "mask", "7", ""⟩),
          (1, .ev ⟨"ld", "mask", "7", ""⟩),
          (1, .ev ⟨"ld", "mask", "7", ""⟩),
          (1, .ev ⟨"ld", "mask", "7", ""⟩),
          (1, .ev ⟨"ld", "mask", "7", ""⟩),
          (1, .ev ⟨"rehash", "tbl", "8", "0=0:100;1=1:10;2=2:20;3=3:30;5=5:50"⟩),
          (1, .ev ⟨"st", "lk0", "0", ""⟩),
          (1, .ev ⟨"st", "lk1", "0", ""⟩),
          (1, .ret [1]),
          (0, .ev ⟨"ld", "lk1", "0", ""⟩),
          (0, .ev ⟨"xchg", "lk1", "0", "1"⟩),
          (0, .ev ⟨"ld", "mask", "7", ""⟩),               -- the bucket index comes from the NEW mask
          (0, .ev ⟨"find", "b5", "5", "1:50"⟩),
          (0, .ev ⟨"st", "lk1", "0", ""⟩),
          (0, .ret [1, 50])] := by decide +kernel

example : ((model cfgS).run (init cfgS) stripingSched).map
    (fun r => (r.1.mask, r.1.count, r.1.asz 0, linCheck map (historyOf r.2))) = some (7, 5, 2, true) := by
  decide +kernel

/-- Refinable.  Thread 0's `find 1` reads the lock array (generation 0) and is delayed.  Thread 1's `insert 5` makes the
    table grow: it becomes the owner, sweeps the old array, installs generation 1 (`st lcap 4`, four lock constructors,
    swap under `m_access`), rehashes, releases.  Thread 0 then locks cell 1 of the OLD array, its re-check finds the
    array replaced (`ld owner 0`, but `m_arrLocks != pLocks`), it unlocks and starts again with generation 1. -/
def refinableSched : List (Tid × Act) :=
  [(1, .invoke (ins 1 10))] ++ steps 1 10 ++ [(1, .ret)] ++ [(1, .invoke (ins 3 30))] ++ steps 1 10 ++ [(1, .ret)] ++
  [(0, .invoke (fnd 1))] ++ steps 0 3 ++ [(1, .invoke (ins 5 50))] ++ steps 1 31 ++ [(1, .ret)] ++ steps 0 11 ++ [(0, .ret)]

example : ((model cfgR).run (init cfgR) refinableSched).map (fun r => r.2.drop 24) =
    some [(0, .call (fnd 1)),
          (0, .ev ⟨"ld", "owner", "0", ""⟩),
          (0, .ev ⟨"xchg", "access", "0", "1"⟩),
          (0, .ev ⟨"st", "access", "0", ""⟩),             -- pLocks = generation 0
          (1, .call (ins 5 50)),
          (1, .ev ⟨"ld", "owner", "0", ""⟩),
          (1, .ev ⟨"xchg", "access", "0", "1"⟩),
          (1, .ev ⟨"st", "access", "0", ""⟩),
          (1, .ev ⟨"xchg", "lk0.1", "0", "1"⟩),
          (1, .ev ⟨"ld", "owner", "0", ""⟩),              -- the re-check
          (1, .ev ⟨"ld", "mask", "1", ""⟩),
          (1, .ev ⟨"insert", "b1", "5", "1"⟩),
          (1, .ev ⟨"add", "count", "2", "1"⟩),
          (1, .ev ⟨"ld", "mask", "1", ""⟩),
          (1, .ev ⟨"st", "lk0.1", "0", ""⟩),
          (1, .ev ⟨"ld", "mask", "1", ""⟩),
          (1, .ev ⟨"cas+", "owner", "0", "own1"⟩),        -- acquire_resize
          (1, .ev ⟨"xchg", "lk0.0", "0", "1"⟩),           -- the sweep
          (1, .ev ⟨"st", "lk0.0", "0", ""⟩),
          (1, .ev ⟨"xchg", "lk0.1", "0", "1"⟩),
          (1, .ev ⟨"st", "lk0.1", "0", ""⟩),
          (1, .ev ⟨"ld", "mask", "1", ""⟩),
          (1, .ev ⟨"st", "lcap", "4", ""⟩),               -- the new lock array
          (1, .ev ⟨"st", "lk1.0", "0", ""⟩),
          (1, .ev ⟨"st", "lk1.1", "0", ""⟩),
          (1, .ev ⟨"st", "lk1.2", "0", ""⟩),
          (1, .ev ⟨"st", "lk1.3", "0", ""⟩),
          (1, .ev ⟨"xchg", "access", "0", "1"⟩),
          (1, .ev ⟨"st", "access", "0", ""⟩),             -- m_arrLocks = generation 1
          (1, .ev ⟨"ld", "mask", "1", ""⟩),
          (1, .ev ⟨"st", "mask", "3", ""⟩),
          (1, .ev ⟨"ld", "mask", "3", ""⟩),
          (1, .ev ⟨"ld", "mask", "3", ""⟩),
          (1, .ev ⟨"ld", "mask", "3", ""⟩),
          (1, .ev ⟨"rehash", "tbl", "4", "1=1:10,5:50;3=3:30"⟩),
          (1, .ev ⟨"st", "owner", "0", ""⟩),
          (1, .ret [1]),
          (0, .ev ⟨"xchg", "lk0.1", "0", "1"⟩),           -- a cell of the OLD array
          (0, .ev ⟨"ld", "owner", "0", ""⟩),              -- re-check: nobody resizes, but the array has changed
          (0, .ev ⟨"st", "lk0.1", "0", ""⟩),              -- unlock and retry
          (0, .ev ⟨"ld", "owner", "0", ""⟩),
          (0, .ev ⟨"xchg", "access", "0", "1"⟩),
          (0, .ev ⟨"st", "access", "0", ""⟩),
          (0, .ev ⟨"xchg", "lk1.1", "0", "1"⟩),
          (0, .ev ⟨"ld", "owner", "0", ""⟩),
          (0, .ev ⟨"ld", "mask", "3", ""⟩),
          (0, .ev ⟨"find", "b1", "1", "1:10"⟩),
          (0, .ev ⟨"st", "lk1.1", "0", ""⟩),
          (0, .ret [1, 10])] := by decide +kernel

/-- The same, but thread 0 locks its cell of the old array right AFTER the owner's sweep and before the swap: its
    re-check sees the owner (`ld owner own1`), it unlocks, waits in the first loop of `acquire`, and retries when the
    resize is over. -/
def refinableSched2 : List (Tid × Act) :=
  [(1, .invoke (ins 1 10))] ++ steps 1 10 ++ [(1, .ret)] ++ [(1, .invoke (ins 3 30))] ++ steps 1 10 ++ [(1, .ret)] ++
  [(0, .invoke (fnd 1))] ++ steps 0 3 ++ [(1, .invoke (ins 5 50))] ++ steps 1 16 ++ steps 0 4 ++ steps 1 15 ++ [(1, .ret)] ++
  steps 0 8 ++ [(0, .ret)]

example : ((model cfgR).run (init cfgR) refinableSched2).map (fun r => ((r.2.drop 40).take 14, r.2.drop 63)) =
    some ([(1, .ev ⟨"cas+", "owner", "0", "own1"⟩),
           (1, .ev ⟨"xchg", "lk0.0", "0", "1"⟩),
           (1, .ev ⟨"st", "lk0.0", "0", ""⟩),
           (1, .ev ⟨"xchg", "lk0.1", "0", "1"⟩),
           (1, .ev ⟨"st", "lk0.1", "0", ""⟩),             -- the sweep is over
           (0, .ev ⟨"xchg", "lk0.1", "0", "1"⟩),          -- thread 0 gets its cell of the old array
           (0, .ev ⟨"ld", "owner", "own1", ""⟩),          -- the re-check sees the owner
           (0, .ev ⟨"st", "lk0.1", "0", ""⟩),
           (0, .ev ⟨"ld", "owner", "own1", ""⟩),          -- waits
           (1, .ev ⟨"ld", "mask", "1", ""⟩),
           (1, .ev ⟨"st", "lcap", "4", ""⟩),
           (1, .ev ⟨"st", "lk1.0", "0", ""⟩),
           (1, .ev ⟨"st", "lk1.1", "0", ""⟩),
           (1, .ev ⟨"st", "lk1.2", "0", ""⟩)],
          [(1, .ev ⟨"st", "owner", "0", ""⟩),
           (1, .ret [1]),
           (0, .ev ⟨"ld", "owner", "0", ""⟩),
           (0, .ev ⟨"xchg", "access", "0", "1"⟩),
           (0, .ev ⟨"st", "access", "0", ""⟩),
           (0, .ev ⟨"xchg", "lk1.1", "0", "1"⟩),
           (0, .ev ⟨"ld", "owner", "0", ""⟩),
           (0, .ev ⟨"ld", "mask", "3", ""⟩),
           (0, .ev ⟨"find", "b1", "1", "1:10"⟩),
           (0, .ev ⟨"st", "lk1.1", "0", ""⟩),
           (0, .ret [1, 10])]) := by decide +kernel

example : ((model cfgR).run (init cfgR) refinableSched2).map
    (fun r => (r.1.mask, r.1.gen, r.1.asz 1, r.1.lcap, linCheck map (historyOf r.2))) = some (3, 1, 4, 4, true) := by
  decide +kernel

/-! ### The theorems need the re-check -/

/-- `refinable::acquire` WITHOUT the second load of `m_Owner` (the seeded change). -/
def cfgBad : Cfg := { cfgR with recheck := false }

/-- Thread 0's `insert 2` passes the first loop of `acquire` and reads the lock array, then sleeps.  Thread 1's `insert 5`
    becomes the owner and finishes its sweep.  Now thread 0 locks cell 0 of the old array and — no re-check — enters its
    cell section: a thread is inside a cell section while another one has the resize lock, the negation of
    `C16_striped_resize_exclusive`. -/
def badSched : List (Tid × Act) :=
  [(1, .invoke (ins 1 10))] ++ steps 1 9 ++ [(1, .ret)] ++ [(1, .invoke (ins 3 30))] ++ steps 1 9 ++ [(1, .ret)] ++
  [(0, .invoke (ins 2 20))] ++ steps 0 3 ++ [(1, .invoke (ins 5 50))] ++ steps 1 15 ++ steps 0 1

example : ((model cfgBad).run (init cfgBad) badSched).map
    (fun r => (excl (r.1.pc 1), inCell (r.1.pc 0), r.1.owner, r.2.getLast?)) =
    some (true, true, some 1, some (0, .ev ⟨"xchg", "lk0.0", "0", "1"⟩)) := by decide +kernel

/-- It goes on: thread 0 computes its bucket from the OLD mask (bucket 0 of 2), thread 1 replaces the table (4 buckets),
    thread 0 inserts key 2 into bucket 0 of the new table, where no lookup will search for it (`2 % 4 = 2`): a later
    `find 2` answers "absent".  The element is lost and the history is not linearizable. -/
def badSched2 : List (Tid × Act) :=
  badSched ++ steps 0 1 ++ steps 1 15 ++ [(1, .ret)] ++ steps 0 4 ++ [(0, .ret)] ++
  [(0, .invoke (fnd 2))] ++ steps 0 7 ++ [(0, .ret)]

set_option synthInstance.maxSize 2000 in
example : ((model cfgBad).run (init cfgBad) badSched2).map
    (fun r => (r.1.mask, r.1.bkt 0, r.1.bkt 2, okB ⟨cfgBad, r.1⟩, (historyOf r.2).drop 3)) =
    some (3, [(2, 20)], [], false,
      [⟨0, ins 2 20, [1], 22, 64⟩, ⟨0, fnd 2, [0], 65, 73⟩]) := by decide +kernel

example : ((model cfgBad).run (init cfgBad) badSched2).map (fun r => linCheck map (historyOf r.2)) = some false := by
  decide +kernel

example : ¬ Linearizable map
    [⟨1, ins 1 10, [1], 0, 10⟩, ⟨1, ins 3 30, [1], 11, 21⟩, ⟨1, ins 5 50, [1], 26, 59⟩,
     ⟨0, ins 2 20, [1], 22, 64⟩, ⟨0, fnd 2, [0], 65, 73⟩] :=
  not_linearizable_of_linCheck_eq_false map _ (by decide) (by decide +kernel)

/-- With the re-check, the same schedule prefix is harmless: after locking the old cell thread 0 is NOT inside a cell
    section (it is at the re-check, which will fail because thread 1 is the owner). -/
def goodSched : List (Tid × Act) :=
  [(1, .invoke (ins 1 10))] ++ steps 1 10 ++ [(1, .ret)] ++ [(1, .invoke (ins 3 30))] ++ steps 1 10 ++ [(1, .ret)] ++
  [(0, .invoke (ins 2 20))] ++ steps 0 3 ++ [(1, .invoke (ins 5 50))] ++ steps 1 16 ++ steps 0 1

set_option synthInstance.maxSize 2000 in
example : ((model cfgR).run (init cfgR) goodSched).map
    (fun r => (excl (r.1.pc 1), inCell (r.1.pc 0), r.1.pc 0, (step cfgR r.1 0).map (fun q => (q.1.pc 0, q.2)))) =
    some (true, false, .aChk (ins 2 20) 0 0, some (.aRel (ins 2 20) 0 0, ⟨"ld", "owner", "own1", ""⟩)) := by
  decide +kernel

end CdsVerif.Props.C16Striped
