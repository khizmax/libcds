/-
  C02 — dynamic hazard pointers never free an object a guard still protects: the scan DECISION (shared with the
  static implementation: what is handed to the disposer given the collected hazards), property theorems only.
  The interleaving-level theorems over the DHP protocol machine (extension blocks, retired-chain growth, every
  schedule) are in Props/C02DHP.lean.
-/
import CdsVerif.Props.C01
namespace CdsVerif.Props.C02
open CdsVerif.Algo.HP

/-- Classic scan: nothing that equals a collected (non-null) hazard pointer is handed to the disposer. -/
theorem C02_scan_frees_no_hazard (hazards retired : List Ptr) :
    ∀ p ∈ (classicScan hazards retired).2, p ≠ 0 → p ∉ hazards :=
  C01.C01_classic_scan_frees_no_hazard hazards retired

/-- In-place scan (including the fall-back to the classic path when a retired address is odd). -/
theorem C02_inplace_scan_frees_no_hazard (hazards retired : List Ptr) :
    ∀ p ∈ (inplaceScan hazards retired).2, p ≠ 0 → p ∉ hazards :=
  C01.C01_inplace_scan_frees_no_hazard hazards retired

/-- Non-vacuity and the shape of the defect the machinery found in the original source: a scan that tests
    the FIRST retired pointer for every entry frees a guarded object. -/
example : classicScan [184, 104] [120, 184, 152, 24] = ([184], [120, 152, 24]) := by decide
example :
    let buggy (hz rt : List Ptr) := if hz.contains (rt.headD 0) then (rt, ([] : List Ptr)) else (([] : List Ptr), rt)
    184 ∈ (buggy [184, 104] [120, 184, 152, 24]).2 := by decide

end CdsVerif.Props.C02
