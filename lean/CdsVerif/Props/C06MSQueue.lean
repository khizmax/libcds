/-
  C06 — the Michael–Scott queue (cds::intrusive::MSQueue, enqueue / dequeue) is a linearizable FIFO queue:
  every concurrent history of the atomic-step model `Algo/MSQueue/Model.lean` is linearizable to `Spec.fifo`;
  `dequeue` reports "empty" only if the queue was empty at some instant during the call.
  Property theorems only; the model, the invariants and the proof live in `Algo/MSQueue/{Model,Common,Inv,Lin}.lean`.

  Proved: FULL linearizability, including the empty dequeue with its hindsight linearization point (the
  validating null load of `h->m_pNext`, confirmed later by `m_pHead.load() == h`), by a ghost log with tentative
  entries that are withdrawn when the re-validation fails.

  Assumption of the model (not proved here): a node is not reused while any thread may still hold a pointer to it
  (garbage-collected heap).  This is what the hazard pointers taken by `guard.protect` provide.
-/
import CdsVerif.Algo.MSQueue.Lin
namespace CdsVerif.Props.C06MSQueue
open CdsVerif.Machine CdsVerif.Lin CdsVerif.Spec CdsVerif.Algo

/-- Linearizability, general form (Herlihy–Wing with completion of pending operations).  For EVERY schedule
    (any number of threads, any client program of `enq v` / `deq`, any interleaving of the atomic steps), the
    history of the completed operations of the run — extended by response records for pending operations that
    have already passed their linearization point definitively (at most one per thread; each is an operation
    pending in `os`, completed with the result fixed at its linearization point and the response time "end of
    run"), all other pending operations being dropped — is linearizable to the sequential FIFO queue.

    The literal statement "`historyOf os` is linearizable" is FALSE for runs that stop between the successful CAS
    of an `enq` and its return while another thread has already dequeued the value (see the `example`s below):
    such an `enq` has to be completed, which is what `extra` does. -/
theorem C06_msqueue_linearizable (sched : List (Tid × Act)) (s : MSQueue.St) (os : List (Tid × Obs))
    (h : MSQueue.model.run MSQueue.init sched = some (s, os)) :
    ∃ extra : List (OpRec GOp GRet),
      (∀ e ∈ extra, MSQueue.pendingOf os e.tid = some (e.op, e.inv) ∧ e.res = os.length ∧
          MSQueue.postRet (s.pc e.tid) = some e.ret) ∧
      extra.Pairwise (fun a b => a.tid ≠ b.tid) ∧
      Linearizable fifo (MSQueue.historyOf os ++ extra) :=
  MSQueue.msqueue_linearizable sched s os h

/-- Runs in which every invoked operation has returned: the history is linearizable as it is. -/
theorem C06_msqueue_linearizable_complete_runs (sched : List (Tid × Act)) (s : MSQueue.St) (os : List (Tid × Obs))
    (h : MSQueue.model.run MSQueue.init sched = some (s, os)) (hq : ∀ t, s.pc t = .idle) :
    Linearizable fifo (MSQueue.historyOf os) :=
  MSQueue.msqueue_linearizable_complete_runs sched s os h hq

/-- More generally: runs at whose end no thread is between its definitive linearization point and its return
    (threads may be in the middle of operations that have not taken effect; these are dropped). -/
theorem C06_msqueue_linearizable_no_effect_pending (sched : List (Tid × Act)) (s : MSQueue.St)
    (os : List (Tid × Obs)) (h : MSQueue.model.run MSQueue.init sched = some (s, os))
    (hq : ∀ t, MSQueue.postRet (s.pc t) = none) :
    Linearizable fifo (MSQueue.historyOf os) :=
  MSQueue.msqueue_linearizable_no_effect_pending sched s os h hq

/-- `historyOf` is faithful: a record's `inv` / `res` are the positions of its call and return observations. -/
theorem C06_msqueue_history_sound (os : List (Tid × Obs)) (r : OpRec GOp GRet) (h : r ∈ MSQueue.historyOf os) :
    os[r.inv]? = some (r.tid, .call r.op) ∧ os[r.res]? = some (r.tid, .ret r.ret) ∧ r.inv < r.res :=
  MSQueue.historyOf_sound os r h

/-- No invention: every value returned by a `deq` is the argument of an `enq` that was invoked before the `deq`
    returned. -/
theorem C06_msqueue_no_invention (sched : List (Tid × Act)) (s : MSQueue.St) (os : List (Tid × Obs))
    (h : MSQueue.model.run MSQueue.init sched = some (s, os)) (r : OpRec GOp GRet)
    (hr : r ∈ MSQueue.historyOf os) (hop : r.op = ⟨"deq", []⟩) (v : Int) (hret : r.ret = [1, v]) :
    ∃ i t', i < r.res ∧ os[i]? = some (t', .call ⟨"enq", [v]⟩) :=
  MSQueue.msqueue_no_invention sched s os h r hr hop v hret

/-- No duplication.  With `extra` as in `C06_msqueue_linearizable` (genuine pending operations of the run, at most
    one per thread), for every value `v` the completed dequeues that returned `v` are at most as many as the
    `enq v` operations of the run (the completed ones plus the pending ones in `extra`):
    a value enqueued once is dequeued at most once, a value enqueued `n` times at most `n` times. -/
theorem C06_msqueue_no_duplication (sched : List (Tid × Act)) (s : MSQueue.St) (os : List (Tid × Obs))
    (h : MSQueue.model.run MSQueue.init sched = some (s, os)) :
    ∃ extra : List (OpRec GOp GRet),
      (∀ e ∈ extra, MSQueue.pendingOf os e.tid = some (e.op, e.inv) ∧ e.res = os.length ∧
          MSQueue.postRet (s.pc e.tid) = some e.ret) ∧
      extra.Pairwise (fun a b => a.tid ≠ b.tid) ∧
      ∀ v, (MSQueue.historyOf os).countP (MSQueue.isDeqOf v) ≤
           (MSQueue.historyOf os ++ extra).countP (MSQueue.isEnq v) :=
  MSQueue.msqueue_no_duplication sched s os h

/-- The sequential core of no-duplication, for any history linearizable to the FIFO queue. -/
theorem C06_fifo_linearizable_no_duplication (ops : List (OpRec GOp GRet)) (h : Linearizable fifo ops) (v : Int) :
    ops.countP (MSQueue.isDeqOf v) ≤ ops.countP (MSQueue.isEnq v) :=
  MSQueue.linearizable_no_dup h v

/-- `deq` answers "empty" only if the queue was empty at some instant during the call.  For EVERY run: if a
    completed `deq` returned `[0]`, there is an instant `j` strictly between its call (observation `r.inv`) and its
    return (observation `r.res`) such that in the state `s1` reached by the first `j` actions of the run the
    abstract queue is empty; more precisely (`EmptyAt`) the calling thread is about to perform the validating load
    of `h->m_pNext` that reads null, `h` is `m_pHead` and the chain from `head` consists of `h` alone. -/
theorem C06_msqueue_empty_means_empty (sched : List (Tid × Act)) (s : MSQueue.St) (os : List (Tid × Obs))
    (h : MSQueue.model.run MSQueue.init sched = some (s, os)) (r : OpRec GOp GRet)
    (hr : r ∈ MSQueue.historyOf os) (hret : r.ret = [0]) :
    ∃ j s1, r.inv < j ∧ j < r.res ∧ MSQueue.model.run MSQueue.init (sched.take j) = some (s1, os.take j) ∧
      MSQueue.EmptyAt s1 r.tid ∧ MSQueue.absQueue s1 = [] :=
  MSQueue.msqueue_empty_hindsight sched s os h r hr hret

/-- The same, step by step.
    (1) In a reachable state, the step at which a thread linearizes (tentatively) with result `[0]` is the
        validating load of `h->m_pNext` inside `guards.protect( 1, h->m_pNext )` reading null; at that instant `h`
        is `m_pHead`, the chain from `head` consists of `h` alone and the abstract queue is empty.
    (2) The result `[0]` becomes definitive only at the re-validation `m_pHead.load() == h` of a thread whose
        tentative linearization (1) is still standing; at THAT instant the queue need not be empty any more (see
        example `hindsightSched`) — which is why the linearization point is the earlier load.
    `C06_msqueue_linearizable` places the empty dequeue at instant (1) in the linearization order. -/
theorem C06_msqueue_empty_lp_steps (s s' : MSQueue.St) (t : Tid) (ev : Ev)
    (hreach : MSQueue.model.Reachable MSQueue.init s) (hs : MSQueue.step s t = some (s', ev)) :
    (MSQueue.lpRet (s.pc t) = none → MSQueue.lpRet (s'.pc t) = some [0] →
      ∃ a, s.pc t = .deqNx2 a none ∧ s'.pc t = .deqChk a none ∧ s.head = a ∧ s.next a = none ∧
        MSQueue.absNodes s = [a] ∧ MSQueue.absQueue s = [] ∧ MSQueue.absQueue s' = [] ∧
        ev = ⟨"ld", MSQueue.nloc a, "null", ""⟩) ∧
    (MSQueue.postRet (s.pc t) = none → MSQueue.postRet (s'.pc t) = some [0] →
      ∃ a, s.pc t = .deqChk a none ∧ s.head = a ∧ MSQueue.lpRet (s.pc t) = some [0] ∧
        ev = MSQueue.evLd MSQueue.headLoc (some a)) :=
  ⟨MSQueue.msqueue_deq_empty_means_empty s s' t ev hreach hs, MSQueue.msqueue_deq_empty_decided s s' t ev hs⟩

/-- "Tail lags by at most one": in every reachable state `m_pTail` is the last or the second-to-last node of the
    chain from `m_pHead`. -/
theorem C06_msqueue_tail_lag (s : MSQueue.St) (hreach : MSQueue.model.Reachable MSQueue.init s) :
    ∃ l0, MSQueue.absNodes s = l0 ++ [s.tail] ∨ ∃ x, MSQueue.absNodes s = l0 ++ [s.tail, x] :=
  MSQueue.reachable_tail_lag s hreach

/-- Refinement: in a reachable state, the step at which thread `t` fixes its result `r` — tentatively for the
    empty dequeue — (successful CAS on `t->m_pNext` of `enq`, successful CAS on `m_pHead` of `deq`, validating
    null load of `h->m_pNext` of `deq`) is exactly the `fifo` transition of `t`'s operation with result `r` on the
    abstract queue; every other step leaves the abstract queue unchanged. -/
theorem C06_msqueue_lp_refines (s s' : MSQueue.St) (t : Tid) (ev : Ev)
    (hreach : MSQueue.model.Reachable MSQueue.init s) (hs : MSQueue.step s t = some (s', ev)) :
    (MSQueue.lpRet (s.pc t) = none → ∀ r, MSQueue.lpRet (s'.pc t) = some r →
      ∃ op, MSQueue.opOf s.val (s.pc t) = some op ∧
        fifo.next (MSQueue.absQueue s) op r = some (MSQueue.absQueue s')) ∧
    ((MSQueue.lpRet (s.pc t) ≠ none ∨ MSQueue.lpRet (s'.pc t) = none) →
      MSQueue.absQueue s' = MSQueue.absQueue s) :=
  MSQueue.step_refines (MSQueue.sinv_reachable s hreach) hs

/-- Structure of the reachable states: the chain from `head` starts with `head`, is finite, duplicate-free, ends in
    a node with a null link and is made of published nodes; a node that has left the chain (a dequeued dummy) is
    never linked in again, in particular `head` never returns to it. -/
theorem C06_msqueue_chain (s : MSQueue.St) (hreach : MSQueue.model.Reachable MSQueue.init s) :
    MSQueue.Chain s.next (some s.head) (MSQueue.absNodes s) ∧ (MSQueue.absNodes s).Nodup ∧
      (∀ a ∈ MSQueue.absNodes s, MSQueue.Pub s a) ∧ (∃ r, MSQueue.absNodes s = s.head :: r) :=
  MSQueue.reachable_chain s hreach

theorem C06_msqueue_never_relinked (s s' : MSQueue.St) (t : Tid) (a : Act) (o : Obs)
    (hreach : MSQueue.model.Reachable MSQueue.init s) (hap : MSQueue.model.apply s t a = some (s', o))
    (x : Nat) (hx : MSQueue.Pub s x) (hout : x ∉ MSQueue.absNodes s) :
    MSQueue.Pub s' x ∧ x ∉ MSQueue.absNodes s' :=
  MSQueue.never_relinked (MSQueue.sinv_reachable s hreach) hap x hx hout

/-! ### Non-vacuity -/

def steps (t : Tid) (n : Nat) : List (Tid × Act) := List.replicate n (t, .step)

/-- An enqueuer helps advance the tail.  Thread 0 links its node `n1` behind the dummy `n0` and is then delayed
    before swinging the tail; thread 1 finds `n0.next ≠ null`, helps (`cas+ tail n0 n1`), restarts and enqueues
    `n2`; thread 0's own swing then fails (`cas- tail n2 n0`).  Rendered as harness trace lines in the comments. -/
def helpSched : List (Tid × Act) :=
  [(0, .invoke ⟨"enq", [7]⟩)] ++ steps 0 4 ++ [(1, .invoke ⟨"enq", [8]⟩)] ++ steps 1 9 ++ [(1, .ret)] ++
  steps 0 1 ++ [(0, .ret), (0, .invoke ⟨"deq", []⟩)] ++ steps 0 7 ++ [(0, .ret)]

def helpObs : List (Tid × Obs) :=
  [(0, .call ⟨"enq", [7]⟩),                -- T 0 C enq [7]
   (0, .ev ⟨"ld", "tail", "n0", ""⟩),      -- T 0 A ld tail n0             (protect: first load)
   (0, .ev ⟨"ld", "tail", "n0", ""⟩),      -- T 0 A ld tail n0             (protect: validating load)
   (0, .ev ⟨"ld", "n0", "null", ""⟩),      -- T 0 A ld n0 null
   (0, .ev ⟨"cas+", "n0", "null", "n1"⟩),  -- T 0 A cas+ n0 null n1        (linearization point of enq 7)
   (1, .call ⟨"enq", [8]⟩),                -- T 1 C enq [8]
   (1, .ev ⟨"ld", "tail", "n0", ""⟩),      -- T 1 A ld tail n0
   (1, .ev ⟨"ld", "tail", "n0", ""⟩),      -- T 1 A ld tail n0
   (1, .ev ⟨"ld", "n0", "n1", ""⟩),        -- T 1 A ld n0 n1               (tail is lagging)
   (1, .ev ⟨"cas+", "tail", "n0", "n1"⟩),  -- T 1 A cas+ tail n0 n1        (help)
   (1, .ev ⟨"ld", "tail", "n1", ""⟩),      -- T 1 A ld tail n1
   (1, .ev ⟨"ld", "tail", "n1", ""⟩),      -- T 1 A ld tail n1
   (1, .ev ⟨"ld", "n1", "null", ""⟩),      -- T 1 A ld n1 null
   (1, .ev ⟨"cas+", "n1", "null", "n2"⟩),  -- T 1 A cas+ n1 null n2        (linearization point of enq 8)
   (1, .ev ⟨"cas+", "tail", "n1", "n2"⟩),  -- T 1 A cas+ tail n1 n2
   (1, .ret [1]),                          -- T 1 R [1]
   (0, .ev ⟨"cas-", "tail", "n2", "n0"⟩),  -- T 0 A cas- tail n2 n0        (seen n2, expected n0; result ignored)
   (0, .ret [1]),                          -- T 0 R [1]
   (0, .call ⟨"deq", []⟩),                 -- T 0 C deq []
   (0, .ev ⟨"ld", "head", "n0", ""⟩),      -- T 0 A ld head n0             (protect: load)
   (0, .ev ⟨"ld", "head", "n0", ""⟩),      -- T 0 A ld head n0             (protect: validating load)
   (0, .ev ⟨"ld", "n0", "n1", ""⟩),        -- T 0 A ld n0 n1               (protect h->next: load)
   (0, .ev ⟨"ld", "n0", "n1", ""⟩),        -- T 0 A ld n0 n1               (protect h->next: validating load)
   (0, .ev ⟨"ld", "head", "n0", ""⟩),      -- T 0 A ld head n0             (re-validation of head)
   (0, .ev ⟨"ld", "tail", "n2", ""⟩),      -- T 0 A ld tail n2
   (0, .ev ⟨"cas+", "head", "n0", "n1"⟩),  -- T 0 A cas+ head n0 n1        (linearization point of deq)
   (0, .ret [1, 7])]                       -- T 0 R [1, 7]

example : (MSQueue.model.run MSQueue.init helpSched).map (·.2) = some helpObs := by decide

example : MSQueue.historyOf helpObs =
    [⟨1, ⟨"enq", [8]⟩, [1], 5, 15⟩, ⟨0, ⟨"enq", [7]⟩, [1], 0, 17⟩, ⟨0, ⟨"deq", []⟩, [1, 7], 18, 26⟩] := by decide

example : linCheck fifo (MSQueue.historyOf helpObs) = true := by decide

/-- The abstract queue, the chain from `head`, `head` and `tail` at the end of that run. -/
example : (MSQueue.model.run MSQueue.init helpSched).map
    (fun r => (MSQueue.absQueue r.1, MSQueue.absNodes r.1, r.1.head, r.1.tail)) = some ([8], [1, 2], 1, 2) := by
  decide

/-- A dequeue CAS fails.  Two values are enqueued; threads 0 and 1 both prepare `CAS( head, n0, n1 )`; thread 1
    wins, thread 0 fails (`cas- head n1 n0`), restarts and dequeues the second value. -/
def raceSched : List (Tid × Act) :=
  [(0, .invoke ⟨"enq", [5]⟩)] ++ steps 0 5 ++ [(0, .ret), (0, .invoke ⟨"enq", [6]⟩)] ++ steps 0 5 ++
  [(0, .ret), (0, .invoke ⟨"deq", []⟩), (1, .invoke ⟨"deq", []⟩)] ++ steps 0 6 ++ steps 1 7 ++ steps 0 8 ++
  [(1, .ret), (0, .ret)]

example : (MSQueue.model.run MSQueue.init raceSched).map (fun r => (r.2.drop 22)) =
    some [(1, .ev ⟨"ld", "head", "n0", ""⟩),
          (1, .ev ⟨"ld", "head", "n0", ""⟩),
          (1, .ev ⟨"ld", "n0", "n1", ""⟩),
          (1, .ev ⟨"ld", "n0", "n1", ""⟩),
          (1, .ev ⟨"ld", "head", "n0", ""⟩),
          (1, .ev ⟨"ld", "tail", "n2", ""⟩),
          (1, .ev ⟨"cas+", "head", "n0", "n1"⟩),   -- thread 1 wins
          (0, .ev ⟨"cas-", "head", "n1", "n0"⟩),   -- T 0 A cas- head n1 n0   (seen n1, expected n0): restart
          (0, .ev ⟨"ld", "head", "n1", ""⟩),
          (0, .ev ⟨"ld", "head", "n1", ""⟩),
          (0, .ev ⟨"ld", "n1", "n2", ""⟩),
          (0, .ev ⟨"ld", "n1", "n2", ""⟩),
          (0, .ev ⟨"ld", "head", "n1", ""⟩),
          (0, .ev ⟨"ld", "tail", "n2", ""⟩),
          (0, .ev ⟨"cas+", "head", "n1", "n2"⟩),
          (1, .ret [1, 5]),
          (0, .ret [1, 6])] := by decide

example : (MSQueue.model.run MSQueue.init raceSched).map (fun r => MSQueue.historyOf r.2) =
    some [⟨0, ⟨"enq", [5]⟩, [1], 0, 6⟩, ⟨0, ⟨"enq", [6]⟩, [1], 7, 13⟩,
          ⟨1, ⟨"deq", []⟩, [1, 5], 15, 37⟩, ⟨0, ⟨"deq", []⟩, [1, 6], 14, 38⟩] := by decide

example : linCheck fifo [⟨0, ⟨"enq", [5]⟩, [1], 0, 6⟩, ⟨0, ⟨"enq", [6]⟩, [1], 7, 13⟩,
    ⟨1, ⟨"deq", []⟩, [1, 5], 15, 37⟩, ⟨0, ⟨"deq", []⟩, [1, 6], 14, 38⟩] = true := by decide

/-- A dequeuer helps advance the tail: thread 0 has linked `n1` but not yet swung the tail; thread 1 sees
    `head == tail` with a non-null `next`, helps (`cas+ tail n0 n1`), restarts and dequeues.  The run stops with
    thread 0's `enq` still pending (past its linearization point). -/
def deqHelpSched : List (Tid × Act) :=
  [(0, .invoke ⟨"enq", [7]⟩)] ++ steps 0 4 ++ [(1, .invoke ⟨"deq", []⟩)] ++ steps 1 14 ++ [(1, .ret)]

example : (MSQueue.model.run MSQueue.init deqHelpSched).map (fun r => (r.2.drop 10)) =
    some [(1, .ev ⟨"ld", "head", "n0", ""⟩),
          (1, .ev ⟨"ld", "tail", "n0", ""⟩),       -- h == t
          (1, .ev ⟨"cas+", "tail", "n0", "n1"⟩),   -- help
          (1, .ev ⟨"ld", "head", "n0", ""⟩),
          (1, .ev ⟨"ld", "head", "n0", ""⟩),
          (1, .ev ⟨"ld", "n0", "n1", ""⟩),
          (1, .ev ⟨"ld", "n0", "n1", ""⟩),
          (1, .ev ⟨"ld", "head", "n0", ""⟩),
          (1, .ev ⟨"ld", "tail", "n1", ""⟩),
          (1, .ev ⟨"cas+", "head", "n0", "n1"⟩),
          (1, .ret [1, 7])] := by decide

/-- Why pending operations must be completed: the history of completed operations of that run alone
    (`deq → 7` on a queue nobody has enqueued to) is not linearizable ... -/
example : (MSQueue.model.run MSQueue.init deqHelpSched).map (fun r => MSQueue.historyOf r.2) =
    some [⟨1, ⟨"deq", []⟩, [1, 7], 5, 20⟩] := by decide

example : ¬ Linearizable fifo [⟨1, ⟨"deq", []⟩, [1, 7], 5, 20⟩] :=
  not_linearizable_of_linCheck_eq_false fifo _ (by decide) (by decide)

/-- ... and `extra` of `C06_msqueue_linearizable` repairs it: with the pending enq completed, it is. -/
example : Linearizable fifo ([⟨1, ⟨"deq", []⟩, [1, 7], 5, 20⟩] ++ [⟨0, ⟨"enq", [7]⟩, [1], 0, 21⟩]) :=
  linCheck_sound fifo _ (by decide)

/-- Hindsight.  Thread 0's `deq` reads `n0.next == null` twice (its tentative linearization point: the queue IS
    empty); then thread 1 enqueues 3 and returns; then thread 0 re-validates `head == n0` successfully and answers
    "empty" — at that step the abstract queue is `[3]`.  The history is linearizable only because the empty
    dequeue is placed at the earlier load. -/
def hindsightSched : List (Tid × Act) :=
  [(0, .invoke ⟨"deq", []⟩)] ++ steps 0 4 ++ [(1, .invoke ⟨"enq", [3]⟩)] ++ steps 1 5 ++ [(1, .ret)]

example : (MSQueue.model.run MSQueue.init hindsightSched).map
    (fun r => (MSQueue.absQueue r.1, r.1.pc 0, MSQueue.step r.1 0 |>.map (fun q => (q.1.pc 0, q.2)))) =
    some ([3], .deqChk 0 none, some (.done [0], ⟨"ld", "head", "n0", ""⟩)) := by decide

example : (MSQueue.model.run MSQueue.init (hindsightSched ++ [(0, .step), (0, .ret)])).map
    (fun r => MSQueue.historyOf r.2) =
    some [⟨1, ⟨"enq", [3]⟩, [1], 5, 11⟩, ⟨0, ⟨"deq", []⟩, [0], 0, 13⟩] := by decide

example : linCheck fifo [⟨1, ⟨"enq", [3]⟩, [1], 5, 11⟩, ⟨0, ⟨"deq", []⟩, [0], 0, 13⟩] = true := by decide

/-- A tentative linearization that is withdrawn.  As above, but thread 2 also dequeues the 3 before thread 0
    re-validates: `head` has moved to `n1`, the re-validation fails (`ld head n1`), thread 0 restarts, finds
    `n1.next == null` and answers "empty" with a new linearization point. -/
def withdrawSched : List (Tid × Act) :=
  hindsightSched ++ [(2, .invoke ⟨"deq", []⟩)] ++ steps 2 7 ++ [(2, .ret)] ++ steps 0 6 ++ [(0, .ret)]

example : (MSQueue.model.run MSQueue.init withdrawSched).map (fun r => r.2.filter (fun x => x.1 == 0)) =
    some [(0, .call ⟨"deq", []⟩),
          (0, .ev ⟨"ld", "head", "n0", ""⟩),
          (0, .ev ⟨"ld", "head", "n0", ""⟩),
          (0, .ev ⟨"ld", "n0", "null", ""⟩),
          (0, .ev ⟨"ld", "n0", "null", ""⟩),       -- tentative linearization point (queue empty)
          (0, .ev ⟨"ld", "head", "n1", ""⟩),       -- re-validation fails: withdrawn, restart
          (0, .ev ⟨"ld", "head", "n1", ""⟩),
          (0, .ev ⟨"ld", "head", "n1", ""⟩),
          (0, .ev ⟨"ld", "n1", "null", ""⟩),
          (0, .ev ⟨"ld", "n1", "null", ""⟩),       -- linearization point of the empty deq
          (0, .ev ⟨"ld", "head", "n1", ""⟩),       -- re-validation succeeds
          (0, .ret [0])] := by decide

example : (MSQueue.model.run MSQueue.init withdrawSched).map (fun r => linCheck fifo (MSQueue.historyOf r.2)) =
    some true := by decide

end CdsVerif.Props.C06MSQueue
