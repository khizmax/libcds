/-
  C22 — re-entrant spin lock and pool monitor: mutual exclusion over all interleavings.
  Property theorems only.  Models: Algo/ReentrantSpin/Model.lean, Algo/PoolMonitor/Model.lean (one transition per atomic
  operation of cds/sync/spinlock.h `reentrant_spin_lock` and cds/sync/pool_monitor.h `pool_monitor`); invariants and
  step lemmas: the Inv.lean files next to them.  Every theorem quantifies over all schedules, all thread counts, all numbers
  of locks / nodes and all client programs that obey the stated discipline (`Reachable`).
-/
import CdsVerif.Algo.ReentrantSpin.Inv
import CdsVerif.Algo.PoolMonitor.Inv

namespace CdsVerif.Props.C22Monitors
open CdsVerif.Machine CdsVerif.Spec CdsVerif.Algo

/-! ### `cds::sync::reentrant_spin_lock` -/

/-- Mutual exclusion: at most one thread has returned from `lock` / successful `try_lock` of lock `l` without having
    completed the matching `unlock`s (`depth t l` counts them).  The same holds for the wider window that starts at the
    successful CAS on the lock word (pc `lkTake`: the thread has the word but has not yet stored its id). -/
theorem C22_reentrant_mutex (s : ReentrantSpin.St) (h : ReentrantSpin.model.Reachable ReentrantSpin.init s) :
    (∀ l t1 t2, s.depth t1 l > 0 → s.depth t2 l > 0 → t1 = t2) ∧
    (∀ l t1 t2, (s.depth t1 l > 0 ∨ ReentrantSpin.takeOf (s.pc t1) = some l) →
                (s.depth t2 l > 0 ∨ ReentrantSpin.takeOf (s.pc t2) = some l) → t1 = t2) := by
  have hi := ReentrantSpin.rinv_reachable s h
  have huniq : ∀ l t1 t2, s.holder l = some t1 → s.holder l = some t2 → t1 = t2 :=
    fun l t1 t2 h1 h2 => Option.some.inj (h1.symm.trans h2)
  exact ⟨fun l t1 t2 h1 h2 => huniq l t1 t2 (hi.holder_of_inside (.inl h1)) (hi.holder_of_inside (.inl h2)),
         fun l t1 t2 h1 h2 => huniq l t1 t2 (hi.holder_of_inside h1) (hi.holder_of_inside h2)⟩

/-- What the lock word and the owner field say.  The word is zero exactly when no thread holds the lock or is between its
    successful CAS and the store of its id; while a thread holds the lock the word equals its nesting depth; the owner field
    names a thread only while that thread holds the lock, and names the holder except between the two stores of its last
    unlock (`m_OwnerId := null; m_spin := 0`, pc `unZero`). -/
theorem C22_reentrant_lock_word (s : ReentrantSpin.St) (h : ReentrantSpin.model.Reachable ReentrantSpin.init s) (l : Nat) :
    (s.spin l = 0 ↔ ∀ t, s.depth t l = 0 ∧ ReentrantSpin.takeOf (s.pc t) ≠ some l) ∧
    (∀ t, s.depth t l > 0 → s.spin l = s.depth t l) ∧
    (∀ t, s.owner l = some t → s.depth t l > 0) ∧
    (∀ t, s.depth t l > 0 → s.owner l = some t ∨ ReentrantSpin.zeroOf (s.pc t) = some l) := by
  have hi := ReentrantSpin.rinv_reachable s h
  refine ⟨⟨fun h0 t => ?_, fun hall => ?_⟩, fun t hd => hi.cnt l t (hi.dep l t hd) hd,
          fun t ho => (hi.own l t ho).2, fun t hd => hi.ownd l t hd⟩
  · -- word zero: nobody is the holder, so nobody is inside or has taken the word
    have hn := hi.free l h0
    have hout : ¬ (s.depth t l > 0 ∨ ReentrantSpin.takeOf (s.pc t) = some l) :=
      fun hin => Option.some_ne_none t ((hi.holder_of_inside hin).symm.trans hn)
    exact ⟨Nat.eq_zero_of_not_pos fun hd => hout (.inl hd), fun hk => hout (.inr hk)⟩
  · cases hh : s.holder l with
    | none => exact hi.busy l hh
    | some t =>
      rcases hi.hold l t hh with hd | hk
      · exact absurd (hall t).1 (Nat.ne_of_gt hd)
      · exact absurd hk (hall t).2

/-- A re-entrant lock is released only by its owner's last unlock: whatever action of whatever thread makes the lock word
    go from non-zero to zero is the final store `m_spin.store( 0 )` of an `unlock` executed by the thread that holds the lock,
    at nesting depth exactly 1; all other threads have depth 0, and the step ends the holder's critical section. -/
theorem C22_reentrant_release_by_last_unlock (s s' : ReentrantSpin.St) (t : Tid) (a : Act) (o : Obs) (l : Nat)
    (h : ReentrantSpin.model.Reachable ReentrantSpin.init s)
    (hap : ReentrantSpin.model.apply s t a = some (s', o)) (h0 : s.spin l ≠ 0) (h1 : s'.spin l = 0) :
    a = .step ∧ (∃ r, s.pc t = .unZero l r) ∧ s.depth t l = 1 ∧ s'.depth t l = 0 ∧
    (∀ t2, t2 ≠ t → s.depth t2 l = 0) ∧ o = .ev (ReentrantSpin.evStSpin l 0) := by
  have hi := ReentrantSpin.rinv_reachable s h
  rcases Model.apply_cases hap with ⟨op, rfl, hs, -⟩ | ⟨ev, rfl, hs, rfl⟩ | ⟨r, rfl, hs, -⟩
  · rw [(ReentrantSpin.invoke_frame hs).1] at h1; exact absurd h1 h0
  · obtain ⟨hpc, hh, hd, -, hd', -, hev⟩ := ReentrantSpin.release_step hi hs h0 h1
    exact ⟨rfl, hpc, hd, hd', fun t2 hne => hi.depth_eq_zero_of_holder hh hne, by rw [hev]⟩
  · rw [(ReentrantSpin.result_frame hs).1] at h1; exact absurd h1 h0

/-- While thread `t` holds lock `l` (depth ≥ 1) no `lock` / `try_lock` of another thread succeeds: no action of a thread
    `t2 ≠ t` changes the lock word, the owner field or `t`'s depth; `t2`'s depth stays 0 and `t2` does not get past the CAS;
    the CAS of a `try_lock` by `t2` fails and that `try_lock` returns 0; the CAS of a `lock` by `t2` fails and `t2` goes on
    spinning. -/
theorem C22_reentrant_other_threads_excluded (s s' : ReentrantSpin.St) (t t2 : Tid) (a : Act) (o : Obs) (l : Nat)
    (h : ReentrantSpin.model.Reachable ReentrantSpin.init s) (hd : s.depth t l ≥ 1) (hne : t2 ≠ t)
    (hap : ReentrantSpin.model.apply s t2 a = some (s', o)) :
    s'.spin l = s.spin l ∧ s'.owner l = s.owner l ∧ s'.depth t l = s.depth t l ∧ s'.depth t2 l = 0 ∧
    ReentrantSpin.takeOf (s'.pc t2) ≠ some l ∧
    (a = .step → s.pc t2 = .lkCas l true → s'.pc t2 = .done [0]) ∧
    (a = .step → s.pc t2 = .lkCas l false → s'.pc t2 = .lkSpin l) := by
  have hi := ReentrantSpin.rinv_reachable s h
  have hh := hi.dep l t hd
  have hd2 : s.depth t2 l = 0 := hi.depth_eq_zero_of_holder hh hne
  rcases Model.apply_cases hap with ⟨op, rfl, hs, -⟩ | ⟨ev, rfl, hs, -⟩ | ⟨r, rfl, hs, -⟩
  · obtain ⟨f1, f2, f3, -, f5, -⟩ := ReentrantSpin.invoke_frame hs
    rw [f1, f2, f3]
    refine ⟨rfl, rfl, rfl, hd2, f5 l, ?_, ?_⟩ <;> (intro e; cases e)
  · obtain ⟨g1, g2, -, g4, g5, g6, g7, g8⟩ := ReentrantSpin.others_excluded_step hi hd hne hs
    exact ⟨g1, g2, g4, g5, g6, fun _ hp => (g7 hp).1, fun _ hp => (g8 hp).1⟩
  · obtain ⟨f1, f2, f3, -, -, f6, -⟩ := ReentrantSpin.result_frame hs
    rw [f1, f2, f3, f6]
    refine ⟨rfl, rfl, rfl, hd2, by simp [ReentrantSpin.takeOf], ?_, ?_⟩ <;> (intro e; cases e)

/-! ### `cds::sync::pool_monitor` (over a pool of `cds::sync::spin`) -/

/-- (a) Mutual exclusion: at most one thread is inside the critical section of a node (between the successful exchange on
    the node's pool lock in `lock( n )` and the releasing store in `unlock( n )`), for any pool capacity. -/
theorem C22_pool_monitor_mutex (cap : Nat) (s : PoolMonitor.St)
    (h : PoolMonitor.model.Reachable (PoolMonitor.init cap) s) :
    ∀ n t1 t2, s.cs t1 n = true → s.cs t2 n = true → t1 = t2 :=
  fun n t1 t2 => PoolMonitor.cs_mutex (PoolMonitor.pinv_reachable cap s h) n t1 t2

/-- (b) A pool lock is attached to at most one node at a time; a lock in the free pool is attached to no node and held by
    nobody; the free pool has no duplicates; a thread inside the critical section of node `n` holds the lock attached to `n`. -/
theorem C22_pool_lock_unique (cap : Nat) (s : PoolMonitor.St)
    (h : PoolMonitor.model.Reachable (PoolMonitor.init cap) s) :
    (∀ n1 n2 k, s.plock n1 = some k → s.plock n2 = some k → n1 = n2) ∧
    (∀ k, k ∈ s.pool → (∀ n, s.plock n ≠ some k) ∧ s.lheld k = false ∧ s.lowner k = none) ∧
    s.pool.Nodup ∧
    (∀ t n, s.cs t n = true → ∃ k, s.plock n = some k ∧ s.lowner k = some t ∧ s.lheld k = true) := by
  have hi := PoolMonitor.pinv_reachable cap s h
  refine ⟨hi.att, fun k hk => ⟨fun n => hi.pfree k n hk, hi.lh1 k (hi.pown k hk), hi.pown k hk⟩, hi.pnd, ?_⟩
  intro t n hc
  cases hp : s.plock n with
  | none => exact absurd hp (hi.csa t n hc)
  | some k =>
    have ho := hi.cso t n k hc hp
    refine ⟨k, rfl, ho, ?_⟩
    cases hl : s.lheld k with
    | true => rfl
    | false => exact absurd (ho.symm.trans (hi.lh0 k hl)) (Option.some_ne_none t)

/-- (c) A node's lock is given back only when nobody holds or awaits it.
    Detach: whatever action takes lock `k` off node `n` is the final store of an `unlock( n )` whose CAS saw reference count
    exactly 1 (m_RefSpin = 3 with the spin bit); the acting thread is the only user of the node, no thread is inside the node's
    critical section, no thread is between its reference increment and its acquisition of `k`, and `k` is not held.
    Return: whatever action puts lock `k` into the free pool is the return of that `unlock`; `k` is then attached to no node,
    held by nobody, and no thread is about to exchange on it or waiting in its spin loop. -/
theorem C22_pool_lock_returned_only_when_unused (cap : Nat) (s s' : PoolMonitor.St) (t : Tid) (a : Act) (o : Obs)
    (h : PoolMonitor.model.Reachable (PoolMonitor.init cap) s)
    (hap : PoolMonitor.model.apply s t a = some (s', o)) :
    (∀ n k, s.plock n = some k → s'.plock n ≠ some k →
      a = .step ∧ s.pc t = .unSt n 2 ∧ s.refspin n = 3 ∧ s.users n = [t] ∧
      s'.plock n = none ∧ s'.users n = [] ∧ s'.refspin n = 0 ∧ s'.pc t = .fin (some k) ∧
      s.lheld k = false ∧ (∀ t', s.cs t' n = false) ∧ (∀ t', PoolMonitor.refNode (s.pc t') = some n → t' = t)) ∧
    (∀ k, k ∉ s.pool → k ∈ s'.pool →
      a = .ret ∧ s.pc t = .fin (some k) ∧ s.lheld k = false ∧ s.lowner k = none ∧ (∀ n, s.plock n ≠ some k) ∧
      (∀ t' n, s.pc t' ≠ .lkTas n k) ∧ (∀ t' n, s.pc t' ≠ .lkWait n k) ∧ (∀ t', s.pc t' = .fin (some k) → t' = t)) := by
  have hi := PoolMonitor.pinv_reachable cap s h
  exact ⟨fun n k h0 h1 => PoolMonitor.detach_only_last hi hap n k h0 h1,
         fun k h0 h1 => PoolMonitor.dealloc_only_unused hi hap k h0 h1⟩

/-- (c) The counting invariant: for every node there is a duplicate-free list of threads that consists of exactly the users
    of the node (threads inside its critical section, inside `lock` after the reference increment, or inside `unlock` before
    the reference decrement), and m_RefSpin = 2 * (number of users) + (1 iff some thread is inside a spin-bit section). -/
theorem C22_pool_refcount_counts_users (cap : Nat) (s : PoolMonitor.St)
    (h : PoolMonitor.model.Reachable (PoolMonitor.init cap) s) (n : Nat) :
    ∃ us : List Tid, us.Nodup ∧ (∀ t, t ∈ us ↔ PoolMonitor.User s t n) ∧
      ((∀ t, PoolMonitor.spinNode (s.pc t) ≠ some n) → s.refspin n = 2 * us.length) ∧
      (∀ t, PoolMonitor.spinNode (s.pc t) = some n → s.refspin n = 2 * us.length + 1) ∧
      s.refspin n / 2 = us.length :=
  PoolMonitor.refcount_counts (PoolMonitor.pinv_reachable cap s h) n

/-- (d) The spin bit is a lock: at most one thread is inside an attach (`lkSt`) or detach (`unSt`) section of a node. -/
theorem C22_pool_spinbit_mutex (cap : Nat) (s : PoolMonitor.St)
    (h : PoolMonitor.model.Reachable (PoolMonitor.init cap) s) :
    ∀ n t1 t2, PoolMonitor.spinNode (s.pc t1) = some n → PoolMonitor.spinNode (s.pc t2) = some n → t1 = t2 :=
  fun n t1 t2 => PoolMonitor.spinbit_mutex (PoolMonitor.pinv_reachable cap s h) n t1 t2

/-- The non-atomic field `m_pLock`: a thread about to write it (attach a lock to a node that has none, or detach the lock as
    the last user) is the only thread at a program point that reads or writes the field; and the read outside the spin bit
    (first step of `unlock`) finds the lock attached and held by the caller, so that step is enabled. -/
theorem C22_pool_plock_access_exclusive (cap : Nat) (s : PoolMonitor.St)
    (h : PoolMonitor.model.Reachable (PoolMonitor.init cap) s) :
    (∀ n t1 t2, ((∃ c, s.pc t1 = .lkSt n c ∧ s.plock n = none) ∨ s.pc t1 = .unSt n 2) →
                ((∃ c, s.pc t2 = .lkSt n c) ∨ (∃ c, s.pc t2 = .unSt n c) ∨ s.pc t2 = .unRel n) → t1 = t2) ∧
    (∀ t n, s.pc t = .unRel n →
      ∃ k, s.plock n = some k ∧ s.lowner k = some t ∧ s.lheld k = true ∧ (PoolMonitor.step s t).isSome) := by
  have hi := PoolMonitor.pinv_reachable cap s h
  exact ⟨fun n t1 t2 => PoolMonitor.plock_access_exclusive hi n t1 t2, fun t n hpc => PoolMonitor.unRel_enabled hi hpc⟩

/-! ### Examples (evaluated by `decide`; events are compared as the structures `⟨kind, loc, a, b⟩` the trace lines are
     printed from) -/

/-- Thread 0 locks lock 0 twice (the second time through the owner check and `fetch_add`); thread 1's `try_lock` fails. -/
def schedNested : List (Tid × Act) :=
  [(0, .invoke ⟨"lock", [0, 0]⟩), (0, .step), (0, .step), (0, .step), (0, .ret),
   (0, .invoke ⟨"lock", [0, 0]⟩), (0, .step), (0, .step), (0, .ret),
   (1, .invoke ⟨"try_lock", [1, 0]⟩), (1, .step), (1, .step), (1, .ret)]

/-- … then thread 0 unlocks once (`m_spin := 1`), thread 1's `try_lock` fails again, thread 0 unlocks for the last time
    (`m_OwnerId := null; m_spin := 0`) and thread 1's `try_lock` succeeds. -/
def schedNested2 : List (Tid × Act) := schedNested ++
  [(0, .invoke ⟨"unlock", [0, 0]⟩), (0, .step), (0, .step), (0, .ret),
   (1, .invoke ⟨"try_lock", [1, 0]⟩), (1, .step), (1, .step), (1, .ret),
   (0, .invoke ⟨"unlock", [0, 0]⟩), (0, .step), (0, .step), (0, .step), (0, .ret),
   (1, .invoke ⟨"try_lock", [1, 0]⟩), (1, .step), (1, .step), (1, .step), (1, .ret)]

example : (ReentrantSpin.model.run ReentrantSpin.init schedNested).map
    (fun p => (p.1.spin 0, p.1.owner 0, p.1.depth 0 0, p.1.depth 1 0, p.1.pc 1)) =
    some (2, some 0, 2, 0, .idle) := by decide +kernel

example : (ReentrantSpin.model.run ReentrantSpin.init schedNested).map (fun p => ReentrantSpin.events p.2) =
    some [(0, ⟨"ld", "L0.owner", "0", ""⟩), (0, ⟨"cas+", "L0.spin", "0", "1"⟩), (0, ⟨"st", "L0.owner", "T0", ""⟩),
          (0, ⟨"ld", "L0.owner", "T0", ""⟩), (0, ⟨"add", "L0.spin", "1", "1"⟩),
          (1, ⟨"ld", "L0.owner", "T0", ""⟩), (1, ⟨"cas-", "L0.spin", "2", "0"⟩)] := by decide +kernel

/-- The failed `try_lock` returned 0. -/
example : (ReentrantSpin.model.run ReentrantSpin.init schedNested).map (fun p => p.2.getLast?) =
    some (some (1, .ret [0])) := by decide +kernel

example : (ReentrantSpin.model.run ReentrantSpin.init schedNested2).map
    (fun p => (p.1.spin 0, p.1.owner 0, p.1.depth 0 0, p.1.depth 1 0)) = some (1, some 1, 0, 1) := by decide +kernel
example : (ReentrantSpin.model.run ReentrantSpin.init schedNested2).map (fun p => p.2.getLast?) =
    some (some (1, .ret [1])) := by decide +kernel

example : (ReentrantSpin.model.run ReentrantSpin.init schedNested2).map (fun p => (ReentrantSpin.events p.2).drop 7) =
    some [(0, ⟨"ld", "L0.spin", "2", ""⟩), (0, ⟨"st", "L0.spin", "1", ""⟩),
          (1, ⟨"ld", "L0.owner", "T0", ""⟩), (1, ⟨"cas-", "L0.spin", "1", "0"⟩),
          (0, ⟨"ld", "L0.spin", "1", ""⟩), (0, ⟨"st", "L0.owner", "0", ""⟩), (0, ⟨"st", "L0.spin", "0", ""⟩),
          (1, ⟨"ld", "L0.owner", "0", ""⟩), (1, ⟨"cas+", "L0.spin", "0", "1"⟩), (1, ⟨"st", "L0.owner", "T1", ""⟩)] := by
  decide +kernel

/-- The discipline is enforced: `unlock` by a thread that does not hold the lock is not a run. -/
example : (ReentrantSpin.model.run ReentrantSpin.init (schedNested ++ [(1, .invoke ⟨"unlock", [1, 0]⟩)])).isNone = true := by
  decide +kernel

/-- Two threads contend for node 0 (pool of capacity 1): thread 0's CAS adds the first reference, thread 1's CAS fails
    against the spin bit and is retried after `cur &= ~1`; thread 0 attaches pool lock 0 lazily; thread 1 finds it attached
    and spins on it until thread 0 unlocks; thread 0 is not the last user, so the lock stays attached. -/
def schedContend : List (Tid × Act) :=
  [(0, .invoke ⟨"lock", [0, 0]⟩), (1, .invoke ⟨"lock", [1, 0]⟩),
   (0, .step), (1, .step),            -- both load m_RefSpin = 0
   (0, .step),                        -- T0: cas+ 0 -> 3
   (1, .step),                        -- T1: cas- sees 3, cur := 2
   (0, .step),                        -- T0: attach lock 0, store 2
   (1, .step),                        -- T1: cas+ 2 -> 5
   (0, .step),                        -- T0: xchg P0 0 -> 1, inside
   (1, .step),                        -- T1: store 4
   (1, .step), (1, .step),            -- T1: xchg sees 1; wait-loop load sees 1
   (0, .ret),
   (0, .invoke ⟨"unlock", [0, 0]⟩), (0, .step), (0, .step), (0, .step), (0, .step), (0, .ret),
   (1, .step), (1, .step), (1, .ret)]

/-- While thread 0 is inside and thread 1 waits: two references, lock 0 attached and held by thread 0. -/
example : (PoolMonitor.model.run (PoolMonitor.init 1) (schedContend.take 13)).map
    (fun p => (p.1.refspin 0, p.1.plock 0, p.1.pool, p.1.users 0)) = some (4, some 0, [], [1, 0]) := by decide +kernel
example : (PoolMonitor.model.run (PoolMonitor.init 1) (schedContend.take 13)).map
    (fun p => (p.1.cs 0 0, p.1.cs 1 0, p.1.lowner 0, p.1.pc 1)) = some (true, false, some 0, .lkWait 0 0) := by decide +kernel

/-- At the end thread 1 is inside; thread 0 has left and dropped its reference; the lock is still attached. -/
example : (PoolMonitor.model.run (PoolMonitor.init 1) schedContend).map
    (fun p => (p.1.refspin 0, p.1.plock 0, p.1.pool, p.1.users 0)) = some (2, some 0, [], [1]) := by decide +kernel
example : (PoolMonitor.model.run (PoolMonitor.init 1) schedContend).map
    (fun p => (p.1.cs 0 0, p.1.cs 1 0, p.1.lowner 0)) = some (false, true, some 1) := by decide +kernel

example : (PoolMonitor.model.run (PoolMonitor.init 1) schedContend).map (fun p => PoolMonitor.events p.2) =
    some [(0, ⟨"ld", "N0.refspin", "0", ""⟩), (1, ⟨"ld", "N0.refspin", "0", ""⟩),
          (0, ⟨"cas+", "N0.refspin", "0", "3"⟩),
          (1, ⟨"cas-", "N0.refspin", "3", "0"⟩),
          (0, ⟨"st", "N0.refspin", "2", ""⟩),
          (1, ⟨"cas+", "N0.refspin", "2", "5"⟩),
          (0, ⟨"xchg", "P0.spin", "0", "1"⟩),
          (1, ⟨"st", "N0.refspin", "4", ""⟩),
          (1, ⟨"xchg", "P0.spin", "1", "1"⟩), (1, ⟨"ld", "P0.spin", "1", ""⟩),
          (0, ⟨"st", "P0.spin", "0", ""⟩), (0, ⟨"ld", "N0.refspin", "4", ""⟩), (0, ⟨"cas+", "N0.refspin", "4", "5"⟩),
          (0, ⟨"st", "N0.refspin", "2", ""⟩),
          (1, ⟨"ld", "P0.spin", "0", ""⟩), (1, ⟨"xchg", "P0.spin", "0", "1"⟩)] := by decide +kernel

/-- A lock id is reused: thread 0 locks and unlocks node 0 (lock 0 attached, detached by the last user, returned to the
    pool when `unlock` returns), then locks node 1, which gets the same pool lock 0. -/
def schedReuse : List (Tid × Act) :=
  [(0, .invoke ⟨"lock", [0, 0]⟩), (0, .step), (0, .step), (0, .step), (0, .step), (0, .ret),
   (0, .invoke ⟨"unlock", [0, 0]⟩), (0, .step), (0, .step), (0, .step), (0, .step), (0, .ret),
   (0, .invoke ⟨"lock", [0, 1]⟩), (0, .step), (0, .step), (0, .step), (0, .step), (0, .ret)]

example : (PoolMonitor.model.run (PoolMonitor.init 1) schedReuse).map
    (fun p => (p.1.plock 0, p.1.plock 1, p.1.refspin 0, p.1.refspin 1)) = some (none, some 0, 0, 2) := by decide +kernel
example : (PoolMonitor.model.run (PoolMonitor.init 1) schedReuse).map
    (fun p => (p.1.pool, p.1.cs 0 0, p.1.cs 0 1, p.1.lowner 0)) = some ([], false, true, some 0) := by decide +kernel

example : (PoolMonitor.model.run (PoolMonitor.init 1) schedReuse).map (fun p => (PoolMonitor.events p.2).drop 4) =
    some [(0, ⟨"st", "P0.spin", "0", ""⟩), (0, ⟨"ld", "N0.refspin", "2", ""⟩), (0, ⟨"cas+", "N0.refspin", "2", "3"⟩),
          (0, ⟨"st", "N0.refspin", "0", ""⟩),
          (0, ⟨"ld", "N1.refspin", "0", ""⟩), (0, ⟨"cas+", "N1.refspin", "0", "3"⟩), (0, ⟨"st", "N1.refspin", "2", ""⟩),
          (0, ⟨"xchg", "P0.spin", "0", "1"⟩)] := by decide +kernel

/-- Between the detaching store and the return of `unlock` the lock is in nobody's hands (not attached, not in the pool);
    the return puts it back. -/
example : (PoolMonitor.model.run (PoolMonitor.init 1) (schedReuse.take 11)).map
    (fun p => (p.1.plock 0, p.1.pool, p.1.pc 0)) = some (none, [], .fin (some 0)) := by decide +kernel
example : (PoolMonitor.model.run (PoolMonitor.init 1) (schedReuse.take 12)).map
    (fun p => (p.1.plock 0, p.1.pool, p.1.pc 0)) = some (none, [0], .idle) := by decide +kernel

/-- With an empty pool the lock comes from the heap (a fresh id). -/
example : (PoolMonitor.model.run (PoolMonitor.init 0) (schedReuse.take 6)).map
    (fun p => (p.1.plock 0, p.1.pool, p.1.fresh)) = some (some 0, [], 1) := by decide +kernel

/-- The discipline is enforced: a second `lock` of the same node by the thread inside it is not a run. -/
example : (PoolMonitor.model.run (PoolMonitor.init 1) (schedReuse.take 6 ++ [(0, .invoke ⟨"lock", [0, 0]⟩)])).isNone = true := by
  decide +kernel

end CdsVerif.Props.C22Monitors
