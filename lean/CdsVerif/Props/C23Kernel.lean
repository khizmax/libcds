/-
  C23 — flat-combining kernel: "every published request is executed exactly once, by one combiner at a time, and its
  requester observes the response only after execution; publication records left by exited threads are reclaimed and
  not accessed afterwards".

  Property theorems about the atomic-step model `Algo/FC/Kernel.lean` of cds/algo/flat_combining/kernel.h (see the
  header of that file for the program counters and for ALL modelling simplifications).  Every theorem quantifies over
  every configuration (number of threads `N`, compact factor, number of combining passes), every schedule and every
  client program.

  PROVED here:  C23_mutex, C23_exactly_once, C23_response_after_exec, C23_no_request_lost (safety form),
                C23_combiner_assert (the `assert( pRec->op() == req_Response )` of try_combining), plus `decide` runs.
  NOT covered:  * liveness ("a deactivated record's request is EVENTUALLY served"): only the safety form is proved - a
                  thread never returns with an unexecuted request - together with the two facts that make progress
                  possible (`C23_owner_republishes`, `C23_combiner_own_record`);
                * the last clause of C23 (records of exited threads are reclaimed and not accessed afterwards): thread
                  exit, `nState = removed` and the freeing loop of `compact_list` are not in the model;
                * `batch_combine` (elimination; its pure part is in Props/C10.lean and Props/C23Batch.lean).
-/
import CdsVerif.Algo.FC.KernelInv
namespace CdsVerif.Props.C23Kernel
open CdsVerif.Machine CdsVerif.Spec CdsVerif.Algo.FC.Kernel

/-! ### One combiner at a time -/

/-- At most one thread is between a successful `m_Mutex.try_lock()` and the matching `unlock()`: at most one
    combiner (`holds` lists the program counters of that region). -/
theorem C23_mutex (cfg : Cfg) (s : St) (h : (model cfg).Reachable init s) :
    ∀ t1 t2, holds (s.pc t1) = true → holds (s.pc t2) = true → t1 = t2 := by
  have hinv := kinv_reachable cfg s h
  intro t1 t2 h1 h2
  rw [hinv.hold t1 h1, hinv.hold t2 h2]

/-- … and the lock word is set while a thread is in that region. -/
theorem C23_lock_word (cfg : Cfg) (s : St) (h : (model cfg).Reachable init s) :
    ∀ t, holds (s.pc t) = true → s.lock = true := by
  have hinv := kinv_reachable cfg s h
  intro t ht
  cases hl : s.lock with
  | true => rfl
  | false => exact nomatch ht.symm.trans (hinv.lockFree hl t)

/-- Requests are executed (`fc_apply`, ghost counter `execs`) and answered (store of req_Response) only by the
    thread that holds the lock; the only other change of the counter is the owner's reset when it stores a new request.
    (No reachability assumption: this is a property of the transition function.) -/
theorem C23_apply_by_combiner_only (cfg : Cfg) (s s' : St) (t : Tid) (ev : Ev) (k : Nat)
    (hs : step cfg s t = some (s', ev)) :
    (s'.execs k ≠ s.execs k →
        (s.pc t = .reqSt ∧ k = t ∧ s'.execs k = 0) ∨
        (holds (s.pc t) = true ∧ ∃ c, s.pc t = .cpAge c k ∧ s'.execs k = s.execs k + 1)) ∧
    (s.req k ≠ .resp → s'.req k = .resp → holds (s.pc t) = true ∧ ∃ c, s.pc t = .cpDone c k) := by
  cases hpc : s.pc t <;> simp only [step, hpc] at hs <;> (try split at hs) <;>
    simp only [Option.some.injEq, Prod.mk.injEq, reduceCtorEq] at hs <;>
    (try (obtain ⟨rfl, -⟩ := hs)) <;> (try exact hs.elim) <;> refine ⟨?_, ?_⟩ <;> intros <;> grind [upd, holds]

/-! ### Exactly once -/

/-- `execs r` counts the executions of the request instance currently stored in record `r` (reset by the owner's
    store of a new request).  In every reachable state it is never 2 (or more); a thread that has returned from
    `combine` (it is at `release_record`, `relSt`, or has finished, `done`) finds it exactly 1. -/
theorem C23_exactly_once (cfg : Cfg) (s : St) (h : (model cfg).Reachable init s) :
    (∀ r, s.execs r ≤ 1) ∧
    (∀ t, s.pc t = .relSt → s.execs t = 1) ∧
    (∀ t, s.pc t = .done → s.execs t = 1) := by
  have hinv := kinv_reachable cfg s h
  exact ⟨hinv.le1, fun t ht => hinv.respExec t (hinv.rel t ht), hinv.fin⟩

/-- While the request is pending (nRequest is an operation id) it has not been executed, unless the combiner is
    exactly between `fc_apply` and the store of req_Response for it. -/
theorem C23_pending_not_executed (cfg : Cfg) (s : St) (h : (model cfg).Reachable init s) :
    ∀ r, s.req r = .op → (∀ t c, s.pc t ≠ .cpDone c r) → s.execs r = 0 := by
  have hinv := kinv_reachable cfg s h
  intro r hr hno
  exact hinv.opExec r hr fun hd => (doneIdx_iff.mp hd).elim fun c hc => hno _ c hc

/-! ### The response is observed only after the execution -/

/-- (1) In every reachable state a record that carries req_Response has been executed (exactly once).
    (2) The store of req_Response into record `r` is performed only by the lock holder at `cpDone _ r`, and then
        `fc_apply` has already run for that request (`execs r = 1`).
    (3) A requester is at `release_record` - it has left `wait_for_combining` or `combining` - only with
        req_Response in its record; in particular (4) a step leaves the wait loop for `release_record` only by
        reading req_Response. -/
theorem C23_response_after_exec (cfg : Cfg) (s : St) (h : (model cfg).Reachable init s) :
    (∀ r, s.req r = .resp → s.execs r = 1) ∧
    (∀ s' t ev r, step cfg s t = some (s', ev) → s.req r ≠ .resp → s'.req r = .resp →
        holds (s.pc t) = true ∧ (∃ c, s.pc t = .cpDone c r) ∧ s.execs r = 1 ∧ s'.execs r = 1) ∧
    (∀ t, s.pc t = .relSt → s.req t = .resp ∧ s.execs t = 1) ∧
    (∀ s' t ev, step cfg s t = some (s', ev) → (s.pc t = .wtReq ∨ s.pc t = .wtReq2) →
        (s'.pc t = .relSt ∨ s'.pc t = .wtUnlock) → s.req t = .resp) := by
  have hinv := kinv_reachable cfg s h
  refine ⟨hinv.respExec, ?_, fun t ht => ⟨hinv.rel t ht, hinv.respExec t (hinv.rel t ht)⟩, ?_⟩
  · intro s' t ev r hs h1 h2
    obtain ⟨hh, c, hc⟩ := (C23_apply_by_combiner_only cfg s s' t ev r hs).2 h1 h2
    have he := (hinv.atDone t c r hc).2
    refine ⟨hh, ⟨c, hc⟩, he, ?_⟩
    simp only [step, hc, Option.some.injEq, Prod.mk.injEq] at hs
    obtain ⟨rfl, -⟩ := hs
    exact he
  · intro s' t ev hs hpc hpc'
    rcases hpc with hpc | hpc <;> simp only [step, hpc, Option.some.injEq, Prod.mk.injEq] at hs <;>
      obtain ⟨rfl, -⟩ := hs <;> by_cases hr : s.req t = .resp <;> simp_all

/-! ### No request is lost -/

/-- The `assert( pRec->op( relaxed ) == req_Response )` after `combining( owner )` in `try_combining` holds:
    when the combiner is through with its passes (compaction, unlock) its own request has been answered. -/
theorem C23_combiner_assert (cfg : Cfg) (s : St) (h : (model cfg).Reachable init s) :
    ∀ t, postPass (s.pc t) = true → s.req t = .resp ∧ s.execs t = 1 := by
  have hinv := kinv_reachable cfg s h
  exact fun t ht => ⟨hinv.post t ht, hinv.respExec t (hinv.post t ht)⟩

/-- Safety form of "no request is lost": a thread does not get past `combine` while its request is unprocessed.
    If thread `t` has stored a request that is still pending (`nRequest` = operation id), then `t` is neither at
    `release_record` nor finished, nor past the combining passes; and whenever it has returned, the request was
    executed exactly once. -/
theorem C23_no_request_lost (cfg : Cfg) (s : St) (h : (model cfg).Reachable init s) :
    (∀ t, s.req t = .op → s.pc t ≠ .relSt ∧ s.pc t ≠ .done ∧ s.pc t ≠ .idle ∧ s.pc t ≠ .wtUnlock ∧
        postPass (s.pc t) = false) ∧
    (∀ t, s.pc t = .done → s.execs t = 1 ∧ s.req t = .empty) := by
  have hinv := kinv_reachable cfg s h
  refine ⟨fun t ht => ?_, fun t ht => ⟨hinv.fin t ht, hinv.noReq t (by rw [ht]; rfl)⟩⟩
  -- at each of these program counters the invariant makes `s.req t` req_Response or empty
  have hne : s.req t ≠ .resp ∧ s.req t ≠ .empty := by rw [ht]; exact ⟨nofun, nofun⟩
  exact ⟨fun hp => hne.1 (hinv.rel t hp), fun hp => hne.2 (hinv.noReq t (by rw [hp]; rfl)),
    fun hp => hne.2 (hinv.noReq t (by rw [hp]; rfl)), fun hp => hne.1 (hinv.wtUnl t hp),
    Bool.eq_false_iff.mpr fun hp => hne.1 (hinv.post t hp)⟩

/-- A record deactivated by `compact_list` is re-published by its owner: the waiting owner that reads
    `nState != active` (in the wait loop, or under the lock it has just taken) goes through `publish`, after which the
    record is linked and active again. -/
theorem C23_owner_republishes (cfg : Cfg) (s s' : St) (t : Tid) (ev : Ev)
    (hs : step cfg s t = some (s', ev)) (hin : s.state t = .inactive) :
    (s.pc t = .wtState → s'.pc t = .pubCnt .wait) ∧
    (s.pc t = .lkRepub → s'.pc t = .pubCnt .lock) ∧
    (s.pc t = .acqLd → s'.pc t = .pubCnt .acq) := by
  refine ⟨?_, ?_, ?_⟩ <;> intro hpc <;> simp only [step, hpc, Option.some.injEq, Prod.mk.injEq] at hs <;>
    obtain ⟨rfl, -⟩ := hs <;> simp [hin]

/-- … and a thread that starts combining with a pending request has its OWN record linked and active (it has
    re-published it under the lock if necessary; nobody else can deactivate it meanwhile), so the first pass visits
    and serves it: this is why `C23_combiner_assert` holds even if the record was deactivated between the publication
    of the request and the lock acquisition. -/
theorem C23_combiner_own_record (cfg : Cfg) (s : St) (h : (model cfg).Reachable init s) :
    (∀ t, s.pc t = .cmbCnt → s.req t = .resp ∨ (s.inList t = true ∧ s.state t = .active)) ∧
    (∀ t c k, cpIdx (s.pc t) = some (c, k) →
        s.req t = .resp ∨ (c.pass = 0 ∧ k ≤ t ∧ t < cfg.N ∧ s.inList t = true ∧ s.state t = .active)) := by
  have hinv := kinv_reachable cfg s h
  refine ⟨hinv.cmb, fun t c k hk => ?_⟩
  rcases hinv.pass t c k hk with h1 | ⟨h1, h2, h3, h4⟩
  · exact Or.inl h1
  · refine Or.inr ⟨h1, h2, hinv.bound t ?_, h3, h4⟩
    intro hp; simp [hp, cpIdx] at hk

/-- An active record that is not linked is in one of the two short windows: its owner is about to link it, or the
    combiner has unlinked it and is about to store `inactive`. -/
theorem C23_active_unlinked_window (cfg : Cfg) (s : St) (h : (model cfg).Reachable init s) :
    ∀ r, s.state r = .active → s.inList r = false →
      (∃ c, s.pc r = .pubLink c) ∨ (∃ t a, holds (s.pc t) = true ∧ s.pc t = .ccInact a r) := by
  have hinv := kinv_reachable cfg s h
  intro r h1 h2
  rcases hinv.unlinked r h1 h2 with h3 | h3
  · left
    cases hp : s.pc r <;> simp [hp, isLink] at h3
    exact ⟨_, rfl⟩
  · right
    cases hp : s.pc s.holder <;> simp [hp, inactIdx] at h3
    rename_i a k
    subst h3
    exact ⟨s.holder, a, by simp [hp, holds], hp⟩

/-! ### Runs evaluated by the kernel (`decide`) -/

def steps (t : Tid) (n : Nat) : List (Tid × Act) := List.replicate n (t, .step)
def anyOp : GOp := ⟨"op", []⟩

/-- What the examples look at: lock, m_nCount, and for records 0 and 1: nRequest, nState, linked?, execs; the pcs. -/
def view (s : St) :=
  (s.lock, s.count, (s.req 0, s.req 1), (s.state 0, s.state 1), (s.inList 0, s.inList 1), (s.execs 0, s.execs 1),
   (s.pc 0, s.pc 1))

def runView (cfg : Cfg) (sched : List (Tid × Act)) := ((model cfg).run init sched).map (fun r => view r.1)

set_option synthInstance.maxSize 4000 in
/-- Two threads, ONE combiner session serves both.  Thread 1 publishes its record and stores its request; thread 0
    does the same, takes the lock; thread 1's `try_lock` fails, it waits; thread 0 walks the list once
    (`N = 2`, one pass, no compaction: `1 & 3 ≠ 0`), applies both requests, unlocks, returns; thread 1 reads
    req_Response and returns.  `m_nCount = 1`: there was one combining session; both requests were executed once. -/
example : runView ⟨2, 3, 1⟩
    ([(1, .invoke anyOp)] ++ steps 1 6 ++ [(0, .invoke anyOp)] ++ steps 0 7 ++ steps 1 1 ++ steps 0 15 ++ [(0, .ret)] ++
      steps 1 2 ++ [(1, .ret)]) =
    some (false, 1, (.empty, .empty), (.active, .active), (true, true), (1, 1), (.idle, .idle)) := by
  decide +kernel

set_option synthInstance.maxSize 4000 in
/-- … in the middle of that run: thread 0 is the combiner and has just applied and answered thread 1's request
    (`cpWalk _ 2`), thread 1 is still in its wait loop. -/
example : runView ⟨2, 3, 1⟩
    ([(1, .invoke anyOp)] ++ steps 1 6 ++ [(0, .invoke anyOp)] ++ steps 0 7 ++ steps 1 1 ++ steps 0 12) =
    some (true, 1, (.resp, .resp), (.active, .active), (true, true), (1, 1),
      (.cpWalk ⟨1, 0, 0, 0, true⟩ 2, .wtReq)) := by
  decide +kernel

set_option synthInstance.maxSize 4000 in
/-- A record deactivated between the publication of a request and the lock acquisition is still served.
    Compact factor mask 0 (compaction after every session, every record not served in it is deactivated).
    Thread 1 publishes its record (age 0) and stops just before storing its request.  Thread 0 runs a combining pass
    (record 1 is empty: skipped).  Thread 1 now stores its request.  Thread 0's `compact_list` finds record 1 old,
    unlinks and deactivates it - with the request pending - and thread 0 returns.  State: -/
example : runView ⟨2, 0, 1⟩
    ([(1, .invoke anyOp)] ++ steps 1 5 ++ [(0, .invoke anyOp)] ++ steps 0 18 ++ steps 1 1 ++ steps 0 11 ++ [(0, .ret)]) =
    some (false, 1, (.empty, .op), (.active, .inactive), (true, false), (1, 0), (.idle, .tryLock)) := by
  decide +kernel

set_option synthInstance.maxSize 4000 in
/-- … thread 1 then takes the lock, sees its record inactive and REPUBLISHES it under the lock … -/
example : runView ⟨2, 0, 1⟩
    ([(1, .invoke anyOp)] ++ steps 1 5 ++ [(0, .invoke anyOp)] ++ steps 0 18 ++ steps 1 1 ++ steps 0 11 ++ [(0, .ret)] ++
      steps 1 2) =
    some (true, 1, (.empty, .op), (.active, .inactive), (true, false), (1, 0), (.idle, .pubCnt .lock)) := by
  decide +kernel

set_option synthInstance.maxSize 4000 in
/-- … and serves itself: executed exactly once, record 1 linked and active again (record 0, now old, has been
    deactivated by thread 1's compaction in turn). -/
example : runView ⟨2, 0, 1⟩
    ([(1, .invoke anyOp)] ++ steps 1 5 ++ [(0, .invoke anyOp)] ++ steps 0 18 ++ steps 1 1 ++ steps 0 11 ++ [(0, .ret)] ++
      steps 1 27 ++ [(1, .ret)]) =
    some (false, 2, (.empty, .empty), (.inactive, .active), (false, true), (1, 1), (.idle, .idle)) := by
  decide +kernel

/-- A thread cannot return before it is served: asking for `ret` while waiting is not a run. -/
example : runView ⟨2, 3, 1⟩
    ([(1, .invoke anyOp)] ++ steps 1 6 ++ [(0, .invoke anyOp)] ++ steps 0 7 ++ steps 1 1 ++ [(1, .ret)]) = none := by
  decide +kernel

end CdsVerif.Props.C23Kernel
