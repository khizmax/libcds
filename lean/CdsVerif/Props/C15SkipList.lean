/-
  C15 — the lock-free skip list (cds::intrusive::SkipListSet<HP>: insert, erase with functor, find with functor,
  contains), atomic-step model `Algo/SkipList/Model.lean` (towers of marked next pointers, `find_position` with
  helping, `insert_at_position` with `renew_insert_position`, `try_remove_at`, `find_fastpath` + slow path; tower
  heights from ANY generator, `c_nMaxHeight` a parameter, `Cfg.markTest`: the fast path with / without the test of the
  level-0 mark of the node it is about to report).
  Property theorems only; the invariant and the proofs live in `Algo/SkipList/{Inv,Eff,Upd,StepBase,StepTrav,StepMisc,
  StepCas,Reach,Lin,Level0}.lean`.

  PROVED for the REPAIRED code (`markTest = true`, /repo b95a3c3; what `cdsdriver replay skiplist` checks traces
  against), for ALL schedules, any number of threads, any keys, any tower heights, any `c_nMaxHeight ≥ 1`:
    * `C15_skiplist_linearizable` (+ `_complete_runs`, `_no_effect_pending`): every history is linearizable to the
      sequential map, in the form of `C13_michael_linearizable`.  Linearization points: the level-0 CAS (insert), the
      level-0 marking CAS (erase), the load that reads an UNMARKED word of an item with the key (key found; on the slow
      path it is tentative until `pPred->next(lvl)` is validated, and withdrawn otherwise — hindsight, as for
      MichaelList), the validated level-0 load of `pPred->next(0)` (key absent), and a HELPED point: an erase
      that loses the race for the level-0 mark answers "not found" (`erase contention`) although the item may be
      unlinked and the key inserted again before the loser runs; it is linearized right behind the winner's marking
      CAS, in the same step (`LPLin.HelpStepOK`: the winner's step passes the losers' linearization points too).
    * `C15_skiplist_invariant` and its readings: level 0 is a chain from the head, STRICTLY sorted (no key twice); every
      tower word on every level holds null or a published item (linked on level 0 or marked there) that is tall enough;
      an item marked on level 0 is marked on all its upper levels; erase once (`C15_skiplist_mark_once`).
  PROVED for the code BEFORE the repair (`markTest := false`): it is NOT linearizable
  (`C15_skiplist_not_linearizable_without_mark_test`): a thread that loses the erase race and then looks the key up
  gets `erase k → 0` followed by `find k → found`; the unrepaired tree produced exactly this history (harness client
  `tree`, variant `iskipset_hp_named`, seed 5, case 1526, `--keys 2`).

  NOT proved (checked on every state of every replayed trace by `SkipList.invB`, and by `./check C18` on quiescent
  snapshots): that every UPPER level is sorted and a sub-list of the level below.  Linearizability does not need it
  (a traversal compares keys itself before it advances, so the upper levels may point at any published item); a proof
  needs the top-down unlinking discipline of the counter `m_nUnlink`, which the invariant here does not track.

  Assumption of the model: garbage-collected heap (a node is not reused while a thread may hold a pointer to it) — what
  the hazard pointers provide (C01/C02).  Tie to the real code: `cdsdriver replay skiplist` on traces of the variant
  `iskipset_hp_named` (`fastmark=0` in the header selects the machine without the mark test).
-/
import CdsVerif.Algo.SkipList.Abs
import CdsVerif.Algo.SkipList.Lin
import CdsVerif.Algo.SkipList.Frozen
import CdsVerif.Algo.SkipList.Level0
namespace CdsVerif.Props.C15SkipList
open CdsVerif.Machine CdsVerif.Lin CdsVerif.Spec CdsVerif.Algo

def steps (t : Tid) (n : Nat) : List (Tid × Act) := List.replicate n (t, .step)
def ins (k v : Int) : GOp := ⟨"insert", [k, v]⟩
def era (k : Int) : GOp := ⟨"erase", [k]⟩
def fnd (k : Int) : GOp := ⟨"find", [k]⟩
def con (k : Int) : GOp := ⟨"contains", [k]⟩

/-- The configuration of the harness (`c_nMaxHeight = 3`, `c_nMinHeight = 5`), all towers of height 1, the fast path
    WITHOUT the mark test (the code before the repair b95a3c3). -/
def cfg1 : SkipList.Cfg := { maxH := 3, ht := fun _ => 1, markTest := false }

/-! ### The counterexample -/

/-- Thread 0 inserts key 1.  Threads 1 and 2 both erase key 1: thread 1 locates the node (`find_position`), then
    thread 2 locates it and marks its level 0 (`cas+ n1.0 null null|1`) and is delayed before unlinking it.  Thread 1's
    marking CAS fails on the marked word (`cas- n1.0 null|1 null`): erase contention, it answers 0.  Thread 1 then looks
    the key up: the fast path reads `h.0 = n1.0`, the keys are equal, it answers `[1, 10]`.  Thread 2 finally unlinks
    the node and answers `[1, 10]`. -/
def badSched : List (Tid × Act) :=
  [(0, .invoke (ins 1 10))] ++ steps 0 9 ++ [(0, .ret), (1, .invoke (era 1))] ++ steps 1 8 ++
  [(2, .invoke (era 1))] ++ steps 2 10 ++ steps 1 2 ++ [(1, .ret), (1, .invoke (fnd 1))] ++ steps 1 11 ++ [(1, .ret)] ++
  steps 2 3 ++ [(2, .ret)]

def badHist : List (OpRec GOp GRet) :=
  [⟨0, ins 1 10, [1], 0, 10⟩, ⟨1, era 1, [0], 11, 33⟩, ⟨1, fnd 1, [1, 10], 34, 46⟩, ⟨2, era 1, [1, 10], 20, 50⟩]

/-- The run exists, every thread is idle at its end, and its history is `badHist`. -/
theorem C15_skiplist_bad_run :
    ((SkipList.model cfg1).run (SkipList.init cfg1) badSched).map
      (fun r => (SkipList.historyOf r.2, r.1.pc 0, r.1.pc 1, r.1.pc 2)) = some (badHist, .idle, .idle, .idle) := by
  decide +kernel

/-- The interesting part of that run, as harness trace lines. -/
example : ((SkipList.model cfg1).run (SkipList.init cfg1) badSched).map (fun r => (r.2.drop 28).take 18) =
    some [(2, .ev ⟨"ld", "h.0", "n1.0", ""⟩),             -- thread 2: validation of pPrev[0]
          (2, .ev ⟨"ld", "n1.0", "null", ""⟩),            -- try_remove_at: p = pDel->next(0)
          (2, .ev ⟨"cas+", "n1.0", "null", "null|1"⟩),    -- T 2 A cas+ n1.0 null null|1     (logical deletion)
          (1, .ev ⟨"ld", "n1.0", "null|1", ""⟩),
          (1, .ev ⟨"cas-", "n1.0", "null|1", "null"⟩),    -- T 1 A cas- n1.0 null|1 null     (erase contention)
          (1, .ret [0]),                                   -- T 1 R [0]                       erase 1 -> not found
          (1, .call (fnd 1)),
          (1, .ev ⟨"ld", "hgt", "5", ""⟩),
          (1, .ev ⟨"ld", "h.4", "null", ""⟩),
          (1, .ev ⟨"ld", "h.4", "null", ""⟩),
          (1, .ev ⟨"ld", "h.3", "null", ""⟩),
          (1, .ev ⟨"ld", "h.3", "null", ""⟩),
          (1, .ev ⟨"ld", "h.2", "null", ""⟩),
          (1, .ev ⟨"ld", "h.2", "null", ""⟩),
          (1, .ev ⟨"ld", "h.1", "null", ""⟩),
          (1, .ev ⟨"ld", "h.1", "null", ""⟩),
          (1, .ev ⟨"ld", "h.0", "n1.0", ""⟩),             -- fast path: pCur = n1, key equal — its mark is not looked at
          (1, .ev ⟨"ld", "h.0", "n1.0", ""⟩)] := by decide +kernel

/-- `badHist` is not linearizable to the sequential set: thread 1's `erase 1 → 0` precedes its own `find 1 → [1, 10]`
    in real time, and the only insert of key 1 precedes both. -/
theorem C15_badHist_not_linearizable : ¬ Linearizable map badHist :=
  not_linearizable_of_linCheck_eq_false map badHist (by decide) (by decide +kernel)

/-- **Without the mark test in `find_fastpath` the skip list is not linearizable.**  There is a run of the machine,
    for the harness configuration, at whose end every thread that took part is idle (every invoked operation has
    returned) and whose history is not linearizable to `Spec.map`: the analogue of
    `C13_michael_linearizable_complete_runs` fails. -/
theorem C15_skiplist_not_linearizable_without_mark_test :
    ¬ ∀ (sched : List (Tid × Act)) (s : SkipList.St) (os : List (Tid × Obs)),
        (SkipList.model cfg1).run (SkipList.init cfg1) sched = some (s, os) →
        (∀ t, t ∈ sched.map (·.1) → s.pc t = .idle) →
        Linearizable map (SkipList.historyOf os) := by
  intro h
  obtain ⟨⟨s, os⟩, hr, hb⟩ := Option.map_eq_some_iff.mp C15_skiplist_bad_run
  obtain ⟨hhist, h0, h1, h2⟩ :
      SkipList.historyOf os = badHist ∧ s.pc 0 = .idle ∧ s.pc 1 = .idle ∧ s.pc 2 = .idle := by
    simpa only [Prod.mk.injEq] using hb
  have hthr : ∀ t, t ∈ badSched.map (·.1) → t = 0 ∨ t = 1 ∨ t = 2 := by decide +kernel
  refine C15_badHist_not_linearizable (hhist ▸ h badSched s os hr ?_)
  intro t ht
  rcases hthr t ht with rfl | rfl | rfl
  · exact h0
  · exact h1
  · exact h2

/-! ### The same schedule on the repaired code -/

/-- The harness configuration with the repaired fast path (`markTest := true` is the default). -/
def cfgR : SkipList.Cfg := { maxH := 3, ht := fun _ => 1 }

/-- `badSched` up to thread 1's `find 1`, then the repaired code: the fast path reaches `n1`, loads `n1.0`, sees the
    mark and falls back to the slow path (20 more steps), which helps to unlink `n1` and answers "not found". -/
def goodSched : List (Tid × Act) :=
  [(0, .invoke (ins 1 10))] ++ steps 0 9 ++ [(0, .ret), (1, .invoke (era 1))] ++ steps 1 8 ++
  [(2, .invoke (era 1))] ++ steps 2 10 ++ steps 1 2 ++ [(1, .ret), (1, .invoke (fnd 1))] ++ steps 1 31 ++ [(1, .ret)] ++
  steps 2 8 ++ [(2, .ret)]

set_option synthInstance.maxSize 2000 in
/-- On the repaired machine thread 1 answers `find 1 → 0`, the history is linearizable, the list is empty and well
    formed at the end. -/
theorem C15_repaired_run :
    ((SkipList.model cfgR).run (SkipList.init cfgR) goodSched).map
      (fun r => (SkipList.historyOf r.2, linCheck map (SkipList.historyOf r.2), SkipList.wellFormed r.1 3,
        SkipList.levelNodes r.1 0)) =
    some ([⟨0, ins 1 10, [1], 0, 10⟩, ⟨1, era 1, [0], 11, 33⟩, ⟨1, fnd 1, [0], 34, 66⟩, ⟨2, era 1, [1, 10], 20, 75⟩],
      true, true, []) := by
  decide +kernel

/-- The fast path of that run: the new load of `n1.0`, then the slow path with helping. -/
example : ((SkipList.model cfgR).run (SkipList.init cfgR) goodSched).map (fun r => (r.2.drop 44).take 9) =
    some [(1, .ev ⟨"ld", "h.0", "n1.0", ""⟩),
          (1, .ev ⟨"ld", "h.0", "n1.0", ""⟩),             -- fast path: pCur = n1, key equal
          (1, .ev ⟨"ld", "n1.0", "null|1", ""⟩),          -- qChk: pCur->next(0) is marked -> find_fastpath_abort
          (1, .ev ⟨"ld", "h.2", "null", ""⟩),             -- slow path: find_position from the top
          (1, .ev ⟨"ld", "h.2", "null", ""⟩),
          (1, .ev ⟨"ld", "h.1", "null", ""⟩),
          (1, .ev ⟨"ld", "h.1", "null", ""⟩),
          (1, .ev ⟨"ld", "h.0", "n1.0", ""⟩),
          (1, .ev ⟨"ld", "h.0", "n1.0", ""⟩)] := by decide +kernel

/-! ### The repaired code: linearizability and the invariant, for all schedules -/

/-- **Linearizability of the lock-free skip list** (repaired fast path), general form (Herlihy–Wing with completion
    of pending operations), for EVERY configuration with `c_nMaxHeight ≥ 1` (any tower-height generator), EVERY
    schedule, any number of threads and any keys: the history of the completed operations — extended by response
    records for pending operations that have already passed their definitive linearization point (successful inserts
    and erases inside `insert_at_position` / `try_remove_at`; at most one per thread), all other pending operations
    being dropped — is linearizable to the sequential map. -/
theorem C15_skiplist_linearizable (c : SkipList.Cfg) (hc : 0 < c.maxH) (hmt : c.markTest = true)
    (sched : List (Tid × Act)) (s : SkipList.St) (os : List (Tid × Obs))
    (h : (SkipList.model c).run (SkipList.init c) sched = some (s, os)) :
    ∃ extra : List (OpRec GOp GRet),
      (∀ e ∈ extra, SkipList.pendingOf os e.tid = some (e.op, e.inv) ∧ e.res = os.length ∧
          SkipList.postRet s.val (s.pc e.tid) = some e.ret) ∧
      extra.Pairwise (fun a b => a.tid ≠ b.tid) ∧
      Linearizable map (SkipList.historyOf os ++ extra) :=
  SkipList.skiplist_linearizable hc hmt sched s os h

/-- Runs in which every invoked operation has returned: the history is linearizable as it is.  (For
    `markTest := false` this very statement is refuted by `C15_skiplist_not_linearizable_without_mark_test`.) -/
theorem C15_skiplist_linearizable_complete_runs (c : SkipList.Cfg) (hc : 0 < c.maxH) (hmt : c.markTest = true)
    (sched : List (Tid × Act)) (s : SkipList.St) (os : List (Tid × Obs))
    (h : (SkipList.model c).run (SkipList.init c) sched = some (s, os)) (hq : ∀ t, s.pc t = .idle) :
    Linearizable map (SkipList.historyOf os) :=
  SkipList.skiplist_linearizable_complete_runs hc hmt sched s os h hq

/-- Runs at whose end no thread is between its definitive linearization point and its return. -/
theorem C15_skiplist_linearizable_no_effect_pending (c : SkipList.Cfg) (hc : 0 < c.maxH) (hmt : c.markTest = true)
    (sched : List (Tid × Act)) (s : SkipList.St) (os : List (Tid × Obs))
    (h : (SkipList.model c).run (SkipList.init c) sched = some (s, os))
    (hq : ∀ t, SkipList.postRet s.val (s.pc t) = none) : Linearizable map (SkipList.historyOf os) :=
  SkipList.skiplist_linearizable_no_effect_pending hc hmt sched s os h hq

/-- The harness configuration is an instance. -/
example (sched : List (Tid × Act)) (s : SkipList.St) (os : List (Tid × Obs))
    (h : (SkipList.model cfgR).run (SkipList.init cfgR) sched = some (s, os)) (hq : ∀ t, s.pc t = .idle) :
    Linearizable map (SkipList.historyOf os) :=
  C15_skiplist_linearizable_complete_runs cfgR (by decide) rfl sched s os h hq

/-- **The invariant holds in every reachable state** (`SkipList.SInvL`: global part `g`, per-thread part `thr`, and
    ownership of the private items). -/
theorem C15_skiplist_invariant (c : SkipList.Cfg) (hc : 0 < c.maxH) (hmt : c.markTest = true)
    (sched : List (Tid × Act)) (s : SkipList.St) (os : List (Tid × Obs))
    (h : (SkipList.model c).run (SkipList.init c) sched = some (s, os)) : ∃ L, SkipList.SInvL c s L :=
  SkipList.sinv_run hc hmt sched s os h

/-- Readings of the invariant.  In every reachable state there is a list `L = 0 :: …` (the head, then the items linked
    on level 0) such that: `L` is the level-0 chain from the head; the keys along it are STRICTLY increasing (no key is
    present twice); every tower word of every level holds null or an item `b ≠ head` that is published — on `L`, or
    marked on level 0 — and has a tower taller than that level; an item marked on level 0 is marked on every level of
    its tower; the head is never marked. -/
theorem C15_skiplist_structure (c : SkipList.Cfg) (hc : 0 < c.maxH) (hmt : c.markTest = true)
    (sched : List (Tid × Act)) (s : SkipList.St) (os : List (Tid × Obs))
    (h : (SkipList.model c).run (SkipList.init c) sched = some (s, os)) :
    ∃ L, Michael.Chain (fun a => s.next a 0) (some 0) L ∧
      L.Pairwise (fun a b => b ≠ 0 ∧ (a = 0 ∨ s.key a < s.key b)) ∧
      (∀ a l b, s.next a l = some b → b ≠ 0 ∧ (b ∈ L ∨ s.mark b 0 = true) ∧ l < s.ht b) ∧
      (∀ a l, s.mark a 0 = true → l < s.ht a → s.mark a l = true) ∧
      s.mark 0 0 = false := by
  obtain ⟨L, hl⟩ := SkipList.sinv_run hc hmt sched s os h
  exact ⟨L, hl.g.chain, hl.g.sorted, hl.g.ptr, hl.g.mmono, hl.g.mark0_head⟩

/-- The level-0 clauses of the executable predicate `SkipList.invB` (which `cdsdriver replay skiplist` evaluates on
    every state of every replayed trace) hold in EVERY reachable state: the items reached from the head along level 0
    (`levelNodes s 0`, computed by walking the pointers) have strictly increasing keys — no key twice —, are allocated
    items; and an item marked on level 0 is marked on every level of its tower.  (The clauses of `invB` about the
    UPPER levels — sorted, sub-list of the level below — are not proved.) -/
theorem C15_skiplist_level0 (c : SkipList.Cfg) (hc : 0 < c.maxH) (hmt : c.markTest = true)
    (sched : List (Tid × Act)) (s : SkipList.St) (os : List (Tid × Obs))
    (h : (SkipList.model c).run (SkipList.init c) sched = some (s, os)) :
    (SkipList.levelNodes s 0).Pairwise (fun a b => s.key a < s.key b) ∧
    (∀ a, a ∈ SkipList.levelNodes s 0 → 0 < a ∧ a < s.cnt ∧ 0 < s.ht a) ∧
    (∀ a, s.mark a 0 = true → ∀ l, l < s.ht a → s.mark a l = true) := by
  obtain ⟨L, hl⟩ := SkipList.sinv_run hc hmt sched s os h
  exact hl.level0

/-- Erase once, step level (any state): level 0 of an item is marked only by the marking CAS of `try_remove_at` of a
    thread erasing that item, which then answers `[1, val]` (`eMk … 0` is not reachable: the upper-level loop of
    `try_remove_at` runs over levels ≥ 1 — `SkipList.TOk`). -/
theorem C15_skiplist_mark_once {c : SkipList.Cfg} {s s' : SkipList.St} {t : Tid} {ev : Ev}
    (h : SkipList.step c s t = some (s', ev)) (a : Nat) (h0 : s.mark a 0 = false) (h1 : s'.mark a 0 = true) :
    (∃ k p pp ps, s.pc t = .e0Mk k a p pp ps ∧ s'.pc t = .eH1 k a (s.ht a - 1) pp ps) ∨
    (∃ k sx pp ps, s.pc t = .eMk k a 0 sx pp ps) :=
  SkipList.mark0_set_step h a h0 h1

/-! ### Further runs of the machine -/

/-- Heights: item 1 has a tower of height 2, item 2 of height 3. -/
def cfg2 : SkipList.Cfg := { maxH := 3, ht := fun j => if j = 1 then 2 else 3 }

/-- Two racing inserts of different heights.  Thread 0 inserts key 5 (height 2), thread 1 key 3 (height 3); both find
    the list empty.  Thread 0 links level 0 first; thread 1's level-0 CAS fails (`cas- h.0 n1.0 null`), it searches
    again and links `n2` in front of `n1` on all three levels.  Thread 0's CAS on `h.1` then fails
    (`cas- h.1 n2.0 null`): `renew_insert_position` rescans, finds `n2` as the new predecessor on level 1, and the level
    is linked behind it (`cas+ n2.1 null n1.0`).  At the end every level is sorted and a sub-list of the level below. -/
def raceSched : List (Tid × Act) :=
  [(0, .invoke (ins 5 10)), (1, .invoke (ins 3 20))] ++ steps 0 6 ++ steps 1 6 ++ steps 0 4 ++ steps 1 21 ++ [(1, .ret)] ++
  steps 0 16 ++ [(0, .ret)]

example : ((SkipList.model cfg2).run (SkipList.init cfg2) raceSched).map (fun r => (r.2.drop 14)) =
    some [(0, .ev ⟨"st", "n1.1", "null", ""⟩),
          (0, .ev ⟨"st", "n1.0", "null", ""⟩),
          (0, .ev ⟨"cas+", "h.0", "null", "n1.0"⟩),        -- linearization point of insert 5
          (0, .ev ⟨"cas+", "n1.1", "null", "null"⟩),       -- level 1 of n1 prepared ...
          (1, .ev ⟨"st", "n2.1", "null", ""⟩),
          (1, .ev ⟨"st", "n2.2", "null", ""⟩),
          (1, .ev ⟨"st", "n2.0", "null", ""⟩),
          (1, .ev ⟨"cas-", "h.0", "n1.0", "null"⟩),        -- T 1 A cas- h.0 n1.0 null   (lost the race on level 0): retry
          (1, .ev ⟨"ld", "h.2", "null", ""⟩),
          (1, .ev ⟨"ld", "h.2", "null", ""⟩),
          (1, .ev ⟨"ld", "h.1", "null", ""⟩),
          (1, .ev ⟨"ld", "h.1", "null", ""⟩),
          (1, .ev ⟨"ld", "h.0", "n1.0", ""⟩),
          (1, .ev ⟨"ld", "h.0", "n1.0", ""⟩),
          (1, .ev ⟨"ld", "n1.0", "null", ""⟩),
          (1, .ev ⟨"ld", "h.0", "n1.0", ""⟩),
          (1, .ev ⟨"st", "n2.1", "null", ""⟩),
          (1, .ev ⟨"st", "n2.2", "null", ""⟩),
          (1, .ev ⟨"st", "n2.0", "n1.0", ""⟩),
          (1, .ev ⟨"cas+", "h.0", "n1.0", "n2.0"⟩),        -- linearization point of insert 3
          (1, .ev ⟨"cas+", "n2.1", "null", "null"⟩),
          (1, .ev ⟨"cas+", "h.1", "null", "n2.0"⟩),        -- n2 linked on level 1 before n1
          (1, .ev ⟨"cas+", "n2.2", "null", "null"⟩),
          (1, .ev ⟨"cas+", "h.2", "null", "n2.0"⟩),
          (1, .ev ⟨"ld", "hgt", "5", ""⟩),
          (1, .ret [1]),
          (0, .ev ⟨"cas-", "h.1", "n2.0", "null"⟩),        -- T 0 A cas- h.1 n2.0 null   : renew_insert_position
          (0, .ev ⟨"ld", "h.2", "n2.0", ""⟩),
          (0, .ev ⟨"ld", "h.2", "n2.0", ""⟩),
          (0, .ev ⟨"ld", "n2.2", "null", ""⟩),
          (0, .ev ⟨"ld", "h.2", "n2.0", ""⟩),
          (0, .ev ⟨"ld", "n2.2", "null", ""⟩),
          (0, .ev ⟨"ld", "n2.2", "null", ""⟩),
          (0, .ev ⟨"ld", "n2.1", "null", ""⟩),
          (0, .ev ⟨"ld", "n2.1", "null", ""⟩),
          (0, .ev ⟨"ld", "n2.0", "n1.0", ""⟩),
          (0, .ev ⟨"ld", "n2.0", "n1.0", ""⟩),
          (0, .ev ⟨"ld", "n1.0", "null", ""⟩),
          (0, .ev ⟨"ld", "n2.0", "n1.0", ""⟩),
          (0, .ev ⟨"cas+", "n1.1", "null", "null"⟩),
          (0, .ev ⟨"cas+", "n2.1", "null", "n1.0"⟩),       -- level 1 linked behind the NEW predecessor
          (0, .ev ⟨"ld", "hgt", "5", ""⟩),
          (0, .ret [1])] := by decide +kernel

set_option synthInstance.maxSize 2000 in
example : ((SkipList.model cfg2).run (SkipList.init cfg2) raceSched).map
    (fun r => (SkipList.levelNodes r.1 0, SkipList.levelNodes r.1 1, SkipList.levelNodes r.1 2, SkipList.absMap r.1,
      SkipList.wellFormed r.1 3, linCheck map (SkipList.historyOf r.2))) =
    some ([2, 1], [2, 1], [2], [(3, 20), (5, 10)], true, true) := by decide +kernel

end CdsVerif.Props.C15SkipList
