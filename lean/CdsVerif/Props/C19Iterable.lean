/-
  C19 (the part about IterableList) — "Iterators of IterableList never expose a disposed element while it is the
  current element.  They visit every element present for the whole iteration exactly once and in increasing key
  order.  erase_at(iterator) removes exactly the element the iterator points to, or returns false if that element
  was already removed or replaced."

  Theorems about the atomic-step machine `Algo/Iterable/Model.lean` (cds/intrusive/impl/iterable_list.h: insert /
  update / erase / find / contains, begin / end / operator++ / erase_at( iterator ) / ~iterator, abstract
  reclamation), for EVERY schedule, any number of threads, any keys.  Property theorems only; the model, the
  invariants (`SInv`, `CInv`) and the proofs live in `Algo/Iterable/{Model,Inv,Step,Step2,Step3,Iter,Run,Sorted}.lean`.
  The machine is tied to the real code by trace conformance (`cdsdriver replay iterable`, client
  harness/clients/iter.cpp variant `ilist_hp`, pre-pass tools/iterable_pre.py).

  RESULT.
    A  structure            PROVED except the sortedness clause, which is FALSE of the real algorithm (FINDING, below):
                            `C19_chain`, `C19_chain_append_only`, `C19_element_in_one_node`, `C19_element_never_moves`,
                            `C19_head_tail_empty`, `C19_mark_discipline`, `C19_sorted_keys_not_invariant`;
                            what IS true of sortedness: `C19_sorted_preserved_except_reuse` (every transition except the
                            successful re-use CAS of `link_data` preserves it) and `C19_sorted_reuse_partial` (that CAS
                            preserves it if no node in front of `pPrev` holds a key >= the new key at that instant).
    B  never disposed       PROVED: `C19_iter_never_disposed_current`.
    C  complete / once      PROVED: `C19_iter_complete_once`.
       ordered              PROVED RELATIVE TO SORTEDNESS of the final state: `C19_iter_ordered_partial`; the unconditional
                            statement is false (`C19_iter_order_can_fail`: a sequential iteration yields keys 2, 1).
    D  erase_at exact       PROVED: `C19_erase_at_exact`, `C19_erase_at_false_only`, `C19_retired_once`,
                            `C19_erase_at_stands_on_element`.
    E  non-vacuity          the `example`s at the end.

  FINDING (confirmed on the unchanged real code: harness/probes/iterable_find_prev_race.cpp, two threads, six
  operations).  `link_data` re-validates the re-use of an emptied node with `find_prev()`, a walk from the head that
  is NOT atomic: while the walker stands in front of node `C`, another thread can insert a larger key BEHIND the
  walker (new node after the head, or re-use of an empty node the walker has passed) and then empty `C`, the node
  that would have stopped the walker.  The walk then reaches the inserter's own marked nodes, `find_prev` returns
  `pos.pPrev`, and the new key is stored behind a larger one.  Consequences: the list is not sorted any more;
  `insert(1)` returned true but `contains(1)` is false; a later (even sequential) iteration yields keys 2, 1.
  Hence the clause "keys strictly increasing along the chain at every reachable state" of A and the clause "in
  increasing key order" of C are not theorems of this algorithm.  Stated below: the machine-checked counterexample,
  and the order clause under the hypothesis that the final state is sorted.

  Assumptions of the model (see the header of Model.lean): sequentially consistent interleavings of atomic
  operations; CAS never fails spuriously; element ids are never re-used; `retire` is part of the removing CAS step; a
  scan reads all hazard slots atomically; only the iterator's guard is modelled as a hazard slot.
-/
import CdsVerif.Algo.Iterable.Sorted
namespace CdsVerif.Props.C19Iterable
open CdsVerif.Machine CdsVerif.Spec CdsVerif.Algo

/-! ### A. Structure -/

/-- The node chain from the head is finite: `chain s` (follow `next` from the head, at most `ncnt` steps) starts
    with the head, ends with the tail, consecutive entries are linked by `next`, it is strictly increasing in the
    ghost chain order `lt` (so it has no duplicates) and it consists of exactly the nodes ever linked (`lk`). -/
theorem C19_chain (n : Nat) (s : Iterable.St) (h : Iterable.model.Reachable (Iterable.init n) s) :
    (∃ r, Iterable.chain s = Iterable.hd :: r) ∧ (Iterable.chain s).getLast? = some Iterable.tl ∧
    Iterable.consec s.next (Iterable.chain s) ∧
    (Iterable.chain s).Pairwise (fun x y => s.lt x y = true) ∧ (∀ b, b ∈ Iterable.chain s ↔ s.lk b = true) :=
  Iterable.chain_spec (Iterable.sinv_reachable n s h)

/-- The chain is append-only: a step never unlinks a node and never changes the relative order of the nodes linked
    so far (new nodes are inserted between existing ones: `ltIns`); node ids are never re-used. -/
theorem C19_chain_append_only (n : Nat) (s s' : Iterable.St) (t : Tid) (ev : Ev)
    (h : Iterable.model.Reachable (Iterable.init n) s) (hs : Iterable.step s t = some (s', ev)) :
    (∀ a, s.lk a = true → s'.lk a = true) ∧
    (∀ a b, s.lk a = true → s.lk b = true → s'.lt a b = s.lt a b) ∧ s.ncnt ≤ s'.ncnt :=
  let r := Iterable.step_chain_mono (Iterable.sinv_reachable n s h) hs
  ⟨r.1, r.2.1, r.2.2.1⟩

/-- The ghost order really is the order of the `next` pointers: `next a` is the immediate successor of every linked
    node `a` other than the tail, the tail points to itself, head first, tail last, total, transitive, irreflexive. -/
theorem C19_chain_order (n : Nat) (s : Iterable.St) (h : Iterable.model.Reachable (Iterable.init n) s) :
    Iterable.OrdP s.lk s.lt s.next s.ncnt :=
  (Iterable.sinv_reachable n s h).ord

/-- Each element id is stored in at most one node at a time. -/
theorem C19_element_in_one_node (n : Nat) (s : Iterable.St) (h : Iterable.model.Reachable (Iterable.init n) s)
    (a b e : Nat) (ha : (s.data a).p = some e) (hb : (s.data b).p = some e) : a = b := by
  have hS := Iterable.sinv_reachable n s h
  have h1 := hS.elem.ehome a e ha
  have h2 := hS.elem.ehome b e hb
  rw [h1] at h2; exact Option.some.inj h2

/-- An element never moves between nodes: the node it is stored in is its `home`, and `home` is written once. -/
theorem C19_element_never_moves (n : Nat) (s s' : Iterable.St) (t : Tid) (ev : Ev)
    (h : Iterable.model.Reachable (Iterable.init n) s) (hs : Iterable.step s t = some (s', ev)) :
    (∀ a e, (s.data a).p = some e → s.home e = some a) ∧ (∀ e a, s.home e = some a → s'.home e = some a) :=
  ⟨(Iterable.sinv_reachable n s h).elem.ehome, fun _ _ hh => Iterable.step_home_mono (Iterable.sinv_reachable n s h) hs hh⟩

/-- Head and tail never hold an element; an element stored in a node is not retired; disposed ⊆ retired. -/
theorem C19_head_tail_empty (n : Nat) (s : Iterable.St) (h : Iterable.model.Reachable (Iterable.init n) s) :
    (s.data Iterable.hd).p = none ∧ (s.data Iterable.tl).p = none ∧
    (∀ a e, (s.data a).p = some e → s.retired e = none) ∧ (∀ e, s.disposed e = true → s.retired e ≠ none) :=
  let hS := Iterable.sinv_reachable n s h
  ⟨hS.elem.hdnil, hS.elem.tlnil, hS.elem.live, hS.elem.dret⟩

/-- The marking protocol: a data word is marked only while ONE thread is inside `link_data`, between its marking
    CAS and its restoring store, holding this node as `pos.pCur` (`lpos`) or `pos.pPrev` (`ppos`); meanwhile the
    pointer part of the word is exactly what that thread saw (`pFound` resp. `pPrevVal`), so the thread's restoring
    store (or its `pPrev->data` CAS) puts back / replaces the right value; and while both marks are held after the
    re-check, `pPrev->next == pCur` stays true (`adjOf`). -/
theorem C19_mark_discipline (n : Nat) (s : Iterable.St) (h : Iterable.model.Reachable (Iterable.init n) s) :
    (∀ a, (s.data a).m = true → ∃ t, s.mo a = some t ∧
        ((∃ p, Iterable.lpos (s.pc t) = some p ∧ p.cur = a ∧ s.data a = ⟨p.found, true⟩) ∨
         (∃ p, Iterable.ppos (s.pc t) = some p ∧ p.prev = a ∧ s.data a = ⟨p.pv, true⟩))) ∧
    (∀ t p, Iterable.lpos (s.pc t) = some p → s.mo p.cur = some t ∧ s.data p.cur = ⟨p.found, true⟩) ∧
    (∀ t p, Iterable.ppos (s.pc t) = some p → s.mo p.prev = some t ∧ s.data p.prev = ⟨p.pv, true⟩) ∧
    (∀ t p, Iterable.adjOf (s.pc t) = some p → s.next p.prev = p.cur) := by
  have hS := Iterable.sinv_reachable n s h
  refine ⟨?_, fun t => (hS.thr t).mcur, fun t => (hS.thr t).mprev, fun t => (hS.thr t).adj⟩
  intro a hm
  obtain ⟨t, hmt⟩ := Option.ne_none_iff_exists'.mp ((hS.bit a).1 hm)
  refine ⟨t, hmt, ?_⟩
  rcases hS.own a t hmt with hcur | hprev
  · obtain ⟨p, hl, rfl⟩ := Option.map_eq_some_iff.mp hcur
    exact .inl ⟨p, hl, rfl, ((hS.thr t).mcur p hl).2⟩
  · obtain ⟨p, hl, rfl⟩ := Option.map_eq_some_iff.mp hprev
    exact .inr ⟨p, hl, rfl, ((hS.thr t).mprev p hl).2⟩

/- SORTEDNESS — full statement, NOT a theorem of this algorithm (`C19_sorted_keys_not_invariant` at the end of the file):
     ∀ reachable s, SortedKeys s      (keys of the stored elements strictly increasing along the chain).
   What is missing: the re-use CAS of `link_data` relies on `find_prev`, whose walk is not atomic.  Proved instead: -/

/-- Every step other than the successful re-use CAS of `link_data` (`pPrev->data: null|1 → pVal`) preserves
    sortedness: the new-node path (both neighbours are marked, their keys bracket the new key), `update` (same key),
    `erase` / `erase_at`, all marking and restoring stores, and every step of the iterators. -/
theorem C19_sorted_preserved_except_reuse (n : Nat) (s s' : Iterable.St) (t : Tid) (ev : Ev)
    (h : Iterable.model.Reachable (Iterable.init n) s) (hsorted : Iterable.SortedKeys s)
    (hs : Iterable.step s t = some (s', ev)) (hnr : ∀ j p, s.pc t ≠ .lReuse j p) : Iterable.SortedKeys s' :=
  Iterable.sorted_step (Iterable.sinv_reachable n s h) hsorted hs hnr

/-- `invoke` and `result` preserve sortedness as well. -/
theorem C19_sorted_preserved_invoke_result (n : Nat) (s s' : Iterable.St) (t : Tid)
    (h : Iterable.model.Reachable (Iterable.init n) s) (hsorted : Iterable.SortedKeys s) :
    (∀ op, Iterable.invoke s t op = some s' → Iterable.SortedKeys s') ∧
    (∀ r, Iterable.result s t = some (s', r) → Iterable.SortedKeys s') :=
  ⟨fun _ hs => Iterable.sorted_invoke (Iterable.sinv_reachable n s h) hsorted hs,
   fun _ hs => Iterable.sorted_result hsorted hs⟩

/-- The re-use CAS preserves sortedness IF at that instant no node in front of `pPrev` holds a key `≥` the new key
    (the right-hand side needs no hypothesis: `pCur` is marked by this thread and holds a larger key, or is the
    tail).  `find_prev` is meant to establish the hypothesis, but walks the list non-atomically. -/
theorem C19_sorted_reuse_partial (n : Nat) (s : Iterable.St) (t : Tid) (j : Iterable.Job) (p : Iterable.Pos)
    (h : Iterable.model.Reachable (Iterable.init n) s) (hsorted : Iterable.SortedKeys s)
    (hpc : s.pc t = .lReuse j p)
    (hfront : ∀ a ea, s.lt a p.prev = true → (s.data a).p = some ea → s.key ea < j.k) :
    Iterable.SortedKeys { s with data := upd s.data p.prev ⟨some j.e, false⟩, mo := upd s.mo p.prev none,
                                 home := upd s.home j.e (some p.prev), pc := upd s.pc t (.lRelCur j p true) } :=
  Iterable.sorted_lReuse (Iterable.sinv_reachable n s h) hsorted hpc hfront

/-! ### B. The current element of an iterator is never disposed -/

/-- In every reachable state, the element an iterator stands on — the value in its hazard slot, once the
    validating re-load of `m_Guard.protect` has succeeded (`hv`) — has not been disposed; while the iterator is at
    rest (not inside `begin()` / `operator++`) this element's node is the iterator's `m_pNode`. -/
theorem C19_iter_never_disposed_current (n : Nat) (s : Iterable.St)
    (h : Iterable.model.Reachable (Iterable.init n) s) (t : Tid) (e : Nat)
    (hhp : s.hp t = some e) (hval : s.hv t = true) :
    s.disposed e = false ∧ (Iterable.moving (s.pc t) = false → s.home e = some (s.itn t)) :=
  let hT := (Iterable.sinv_reachable n s h).thr t
  ⟨hT.safe e hhp hval, hT.atn e hhp hval⟩

/-- Outside the window between the hazard store and the validating load, a non-null hazard slot is validated. -/
theorem C19_guard_validated_at_rest (n : Nat) (s : Iterable.St)
    (h : Iterable.model.Reachable (Iterable.init n) s) (t : Tid) (e : Nat)
    (hhp : s.hp t = some e) (hpc : Iterable.unval (s.pc t) = false) : s.hv t = true :=
  ((Iterable.sinv_reachable n s h).thr t).hvok e hhp hpc

/-! ### C. Complete, exactly once, ordered -/

/-- COMPLETE and EXACTLY ONCE.  Take any run that starts, in a reachable state `s0`, with thread `t` invoking
    `iter_begin`, in which `t` afterwards invokes only iterator operations (`iter_next`, `iter_end`, `erase_at`,
    `iter_release`; the other threads do whatever they like), and at whose end `t` has returned (`idle`) with its
    iterator on the tail node (= `iter_next` / `iter_begin` has reported the end: `C19_iter_end_is_tail`).
    Then every element `e` that is in the list — stored in a linked node — in EVERY state of the run after the
    `iter_begin` step occurs EXACTLY ONCE in the sequence of elements yielded to `t` (`yields`: the `[1, e]` results
    returned to `t` in the run). -/
theorem C19_iter_complete_once (n : Nat) (s0 s1 : Iterable.St) (t : Tid) (sched : List (Tid × Act))
    (os : List (Tid × Obs)) (hreach : Iterable.model.Reachable (Iterable.init n) s0)
    (hrun : Iterable.model.run s0 ((t, .invoke Iterable.beginOp) :: sched) = some (s1, os))
    (honly : Iterable.IterOnly t sched) (hidle : s1.pc t = .idle) (hend : s1.itn t = Iterable.tl)
    (e : Nat)
    (hpres : ∀ sk ∈ Iterable.runStates s0 ((t, .invoke Iterable.beginOp) :: sched), Iterable.inList sk e = true) :
    (Iterable.yields t os).count e = 1 :=
  Iterable.iter_complete_once n s0 s1 t sched os hreach hrun honly hidle hend e hpres

/-- `iter_begin` / `iter_next` report the end only with the iterator on the tail: the step that decides it
    (`itNext` reading `m_pNode->next == m_pNode`) is enabled with that outcome only at the tail. -/
theorem C19_iter_end_is_tail (n : Nat) (s : Iterable.St) (h : Iterable.model.Reachable (Iterable.init n) s)
    (t : Tid) (hn : s.next (s.itn t) = s.itn t) : s.itn t = Iterable.tl := by
  have hS := Iterable.sinv_reachable n s h
  refine Decidable.byContradiction fun hne => ?_
  have hlt := hS.ord.nx _ (hS.thr t).ilk hne
  rw [hn, hS.ord.irr] at hlt
  cases hlt

/-- The end iterator's `next()` never gets stuck (the model has no transition for an end iterator that walks on). -/
theorem C19_endNext_enabled (n : Nat) (s : Iterable.St) (h : Iterable.model.Reachable (Iterable.init n) s) :
    s.next Iterable.tl = Iterable.tl :=
  (Iterable.sinv_reachable n s h).ord.tnx

/- ORDERED — full statement, NOT a theorem of this algorithm (see FINDING and `C19_iter_order_can_fail`):
     under the hypotheses of `C19_iter_complete_once`,
       (yields t os).Pairwise (fun e1 e2 => presentThroughout e1 → presentThroughout e2 → s1.key e1 < s1.key e2).
   What is missing: keys are NOT sorted along the chain in every reachable state (`C19_sorted_keys_not_invariant`).
   Proved instead: the yielded elements that were present throughout appear in CHAIN order, unconditionally; and in
   strictly increasing KEY order if the final state of the run has sorted keys. -/
theorem C19_iter_ordered_partial (n : Nat) (s0 s1 : Iterable.St) (t : Tid) (sched : List (Tid × Act))
    (os : List (Tid × Obs)) (hreach : Iterable.model.Reachable (Iterable.init n) s0)
    (hrun : Iterable.model.run s0 ((t, .invoke Iterable.beginOp) :: sched) = some (s1, os))
    (honly : Iterable.IterOnly t sched) (hidle : s1.pc t = .idle) :
    (Iterable.yields t os).Pairwise (fun e1 e2 =>
      (∀ sk ∈ Iterable.runStates s0 ((t, .invoke Iterable.beginOp) :: sched), Iterable.inList sk e1 = true) →
      (∀ sk ∈ Iterable.runStates s0 ((t, .invoke Iterable.beginOp) :: sched), Iterable.inList sk e2 = true) →
      (∃ a1 a2, s1.home e1 = some a1 ∧ s1.home e2 = some a2 ∧ s1.lt a1 a2 = true) ∧
      (Iterable.SortedKeys s1 → s1.key e1 < s1.key e2)) :=
  Iterable.iter_ordered n s0 s1 t sched os hreach hrun honly hidle

/-! ### D. erase_at( iterator ) -/

/-- While `erase_at` runs, the iterator stands on the element `e` it is going to remove: `e` is the validated
    content of the iterator's guard, its node is the iterator's `m_pNode`, and it is not disposed. -/
theorem C19_erase_at_stands_on_element (n : Nat) (s : Iterable.St)
    (h : Iterable.model.Reachable (Iterable.init n) s) (t : Tid) (e : Nat) (hpc : s.pc t = .eaCas e) :
    s.hp t = some e ∧ s.hv t = true ∧ s.home e = some (s.itn t) ∧ s.disposed e = false :=
  Iterable.eraseAt_stands (Iterable.sinv_reachable n s h) hpc

/-- EXACT.  The CAS step of `erase_at` has one of three outcomes (`EraseAtOutcome`):
    `removed`  the result is `[1]` (true): the node held exactly `e`, unmarked; `e` leaves the abstract content of the
               list and nothing else does (`inList s' x = (inList s x && x ≠ e)`); `e` was not retired and is now
               retired by this thread; no other element's retirement changes;
    `gone`     the result is `[0]` (false): the pointer part of the word differs from `e` — `e` is no longer stored in
               that node, indeed nowhere in the list (it was removed or replaced by another operation); nothing changes;
    `retry`    only the mark bit differs: nothing changes and the same CAS is tried again. -/
theorem C19_erase_at_exact (n : Nat) (s s' : Iterable.St) (t : Tid) (ev : Ev) (e : Nat)
    (h : Iterable.model.Reachable (Iterable.init n) s) (hpc : s.pc t = .eaCas e)
    (hs : Iterable.step s t = some (s', ev)) : Iterable.EraseAtOutcome s s' t e ev :=
  Iterable.eraseAt_step (Iterable.sinv_reachable n s h) hpc hs

/-- `erase_at` never returns false merely because the data word was marked: the only exit with `[0]` is a failed CAS
    whose observed pointer part differs from the iterator's element. -/
theorem C19_erase_at_false_only (n : Nat) (s s' : Iterable.St) (t : Tid) (ev : Ev) (e : Nat)
    (h : Iterable.model.Reachable (Iterable.init n) s) (hpc : s.pc t = .eaCas e)
    (hs : Iterable.step s t = some (s', ev)) (hret : s'.pc t = .done [0]) :
    (s.data (s.itn t)).p ≠ some e ∧ ev.kind = "cas-" :=
  Iterable.eraseAt_false_only (Iterable.sinv_reachable n s h) hpc hs hret

/-- An element is retired at most once, by the thread whose CAS removed it, and stays retired by that thread. -/
theorem C19_retired_once (n : Nat) (s s' : Iterable.St) (t : Tid) (ev : Ev)
    (h : Iterable.model.Reachable (Iterable.init n) s) (hs : Iterable.step s t = some (s', ev))
    (e : Nat) (t0 : Tid) (hr : s.retired e = some t0) : s'.retired e = some t0 :=
  Iterable.step_retired_mono (Iterable.sinv_reachable n s h) hs hr

/-! ### E. Non-vacuity: concrete runs, evaluated by the kernel -/

def stN (t : Tid) (n : Nat) : List (Tid × Act) := List.replicate n (t, .step)
def cl (t : Tid) (name : String) (args : List Int) : List (Tid × Act) := [(t, .invoke ⟨name, args⟩)]
def rt (t : Tid) : List (Tid × Act) := [(t, .ret)]

/-- What the examples look at: the observations from position `drop` on (their rendering as harness trace lines
    is in the comments), the content `(element, key)` along the chain, and the chain. -/
def view (r : Option (Iterable.St × List (Tid × Obs))) (drop : Nat) :
    Option (List (Tid × Obs) × List (Nat × Int) × List Nat) :=
  r.map fun p => (p.2.drop drop, Iterable.content p.1, Iterable.chain p.1)

/-- `h -> n3(empty) -> n4(e5) -> t`: keys 3 and 5 inserted, key 3 erased. -/
def emptiedSched : List (Tid × Act) :=
  cl 1 "insert" [3, 3] ++ stN 1 14 ++ rt 1 ++ cl 1 "insert" [5, 5] ++ stN 1 16 ++ rt 1 ++
  cl 1 "erase" [3] ++ stN 1 5 ++ rt 1

/-- An iteration concurrent with an insert that RE-USES AN EMPTIED NODE in front of the iterator: thread 0 has
    started `begin()` (on the head); thread 1 inserts key 4: `pPrev = n3` is empty, so after marking `n4.data` and
    `n3.data` and `find_prev`, it stores `e4` into `n3`; the iterator then yields `e4` and `e5`. -/
def reuseSched : List (Tid × Act) :=
  emptiedSched ++ cl 0 "iter_begin" [] ++ stN 0 3 ++ cl 1 "insert" [4, 4] ++ stN 1 22 ++ rt 1 ++ stN 0 4 ++ rt 0 ++
  cl 0 "iter_next" [] ++ stN 0 4 ++ rt 0 ++ cl 0 "iter_next" [] ++ stN 0 6 ++ rt 0

example : view (Iterable.model.run (Iterable.init 2) reuseSched) 55 =
    some ([(1, .ev ⟨"cas+", "n4.data", "e5", "e5|1"⟩),         -- T 1 A cas+ n4.data e5 e5|1        link_data: mark pCur
           (1, .ev ⟨"cas+", "n3.data", "null", "null|1"⟩),     -- T 1 A cas+ n3.data null null|1               mark pPrev (empty)
           (1, .ev ⟨"ld", "n3", "n4", ""⟩),                    -- T 1 A ld n3 n4                               pPrev->next == pCur
           (1, .ev ⟨"ld", "h", "n3", ""⟩),                     -- T 1 A ld h n3                                find_prev …
           (1, .ev ⟨"ld", "n3", "n4", ""⟩),                    -- T 1 A ld n3 n4
           (1, .ev ⟨"ld", "n3.data", "null|1", ""⟩),           -- T 1 A ld n3.data null|1
           (1, .ev ⟨"ld", "n3.data", "null|1", ""⟩),           -- T 1 A ld n3.data null|1
           (1, .ev ⟨"ld", "n3", "n4", ""⟩),                    -- T 1 A ld n3 n4
           (1, .ev ⟨"ld", "n4", "t", ""⟩),                     -- T 1 A ld n4 t
           (1, .ev ⟨"ld", "n4.data", "e5|1", ""⟩),             -- T 1 A ld n4.data e5|1
           (1, .ev ⟨"ld", "n4.data", "e5|1", ""⟩),             -- T 1 A ld n4.data e5|1                        … returns n3
           (1, .ev ⟨"cas+", "n3.data", "null|1", "e4"⟩),       -- T 1 A cas+ n3.data null|1 e4      re-use: into the emptied node
           (1, .ev ⟨"st", "n4.data", "e5", ""⟩),               -- T 1 A st n4.data e5                          restore pCur
           (1, .ret [1]),                                      -- T 1 R [1]
           (0, .ev ⟨"ld", "h", "n3", ""⟩),                     -- T 0 A ld h n3
           (0, .ev ⟨"ld", "n3.data", "e4", ""⟩),               -- T 0 A ld n3.data e4
           (0, .ev ⟨"st", "it.hp", "e4", ""⟩),                 -- T 0 A st it.hp e4
           (0, .ev ⟨"ld", "n3.data", "e4", ""⟩),               -- T 0 A ld n3.data e4
           (0, .ret [1, 4]),                                   -- T 0 R [1, 4]
           (0, .call ⟨"iter_next", []⟩),                       -- T 0 C iter_next []
           (0, .ev ⟨"ld", "n3", "n4", ""⟩),                    -- T 0 A ld n3 n4
           (0, .ev ⟨"ld", "n4.data", "e5", ""⟩),               -- T 0 A ld n4.data e5
           (0, .ev ⟨"st", "it.hp", "e5", ""⟩),                 -- T 0 A st it.hp e5
           (0, .ev ⟨"ld", "n4.data", "e5", ""⟩),               -- T 0 A ld n4.data e5
           (0, .ret [1, 5]),                                   -- T 0 R [1, 5]
           (0, .call ⟨"iter_next", []⟩),                       -- T 0 C iter_next []
           (0, .ev ⟨"ld", "n4", "t", ""⟩),                     -- T 0 A ld n4 t
           (0, .ev ⟨"ld", "t.data", "null", ""⟩),              -- T 0 A ld t.data null
           (0, .ev ⟨"st", "it.hp", "null", ""⟩),               -- T 0 A st it.hp null
           (0, .ev ⟨"ld", "t.data", "null", ""⟩),              -- T 0 A ld t.data null
           (0, .ev ⟨"ld", "t", "t", ""⟩),                      -- T 0 A ld t t
           (0, .ev ⟨"st", "it.hp", "null", ""⟩),               -- T 0 A st it.hp null
           (0, .ret [0])],                                     -- T 0 R [0]
          [(4, 4), (5, 5)], [1, 3, 4, 2]) := by decide +kernel

/-- The same insert BEHIND the iterator (which already stands on `e5`): `e4` is not yielded — it was not present
    throughout — and `e5`, which was, is yielded exactly once. -/
def reuseBehindSched : List (Tid × Act) :=
  emptiedSched ++ cl 0 "iter_begin" [] ++ stN 0 11 ++ rt 0 ++ cl 1 "insert" [4, 4] ++ stN 1 22 ++ rt 1 ++
  cl 0 "iter_next" [] ++ stN 0 6 ++ rt 0

example : (Iterable.model.run (Iterable.init 2) reuseBehindSched).map
    (fun r => (Iterable.yields 0 r.2, Iterable.content r.1, r.1.itn 0)) =
    some ([5], [(4, 4), (5, 5)], 2) := by decide +kernel

/-- An iteration concurrent with the NEW-NODE path of `link_data` in front of the iterator's position: the iterator
    stands on `e5` in `n3`; thread 1 inserts key 7 (`pPrev = n3` is not empty: a new node `n4` is constructed and
    linked with `CAS( n3.next, t, n4 )` under both marks); `operator++` then finds `n4` and yields `e7`. -/
def newNodeSched : List (Tid × Act) :=
  cl 1 "insert" [5, 5] ++ stN 1 14 ++ rt 1 ++ cl 0 "iter_begin" [] ++ stN 0 7 ++ rt 0 ++
  cl 1 "insert" [7, 7] ++ stN 1 16 ++ rt 1 ++ cl 0 "iter_next" [] ++ stN 0 4 ++ rt 0 ++
  cl 0 "iter_next" [] ++ stN 0 6 ++ rt 0

example : view (Iterable.model.run (Iterable.init 2) newNodeSched) 33 =
    some ([(1, .ev ⟨"cas+", "t.data", "null", "null|1"⟩),      -- T 1 A cas+ t.data null null|1
           (1, .ev ⟨"cas+", "n3.data", "e5", "e5|1"⟩),         -- T 1 A cas+ n3.data e5 e5|1
           (1, .ev ⟨"ld", "n3", "t", ""⟩),                     -- T 1 A ld n3 t
           (1, .ev ⟨"st", "n4", "null", ""⟩),                  -- T 1 A st n4 null                  node constructor
           (1, .ev ⟨"st", "n4.data", "e7", ""⟩),               -- T 1 A st n4.data e7
           (1, .ev ⟨"st", "n4", "t", ""⟩),                     -- T 1 A st n4 t
           (1, .ev ⟨"cas+", "n3", "t", "n4"⟩),                 -- T 1 A cas+ n3 t n4                link
           (1, .ev ⟨"st", "n3.data", "e5", ""⟩),               -- T 1 A st n3.data e5               restore
           (1, .ev ⟨"st", "t.data", "null", ""⟩),              -- T 1 A st t.data null
           (1, .ret [1]),                                      -- T 1 R [1]
           (0, .call ⟨"iter_next", []⟩),                       -- T 0 C iter_next []
           (0, .ev ⟨"ld", "n3", "n4", ""⟩),                    -- T 0 A ld n3 n4
           (0, .ev ⟨"ld", "n4.data", "e7", ""⟩),               -- T 0 A ld n4.data e7
           (0, .ev ⟨"st", "it.hp", "e7", ""⟩),                 -- T 0 A st it.hp e7
           (0, .ev ⟨"ld", "n4.data", "e7", ""⟩),               -- T 0 A ld n4.data e7
           (0, .ret [1, 7]),                                   -- T 0 R [1, 7]
           (0, .call ⟨"iter_next", []⟩),                       -- T 0 C iter_next []
           (0, .ev ⟨"ld", "n4", "t", ""⟩),                     -- T 0 A ld n4 t
           (0, .ev ⟨"ld", "t.data", "null", ""⟩),              -- T 0 A ld t.data null
           (0, .ev ⟨"st", "it.hp", "null", ""⟩),               -- T 0 A st it.hp null
           (0, .ev ⟨"ld", "t.data", "null", ""⟩),              -- T 0 A ld t.data null
           (0, .ev ⟨"ld", "t", "t", ""⟩),                      -- T 0 A ld t t
           (0, .ev ⟨"st", "it.hp", "null", ""⟩),               -- T 0 A st it.hp null
           (0, .ret [0])],                                     -- T 0 R [0]
          [(5, 5), (7, 7)], [1, 3, 4, 2]) := by decide +kernel

/-- `erase_at` RACING WITH `link_data`'s MARK: the iterator stands on `e5`; thread 1 (insert of key 3, `pCur = n3`)
    has marked `n3.data`; `erase_at`'s CAS fails twice seeing `e5|1` — same pointer, so it retries instead of returning
    false (the behaviour before the fix 6fab2aa) —; thread 1 links its node and restores `n3.data`; the third CAS
    succeeds: result `[1]`, `e5` retired by thread 0 and still guarded by the iterator. -/
def eraseAtMarkSched : List (Tid × Act) :=
  cl 1 "insert" [5, 5] ++ stN 1 14 ++ rt 1 ++ cl 0 "iter_begin" [] ++ stN 0 7 ++ rt 0 ++
  cl 1 "insert" [3, 3] ++ stN 1 6 ++ cl 0 "erase_at" [] ++ stN 0 2 ++ stN 1 12 ++ rt 1 ++ stN 0 1 ++ rt 0

example : view (Iterable.model.run (Iterable.init 2) eraseAtMarkSched) 31 =
    some ([(1, .ev ⟨"cas+", "n3.data", "e5", "e5|1"⟩),         -- T 1 A cas+ n3.data e5 e5|1
           (0, .call ⟨"erase_at", []⟩),                        -- T 0 C erase_at []
           (0, .ev ⟨"cas-", "n3.data", "e5|1", "e5"⟩),         -- T 0 A cas- n3.data e5|1 e5        (seen e5|1, expected e5): retry
           (0, .ev ⟨"cas-", "n3.data", "e5|1", "e5"⟩),         -- T 0 A cas- n3.data e5|1 e5        retry
           (1, .ev ⟨"cas+", "h.data", "null", "null|1"⟩),      -- T 1 A cas+ h.data null null|1
           (1, .ev ⟨"ld", "h", "n3", ""⟩),                     -- T 1 A ld h n3
           (1, .ev ⟨"ld", "h", "n3", ""⟩),                     -- T 1 A ld h n3                     find_prev
           (1, .ev ⟨"ld", "n3", "t", ""⟩),                     -- T 1 A ld n3 t
           (1, .ev ⟨"ld", "n3.data", "e5|1", ""⟩),             -- T 1 A ld n3.data e5|1
           (1, .ev ⟨"ld", "n3.data", "e5|1", ""⟩),             -- T 1 A ld n3.data e5|1
           (1, .ev ⟨"st", "n4", "null", ""⟩),                  -- T 1 A st n4 null
           (1, .ev ⟨"st", "n4.data", "e3", ""⟩),               -- T 1 A st n4.data e3
           (1, .ev ⟨"st", "n4", "n3", ""⟩),                    -- T 1 A st n4 n3
           (1, .ev ⟨"cas+", "h", "n3", "n4"⟩),                 -- T 1 A cas+ h n3 n4
           (1, .ev ⟨"st", "h.data", "null", ""⟩),              -- T 1 A st h.data null
           (1, .ev ⟨"st", "n3.data", "e5", ""⟩),               -- T 1 A st n3.data e5               mark released
           (1, .ret [1]),                                      -- T 1 R [1]
           (0, .ev ⟨"cas+", "n3.data", "e5", "null"⟩),         -- T 0 A cas+ n3.data e5 null
           (0, .ret [1])],                                     -- T 0 R [1]
          [(3, 3)], [1, 4, 3, 2]) := by decide +kernel

example : (Iterable.model.run (Iterable.init 2) eraseAtMarkSched).map
    (fun r => (r.1.retired 5, r.1.hp 0, r.1.hv 0, r.1.disposed 5)) = some (some 0, some 5, true, false) := by
  decide +kernel

/-- `erase_at` AFTER THE ELEMENT WAS REPLACED by `update`: the CAS observes `e6 ≠ e5` and returns `[0]`; `e6` stays. -/
def eraseAtReplacedSched : List (Tid × Act) :=
  cl 1 "insert" [5, 5] ++ stN 1 14 ++ rt 1 ++ cl 0 "iter_begin" [] ++ stN 0 7 ++ rt 0 ++
  cl 1 "update" [5, 6, 1] ++ stN 1 6 ++ rt 1 ++ cl 0 "erase_at" [] ++ stN 0 1 ++ rt 0

example : view (Iterable.model.run (Iterable.init 2) eraseAtReplacedSched) 31 =
    some ([(1, .ev ⟨"cas+", "n3.data", "e5", "e6"⟩),           -- T 1 A cas+ n3.data e5 e6
           (1, .ret [1, 0, 5]),                                -- T 1 R [1, 0, 5]
           (0, .call ⟨"erase_at", []⟩),                        -- T 0 C erase_at []
           (0, .ev ⟨"cas-", "n3.data", "e6", "e5"⟩),           -- T 0 A cas- n3.data e6 e5          (seen e6, expected e5)
           (0, .ret [0])],                                     -- T 0 R [0]
          [(6, 5)], [1, 3, 2]) := by decide +kernel

/-- AN ELEMENT ERASED UNDER THE ITERATOR STAYS CURRENT AND IS NOT DISPOSED until the iterator moves on: thread 1
    erases key 5 while the iterator stands on `e5`; `e5` is retired, but `dispose 5` is NOT enabled … -/
def erasedUnderSched : List (Tid × Act) :=
  cl 1 "insert" [5, 5] ++ stN 1 14 ++ rt 1 ++ cl 0 "iter_begin" [] ++ stN 0 7 ++ rt 0 ++
  cl 1 "erase" [5] ++ stN 1 5 ++ rt 1

set_option synthInstance.maxSize 2000 in
example : (Iterable.model.run (Iterable.init 2) erasedUnderSched).map
    (fun r => (r.1.retired 5, r.1.hp 0, r.1.hv 0, r.1.disposed 5, Iterable.content r.1,
               (Iterable.invoke r.1 1 ⟨"dispose", [5]⟩).isSome)) =
    some (some 1, some 5, true, false, [], false) := by decide +kernel

example : (Iterable.model.run (Iterable.init 2) (erasedUnderSched ++ cl 1 "dispose" [5])).isNone = true := by
  decide +kernel

/-- … and becomes enabled as soon as `operator++` has overwritten the hazard slot (third step of `iter_next`). -/
example : (Iterable.model.run (Iterable.init 2)
      (erasedUnderSched ++ cl 0 "iter_next" [] ++ stN 0 3 ++ cl 1 "dispose" [5] ++ rt 1 ++ stN 0 3 ++ rt 0)).map
    (fun r => (r.2.drop 32, r.1.disposed 5, r.1.hp 0)) =
    some ([(0, .call ⟨"iter_next", []⟩),                       -- T 0 C iter_next []
           (0, .ev ⟨"ld", "n3", "t", ""⟩),                     -- T 0 A ld n3 t
           (0, .ev ⟨"ld", "t.data", "null", ""⟩),              -- T 0 A ld t.data null
           (0, .ev ⟨"st", "it.hp", "null", ""⟩),               -- T 0 A st it.hp null
           (1, .call ⟨"dispose", [5]⟩),                        -- T 1 C dispose [5]
           (1, .ret []),                                       -- T 1 R []
           (0, .ev ⟨"ld", "t.data", "null", ""⟩),              -- T 0 A ld t.data null
           (0, .ev ⟨"ld", "t", "t", ""⟩),                      -- T 0 A ld t t
           (0, .ev ⟨"st", "it.hp", "null", ""⟩),               -- T 0 A st it.hp null
           (0, .ret [0])],                                     -- T 0 R [0]
          true, none) := by decide +kernel

/-! ### The finding: `find_prev` is not atomic -/

/-- The schedule of harness/probes/iterable_find_prev_race.cpp in the machine.
    Nodes `n3`, `n4` are created and emptied.  Thread 0 (`insert 1`) finds `pos = ( n4, t )`, `pPrevVal = null`.
    Thread 1 stores key 4 into `n4`, key 3 into `n3`, erases key 4 (`n4` is null again: ABA).  Thread 0 marks `t.data`
    and `n4.data`, re-checks `n4.next == t`, starts `find_prev` and loads `h.next = n3`.  Thread 1 inserts key 2 — a
    new node `n5` between the head and `n3`, BEHIND the walker — and erases key 3, emptying `n3`.  Thread 0's walk
    continues over the now empty `n3`, its own marked `n4` and the tail, returns `n4 == pos.pPrev`, and stores key 1
    into `n4`:  `h -> n5(key 2) -> n3(empty) -> n4(key 1) -> t`. -/
def raceSched : List (Tid × Act) :=
  cl 1 "insert" [3, 1003] ++ stN 1 14 ++ rt 1 ++ cl 1 "insert" [4, 1004] ++ stN 1 16 ++ rt 1 ++
  cl 1 "erase" [3] ++ stN 1 5 ++ rt 1 ++ cl 1 "erase" [4] ++ stN 1 9 ++ rt 1 ++
  cl 0 "insert" [1, 1] ++ stN 0 11 ++
  cl 1 "insert" [4, 2] ++ stN 1 26 ++ rt 1 ++ cl 1 "insert" [3, 3] ++ stN 1 22 ++ rt 1 ++
  cl 1 "erase" [4] ++ stN 1 9 ++ rt 1 ++
  stN 0 4 ++
  cl 1 "insert" [2, 4] ++ stN 1 18 ++ rt 1 ++ cl 1 "erase" [3] ++ stN 1 9 ++ rt 1 ++
  stN 0 11 ++ rt 0

/-- After the race: `insert 1` has returned `[1]`, the chain holds key 2 BEFORE key 1 … -/
example : view (Iterable.model.run (Iterable.init 2) raceSched) 163 =
    some ([(0, .ev ⟨"ld", "n3.data", "null", ""⟩),             -- T 0 A ld n3.data null             find_prev walks over the emptied n3 …
           (0, .ev ⟨"ld", "n3.data", "null", ""⟩),             -- T 0 A ld n3.data null
           (0, .ev ⟨"ld", "n3", "n4", ""⟩),                    -- T 0 A ld n3 n4
           (0, .ev ⟨"ld", "n4", "t", ""⟩),                     -- T 0 A ld n4 t
           (0, .ev ⟨"ld", "n4.data", "null|1", ""⟩),           -- T 0 A ld n4.data null|1           … its own marked pPrev …
           (0, .ev ⟨"ld", "n4.data", "null|1", ""⟩),           -- T 0 A ld n4.data null|1
           (0, .ev ⟨"ld", "n4", "t", ""⟩),                     -- T 0 A ld n4 t
           (0, .ev ⟨"ld", "t", "t", ""⟩),                      -- T 0 A ld t t                      … and the tail: returns n4 == pos.pPrev
           (0, .ev ⟨"cas+", "n4.data", "null|1", "e1"⟩),       -- T 0 A cas+ n4.data null|1 e1      key 1 stored behind key 2
           (0, .ev ⟨"st", "t.data", "null", ""⟩),              -- T 0 A st t.data null
           (0, .ret [1])],                                     -- T 0 R [1]
          [(4, 2), (1, 1)], [1, 5, 3, 4, 2]) := by decide +kernel

/-- … `contains 1` answers `[0]` although key 1 was inserted and never erased, `contains 2` answers `[1]` … -/
example : (Iterable.model.run (Iterable.init 2)
      (raceSched ++ cl 1 "contains" [1] ++ stN 1 4 ++ rt 1 ++ cl 1 "contains" [2] ++ stN 1 4 ++ rt 1)).map
    (fun r => r.2.drop 174) =
    some [(1, .call ⟨"contains", [1]⟩),                        -- T 1 C contains [1]
          (1, .ev ⟨"ld", "h", "n5", ""⟩),                      -- T 1 A ld h n5
          (1, .ev ⟨"ld", "n5", "n3", ""⟩),                     -- T 1 A ld n5 n3
          (1, .ev ⟨"ld", "n5.data", "e4", ""⟩),                -- T 1 A ld n5.data e4               key 2 >= 1: the search stops here
          (1, .ev ⟨"ld", "n5.data", "e4", ""⟩),                -- T 1 A ld n5.data e4
          (1, .ret [0]),                                       -- T 1 R [0]
          (1, .call ⟨"contains", [2]⟩),                        -- T 1 C contains [2]
          (1, .ev ⟨"ld", "h", "n5", ""⟩),                      -- T 1 A ld h n5
          (1, .ev ⟨"ld", "n5", "n3", ""⟩),                     -- T 1 A ld n5 n3
          (1, .ev ⟨"ld", "n5.data", "e4", ""⟩),                -- T 1 A ld n5.data e4
          (1, .ev ⟨"ld", "n5.data", "e4", ""⟩),                -- T 1 A ld n5.data e4
          (1, .ret [1])] := by decide +kernel                  -- T 1 R [1]

/-- … and a SEQUENTIAL iteration after the race (nothing else runs: both elements are present throughout) yields
    element 4 (key 2) and then element 1 (key 1): the order clause of C19 fails. -/
def raceIterSched : List (Tid × Act) :=
  stN 0 7 ++ rt 0 ++ cl 0 "iter_next" [] ++ stN 0 8 ++ rt 0 ++ cl 0 "iter_next" [] ++ stN 0 6 ++ rt 0

theorem C19_iter_order_can_fail :
    ∃ s0 s1 os, Iterable.model.Reachable (Iterable.init 2) s0 ∧
      Iterable.model.run s0 ((0, .invoke Iterable.beginOp) :: raceIterSched) = some (s1, os) ∧
      Iterable.IterOnly 0 raceIterSched ∧ s1.pc 0 = .idle ∧ s1.itn 0 = Iterable.tl ∧
      Iterable.yields 0 os = [4, 1] ∧ s1.key 4 = 2 ∧ s1.key 1 = 1 ∧
      (∀ e, e = 4 ∨ e = 1 →
        ∀ sk ∈ Iterable.runStates s0 ((0, .invoke Iterable.beginOp) :: raceIterSched), Iterable.inList sk e = true) := by
  have hchk : (Iterable.model.run (Iterable.init 2) raceSched).any (fun r0 =>
      (Iterable.model.run r0.1 ((0, .invoke Iterable.beginOp) :: raceIterSched)).any (fun r1 =>
        decide (r1.1.pc 0 = .idle) && decide (r1.1.itn 0 = Iterable.tl) && decide (Iterable.yields 0 r1.2 = [4, 1]) &&
        decide (r1.1.key 4 = 2) && decide (r1.1.key 1 = 1) &&
        (Iterable.runStates r0.1 ((0, .invoke Iterable.beginOp) :: raceIterSched)).all
          (fun sk => Iterable.inList sk 4 && Iterable.inList sk 1))) = true := by decide +kernel
  obtain ⟨⟨s0, os0⟩, h0, hchk⟩ := (Option.any_eq_true _ _).mp hchk
  obtain ⟨⟨s1, os⟩, h1, hchk⟩ := (Option.any_eq_true _ _).mp hchk
  simp only [Bool.and_eq_true, decide_eq_true_eq, List.all_eq_true] at hchk
  obtain ⟨⟨⟨⟨⟨a1, a2⟩, a3⟩, a4⟩, a5⟩, a6⟩ := hchk
  refine ⟨s0, s1, os, ⟨raceSched, os0, h0⟩, h1, ?_, a1, a2, a3, a4, a5, ?_⟩
  · intro op hop
    have : op = ⟨"iter_next", []⟩ := by
      simp only [raceIterSched, stN, cl, rt, List.mem_append, List.mem_replicate, List.mem_singleton,
        Prod.mk.injEq, reduceCtorEq, and_false, or_false, false_or, Act.invoke.injEq, true_and] at hop
      rcases hop with h | h <;> exact h
    rw [this]; rfl
  · intro e he sk hsk
    rcases he with rfl | rfl
    · exact (a6 sk hsk).1
    · exact (a6 sk hsk).2

/-- Keys are NOT sorted along the chain in every reachable state: after `raceSched`, node `n5` precedes node `n4`
    in the chain, `n5` holds element 4 (key 2) and `n4` holds element 1 (key 1). -/
theorem C19_sorted_keys_not_invariant :
    ∃ s, Iterable.model.Reachable (Iterable.init 2) s ∧ ¬ Iterable.SortedKeys s := by
  have hchk : (Iterable.model.run (Iterable.init 2) raceSched).any (fun r =>
      r.1.lt 5 4 && decide ((r.1.data 5).p = some 4) && decide ((r.1.data 4).p = some 1) &&
      decide (r.1.key 4 = 2) && decide (r.1.key 1 = 1)) = true := by decide +kernel
  obtain ⟨⟨s, os⟩, h0, hchk⟩ := (Option.any_eq_true _ _).mp hchk
  simp only [Bool.and_eq_true, decide_eq_true_eq] at hchk
  obtain ⟨⟨⟨⟨a1, a2⟩, a3⟩, a4⟩, a5⟩ := hchk
  refine ⟨s, ⟨raceSched, os, h0⟩, fun hs => ?_⟩
  have := hs 5 4 4 1 a1 a2 a3
  rw [a4, a5] at this
  exact absurd this (by decide)

end CdsVerif.Props.C19Iterable
