/-
  Flat-combining parts of C06 (FCQueue), C09 (FCStack), C11 (FCPriorityQueue): a combiner pass over a batch of
  publication records is a sequential execution of a permutation of the batch.

  Property theorems about the pure transcriptions of `fc_apply` / `fc_process` / `collide`
  (CdsVerif/Algo/FC/Batch.lean; C++: cds/container/fcqueue.h, fcstack.h, fcpriority_queue.h).
  The deque is in Props/C10.lean.  All requests of a batch are pending at the same time, so every permutation of
  the batch respects real time: the theorems below are what makes a combiner pass linearizable.
-/
import CdsVerif.Algo.FC.Batch

namespace CdsVerif.Props.C23Batch
open CdsVerif.Lin CdsVerif.Spec CdsVerif.Algo.FC

/-! ### FCQueue -/

/-- EXACTLY when `FCQueue::collide( *itPrev, *it )` succeeds: one is an enqueue, the other a dequeue, in either
    order; the dequeue receives the enqueued value. -/
theorem C06_fcqueue_collide_rule (prev it : QReq) :
    (queueCollide prev it).isSome = true ↔
      ((prev.kind = .enq ∨ prev.kind = .enqMove) ∧ it.kind = .deq) ∨
      (prev.kind = .deq ∧ (it.kind = .enq ∨ it.kind = .enqMove)) := by
  obtain ⟨pk, pv⟩ := prev
  obtain ⟨ik, iv⟩ := it
  cases ik <;> cases pk <;> simp [queueCollide]

theorem C06_fcqueue_collide_values (prev it : QReq) (a b : Resp) (h : queueCollide prev it = some (a, b)) :
    (it.kind = .deq ∧ a = [1] ∧ b = [1, prev.val]) ∨ (prev.kind = .deq ∧ a = [1, it.val] ∧ b = [1]) := by
  obtain ⟨pk, pv⟩ := prev
  obtain ⟨ik, iv⟩ := it
  cases ik <;> cases pk <;> simp [queueCollide] at h ⊢ <;> (obtain ⟨rfl, rfl⟩ := h; simp)

/-- An enqueue is collided with a dequeue ONLY WHEN THE QUEUE IS EMPTY: on a non-empty queue `fc_process` marks
    nothing and collides nothing. -/
theorem C06_fcqueue_collide_only_if_empty (q : List Int) (rs : List QReq) (hq : q ≠ []) :
    queueCollisions q rs = [] ∧ (queueProcess q rs).2 = rs.map (fun _ => none) := by
  have he : q.isEmpty = false := by cases q <;> simp_all
  have hgo := elimGo_no_part (queuePart false) queueCollide
    (fun r => Bool.eq_false_iff.mpr fun h => nomatch queuePart_imp_empty h) (rs.map fun r => (r, none)) none
  simp [queueCollisions, queueProcess, elimPairs, elimPass, he, hgo, Function.comp_def]

/-- Every pair collided in a batch passed the test above, and the queue was empty. -/
theorem C06_fcqueue_collisions_in_batch (q : List Int) (rs : List QReq) :
    ∀ pr ∈ queueCollisions q rs, q = [] ∧ (queueCollide pr.1 pr.2).isSome = true := by
  intro pr hpr
  have h := elimGo_pairs (queuePart q.isEmpty) queueCollide _ none (by intro p hp; cases hp) pr hpr
  exact ⟨List.isEmpty_iff.mp (queuePart_imp_empty h.1), h.2.2⟩

theorem C06_fcqueue_apply_is_spec (q : List Int) (r : QReq) (h : r.kind ≠ .clear) :
    fifoStep q r.toGOp = some (queueApply q r) := by
  rw [← fifoStepC_eq_fifoStep q r h]; exact queueApply_spec q r

/-- General form: `n` walks of `fc_process`, then `combining_pass`; `clear` allowed (`Spec.fifoStep` + `clear`). -/
theorem C06_fcqueue_session_refines (n : Nat) (q : List Int) (rs : List QReq) :
    (queueBatch n q rs).2.length = rs.length ∧
    ∃ perm : List (QReq × Resp), perm.Perm (rs.zip (queueBatch n q rs).2) ∧
      seqRun (fun s (r : QReq) => fifoStepC s r.toGOp) q perm = some (queueBatch n q rs).1 :=
  batch_refines (queuePart q.isEmpty) queueCollide queueSpec q queueApply queueApply_spec
    (fun p r a b hp _ hc => queueCollide_noop q p r a b hp hc) n rs

theorem C06_fcqueue_session_refines_spec (n : Nat) (q : List Int) (rs : List QReq) (hnc : ∀ r ∈ rs, r.kind ≠ .clear) :
    (queueBatch n q rs).2.length = rs.length ∧
    ∃ perm : List (QReq × Resp), perm.Perm (rs.zip (queueBatch n q rs).2) ∧
      seqRun (fun s (r : QReq) => fifoStep s r.toGOp) q perm = some (queueBatch n q rs).1 :=
  refines_congr (C06_fcqueue_session_refines n q rs) fun r hr s => fifoStepC_eq_fifoStep s r (hnc r hr)

/-- For every queue `q` and batch `rs` of enqueue / dequeue requests: the responses of `fc_process` followed by
    `fc_apply` on the rest are those of executing SOME permutation of the batch sequentially with `Spec.fifoStep`,
    and the final queue is the final state of that run. -/
theorem C06_fcqueue_batch_refines (q : List Int) (rs : List QReq) (hnc : ∀ r ∈ rs, r.kind ≠ .clear) :
    let fin := queueFinish (queueProcess q rs).1 rs (queueProcess q rs).2
    fin.2.length = rs.length ∧
    ∃ perm : List (QReq × Resp), perm.Perm (rs.zip fin.2) ∧
      seqRun (fun s (r : QReq) => fifoStep s r.toGOp) q perm = some fin.1 := by
  intro fin
  have hfin : fin = queueBatch 1 q rs := queueBatch_one q rs
  rw [hfin]
  exact C06_fcqueue_session_refines_spec 1 q rs hnc

/-- A combiner session of FCQueue is linearizable (history records of one batch, pairwise overlapping). -/
theorem C06_fcqueue_batch_linearizable (n : Nat) (q : List Int) (rs : List QReq) (hnc : ∀ r ∈ rs, r.kind ≠ .clear)
    (ops : List (OpRec GOp GRet))
    (hops : ops.map (fun o => (o.op, o.ret)) = (rs.zip (queueBatch n q rs).2).map (fun p => (p.1.toGOp, p.2)))
    (hconc : ∀ a ∈ ops, ∀ b ∈ ops, ¬ b.res < a.inv) :
    LinearizableFrom fifo q ops := by
  obtain ⟨_, perm, hp, hrun⟩ := C06_fcqueue_session_refines_spec n q rs hnc
  exact linearizable_of_perm [] fifoStep QReq.toGOp q _ _ perm hp hrun ops hops hconc

/-! ### FCStack -/

/-- EXACTLY when `FCStack::collide( *itPrev, *it )` succeeds: neighbouring push and pop, in either order,
    whatever the stack contains. -/
theorem C09_fcstack_collide_rule (prev it : SReq) :
    (stackCollide prev it).isSome = true ↔
      ((prev.kind = .push ∨ prev.kind = .pushMove) ∧ it.kind = .pop) ∨
      (prev.kind = .pop ∧ (it.kind = .push ∨ it.kind = .pushMove)) := by
  obtain ⟨pk, pv⟩ := prev
  obtain ⟨ik, iv⟩ := it
  cases ik <;> cases pk <;> simp [stackCollide]

theorem C09_fcstack_collide_values (prev it : SReq) (a b : Resp) (h : stackCollide prev it = some (a, b)) :
    (it.kind = .pop ∧ a = [1] ∧ b = [1, prev.val]) ∨ (prev.kind = .pop ∧ a = [1, it.val] ∧ b = [1]) := by
  obtain ⟨pk, pv⟩ := prev
  obtain ⟨ik, iv⟩ := it
  cases ik <;> cases pk <;> simp [stackCollide] at h ⊢ <;> (obtain ⟨rfl, rfl⟩ := h; simp)

theorem C09_fcstack_collisions_in_batch (rs : List SReq) :
    ∀ pr ∈ stackCollisions rs, (stackCollide pr.1 pr.2).isSome = true := by
  intro pr hpr
  exact (elimGo_pairs stackPart stackCollide _ none (by intro p hp; cases hp) pr hpr).2.2

theorem C09_fcstack_apply_is_spec (s : List Int) (r : SReq) (h : r.kind ≠ .clear) (h' : r.kind ≠ .empty) :
    lifoStep s r.toGOp = some (stackApply s r) := by
  rw [← lifoStepC_eq_lifoStep s r h h']; exact stackApply_spec s r

/-- General form: `n` walks of `fc_process`, then `combining_pass`; `clear` and `empty` allowed. -/
theorem C09_fcstack_session_refines (n : Nat) (s : List Int) (rs : List SReq) :
    (stackBatch n s rs).2.length = rs.length ∧
    ∃ perm : List (SReq × Resp), perm.Perm (rs.zip (stackBatch n s rs).2) ∧
      seqRun (fun s (r : SReq) => lifoStepC s r.toGOp) s perm = some (stackBatch n s rs).1 :=
  batch_refines stackPart stackCollide stackSpec s stackApply stackApply_spec
    (fun p r a b _ _ hc => stackCollide_noop s p r a b hc) n rs

theorem C09_fcstack_session_refines_spec (n : Nat) (s : List Int) (rs : List SReq)
    (hnc : ∀ r ∈ rs, r.kind ≠ .clear ∧ r.kind ≠ .empty) :
    (stackBatch n s rs).2.length = rs.length ∧
    ∃ perm : List (SReq × Resp), perm.Perm (rs.zip (stackBatch n s rs).2) ∧
      seqRun (fun s (r : SReq) => lifoStep s r.toGOp) s perm = some (stackBatch n s rs).1 :=
  refines_congr (C09_fcstack_session_refines n s rs) fun r hr s' =>
    lifoStepC_eq_lifoStep s' r (hnc r hr).1 (hnc r hr).2

/-- For every stack `s` and batch `rs` of push / pop requests: the responses of `fc_process` followed by `fc_apply`
    on the rest are those of executing SOME permutation of the batch sequentially with `Spec.lifoStep`, and the final
    stack is the final state of that run. -/
theorem C09_fcstack_batch_refines (s : List Int) (rs : List SReq)
    (hnc : ∀ r ∈ rs, r.kind ≠ .clear ∧ r.kind ≠ .empty) :
    let fin := stackFinish (stackProcess s rs).1 rs (stackProcess s rs).2
    fin.2.length = rs.length ∧
    ∃ perm : List (SReq × Resp), perm.Perm (rs.zip fin.2) ∧
      seqRun (fun s (r : SReq) => lifoStep s r.toGOp) s perm = some fin.1 := by
  intro fin
  have hfin : fin = stackBatch 1 s rs := stackBatch_one s rs
  rw [hfin]
  exact C09_fcstack_session_refines_spec 1 s rs hnc

/-- A combiner session of FCStack is linearizable (history records of one batch, pairwise overlapping). -/
theorem C09_fcstack_batch_linearizable (n : Nat) (s : List Int) (rs : List SReq)
    (hnc : ∀ r ∈ rs, r.kind ≠ .clear ∧ r.kind ≠ .empty)
    (ops : List (OpRec GOp GRet))
    (hops : ops.map (fun o => (o.op, o.ret)) = (rs.zip (stackBatch n s rs).2).map (fun p => (p.1.toGOp, p.2)))
    (hconc : ∀ a ∈ ops, ∀ b ∈ ops, ¬ b.res < a.inv) :
    LinearizableFrom lifo s ops := by
  obtain ⟨_, perm, hp, hrun⟩ := C09_fcstack_session_refines_spec n s rs hnc
  exact linearizable_of_perm [] lifoStep SReq.toGOp s _ _ perm hp hrun ops hops hconc

/-! ### FCPriorityQueue: no elimination -/

/-- `fc_apply` is one step of the max-priority-queue specification (`Spec.pqNext 0`, unbounded) with the response
    it writes. -/
theorem C11_fcpq_apply_is_spec (s : List Int) (r : PReq) (h : r.kind ≠ .clear) :
    pqNext 0 s r.toGOp (pqApply s r).2 = some (pqApply s r).1 := by
  have := pqApply_spec s r
  obtain ⟨k, v⟩ := r
  cases k
  case clear => exact absurd rfl h
  all_goals simpa [pqNextC, PReq.toGOp] using this

/-- There is no elimination in FCPriorityQueue (no `fc_process`; all members call `combine`): a combiner pass applies
    the batch in publication-list order, so the explaining permutation is the IDENTITY: the responses are those of
    executing the batch sequentially in list order, and the final queue is that run's final state. -/
theorem C11_fcpq_batch_refines (s : List Int) (rs : List PReq) :
    (pqBatch s rs).2.length = rs.length ∧
    relRun (fun s (r : PReq) a => pqNextC s r.toGOp a) s (rs.zip (pqBatch s rs).2) = some (pqBatch s rs).1 :=
  ⟨pqBatch_length rs s, pqBatch_relRun _ rs s fun r _ s => pqApply_spec s r⟩

/-- The same in the `∃ perm` form of the other containers, against `Spec.pqNext 0` for batches without `clear`. -/
theorem C11_fcpq_batch_refines_perm (s : List Int) (rs : List PReq) (hnc : ∀ r ∈ rs, r.kind ≠ .clear) :
    ∃ perm : List (PReq × Resp), perm.Perm (rs.zip (pqBatch s rs).2) ∧
      relRun (fun s (r : PReq) a => pqNext 0 s r.toGOp a) s perm = some (pqBatch s rs).1 :=
  ⟨_, List.Perm.refl _, pqBatch_relRun _ rs s fun r hr s => C11_fcpq_apply_is_spec s r (hnc r hr)⟩

/-- A combiner pass of FCPriorityQueue is linearizable to `Spec.maxpq 0` in publication-list order; for that order to
    respect real time it suffices that the history records of the batch overlap pairwise. -/
theorem C11_fcpq_batch_linearizable (s : List Int) (rs : List PReq) (hnc : ∀ r ∈ rs, r.kind ≠ .clear)
    (ops : List (OpRec GOp GRet))
    (hops : ops.map (fun o => (o.op, o.ret)) = (rs.zip (pqBatch s rs).2).map (fun p => (p.1.toGOp, p.2)))
    (hconc : ∀ a ∈ ops, ∀ b ∈ ops, ¬ b.res < a.inv) :
    LinearizableFrom (maxpq 0) s ops := by
  obtain ⟨perm, hp, hrun⟩ := C11_fcpq_batch_refines_perm s rs hnc
  have h1 : (perm.map (fun p => (p.1.toGOp, p.2))).Perm (ops.map (fun o => (o.op, o.ret))) := by
    rw [hops]; exact hp.map _
  obtain ⟨ops', hperm, hmap⟩ := perm_lift _ _ _ h1
  refine ⟨ops', hperm, ?_, legal_of_relRun (maxpq 0) PReq.toGOp perm s _ ops' hrun hmap⟩
  exact pairwise_of_forall_mem ops' (fun a ha b hb => hconc a (hperm.mem_iff.mp ha) b (hperm.mem_iff.mp hb))

/-! ### Examples (evaluated by `decide`) -/

/-- Empty queue: `deq`, `enq 5` collide (the dequeue gets 5); a following `enq 6` is applied. -/
example : queueProcess [] [⟨.deq, 0⟩, ⟨.enq, 5⟩, ⟨.enq, 6⟩] = ([], [some [1, 5], some [1], none]) ∧
    queueFinish [] [⟨.deq, 0⟩, ⟨.enq, 5⟩, ⟨.enq, 6⟩] [some [1, 5], some [1], none] = ([6], [[1, 5], [1], [1]]) := by
  decide

/-- Non-empty queue: nothing is collided, the dequeue gets the front item. -/
example : queueProcess [7] [⟨.deq, 0⟩, ⟨.enq, 5⟩] = ([7], [none, none]) ∧
    queueFinish [7] [⟨.deq, 0⟩, ⟨.enq, 5⟩] [none, none] = ([5], [[1, 7], [1]]) := by decide

/-- Stack: neighbouring push / pop collide on a non-empty stack; `empty` has no case label and keeps `itPrev`. -/
example : stackProcess [7] [⟨.push, 5⟩, ⟨.empty, 0⟩, ⟨.pop, 0⟩, ⟨.pop, 0⟩] =
    ([7], [some [1], none, some [1, 5], none]) ∧
    stackFinish [7] [⟨.push, 5⟩, ⟨.empty, 0⟩, ⟨.pop, 0⟩, ⟨.pop, 0⟩] [some [1], none, some [1, 5], none] =
      ([], [[1], [0], [1, 5], [1, 7]]) := by decide

/-- Priority queue: in list order, the pop returns the maximum. -/
example : pqBatch [3000, 9000] [⟨.push, 5000⟩, ⟨.pop, 0⟩, ⟨.pop, 0⟩] = ([3000], [[1], [1, 9000], [1, 5000]]) := by
  decide

end CdsVerif.Props.C23Batch
