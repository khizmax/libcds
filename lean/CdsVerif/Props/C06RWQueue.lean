/-
  C06 — RWQueue (cds::container::RWQueue, the two-lock queue of Michael & Scott, with `cds::sync::spin` locks) is a
  linearizable FIFO queue: every concurrent history of the atomic-step model `Algo/RWQueue/Model.lean` — which
  executes both spin locks step by step (exchange, wait-loop load, unlocking store) — is linearizable to
  `Spec.fifo`; `dequeue` reports "empty" only if the queue was empty at some instant during the call.
  Property theorems only; the model, the invariant and the proof live in `Algo/RWQueue/{Model,Inv,Lin}.lean` and in
  the generic ghost-log construction `Algo/QueueLin/{Chain,History,Ghost}.lean`.

  Assumptions of the model: nodes are never reused (`free_node` of the old dummy is not modelled: after the head
  moved nobody holds a pointer to it); the plain fields `m_Head.ptr` / `m_Tail.ptr` are read and written only inside
  the respective critical section (this is what `C06_rwqueue_locks` justifies).
-/
import CdsVerif.Algo.RWQueue.Lin
namespace CdsVerif.Props.C06RWQueue
open CdsVerif.Machine CdsVerif.Lin CdsVerif.Spec CdsVerif.Algo CdsVerif.Algo.QueueLin

/-- Linearizability, general form (Herlihy–Wing with completion of pending operations).  For EVERY schedule (any
    number of threads, any client program of `enq v` / `deq`, any interleaving of the atomic steps, spinning
    included), the history of the completed operations of the run — extended by response records for the pending
    operations that have already passed their linearization point (at most one per thread; each is an operation
    pending in `os`, completed with the result fixed at its linearization point and the response time "end of
    run"), all other pending operations being dropped — is linearizable to the sequential FIFO queue. -/
theorem C06_rwqueue_linearizable (sched : List (Tid × Act)) (s : RWQueue.St) (os : List (Tid × Obs))
    (h : RWQueue.model.run RWQueue.init sched = some (s, os)) :
    ∃ extra : List (OpRec GOp GRet),
      (∀ e ∈ extra, pendingOf os e.tid = some (e.op, e.inv) ∧ e.res = os.length ∧
          RWQueue.postRet (s.pc e.tid) = some e.ret) ∧
      extra.Pairwise (fun a b => a.tid ≠ b.tid) ∧
      Linearizable fifo (historyOf os ++ extra) :=
  RWQueue.rwqueue_linearizable sched s os h

/-- Runs in which every invoked operation has returned: the history is linearizable as it is. -/
theorem C06_rwqueue_linearizable_complete_runs (sched : List (Tid × Act)) (s : RWQueue.St) (os : List (Tid × Obs))
    (h : RWQueue.model.run RWQueue.init sched = some (s, os)) (hq : ∀ t, s.pc t = .idle) :
    Linearizable fifo (historyOf os) :=
  RWQueue.rwqueue_linearizable_complete_runs sched s os h hq

/-- More generally: runs at whose end no thread is between its linearization point and its return. -/
theorem C06_rwqueue_linearizable_no_effect_pending (sched : List (Tid × Act)) (s : RWQueue.St)
    (os : List (Tid × Obs)) (h : RWQueue.model.run RWQueue.init sched = some (s, os))
    (hq : ∀ t, RWQueue.postRet (s.pc t) = none) :
    Linearizable fifo (historyOf os) :=
  RWQueue.rwqueue_linearizable_no_effect_pending sched s os h hq

/-- No invention: every value returned by a `deq` is the argument of an `enq` that was invoked before the `deq`
    returned. -/
theorem C06_rwqueue_no_invention (sched : List (Tid × Act)) (s : RWQueue.St) (os : List (Tid × Obs))
    (h : RWQueue.model.run RWQueue.init sched = some (s, os)) (r : OpRec GOp GRet)
    (hr : r ∈ historyOf os) (hop : r.op = ⟨"deq", []⟩) (v : Int) (hret : r.ret = [1, v]) :
    ∃ i t', i < r.res ∧ os[i]? = some (t', .call ⟨"enq", [v]⟩) :=
  RWQueue.rwqueue_no_invention sched s os h r hr hop v hret

/-- No duplication: for every value `v` the completed dequeues that returned `v` are at most as many as the `enq v`
    operations of the run (the completed ones plus the pending ones in `extra`). -/
theorem C06_rwqueue_no_duplication (sched : List (Tid × Act)) (s : RWQueue.St) (os : List (Tid × Obs))
    (h : RWQueue.model.run RWQueue.init sched = some (s, os)) :
    ∃ extra : List (OpRec GOp GRet),
      (∀ e ∈ extra, pendingOf os e.tid = some (e.op, e.inv) ∧ e.res = os.length ∧
          RWQueue.postRet (s.pc e.tid) = some e.ret) ∧
      extra.Pairwise (fun a b => a.tid ≠ b.tid) ∧
      ∀ v, (historyOf os).countP (isDeqOf v) ≤ (historyOf os ++ extra).countP (isEnq v) :=
  RWQueue.rwqueue_no_duplication sched s os h

/-- `deq` answers "empty" only if the queue was empty at some instant during the call.  For EVERY run: if a
    completed `deq` returned `[0]`, there is an instant `j` strictly between its call and its return such that in
    the state `s1` reached by the first `j` actions of the run (`EmptyAt`) the caller holds the head lock and is
    about to load `m_Head.ptr->m_pNext`, that link is null, the chain from `m_Head.ptr` is the dummy alone and the
    abstract queue is empty.  (At the unlock / return the queue need not be empty any more: example `emptySched`.) -/
theorem C06_rwqueue_empty_means_empty (sched : List (Tid × Act)) (s : RWQueue.St) (os : List (Tid × Obs))
    (h : RWQueue.model.run RWQueue.init sched = some (s, os)) (r : OpRec GOp GRet)
    (hr : r ∈ historyOf os) (hret : r.ret = [0]) :
    ∃ j s1, r.inv < j ∧ j < r.res ∧ RWQueue.model.run RWQueue.init (sched.take j) = some (s1, os.take j) ∧
      RWQueue.EmptyAt s1 r.tid ∧ RWQueue.absQueue s1 = [] :=
  RWQueue.rwqueue_empty_hindsight sched s os h r hr hret

/-- Refinement: in a reachable state, the step at which thread `t` fixes its result `r` (the linking store of
    `enq`; the null load of an empty `deq`; the step that moves `m_Head.ptr` of a non-empty `deq`) is exactly the
    `fifo` transition of `t`'s operation with result `r` on the abstract queue; every other step — every lock
    operation in particular — leaves the abstract queue unchanged. -/
theorem C06_rwqueue_lp_refines (s s' : RWQueue.St) (t : Tid) (ev : Ev)
    (hreach : RWQueue.model.Reachable RWQueue.init s) (hs : RWQueue.step s t = some (s', ev)) :
    (RWQueue.postRet (s.pc t) = none → ∀ r, RWQueue.postRet (s'.pc t) = some r →
      ∃ op, RWQueue.opOf s.val (s.pc t) = some op ∧
        fifo.next (RWQueue.absQueue s) op r = some (RWQueue.absQueue s')) ∧
    ((RWQueue.postRet (s.pc t) ≠ none ∨ RWQueue.postRet (s'.pc t) = none) →
      RWQueue.absQueue s' = RWQueue.absQueue s) :=
  RWQueue.step_refines (RWQueue.sinv_reachable s hreach) hs

/-- Lock discipline.  In every reachable state at most one thread is inside the critical section of `m_Tail.lock`
    (between its successful `try_lock` and its unlocking store) and then the lock word is set; likewise for
    `m_Head.lock`; and whenever the tail lock is free, `m_Tail.ptr` is the last node of the chain from
    `m_Head.ptr`. -/
theorem C06_rwqueue_locks (s : RWQueue.St) (hreach : RWQueue.model.Reachable RWQueue.init s) :
    (∀ t1 t2, RWQueue.holdsT (s.pc t1) = true → RWQueue.holdsT (s.pc t2) = true → t1 = t2) ∧
    (∀ t, RWQueue.holdsT (s.pc t) = true → s.tlock = true) ∧
    (∀ t1 t2, RWQueue.holdsH (s.pc t1) = true → RWQueue.holdsH (s.pc t2) = true → t1 = t2) ∧
    (∀ t, RWQueue.holdsH (s.pc t) = true → s.hlock = true) ∧
    (s.tlock = false → ∃ l0, RWQueue.absNodes s = l0 ++ [s.tail]) :=
  RWQueue.reachable_locks s hreach

/-- Structure of the reachable states: the chain from `m_Head.ptr` starts there, is finite, duplicate-free and ends
    in a node with a null link. -/
theorem C06_rwqueue_chain (s : RWQueue.St) (hreach : RWQueue.model.Reachable RWQueue.init s) :
    Chain s.next (some s.head) (RWQueue.absNodes s) ∧ (RWQueue.absNodes s).Nodup ∧
      (∃ r, RWQueue.absNodes s = s.head :: r) :=
  RWQueue.reachable_chain s hreach

/-! ### Non-vacuity -/

def steps (t : Tid) (n : Nat) : List (Tid × Act) := List.replicate n (t, .step)

/-- Contention on the tail lock: thread 1's `try_lock` fails (`xchg tlock 1 1`), it spins (`ld tlock 1`), sees the
    lock free (`ld tlock 0`), retries and enqueues behind thread 0's node. -/
def spinSched : List (Tid × Act) :=
  [(0, .invoke ⟨"enq", [1]⟩), (1, .invoke ⟨"enq", [2]⟩), (0, .step), (1, .step), (1, .step), (0, .step), (0, .step),
   (0, .ret)] ++ steps 1 4 ++ [(1, .ret)]

example : (RWQueue.model.run RWQueue.init spinSched).map (·.2) = some
    [(0, .call ⟨"enq", [1]⟩),               -- T 0 C enq [1]
     (1, .call ⟨"enq", [2]⟩),               -- T 1 C enq [2]
     (0, .ev ⟨"xchg", "tlock", "0", "1"⟩),  -- T 0 A xchg tlock 0 1      (acquired)
     (1, .ev ⟨"xchg", "tlock", "1", "1"⟩),  -- T 1 A xchg tlock 1 1      (busy)
     (1, .ev ⟨"ld", "tlock", "1", ""⟩),     -- T 1 A ld tlock 1          (wait loop)
     (0, .ev ⟨"st", "n0", "n1", ""⟩),       -- T 0 A st n0 n1            (linearization point of enq 1)
     (0, .ev ⟨"st", "tlock", "0", ""⟩),     -- T 0 A st tlock 0          (unlock)
     (0, .ret [1]),
     (1, .ev ⟨"ld", "tlock", "0", ""⟩),     -- T 1 A ld tlock 0
     (1, .ev ⟨"xchg", "tlock", "0", "1"⟩),  -- T 1 A xchg tlock 0 1      (acquired)
     (1, .ev ⟨"st", "n1", "n2", ""⟩),       -- T 1 A st n1 n2            (linearization point of enq 2)
     (1, .ev ⟨"st", "tlock", "0", ""⟩),
     (1, .ret [1])] := by decide

example : (RWQueue.model.run RWQueue.init spinSched).map
    (fun r => (linCheck fifo (historyOf r.2), RWQueue.absQueue r.1, RWQueue.absNodes r.1, r.1.tail)) =
    some (true, [1, 2], [0, 1, 2], 2) := by decide

/-- The stale `m_Tail.ptr` leaves the chain.  Thread 0 has linked `n1` behind the dummy `n0` but has not unlocked
    yet (`m_Tail.ptr` is still `n0`); thread 1 dequeues under the OTHER lock: `m_Head.ptr` moves to `n1`, the old
    dummy `n0` — still `m_Tail.ptr` — is out of the queue.  The run stops there: thread 0's `enq` is pending past
    its linearization point, thread 1's `deq` is about to return 7. -/
def staleSched : List (Tid × Act) :=
  [(0, .invoke ⟨"enq", [7]⟩)] ++ steps 0 2 ++ [(1, .invoke ⟨"deq", []⟩)] ++ steps 1 3

example : (RWQueue.model.run RWQueue.init staleSched).map (·.2) = some
    [(0, .call ⟨"enq", [7]⟩),
     (0, .ev ⟨"xchg", "tlock", "0", "1"⟩),
     (0, .ev ⟨"st", "n0", "n1", ""⟩),       -- linearization point of enq 7
     (1, .call ⟨"deq", []⟩),
     (1, .ev ⟨"xchg", "hlock", "0", "1"⟩),
     (1, .ev ⟨"ld", "n0", "n1", ""⟩),
     (1, .ev ⟨"st", "hlock", "0", ""⟩)]     -- m_Head.ptr = n1 (linearization point of deq), unlock
    := by decide

example : (RWQueue.model.run RWQueue.init staleSched).map
    (fun r => (RWQueue.absQueue r.1, RWQueue.absNodes r.1, r.1.head, r.1.tail, r.1.tlock, r.1.hlock)) =
    some ([], [1], 1, 0, true, false) := by decide

example : (RWQueue.model.run RWQueue.init (staleSched ++ [(1, .ret)] ++ steps 0 1 ++ [(0, .ret)])).map
    (fun r => (historyOf r.2, linCheck fifo (historyOf r.2), r.1.head, r.1.tail)) =
    some ([⟨1, ⟨"deq", []⟩, [1, 7], 3, 7⟩, ⟨0, ⟨"enq", [7]⟩, [1], 0, 9⟩], true, 1, 1) := by decide

/-- Why pending operations must be completed: stop that run right after thread 1 has returned. -/
example : (RWQueue.model.run RWQueue.init (staleSched ++ [(1, .ret)])).map (fun r => (historyOf r.2, r.1.pc 0)) =
    some ([⟨1, ⟨"deq", []⟩, [1, 7], 3, 7⟩], .enqUnlock 1) := by decide

example : ¬ Linearizable fifo [⟨1, ⟨"deq", []⟩, [1, 7], 3, 7⟩] :=
  not_linearizable_of_linCheck_eq_false fifo _ (by decide) (by decide)

example : Linearizable fifo ([⟨1, ⟨"deq", []⟩, [1, 7], 3, 7⟩] ++ [⟨0, ⟨"enq", [7]⟩, [1], 0, 8⟩]) :=
  linCheck_sound fifo _ (by decide)

/-- The empty dequeue is linearized at its load, not at its unlock.  Thread 0 reads `n0.next == null` under the head
    lock; thread 1 then enqueues 3 completely (other lock) and returns; only then thread 0 unlocks and answers
    "empty" — at that step the abstract queue is `[3]`. -/
def emptySched : List (Tid × Act) :=
  [(0, .invoke ⟨"deq", []⟩)] ++ steps 0 2 ++ [(1, .invoke ⟨"enq", [3]⟩)] ++ steps 1 3 ++ [(1, .ret)]

example : (RWQueue.model.run RWQueue.init emptySched).map (fun r => (r.2, RWQueue.absQueue r.1, r.1.pc 0)) = some
    ([(0, .call ⟨"deq", []⟩),
      (0, .ev ⟨"xchg", "hlock", "0", "1"⟩),
      (0, .ev ⟨"ld", "n0", "null", ""⟩),      -- linearization point of the empty deq (queue empty)
      (1, .call ⟨"enq", [3]⟩),
      (1, .ev ⟨"xchg", "tlock", "0", "1"⟩),
      (1, .ev ⟨"st", "n0", "n1", ""⟩),
      (1, .ev ⟨"st", "tlock", "0", ""⟩),
      (1, .ret [1])],
     [3], .deqUnlock none) := by decide

example : (RWQueue.model.run RWQueue.init (emptySched ++ steps 0 1 ++ [(0, .ret)])).map
    (fun r => (historyOf r.2, linCheck fifo (historyOf r.2))) =
    some ([⟨1, ⟨"enq", [3]⟩, [1], 3, 7⟩, ⟨0, ⟨"deq", []⟩, [0], 0, 9⟩], true) := by decide

/-- `enq` and `deq` proceed in parallel under different locks. -/
def parSched : List (Tid × Act) :=
  [(0, .invoke ⟨"enq", [5]⟩)] ++ steps 0 3 ++ [(0, .ret), (0, .invoke ⟨"enq", [6]⟩), (1, .invoke ⟨"deq", []⟩),
   (0, .step), (1, .step), (0, .step), (1, .step), (0, .step), (1, .step), (0, .ret), (1, .ret)]

example : (RWQueue.model.run RWQueue.init parSched).map (fun r => (r.2.drop 5, RWQueue.absQueue r.1)) = some
    ([(0, .call ⟨"enq", [6]⟩),
      (1, .call ⟨"deq", []⟩),
      (0, .ev ⟨"xchg", "tlock", "0", "1"⟩),
      (1, .ev ⟨"xchg", "hlock", "0", "1"⟩),   -- both critical sections occupied
      (0, .ev ⟨"st", "n1", "n2", ""⟩),
      (1, .ev ⟨"ld", "n0", "n1", ""⟩),
      (0, .ev ⟨"st", "tlock", "0", ""⟩),
      (1, .ev ⟨"st", "hlock", "0", ""⟩),
      (0, .ret [1]),
      (1, .ret [1, 5])], [6]) := by decide

example : (RWQueue.model.run RWQueue.init parSched).map (fun r => linCheck fifo (historyOf r.2)) = some true := by
  decide

end CdsVerif.Props.C06RWQueue
