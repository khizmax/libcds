/-
  C12 — WeakRingBuffer is an exact SPSC FIFO.
  Property theorems only.  Model: Algo/Ring/Model.lean (typed ring, one step per atomic operation on
  `front_` / `back_`, all interleavings of one producer and one consumer running arbitrary client
  programs); invariant and lemmas: Algo/Ring/Inv.lean.  The record-size helpers of WeakRingBuffer<void>
  are translated from the header on every run (Gen/RingBuffer.lean); Algo/Ring/Void.lean is a
  SEQUENTIAL model of the void variant's record layout (headers, padding, tail markers, caches) built on
  these helpers — the interleavings of the void variant are the subject of Props/C12VoidRing.lean.
-/
import CdsVerif.Algo.Ring.Inv
import CdsVerif.Algo.Ring.Void
import CdsVerif.Gen.RingBuffer

namespace CdsVerif.Props.C12
open CdsVerif.Machine CdsVerif.Spec CdsVerif.Algo
open CdsVerif.Gen.RingBuffer

/-! ### Typed ring buffer, all interleavings -/

/-- In every reachable state the sequence of elements delivered to the consumer is a prefix of the
    sequence of elements pushed: every element is delivered at most once, in push order, and nothing
    is invented.  (`C12_typed_buffer_content` shows that the rest is still in the buffer, so nothing
    is lost either.) -/
theorem C12_typed_fifo (cap : Nat) (hcap : 0 < cap) (s : Ring.St)
    (h : Ring.model.Reachable (Ring.init cap) s) :
    ∃ rest, s.pushed = s.popped ++ rest :=
  ⟨_, Ring.fifo_prefix s (Ring.inv_reachable cap hcap s h)⟩

/-- The counters count: `front_` = number of elements delivered, `back_` = number of elements pushed. -/
theorem C12_typed_counters (cap : Nat) (hcap : 0 < cap) (s : Ring.St)
    (h : Ring.model.Reachable (Ring.init cap) s) :
    s.cap = cap ∧ s.front = s.popped.length ∧ s.back = s.pushed.length := by
  have hinv := Ring.inv_reachable cap hcap s h
  exact ⟨Ring.cap_reachable cap s h, hinv.front_eq, hinv.back_eq⟩

/-- In every reachable state (in particular whenever both threads are idle) the cells
    `front_ mod cap … (back_ - 1) mod cap` hold exactly the pushed but not yet delivered elements, in
    order, and there are `back_ - front_ ≤ cap` of them. -/
theorem C12_typed_buffer_content (cap : Nat) (hcap : 0 < cap) (s : Ring.St)
    (h : Ring.model.Reachable (Ring.init cap) s) :
    Ring.readCells s.buf s.cap s.front (s.back - s.front) = s.pushed.drop s.popped.length ∧
    s.back - s.front = (s.pushed.drop s.popped.length).length ∧
    s.front ≤ s.back ∧ s.back - s.front ≤ s.cap := by
  have hinv := Ring.inv_reachable cap hcap s h
  refine ⟨Ring.buffer_content s hinv, ?_, Ring.in_flight_le_cap s hinv⟩
  rw [List.length_drop, ← hinv.front_eq, ← hinv.back_eq]

/-- A push of `k` elements returns false only if free space is smaller than `k`: whatever transition
    brings the producer into the state "push is about to return false" is the producer's (second) load
    of `front_` — the event `ld front <front_>` — and at that instant
    `capacity - (back_ - front_) < k`.  (No underflow: `front_ ≤ back_ ≤ front_ + cap`.) -/
theorem C12_push_fails_only_if_full (cap : Nat) (hcap : 0 < cap) (s : Ring.St)
    (h : Ring.model.Reachable (Ring.init cap) s) (t : Tid) (a : Act) (s' : Ring.St) (o : Obs)
    (hap : Ring.model.apply s t a = some (s', o))
    (hold : s.pp ≠ .done [0]) (hnew : s'.pp = .done [0]) :
    t = 0 ∧ a = .step ∧ o = .ev ⟨"ld", "front", toString s.front, ""⟩ ∧
    ∃ vs, s.pp = .ldFront vs s.back ∧ s.cap - (s.back - s.front) < vs.length := by
  have hinv := Ring.inv_reachable cap hcap s h
  obtain ⟨ht, ha, vs, b, hpp, ho, hlt⟩ := Ring.apply_push_fail s t a s' o hap hold hnew
  have hb := hinv.p_ldFront vs b hpp
  have := Ring.in_flight_le_cap s hinv
  subst hb
  exact ⟨ht, ha, ho, vs, hpp, by omega⟩

/-- `false` is what the client then receives, and it is received in no other way. -/
theorem C12_push_result (s : Ring.St) (s' : Ring.St) (r : GRet)
    (h : Ring.model.result s 0 = some (s', r)) : s.pp = .done r := by
  rcases Ring.result_done (t := 0) h with ⟨-, hpp⟩ | ⟨h01, -⟩
  · exact hpp
  · cases h01

/-- Conversely the second test is exact: at the producer's load of `front_` the push fails iff the
    free space at that instant is smaller than the batch. -/
theorem C12_push_fails_iff_full (cap : Nat) (hcap : 0 < cap) (s : Ring.St)
    (h : Ring.model.Reachable (Ring.init cap) s) (vs : List Int) (b : Nat) (hpp : s.pp = .ldFront vs b)
    (s' : Ring.St) (e : Ev) (hst : Ring.model.step s 0 = some (s', e)) :
    (s'.pp = .done [0] ↔ s.cap - (s.back - s.front) < vs.length) ∧
    (s'.pp ≠ .done [0] → s'.pp = .stBack vs s.back) := by
  have hinv := Ring.inv_reachable cap hcap s h
  have hb := hinv.p_ldFront vs b hpp
  have := Ring.in_flight_le_cap s hinv
  subst hb
  -- the machine tests `front_ + cap - back < count`; no subtraction underflows
  obtain ⟨hfail, hgo⟩ := Ring.step_ldFront hpp hst
  refine ⟨?_, hgo⟩
  rw [hfail]
  omega

/-- A pop of `k` elements (`front()` / `pop_front()`: `k = 1`) fails only if fewer than `k` elements are
    present: whatever transition brings the consumer into the state "about to return false / nullptr" is
    the consumer's (second) load of `back_` — the event `ld back <back_>` — and at that instant
    `back_ - front_ < k`. -/
theorem C12_pop_fails_only_if_short (cap : Nat) (hcap : 0 < cap) (s : Ring.St)
    (h : Ring.model.Reachable (Ring.init cap) s) (t : Tid) (a : Act) (s' : Ring.St) (o : Obs)
    (hap : Ring.model.apply s t a = some (s', o))
    (hold : s.cp ≠ .done [0]) (hnew : s'.cp = .done [0]) :
    t = 1 ∧ a = .step ∧ o = .ev ⟨"ld", "back", toString s.back, ""⟩ ∧
    ∃ op, s.cp = .ldBack op s.front ∧ s.back - s.front < Ring.need op := by
  have hinv := Ring.inv_reachable cap hcap s h
  obtain ⟨ht, ha, op, f, hcp, ho, hlt⟩ := Ring.apply_pop_fail s t a s' o hap hold hnew
  obtain ⟨hf, -⟩ := hinv.c_ldBack op f hcp
  subst hf
  exact ⟨ht, ha, ho, op, hcp, hlt⟩

theorem C12_pop_result (s : Ring.St) (s' : Ring.St) (r : GRet)
    (h : Ring.model.result s 1 = some (s', r)) : s.cp = .done r := by
  rcases Ring.result_done (t := 1) h with ⟨h10, -⟩ | ⟨-, hcp⟩
  · cases h10
  · exact hcp

/-- The producer never writes a cell that holds an element not yet popped: no transition of any thread
    changes a live cell (`front_ ≤ j < back_`), and when the producer is about to copy a batch, the cells
    it is going to write are disjoint from the live ones (from `back_ + count ≤ pfront_ + cap` with the
    producer's conservative view `pfront_ ≤ front_`).  Since the consumer reads only live cells and
    `front_` is advanced only after the copy-out, this also covers a pop in progress. -/
theorem C12_never_overwrites_unconsumed (cap : Nat) (hcap : 0 < cap) (s : Ring.St)
    (h : Ring.model.Reachable (Ring.init cap) s) :
    (∀ t a s' o, Ring.model.apply s t a = some (s', o) →
      ∀ j, s.front ≤ j → j < s.back → s'.buf (j % s.cap) = s.buf (j % s.cap)) ∧
    (∀ vs b, s.pp = .stBack vs b →
      ∀ i, i < vs.length → ∀ j, s.front ≤ j → j < s.back → (b + i) % s.cap ≠ j % s.cap) := by
  have hinv := Ring.inv_reachable cap hcap s h
  exact ⟨fun t a s' o hap => Ring.apply_buf_live s t a s' o hinv hap, Ring.stBack_disjoint s hinv⟩

/-! ### Non-vacuity: runs that wrap around a capacity-2 buffer -/

set_option synthInstance.maxSize 2000 in
/-- push [1,2]; pop; push [3] (lands in cell 0: the wrap); pop 2: delivered 1,2,3.  The last four
    observations show the exact form of the events and results. -/
example : (Ring.model.run (Ring.init 2)
    [(0, .invoke ⟨"push", [1, 2]⟩), (0, .step), (0, .step), (0, .ret),
     (1, .invoke ⟨"pop", []⟩), (1, .step), (1, .step), (1, .step), (1, .ret),
     (0, .invoke ⟨"push", [3]⟩), (0, .step), (0, .step), (0, .step), (0, .ret),
     (1, .invoke ⟨"popn", [2]⟩), (1, .step), (1, .step), (1, .step), (1, .ret)]).map
      (fun p => (p.1.popped, p.1.pushed, [p.1.front, p.1.back], [p.1.buf 0, p.1.buf 1], p.2.drop 15))
    = some ([1, 2, 3], [1, 2, 3], [3, 3], [3, 2],
        [(1, .ev ⟨"ld", "front", "1", ""⟩), (1, .ev ⟨"ld", "back", "3", ""⟩),
         (1, .ev ⟨"st", "front", "3", ""⟩), (1, .ret [1, 2, 3])]) := by
  decide +kernel

set_option synthInstance.maxSize 2000 in
/-- Interleaved: the consumer's pop overlaps a push; the pop that started on an empty buffer fails; a
    push into the full buffer fails at its load of `front_` (the hypotheses of the two failure theorems
    are satisfiable). -/
example : (Ring.model.run (Ring.init 2)
    [(1, .invoke ⟨"pop", []⟩), (1, .step),
     (0, .invoke ⟨"pushn", [7, 2]⟩), (0, .step),
     (1, .step), (1, .ret),                                   -- pop fails: back_ still 0
     (0, .step), (0, .ret),                                   -- batch 7,8 published
     (0, .invoke ⟨"push", [9]⟩), (0, .step), (0, .step)]).map
      (fun p => (p.1.popped, p.1.pushed, p.1.pp, p.1.cp, p.2.getLast?))
    = some ([], [7, 8], .done [0], .idle, some (0, .ev ⟨"ld", "front", "0", ""⟩)) := by
  decide +kernel

set_option synthInstance.maxSize 2000 in
/-- front / popf (front() + pop_front()) on a rotated buffer (warm-up of the harness client). -/
example : (Ring.model.run (Ring.warmup 2 3)
    [(0, .invoke ⟨"pushn", [5, 2]⟩), (0, .step), (0, .step), (0, .step), (0, .ret),
     (1, .invoke ⟨"front", []⟩), (1, .step), (1, .step), (1, .ret),
     (1, .invoke ⟨"popf", []⟩), (1, .step), (1, .step), (1, .step), (1, .ret)]).map
      (fun p => (p.1.popped.drop 3, p.1.pushed.drop 3, [p.1.front, p.1.back], p.2.drop 8))
    = some ([5], [5, 6], [4, 5],
        [(1, .ret [1, 5]), (1, .call ⟨"popf", []⟩), (1, .ev ⟨"ld", "front", "3", ""⟩),
         (1, .ev ⟨"ld", "front", "3", ""⟩), (1, .ev ⟨"st", "front", "4", ""⟩), (1, .ret [1, 5])]) := by
  decide +kernel

/-! ### The translated helpers of `WeakRingBuffer<void>` -/

/-- The size helpers never hit undefined behaviour (all shifts are by the constant 63). -/
theorem C12_helpers_no_ub (x : BitVec 64) :
    calc_real_size_ub x = false ∧ is_tail_ub x = false ∧ make_tail_ub x = false ∧ untail_ub x = false := by
  refine ⟨?_, ?_, ?_, ?_⟩ <;> simp [calc_real_size_ub, is_tail_ub, make_tail_ub, untail_ub] <;> decide

/-- Tail markers: for every size below 2^63 the mark is recognised, removable, and never present on a
    plain size. -/
theorem C12_tail_roundtrip (x : BitVec 64) (h : x.toNat < 2^63) :
    untail (make_tail x) = x ∧ is_tail (make_tail x) = true ∧ is_tail x = false :=
  ⟨Ring.untail_make_tail x h, Ring.is_tail_make_tail x, Ring.is_tail_of_lt x h⟩

/-- `calc_real_size`: a multiple of 8 with room for the 8-byte header and the payload, wasting at most
    7 bytes of padding. -/
theorem C12_real_size (x : BitVec 64) (h : x.toNat < 2^63) :
    (calc_real_size x).toNat % 8 = 0 ∧ x.toNat + 8 ≤ (calc_real_size x).toNat ∧
    (calc_real_size x).toNat ≤ x.toNat + 15 := by
  rw [Ring.calc_real_size_toNat x h]
  omega

example : calc_real_size 1 = 16 ∧ calc_real_size 8 = 16 ∧ calc_real_size 9 = 24 := by decide
example : untail (make_tail 40) = 40 ∧ is_tail (make_tail 40) = true ∧ is_tail 40 = false := by decide

/-! ### `WeakRingBuffer<void>`: record layout (sequential model, capacity a multiple of 8)

`Void.WF s recs` says that the buffer state `s` holds exactly the byte records `recs`, oldest first
(it contains the hypotheses `8 ∣ capacity`, `0 < capacity < 2^63`); `Void.wf_init` establishes it for the
empty buffer and every operation preserves it (below). -/

open CdsVerif.Algo.Ring in
/-- Initial state: the empty buffer of any capacity that is a positive multiple of 8. -/
theorem C12_void_init (cap : Nat) (h8 : cap % 8 = 0) (hpos : 0 < cap) (hlt : cap < 2 ^ 63) :
    Void.WF (Void.vinit cap) [] := Void.wf_init cap h8 hpos hlt

open CdsVerif.Algo.Ring in
/-- `push_back( data, size )` in any well-formed state: it succeeds iff the free space
    `capacity - (back_ - front_)` is at least the request, where the request is the record's real size
    (8-byte header + payload rounded up to 8) plus, when the record does not fit before the end of the
    buffer, the unusable tail.  On success the record becomes the newest element of the contents; on
    failure the contents are unchanged. -/
theorem C12_void_push (s : Void.VSt) (recs : List (List Void.Byte)) (data : List Void.Byte)
    (h : Void.WF s recs) (hlen : data.length < 2 ^ 63) (s' : Void.VSt) (ok : Bool)
    (hv : Void.vpushData s data = (s', ok)) :
    (ok = true → Void.WF s' (recs ++ [data]) ∧ Void.need s data.length ≤ s.cap - (s.back - s.front)) ∧
    (ok = false → Void.WF s' recs ∧ s.cap - (s.back - s.front) < Void.need s data.length) := by
  obtain ⟨-, -, h1, h2⟩ := Void.vpushData_spec s recs data h hlen s' ok hv
  exact ⟨h1, fun hf => ⟨(h2 hf).1, (h2 hf).2.2⟩⟩

open CdsVerif.Algo.Ring in
/-- `front()` / `pop_front()` on non-empty contents: `front()` returns the address `p` of a contiguous
    area (`p + size ≤ capacity`: never wrapping — a record that did not fit before the end was restarted
    at offset 0 behind a tail marker, which `front()` skips) together with the exact size of the oldest
    record, the bytes there are exactly the bytes pushed, and `pop_front()` then removes exactly this
    record. -/
theorem C12_void_front_exact (s : Void.VSt) (data : List Void.Byte) (rest : List (List Void.Byte))
    (h : Void.WF s (data :: rest)) :
    ∃ s1 p s2, Void.vfront s = (s1, some (p, BitVec.ofNat 64 data.length)) ∧
      Void.readBytes s1.mem p data.length = data ∧ p + data.length ≤ s1.cap ∧
      Void.vpop s1 = (s2, true) ∧ Void.WF s2 rest := by
  obtain ⟨s1, r, hvf, hwf1, -, -, -, hok⟩ := Void.vfront_spec s _ h
  obtain ⟨p, rfl, hbytes, hfit, hdr⟩ := hok
  obtain ⟨s2, hpop, hwf2, -⟩ := Void.vpop_record s1 data rest hwf1 hdr
  exact ⟨s1, p, s2, hvf, hbytes, hfit, hpop, hwf2⟩

open CdsVerif.Algo.Ring in
/-- `front()` returns nullptr only on an empty buffer (possibly after skipping a published tail marker). -/
theorem C12_void_front_empty (s : Void.VSt) (h : Void.WF s []) :
    ∃ s1, Void.vfront s = (s1, none) ∧ Void.WF s1 [] := by
  obtain ⟨s1, r, hvf, hwf1, -, -, -, hok⟩ := Void.vfront_spec s _ h
  simp only [Void.FrontOk] at hok
  subst hok
  exact ⟨s1, hvf, hwf1⟩

open CdsVerif.Algo.Ring in
/-- Round trip of one record through a drained buffer at ANY rotation (so including the positions where
    the record does not fit before the end of the buffer and is wrapped): if the push succeeds, `front()`
    returns exactly its size and bytes, and `pop_front()` leaves the buffer empty again. -/
theorem C12_void_record_roundtrip (s : Void.VSt) (data : List Void.Byte) (h : Void.WF s [])
    (hlen : data.length < 2 ^ 63) (s1 : Void.VSt) (hpush : Void.vpushData s data = (s1, true)) :
    ∃ s2 p s3, Void.vfront s1 = (s2, some (p, BitVec.ofNat 64 data.length)) ∧
      Void.readBytes s2.mem p data.length = data ∧ p + data.length ≤ s2.cap ∧
      Void.vpop s2 = (s3, true) ∧ Void.WF s3 [] := by
  have := ((C12_void_push s [] data h hlen s1 true hpush).1 rfl).1
  exact C12_void_front_exact s1 data [] this

open CdsVerif.Algo.Ring in
/-- Any sequential client program (pushes of arbitrary records, `front()`+`pop_front()` consumptions, in
    any order) on a fresh buffer: the records consumed, followed by the records still in the buffer, are
    exactly the records whose push succeeded, in push order, with their exact sizes and bytes. -/
theorem C12_void_fifo (cap : Nat) (h8 : cap % 8 = 0) (hpos : 0 < cap) (hlt : cap < 2 ^ 63)
    (ops : List Void.VOp) (hlen : ∀ d, Void.VOp.push d ∈ ops → d.length < 2 ^ 63) :
    ∃ remaining, Void.WF (Void.vrun (Void.vinit cap) ops).1 remaining ∧
      (Void.vrun (Void.vinit cap) ops).2.1 = (Void.vrun (Void.vinit cap) ops).2.2 ++ remaining := by
  obtain ⟨q', hwf, he⟩ := Void.vrun_fifo ops _ [] (Void.wf_init cap h8 hpos hlt) hlen
  exact ⟨q', hwf, by simpa using he⟩

open CdsVerif.Algo.Ring in
/-- Non-vacuity, wrap case: capacity 64; a 40-byte record (48 bytes with header) is pushed and consumed,
    so that `back_ = front_ = 48`; the next record (10 bytes, real size 24) does not fit into the 16
    remaining bytes: a tail marker is written, the record goes to offset 0, and it is read back exactly
    (`back_` ends at 48 + 16 + 24 = 88). -/
example : (fun r : Void.VSt × List (List Void.Byte) × List (List Void.Byte) => (r.1.front, r.1.back, r.2.2))
    (Void.vrun (Void.vinit 64)
      [.push (List.replicate 40 1), .consume, .push [1, 2, 3, 4, 5, 6, 7, 8, 9, 10], .consume])
    = (88, 88, [List.replicate 40 1, [1, 2, 3, 4, 5, 6, 7, 8, 9, 10]]) := by
  decide +kernel

end CdsVerif.Props.C12
