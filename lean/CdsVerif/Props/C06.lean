/-
  C06 — exactness of the history checker used by tie H.
  The algorithm-level theorems (one machine per queue, every schedule) are in Props/C06MSQueue.lean, C06Moir.lean,
  C06RWQueue.lean, C06Optimistic.lean and C06Basket.lean.
-/
import CdsVerif.Base.Spec
namespace CdsVerif.Props.C06
open CdsVerif.Lin CdsVerif.Spec

/-- The oracle of tie H is exact: a history of the real container is accepted by the driver iff it is
    linearizable to the sequential specification. -/
theorem C06_history_oracle_exact  (ops : List (OpRec GOp GRet)) (hwf : ∀ o ∈ ops, o.inv ≤ o.res) :
    linCheck fifo ops = true ↔ Linearizable fifo ops :=
  linCheck_iff _ ops hwf

end CdsVerif.Props.C06
