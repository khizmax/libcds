/-
  C17 (growth / rehash keeps exactly the set of elements) for the sequential CuckooSet model
  (Algo/Cuckoo/Model.lean, tied to cds::container::CuckooSet by tools/cuckoo_tie.py: identical results, bucket counts,
  size() and probe-set layouts after every operation, the same lost keys) and the sequential StripedSet rehash
  (Algo/Cuckoo/StripedSeq.lean).

  The FULL statement of C17 for CuckooSet::resize(),

      ∀ c s, CInv c s → ∀ k, contains c (resize c s) k = contains c s k            (every element stays findable)

  is FALSE for the code as it stands: `C17_cuckoo_resize_full_statement_false`, with the concrete witness
  `C17_cuckoo_resize_can_drop` (the state in which the kept witness of tools/props.py `c17` - hashes k % 3 and
  (k / 3) % 3, probe-set size 2, default threshold - calls resize() during its operation 55: key 7 is lost, size()
  keeps counting it) and the whole kept run `C17_cuckoo_witness_run`.  What holds:

    * `C17_cuckoo_resize_exact`  (no hypothesis): the doubled tables hold the old keys minus exactly the keys of the
      ghost list `resizeLost`, every key in the probe set its hash selects, item counter unchanged;
    * `C17_cuckoo_resize_preserves_partial`: under the decidable room hypothesis `ResizeRoom` (during the re-insertion
      no node finds both of its probe sets full) resize() keeps exactly the set: same contains() for every key, same
      size(), no key twice, invariant preserved.  `_partial` = the room hypothesis; it is also necessary
      (`C17_cuckoo_resize_room_iff`: ResizeRoom ↔ nothing lost).
    * insert / erase / contains laws on states satisfying `CInv`; the insert law is `_partial`: it assumes that the
      call returns (fuel) and that the resizes it ran lost nothing (`C17_cuckoo_insert_exact` is the unconditional
      form with the ghost list of lost keys).
    * `C17_striped_rehash_preserves`: StripedSet's rehash, for EVERY hash function, no hypothesis.
-/
import CdsVerif.Algo.Cuckoo.Ops
import CdsVerif.Algo.Cuckoo.StripedSeq

namespace CdsVerif.Props
open CdsVerif.Algo.Cuckoo

/-- the keys resize() leaves behind in the old tables -/
def resizeLost (c : Cfg) (s : St) : List Int := (resizeG c s).2

/-! ### resize -/

/-- resize(), no hypothesis beyond well-formed tables: new tables well formed and well placed, twice the buckets, item
    counter unchanged, and for every key: copies linked after + copies lost = copies linked before -/
theorem C17_cuckoo_resize_exact (c : Cfg) (s : St) (hw : WF s) :
    WF (resize c s) ∧ Placed c (resize c s) ∧ (resize c s).cap = 2 * s.cap ∧ size (resize c s) = size s
      ∧ ∀ k, (resize c s).elems.count k + (resizeLost c s).count k = s.elems.count k :=
  resizeG_spec c s hw.2.2

/-- C17 for CuckooSet::resize() under the room hypothesis -/
theorem C17_cuckoo_resize_preserves_partial (c : Cfg) (s : St) (hi : CInv c s) (hr : ResizeRoom c s) :
    (∀ k, contains c (resize c s) k = contains c s k) ∧ size (resize c s) = size s ∧ (resize c s).elems.Nodup
      ∧ (resize c s).elems.Perm s.elems ∧ CInv c (resize c s) ∧ (resize c s).cap = 2 * s.cap := by
  have e := resizeG_ext c s hi.wf
  rw [resizeRoom_lost hr] at e
  obtain ⟨-, -, hcap, hcount, -⟩ := resizeG_spec c s hi.wf.2.2
  have inv : CInv c (resize c s) := CInv_same hi e hcount
  have pm : (resizeG c s).1.elems.Perm s.elems := by simpa using e.perm
  exact ⟨e.contains_same hi.placed, hcount, inv.nodup, pm, inv, hcap⟩

/-- the room hypothesis is exactly "nothing is lost" (threshold within the probe-set size, the constructor's precondition) -/
theorem C17_cuckoo_resize_room_iff (c : Cfg) (s : St) (ht : c.thr ≤ c.pset) : ResizeRoom c s ↔ resizeLost c s = [] :=
  resizeRoom_iff ht

/-- which keys disappear: exactly the ghost list -/
theorem C17_cuckoo_resize_lost_iff (c : Cfg) (s : St) (hi : CInv c s) (k : Int) :
    (contains c s k = true ∧ contains c (resize c s) k = false) ↔ k ∈ resizeLost c s := by
  obtain ⟨-, hp, -, -, he⟩ := resizeG_spec c s hi.wf.2.2
  have a := contains_true_iff_cnt hi.placed k
  have b := contains_false_iff_cnt hp k
  have c1 := cnt_le_one hi k
  have := he k
  show _ ∧ contains c (resizeG c s).1 k = false ↔ _
  rw [a, b, ← List.count_pos_iff]
  show _ ↔ 0 < (resizeG c s).2.count k
  omega

/-! the witness of the kept run of tools/props.py `c17`: hashes k % 3 and (k / 3) % 3, probe-set size 2, default
    threshold (1); the tables at the moment insert(1) calls resize() in operation 55, with the 252 empty probe sets
    beyond index 3 of each table cut off (the hashes are below 3) -/

def witnessCfg : Cfg := mkCfg 2 3 2 0

def witnessSt : St := { cap := 4, t0 := [[3, 6], [1], [2, 8], []], t1 := [[0, 9], [5, 4], [7], []], count := 10 }

theorem witnessSt_inv : CInv witnessCfg witnessSt := CInv_of_cinvB (by decide +kernel)

/-- resize() loses key 7 (both of its probe sets, table 0 [1] and table 1 [2], are full when its turn comes) and
    size() still says 10 -/
theorem C17_cuckoo_resize_can_drop :
    ∃ (c : Cfg) (s : St) (k : Int), CInv c s ∧ 1 ≤ c.thr ∧ c.thr < c.pset ∧ contains c s k = true
      ∧ contains c (resize c s) k = false ∧ size (resize c s) = size s ∧ resizeLost c s = [k] :=
  ⟨witnessCfg, witnessSt, 7, witnessSt_inv, by decide, by decide, by decide +kernel, by decide +kernel, by decide +kernel,
    by decide +kernel⟩

/-- the negation of the full statement of C17 for CuckooSet::resize() -/
theorem C17_cuckoo_resize_full_statement_false :
    ¬ (∀ (c : Cfg) (s : St), CInv c s → ∀ k, contains c (resize c s) k = contains c s k) := by
  intro h
  have := h witnessCfg witnessSt witnessSt_inv 7
  revert this
  decide +kernel

/-- insert / erase sequence of the harness on the model (`none`: an insert ran out of fuel) -/
def runOps (c : Cfg) (fuel : Nat) : St → List (Bool × Int) → Option St
  | s, [] => some s
  | s, (true, k) :: rest =>
    match insertLoop c fuel s k with
    | some r => runOps c fuel r.1 rest
    | none => none
  | s, (false, k) :: rest => runOps c fuel (erase c s k).1 rest

/-- the kept witness `explicit cuckoo_list 2 3 4 2 0 10 i3 e2 i1 … e1 i8 i1` of tools/props.py, operation by operation -/
def witnessOps : List (Bool × Int) :=
  [(true,3),(false,2),(true,1),(true,6),(false,0),(false,6),(true,7),(false,3),(true,8),(true,3),(true,3),(false,0),
   (false,7),(false,2),(true,9),(false,1),(true,2),(true,4),(true,5),(true,5),(true,1),(true,8),(true,1),(false,4),
   (true,8),(true,8),(true,3),(true,3),(true,1),(true,5),(true,4),(true,1),(false,8),(true,0),(true,8),(false,0),
   (true,1),(false,9),(true,1),(true,7),(true,6),(true,7),(true,9),(true,4),(false,9),(true,2),(true,8),(true,9),
   (false,1),(true,9),(true,0),(false,8),(true,5),(false,1),(true,8),(true,1)]

/-- the whole kept run from the empty set with 4 buckets: after the 56 operations the reference set is {0,…,9}, the model
    (like the real container: "key 7 lost after operation 55") does not find 7 and reports size 10 with 9 nodes linked -/
theorem C17_cuckoo_witness_run :
    (runOps witnessCfg 12 (initSt 4) witnessOps).map (fun s => (contains witnessCfg s 7, size s, s.elems.length,
      (List.range 10).map (fun q => contains witnessCfg s (Int.ofNat q))))
      = some (false, 10, 9, [true, true, true, true, true, true, true, false, true, true]) := by
  decide +kernel

/-! ### insert, erase, contains on states satisfying the invariant -/

theorem C17_cuckoo_empty_inv (c : Cfg) (init : Nat) : CInv c (initSt init) := by
  unfold initSt
  apply CInv_empty
  split
  · decide
  · exact ceil2Aux_pos _ _ _ (by decide)

/-- contains() is membership among the linked nodes -/
theorem C17_cuckoo_contains_iff (c : Cfg) (s : St) (hi : CInv c s) (k : Int) : contains c s k = true ↔ k ∈ s.elems :=
  contains_iff hi.placed k

/-- erase(), no extra hypothesis -/
theorem C17_cuckoo_erase (c : Cfg) (s : St) (hi : CInv c s) (k : Int) :
    CInv c (erase c s k).1 ∧ (erase c s k).2 = contains c s k
      ∧ (∀ q, contains c (erase c s k).1 q = (contains c s q && decide (q ≠ k)))
      ∧ size (erase c s k).1 = size s - (if contains c s k then 1 else 0) ∧ (erase c s k).1.cap = s.cap := by
  cases hc : contains c s k
  · rw [erase_absent c s k hc]
    exact ⟨hi, rfl, contains_eq_and_of_absent hc, by simp, rfl⟩
  · obtain ⟨r, e, n, cp⟩ := erase_present c s k hi.wf hc
    exact ⟨CInv_remove hi e n, r, e.contains_remove hi, by simpa [size] using n, cp⟩

/-- insert(), unconditional form: when the call returns, an absent key is reported inserted, size() grows by one, the
    tables stay well formed and well placed, and for every key: copies linked after + copies lost by the resizes of this
    call = copies linked before + (1 for the new key); a present key changes nothing -/
theorem C17_cuckoo_insert_exact (c : Cfg) (f : Nat) (s s' : St) (k : Int) (r : Bool) (lost : List Int) (hi : CInv c s)
    (h : insertLoop c f s k = some (s', r, lost)) :
    r = !contains c s k ∧ WF s' ∧ Placed c s'
      ∧ (contains c s k = true → s' = s ∧ lost = [])
      ∧ (contains c s k = false → size s' = size s + 1 ∧
          ∀ q, s'.elems.count q + lost.count q = s.elems.count q + (if k = q then 1 else 0)) := by
  cases hc : contains c s k
  · obtain ⟨a, e, n⟩ := insertLoop_absent c f s k _ hi.wf hi.placed hc h
    refine ⟨by simpa using a, e.wf, e.placed hi.placed, fun x => (by cases x), fun _ => ⟨n, fun q => ?_⟩⟩
    have := e.cnt q
    simpa [cnt, List.count_cons] using this
  · cases f with
    | zero => cases h
    | succ f =>
      rw [insertLoop_present c f s k hc] at h
      cases h
      exact ⟨rfl, hi.wf, hi.placed, fun _ => ⟨rfl, rfl⟩, fun x => (by cases x)⟩

/-- insert() law.  `_partial`: assumes that the call returns (`insertLoop … = some …`: CuckooSet::insert may double its
    tables for ever, known finding C17-cuckoo-endless-resize) and that its resizes lost nothing (`lost = []`: known finding
    C17-cuckoo-resize-drop; by `C17_cuckoo_resize_room_iff` this is the room hypothesis of every resize on the way) -/
theorem C17_cuckoo_insert_partial (c : Cfg) (f : Nat) (s s' : St) (k : Int) (r : Bool) (hi : CInv c s)
    (h : insertLoop c f s k = some (s', r, [])) :
    CInv c s' ∧ r = !contains c s k ∧ (∀ q, contains c s' q = (decide (q = k) || contains c s q))
      ∧ size s' = size s + (if contains c s k then 0 else 1) := by
  cases hc : contains c s k
  · obtain ⟨a, e, n⟩ := insertLoop_absent c f s k _ hi.wf hi.placed hc h
    have z := (contains_false_iff_cnt hi.placed k).mp hc
    exact ⟨CInv_add hi e z n, by simpa using a, e.contains_add hi.placed, by simpa [size] using n⟩
  · cases f with
    | zero => cases h
    | succ f =>
      rw [insertLoop_present c f s k hc] at h
      cases h
      exact ⟨hi, rfl, contains_eq_or_of_present hc, by simp⟩

/-- a case in which the hypotheses of the insert law hold by construction: one of the two probe sets of an absent key
    is below the threshold - insert() links the key there and neither relocates nor resizes -/
theorem C17_cuckoo_insert_below_threshold (c : Cfg) (f : Nat) (s : St) (k : Int) (hc : contains c s k = false)
    (hr : (s.bucketOf c false k).length < c.thr ∨ (s.bucketOf c true k).length < c.thr) :
    ∃ s', insertLoop c (f + 1) s k = some (s', true, []) := by
  unfold insertLoop
  rw [if_neg (by simp [hc])]
  by_cases h0 : (s.bucketOf c false k).length < c.thr
  · rw [if_pos h0]; exact ⟨_, rfl⟩
  · rw [if_neg h0, if_pos (hr.resolve_left h0)]; exact ⟨_, rfl⟩

/-! ### the hypotheses are satisfiable on non-trivial states -/

/-- a state with room: 6 keys in tables of 2 buckets, identity and k * 16 hashes, probe-set size 4, threshold 2 -/
def roomCfg : Cfg := mkCfg 0 5 4 2
def roomSt : St := { cap := 2, t0 := [[0, 2], [1, 3]], t1 := [[4, 5], []], count := 6 }

example : CInv roomCfg roomSt := CInv_of_cinvB (by decide +kernel)
example : ResizeRoom roomCfg roomSt := by decide +kernel
/-- … and the conclusion of the resize theorem on it, computed: four buckets, nothing lost, the keys redistributed -/
example : resize roomCfg roomSt = { cap := 4, t0 := [[0, 4], [1, 5], [2], [3]], t1 := [[], [], [], []], count := 6 } := by
  decide +kernel
example : (∀ k, contains roomCfg (resize roomCfg roomSt) k = contains roomCfg roomSt k) ∧ size (resize roomCfg roomSt) = 6 :=
  let h := C17_cuckoo_resize_preserves_partial roomCfg roomSt (CInv_of_cinvB (by decide +kernel)) (by decide +kernel)
  ⟨h.1, h.2.1⟩
/-- the room hypothesis FAILS on the witness of the drop (it is not vacuous either way) -/
example : ¬ ResizeRoom witnessCfg witnessSt := by decide +kernel
/-- insert law: inserting 6 into `roomSt` (both probe sets at the threshold: the relocation fails, insert() resizes, nothing is lost) -/
example : insertLoop roomCfg 3 roomSt 6 =
    some ({ cap := 4, t0 := [[4, 0], [1, 5], [6, 2], [3]], t1 := [[], [], [], []], count := 7 }, true, []) := by decide +kernel
example : CInv roomCfg { cap := 4, t0 := [[4, 0], [1, 5], [6, 2], [3]], t1 := [[], [], [], []], count := 7 } :=
  (C17_cuckoo_insert_partial roomCfg 3 roomSt _ 6 true (CInv_of_cinvB (by decide +kernel)) (by decide +kernel)).1
/-- erase law on the witness state -/
example : (erase witnessCfg witnessSt 8).1 = { cap := 4, t0 := [[3, 6], [1], [2], []], t1 := [[0, 9], [5, 4], [7], []], count := 9 } := by
  decide +kernel
example : CInv witnessCfg (erase witnessCfg witnessSt 8).1 := (C17_cuckoo_erase witnessCfg witnessSt witnessSt_inv 8).1

/-! ### StripedSet -/

open CdsVerif.Algo.Cuckoo.StripedSeq in
/-- StripedSet's rehash (internal_resize into the doubled table), for EVERY hash function and every table with
    `cap > 0` buckets: the new table has `2 * cap` buckets and holds exactly the old keys (as a multiset: nothing lost,
    nothing duplicated), every key in the bucket `hash & (2 * cap - 1)`, every key found again by find(), item counter
    unchanged.  No hypothesis on the hash function, the load factor or the content. -/
theorem C17_striped_rehash_preserves (h : Int → Nat) (s : SSt) (hc : 0 < s.cap) :
    (rehash h s).bkt.length = 2 * s.cap ∧ (rehash h s).count = s.count
      ∧ (rehash h s).bkt.flatten.Perm s.bkt.flatten
      ∧ (∀ j k, k ∈ (rehash h s).bkt.getD j [] → idx (2 * s.cap) (h k) = j)
      ∧ (∀ k, scontains h (rehash h s) k = true ↔ k ∈ s.bkt.flatten) := by
  obtain ⟨a, b, c, d, e⟩ := rehash_spec h s hc
  refine ⟨a, c, e, d, fun k => ?_⟩
  rw [scontains_iff h (rehash h s) d k]
  exact e.mem_iff

open CdsVerif.Algo.Cuckoo.StripedSeq in
/-- a concrete rehash with the constant hash (family 1 of the harness): everything stays in one bucket, sorted -/
example : rehash (hfam 1) { cap := 2, bkt := [[], [2, 5, 9]], count := 3 }
    = { cap := 4, bkt := [[], [], [], [2, 5, 9]], count := 3 } := by decide +kernel

open CdsVerif.Algo.Cuckoo.StripedSeq in
/-- the insert that triggers it (load factor 1: 3 > 2 * 1) -/
example : sinsert (hfam 1) 1 { cap := 2, bkt := [[], [2, 9]], count := 2 } 5
    = ({ cap := 4, bkt := [[], [], [], [2, 5, 9]], count := 3 }, true) := by decide +kernel

end CdsVerif.Props
