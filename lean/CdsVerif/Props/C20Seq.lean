/-
  C20 — sequential semantics, DERIVED from the interleaving theorems.

  For every container that has an atomic-step machine proved linearizable for every schedule (C06, C07, C09, C10,
  C13, C14, C15, C16), the sequential statement of C20 is a corollary: in every SINGLE-THREADED complete run of the
  machine (any client program, any length; only one thread `t0` ever invokes, steps and returns, and it is idle at
  the end) the results returned are exactly the results of the sequential abstract data type run over the
  operations called,
        `specRun <step> <init> (callsOf os) = some (retsOf os)`.

  The argument is generic (`Base/SeqHistory.lean`): the history of a single-threaded run is sequential; a
  sequential history has only one order compatible with real time, hence "linearizable" collapses to "is a legal
  run of the specification in program order"; the call protocol of the machine (`Protocol`) says that
  `historyOf os` has exactly one record per `call` of `os`, and that the threads never scheduled stay idle.

  Per machine: (a) the three shape facts of the protocol (`invoke` needs an idle thread and makes it busy, `step`
  keeps it busy, `result` needs a busy thread and makes it idle; nobody touches another thread's program counter),
  proved by unfolding the model; (b) the machine's literal copy of `historyOf` is `SeqHistory.historyOf`; (c) the
  corollary, carrying exactly the configuration hypotheses of the machine's linearizability theorem; (d) an
  evaluated single-threaded run (schedule generated by `seqSched`: invoke, step until `result` is enabled, return)
  with at least one failing operation: the hypotheses hold and the results are those of the specification.
-/
import CdsVerif.Base.SeqHistory
import CdsVerif.Props.C09Treiber
import CdsVerif.Props.C06MSQueue
import CdsVerif.Props.C07Vyukov
import CdsVerif.Props.C13Michael
import CdsVerif.Props.C13Lazy
import CdsVerif.Props.C14SplitList
import CdsVerif.Props.C15SkipList
import CdsVerif.Props.C16Striped
import CdsVerif.Props.C06Moir
import CdsVerif.Props.C06RWQueue
import CdsVerif.Props.C06Optimistic
import CdsVerif.Props.C14Feldman
import CdsVerif.Props.C09Elim
import CdsVerif.Props.C10FCLin
namespace CdsVerif.Props.C20Seq
open CdsVerif.Machine CdsVerif.Lin CdsVerif.Spec CdsVerif.Algo CdsVerif.SeqHistory

/-! ### The generic statements (proved in `Base/SeqHistory.lean`) -/

/-- A sequential history (`Sequential`: written in invocation order, every operation returns before the next is
    invoked) has exactly one arrangement that respects real time: itself. -/
theorem C20_sequential_history_one_order {Op Ret : Type} (l perm : List (OpRec Op Ret)) (hs : Sequential l)
    (hp : perm.Perm l) (hrt : RespectsRT perm) : perm = l :=
  perm_eq_of_sequential l perm hs hp hrt

/-- Hence, for ANY specification (deterministic or not), a sequential history is linearizable iff it is a legal
    sequential execution in its own order … -/
theorem C20_sequential_linearizable_iff_legal {σ Op Ret : Type} (spec : Lin.Spec σ Op Ret)
    (l : List (OpRec Op Ret)) (hs : Sequential l) : Linearizable spec l ↔ Legal spec spec.init l :=
  linearizable_iff_legal spec l hs

/-- … and for a deterministic specification iff running the step function over the operations, in order,
    produces exactly the recorded results. -/
theorem C20_sequential_linearizable_iff_specRun {σ : Type} (init : σ) (step : σ → GOp → Option (σ × GRet))
    (l : List (OpRec GOp GRet)) (hs : Sequential l) :
    Linearizable (detSpec init step) l ↔ specRun step init (l.map (·.op)) = some (l.map (·.ret)) :=
  linearizable_iff_specRun init step l hs

/-- The history of observations of ONE thread is sequential (`historyOf` stamps a record with the positions of
    its `call` and `ret` observations) … -/
theorem C20_single_thread_observations_sequential (os : List (Tid × Obs)) (t0 : Tid) (h : ∀ x ∈ os, x.1 = t0) :
    Sequential (SeqHistory.historyOf os) :=
  historyOf_sequential os t0 h

/-- … so every run of every machine under a single-threaded schedule has a sequential history. -/
theorem C20_single_thread_run_sequential {σ : Type} (m : Model σ) (sched : List (Tid × Act)) (s s' : σ)
    (os : List (Tid × Obs)) (h : m.run s sched = some (s', os)) (t0 : Tid) (hst : ∀ x ∈ sched, x.1 = t0) :
    Sequential (SeqHistory.historyOf os) :=
  run_history_sequential m sched s s' os h t0 hst

/-- With the call protocol: the history of a single-threaded run that ends idle has one record per `call`, in
    order, carrying the operations called and the results returned. -/
theorem C20_single_thread_run_history {σ : Type} (m : Model σ) (idle : σ → Tid → Prop) (P : Protocol m idle)
    (t0 : Tid) (sched : List (Tid × Act)) (s0 s : σ) (os : List (Tid × Obs))
    (h : m.run s0 sched = some (s, os)) (hst : ∀ x ∈ sched, x.1 = t0) (h0 : idle s0 t0) (hid : idle s t0) :
    (SeqHistory.historyOf os).map (·.op) = callsOf os ∧ (SeqHistory.historyOf os).map (·.ret) = retsOf os := by
  obtain ⟨hall, hb⟩ := run_complete P t0 h hst h0 hid
  exact ⟨historyOf_ops os t0 hall hb, historyOf_rets os t0 hall hb⟩

/-- Why `Sequential` is needed: the concurrent history of `C09Treiber.raceObs` (two overlapping pushes, then a pop
    of the FIRST value) is linearizable, but not in the order in which it is written. -/
example : ¬ Sequential (SeqHistory.historyOf C09Treiber.raceObs) ∧
    linCheck lifo (SeqHistory.historyOf C09Treiber.raceObs) = true ∧
    (SeqHistory.historyOf C09Treiber.raceObs).map (·.ret) = [[1], [1], [1, 7]] ∧
    specRun lifoStep [] ((SeqHistory.historyOf C09Treiber.raceObs).map (·.op)) = some [[1], [1], [1, 8]] := by
  decide +kernel

/-! ### Treiber stack (C09) → `Spec.lifo` -/

namespace TreiberP
open Treiber

section
variable {s s' : St} {t : Tid}

theorem invoke_shape {op : GOp} (h : invoke s t op = some s') :
    s.pc t = .idle ∧ s'.pc t ≠ .idle ∧ ∀ u, u ≠ t → s'.pc u = s.pc u := by
  unfold invoke at h
  repeat' split at h
  all_goals cases h
  all_goals exact ⟨‹_›, by simp, fun u hu => by simp [upd, hu]⟩

theorem step_shape {e : Ev} (h : step s t = some (s', e)) :
    s.pc t ≠ .idle ∧ s'.pc t ≠ .idle ∧ ∀ u, u ≠ t → s'.pc u = s.pc u := by
  have hne : s.pc t ≠ .idle := fun hi => by simp [step, hi] at h
  unfold step at h
  repeat' split at h
  all_goals cases h
  all_goals exact ⟨hne, by simp, fun u hu => by simp [upd, hu]⟩

theorem result_shape {r : GRet} (h : result s t = some (s', r)) :
    s.pc t ≠ .idle ∧ s'.pc t = .idle ∧ ∀ u, u ≠ t → s'.pc u = s.pc u := by
  unfold result at h
  split at h <;> cases h
  exact ⟨by simp [*], by simp, fun u hu => by simp [upd, hu]⟩

end

theorem protocol : Protocol (Treiber.model) (fun s t => s.pc t = .idle) :=
  Protocol.ofPC (Treiber.model) (fun s => s.pc) .idle invoke_shape step_shape result_shape

end TreiberP

/-- **C20 for the Treiber stack**: a single-threaded complete run returns exactly the results of the sequential LIFO stack. -/
theorem C20_treiber_sequential (t0 : Tid) (sched : List (Tid × Act)) (s : Treiber.St)
    (os : List (Tid × Obs)) (h : (Treiber.model).run (Treiber.init) sched = some (s, os)) (hst : ∀ x ∈ sched, x.1 = t0)
    (hid : s.pc t0 = .idle) :
    specRun lifoStep [] (callsOf os) = some (retsOf os) :=
  sequential_run_spec TreiberP.protocol Treiber.historyOf_eq
    C09Treiber.C09_treiber_linearizable_complete_runs (fun _ => rfl) h hst hid

def treiberOps : List GOp := [⟨"push", [7]⟩, ⟨"push", [8]⟩, ⟨"pop", []⟩, ⟨"pop", []⟩, ⟨"pop", []⟩, ⟨"push", [9]⟩]
def treiberSched : List (Tid × Act) := seqSched (Treiber.model) 0 200 (Treiber.init) treiberOps

/-- push 7, push 8, pop → 8, pop → 7, pop on the empty stack fails, push 9. -/
example : treiberSched.length = 33 ∧ treiberSched.all (fun x => x.1 == 0) = true ∧
    seqDemo (Treiber.model) (fun s => decide (s.pc 0 = .idle)) (Treiber.init) treiberSched
      = some (true, treiberOps, [[1], [1], [1, 8], [1, 7], [0], [1]]) ∧
    specRun lifoStep [] treiberOps = some [[1], [1], [1, 8], [1, 7], [0], [1]] := by decide +kernel

/-! ### Michael–Scott queue (C06) → `Spec.fifo` -/

namespace MsqueueP
open MSQueue

section
variable {s s' : St} {t : Tid}

theorem invoke_shape {op : GOp} (h : invoke s t op = some s') :
    s.pc t = .idle ∧ s'.pc t ≠ .idle ∧ ∀ u, u ≠ t → s'.pc u = s.pc u := by
  unfold invoke at h
  repeat' split at h
  all_goals cases h
  all_goals exact ⟨‹_›, by simp, fun u hu => by simp [upd, hu]⟩

theorem step_shape {e : Ev} (h : step s t = some (s', e)) :
    s.pc t ≠ .idle ∧ s'.pc t ≠ .idle ∧ ∀ u, u ≠ t → s'.pc u = s.pc u := by
  have hne : s.pc t ≠ .idle := fun hi => by simp [step, hi] at h
  unfold step at h
  repeat' split at h
  all_goals cases h
  all_goals exact ⟨hne, by simp, fun u hu => by simp [upd, hu]⟩

theorem result_shape {r : GRet} (h : result s t = some (s', r)) :
    s.pc t ≠ .idle ∧ s'.pc t = .idle ∧ ∀ u, u ≠ t → s'.pc u = s.pc u := by
  unfold result at h
  split at h <;> cases h
  exact ⟨by simp [*], by simp, fun u hu => by simp [upd, hu]⟩

end

theorem protocol : Protocol (MSQueue.model) (fun s t => s.pc t = .idle) :=
  Protocol.ofPC (MSQueue.model) (fun s => s.pc) .idle invoke_shape step_shape result_shape

end MsqueueP

/-- **C20 for MSQueue**: a single-threaded complete run returns exactly the results of the sequential FIFO queue. -/
theorem C20_msqueue_sequential (t0 : Tid) (sched : List (Tid × Act)) (s : MSQueue.St)
    (os : List (Tid × Obs)) (h : (MSQueue.model).run (MSQueue.init) sched = some (s, os)) (hst : ∀ x ∈ sched, x.1 = t0)
    (hid : s.pc t0 = .idle) :
    specRun fifoStep [] (callsOf os) = some (retsOf os) :=
  sequential_run_spec MsqueueP.protocol MSQueue.historyOf_eq
    C06MSQueue.C06_msqueue_linearizable_complete_runs (fun _ => rfl) h hst hid

def msqueueOps : List GOp := [⟨"deq", []⟩, ⟨"enq", [7]⟩, ⟨"enq", [8]⟩, ⟨"deq", []⟩, ⟨"deq", []⟩, ⟨"deq", []⟩, ⟨"enq", [9]⟩]
def msqueueSched : List (Tid × Act) := seqSched (MSQueue.model) 0 200 (MSQueue.init) msqueueOps

/-- deq on the empty queue fails, enq 7, enq 8, deq → 7, deq → 8, deq fails, enq 9. -/
example : msqueueSched.length = 53 ∧ msqueueSched.all (fun x => x.1 == 0) = true ∧
    seqDemo (MSQueue.model) (fun s => decide (s.pc 0 = .idle)) (MSQueue.init) msqueueSched
      = some (true, msqueueOps, [[0], [1], [1], [1, 7], [1, 8], [0], [1]]) ∧
    specRun fifoStep [] msqueueOps = some [[0], [1], [1], [1, 7], [1, 8], [0], [1]] := by decide +kernel

/-! ### Vyukov bounded MPMC queue (C07) → `Spec.bfifo (2 ^ k)` -/

namespace VyukovP
open Vyukov

section
variable {s s' : St} {t : Tid}

theorem invoke_shape {op : GOp} (h : invoke s t op = some s') :
    s.pc t = .idle ∧ s'.pc t ≠ .idle ∧ ∀ u, u ≠ t → s'.pc u = s.pc u := by
  unfold invoke at h
  repeat' split at h
  all_goals cases h
  all_goals exact ⟨‹_›, by simp, fun u hu => by simp [upd, hu]⟩

theorem step_shape {e : Ev} (h : step s t = some (s', e)) :
    s.pc t ≠ .idle ∧ s'.pc t ≠ .idle ∧ ∀ u, u ≠ t → s'.pc u = s.pc u := by
  have hne : s.pc t ≠ .idle := fun hi => by simp [step, hi] at h
  unfold step at h
  repeat' split at h
  all_goals cases h
  all_goals exact ⟨hne, by simp, fun u hu => by simp [upd, hu]⟩

theorem result_shape {r : GRet} (h : result s t = some (s', r)) :
    s.pc t ≠ .idle ∧ s'.pc t = .idle ∧ ∀ u, u ≠ t → s'.pc u = s.pc u := by
  unfold result at h
  split at h <;> cases h
  exact ⟨by simp [*], by simp, fun u hu => by simp [upd, hu]⟩

end

theorem protocol : Protocol (Vyukov.model) (fun s t => s.pc t = .idle) :=
  Protocol.ofPC (Vyukov.model) (fun s => s.pc) .idle invoke_shape step_shape result_shape

end VyukovP

/-- **C20 for VyukovMPMCCycleQueue** of capacity `2 ^ k`, `1 ≤ k`: a single-threaded complete run returns exactly the results of the sequential bounded FIFO queue. -/
theorem C20_vyukov_sequential (k : Nat) (hk : 1 ≤ k) (t0 : Tid) (sched : List (Tid × Act)) (s : Vyukov.St)
    (os : List (Tid × Obs)) (h : (Vyukov.model).run (Vyukov.init k) sched = some (s, os)) (hst : ∀ x ∈ sched, x.1 = t0)
    (hid : s.pc t0 = .idle) :
    specRun (bfifoStep (2 ^ k)) [] (callsOf os) = some (retsOf os) :=
  sequential_run_spec VyukovP.protocol Vyukov.historyOf_eq
    (C07Vyukov.C07_vyukov_linearizable_complete_runs k hk) (fun _ => rfl) h hst hid

def vyukovOps : List GOp := [⟨"deq", []⟩, ⟨"enq", [7]⟩, ⟨"enq", [8]⟩, ⟨"enq", [9]⟩, ⟨"deq", []⟩, ⟨"enq", [9]⟩, ⟨"deq", []⟩, ⟨"deq", []⟩, ⟨"deq", []⟩]
def vyukovSched : List (Tid × Act) := seqSched (Vyukov.model) 0 200 (Vyukov.init 1) vyukovOps

/-- capacity 2: deq on empty fails, enq 7, enq 8, enq 9 on the full queue fails, deq → 7, enq 9, deq → 8, deq → 9, deq fails. -/
example : vyukovSched.length = 51 ∧ vyukovSched.all (fun x => x.1 == 0) = true ∧
    seqDemo (Vyukov.model) (fun s => decide (s.pc 0 = .idle)) (Vyukov.init 1) vyukovSched
      = some (true, vyukovOps, [[0], [1], [1], [0], [1, 7], [1], [1, 8], [1, 9], [0]]) ∧
    specRun (bfifoStep (2 ^ 1)) [] vyukovOps = some [[0], [1], [1], [0], [1, 7], [1], [1, 8], [1, 9], [0]] := by decide +kernel

/-! ### Michael list (C13) → `Spec.map` -/

namespace MichaelP
open Michael

section
variable {s s' : St} {t : Tid} {key val : Nat → Int} {o : OpK} {prev cur : Nat} {nx : Option Nat} {mk : Bool}

@[local simp] theorem found_ne_idle : found val o prev cur nx ≠ .idle := by
  unfold found
  split <;> simp

@[local simp] theorem notFound_ne_idle : notFound o prev nx ≠ .idle := by
  unfold notFound
  split <;> simp

@[local simp] theorem advance_ne_idle : advance o prev nx ≠ .idle := by
  unfold advance
  split <;> simp

@[local simp] theorem afterChk_ne_idle : afterChk key val o prev cur nx mk ≠ .idle := by
  unfold afterChk
  repeat' split
  all_goals simp

theorem invoke_shape {op : GOp} (h : invoke s t op = some s') :
    s.pc t = .idle ∧ s'.pc t ≠ .idle ∧ ∀ u, u ≠ t → s'.pc u = s.pc u := by
  unfold invoke at h
  repeat' split at h
  all_goals cases h
  all_goals exact ⟨‹_›, by simp, fun u hu => by simp [upd, hu]⟩

theorem step_shape {e : Ev} (h : step s t = some (s', e)) :
    s.pc t ≠ .idle ∧ s'.pc t ≠ .idle ∧ ∀ u, u ≠ t → s'.pc u = s.pc u := by
  have hne : s.pc t ≠ .idle := fun hi => by simp [step, hi] at h
  unfold step at h
  repeat' split at h
  all_goals cases h
  all_goals exact ⟨hne, by simp, fun u hu => by simp [upd, hu]⟩

theorem result_shape {r : GRet} (h : result s t = some (s', r)) :
    s.pc t ≠ .idle ∧ s'.pc t = .idle ∧ ∀ u, u ≠ t → s'.pc u = s.pc u := by
  unfold result at h
  split at h <;> cases h
  exact ⟨by simp [*], by simp, fun u hu => by simp [upd, hu]⟩

end

theorem protocol : Protocol (Michael.model) (fun s t => s.pc t = .idle) :=
  Protocol.ofPC (Michael.model) (fun s => s.pc) .idle invoke_shape step_shape result_shape

end MichaelP

/-- **C20 for MichaelList** (`insert`, `erase`, `find`, `contains`): a single-threaded complete run returns exactly the results of the sequential map. -/
theorem C20_michael_sequential (t0 : Tid) (sched : List (Tid × Act)) (s : Michael.St)
    (os : List (Tid × Obs)) (h : (Michael.model).run (Michael.init) sched = some (s, os)) (hst : ∀ x ∈ sched, x.1 = t0)
    (hid : s.pc t0 = .idle) :
    specRun mapStep [] (callsOf os) = some (retsOf os) :=
  sequential_run_spec MichaelP.protocol Michael.historyOf_eq
    C13Michael.C13_michael_linearizable_complete_runs (fun _ => rfl) h hst hid

def michaelOps : List GOp := [⟨"insert", [5, 50]⟩, ⟨"insert", [3, 30]⟩, ⟨"insert", [5, 51]⟩, ⟨"find", [5]⟩, ⟨"erase", [5]⟩, ⟨"erase", [5]⟩, ⟨"contains", [5]⟩, ⟨"find", [3]⟩]
def michaelSched : List (Tid × Act) := seqSched (Michael.model) 0 200 (Michael.init) michaelOps

/-- insert 5, insert 3, insert of the present key 5 fails, find 5 → 50, erase 5 → 50, erase 5 fails, contains 5 → no, find 3 → 30. -/
example : michaelSched.length = 68 ∧ michaelSched.all (fun x => x.1 == 0) = true ∧
    seqDemo (Michael.model) (fun s => decide (s.pc 0 = .idle)) (Michael.init) michaelSched
      = some (true, michaelOps, [[1], [1], [0], [1, 50], [1, 50], [0], [0], [1, 30]]) ∧
    specRun mapStep [] michaelOps = some [[1], [1], [0], [1, 50], [1, 50], [0], [0], [1, 30]] := by decide +kernel

/-! ### Lazy list (C13) → `Spec.map` -/

namespace LazyP
open Lazy

section
variable {s s' : St} {t : Tid} {key : Nat → Int} {o : OpK} {p c : Nat} {x : Option Nat} {mk : Bool}

@[local simp] theorem afterSearch_ne_idle : afterSearch o p c ≠ .idle := by
  unfold afterSearch
  repeat' split
  all_goals simp

@[local simp] theorem afterLoad_ne_idle : afterLoad key o p x mk ≠ .idle := by
  unfold afterLoad
  repeat' split
  all_goals simp

@[local simp] theorem action_ne_idle : action key o p c ≠ .idle := by
  unfold action
  repeat' split
  all_goals simp

theorem invoke_shape {op : GOp} (h : invoke s t op = some s') :
    s.pc t = .idle ∧ s'.pc t ≠ .idle ∧ ∀ u, u ≠ t → s'.pc u = s.pc u := by
  unfold invoke at h
  repeat' split at h
  all_goals cases h
  all_goals exact ⟨‹_›, by simp, fun u hu => by simp [upd, hu]⟩

theorem step_shape {e : Ev} (h : step s t = some (s', e)) :
    s.pc t ≠ .idle ∧ s'.pc t ≠ .idle ∧ ∀ u, u ≠ t → s'.pc u = s.pc u := by
  have hne : s.pc t ≠ .idle := fun hi => by simp [step, hi] at h
  unfold step at h
  repeat' split at h
  all_goals cases h
  all_goals exact ⟨hne, by simp, fun u hu => by simp [upd, hu]⟩

theorem result_shape {r : GRet} (h : result s t = some (s', r)) :
    s.pc t ≠ .idle ∧ s'.pc t = .idle ∧ ∀ u, u ≠ t → s'.pc u = s.pc u := by
  unfold result at h
  split at h <;> cases h
  exact ⟨by simp [*], by simp, fun u hu => by simp [upd, hu]⟩

end

theorem protocol : Protocol (Lazy.model) (fun s t => s.pc t = .idle) :=
  Protocol.ofPC (Lazy.model) (fun s => s.pc) .idle invoke_shape step_shape result_shape

end LazyP

/-- **C20 for LazyList** (`insert`, `update`, `upsert_keep`, `erase`, `extract`, `find`, `contains`): a single-threaded complete run returns exactly the results of the sequential map. -/
theorem C20_lazy_sequential (t0 : Tid) (sched : List (Tid × Act)) (s : Lazy.St)
    (os : List (Tid × Obs)) (h : (Lazy.model).run (Lazy.init) sched = some (s, os)) (hst : ∀ x ∈ sched, x.1 = t0)
    (hid : s.pc t0 = .idle) :
    specRun mapStep [] (callsOf os) = some (retsOf os) :=
  sequential_run_spec LazyP.protocol Lazy.historyOf_eq
    C13Lazy.C13_lazy_linearizable_complete_runs (fun _ => rfl) h hst hid

def lazyOps : List GOp := [⟨"insert", [5, 50]⟩, ⟨"insert", [5, 51]⟩, ⟨"update", [5, 52, 1]⟩, ⟨"update", [7, 70, 0]⟩, ⟨"update", [7, 70, 1]⟩, ⟨"find", [5]⟩, ⟨"extract", [5]⟩, ⟨"erase", [5]⟩, ⟨"contains", [7]⟩]
def lazySched : List (Tid × Act) := seqSched (Lazy.model) 0 200 (Lazy.init) lazyOps

/-- insert 5, insert of the present key 5 fails, update 5 (updated, not inserted), update 7 without insertion refused, update 7 inserts, find 5 → 52, extract 5 → 52, erase 5 fails, contains 7. -/
example : lazySched.length = 100 ∧ lazySched.all (fun x => x.1 == 0) = true ∧
    seqDemo (Lazy.model) (fun s => decide (s.pc 0 = .idle)) (Lazy.init) lazySched
      = some (true, lazyOps, [[1], [0], [1, 0], [0, 0], [1, 1], [1, 52], [1, 52], [0], [1]]) ∧
    specRun mapStep [] lazyOps = some [[1], [0], [1, 0], [0, 0], [1, 1], [1, 52], [1, 52], [0], [1]] := by decide +kernel

/-! ### Split-ordered list (C14) → `Spec.map` -/

namespace SplitlistP
open SplitList

section
variable {c : Cfg} {s s' : St} {t : Tid}
    {so : Nat → Nat} {uk val : Nat → Int} {o : Top} {w : OpK} {stk : List Nat}
    {d prev cur items mx sz : Nat} {nx : Option Nat} {mk : Bool}

@[local simp] theorem initRet_ne_idle : initRet o stk d ≠ .idle := by
  unfold initRet
  split <;> simp

@[local simp] theorem found_ne_idle : found val w d prev cur nx ≠ .idle := by
  unfold found
  split <;> simp

@[local simp] theorem notFound_ne_idle : notFound w d prev nx ≠ .idle := by
  unfold notFound
  split <;> simp

@[local simp] theorem advance_ne_idle : advance w d prev nx ≠ .idle := by
  unfold advance
  split <;> simp

@[local simp] theorem afterChk_ne_idle : afterChk c so uk val w d prev cur nx mk ≠ .idle := by
  unfold afterChk
  repeat' split
  all_goals simp

@[local simp] theorem afterHd_ne_idle : afterHd c so uk w d nx mk ≠ .idle := by
  unfold afterHd
  repeat' split
  all_goals simp

@[local simp] theorem linked_ne_idle : linked w ≠ .idle := by
  unfold linked
  split <;> simp

@[local simp] theorem afterAdd_ne_idle : afterAdd items mx ≠ .idle := by
  unfold afterAdd
  split <;> simp

@[local simp] theorem afterCnt_ne_idle : afterCnt c sz mx ≠ .idle := by
  unfold afterCnt
  repeat' split
  all_goals simp

theorem invoke_shape {op : GOp} (h : invoke c s t op = some s') :
    s.pc t = .idle ∧ s'.pc t ≠ .idle ∧ ∀ u, u ≠ t → s'.pc u = s.pc u := by
  unfold invoke at h
  repeat' split at h
  all_goals cases h
  all_goals exact ⟨‹_›, by simp, fun u hu => by simp [upd, hu]⟩

theorem step_shape {e : Ev} (h : step c s t = some (s', e)) :
    s.pc t ≠ .idle ∧ s'.pc t ≠ .idle ∧ ∀ u, u ≠ t → s'.pc u = s.pc u := by
  have hne : s.pc t ≠ .idle := fun hi => by simp [step, hi] at h
  unfold step at h
  repeat' split at h
  all_goals cases h
  all_goals exact ⟨hne, by simp, fun u hu => by simp [upd, hu]⟩

theorem result_shape {r : GRet} (h : result s t = some (s', r)) :
    s.pc t ≠ .idle ∧ s'.pc t = .idle ∧ ∀ u, u ≠ t → s'.pc u = s.pc u := by
  unfold result at h
  split at h <;> cases h
  exact ⟨by simp [*], by simp, fun u hu => by simp [upd, hu]⟩

end

theorem protocol (c : SplitList.Cfg) : Protocol (SplitList.model c) (fun s t => s.pc t = .idle) :=
  Protocol.ofPC (SplitList.model c) (fun s => s.pc) .idle invoke_shape step_shape result_shape

end SplitlistP

/-- **C20 for SplitListSet** over MichaelList, for every configuration satisfying `SOHyp` (the hypothesis of `C14_splitlist_linearizable`): a single-threaded complete run returns exactly the results of the sequential map. -/
theorem C20_splitlist_sequential (c : SplitList.Cfg) (hc : SplitList.SOHyp c) (t0 : Tid) (sched : List (Tid × Act)) (s : SplitList.St)
    (os : List (Tid × Obs)) (h : (SplitList.model c).run (SplitList.init c) sched = some (s, os)) (hst : ∀ x ∈ sched, x.1 = t0)
    (hid : s.pc t0 = .idle) :
    specRun mapStep [] (callsOf os) = some (retsOf os) :=
  sequential_run_spec (SplitlistP.protocol c) SplitList.historyOf_eq
    (C14SplitList.C14_splitlist_linearizable_complete_runs c hc) (fun _ => rfl) h hst hid

def splitlistOps : List GOp := [⟨"insert", [2, 10]⟩, ⟨"insert", [4, 20]⟩, ⟨"insert", [2, 11]⟩, ⟨"insert", [6, 30]⟩, ⟨"find", [2]⟩, ⟨"erase", [4]⟩, ⟨"erase", [4]⟩, ⟨"contains", [6]⟩]
def splitlistSched : List (Tid × Act) := seqSched (SplitList.model C14SplitList.cfg) 0 200 (SplitList.init C14SplitList.cfg) splitlistOps

/-- (configuration `cfg64 0 64 1`, which satisfies `SOHyp` by `C14_cfg64_hyp`) insert 2, insert 4, insert of the present key 2 fails, insert 6 (the table grows), find 2 → 10 (through a new bucket), erase 4 → 20, erase 4 fails, contains 6. -/
example : splitlistSched.length = 111 ∧ splitlistSched.all (fun x => x.1 == 0) = true ∧
    seqDemo (SplitList.model C14SplitList.cfg) (fun s => decide (s.pc 0 = .idle)) (SplitList.init C14SplitList.cfg) splitlistSched
      = some (true, splitlistOps, [[1], [1], [0], [1], [1, 10], [1, 20], [0], [1]]) ∧
    specRun mapStep [] splitlistOps = some [[1], [1], [0], [1], [1, 10], [1, 20], [0], [1]] := by decide +kernel

/-! ### Skip list (C15) → `Spec.map` -/

namespace SkiplistP
open SkipList

section
variable {c : Cfg} {s s' : St} {t : Tid}
    {key val : Nat → Int} {ht : Nat → Nat} {w : Why} {o : Fop} {k : Int}
    {n d lvl pred cur att : Nat} {ocur : Option Nat} {nc sm m : Bool} {pp : List Nat} {ps : List (Option Nat)}

@[local simp] theorem retry_ne_idle : retry c w pp ps ≠ .idle := by simp [retry]

@[local simp] theorem startLink_ne_idle : startLink ht n pp ps ≠ .idle := by
  unfold startLink
  split <;> simp

@[local simp] theorem startRemove_ne_idle : startRemove ht k d pp ps ≠ .idle := by
  unfold startRemove
  split <;> simp

@[local simp] theorem finish_ne_idle : finish val ht w nc ocur pp ps ≠ .idle := by
  unfold finish
  repeat' split
  all_goals simp

@[local simp] theorem levelDone_ne_idle : levelDone val ht w lvl pred ocur nc pp ps ≠ .idle := by
  unfold levelDone
  split <;> simp

@[local simp] theorem afterChk_ne_idle : afterChk c key val ht w lvl pred cur sm pp ps ≠ .idle := by
  unfold afterChk
  repeat' split
  all_goals simp

@[local simp] theorem nextUp_ne_idle : nextUp ht n lvl pp ps ≠ .idle := by
  unfold nextUp
  split <;> simp

@[local simp] theorem nextMark_ne_idle : nextMark k d lvl pp ps ≠ .idle := by
  unfold nextMark
  split <;> simp

@[local simp] theorem qDown_ne_idle : qDown o lvl pred att ≠ .idle := by
  unfold qDown
  split <;> simp

@[local simp] theorem fslow_ne_idle : fslow c o ≠ .idle := by
  unfold fslow
  split <;> simp

@[local simp] theorem ffound_ne_idle : ffound val o cur ≠ .idle := by
  unfold ffound
  split <;> simp

@[local simp] theorem afterLd2_ne_idle : afterLd2 c val ht w lvl pred nc pp ps ocur m ≠ .idle := by
  unfold afterLd2
  repeat' split
  all_goals simp

@[local simp] theorem afterQ_ne_idle : afterQ c key val o lvl pred att ocur m ≠ .idle := by
  unfold afterQ
  repeat' split
  all_goals simp

theorem invoke_shape {op : GOp} (h : invoke c s t op = some s') :
    s.pc t = .idle ∧ s'.pc t ≠ .idle ∧ ∀ u, u ≠ t → s'.pc u = s.pc u := by
  unfold invoke at h
  repeat' split at h
  all_goals cases h
  all_goals exact ⟨‹_›, by simp, fun u hu => by simp [upd, hu]⟩

theorem step_shape {e : Ev} (h : step c s t = some (s', e)) :
    s.pc t ≠ .idle ∧ s'.pc t ≠ .idle ∧ ∀ u, u ≠ t → s'.pc u = s.pc u := by
  have hne : s.pc t ≠ .idle := fun hi => by simp [step, hi] at h
  unfold step at h
  repeat' split at h
  all_goals cases h
  all_goals exact ⟨hne, by simp, fun u hu => by simp [upd, hu]⟩

theorem result_shape {r : GRet} (h : result s t = some (s', r)) :
    s.pc t ≠ .idle ∧ s'.pc t = .idle ∧ ∀ u, u ≠ t → s'.pc u = s.pc u := by
  unfold result at h
  split at h <;> cases h
  exact ⟨by simp [*], by simp, fun u hu => by simp [upd, hu]⟩

end

theorem protocol (c : SkipList.Cfg) : Protocol (SkipList.model c) (fun s t => s.pc t = .idle) :=
  Protocol.ofPC (SkipList.model c) (fun s => s.pc) .idle invoke_shape step_shape result_shape

end SkiplistP

/-- **C20 for SkipListSet** (`insert`, `erase`, `find`, `contains`), for every configuration with `0 < maxH` and the mark test of the repaired `find_fastpath` (the hypotheses of `C15_skiplist_linearizable`): a single-threaded complete run returns exactly the results of the sequential map. -/
theorem C20_skiplist_sequential (c : SkipList.Cfg) (hc : 0 < c.maxH) (hmt : c.markTest = true) (t0 : Tid) (sched : List (Tid × Act)) (s : SkipList.St)
    (os : List (Tid × Obs)) (h : (SkipList.model c).run (SkipList.init c) sched = some (s, os)) (hst : ∀ x ∈ sched, x.1 = t0)
    (hid : s.pc t0 = .idle) :
    specRun mapStep [] (callsOf os) = some (retsOf os) :=
  sequential_run_spec (SkiplistP.protocol c) Michael.historyOf_eq
    (C15SkipList.C15_skiplist_linearizable_complete_runs c hc hmt) (fun _ => rfl) h hst hid

def skiplistOps : List GOp := [⟨"insert", [5, 50]⟩, ⟨"insert", [3, 30]⟩, ⟨"insert", [5, 51]⟩, ⟨"find", [5]⟩, ⟨"erase", [5]⟩, ⟨"erase", [5]⟩, ⟨"contains", [5]⟩, ⟨"find", [3]⟩]
def skiplistSched : List (Tid × Act) := seqSched (SkipList.model C15SkipList.cfg2) 0 200 (SkipList.init C15SkipList.cfg2) skiplistOps

/-- (configuration `cfg2`: towers of height 2 and 3) insert 5, insert 3, insert of the present key 5 fails, find 5 → 50, erase 5 → 50, erase 5 fails, contains 5 → no, find 3 → 30. -/
example : 0 < C15SkipList.cfg2.maxH ∧ C15SkipList.cfg2.markTest = true ∧ skiplistSched.length = 124 ∧ skiplistSched.all (fun x => x.1 == 0) = true ∧
    seqDemo (SkipList.model C15SkipList.cfg2) (fun s => decide (s.pc 0 = .idle)) (SkipList.init C15SkipList.cfg2) skiplistSched
      = some (true, skiplistOps, [[1], [1], [0], [1, 50], [1, 50], [0], [0], [1, 30]]) ∧
    specRun mapStep [] skiplistOps = some [[1], [1], [0], [1, 50], [1, 50], [0], [0], [1, 30]] := by decide +kernel

/-! ### Striped / refinable hash set (C16) → `Spec.map` -/

namespace StripedP
open Striped

section
variable {cfg : Cfg} {s s' : St} {t : Tid}

theorem invoke_shape {op : GOp} (h : invoke cfg s t op = some s') :
    s.pc t = .idle ∧ s'.pc t ≠ .idle ∧ ∀ u, u ≠ t → s'.pc u = s.pc u := by
  unfold invoke at h
  repeat' split at h
  all_goals cases h
  all_goals exact ⟨‹_›, by simp, fun u hu => by simp [upd, hu]⟩

theorem step_shape {e : Ev} (h : step cfg s t = some (s', e)) :
    s.pc t ≠ .idle ∧ s'.pc t ≠ .idle ∧ ∀ u, u ≠ t → s'.pc u = s.pc u := by
  exact ⟨(step_pc h).1, (step_pc h).2.1, step_frame h⟩

theorem result_shape {r : GRet} (h : result s t = some (s', r)) :
    s.pc t ≠ .idle ∧ s'.pc t = .idle ∧ ∀ u, u ≠ t → s'.pc u = s.pc u := by
  unfold result at h
  split at h <;> cases h
  exact ⟨by simp [*], by simp, fun u hu => by simp [upd, hu]⟩

end

theorem protocol (cfg : Striped.Cfg) : Protocol (Striped.model cfg) (fun s t => s.pc t = .idle) :=
  Protocol.ofPC (Striped.model cfg) (fun s => s.pc) .idle invoke_shape step_shape result_shape

end StripedP

/-- **C20 for StripedSet, striping policy** (`insert`, `update`, `erase`, `find`, `contains`; resizes included): a single-threaded complete run returns exactly the results of the sequential map.  Hypotheses as in `C16_striped_linearizable` (the single-threaded statement does not need `hre`, but the theorem it is derived from does). -/
theorem C20_striped_sequential (cfg : Striped.Cfg) (hpol : cfg.refinable = false) (hre : cfg.recheck = true) (t0 : Tid) (sched : List (Tid × Act)) (s : Striped.St)
    (os : List (Tid × Obs)) (h : (Striped.model cfg).run (Striped.init cfg) sched = some (s, os)) (hst : ∀ x ∈ sched, x.1 = t0)
    (hid : s.pc t0 = .idle) :
    specRun mapStep [] (callsOf os) = some (retsOf os) :=
  sequential_run_spec (StripedP.protocol cfg) Striped.historyOf_eq
    (let _ := hpol; C16Striped.C16_striped_linearizable_complete_runs cfg hre) (fun _ => rfl) h hst hid

/-- **C20 for StripedSet, refinable policy**: the same statement, hypotheses as in `C16_refinable_linearizable`. -/
theorem C20_refinable_sequential (cfg : Striped.Cfg) (hpol : cfg.refinable = true) (hre : cfg.recheck = true) (t0 : Tid) (sched : List (Tid × Act)) (s : Striped.St)
    (os : List (Tid × Obs)) (h : (Striped.model cfg).run (Striped.init cfg) sched = some (s, os)) (hst : ∀ x ∈ sched, x.1 = t0)
    (hid : s.pc t0 = .idle) :
    specRun mapStep [] (callsOf os) = some (retsOf os) :=
  sequential_run_spec (StripedP.protocol cfg) Striped.historyOf_eq
    (let _ := hpol; C16Striped.C16_striped_linearizable_complete_runs cfg hre) (fun _ => rfl) h hst hid

def stripedOps : List GOp := [⟨"insert", [5, 50]⟩, ⟨"insert", [3, 30]⟩, ⟨"insert", [5, 51]⟩, ⟨"insert", [4, 40]⟩, ⟨"update", [3, 31, 0]⟩, ⟨"update", [9, 90, 0]⟩, ⟨"find", [3]⟩, ⟨"erase", [5]⟩, ⟨"erase", [5]⟩, ⟨"contains", [4]⟩]
def stripedSched : List (Tid × Act) := seqSched (Striped.model C16Striped.cfgS) 0 200 (Striped.init C16Striped.cfgS) stripedOps

/-- (striping, 2 cells, load factor 1: the inserts force resizes) insert 5, insert 3, insert of the present key 5 fails, insert 4, update 3 (updated), update 9 without insertion refused, find 3 → 31, erase 5 → 50, erase 5 fails, contains 4. -/
example : C16Striped.cfgS.refinable = false ∧ C16Striped.cfgS.recheck = true ∧ stripedSched.length = 79 ∧ stripedSched.all (fun x => x.1 == 0) = true ∧
    seqDemo (Striped.model C16Striped.cfgS) (fun s => decide (s.pc 0 = .idle)) (Striped.init C16Striped.cfgS) stripedSched
      = some (true, stripedOps, [[1], [1], [0], [1], [1, 0], [0, 0], [1, 31], [1, 50], [0], [1]]) ∧
    specRun mapStep [] stripedOps = some [[1], [1], [0], [1], [1, 0], [0, 0], [1, 31], [1, 50], [0], [1]] := by decide +kernel

def refinableOps : List GOp := [⟨"insert", [5, 50]⟩, ⟨"insert", [3, 30]⟩, ⟨"insert", [5, 51]⟩, ⟨"insert", [4, 40]⟩, ⟨"update", [3, 31, 0]⟩, ⟨"update", [9, 90, 0]⟩, ⟨"find", [3]⟩, ⟨"erase", [5]⟩, ⟨"erase", [5]⟩, ⟨"contains", [4]⟩]
def refinableSched : List (Tid × Act) := seqSched (Striped.model C16Striped.cfgR) 0 200 (Striped.init C16Striped.cfgR) refinableOps

/-- (refinable policy, same program). -/
example : C16Striped.cfgR.refinable = true ∧ C16Striped.cfgR.recheck = true ∧ refinableSched.length = 128 ∧ refinableSched.all (fun x => x.1 == 0) = true ∧
    seqDemo (Striped.model C16Striped.cfgR) (fun s => decide (s.pc 0 = .idle)) (Striped.init C16Striped.cfgR) refinableSched
      = some (true, refinableOps, [[1], [1], [0], [1], [1, 0], [0, 0], [1, 31], [1, 50], [0], [1]]) ∧
    specRun mapStep [] refinableOps = some [[1], [1], [0], [1], [1, 0], [0, 0], [1, 31], [1, 50], [0], [1]] := by decide +kernel

/-! ### Moir queue (C06) → `Spec.fifo` -/

namespace MoirP
open Moir

section
variable {s s' : St} {t : Tid}

theorem invoke_shape {op : GOp} (h : invoke s t op = some s') :
    s.pc t = .idle ∧ s'.pc t ≠ .idle ∧ ∀ u, u ≠ t → s'.pc u = s.pc u := by
  unfold invoke at h
  repeat' split at h
  all_goals cases h
  all_goals exact ⟨‹_›, by simp, fun u hu => by simp [upd, hu]⟩

theorem step_shape {e : Ev} (h : step s t = some (s', e)) :
    s.pc t ≠ .idle ∧ s'.pc t ≠ .idle ∧ ∀ u, u ≠ t → s'.pc u = s.pc u := by
  have hne : s.pc t ≠ .idle := fun hi => by simp [step, hi] at h
  unfold step at h
  repeat' split at h
  all_goals cases h
  all_goals exact ⟨hne, by simp, fun u hu => by simp [upd, hu]⟩

theorem result_shape {r : GRet} (h : result s t = some (s', r)) :
    s.pc t ≠ .idle ∧ s'.pc t = .idle ∧ ∀ u, u ≠ t → s'.pc u = s.pc u := by
  unfold result at h
  split at h <;> cases h
  exact ⟨by simp [*], by simp, fun u hu => by simp [upd, hu]⟩

end

theorem protocol : Protocol (Moir.model) (fun s t => s.pc t = .idle) :=
  Protocol.ofPC (Moir.model) (fun s => s.pc) .idle invoke_shape step_shape result_shape

end MoirP

/-- **C20 for Moir queue (C06)**: a single-threaded complete run returns exactly the results of the sequential FIFO queue. -/
theorem C20_moir_sequential (t0 : Tid) (sched : List (Tid × Act)) (s : Moir.St)
    (os : List (Tid × Obs)) (h : (Moir.model).run (Moir.init) sched = some (s, os)) (hst : ∀ x ∈ sched, x.1 = t0)
    (hid : s.pc t0 = .idle) :
    specRun fifoStep [] (callsOf os) = some (retsOf os) :=
  sequential_run_spec MoirP.protocol QueueLin.historyOf_eq
    C06Moir.C06_moir_linearizable_complete_runs (fun _ => rfl) h hst hid

def moirOps : List GOp := [⟨"deq", []⟩, ⟨"enq", [7]⟩, ⟨"enq", [8]⟩, ⟨"deq", []⟩, ⟨"deq", []⟩, ⟨"deq", []⟩, ⟨"enq", [9]⟩]
def moirSched : List (Tid × Act) := seqSched (Moir.model) 0 200 (Moir.init) moirOps

/-- deq on the empty queue fails, enq 7, enq 8, deq → 7, deq → 8, deq fails, enq 9. -/
example : moirSched.length = 49 ∧ moirSched.all (fun x => x.1 == 0) = true ∧
    seqDemo (Moir.model) (fun s => decide (s.pc 0 = .idle)) (Moir.init) moirSched
      = some (true, moirOps, [[0], [1], [1], [1, 7], [1, 8], [0], [1]]) ∧
    specRun fifoStep [] moirOps = some [[0], [1], [1], [1, 7], [1, 8], [0], [1]] := by decide +kernel

/-! ### RWQueue, two-lock queue (C06) → `Spec.fifo` -/

namespace RwqueueP
open RWQueue

section
variable {s s' : St} {t : Tid}

theorem invoke_shape {op : GOp} (h : invoke s t op = some s') :
    s.pc t = .idle ∧ s'.pc t ≠ .idle ∧ ∀ u, u ≠ t → s'.pc u = s.pc u := by
  unfold invoke at h
  repeat' split at h
  all_goals cases h
  all_goals exact ⟨‹_›, by simp, fun u hu => by simp [upd, hu]⟩

theorem step_shape {e : Ev} (h : step s t = some (s', e)) :
    s.pc t ≠ .idle ∧ s'.pc t ≠ .idle ∧ ∀ u, u ≠ t → s'.pc u = s.pc u := by
  have hne : s.pc t ≠ .idle := fun hi => by simp [step, hi] at h
  unfold step at h
  repeat' split at h
  all_goals cases h
  all_goals exact ⟨hne, by simp, fun u hu => by simp [upd, hu]⟩

theorem result_shape {r : GRet} (h : result s t = some (s', r)) :
    s.pc t ≠ .idle ∧ s'.pc t = .idle ∧ ∀ u, u ≠ t → s'.pc u = s.pc u := by
  unfold result at h
  split at h <;> cases h
  exact ⟨by simp [*], by simp, fun u hu => by simp [upd, hu]⟩

end

theorem protocol : Protocol (RWQueue.model) (fun s t => s.pc t = .idle) :=
  Protocol.ofPC (RWQueue.model) (fun s => s.pc) .idle invoke_shape step_shape result_shape

end RwqueueP

/-- **C20 for RWQueue, two-lock queue (C06)**: a single-threaded complete run returns exactly the results of the sequential FIFO queue. -/
theorem C20_rwqueue_sequential (t0 : Tid) (sched : List (Tid × Act)) (s : RWQueue.St)
    (os : List (Tid × Obs)) (h : (RWQueue.model).run (RWQueue.init) sched = some (s, os)) (hst : ∀ x ∈ sched, x.1 = t0)
    (hid : s.pc t0 = .idle) :
    specRun fifoStep [] (callsOf os) = some (retsOf os) :=
  sequential_run_spec RwqueueP.protocol QueueLin.historyOf_eq
    C06RWQueue.C06_rwqueue_linearizable_complete_runs (fun _ => rfl) h hst hid

def rwqueueOps : List GOp := [⟨"deq", []⟩, ⟨"enq", [7]⟩, ⟨"enq", [8]⟩, ⟨"deq", []⟩, ⟨"deq", []⟩, ⟨"deq", []⟩, ⟨"enq", [9]⟩]
def rwqueueSched : List (Tid × Act) := seqSched (RWQueue.model) 0 200 (RWQueue.init) rwqueueOps

/-- deq on the empty queue fails, enq 7, enq 8, deq → 7, deq → 8, deq fails, enq 9. -/
example : rwqueueSched.length = 35 ∧ rwqueueSched.all (fun x => x.1 == 0) = true ∧
    seqDemo (RWQueue.model) (fun s => decide (s.pc 0 = .idle)) (RWQueue.init) rwqueueSched
      = some (true, rwqueueOps, [[0], [1], [1], [1, 7], [1, 8], [0], [1]]) ∧
    specRun fifoStep [] rwqueueOps = some [[0], [1], [1], [1, 7], [1, 8], [0], [1]] := by decide +kernel

/-! ### Optimistic queue (C06) → `Spec.fifo` -/

namespace OptimisticP
open Optimistic

section
variable {s s' : St} {t : Tid}

theorem invoke_shape {op : GOp} (h : invoke s t op = some s') :
    s.pc t = .idle ∧ s'.pc t ≠ .idle ∧ ∀ u, u ≠ t → s'.pc u = s.pc u := by
  unfold invoke at h
  repeat' split at h
  all_goals cases h
  all_goals exact ⟨‹_›, by simp, fun u hu => by simp [upd, hu]⟩

theorem step_shape {e : Ev} (h : step s t = some (s', e)) :
    s.pc t ≠ .idle ∧ s'.pc t ≠ .idle ∧ ∀ u, u ≠ t → s'.pc u = s.pc u := by
  have hne : s.pc t ≠ .idle := fun hi => by simp [step, hi] at h
  unfold step at h
  repeat' split at h
  all_goals cases h
  all_goals exact ⟨hne, by simp, fun u hu => by simp [upd, hu]⟩

theorem result_shape {r : GRet} (h : result s t = some (s', r)) :
    s.pc t ≠ .idle ∧ s'.pc t = .idle ∧ ∀ u, u ≠ t → s'.pc u = s.pc u := by
  unfold result at h
  split at h <;> cases h
  exact ⟨by simp [*], by simp, fun u hu => by simp [upd, hu]⟩

end

theorem protocol : Protocol (Optimistic.model) (fun s t => s.pc t = .idle) :=
  Protocol.ofPC (Optimistic.model) (fun s => s.pc) .idle invoke_shape step_shape result_shape

end OptimisticP

/-- **C20 for Optimistic queue (C06)**: a single-threaded complete run returns exactly the results of the sequential FIFO queue. -/
theorem C20_optimistic_sequential (t0 : Tid) (sched : List (Tid × Act)) (s : Optimistic.St)
    (os : List (Tid × Obs)) (h : (Optimistic.model).run (Optimistic.init) sched = some (s, os)) (hst : ∀ x ∈ sched, x.1 = t0)
    (hid : s.pc t0 = .idle) :
    specRun fifoStep [] (callsOf os) = some (retsOf os) :=
  sequential_run_spec OptimisticP.protocol QueueLin.historyOf_eq
    C06Optimistic.C06_optimistic_linearizable_complete_runs (fun _ => rfl) h hst hid

def optimisticOps : List GOp := [⟨"deq", []⟩, ⟨"enq", [7]⟩, ⟨"enq", [8]⟩, ⟨"deq", []⟩, ⟨"deq", []⟩, ⟨"deq", []⟩, ⟨"enq", [9]⟩]
def optimisticSched : List (Tid × Act) := seqSched (Optimistic.model) 0 200 (Optimistic.init) optimisticOps

/-- deq on the empty queue fails, enq 7, enq 8, deq → 7, deq → 8, deq fails, enq 9. -/
example : optimisticSched.length = 61 ∧ optimisticSched.all (fun x => x.1 == 0) = true ∧
    seqDemo (Optimistic.model) (fun s => decide (s.pc 0 = .idle)) (Optimistic.init) optimisticSched
      = some (true, optimisticOps, [[0], [1], [1], [1, 7], [1, 8], [0], [1]]) ∧
    specRun fifoStep [] optimisticOps = some [[0], [1], [1], [1, 7], [1, 8], [0], [1]] := by decide +kernel

/-! ### Feldman hash set (C14) → `Spec.map` -/

namespace FeldmanP
open Feldman

section
variable {c : Cfg} {s s' : St} {t : Tid}

theorem invoke_shape {op : GOp} (h : invoke s t op = some s') :
    s.pc t = .idle ∧ s'.pc t ≠ .idle ∧ ∀ u, u ≠ t → s'.pc u = s.pc u := by
  unfold invoke at h
  repeat' split at h
  all_goals cases h
  all_goals exact ⟨‹_›, by simp, fun u hu => by simp [upd, hu]⟩

theorem step_shape {e : Ev} (h : step c s t = some (s', e)) :
    s.pc t ≠ .idle ∧ s'.pc t ≠ .idle ∧ ∀ u, u ≠ t → s'.pc u = s.pc u := by
  exact ⟨(step_pc h).1, (step_pc h).2.1, step_frame h⟩

theorem result_shape {r : GRet} (h : result s t = some (s', r)) :
    s.pc t ≠ .idle ∧ s'.pc t = .idle ∧ ∀ u, u ≠ t → s'.pc u = s.pc u := by
  unfold result at h
  split at h <;> cases h
  exact ⟨by simp [*], by simp, fun u hu => by simp [upd, hu]⟩

end

theorem protocol (c : Feldman.Cfg) : Protocol (Feldman.model c) (fun s t => s.pc t = .idle) :=
  Protocol.ofPC (Feldman.model c) (fun s => s.pc) .idle invoke_shape step_shape result_shape

end FeldmanP

/-- **C20 for FeldmanHashSet** (`insert`, `update`, `erase`, `find`, `contains`), hypotheses as in `C14_feldman_linearizable`: a single-threaded complete run returns exactly the results of the sequential map. -/
theorem C20_feldman_sequential (c : Feldman.Cfg) (hp : Feldman.PathHyp c) (hcf : c.copyFirst = true) (t0 : Tid) (sched : List (Tid × Act)) (s : Feldman.St)
    (os : List (Tid × Obs)) (h : (Feldman.model c).run (Feldman.init) sched = some (s, os)) (hst : ∀ x ∈ sched, x.1 = t0)
    (hid : s.pc t0 = .idle) :
    specRun mapStep [] (callsOf os) = some (retsOf os) :=
  sequential_run_spec (FeldmanP.protocol c) Feldman.historyOf_eq
    (C14Feldman.C14_feldman_linearizable_complete_runs c hp hcf) (fun _ => rfl) h hst hid

def feldmanOps : List GOp := [⟨"insert", [2, 20]⟩, ⟨"insert", [4, 40]⟩, ⟨"insert", [2, 21]⟩, ⟨"update", [4, 41, 0]⟩, ⟨"update", [6, 60, 0]⟩, ⟨"find", [4]⟩, ⟨"erase", [2]⟩, ⟨"erase", [2]⟩, ⟨"contains", [4]⟩]
def feldmanSched : List (Tid × Act) := seqSched (Feldman.model (Feldman.cfgDeep 2)) 0 200 (Feldman.init) feldmanOps

/-- (configuration `cfgDeep 2`, which satisfies `PathHyp` by `C14_feldman_hyp_satisfiable`; the second insert forces two nested expansions) insert 2, insert 4, insert of the present key 2 fails, update 4, update 6 without insertion refused, find 4, erase 2, erase 2 fails, contains 4. -/
example : (Feldman.cfgDeep 2).copyFirst = true ∧ feldmanSched.length = 79 ∧ feldmanSched.all (fun x => x.1 == 0) = true ∧
    seqDemo (Feldman.model (Feldman.cfgDeep 2)) (fun s => decide (s.pc 0 = .idle)) (Feldman.init) feldmanSched
      = some (true, feldmanOps, [[1], [1], [0], [1, 0], [0, 0], [1, 41], [1, 20], [0], [1]]) ∧
    specRun mapStep [] feldmanOps = some [[1], [1], [0], [1, 0], [0, 0], [1, 41], [1, 20], [0], [1]] := by decide +kernel

/-! ### Treiber stack with elimination back-off (C09) → `Spec.lifo` -/

namespace ElimP
open Elim

section
variable {s s' : St} {t : Tid} {ctx : Ctx}

@[local simp] theorem retry_ne_idle : retry ctx ≠ .idle := by
  unfold retry
  split <;> simp

theorem invoke_shape {op : GOp} (h : invoke s t op = some s') :
    s.pc t = .idle ∧ s'.pc t ≠ .idle ∧ ∀ u, u ≠ t → s'.pc u = s.pc u := by
  unfold invoke at h
  repeat' split at h
  all_goals cases h
  all_goals exact ⟨‹_›, by simp, fun u hu => by simp [upd, hu]⟩

theorem step_shape {e : Ev} (h : step s t = some (s', e)) :
    s.pc t ≠ .idle ∧ s'.pc t ≠ .idle ∧ ∀ u, u ≠ t → s'.pc u = s.pc u := by
  have hne : s.pc t ≠ .idle := fun hi => by simp [step, hi] at h
  unfold step at h
  repeat' split at h
  all_goals cases h
  all_goals exact ⟨hne, by simp [hne], fun u hu => by simp [upd, hu]⟩

theorem result_shape {r : GRet} (h : result s t = some (s', r)) :
    s.pc t ≠ .idle ∧ s'.pc t = .idle ∧ ∀ u, u ≠ t → s'.pc u = s.pc u := by
  unfold result at h
  split at h <;> cases h
  exact ⟨by simp [*], by simp, fun u hu => by simp [upd, hu]⟩

end

theorem protocol : Protocol (Elim.model) (fun s t => s.pc t = .idle) :=
  Protocol.ofPC (Elim.model) (fun s => s.pc) .idle invoke_shape step_shape result_shape

end ElimP

/-! ### Flat combining (C10, generic in the sequential object) → the object itself -/

namespace FckernelP
open FC.KernelR

section
variable {cfg : FC.Kernel.Cfg} {s s' : FC.KernelR.St} {t : Tid}
    {k : FC.Kernel.Cont} {c : FC.Kernel.CS} {a : Nat} {pp x : Cur} {l : List Nat}

@[local simp] theorem afterPublish_ne_idle : afterPublish k ≠ .idle := by
  unfold afterPublish
  split <;> simp

@[local simp] theorem passEnd_ne_idle : passEnd cfg c ≠ .idle := by
  simp only [passEnd]
  repeat' split
  all_goals simp

@[local simp] theorem ccGo_ne_idle : ccGo a pp x ≠ .idle := by
  unfold ccGo
  split <;> simp

@[local simp] theorem c2Go_ne_idle : c2Go l ≠ .idle := by
  unfold c2Go
  split <;> simp

theorem invoke_shape {op : GOp} (h : invoke cfg s t op = some s') :
    s.pc t = FC.KernelR.PC.idle ∧ s'.pc t ≠ FC.KernelR.PC.idle ∧ ∀ u, u ≠ t → s'.pc u = s.pc u := by
  unfold invoke at h
  repeat' split at h
  all_goals cases h
  all_goals exact ⟨‹_›, by simp, fun u hu => by simp [upd, hu]⟩

theorem step_shape {e : Ev} (h : step cfg s t = some (s', e)) :
    s.pc t ≠ FC.KernelR.PC.idle ∧ s'.pc t ≠ FC.KernelR.PC.idle ∧ ∀ u, u ≠ t → s'.pc u = s.pc u := by
  have hne : s.pc t ≠ FC.KernelR.PC.idle := fun hi => by simp [step, hi] at h
  unfold step at h
  repeat' split at h
  all_goals cases h
  all_goals exact ⟨hne, by simp, fun u hu => by simp [upd, hu]⟩

theorem result_shape {r : GRet} (h : result s t = some (s', r)) :
    s.pc t ≠ FC.KernelR.PC.idle ∧ s'.pc t = FC.KernelR.PC.idle ∧ ∀ u, u ≠ t → s'.pc u = s.pc u := by
  unfold result at h
  split at h <;> cases h
  exact ⟨by simp [*], by simp, fun u hu => by simp [upd, hu]⟩

end

theorem protocol (cfg : FC.Kernel.Cfg) : Protocol (FC.KernelR.model cfg) (fun s t => s.pc t = FC.KernelR.PC.idle) :=
  Protocol.ofPC (FC.KernelR.model cfg) (fun s => s.pc) FC.KernelR.PC.idle (fun {_ _ op _} => invoke_shape (op := op)) step_shape
    result_shape

end FckernelP

/-! ### The corollaries for the elimination stack and for flat combining -/

theorem historyOf_eq_Elim (os : List (Tid × Obs)) :
    Elim.historyOf os = SeqHistory.historyOf (os.map (mapCall Elim.specOp)) := by
  have e : os.map Elim.specObs = os.map (mapCall Elim.specOp) :=
    List.map_congr_left fun x _ => by
      obtain ⟨t, o⟩ := x
      cases o <;> rfl
  rw [Elim.historyOf, Treiber.historyOf_eq, e]

/-- **C20 for the Treiber stack with elimination back-off.**  The client operations carry the inputs of the
    back-off rounds (`push v s1 k1 …`, `pop s1 k1 …`); `Elim.specOp` drops them.  A single-threaded complete run
    returns exactly the results of the sequential LIFO stack. -/
theorem C20_elim_sequential (t0 : Tid) (sched : List (Tid × Act)) (s : Elim.St) (os : List (Tid × Obs))
    (h : Elim.model.run Elim.init sched = some (s, os)) (hst : ∀ x ∈ sched, x.1 = t0)
    (hid : s.pc t0 = .idle) :
    specRun lifoStep [] ((callsOf os).map Elim.specOp) = some (retsOf os) :=
  sequential_run_spec_map ElimP.protocol historyOf_eq_Elim
    C09Elim.C09_elim_linearizable_complete_runs (fun _ => rfl) h hst hid

def elimOps : List GOp :=
  [⟨"push", [7, 0, 0]⟩, ⟨"push", [8]⟩, ⟨"pop", [0, 0]⟩, ⟨"pop", []⟩, ⟨"pop", [1, 2]⟩, ⟨"push", [9, 1, 0, 0, 3]⟩]
def elimSched : List (Tid × Act) := seqSched Elim.model 0 200 Elim.init elimOps

/-- push 7 (with back-off inputs), push 8, pop → 8, pop → 7, pop on the empty stack fails, push 9.  (In a
    single-threaded run no CAS fails, so the back-off inputs are never consumed.) -/
example : elimSched.length = 33 ∧ elimSched.all (fun x => x.1 == 0) = true ∧
    seqDemo Elim.model (fun s => decide (s.pc 0 = .idle)) Elim.init elimSched
      = some (true, elimOps, [[1], [1], [1, 8], [1, 7], [0], [1]]) ∧
    elimOps.map Elim.specOp = [⟨"push", [7]⟩, ⟨"push", [8]⟩, ⟨"pop", []⟩, ⟨"pop", []⟩, ⟨"pop", []⟩, ⟨"push", [9]⟩] ∧
    specRun lifoStep [] (elimOps.map Elim.specOp) = some [[1], [1], [1, 8], [1, 7], [0], [1]] := by decide +kernel

namespace FcP
open FC.KernelG

theorem protocol {σ : Type} (O : Obj σ) (cfg : FC.Kernel.Cfg) :
    Protocol (model O cfg) (fun s t => s.k.pc t = FC.KernelR.PC.idle) :=
  Protocol.ofPC (model O cfg) (fun s => s.k.pc) FC.KernelR.PC.idle
    (fun h => FckernelP.invoke_shape (invoke_k h).1)
    (fun h => by
      obtain ⟨ev', hk, -⟩ := step_k h
      exact FckernelP.step_shape hk)
    (fun h => by
      obtain ⟨⟨r', hk⟩, -⟩ := result_k h
      exact FckernelP.result_shape hk)

end FcP

/-- **C20 for flat combining, generic**: for EVERY deterministic sequential object `O` (`Obj σ`: initial state, step
    function, the operations of the interface) and every kernel configuration, a single-threaded complete run of
    the flat-combining machine over `O` returns exactly the results of `O` itself. -/
theorem C20_fc_sequential {σ : Type} (O : FC.KernelG.Obj σ) (cfg : FC.Kernel.Cfg) (t0 : Tid)
    (sched : List (Tid × Act)) (s : FC.KernelG.St σ) (os : List (Tid × Obs))
    (h : (FC.KernelG.model O cfg).run (FC.KernelG.init O cfg) sched = some (s, os))
    (hst : ∀ x ∈ sched, x.1 = t0) (hid : s.k.pc t0 = FC.KernelR.PC.idle) :
    specRun O.step O.init (callsOf os) = some (retsOf os) :=
  sequential_run_spec (FcP.protocol O cfg) FC.Log.historyOf_eq
    (C10FCLin.C10_fc_linearizable_complete_runs O cfg) (fun _ => rfl) h hst hid

/-- FCQueue → `Spec.fifo`, FCStack → `Spec.lifo`, FCDeque → `Spec.deque`, FCPriorityQueue → the deterministic
    max-priority queue `pqStepD` (which refines `Spec.maxpq 0`: `C10FCLin.pqStepD_refines`). -/
theorem C20_fcqueue_sequential (cfg : FC.Kernel.Cfg) (t0 : Tid) (sched : List (Tid × Act))
    (s : FC.KernelG.St (List Int)) (os : List (Tid × Obs))
    (h : (FC.KernelG.model FC.Objects.queueObj cfg).run (FC.KernelG.init FC.Objects.queueObj cfg) sched = some (s, os))
    (hst : ∀ x ∈ sched, x.1 = t0) (hid : s.k.pc t0 = FC.KernelR.PC.idle) :
    specRun fifoStep [] (callsOf os) = some (retsOf os) :=
  C20_fc_sequential FC.Objects.queueObj cfg t0 sched s os h hst hid

theorem C20_fcstack_sequential (cfg : FC.Kernel.Cfg) (t0 : Tid) (sched : List (Tid × Act))
    (s : FC.KernelG.St (List Int)) (os : List (Tid × Obs))
    (h : (FC.KernelG.model FC.Objects.stackObj cfg).run (FC.KernelG.init FC.Objects.stackObj cfg) sched = some (s, os))
    (hst : ∀ x ∈ sched, x.1 = t0) (hid : s.k.pc t0 = FC.KernelR.PC.idle) :
    specRun lifoStep [] (callsOf os) = some (retsOf os) :=
  C20_fc_sequential FC.Objects.stackObj cfg t0 sched s os h hst hid

theorem C20_fcdeque_sequential (cfg : FC.Kernel.Cfg) (t0 : Tid) (sched : List (Tid × Act))
    (s : FC.KernelG.St (List Int)) (os : List (Tid × Obs))
    (h : (FC.KernelG.model FC.Objects.dequeObj cfg).run (FC.KernelG.init FC.Objects.dequeObj cfg) sched = some (s, os))
    (hst : ∀ x ∈ sched, x.1 = t0) (hid : s.k.pc t0 = FC.KernelR.PC.idle) :
    specRun dequeStep [] (callsOf os) = some (retsOf os) :=
  C20_fc_sequential FC.Objects.dequeObj cfg t0 sched s os h hst hid

theorem C20_fcpq_sequential (cfg : FC.Kernel.Cfg) (t0 : Tid) (sched : List (Tid × Act))
    (s : FC.KernelG.St (List Int)) (os : List (Tid × Obs))
    (h : (FC.KernelG.model FC.Objects.pqObj cfg).run (FC.KernelG.init FC.Objects.pqObj cfg) sched = some (s, os))
    (hst : ∀ x ∈ sched, x.1 = t0) (hid : s.k.pc t0 = FC.KernelR.PC.idle) :
    specRun FC.Objects.pqStepD [] (callsOf os) = some (retsOf os) :=
  C20_fc_sequential FC.Objects.pqObj cfg t0 sched s os h hst hid

def fcCfg : FC.Kernel.Cfg := ⟨2, 0, 1⟩
def fcdequeOps : List GOp :=
  [⟨"pop_front", []⟩, ⟨"push_back", [7]⟩, ⟨"push_front", [8]⟩, ⟨"push_back", [9]⟩, ⟨"pop_back", []⟩, ⟨"pop_front", []⟩,
   ⟨"pop_front", []⟩, ⟨"pop_back", []⟩]
def fcdequeSched : List (Tid × Act) :=
  seqSched (FC.KernelG.model FC.Objects.dequeObj fcCfg) 0 300 (FC.KernelG.init FC.Objects.dequeObj fcCfg) fcdequeOps

/-- FCDeque (2 publication records, no compaction, 1 combining pass): pop_front on the empty deque fails,
    push_back 7, push_front 8, push_back 9, pop_back → 9, pop_front → 8, pop_front → 7, pop_back fails. -/
example : fcdequeSched.length = 216 ∧ fcdequeSched.all (fun x => x.1 == 0) = true ∧
    seqDemo (FC.KernelG.model FC.Objects.dequeObj fcCfg) (fun s => decide (s.k.pc 0 = FC.KernelR.PC.idle))
        (FC.KernelG.init FC.Objects.dequeObj fcCfg) fcdequeSched
      = some (true, fcdequeOps, [[0], [1], [1], [1], [1, 9], [1, 8], [1, 7], [0]]) ∧
    specRun dequeStep [] fcdequeOps = some [[0], [1], [1], [1], [1, 9], [1, 8], [1, 7], [0]] := by decide +kernel

def fcpqOps : List GOp :=
  [⟨"pop", []⟩, ⟨"push", [3007]⟩, ⟨"push", [5008]⟩, ⟨"push", [1009]⟩, ⟨"pop", []⟩, ⟨"pop", []⟩, ⟨"pop", []⟩, ⟨"pop", []⟩]
def fcpqSched : List (Tid × Act) :=
  seqSched (FC.KernelG.model FC.Objects.pqObj fcCfg) 0 300 (FC.KernelG.init FC.Objects.pqObj fcCfg) fcpqOps

/-- FCPriorityQueue (items `prio * 1000 + id`): pop on the empty queue fails, push 3007, 5008, 1009, pop → 5008,
    pop → 3007, pop → 1009, pop fails. -/
example : fcpqSched.length = 216 ∧ fcpqSched.all (fun x => x.1 == 0) = true ∧
    seqDemo (FC.KernelG.model FC.Objects.pqObj fcCfg) (fun s => decide (s.k.pc 0 = FC.KernelR.PC.idle))
        (FC.KernelG.init FC.Objects.pqObj fcCfg) fcpqSched
      = some (true, fcpqOps, [[0], [1], [1], [1], [1, 5008], [1, 3007], [1, 1009], [0]]) ∧
    specRun FC.Objects.pqStepD [] fcpqOps = some [[0], [1], [1], [1], [1, 5008], [1, 3007], [1, 1009], [0]] := by
  decide +kernel

/-! ### The configuration hypotheses of the examples hold -/

example : SplitList.SOHyp C14SplitList.cfg := C14SplitList.C14_cfg64_hyp 0 64 1 (by decide)

example : Feldman.PathHyp (Feldman.cfgDeep 2) ∧ (Feldman.cfgDeep 2).copyFirst = true :=
  C14Feldman.C14_feldman_hyp_satisfiable 2

/-- The history of the Treiber example, as `historyOf` records it: sequential, one record per operation. -/
example : (Treiber.model.run Treiber.init treiberSched).map (fun r => SeqHistory.historyOf r.2) =
    some [⟨0, ⟨"push", [7]⟩, [1], 0, 4⟩, ⟨0, ⟨"push", [8]⟩, [1], 5, 9⟩, ⟨0, ⟨"pop", []⟩, [1, 8], 10, 16⟩,
          ⟨0, ⟨"pop", []⟩, [1, 7], 17, 23⟩, ⟨0, ⟨"pop", []⟩, [0], 24, 27⟩, ⟨0, ⟨"push", [9]⟩, [1], 28, 32⟩] ∧
    (Treiber.model.run Treiber.init treiberSched).map (fun r => decide (Sequential (SeqHistory.historyOf r.2))) =
      some true := by decide +kernel

/-- The corollary applied to that run. -/
example (s : Treiber.St) (os : List (Tid × Obs)) (h : Treiber.model.run Treiber.init treiberSched = some (s, os))
    (hid : s.pc 0 = .idle) : specRun lifoStep [] (callsOf os) = some (retsOf os) :=
  C20_treiber_sequential 0 treiberSched s os h (by decide +kernel) hid

/-- **C20 for FeldmanHashSet, replayed configuration** (`cfgH 4 2 3`, the configuration of `cdsdriver replay feldman`;
    its hash hypotheses are proved: `C14_feldman_harness_hyp`): no hypothesis on the hash is left. -/
theorem C20_feldman_sequential_harness (t0 : Tid) (sched : List (Tid × Act)) (s : Feldman.St)
    (os : List (Tid × Obs)) (h : (Feldman.model (Feldman.cfgH 4 2 3)).run (Feldman.init) sched = some (s, os))
    (hst : ∀ x ∈ sched, x.1 = t0) (hid : s.pc t0 = .idle) :
    specRun mapStep [] (callsOf os) = some (retsOf os) :=
  C20_feldman_sequential (Feldman.cfgH 4 2 3) C14Feldman.C14_feldman_harness_hyp.1
    C14Feldman.C14_feldman_harness_hyp.2 t0 sched s os h hst hid

/-- … and for every replayed geometry and shift (`hsum` is `by decide` for (4, 2), (4, 3), (6, 2), (7, 3)). -/
theorem C20_feldman_sequential_harness_general (hb ab shift : Nat) (hsum : hb + ab * ((64 - hb) / ab) = 64) (t0 : Tid)
    (sched : List (Tid × Act)) (s : Feldman.St) (os : List (Tid × Obs))
    (h : (Feldman.model (Feldman.cfgH hb ab shift)).run (Feldman.init) sched = some (s, os))
    (hst : ∀ x ∈ sched, x.1 = t0) (hid : s.pc t0 = .idle) :
    specRun mapStep [] (callsOf os) = some (retsOf os) :=
  C20_feldman_sequential (Feldman.cfgH hb ab shift) (C14Feldman.C14_feldman_harness_hyp_general hb ab shift hsum).1 rfl
    t0 sched s os h hst hid

def feldmanHarnessSched : List (Tid × Act) :=
  seqSched (Feldman.model (Feldman.cfgH 4 2 3)) 0 200 (Feldman.init) feldmanOps

/-- The same client program as `feldmanSched`, under the replayed configuration (keys 2, 4 share the head slot: one
    expansion). -/
example : feldmanHarnessSched.all (fun x => x.1 == 0) = true ∧
    seqDemo (Feldman.model (Feldman.cfgH 4 2 3)) (fun s => decide (s.pc 0 = .idle)) (Feldman.init) feldmanHarnessSched
      = some (true, feldmanOps, [[1], [1], [0], [1, 0], [0, 0], [1, 41], [1, 20], [0], [1]]) := by decide +kernel

/-- The corollary applied to that run. -/
example (s : Feldman.St) (os : List (Tid × Obs))
    (h : (Feldman.model (Feldman.cfgH 4 2 3)).run Feldman.init feldmanHarnessSched = some (s, os))
    (hid : s.pc 0 = .idle) : specRun mapStep [] (callsOf os) = some (retsOf os) :=
  C20_feldman_sequential_harness 0 feldmanHarnessSched s os h (by decide +kernel) hid

/-! ### FCQueue and FCStack: evaluated single-threaded runs (`C20_fcqueue_sequential`, `C20_fcstack_sequential`) -/

def fcqueueOps : List GOp :=
  [⟨"deq", []⟩, ⟨"enq", [7]⟩, ⟨"enq", [8]⟩, ⟨"enq", [9]⟩, ⟨"deq", []⟩, ⟨"deq", []⟩, ⟨"deq", []⟩, ⟨"deq", []⟩]
def fcqueueSched : List (Tid × Act) :=
  seqSched (FC.KernelG.model FC.Objects.queueObj fcCfg) 0 300 (FC.KernelG.init FC.Objects.queueObj fcCfg) fcqueueOps

/-- FCQueue (2 publication records, no compaction, 1 combining pass): deq on the empty queue fails, enq 7, 8, 9,
    deq → 7, deq → 8, deq → 9 (FIFO order), deq fails. -/
example : fcqueueSched.length = 216 ∧ fcqueueSched.all (fun x => x.1 == 0) = true ∧
    seqDemo (FC.KernelG.model FC.Objects.queueObj fcCfg) (fun s => decide (s.k.pc 0 = FC.KernelR.PC.idle))
        (FC.KernelG.init FC.Objects.queueObj fcCfg) fcqueueSched
      = some (true, fcqueueOps, [[0], [1], [1], [1], [1, 7], [1, 8], [1, 9], [0]]) ∧
    specRun fifoStep [] fcqueueOps = some [[0], [1], [1], [1], [1, 7], [1, 8], [1, 9], [0]] := by decide +kernel

/-- The corollary applied to that run. -/
example (s : FC.KernelG.St (List Int)) (os : List (Tid × Obs))
    (h : (FC.KernelG.model FC.Objects.queueObj fcCfg).run (FC.KernelG.init FC.Objects.queueObj fcCfg) fcqueueSched
      = some (s, os))
    (hid : s.k.pc 0 = FC.KernelR.PC.idle) : specRun fifoStep [] (callsOf os) = some (retsOf os) :=
  C20_fcqueue_sequential fcCfg 0 fcqueueSched s os h (by decide +kernel) hid

def fcstackOps : List GOp :=
  [⟨"pop", []⟩, ⟨"push", [7]⟩, ⟨"push", [8]⟩, ⟨"push", [9]⟩, ⟨"pop", []⟩, ⟨"pop", []⟩, ⟨"pop", []⟩, ⟨"pop", []⟩]
def fcstackSched : List (Tid × Act) :=
  seqSched (FC.KernelG.model FC.Objects.stackObj fcCfg) 0 300 (FC.KernelG.init FC.Objects.stackObj fcCfg) fcstackOps

/-- FCStack: pop on the empty stack fails, push 7, 8, 9, pop → 9, pop → 8, pop → 7 (LIFO order), pop fails. -/
example : fcstackSched.length = 216 ∧ fcstackSched.all (fun x => x.1 == 0) = true ∧
    seqDemo (FC.KernelG.model FC.Objects.stackObj fcCfg) (fun s => decide (s.k.pc 0 = FC.KernelR.PC.idle))
        (FC.KernelG.init FC.Objects.stackObj fcCfg) fcstackSched
      = some (true, fcstackOps, [[0], [1], [1], [1], [1, 9], [1, 8], [1, 7], [0]]) ∧
    specRun lifoStep [] fcstackOps = some [[0], [1], [1], [1], [1, 9], [1, 8], [1, 7], [0]] := by decide +kernel

/-- The corollary applied to that run. -/
example (s : FC.KernelG.St (List Int)) (os : List (Tid × Obs))
    (h : (FC.KernelG.model FC.Objects.stackObj fcCfg).run (FC.KernelG.init FC.Objects.stackObj fcCfg) fcstackSched
      = some (s, os))
    (hid : s.k.pc 0 = FC.KernelR.PC.idle) : specRun lifoStep [] (callsOf os) = some (retsOf os) :=
  C20_fcstack_sequential fcCfg 0 fcstackSched s os h (by decide +kernel) hid

end CdsVerif.Props.C20Seq
