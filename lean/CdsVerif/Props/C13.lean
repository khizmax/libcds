/-
  C13 — what does not depend on the algorithm.  The theorems about the list machines are in `Props/C13Michael.lean`
  and `Props/C13Lazy.lean`.
-/
import CdsVerif.Base.Spec
namespace CdsVerif.Props.C13
open CdsVerif.Lin CdsVerif.Spec

/-- The oracle of tie H is exact: a history of the real container is accepted by the driver iff it is
    linearizable to the sequential specification. -/
theorem C13_history_oracle_exact  (ops : List (OpRec GOp GRet)) (hwf : ∀ o ∈ ops, o.inv ≤ o.res) :
    linCheck map ops = true ↔ Linearizable map ops :=
  linCheck_iff _ ops hwf

end CdsVerif.Props.C13
