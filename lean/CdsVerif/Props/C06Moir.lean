/-
  C06 — MoirQueue (cds::intrusive::MoirQueue: MSQueue's `enqueue`, its own `do_dequeue`) is a linearizable FIFO
  queue: every concurrent history of the atomic-step model `Algo/Moir/Model.lean` is linearizable to `Spec.fifo`;
  `dequeue` reports "empty" only if the queue was empty at some instant during the call.
  Property theorems only; the model, the invariant and the proof live in `Algo/Moir/{Model,Inv,Lin}.lean` and in the
  generic ghost-log construction `Algo/QueueLin/{Chain,History,Ghost}.lean`.

  What is different from MSQueue (and is proved here): the dequeuer reads and helps `m_pTail` only AFTER its
  successful CAS on `m_pHead`, and does not re-validate `m_pHead`.  `m_pHead` and `m_pTail` can therefore cross:
  `m_pTail` may be the node just dequeued, one node BEHIND `m_pHead` (`C06_moir_tail_position`, example `crossSched`);
  the queue is then empty and stays so until `m_pTail` is repaired.  The empty dequeue needs no hindsight: its
  result is definitive at its linearization point (the validating null load of `h->m_pNext`), because a node behind
  `m_pHead` never has a null link.

  Assumption of the model (not proved here): a node is not reused while any thread may still hold a pointer to it
  (garbage-collected heap).  This is what the hazard pointers taken by `guards.protect` provide.
-/
import CdsVerif.Algo.Moir.Lin
namespace CdsVerif.Props.C06Moir
open CdsVerif.Machine CdsVerif.Lin CdsVerif.Spec CdsVerif.Algo CdsVerif.Algo.QueueLin

/-- Linearizability, general form (Herlihy–Wing with completion of pending operations).  For EVERY schedule
    (any number of threads, any client program of `enq v` / `deq`, any interleaving of the atomic steps), the
    history of the completed operations of the run — extended by response records for the pending operations that
    have already passed their linearization point (at most one per thread; each is an operation pending in `os`,
    completed with the result fixed at its linearization point and the response time "end of run"), all other
    pending operations being dropped — is linearizable to the sequential FIFO queue.

    The literal statement "`historyOf os` is linearizable" is FALSE for runs that stop between the successful CAS
    of an `enq` and its return while another thread has already dequeued the value (`pendSched` below). -/
theorem C06_moir_linearizable (sched : List (Tid × Act)) (s : Moir.St) (os : List (Tid × Obs))
    (h : Moir.model.run Moir.init sched = some (s, os)) :
    ∃ extra : List (OpRec GOp GRet),
      (∀ e ∈ extra, pendingOf os e.tid = some (e.op, e.inv) ∧ e.res = os.length ∧
          Moir.postRet (s.pc e.tid) = some e.ret) ∧
      extra.Pairwise (fun a b => a.tid ≠ b.tid) ∧
      Linearizable fifo (historyOf os ++ extra) :=
  Moir.moir_linearizable sched s os h

/-- Runs in which every invoked operation has returned: the history is linearizable as it is. -/
theorem C06_moir_linearizable_complete_runs (sched : List (Tid × Act)) (s : Moir.St) (os : List (Tid × Obs))
    (h : Moir.model.run Moir.init sched = some (s, os)) (hq : ∀ t, s.pc t = .idle) :
    Linearizable fifo (historyOf os) :=
  Moir.moir_linearizable_complete_runs sched s os h hq

/-- More generally: runs at whose end no thread is between its linearization point and its return (threads may be
    in the middle of operations that have not taken effect; these are dropped). -/
theorem C06_moir_linearizable_no_effect_pending (sched : List (Tid × Act)) (s : Moir.St)
    (os : List (Tid × Obs)) (h : Moir.model.run Moir.init sched = some (s, os))
    (hq : ∀ t, Moir.postRet (s.pc t) = none) :
    Linearizable fifo (historyOf os) :=
  Moir.moir_linearizable_no_effect_pending sched s os h hq

/-- `historyOf` is faithful: a record's `inv` / `res` are the positions of its call and return observations;
    `pendingOf` likewise. -/
theorem C06_moir_history_sound (os : List (Tid × Obs)) :
    (∀ r ∈ historyOf os,
      os[r.inv]? = some (r.tid, .call r.op) ∧ os[r.res]? = some (r.tid, .ret r.ret) ∧ r.inv < r.res) ∧
    (∀ t op k, pendingOf os t = some (op, k) → os[k]? = some (t, .call op)) :=
  ⟨fun r h => historyOf_sound os r h, fun t op k h => pendingOf_sound os t op k h⟩

/-- No invention: every value returned by a `deq` is the argument of an `enq` that was invoked before the `deq`
    returned. -/
theorem C06_moir_no_invention (sched : List (Tid × Act)) (s : Moir.St) (os : List (Tid × Obs))
    (h : Moir.model.run Moir.init sched = some (s, os)) (r : OpRec GOp GRet)
    (hr : r ∈ historyOf os) (hop : r.op = ⟨"deq", []⟩) (v : Int) (hret : r.ret = [1, v]) :
    ∃ i t', i < r.res ∧ os[i]? = some (t', .call ⟨"enq", [v]⟩) :=
  Moir.moir_no_invention sched s os h r hr hop v hret

/-- No duplication.  With `extra` as in `C06_moir_linearizable`, for every value `v` the completed dequeues that
    returned `v` are at most as many as the `enq v` operations of the run (the completed ones plus the pending ones
    in `extra`): a value enqueued once is dequeued at most once. -/
theorem C06_moir_no_duplication (sched : List (Tid × Act)) (s : Moir.St) (os : List (Tid × Obs))
    (h : Moir.model.run Moir.init sched = some (s, os)) :
    ∃ extra : List (OpRec GOp GRet),
      (∀ e ∈ extra, pendingOf os e.tid = some (e.op, e.inv) ∧ e.res = os.length ∧
          Moir.postRet (s.pc e.tid) = some e.ret) ∧
      extra.Pairwise (fun a b => a.tid ≠ b.tid) ∧
      ∀ v, (historyOf os).countP (isDeqOf v) ≤ (historyOf os ++ extra).countP (isEnq v) :=
  Moir.moir_no_duplication sched s os h

/-- `deq` answers "empty" only if the queue was empty at some instant during the call.  For EVERY run: if a
    completed `deq` returned `[0]`, there is an instant `j` strictly between its call (observation `r.inv`) and its
    return (observation `r.res`) such that in the state `s1` reached by the first `j` actions of the run the
    abstract queue is empty; more precisely (`EmptyAt`) the calling thread is about to perform the validating load
    of `h->m_pNext` that reads null, `h` is `m_pHead` and the chain from `head` consists of `h` alone. -/
theorem C06_moir_empty_means_empty (sched : List (Tid × Act)) (s : Moir.St) (os : List (Tid × Obs))
    (h : Moir.model.run Moir.init sched = some (s, os)) (r : OpRec GOp GRet)
    (hr : r ∈ historyOf os) (hret : r.ret = [0]) :
    ∃ j s1, r.inv < j ∧ j < r.res ∧ Moir.model.run Moir.init (sched.take j) = some (s1, os.take j) ∧
      Moir.EmptyAt s1 r.tid ∧ Moir.absQueue s1 = [] :=
  Moir.moir_empty_hindsight sched s os h r hr hret

/-- The same, step by step: in a reachable state, the step at which a thread linearizes with result `[0]` is the
    validating load of `h->m_pNext` inside `guards.protect( 1, h->m_pNext )` reading null; at that instant `h` is
    `m_pHead`, the chain from `head` consists of `h` alone and the abstract queue is empty; the thread has nothing
    left to do but return `[0]` (no re-validation of `m_pHead` as in MSQueue: the result is definitive). -/
theorem C06_moir_empty_lp_step (s s' : Moir.St) (t : Tid) (ev : Ev)
    (hreach : Moir.model.Reachable Moir.init s) (hs : Moir.step s t = some (s', ev))
    (hpre : Moir.postRet (s.pc t) = none) (hpost : Moir.postRet (s'.pc t) = some [0]) :
    Moir.EmptyAt s t ∧ s'.pc t = .done [0] ∧ Moir.absQueue s' = [] :=
  Moir.deq_empty_step (Moir.sinv_reachable s hreach) hs hpre hpost

/-- Head and tail may cross, but by one node at most.  In every reachable state `m_pTail` is the last or the
    second-to-last node of the chain from `m_pHead` — or it is not on that chain at all: then it is the node
    immediately behind `m_pHead` (`tail.next = head`) and the chain is `[head]`, i.e. the queue is empty. -/
theorem C06_moir_tail_position (s : Moir.St) (hreach : Moir.model.Reachable Moir.init s) :
    (∃ l0, Moir.absNodes s = l0 ++ [s.tail] ∨ ∃ x, Moir.absNodes s = l0 ++ [s.tail, x]) ∨
    (s.tail ∉ Moir.absNodes s ∧ s.next s.tail = some s.head ∧ Moir.absNodes s = [s.head]) :=
  Moir.reachable_tail_lag s hreach

/-- Refinement: in a reachable state, the step at which thread `t` fixes its result `r` (successful CAS on
    `t->m_pNext` of `enq`, successful CAS on `m_pHead` of `deq`, validating null load of `h->m_pNext` of `deq`) is
    exactly the `fifo` transition of `t`'s operation with result `r` on the abstract queue; every other step —
    in particular every access to `m_pTail` — leaves the abstract queue unchanged. -/
theorem C06_moir_lp_refines (s s' : Moir.St) (t : Tid) (ev : Ev)
    (hreach : Moir.model.Reachable Moir.init s) (hs : Moir.step s t = some (s', ev)) :
    (Moir.postRet (s.pc t) = none → ∀ r, Moir.postRet (s'.pc t) = some r →
      ∃ op, Moir.opOf s.val (s.pc t) = some op ∧
        fifo.next (Moir.absQueue s) op r = some (Moir.absQueue s')) ∧
    ((Moir.postRet (s.pc t) ≠ none ∨ Moir.postRet (s'.pc t) = none) →
      Moir.absQueue s' = Moir.absQueue s) :=
  Moir.step_refines (Moir.sinv_reachable s hreach) hs

/-- Structure of the reachable states: the chain from `head` starts with `head`, is finite, duplicate-free, ends in
    a node with a null link and is made of published nodes. -/
theorem C06_moir_chain (s : Moir.St) (hreach : Moir.model.Reachable Moir.init s) :
    Chain s.next (some s.head) (Moir.absNodes s) ∧ (Moir.absNodes s).Nodup ∧
      (∀ a ∈ Moir.absNodes s, Moir.Pub s a) ∧ (∃ r, Moir.absNodes s = s.head :: r) :=
  Moir.reachable_chain s hreach

/-- A node that has left the chain (a dequeued dummy — possibly still `m_pTail`!) is never linked in again, in
    particular `head` never returns to it. -/
theorem C06_moir_never_relinked (s s' : Moir.St) (t : Tid) (a : Act) (o : Obs)
    (hreach : Moir.model.Reachable Moir.init s) (hap : Moir.model.apply s t a = some (s', o))
    (x : Nat) (hx : Moir.Pub s x) (hout : x ∉ Moir.absNodes s) :
    Moir.Pub s' x ∧ x ∉ Moir.absNodes s' :=
  Moir.never_relinked (Moir.sinv_reachable s hreach) hap x hx hout

/-! ### Non-vacuity -/

def steps (t : Tid) (n : Nat) : List (Tid × Act) := List.replicate n (t, .step)

/-- Head and tail cross.  Thread 0 links its node `n1` behind the dummy `n0` and is delayed before swinging the
    tail; thread 1 dequeues: it never looks at `tail` before its `cas+ head n0 n1`. -/
def crossSched : List (Tid × Act) :=
  [(0, .invoke ⟨"enq", [7]⟩)] ++ steps 0 4 ++ [(1, .invoke ⟨"deq", []⟩)] ++ steps 1 5

example : (Moir.model.run Moir.init crossSched).map (·.2) = some
    [(0, .call ⟨"enq", [7]⟩),                -- T 0 C enq [7]
     (0, .ev ⟨"ld", "tail", "n0", ""⟩),      -- T 0 A ld tail n0
     (0, .ev ⟨"ld", "tail", "n0", ""⟩),      -- T 0 A ld tail n0
     (0, .ev ⟨"ld", "n0", "null", ""⟩),      -- T 0 A ld n0 null
     (0, .ev ⟨"cas+", "n0", "null", "n1"⟩),  -- T 0 A cas+ n0 null n1        (linearization point of enq 7)
     (1, .call ⟨"deq", []⟩),                 -- T 1 C deq []
     (1, .ev ⟨"ld", "head", "n0", ""⟩),      -- T 1 A ld head n0             (protect: load)
     (1, .ev ⟨"ld", "head", "n0", ""⟩),      -- T 1 A ld head n0             (protect: validating load)
     (1, .ev ⟨"ld", "n0", "n1", ""⟩),        -- T 1 A ld n0 n1
     (1, .ev ⟨"ld", "n0", "n1", ""⟩),        -- T 1 A ld n0 n1
     (1, .ev ⟨"cas+", "head", "n0", "n1"⟩)]  -- T 1 A cas+ head n0 n1        (linearization point of deq)
    := by decide

/-- The crossed state: `head = n1`, `tail = n0` is BEHIND head (`n0.next = n1`), the chain is `[n1]`, the queue is
    empty (third alternative of `C06_moir_tail_position`). -/
example : (Moir.model.run Moir.init crossSched).map
    (fun r => (r.1.head, r.1.tail, r.1.next r.1.tail, Moir.absNodes r.1, Moir.absQueue r.1)) =
    some (1, 0, some 1, [1], []) := by decide

/-- In the crossed state a third thread dequeues "empty" (correctly: the 7 is gone); then thread 1 reads
    `tail == h` and repairs it (`cas+ tail n0 n1`); thread 0's own swing then fails. -/
def crossRest : List (Tid × Act) :=
  [(2, .invoke ⟨"deq", []⟩)] ++ steps 2 4 ++ [(2, .ret)] ++ steps 1 2 ++ [(1, .ret)] ++ steps 0 1 ++ [(0, .ret)]

example : (Moir.model.run Moir.init (crossSched ++ crossRest)).map (fun r => r.2.drop 11) = some
    [(2, .call ⟨"deq", []⟩),
     (2, .ev ⟨"ld", "head", "n1", ""⟩),
     (2, .ev ⟨"ld", "head", "n1", ""⟩),
     (2, .ev ⟨"ld", "n1", "null", ""⟩),
     (2, .ev ⟨"ld", "n1", "null", ""⟩),      -- linearization point of the empty deq: returns at once
     (2, .ret [0]),
     (1, .ev ⟨"ld", "tail", "n0", ""⟩),      -- T 1 A ld tail n0             (h == t: tail is behind head)
     (1, .ev ⟨"cas+", "tail", "n0", "n1"⟩),  -- T 1 A cas+ tail n0 n1        (repair)
     (1, .ret [1, 7]),
     (0, .ev ⟨"cas-", "tail", "n1", "n0"⟩),  -- T 0 A cas- tail n1 n0        (seen n1, expected n0; result ignored)
     (0, .ret [1])] := by decide

example : (Moir.model.run Moir.init (crossSched ++ crossRest)).map (fun r => historyOf r.2) = some
    [⟨2, ⟨"deq", []⟩, [0], 11, 16⟩, ⟨1, ⟨"deq", []⟩, [1, 7], 5, 19⟩, ⟨0, ⟨"enq", [7]⟩, [1], 0, 21⟩] := by decide

example : linCheck fifo
    [⟨2, ⟨"deq", []⟩, [0], 11, 16⟩, ⟨1, ⟨"deq", []⟩, [1, 7], 5, 19⟩, ⟨0, ⟨"enq", [7]⟩, [1], 0, 21⟩] = true := by decide

/-- In the crossed state an ENQUEUER repairs the tail: thread 2 reads `tail = n0` (a node that is no longer in the
    queue), finds `n0.next = n1 ≠ null`, helps (`cas+ tail n0 n1`), restarts and links `n2` behind `n1`.  Thread 1
    then reads `tail = n2 ≠ h` and does not CAS. -/
def enqRepairSched : List (Tid × Act) :=
  crossSched ++ [(2, .invoke ⟨"enq", [8]⟩)] ++ steps 2 9 ++ [(2, .ret)] ++ steps 1 1 ++ [(1, .ret)] ++
  steps 0 1 ++ [(0, .ret)]

example : (Moir.model.run Moir.init enqRepairSched).map (fun r => r.2.drop 11) = some
    [(2, .call ⟨"enq", [8]⟩),
     (2, .ev ⟨"ld", "tail", "n0", ""⟩),
     (2, .ev ⟨"ld", "tail", "n0", ""⟩),
     (2, .ev ⟨"ld", "n0", "n1", ""⟩),        -- tail is lagging (behind head)
     (2, .ev ⟨"cas+", "tail", "n0", "n1"⟩),  -- help
     (2, .ev ⟨"ld", "tail", "n1", ""⟩),
     (2, .ev ⟨"ld", "tail", "n1", ""⟩),
     (2, .ev ⟨"ld", "n1", "null", ""⟩),
     (2, .ev ⟨"cas+", "n1", "null", "n2"⟩),  -- linearization point of enq 8
     (2, .ev ⟨"cas+", "tail", "n1", "n2"⟩),
     (2, .ret [1]),
     (1, .ev ⟨"ld", "tail", "n2", ""⟩),      -- h != t: no CAS
     (1, .ret [1, 7]),
     (0, .ev ⟨"cas-", "tail", "n2", "n0"⟩),
     (0, .ret [1])] := by decide

example : (Moir.model.run Moir.init enqRepairSched).map
    (fun r => (linCheck fifo (historyOf r.2), Moir.absQueue r.1, Moir.absNodes r.1, r.1.head, r.1.tail)) =
    some (true, [8], [1, 2], 1, 2) := by decide

/-- Why pending operations must be completed: the run stops with thread 0's `enq 7` still pending (past its
    linearization point) while thread 1 has dequeued the 7 and returned.  The history of completed operations alone
    is not linearizable ... -/
def pendSched : List (Tid × Act) := crossSched ++ steps 1 2 ++ [(1, .ret)]

example : (Moir.model.run Moir.init pendSched).map (fun r => (historyOf r.2, r.2.length, r.1.pc 0)) =
    some ([⟨1, ⟨"deq", []⟩, [1, 7], 5, 13⟩], 14, .enqSwing 1 0) := by decide

example : ¬ Linearizable fifo [⟨1, ⟨"deq", []⟩, [1, 7], 5, 13⟩] :=
  not_linearizable_of_linCheck_eq_false fifo _ (by decide) (by decide)

/-- ... and `extra` of `C06_moir_linearizable` repairs it: with the pending enq completed, it is. -/
example : Linearizable fifo ([⟨1, ⟨"deq", []⟩, [1, 7], 5, 13⟩] ++ [⟨0, ⟨"enq", [7]⟩, [1], 0, 14⟩]) :=
  linCheck_sound fifo _ (by decide)

/-- A dequeue CAS fails.  Two values are enqueued; threads 0 and 1 both prepare `CAS( head, n0, n1 )`; thread 1
    wins, thread 0 fails (`cas- head n1 n0`), restarts and dequeues the second value. -/
def raceSched : List (Tid × Act) :=
  [(0, .invoke ⟨"enq", [5]⟩)] ++ steps 0 5 ++ [(0, .ret), (0, .invoke ⟨"enq", [6]⟩)] ++ steps 0 5 ++
  [(0, .ret), (0, .invoke ⟨"deq", []⟩), (1, .invoke ⟨"deq", []⟩)] ++ steps 0 4 ++ steps 1 6 ++ steps 0 7 ++
  [(1, .ret), (0, .ret)]

example : (Moir.model.run Moir.init raceSched).map (fun r => (r.2.drop 20)) =
    some [(1, .ev ⟨"ld", "head", "n0", ""⟩),
          (1, .ev ⟨"ld", "head", "n0", ""⟩),
          (1, .ev ⟨"ld", "n0", "n1", ""⟩),
          (1, .ev ⟨"ld", "n0", "n1", ""⟩),
          (1, .ev ⟨"cas+", "head", "n0", "n1"⟩),   -- thread 1 wins
          (1, .ev ⟨"ld", "tail", "n2", ""⟩),
          (0, .ev ⟨"cas-", "head", "n1", "n0"⟩),   -- T 0 A cas- head n1 n0   (seen n1, expected n0): restart
          (0, .ev ⟨"ld", "head", "n1", ""⟩),
          (0, .ev ⟨"ld", "head", "n1", ""⟩),
          (0, .ev ⟨"ld", "n1", "n2", ""⟩),
          (0, .ev ⟨"ld", "n1", "n2", ""⟩),
          (0, .ev ⟨"cas+", "head", "n1", "n2"⟩),
          (0, .ev ⟨"ld", "tail", "n2", ""⟩),
          (1, .ret [1, 5]),
          (0, .ret [1, 6])] := by decide

example : (Moir.model.run Moir.init raceSched).map (fun r => historyOf r.2) =
    some [⟨0, ⟨"enq", [5]⟩, [1], 0, 6⟩, ⟨0, ⟨"enq", [6]⟩, [1], 7, 13⟩,
          ⟨1, ⟨"deq", []⟩, [1, 5], 15, 33⟩, ⟨0, ⟨"deq", []⟩, [1, 6], 14, 34⟩] := by decide

example : linCheck fifo [⟨0, ⟨"enq", [5]⟩, [1], 0, 6⟩, ⟨0, ⟨"enq", [6]⟩, [1], 7, 13⟩,
    ⟨1, ⟨"deq", []⟩, [1, 5], 15, 33⟩, ⟨0, ⟨"deq", []⟩, [1, 6], 14, 34⟩] = true := by decide

/-- The empty dequeue is decided at the validating null load: no further step (contrast: MSQueue re-validates
    `m_pHead` and may have to withdraw). -/
example : (Moir.model.run Moir.init ([(0, .invoke ⟨"deq", []⟩)] ++ steps 0 4)).map (fun r => (r.2.drop 3, r.1.pc 0)) =
    some ([(0, .ev ⟨"ld", "n0", "null", ""⟩), (0, .ev ⟨"ld", "n0", "null", ""⟩)], .done [0]) := by decide

end CdsVerif.Props.C06Moir
