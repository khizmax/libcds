/-
  C10 / C06 / C09 / C11 (flat-combining variants) / C23 — a flat-combining container is LINEARIZABLE.

  `C10_fc_linearizable`: for EVERY deterministic sequential object `O` (state, `Spec`-style step function, interface), the
  flat-combining kernel machine with `O` as its container (`Algo/FC/KernelG.lean`: the kernel part is literally the machine
  `KernelR` that replays the real kernel's traces; `exec` = `fc_apply` applies `O.step` to the shared container under the
  lock and stores the result in the publication record; the operation returns the value read back from its record) is
  Herlihy–Wing linearizable with respect to `detSpec O.init O.step`: every run, every number of threads, compact factor,
  pass count, schedule, client program; operations pending at the end are completed if they have been executed and
  dropped otherwise (same form as C13_michael_linearizable / C16).  Linearization point: the `exec` step on the
  operation's record, performed by whichever thread is the combiner.

  Instances WITHOUT elimination (`enable_elimination = false`, the default of all four containers; FCPriorityQueue has no
  elimination at all): `O.step` := the step of the sequential specification in `Base/Spec.lean`:
      C06_fcqueue_linearizable   FCQueue          → Spec.fifo
      C09_fcstack_linearizable   FCStack          → Spec.lifo
      C10_fcdeque_linearizable   FCDeque          → Spec.deque
      C11_fcpq_linearizable      FCPriorityQueue  → Spec.maxpq 0   (fc_apply pops a maximal item: a deterministic refinement
                                                                    of the result-determined specification)
  That `fc_apply` of the real containers IS these step functions is the content of `C10_apply_is_spec`,
  `C06_fcqueue_apply_is_spec`, `C09_fcstack_apply_is_spec`, `C11_fcpq_apply_is_spec` (Props/C10.lean, Props/C23Batch.lean; tied to
  the code by `cdsdriver fcbatch`), and the generic machine is tied to the real kernel running a deque container by
  `cdsdriver replay fckernelg` (results included).

  NOT proved here (PARTIAL): the elimination variants (`batch_combine`: `fc_process` walks before `combining_pass`).
  What exists: `C10_session_refines` / `C10_batch_linearizable` and their queue / stack analogues — the pure batch function
  is a sequential execution of a permutation of the batch in which every collided pair is adjacent.  What is missing to
  compose them with the kernel: (1) a kernel machine with the `batch_combining` control flow (iterator walk skipping
  records with nRequest < req_Operation, `collide` = two `operation_done` stores, then `combining_pass`) and its invariant —
  `KInvR`'s clause "`execs j` goes 0 → 1 at the unique `exec` on record j" has to be restated for records answered by a
  collision; (2) in the ghost-log proof, a linearization point that is NOT the step that computes the result: the two
  operations of a collided pair must be logged together (push, then pop) at the moment of the collision, and for a
  cross-end deque pair / a queue pair this needs the additional invariant that the container is EMPTY at that moment and
  still empty when earlier-collided pairs were logged (the "collided pairs are no-ops on the container the combiner
  found" argument of `elimGo_spec`, lifted from a fixed batch to the concurrent list, where requests keep arriving
  during the walk).  No theorem about elimination under concurrency is claimed.
-/
import CdsVerif.Algo.FC.KernelGLin
import CdsVerif.Algo.FC.Objects
import CdsVerif.Base.SeqHistory

namespace CdsVerif.Props.C10FCLin
open CdsVerif.Machine CdsVerif.Spec CdsVerif.Lin CdsVerif.Algo.FC CdsVerif.Algo.FC.KernelG CdsVerif.Algo.FC.Log
open CdsVerif.Algo.FC.Kernel (Cfg)
open CdsVerif.Algo.FC.Objects

/-! ### The generic theorem -/

/-- **Flat combining is linearizable**, for every deterministic sequential object. -/
theorem C10_fc_linearizable {σ : Type} (O : Obj σ) (cfg : Cfg) (sched : List (Tid × Act)) (s : St σ)
    (os : List (Tid × Obs)) (h : (model O cfg).run (init O cfg) sched = some (s, os)) :
    ∃ extra : List (OpRec GOp GRet),
      (∀ e ∈ extra, pendingOf os e.tid = some (e.op, e.inv) ∧ e.res = os.length ∧
          lin s.k e.tid = true ∧ e.ret = s.resg e.tid) ∧
      extra.Pairwise (fun a b => a.tid ≠ b.tid) ∧
      Linearizable (detSpec O.init O.step) (historyOf os ++ extra) :=
  fc_linearizable O cfg sched s os h

/-- Runs in which every invoked operation has returned: the history is linearizable as it is. -/
theorem C10_fc_linearizable_complete_runs {σ : Type} (O : Obj σ) (cfg : Cfg) (sched : List (Tid × Act)) (s : St σ)
    (os : List (Tid × Obs)) (h : (model O cfg).run (init O cfg) sched = some (s, os)) (hq : ∀ t, s.k.pc t = .idle) :
    Linearizable (detSpec O.init O.step) (historyOf os) :=
  fc_linearizable_complete_runs O cfg sched s os h hq

/-- Runs at whose end no executed operation is still waiting to return. -/
theorem C10_fc_linearizable_no_effect_pending {σ : Type} (O : Obj σ) (cfg : Cfg) (sched : List (Tid × Act)) (s : St σ)
    (os : List (Tid × Obs)) (h : (model O cfg).run (init O cfg) sched = some (s, os)) (hq : ∀ t, lin s.k t = false) :
    Linearizable (detSpec O.init O.step) (historyOf os) :=
  fc_linearizable_no_effect_pending O cfg sched s os h hq

/-- `historyOf` is faithful: a record's `inv` / `res` are the positions of its CALL and RET observations. -/
theorem C10_fc_history_sound (os : List (Tid × Obs)) (r : OpRec GOp GRet) (h : r ∈ historyOf os) :
    os[r.inv]? = some (r.tid, .call r.op) ∧ os[r.res]? = some (r.tid, .ret r.ret) ∧ r.inv < r.res :=
  historyOf_sound os r h

/-- The kernel invariant `KInvR` (hence mutual exclusion of combiners, exactly-once, response-after-execution, no lost
    request: Props/C23KernelR.lean) holds of the kernel part of every reachable state, WHATEVER the container. -/
theorem C23_kernel_invariant_any_container {σ : Type} (O : Obj σ) (cfg : Cfg) (sched : List (Tid × Act)) (s : St σ)
    (os : List (Tid × Obs)) (h : (model O cfg).run (init O cfg) sched = some (s, os)) :
    KernelR.KInvR cfg s.k ∧
    (∀ t1 t2, KernelR.holds (s.k.pc t1) = true → KernelR.holds (s.k.pc t2) = true → t1 = t2) ∧
    (∀ r, s.k.execs r ≤ 1) ∧ (∀ t, s.k.pc t = .done → s.k.execs t = 1) := by
  have hi := kinvr_of_run h
  refine ⟨hi, fun t1 t2 h1 h2 => ?_, hi.le1, hi.fin⟩
  rw [hi.hold t1 h1, hi.hold t2 h2]

/-! ### The four containers, without elimination (objects: `Algo/FC/Objects.lean`) -/

/-- `pqStepD` is a deterministic refinement of the result-determined max-priority-queue specification. -/
theorem pqStepD_refines (s : List Int) (op : GOp) (r : GRet) (s' : List Int)
    (h : (detSpec [] pqStepD).next s op r = some s') : (maxpq 0).next s op r = some s' := by
  rw [SeqHistory.detSpec_next_iff] at h
  obtain ⟨n, a⟩ := op
  simp only [pqStepD] at h
  split at h
  · cases h
    simp [maxpq, pqNext]
  · -- `pop`: `max?` is `none` on the empty list only, and otherwise a member that no member exceeds
    cases hm : s.max? with
    | none =>
      rw [hm] at h
      cases h
      simp [maxpq, pqNext, List.max?_eq_none_iff.mp hm]
    | some m =>
      rw [hm] at h
      cases h
      have hmm := List.max?_eq_some_iff.mp hm
      have hall : ∀ w ∈ s, prioOf w ≤ prioOf m := fun w hw => Int.ediv_le_ediv (by decide) (hmm.2 w hw)
      simpa [maxpq, pqNext, hmm.1] using hall
  · cases h

/-- **FCQueue is linearizable** (to `Spec.fifo`), no elimination. -/
theorem C06_fcqueue_linearizable (cfg : Cfg) (sched : List (Tid × Act)) (s : St (List Int))
    (os : List (Tid × Obs)) (h : (model queueObj cfg).run (init queueObj cfg) sched = some (s, os)) :
    ∃ extra : List (OpRec GOp GRet),
      (∀ e ∈ extra, pendingOf os e.tid = some (e.op, e.inv) ∧ e.res = os.length ∧
          lin s.k e.tid = true ∧ e.ret = s.resg e.tid) ∧
      extra.Pairwise (fun a b => a.tid ≠ b.tid) ∧
      Linearizable fifo (historyOf os ++ extra) :=
  fc_linearizable queueObj cfg sched s os h

/-- **FCStack is linearizable** (to `Spec.lifo`), no elimination. -/
theorem C09_fcstack_linearizable (cfg : Cfg) (sched : List (Tid × Act)) (s : St (List Int))
    (os : List (Tid × Obs)) (h : (model stackObj cfg).run (init stackObj cfg) sched = some (s, os)) :
    ∃ extra : List (OpRec GOp GRet),
      (∀ e ∈ extra, pendingOf os e.tid = some (e.op, e.inv) ∧ e.res = os.length ∧
          lin s.k e.tid = true ∧ e.ret = s.resg e.tid) ∧
      extra.Pairwise (fun a b => a.tid ≠ b.tid) ∧
      Linearizable lifo (historyOf os ++ extra) :=
  fc_linearizable stackObj cfg sched s os h

/-- **FCDeque is linearizable** (to `Spec.deque`), no elimination. -/
theorem C10_fcdeque_linearizable (cfg : Cfg) (sched : List (Tid × Act)) (s : St (List Int))
    (os : List (Tid × Obs)) (h : (model dequeObj cfg).run (init dequeObj cfg) sched = some (s, os)) :
    ∃ extra : List (OpRec GOp GRet),
      (∀ e ∈ extra, pendingOf os e.tid = some (e.op, e.inv) ∧ e.res = os.length ∧
          lin s.k e.tid = true ∧ e.ret = s.resg e.tid) ∧
      extra.Pairwise (fun a b => a.tid ≠ b.tid) ∧
      Linearizable deque (historyOf os ++ extra) :=
  fc_linearizable dequeObj cfg sched s os h

/-- **FCPriorityQueue is linearizable** (to the unbounded max-priority queue `Spec.maxpq 0`). -/
theorem C11_fcpq_linearizable (cfg : Cfg) (sched : List (Tid × Act)) (s : St (List Int))
    (os : List (Tid × Obs)) (h : (model pqObj cfg).run (init pqObj cfg) sched = some (s, os)) :
    ∃ extra : List (OpRec GOp GRet),
      (∀ e ∈ extra, pendingOf os e.tid = some (e.op, e.inv) ∧ e.res = os.length ∧
          lin s.k e.tid = true ∧ e.ret = s.resg e.tid) ∧
      extra.Pairwise (fun a b => a.tid ≠ b.tid) ∧
      Linearizable (maxpq 0) (historyOf os ++ extra) := by
  obtain ⟨extra, h1, h2, h3⟩ := fc_linearizable pqObj cfg sched s os h
  exact ⟨extra, h1, h2, linearizable_mono (A := detSpec [] pqStepD) (B := maxpq 0) rfl pqStepD_refines _ h3⟩

/-- Complete runs of the four containers: the history itself is linearizable. -/
theorem C10_fcdeque_linearizable_complete_runs (cfg : Cfg) (sched : List (Tid × Act)) (s : St (List Int))
    (os : List (Tid × Obs)) (h : (model dequeObj cfg).run (init dequeObj cfg) sched = some (s, os))
    (hq : ∀ t, s.k.pc t = .idle) : Linearizable deque (historyOf os) :=
  fc_linearizable_complete_runs dequeObj cfg sched s os h hq

theorem C06_fcqueue_linearizable_complete_runs (cfg : Cfg) (sched : List (Tid × Act)) (s : St (List Int))
    (os : List (Tid × Obs)) (h : (model queueObj cfg).run (init queueObj cfg) sched = some (s, os))
    (hq : ∀ t, s.k.pc t = .idle) : Linearizable fifo (historyOf os) :=
  fc_linearizable_complete_runs queueObj cfg sched s os h hq

theorem C09_fcstack_linearizable_complete_runs (cfg : Cfg) (sched : List (Tid × Act)) (s : St (List Int))
    (os : List (Tid × Obs)) (h : (model stackObj cfg).run (init stackObj cfg) sched = some (s, os))
    (hq : ∀ t, s.k.pc t = .idle) : Linearizable lifo (historyOf os) :=
  fc_linearizable_complete_runs stackObj cfg sched s os h hq

theorem C11_fcpq_linearizable_complete_runs (cfg : Cfg) (sched : List (Tid × Act)) (s : St (List Int))
    (os : List (Tid × Obs)) (h : (model pqObj cfg).run (init pqObj cfg) sched = some (s, os))
    (hq : ∀ t, s.k.pc t = .idle) : Linearizable (maxpq 0) (historyOf os) :=
  linearizable_mono (A := detSpec [] pqStepD) (B := maxpq 0) rfl pqStepD_refines _
    (fc_linearizable_complete_runs pqObj cfg sched s os h hq)

/-! ### A real run, evaluated by the kernel (`decide`) -/

def st (t n : Nat) : List (Tid × Act) := List.replicate n (t, .step)

/-- The schedule of a REAL run of the kernel over a std::deque (harness `fckernel --container deque --seed 1 --threads 2 --ops 3`,
    case 0: two threads, three operations each, compact-factor mask 0, one pass). -/
def realDequeRun : List (Tid × Act) :=
  [(0, .invoke ⟨"pop_front", []⟩)] ++ st 0 2 ++ [(1, .invoke ⟨"push_front", [200]⟩)] ++ st 1 2 ++ st 0 6 ++ st 1 3 ++ st 0 23 ++
  st 1 1 ++ st 0 2 ++ [(0, .ret)] ++ [(0, .invoke ⟨"pop_back", []⟩)] ++ st 1 2 ++ [(1, .ret)] ++
  [(1, .invoke ⟨"push_front", [201]⟩)] ++ st 0 2 ++ st 1 1 ++ st 0 6 ++ st 1 2 ++ st 0 20 ++ st 1 2 ++ [(1, .ret)] ++
  [(1, .invoke ⟨"pop_back", []⟩)] ++ st 0 5 ++ [(0, .ret)] ++ [(0, .invoke ⟨"push_front", [102]⟩)] ++ st 0 13 ++ st 1 3 ++ st 0 8 ++
  st 1 2 ++ st 0 4 ++ st 1 6 ++ st 0 5 ++ st 1 3 ++ st 0 2 ++ [(0, .ret)] ++ st 1 31 ++ [(1, .ret)]

/-- Final container and the history (thread, operation, result, index of CALL, index of RET) of that run. -/
def realDequeOutcome : Option (List Int × List (Nat × String × GRet × Nat × Nat)) :=
  ((model dequeObj ⟨2, 0, 1⟩).run (init dequeObj ⟨2, 0, 1⟩) realDequeRun).map
    (fun r => (r.1.obj, (historyOf r.2).map (fun o => (o.tid, o.op.name, o.ret, o.inv, o.res))))

set_option synthInstance.maxSize 4000 in
/-- The machine accepts the schedule and computes the results the real run produced: thread 0's `pop_front`, invoked FIRST,
    returns the 200 that thread 1 pushed while it was pending (thread 0 is the combiner and serves r1 before r0:
    list order), etc. -/
example : realDequeOutcome = some ([],
    [(0, "pop_front", [1, 200], 0, 41), (1, "push_front", [1], 3, 45), (1, "push_front", [1], 46, 80),
     (0, "pop_back", [1, 201], 42, 87), (0, "push_front", [1], 88, 135), (1, "pop_back", [1, 102], 81, 167)]) := by
  decide +kernel

/-- … and the verified checker accepts this history (an instance of `C10_fcdeque_linearizable_complete_runs`). -/
example : (((model dequeObj ⟨2, 0, 1⟩).run (init dequeObj ⟨2, 0, 1⟩) realDequeRun).map
    (fun r => linCheck deque (historyOf r.2))) = some true := by decide +kernel

/-! ### Concrete runs of the queue and the stack instances (the hypotheses of `C06_fcqueue_linearizable` /
    `C09_fcstack_linearizable` are satisfiable by a run with a combiner serving ANOTHER thread and a failing operation) -/

/-- Two threads, three operations (kernel configuration ⟨2, 0, 1⟩ as above).  Thread 0 invokes `a`, thread 1 invokes `b`
    while `a` is pending; thread 0 becomes the combiner and executes BOTH requests (r1 before r0: list order); thread 0
    then invokes `c` and runs alone (it is the combiner of its own request). -/
def twoThreadRun (a b c : GOp) : List (Tid × Act) :=
  [(0, .invoke a)] ++ st 0 2 ++ [(1, .invoke b)] ++ st 1 2 ++ st 0 6 ++ st 1 3 ++ st 0 23 ++ st 1 1 ++ st 0 2 ++
  [(0, .ret)] ++ [(0, .invoke c)] ++ st 1 2 ++ [(1, .ret)] ++ st 0 32 ++ [(0, .ret)]

/-- Final container, the `exec` events (executing thread, record, result) and the history of a run. -/
def outcomeOf (O : Obj (List Int)) (sched : List (Tid × Act)) :
    Option (List Int × List (Tid × String × String) × List (Nat × String × GRet × Nat × Nat)) :=
  ((model O ⟨2, 0, 1⟩).run (init O ⟨2, 0, 1⟩) sched).map
    (fun r => (r.1.obj,
      r.2.filterMap (fun x => match x.2 with
        | .ev e => if e.kind = "exec" then some (x.1, e.loc, e.a) else none
        | _ => none),
      (historyOf r.2).map (fun o => (o.tid, o.op.name, o.ret, o.inv, o.res))))

def queueRun : List (Tid × Act) := twoThreadRun ⟨"deq", []⟩ ⟨"enq", [200]⟩ ⟨"deq", []⟩
def stackRun : List (Tid × Act) := twoThreadRun ⟨"pop", []⟩ ⟨"push", [200]⟩ ⟨"pop", []⟩

set_option synthInstance.maxSize 4000 in
/-- FCQueue: thread 0's `deq`, invoked FIRST, returns the 200 that thread 1 enqueued while it was pending: thread 0, the
    combiner, executes thread 1's `enq` (`exec r1`, by thread 0) before its own request; thread 0's second `deq` finds the
    queue empty and fails. -/
example : outcomeOf queueObj queueRun = some ([],
    [(0, "r1", "1"), (0, "r0", "1,200"), (0, "r0", "0")],
    [(0, "deq", [1, 200], 0, 41), (1, "enq", [1], 3, 45), (0, "deq", [0], 42, 78)]) := by
  decide +kernel

/-- The verified checker accepts the history of that run (and it is not trivially satisfied: the same history with a
    `deq` that returned 201, a value nobody enqueued, is rejected). -/
example : (((model queueObj ⟨2, 0, 1⟩).run (init queueObj ⟨2, 0, 1⟩) queueRun).map
    (fun r => linCheck fifo (historyOf r.2))) = some true ∧
    linCheck fifo [⟨0, ⟨"deq", []⟩, [1, 201], 0, 41⟩, ⟨1, ⟨"enq", [200]⟩, [1], 3, 45⟩, ⟨0, ⟨"deq", []⟩, [0], 42, 78⟩] = false := by
  decide +kernel

/-- `C06_fcqueue_linearizable` applied to that run: no hypothesis is left. -/
example : ∃ s os, (model queueObj ⟨2, 0, 1⟩).run (init queueObj ⟨2, 0, 1⟩) queueRun = some (s, os) ∧
    ∃ extra : List (OpRec GOp GRet),
      (∀ e ∈ extra, pendingOf os e.tid = some (e.op, e.inv) ∧ e.res = os.length ∧
          lin s.k e.tid = true ∧ e.ret = s.resg e.tid) ∧
      extra.Pairwise (fun a b => a.tid ≠ b.tid) ∧
      Linearizable fifo (historyOf os ++ extra) := by
  have h : ((model queueObj ⟨2, 0, 1⟩).run (init queueObj ⟨2, 0, 1⟩) queueRun).isSome = true := by decide +kernel
  obtain ⟨⟨s, os⟩, hr⟩ := Option.isSome_iff_exists.mp h
  exact ⟨s, os, hr, C06_fcqueue_linearizable _ _ s os hr⟩

set_option synthInstance.maxSize 4000 in
/-- FCStack: the same schedule; thread 0's `pop`, invoked first, returns the 200 pushed by thread 1 (executed by the
    combiner, thread 0); the second `pop` fails on the empty stack. -/
example : outcomeOf stackObj stackRun = some ([],
    [(0, "r1", "1"), (0, "r0", "1,200"), (0, "r0", "0")],
    [(0, "pop", [1, 200], 0, 41), (1, "push", [1], 3, 45), (0, "pop", [0], 42, 78)]) := by
  decide +kernel

example : (((model stackObj ⟨2, 0, 1⟩).run (init stackObj ⟨2, 0, 1⟩) stackRun).map
    (fun r => linCheck lifo (historyOf r.2))) = some true := by decide +kernel

/-- `C09_fcstack_linearizable` applied to that run. -/
example : ∃ s os, (model stackObj ⟨2, 0, 1⟩).run (init stackObj ⟨2, 0, 1⟩) stackRun = some (s, os) ∧
    ∃ extra : List (OpRec GOp GRet),
      (∀ e ∈ extra, pendingOf os e.tid = some (e.op, e.inv) ∧ e.res = os.length ∧
          lin s.k e.tid = true ∧ e.ret = s.resg e.tid) ∧
      extra.Pairwise (fun a b => a.tid ≠ b.tid) ∧
      Linearizable lifo (historyOf os ++ extra) := by
  have h : ((model stackObj ⟨2, 0, 1⟩).run (init stackObj ⟨2, 0, 1⟩) stackRun).isSome = true := by decide +kernel
  obtain ⟨⟨s, os⟩, hr⟩ := Option.isSome_iff_exists.mp h
  exact ⟨s, os, hr, C09_fcstack_linearizable _ _ s os hr⟩

set_option synthInstance.maxSize 4000 in
/-- A run that stops while thread 1's `enq` has been executed by the combiner but has not returned: the `extra` of the
    theorem is not empty in general (`lin` holds of thread 1, `historyOf` has only thread 0's `deq`). -/
example : (((model queueObj ⟨2, 0, 1⟩).run (init queueObj ⟨2, 0, 1⟩) (queueRun.take 45)).map
    (fun r => (lin r.1.k 1, r.1.resg 1, (historyOf r.2).map (fun o => (o.tid, o.op.name, o.ret)), pendingOf r.2 1))) =
    some (true, [1], [(0, "deq", [1, 200])], some (⟨"enq", [200]⟩, 3)) := by decide +kernel

end CdsVerif.Props.C10FCLin
