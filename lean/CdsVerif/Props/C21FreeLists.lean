/-
  C21 — the lock-free free lists behave as a concurrent bag, stated as INVARIANTS (no `Linearizable (bag …)` theorem is
  proved; histories are judged against the bag specification by tie H): a node obtained by get() is not returned by another
  get() until it has been put() back, and once all threads are quiescent every node that was put and not taken out
  can be obtained again.
  Property theorems only; the models, the invariants and the proofs live in
  `Algo/TaggedFreeList/{Model,Inv}.lean` (cds::intrusive::TaggedFreeList) and
  `Algo/FreeList/{Model,Inv}.lean` (cds::intrusive::FreeList).

  All theorems quantify over EVERY schedule: any number of threads, any client program of `put` / `get` obeying the
  discipline "a thread only puts a node it owns", any interleaving of the atomic steps, any initial distribution
  `own0` of the nodes over the threads.  Nodes are never allocated or freed: they are REUSED, so a thread may hold
  a stale pointer to a node that has meanwhile been taken and put back by others (ABA); the tag (TaggedFreeList)
  and the reference count (FreeList) are what makes this harmless, and the proofs show it.

  Model assumptions (stated in the model files): sequentially consistent atomics; the tag does not wrap around;
  the 31-bit reference count does not overflow; `compare_exchange_weak` does not fail spuriously.
  NOT covered here: `CachedFreeList` (an array of single-node cache cells in front of one of the two lists) has no
  model; for it C21 rests on the harness oracles only.
-/
import CdsVerif.Algo.TaggedFreeList.Inv
import CdsVerif.Algo.FreeList.Inv
namespace CdsVerif.Props.C21FreeLists
open CdsVerif.Machine CdsVerif.Lin CdsVerif.Spec CdsVerif.Algo

/-! ## TaggedFreeList -/

/-- No double hand-out.  In every reachable state a node has at most one owner.  `get` fixes its result `[1, v]`
    only at a successful CAS on the head, `v` is the node `p` the CAS expected, and at that instant `p` is the
    FIRST node of the chain, is owned by nobody and is not in the hands of a `put` in progress; the CAS writes
    `p`'s CURRENT successor, so that the new chain is the old one without `p`; the getter then owns `p`. -/
theorem C21_tagged_no_double_handout (own0 : Nat → Tid) (s : TaggedFreeList.St)
    (hreach : TaggedFreeList.model.Reachable (TaggedFreeList.init own0) s) :
    (∀ n t1 t2, s.owns t1 n = true → s.owns t2 n = true → t1 = t2) ∧
    (∀ t s' ev v, TaggedFreeList.step s t = some (s', ev) → s'.pc t = .done [1, v] →
      ∃ (p g : Nat) (nx : Option Nat) (l : List Nat), v = (p : Int) ∧ s.pc t = .getCas p g nx ∧
        ev = ⟨"cas+", "head", TaggedFreeList.hval (some p) g, TaggedFreeList.hval nx (g + 1)⟩ ∧
        TaggedFreeList.Chain s.next s.head.1 (p :: l) ∧ s.next p = nx ∧
        (∀ t2, s.owns t2 p = false) ∧ (∀ t2, TaggedFreeList.putNode (s.pc t2) ≠ some p) ∧
        TaggedFreeList.Chain s'.next s'.head.1 l ∧ s'.owns t p = true) := by
  have hinv := TaggedFreeList.tinv_reachable own0 s hreach
  refine ⟨?_, ?_⟩
  · obtain ⟨l, w, hl⟩ := hinv
    exact fun n t1 t2 => hl.own1 t1 t2 n
  · intro t s' ev v hs hpost
    have hpre : s.pc t ≠ .done [1, v] := fun e => by simp [TaggedFreeList.step, e] at hs
    obtain ⟨p, g, nx, hpc, hv, hev⟩ := TaggedFreeList.get_result_only_by_cas hs hpre hpost
    obtain ⟨l, hch, hfree, hnx, hch', hown, -, -⟩ :=
      TaggedFreeList.get_cas_success hinv hpc hs (by rw [hev]; rfl)
    exact ⟨p, g, nx, l, hv, hpc, hev, hch, hnx, hfree.1, hfree.2, hch', hown⟩

/-- Conservation.  In every reachable state the chain from the head is finite and duplicate-free, and every node
    is in exactly one place: on the chain (then nobody owns it and no `put` holds it), owned by exactly one thread
    (then it is not on the chain and no `put` holds it), or held by exactly one `put` in progress (then it is not on
    the chain and nobody owns it). -/
theorem C21_tagged_conservation (own0 : Nat → Tid) (s : TaggedFreeList.St)
    (hreach : TaggedFreeList.model.Reachable (TaggedFreeList.init own0) s) :
    ∃ l, TaggedFreeList.Chain s.next s.head.1 l ∧ l.Nodup ∧ ∀ n,
      (n ∈ l ∧ (∀ t, s.owns t n = false) ∧ (∀ t, TaggedFreeList.putNode (s.pc t) ≠ some n)) ∨
      (n ∉ l ∧ (∃ t, s.owns t n = true ∧ ∀ t2, s.owns t2 n = true → t2 = t) ∧
        (∀ t, TaggedFreeList.putNode (s.pc t) ≠ some n)) ∨
      (n ∉ l ∧ (∀ t, s.owns t n = false) ∧
        (∃ t, TaggedFreeList.putNode (s.pc t) = some n ∧ ∀ t2, TaggedFreeList.putNode (s.pc t2) = some n → t2 = t)) := by
  obtain ⟨l, w, hl⟩ := TaggedFreeList.tinv_reachable own0 s hreach
  refine ⟨l, hl.chain, hl.nodup, fun n => ?_⟩
  by_cases hn : n ∈ l
  · exact Or.inl ⟨hn, fun t => hl.memOwn n t hn, fun t => hl.memPut n t hn⟩
  · rcases hl.held n hn with h1 | h1
    · refine Or.inr (Or.inl ⟨hn, ⟨w n, h1, fun t2 h2 => hl.own1 _ _ _ h2 h1⟩, fun t hp => ?_⟩)
      have := hl.putown t n (w n) hp
      rw [h1] at this; cases this
    · exact Or.inr (Or.inr ⟨hn, fun t => hl.putown _ n t h1, w n, h1, fun t2 h2 => hl.putuniq _ _ _ h2 h1⟩)

/-- Quiescent completeness.  In a reachable state in which no operation is in progress, the chain from the head
    consists EXACTLY of the nodes owned by nobody (as sets; the chain is duplicate-free), and draining it works: if
    an idle thread `t` then calls `get()` repeatedly, running alone, the first `l.length` calls return the nodes of
    the chain, every one of them, and the next call returns "empty".  (`drain` does not need quiescence of the other
    threads, only that they do not move.) -/
theorem C21_tagged_quiescent_complete (own0 : Nat → Tid) (s : TaggedFreeList.St)
    (hreach : TaggedFreeList.model.Reachable (TaggedFreeList.init own0) s) (hq : ∀ t, s.pc t = .idle) :
    ∃ l, TaggedFreeList.Chain s.next s.head.1 l ∧ l.Nodup ∧ (∀ n, n ∈ l ↔ ∀ t, s.owns t n = false) ∧
      ∀ t, ∃ s' os, TaggedFreeList.model.run s (TaggedFreeList.drainSched t l.length) = some (s', os) ∧
        TaggedFreeList.retsOf os = l.map (fun (a : Nat) => ([1, (a : Int)] : GRet)) ++ [[0]] ∧
        (∀ a ∈ l, s'.owns t a = true) := by
  obtain ⟨l, hch, hnd, hmem⟩ := TaggedFreeList.quiescent_chain (TaggedFreeList.tinv_reachable own0 s hreach) hq
  refine ⟨l, hch, hnd, hmem, fun t => ?_⟩
  obtain ⟨s', os, hrun, hret, -, hown, -⟩ := TaggedFreeList.drain t l s (hq t) hch
  exact ⟨s', os, hrun, hret, hown⟩

/-- A single `get()` running alone from a state whose chain is `a :: l` returns `[1, a]`: the complete trace. -/
theorem C21_tagged_get_returns_first (s : TaggedFreeList.St) (t : Tid) (a : Nat) (l : List Nat)
    (hidle : s.pc t = .idle) (hch : TaggedFreeList.Chain s.next s.head.1 (a :: l)) :
    ∃ s', TaggedFreeList.model.run s (TaggedFreeList.getSched t) = some (s',
        [(t, .call ⟨"get", [(t : Int)]⟩),
         (t, .ev ⟨"ld", "head", TaggedFreeList.hval (some a) s.head.2, ""⟩),
         (t, .ev ⟨"ld", TaggedFreeList.nloc a, TaggedFreeList.ptr (s.next a), ""⟩),
         (t, .ev ⟨"cas+", "head", TaggedFreeList.hval (some a) s.head.2, TaggedFreeList.hval (s.next a) (s.head.2 + 1)⟩),
         (t, .ret [1, (a : Int)])]) ∧
      TaggedFreeList.Chain s'.next s'.head.1 l ∧ s'.owns t a = true := by
  simp only [TaggedFreeList.Chain] at hch
  refine ⟨_, TaggedFreeList.get_seq_run s t a hidle hch.1, hch.2, by simp [upd2]⟩

/-- THE TAG LEMMA.  Take any segment of any run, from a state `s` (think: the instant a thread loads
    `m_Head = (p, g)`) to a state `s'` (think: the instant of the thread's CAS expecting `(p, g)`).  The tag advances
    by exactly the number of successful CAS operations on the head in the segment.  Hence, if the CAS finds the tag
    it expects, NO successful CAS on the head happened in between (by anybody), and the head pointer is unchanged
    too: a successful CAS means "unchanged since the load", never "changed and changed back" (no ABA). -/
theorem C21_tagged_cas_means_unchanged (sched : List (Tid × Act)) (s s' : TaggedFreeList.St) (os : List (Tid × Obs))
    (hrun : TaggedFreeList.model.run s sched = some (s', os)) :
    s'.head.2 = s.head.2 + TaggedFreeList.casCount os ∧
    (s'.head.2 = s.head.2 →
      (∀ x ∈ os, ∀ e, x.2 = .ev e → ¬(e.kind = "cas+" ∧ e.loc = "head")) ∧ s'.head = s.head) := by
  refine ⟨(TaggedFreeList.run_tag sched s s' os hrun).1, fun htag => ?_⟩
  obtain ⟨h1, h2⟩ := TaggedFreeList.tag_equal_means_unchanged hrun htag
  refine ⟨fun x hx e he => ?_, h2⟩
  have := h1 x hx
  rw [he] at this
  simpa [TaggedFreeList.isHeadCasOk, TaggedFreeList.headLoc] using this

/-- The tag lemma as a state invariant.  In every reachable state, a thread that is about to execute its CAS with
    the snapshot `(p, g)` (`get`) resp. `(hp, hg)` (`put`) holds a tag that is at most the current tag; and if it is
    EQUAL to the current tag — the CAS is going to succeed — then the head pointer is the snapshot's pointer and,
    for `get`, the successor `nx` the thread has read from `p` is `p`'s current successor. -/
theorem C21_tagged_snapshot (own0 : Nat → Tid) (s : TaggedFreeList.St)
    (hreach : TaggedFreeList.model.Reachable (TaggedFreeList.init own0) s) :
    (∀ t p g nx, s.pc t = .getCas p g nx → g ≤ s.head.2 ∧ (g = s.head.2 → s.head.1 = some p ∧ s.next p = nx)) ∧
    (∀ t n hp hg, s.pc t = .putCas n hp hg → hg ≤ s.head.2 ∧ (hg = s.head.2 → s.head.1 = hp ∧ s.next n = hp)) := by
  obtain ⟨l, w, hl⟩ := TaggedFreeList.tinv_reachable own0 s hreach
  refine ⟨fun t p g nx hpc => ?_, fun t n hp hg hpc => ?_⟩
  · obtain ⟨h1, h2⟩ := hl.snapGetCas t p g nx hpc
    exact ⟨h1, fun hg => ⟨h2 hg, hl.key t p g nx hpc (h2 hg) hg.symm⟩⟩
  · obtain ⟨h1, h2⟩ := hl.snapPutCas t n hp hg hpc
    exact ⟨h1, fun hg' => ⟨h2 hg', hl.linked t n hp hg hpc⟩⟩

/-! ### Evaluated schedules (TaggedFreeList) -/

/-- The classic ABA schedule.  Thread 0 owns all nodes and puts n2, then n1: the list is n1 → n2, head = n1#2.
    Thread 1 (A) starts a `get`: loads head = n1#2 and n1.next = n2.  Thread 2 (B) gets n1, gets n2, and puts n1
    back: the list is n1 alone, head = n1#5, and n2 is OWNED by B.  A's CAS expects n1#2: the pointer matches, the
    tag does not, the CAS FAILS (an untagged CAS would succeed here and make n2 — owned by B — the head).  A goes
    round the loop with the value its CAS has seen (n1#5), reads n1.next = null, and takes n1. -/
def abaSched : List (Tid × Act) :=
  [(0, .invoke ⟨"put", [0, 2]⟩), (0, .step), (0, .step), (0, .step), (0, .ret),
   (0, .invoke ⟨"put", [0, 1]⟩), (0, .step), (0, .step), (0, .step), (0, .ret),
   (1, .invoke ⟨"get", [1]⟩), (1, .step), (1, .step),
   (2, .invoke ⟨"get", [2]⟩), (2, .step), (2, .step), (2, .step), (2, .ret),
   (2, .invoke ⟨"get", [2]⟩), (2, .step), (2, .step), (2, .step), (2, .ret),
   (2, .invoke ⟨"put", [2, 1]⟩), (2, .step), (2, .step), (2, .step), (2, .ret),
   (1, .step), (1, .step), (1, .step), (1, .ret)]

def abaObs : List (Tid × Obs) :=
  [(0, .call ⟨"put", [0, 2]⟩),                     -- T 0 C put [0, 2]
   (0, .ev ⟨"ld", "head", "null#0", ""⟩),          -- T 0 A ld head null#0
   (0, .ev ⟨"st", "n2", "null", ""⟩),              -- T 0 A st n2 null
   (0, .ev ⟨"cas+", "head", "null#0", "n2#1"⟩),    -- T 0 A cas+ head null#0 n2#1
   (0, .ret [1]),
   (0, .call ⟨"put", [0, 1]⟩),                     -- T 0 C put [0, 1]
   (0, .ev ⟨"ld", "head", "n2#1", ""⟩),            -- T 0 A ld head n2#1
   (0, .ev ⟨"st", "n1", "n2", ""⟩),                -- T 0 A st n1 n2
   (0, .ev ⟨"cas+", "head", "n2#1", "n1#2"⟩),      -- T 0 A cas+ head n2#1 n1#2
   (0, .ret [1]),
   (1, .call ⟨"get", [1]⟩),                        -- T 1 C get [1]
   (1, .ev ⟨"ld", "head", "n1#2", ""⟩),            -- T 1 A ld head n1#2          A's snapshot: (n1, 2)
   (1, .ev ⟨"ld", "n1", "n2", ""⟩),                -- T 1 A ld n1 n2              A's successor: n2
   (2, .call ⟨"get", [2]⟩),
   (2, .ev ⟨"ld", "head", "n1#2", ""⟩),
   (2, .ev ⟨"ld", "n1", "n2", ""⟩),
   (2, .ev ⟨"cas+", "head", "n1#2", "n2#3"⟩),      -- T 2 A cas+ head n1#2 n2#3   B takes n1
   (2, .ret [1, 1]),
   (2, .call ⟨"get", [2]⟩),
   (2, .ev ⟨"ld", "head", "n2#3", ""⟩),
   (2, .ev ⟨"ld", "n2", "null", ""⟩),
   (2, .ev ⟨"cas+", "head", "n2#3", "null#4"⟩),    -- T 2 A cas+ head n2#3 null#4 B takes n2
   (2, .ret [1, 2]),
   (2, .call ⟨"put", [2, 1]⟩),
   (2, .ev ⟨"ld", "head", "null#4", ""⟩),
   (2, .ev ⟨"st", "n1", "null", ""⟩),              -- T 2 A st n1 null            n1's successor is no longer n2
   (2, .ev ⟨"cas+", "head", "null#4", "n1#5"⟩),    -- T 2 A cas+ head null#4 n1#5 B puts n1 back
   (2, .ret [1]),
   (1, .ev ⟨"cas-", "head", "n1#5", "n1#2"⟩),      -- T 1 A cas- head n1#5 n1#2   A's CAS: same pointer, other tag: FAILS
   (1, .ev ⟨"ld", "n1", "null", ""⟩),              -- T 1 A ld n1 null
   (1, .ev ⟨"cas+", "head", "n1#5", "null#6"⟩),    -- T 1 A cas+ head n1#5 null#6
   (1, .ret [1, 1])]

example : ((TaggedFreeList.model.run (TaggedFreeList.init (fun _ => 0)) abaSched).map (·.2)) = some abaObs := by
  decide +kernel

/-- At the end of the ABA schedule: the list is empty, n1 is owned by thread 1 only, n2 by thread 2 only. -/
example : ((TaggedFreeList.model.run (TaggedFreeList.init (fun _ => 0)) abaSched).map
    (fun r => (r.1.head, TaggedFreeList.walk r.1.next 8 r.1.head.1,
      [r.1.owns 0 1, r.1.owns 1 1, r.1.owns 2 1], [r.1.owns 0 2, r.1.owns 1 2, r.1.owns 2 2]))) =
    some ((none, 6), [], [false, true, false], [false, false, true]) := by decide +kernel

/-- The discipline is enforced: a thread cannot put a node it does not own. -/
example : TaggedFreeList.model.run (TaggedFreeList.init (fun _ => 0)) [(1, .invoke ⟨"put", [1, 1]⟩)] = none := by
  decide +kernel

/-! ## FreeList (reference-counted) -/

/-- No double hand-out.  In every reachable state a node has at most one owner.  `get` fixes its result `[1, v]`
    only at its `fetch_sub( 2 )` on the node `h = v` it has unlinked; at that instant nobody owns `h`, the word is in
    the shape the code asserts (bit clear, count ≥ 2), and the getter then owns `h`.  A thread is about to execute
    that `fetch_sub( 2 )` only after its successful CAS on the head expecting `h`; at that CAS `h` is the FIRST node
    of the chain, is owned by nobody and is in no operation's hands, and the value written to the head is `h`'s
    CURRENT successor, so that the new chain is the old one without `h`. -/
theorem C21_freelist_no_double_handout (own0 : Nat → Tid) (s : FreeList.St)
    (hreach : FreeList.model.Reachable (FreeList.init own0) s) :
    (∀ n t1 t2, s.owns t1 n = true → s.owns t2 n = true → t1 = t2) ∧
    (∀ t s' ev v, FreeList.step s t = some (s', ev) → s'.pc t = .done [1, v] →
      ∃ h : Nat, v = (h : Int) ∧ s.pc t = .getSub2 h ∧ (∀ t2, s.owns t2 h = false) ∧
        s.shouldBeOn h = false ∧ 2 ≤ s.refs h ∧ s'.owns t h = true ∧
        ev = ⟨"sub", FreeList.rloc h, FreeList.word (s.refs h) false, "2"⟩) ∧
    (∀ t s' ev h, FreeList.step s t = some (s', ev) → s'.pc t = .getSub2 h →
      ∃ nx l, s.pc t = .getCas h nx ∧ ev = ⟨"cas+", "head", FreeList.ptr (some h), FreeList.ptr nx⟩ ∧
        FreeList.Chain s.next s.head (h :: l) ∧ s.next h = nx ∧ (∀ t2, s.owns t2 h = false) ∧
        (∀ t2, FreeList.handNode (s.pc t2) ≠ some h) ∧ s.shouldBeOn h = false ∧
        FreeList.Chain s'.next s'.head l) := by
  have hinv := FreeList.finv_reachable own0 s hreach
  refine ⟨?_, ?_, ?_⟩
  · obtain ⟨l, K, H, hl⟩ := hinv
    exact fun n t1 t2 h1 h2 => hl.own1 h1 h2
  · intro t s' ev v hs hpost
    exact FreeList.get_result_only_by_sub2 hinv hs hpost
  · intro t s' ev h hs hpost
    exact FreeList.get_cas_success hinv hs hpost

/-- Conservation.  In every reachable state the chain from the head is finite and duplicate-free, and every node
    is in exactly one of four places:
    on the chain (nobody owns it, no operation has it in its hands, its bit is clear and its count is ≥ 1);
    owned by exactly one thread (not on the chain, in no operation's hands, bit clear);
    in the hands of exactly one operation in progress - a `put` before its `fetch_add`, an
      `add_knowing_refcount_is_zero`, a `get` between its successful CAS and its `fetch_sub( 2 )` - (not on the chain,
      owned by nobody; if the bit is set the count is 0);
    or WAITING: not on the chain, owned by nobody, in nobody's hands, bit SHOULD_BE_ON_FREELIST set and count ≥ 1, and
      then some getter holds a counted reference to it (the last such getter to drop its reference will see
      `c_ShouldBeOnFreeList + 1` and link the node: the deferred insertion of a `put` that has already returned).
    The four cases are mutually exclusive by what they say about chain membership, owners, hands, bit and count. -/
theorem C21_freelist_conservation (own0 : Nat → Tid) (s : FreeList.St)
    (hreach : FreeList.model.Reachable (FreeList.init own0) s) :
    ∃ l, FreeList.Chain s.next s.head l ∧ l.Nodup ∧
      (∀ n t1 t2, FreeList.handNode (s.pc t1) = some n → FreeList.handNode (s.pc t2) = some n → t1 = t2) ∧
      ∀ n,
      (n ∈ l ∧ (∀ t, s.owns t n = false) ∧ (∀ t, FreeList.handNode (s.pc t) ≠ some n) ∧
        s.shouldBeOn n = false ∧ 1 ≤ s.refs n) ∨
      (n ∉ l ∧ (∃ t, s.owns t n = true ∧ ∀ t2, s.owns t2 n = true → t2 = t) ∧
        (∀ t, FreeList.handNode (s.pc t) ≠ some n) ∧ s.shouldBeOn n = false) ∨
      (n ∉ l ∧ (∀ t, s.owns t n = false) ∧ (∃ t, FreeList.handNode (s.pc t) = some n) ∧
        (s.shouldBeOn n = true → s.refs n = 0)) ∨
      (n ∉ l ∧ (∀ t, s.owns t n = false) ∧ (∀ t, FreeList.handNode (s.pc t) ≠ some n) ∧
        s.shouldBeOn n = true ∧ 1 ≤ s.refs n ∧ ∃ t, FreeList.holdNode (s.pc t) = some n) := by
  obtain ⟨l, K, H, hl⟩ := FreeList.finv_reachable own0 s hreach
  refine ⟨l, hl.chain, hl.nodup, fun n t1 t2 h1 h2 => hl.hand1 h1 h2, fun n => ?_⟩
  rcases hl.place n with h1 | ⟨h2, ⟨t, ht⟩, h3, h4⟩ | h3 | h4
  · exact Or.inl h1
  · exact Or.inr (Or.inl ⟨h2, ⟨t, ht, fun t2 h => hl.own1 h ht⟩, h3, h4⟩)
  · exact Or.inr (Or.inr (Or.inl h3))
  · exact Or.inr (Or.inr (Or.inr h4))

/-- Quiescent completeness.  In a reachable state in which no operation is in progress, no node is waiting or in
    anybody's hands: the chain from the head consists EXACTLY of the nodes owned by nobody (as sets; the chain is
    duplicate-free), every node of the chain has `m_freeListRefs = 1` and every other node `m_freeListRefs = 0`; and
    draining works: `l.length` successive `get()` calls of a thread `t` return the nodes of the chain, every one of
    them, and the next call returns "empty". -/
theorem C21_freelist_quiescent_complete (own0 : Nat → Tid) (s : FreeList.St)
    (hreach : FreeList.model.Reachable (FreeList.init own0) s) (hq : ∀ t, s.pc t = .idle) :
    ∃ l, FreeList.Chain s.next s.head l ∧ l.Nodup ∧ (∀ n, n ∈ l ↔ ∀ t, s.owns t n = false) ∧
      (∀ n ∈ l, s.refs n = 1 ∧ s.shouldBeOn n = false) ∧ (∀ n, n ∉ l → s.refs n = 0 ∧ s.shouldBeOn n = false) ∧
      ∀ t, ∃ s' os, FreeList.model.run s (FreeList.drainSched t l.length) = some (s', os) ∧
        FreeList.retsOf os = l.map (fun (a : Nat) => ([1, (a : Int)] : GRet)) ++ [[0]] ∧
        (∀ a ∈ l, s'.owns t a = true) := by
  have hinv := FreeList.finv_reachable own0 s hreach
  obtain ⟨l, hch, hnd, hmem, hon, hoff⟩ := FreeList.quiescent_chain hinv hq
  refine ⟨l, hch, hnd, hmem, hon, hoff, fun t => ?_⟩
  obtain ⟨s', os, hrun, hret, -, hown, -⟩ := FreeList.drain t l s hinv hq hch
  exact ⟨s', os, hrun, hret, hown⟩

/-- THE REFERENCE-COUNT LEMMA (the counterpart of the tag lemma).  In every reachable state, for a getter that
    holds a counted reference on node `h`, has read `nx` from `h`'s `m_freeListNext` and is about to CAS the head
    from `h` to `nx`: the count of `h` is ≥ 1; no thread is inside `add_knowing_refcount_is_zero( h )` before its
    `store( 1 )` - the only code that writes `h`'s `m_freeListNext` and it requires the count to be 0 -, so `nx` IS
    `h`'s current successor, whatever happened to `h` since the getter loaded the head (`h` may have been taken, be
    owned by a client, have been put back: ABA); and if the CAS is going to succeed (`m_Head == h`) then `h` is the
    first node of the chain. -/
theorem C21_freelist_ref_means_unchanged (own0 : Nat → Tid) (s : FreeList.St)
    (hreach : FreeList.model.Reachable (FreeList.init own0) s) (t : Tid) (h : Nat) (nx : Option Nat)
    (hpc : s.pc t = .getCas h nx) :
    s.next h = nx ∧ 1 ≤ s.refs h ∧ (∀ t2, FreeList.zeroNode (s.pc t2) ≠ some h) ∧
    (s.head = some h → ∃ l, FreeList.Chain s.next s.head (h :: l)) := by
  obtain ⟨l, K, H, hl⟩ := FreeList.finv_reachable own0 s hreach
  obtain ⟨h1, h2, h3, h4⟩ := hl.ref_protects hpc
  refine ⟨h1, h2, h3, fun hh => ?_⟩
  obtain ⟨l0, rfl⟩ := h4 hh
  exact ⟨l0, hl.chain⟩

/-- No borrow.  The model computes `fetch_add` / `fetch_sub` on `m_freeListRefs` modulo 2^32; in every reachable
    state the word has the shape the code relies on: `put`'s `fetch_add( c_ShouldBeOnFreeList )` finds the bit clear;
    the `fetch_add( c_ShouldBeOnFreeList - 1 )` after a failed CAS finds the bit clear and the count ≥ 1; the
    `fetch_sub( 2 )` finds the bit clear (the `assert` in `get`) and the count ≥ 2; the `fetch_sub( 1 )` finds the
    count ≥ 1. -/
theorem C21_freelist_no_borrow (own0 : Nat → Tid) (s : FreeList.St)
    (hreach : FreeList.model.Reachable (FreeList.init own0) s) :
    (∀ t n, s.pc t = .putAdd n → s.shouldBeOn n = false) ∧
    (∀ t n hd k, s.pc t = .addFix n hd k → s.shouldBeOn n = false ∧ 1 ≤ s.refs n) ∧
    (∀ t h, s.pc t = .getSub2 h → s.shouldBeOn h = false ∧ 2 ≤ s.refs h) ∧
    (∀ t h hd, s.pc t = .getDec h hd → 1 ≤ s.refs h) := by
  obtain ⟨l, K, H, hl⟩ := FreeList.finv_reachable own0 s hreach
  exact hl.no_borrow

/-! ### Evaluated schedule (FreeList) -/

/-- A node is put back while a getter holds a reference, and the getter re-adds it.  Thread 0 puts n1 (list: n1,
    word 1).  Thread 1 (G) starts a `get`: loads head = n1, takes a reference (word 2).  Thread 2 gets n1 completely
    (word 3, head := null, `fetch_sub 2`: word 1 = G's reference) and puts it back: its `fetch_add` finds the count 1,
    not 0, so `put` RETURNS without linking the node (word 2147483649: bit set, count 1; the node is "waiting").
    G reads n1.next, its CAS on the head fails (head is null), its `fetch_sub 1` returns 2147483649 =
    c_ShouldBeOnFreeList + 1: G runs `add_knowing_refcount_is_zero( n1 )` and links n1.  G's loop then goes on
    with the value its failed CAS saw (null) and G returns "empty" although it has just linked n1 (documented quirk
    of the code, see harness/clients/freelist.cpp).  Thread 3 then gets n1. -/
def readdSched : List (Tid × Act) :=
  [(0, .invoke ⟨"put", [0, 1]⟩), (0, .step), (0, .step), (0, .step), (0, .step), (0, .step), (0, .ret),
   (1, .invoke ⟨"get", [1]⟩), (1, .step), (1, .step), (1, .step),
   (2, .invoke ⟨"get", [2]⟩), (2, .step), (2, .step), (2, .step), (2, .step), (2, .step), (2, .step), (2, .ret),
   (2, .invoke ⟨"put", [2, 1]⟩), (2, .step), (2, .ret),
   (1, .step), (1, .step), (1, .step), (1, .step), (1, .step), (1, .step), (1, .step), (1, .ret),
   (3, .invoke ⟨"get", [3]⟩), (3, .step), (3, .step), (3, .step), (3, .step), (3, .step), (3, .step), (3, .ret)]

def readdObs : List (Tid × Obs) :=
  [(0, .call ⟨"put", [0, 1]⟩),
   (0, .ev ⟨"add", "n1", "0", "2147483648"⟩),          -- T 0 A add n1 0 2147483648        old word 0: link it
   (0, .ev ⟨"ld", "head", "null", ""⟩),                -- T 0 A ld head null
   (0, .ev ⟨"st", "n1.next", "null", ""⟩),             -- T 0 A st n1.next null
   (0, .ev ⟨"st", "n1", "1", ""⟩),                     -- T 0 A st n1 1
   (0, .ev ⟨"cas+", "head", "null", "n1"⟩),            -- T 0 A cas+ head null n1
   (0, .ret [1]),
   (1, .call ⟨"get", [1]⟩),
   (1, .ev ⟨"ld", "head", "n1", ""⟩),                  -- T 1 A ld head n1
   (1, .ev ⟨"ld", "n1", "1", ""⟩),                     -- T 1 A ld n1 1
   (1, .ev ⟨"cas+", "n1", "1", "2"⟩),                  -- T 1 A cas+ n1 1 2                G holds a reference
   (2, .call ⟨"get", [2]⟩),
   (2, .ev ⟨"ld", "head", "n1", ""⟩),
   (2, .ev ⟨"ld", "n1", "2", ""⟩),
   (2, .ev ⟨"cas+", "n1", "2", "3"⟩),
   (2, .ev ⟨"ld", "n1.next", "null", ""⟩),
   (2, .ev ⟨"cas+", "head", "n1", "null"⟩),            -- T 2 A cas+ head n1 null          thread 2 takes n1
   (2, .ev ⟨"sub", "n1", "3", "2"⟩),                   -- T 2 A sub n1 3 2                 word 1 = G's reference
   (2, .ret [1, 1]),
   (2, .call ⟨"put", [2, 1]⟩),
   (2, .ev ⟨"add", "n1", "1", "2147483648"⟩),          -- T 2 A add n1 1 2147483648        old word 1 ≠ 0: NOT linked
   (2, .ret [1]),
   (1, .ev ⟨"ld", "n1.next", "null", ""⟩),             -- T 1 A ld n1.next null
   (1, .ev ⟨"cas-", "head", "null", "n1"⟩),            -- T 1 A cas- head null n1          G's CAS fails
   (1, .ev ⟨"sub", "n1", "2147483649", "1"⟩),          -- T 1 A sub n1 2147483649 1        = SHOULD_BE_ON_FREELIST + 1
   (1, .ev ⟨"ld", "head", "null", ""⟩),                -- T 1 A ld head null               add_knowing_refcount_is_zero( n1 )
   (1, .ev ⟨"st", "n1.next", "null", ""⟩),
   (1, .ev ⟨"st", "n1", "1", ""⟩),
   (1, .ev ⟨"cas+", "head", "null", "n1"⟩),            -- T 1 A cas+ head null n1          G links n1
   (1, .ret [0]),                                      --                                  ... and returns "empty"
   (3, .call ⟨"get", [3]⟩),
   (3, .ev ⟨"ld", "head", "n1", ""⟩),
   (3, .ev ⟨"ld", "n1", "1", ""⟩),
   (3, .ev ⟨"cas+", "n1", "1", "2"⟩),
   (3, .ev ⟨"ld", "n1.next", "null", ""⟩),
   (3, .ev ⟨"cas+", "head", "n1", "null"⟩),
   (3, .ev ⟨"sub", "n1", "2", "2"⟩),
   (3, .ret [1, 1])]

example : ((FreeList.model.run (FreeList.init (fun _ => 0)) readdSched).map (·.2)) = some readdObs := by
  decide +kernel

/-- After thread 2's `put` has returned (22 actions), n1 is neither on the chain nor owned nor in anybody's hands:
    it is waiting (bit set, count 1), and thread 1 holds the reference. -/
example : ((FreeList.model.run (FreeList.init (fun _ => 0)) (readdSched.take 22)).map
    (fun r => (r.1.head, r.1.refs 1, r.1.shouldBeOn 1, [r.1.owns 0 1, r.1.owns 1 1, r.1.owns 2 1]))) =
    some (none, 1, true, [false, false, false]) := by decide +kernel
example : ((FreeList.model.run (FreeList.init (fun _ => 0)) (readdSched.take 22)).map
    (fun r => (FreeList.holdNode (r.1.pc 1), FreeList.handNode (r.1.pc 2), FreeList.handNode (r.1.pc 1)))) =
    some (some 1, none, none) := by decide +kernel

/-- At the end: the list is empty again, n1 is owned by thread 3 only, its word is 0. -/
example : ((FreeList.model.run (FreeList.init (fun _ => 0)) readdSched).map
    (fun r => (r.1.head, r.1.refs 1, r.1.shouldBeOn 1, [r.1.owns 0 1, r.1.owns 1 1, r.1.owns 2 1, r.1.owns 3 1]))) =
    some (none, 0, false, [false, false, false, true]) := by decide +kernel

/-! ## A `get` racing with a `put`, and the quiescent-completeness theorems on these runs

  The hypotheses of `C21_tagged_quiescent_complete` / `C21_freelist_quiescent_complete` (a reachable state in which EVERY
  thread is idle) are discharged for concrete two-thread runs: threads that are not scheduled stay idle. -/

/-- A thread that is not scheduled does not move (any machine whose actions only change the program counter of the
    acting thread). -/
theorem run_pc_other {σ P : Type} (m : Model σ) (pc : σ → Tid → P)
    (hstep : ∀ s t a s' o, m.apply s t a = some (s', o) → ∀ t', t' ≠ t → pc s' t' = pc s t') :
    ∀ (sched : List (Tid × Act)) (s s' : σ) os, m.run s sched = some (s', os) →
      ∀ t', (∀ x ∈ sched, x.1 ≠ t') → pc s' t' = pc s t' := by
  intro sched s s' os hr t' hall
  induction s, sched, s', os, hr using Model.run_induction with
  | nil => rfl
  | cons s t a s1 o rest s' os hap _ ih =>
    rw [ih (fun y hy => hall y (List.mem_cons_of_mem _ hy))]
    exact hstep s t a s1 o hap t' (fun e => hall (t, a) List.mem_cons_self e.symm)

theorem tagged_pc_other (s : TaggedFreeList.St) (t : Tid) (a : Act) (s' : TaggedFreeList.St) (o : Obs)
    (h : TaggedFreeList.model.apply s t a = some (s', o)) (t' : Tid) (hne : t' ≠ t) : s'.pc t' = s.pc t' := by
  cases a with
  | invoke op =>
    simp only [Model.apply, TaggedFreeList.model, TaggedFreeList.invoke] at h
    split at h
    · split at h
      · simp at h; rw [← h.1]; simp [upd, hne]
      · simp at h
    · simp at h; rw [← h.1]; simp [upd, hne]
    · simp at h
  | step =>
    simp only [Model.apply, TaggedFreeList.model, TaggedFreeList.step] at h
    split at h <;> (try split at h) <;> simp at h <;> (rw [← h.1]; simp [upd, hne])
  | ret =>
    simp only [Model.apply, TaggedFreeList.model, TaggedFreeList.result] at h
    split at h
    · simp at h; rw [← h.1]; simp [upd, hne]
    · simp at h

theorem freelist_pc_other (s : FreeList.St) (t : Tid) (a : Act) (s' : FreeList.St) (o : Obs)
    (h : FreeList.model.apply s t a = some (s', o)) (t' : Tid) (hne : t' ≠ t) : s'.pc t' = s.pc t' := by
  cases a with
  | invoke op =>
    simp only [Model.apply, FreeList.model, FreeList.invoke] at h
    split at h
    · split at h
      · simp at h; rw [← h.1]; simp [upd, hne]
      · simp at h
    · simp at h; rw [← h.1]; simp [upd, hne]
    · simp at h
  | step =>
    simp only [Model.apply, FreeList.model, FreeList.step] at h
    split at h <;> (try split at h) <;> simp at h <;> (rw [← h.1]; simp [upd, hne])
  | ret =>
    simp only [Model.apply, FreeList.model, FreeList.result] at h
    split at h
    · simp at h; rw [← h.1]; simp [upd, hne]
    · simp at h

/-- TaggedFreeList.  Thread 0 owns all nodes and puts n1 (list: n1, head = n1#1).  Then thread 1 calls `get` and thread 0
    calls `put( n2 )`, interleaved: both load head = n1#1; thread 0 links n2 (`cas+ head n1#1 n2#2`) and returns; thread
    1's CAS, expecting n1#1, FAILS; it goes round the loop with the value seen (n2#2), reads n2.next = n1 and takes n2 —
    the node that was put while its `get` was running. -/
def taggedRaceSched : List (Tid × Act) :=
  [(0, .invoke ⟨"put", [0, 1]⟩), (0, .step), (0, .step), (0, .step), (0, .ret),
   (1, .invoke ⟨"get", [1]⟩), (0, .invoke ⟨"put", [0, 2]⟩),
   (1, .step), (0, .step), (1, .step), (0, .step), (0, .step), (0, .ret),
   (1, .step), (1, .step), (1, .step), (1, .ret)]

example : ((TaggedFreeList.model.run (TaggedFreeList.init (fun _ => 0)) taggedRaceSched).map (fun r => r.2.drop 5)) = some
    [(1, .call ⟨"get", [1]⟩),
     (0, .call ⟨"put", [0, 2]⟩),
     (1, .ev ⟨"ld", "head", "n1#1", ""⟩),
     (0, .ev ⟨"ld", "head", "n1#1", ""⟩),
     (1, .ev ⟨"ld", "n1", "null", ""⟩),
     (0, .ev ⟨"st", "n2", "n1", ""⟩),
     (0, .ev ⟨"cas+", "head", "n1#1", "n2#2"⟩),      -- the put wins the race
     (0, .ret [1]),
     (1, .ev ⟨"cas-", "head", "n2#2", "n1#1"⟩),      -- the get's CAS fails
     (1, .ev ⟨"ld", "n2", "n1", ""⟩),
     (1, .ev ⟨"cas+", "head", "n2#2", "n1#3"⟩),
     (1, .ret [1, 2])] := by decide +kernel

set_option synthInstance.maxSize 4000 in
/-- At the end: both threads idle, the list is n1 alone, n2 is owned by thread 1 only. -/
example : ((TaggedFreeList.model.run (TaggedFreeList.init (fun _ => 0)) taggedRaceSched).map
    (fun r => (r.1.pc 0, r.1.pc 1, r.1.head, TaggedFreeList.walk r.1.next 8 r.1.head.1,
      [r.1.owns 0 1, r.1.owns 1 1], [r.1.owns 0 2, r.1.owns 1 2]))) =
    some (.idle, .idle, (some 1, 3), [1], [false, false], [false, true]) := by decide +kernel

/-- `C21_tagged_quiescent_complete` applied to that run: the run exists, EVERY thread is idle at its end, hence the
    conclusion of the theorem holds of its final state — no hypothesis is left. -/
example : ∃ s os, TaggedFreeList.model.run (TaggedFreeList.init (fun _ => 0)) taggedRaceSched = some (s, os) ∧
    (∀ t, s.pc t = .idle) ∧
    ∃ l, TaggedFreeList.Chain s.next s.head.1 l ∧ l.Nodup ∧ (∀ n, n ∈ l ↔ ∀ t, s.owns t n = false) ∧
      ∀ t, ∃ s' os', TaggedFreeList.model.run s (TaggedFreeList.drainSched t l.length) = some (s', os') ∧
        TaggedFreeList.retsOf os' = l.map (fun (a : Nat) => ([1, (a : Int)] : GRet)) ++ [[0]] ∧
        (∀ a ∈ l, s'.owns t a = true) := by
  have h : (TaggedFreeList.model.run (TaggedFreeList.init (fun _ => 0)) taggedRaceSched).isSome = true := by
    decide +kernel
  obtain ⟨⟨s, os⟩, hr⟩ := Option.isSome_iff_exists.mp h
  have h01 : (TaggedFreeList.model.run (TaggedFreeList.init (fun _ => 0)) taggedRaceSched).map
      (fun r => decide (r.1.pc 0 = .idle ∧ r.1.pc 1 = .idle)) = some true := by decide +kernel
  rw [hr] at h01
  simp only [Option.map_some, Option.some.injEq, decide_eq_true_eq] at h01
  have hsched : ∀ x ∈ taggedRaceSched, x.1 < 2 := by decide +kernel
  have hq : ∀ t, s.pc t = .idle := by
    intro t
    match t with
    | 0 => exact h01.1
    | 1 => exact h01.2
    | t + 2 =>
      exact run_pc_other TaggedFreeList.model (fun s => s.pc) tagged_pc_other taggedRaceSched _ s os hr (t + 2)
        (fun x hx e => absurd (e ▸ hsched x hx : t + 2 < 2) (Nat.not_lt.mpr (Nat.le_add_left 2 t)))
  exact ⟨s, os, hr, hq, C21_tagged_quiescent_complete (fun _ => 0) s ⟨taggedRaceSched, os, hr⟩ hq⟩

/-- The drain of the theorem, evaluated after that run (thread 2 calls `get` twice): n1, then "empty". -/
example : ((TaggedFreeList.model.run (TaggedFreeList.init (fun _ => 0))
    (taggedRaceSched ++ TaggedFreeList.drainSched 2 1)).map (fun r => TaggedFreeList.retsOf (r.2.drop 17))) =
    some [[1, 1], [0]] := by decide +kernel

/-- FreeList.  Thread 0 puts n1 (list: n1, word 1).  Then thread 1 calls `get` and thread 0 calls `put( n2 )`: thread 1
    loads head = n1 and takes a reference (word 2); thread 0 links n2 in front of n1 and returns; thread 1 reads
    n1.next, its CAS on the head FAILS (head is n2), it drops its reference to n1 (`sub n1 2 1`: word 1, n1 stays on the
    list), goes on with the value seen (n2), takes a reference, unlinks n2 and returns it. -/
def freelistRaceSched : List (Tid × Act) :=
  [(0, .invoke ⟨"put", [0, 1]⟩), (0, .step), (0, .step), (0, .step), (0, .step), (0, .step), (0, .ret),
   (1, .invoke ⟨"get", [1]⟩), (0, .invoke ⟨"put", [0, 2]⟩),
   (1, .step), (1, .step), (1, .step),
   (0, .step), (0, .step), (0, .step), (0, .step), (0, .step), (0, .ret),
   (1, .step), (1, .step), (1, .step), (1, .step), (1, .step), (1, .step), (1, .step), (1, .step), (1, .ret)]

example : ((FreeList.model.run (FreeList.init (fun _ => 0)) freelistRaceSched).map (fun r => r.2.drop 7)) = some
    [(1, .call ⟨"get", [1]⟩),
     (0, .call ⟨"put", [0, 2]⟩),
     (1, .ev ⟨"ld", "head", "n1", ""⟩),
     (1, .ev ⟨"ld", "n1", "1", ""⟩),
     (1, .ev ⟨"cas+", "n1", "1", "2"⟩),              -- the getter holds a reference to n1
     (0, .ev ⟨"add", "n2", "0", "2147483648"⟩),
     (0, .ev ⟨"ld", "head", "n1", ""⟩),
     (0, .ev ⟨"st", "n2.next", "n1", ""⟩),
     (0, .ev ⟨"st", "n2", "1", ""⟩),
     (0, .ev ⟨"cas+", "head", "n1", "n2"⟩),          -- the put wins the race
     (0, .ret [1]),
     (1, .ev ⟨"ld", "n1.next", "null", ""⟩),
     (1, .ev ⟨"cas-", "head", "n2", "n1"⟩),          -- the get's CAS fails
     (1, .ev ⟨"sub", "n1", "2", "1"⟩),               -- reference dropped: n1 stays on the list
     (1, .ev ⟨"ld", "n2", "1", ""⟩),
     (1, .ev ⟨"cas+", "n2", "1", "2"⟩),
     (1, .ev ⟨"ld", "n2.next", "n1", ""⟩),
     (1, .ev ⟨"cas+", "head", "n2", "n1"⟩),
     (1, .ev ⟨"sub", "n2", "2", "2"⟩),
     (1, .ret [1, 2])] := by decide +kernel

set_option synthInstance.maxSize 4000 in
/-- At the end: both threads idle, the list is n1 alone with word 1, n2 has word 0 and is owned by thread 1 only. -/
example : ((FreeList.model.run (FreeList.init (fun _ => 0)) freelistRaceSched).map
    (fun r => (r.1.pc 0, r.1.pc 1, r.1.head, FreeList.walk r.1.next 8 r.1.head, (r.1.refs 1, r.1.shouldBeOn 1),
      (r.1.refs 2, r.1.shouldBeOn 2), [r.1.owns 0 2, r.1.owns 1 2]))) =
    some (.idle, .idle, some 1, [1], (1, false), (0, false), [false, true]) := by decide +kernel

/-- `C21_freelist_quiescent_complete` applied to that run — no hypothesis is left. -/
example : ∃ s os, FreeList.model.run (FreeList.init (fun _ => 0)) freelistRaceSched = some (s, os) ∧
    (∀ t, s.pc t = .idle) ∧
    ∃ l, FreeList.Chain s.next s.head l ∧ l.Nodup ∧ (∀ n, n ∈ l ↔ ∀ t, s.owns t n = false) ∧
      (∀ n ∈ l, s.refs n = 1 ∧ s.shouldBeOn n = false) ∧ (∀ n, n ∉ l → s.refs n = 0 ∧ s.shouldBeOn n = false) ∧
      ∀ t, ∃ s' os', FreeList.model.run s (FreeList.drainSched t l.length) = some (s', os') ∧
        FreeList.retsOf os' = l.map (fun (a : Nat) => ([1, (a : Int)] : GRet)) ++ [[0]] ∧
        (∀ a ∈ l, s'.owns t a = true) := by
  have h : (FreeList.model.run (FreeList.init (fun _ => 0)) freelistRaceSched).isSome = true := by decide +kernel
  obtain ⟨⟨s, os⟩, hr⟩ := Option.isSome_iff_exists.mp h
  have h01 : (FreeList.model.run (FreeList.init (fun _ => 0)) freelistRaceSched).map
      (fun r => decide (r.1.pc 0 = .idle ∧ r.1.pc 1 = .idle)) = some true := by decide +kernel
  rw [hr] at h01
  simp only [Option.map_some, Option.some.injEq, decide_eq_true_eq] at h01
  have hsched : ∀ x ∈ freelistRaceSched, x.1 < 2 := by decide +kernel
  have hq : ∀ t, s.pc t = .idle := by
    intro t
    match t with
    | 0 => exact h01.1
    | 1 => exact h01.2
    | t + 2 =>
      exact run_pc_other FreeList.model (fun s => s.pc) freelist_pc_other freelistRaceSched _ s os hr (t + 2)
        (fun x hx e => absurd (e ▸ hsched x hx : t + 2 < 2) (Nat.not_lt.mpr (Nat.le_add_left 2 t)))
  exact ⟨s, os, hr, hq, C21_freelist_quiescent_complete (fun _ => 0) s ⟨freelistRaceSched, os, hr⟩ hq⟩

/-- The drain of the theorem, evaluated after that run (thread 2): n1, then "empty". -/
example : ((FreeList.model.run (FreeList.init (fun _ => 0))
    (freelistRaceSched ++ FreeList.drainSched 2 1)).map (fun r => FreeList.retsOf (r.2.drop 27))) =
    some [[1, 1], [0]] := by decide +kernel

end CdsVerif.Props.C21FreeLists
