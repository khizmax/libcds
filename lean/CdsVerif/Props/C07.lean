/-
  C07 — exactness of the history checker used by tie H.
  The algorithm-level theorems (Vyukov's bounded queue machine, every schedule) are in Props/C07Vyukov.lean.
-/
import CdsVerif.Base.Spec
namespace CdsVerif.Props.C07
open CdsVerif.Lin CdsVerif.Spec

/-- The oracle of tie H is exact: a history of the real container is accepted by the driver iff it is
    linearizable to the sequential specification. -/
theorem C07_history_oracle_exact (cap : Nat) (ops : List (OpRec GOp GRet)) (hwf : ∀ o ∈ ops, o.inv ≤ o.res) :
    linCheck (bfifo cap) ops = true ↔ Linearizable (bfifo cap) ops :=
  linCheck_iff _ ops hwf

end CdsVerif.Props.C07
