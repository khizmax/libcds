/-
  C20 — sequential semantics derived from history-level theorems, second part: the typed SPSC ring buffer (C12),
  TaggedFreeList (C21) and the sequential CuckooSet model (C17).  Same method as `Props/C20Seq.lean`
  (`Base/SeqHistory.lean`): a sequential history has one linearization order, hence linearizability collapses to
  "legal run of the specification in program order".

  * Ring buffer: the machine has a producer thread (0) and a consumer thread (1), so "sequential use" is stated on
    the HISTORY (`Sequential (historyOf os)`, a decidable predicate: one thread at a time issues a complete
    operation), not on the schedule.
  * TaggedFreeList: the bag specification is non-deterministic in which node `get` returns; the statement is
    `Legal bagT [] (records in program order)`, the records being exactly the calls and results of the run.
  * CuckooSet: `_partial`, under the two hypotheses that are the two recorded findings (an insert may not return;
    a resize may drop keys).
-/
import CdsVerif.Props.C20Seq
import CdsVerif.Props.C12RingLin
import CdsVerif.Props.C21FreeListsLin
import CdsVerif.Props.C17Cuckoo
namespace CdsVerif.Props.C20Seq2
open CdsVerif.Machine CdsVerif.Lin CdsVerif.Spec CdsVerif.Algo CdsVerif.SeqHistory CdsVerif.Props.C20Seq

/-! ### Generic: renaming the operations of the records keeps a history sequential -/

theorem sequential_map {Op Ret Op' Ret' : Type} (f : OpRec Op Ret → OpRec Op' Ret')
    (hf : ∀ r, (f r).inv = r.inv ∧ (f r).res = r.res) (l : List (OpRec Op Ret)) (h : Sequential l) :
    Sequential (l.map f) := by
  refine ⟨?_, ?_⟩
  · rw [List.pairwise_map]
    exact h.1.imp (fun {a b} hab => by rw [(hf a).2, (hf b).1]; exact hab)
  · intro o ho
    obtain ⟨r, hr, rfl⟩ := List.mem_map.mp ho
    rw [(hf r).1, (hf r).2]; exact h.2 r hr

/-! ### The typed SPSC ring buffer (C12) → `Spec.bfifo cap` / `Ring.ringSpec cap` -/

/-- **C20 for WeakRingBuffer, single-element operations.**  Every complete run (producer and consumer idle at the
    end) whose history is sequential — the producer and the consumer never have operations in flight at the same
    time — returns exactly the results of the sequential bounded FIFO queue of capacity `cap`, run over the
    operations of the history in order (renamed by `Ring.specOp`: `push v ↦ enq v`, `pop ↦ deq`, `front ↦ front`).
    Hypotheses `0 < cap` and `SingleOps` as in `C12_ring_linearizable`. -/
theorem C20_ring_sequential (cap : Nat) (hcap : 0 < cap) (sched : List (Tid × Act)) (s : Ring.St)
    (os : List (Tid × Obs)) (h : Ring.model.run (Ring.init cap) sched = some (s, os)) (hsingle : Ring.SingleOps os)
    (hp : s.pp = .idle) (hc : s.cp = .idle) (hseq : Sequential (QueueLin.historyOf os)) :
    specRun (bfifoStep cap) [] ((QueueLin.historyOf os).map (fun r => Ring.specOp r.op))
      = some ((QueueLin.historyOf os).map (·.ret)) := by
  have hlin := C12RingLin.C12_ring_linearizable_complete_runs cap hcap sched s os h hsingle hp hc
  have hseq' := sequential_map Ring.specRec (fun r => ⟨rfl, rfl⟩) _ hseq
  have := (linearizable_iff_specRun [] (bfifoStep cap) _ hseq').mp hlin
  simpa [List.map_map, Function.comp_def, Ring.specRec] using this

/-- **C20 for WeakRingBuffer, every program** (batches `push v1 … vk`, `pop k`, … included): the results are those
    of `Ring.ringStep cap`, the bounded FIFO with all-or-nothing batches, in the machine's own vocabulary. -/
theorem C20_ring_sequential_batches (cap : Nat) (hcap : 0 < cap) (sched : List (Tid × Act)) (s : Ring.St)
    (os : List (Tid × Obs)) (h : Ring.model.run (Ring.init cap) sched = some (s, os))
    (hp : s.pp = .idle) (hc : s.cp = .idle) (hseq : Sequential (QueueLin.historyOf os)) :
    specRun (Ring.ringStep cap) [] ((QueueLin.historyOf os).map (·.op))
      = some ((QueueLin.historyOf os).map (·.ret)) := by
  obtain ⟨extra, hex, -, hlin⟩ := C12RingLin.C12_ring_linearizable_batches cap hcap sched s os h
  have hnil : extra = [] := by
    apply List.eq_nil_iff_forall_not_mem.mpr
    intro e he
    have := (hex e he).2.2
    simp [Ring.lpRet, hp, hc, Ring.pRet, Ring.cRet] at this
  rw [hnil, List.append_nil] at hlin
  exact (linearizable_iff_specRun [] (Ring.ringStep cap) _ hseq).mp hlin

/-- One thread at a time (capacity 2): consumer pops from the empty buffer (fails), producer pushes 7, 8, pushes 9
    into the full buffer (fails), consumer reads the front, pops 7, producer pushes 9, consumer pops 8, 9, fails. -/
def ringProg : List (Tid × GOp) :=
  [(1, ⟨"pop", []⟩), (0, ⟨"push", [7]⟩), (0, ⟨"push", [8]⟩), (0, ⟨"push", [9]⟩), (1, ⟨"front", []⟩), (1, ⟨"pop", []⟩),
   (0, ⟨"push", [9]⟩), (1, ⟨"pop", []⟩), (1, ⟨"pop", []⟩), (1, ⟨"pop", []⟩)]

/-- The schedule that executes the operations of `prog` one after the other, each on its own thread. -/
def seqSched2 {σ : Type} (m : Model σ) (fuel : Nat) : σ → List (Tid × GOp) → List (Tid × Act)
  | _, [] => []
  | s, (t, op) :: ops =>
    match m.invoke s t op with
    | none => []
    | some s1 =>
      match driveSteps m t fuel s1 with
      | none => []
      | some (s2, acts) => (t, Act.invoke op) :: acts ++ seqSched2 m fuel s2 ops

def ringSched : List (Tid × Act) := seqSched2 Ring.model 50 (Ring.init 2) ringProg

def ringOpsB : List GOp :=
  [⟨"deq", []⟩, ⟨"enq", [7]⟩, ⟨"enq", [8]⟩, ⟨"enq", [9]⟩, ⟨"front", []⟩, ⟨"deq", []⟩, ⟨"enq", [9]⟩, ⟨"deq", []⟩,
   ⟨"deq", []⟩, ⟨"deq", []⟩]

set_option synthInstance.maxSize 4000 in
/-- The hypotheses hold for that run (both threads idle at the end, single-element operations, sequential history)
    and the results are those of `bfifo 2`. -/
example : ringSched.length = 42 ∧
    (Ring.model.run (Ring.init 2) ringSched).map (fun r =>
      (decide (r.1.pp = .idle), decide (r.1.cp = .idle), Ring.singleOpsB r.2,
       decide (Sequential (QueueLin.historyOf r.2)),
       (QueueLin.historyOf r.2).map (fun x => Ring.specOp x.op), (QueueLin.historyOf r.2).map (·.ret)))
      = some (true, true, true, true, ringOpsB, [[0], [1], [1], [0], [1, 7], [1, 7], [1], [1, 8], [1, 9], [0]]) ∧
    specRun (bfifoStep 2) [] ringOpsB = some [[0], [1], [1], [0], [1, 7], [1, 7], [1], [1, 8], [1, 9], [0]] := by
  decide +kernel

/-! ### TaggedFreeList (C21) → the bag `BagLin.bagT` -/

namespace TaggedP
open TaggedFreeList

section
variable {s s' : St} {t : Tid} {p : Option Nat} {g : Nat}

@[local simp] theorem getLoop_ne_idle : getLoop p g ≠ .idle := by
  unfold getLoop
  split <;> simp

theorem invoke_shape {op : GOp} (h : invoke s t op = some s') :
    s.pc t = .idle ∧ s'.pc t ≠ .idle ∧ ∀ u, u ≠ t → s'.pc u = s.pc u := by
  unfold invoke at h
  repeat' split at h
  all_goals cases h
  all_goals exact ⟨‹_›, by simp, fun u hu => by simp [upd, hu]⟩

theorem step_shape {e : Ev} (h : step s t = some (s', e)) :
    s.pc t ≠ .idle ∧ s'.pc t ≠ .idle ∧ ∀ u, u ≠ t → s'.pc u = s.pc u := by
  have hne : s.pc t ≠ .idle := fun hi => by simp [step, hi] at h
  unfold step at h
  repeat' split at h
  all_goals cases h
  all_goals exact ⟨hne, by simp, fun u hu => by simp [upd, hu]⟩

theorem result_shape {r : GRet} (h : result s t = some (s', r)) :
    s.pc t ≠ .idle ∧ s'.pc t = .idle ∧ ∀ u, u ≠ t → s'.pc u = s.pc u := by
  unfold result at h
  split at h <;> cases h
  exact ⟨by simp [*], by simp, fun u hu => by simp [upd, hu]⟩

end

theorem protocol : Protocol TaggedFreeList.model (fun s t => s.pc t = .idle) :=
  Protocol.ofPC TaggedFreeList.model (fun s => s.pc) .idle invoke_shape step_shape result_shape

end TaggedP

/-- **C20 for TaggedFreeList.**  In every single-threaded complete run (thread `t0` only, idle at the end; any
    initial ownership `own0` of the nodes), the records of the history are exactly the calls and the results of
    the run, in program order, and they form a legal sequential execution of the bag: every `put n` adds a node
    that is not in the bag, every `get → n` removes a node that is in the bag, `get → empty` only on the empty
    bag.  (The bag does not say WHICH node `get` returns, hence `Legal` rather than `specRun`.) -/
theorem C20_tagged_freelist_sequential (own0 : Nat → Tid) (t0 : Tid) (sched : List (Tid × Act))
    (s : TaggedFreeList.St) (os : List (Tid × Obs))
    (h : TaggedFreeList.model.run (TaggedFreeList.init own0) sched = some (s, os))
    (hst : ∀ x ∈ sched, x.1 = t0) (hid : s.pc t0 = .idle) :
    Legal BagLin.bagT [] (SeqHistory.historyOf os) ∧
      (SeqHistory.historyOf os).map (·.op) = callsOf os ∧ (SeqHistory.historyOf os).map (·.ret) = retsOf os := by
  have hidle := run_all_idle TaggedP.protocol t0 h hst (fun _ => rfl) hid
  have hlin := C21FreeListsLin.C21_tagged_bag_linearizable_no_effect_pending own0 sched s os h
    (fun t => by rw [hidle t]; rfl)
  rw [QueueLin.historyOf_eq] at hlin
  have hseq := run_history_sequential TaggedFreeList.model sched _ s os h t0 hst
  exact ⟨(linearizable_iff_legal BagLin.bagT _ hseq).mp hlin,
    C20_single_thread_run_history TaggedFreeList.model _ TaggedP.protocol t0 sched _ s os h hst rfl hid⟩

/-- Decidable form of `Legal bagT` for the examples. -/
def legalB {σ : Type} (spec : Lin.Spec σ GOp GRet) : σ → List (OpRec GOp GRet) → Bool
  | _, [] => true
  | s, o :: l => match spec.next s o.op o.ret with
    | some s' => legalB spec s' l
    | none => false

theorem legal_of_legalB {σ : Type} (spec : Lin.Spec σ GOp GRet) : ∀ (l : List (OpRec GOp GRet)) (s : σ),
    legalB spec s l = true → Legal spec s l := by
  intro l
  induction l with
  | nil => intro s _; trivial
  | cons o l ih =>
    intro s h
    simp only [legalB] at h
    cases hn : spec.next s o.op o.ret with
    | none => simp [hn] at h
    | some s' => simp only [hn] at h; exact ⟨s', hn, ih s' h⟩

def taggedOps : List GOp :=
  [⟨"get", [0]⟩, ⟨"put", [0, 1]⟩, ⟨"put", [0, 2]⟩, ⟨"get", [0]⟩, ⟨"put", [0, 3]⟩, ⟨"get", [0]⟩, ⟨"get", [0]⟩, ⟨"get", [0]⟩]
def taggedSched : List (Tid × Act) :=
  seqSched TaggedFreeList.model 0 50 (TaggedFreeList.init (fun _ => 0)) taggedOps

/-- All nodes owned by thread 0: get on the empty list fails, put 1, put 2, get → 2, put 3, get → 3, get → 1, get
    fails; the history is a legal run of the bag. -/
example : taggedSched.length = 36 ∧ taggedSched.all (fun x => x.1 == 0) = true ∧
    seqDemo TaggedFreeList.model (fun s => decide (s.pc 0 = .idle)) (TaggedFreeList.init (fun _ => 0)) taggedSched
      = some (true, taggedOps, [[0], [1], [1], [1, 2], [1], [1, 3], [1, 1], [0]]) ∧
    (TaggedFreeList.model.run (TaggedFreeList.init (fun _ => 0)) taggedSched).map
      (fun r => legalB BagLin.bagT [] (SeqHistory.historyOf r.2)) = some true := by decide +kernel

/-! ### The sequential CuckooSet model (C17) → set semantics, `_partial` -/

section Cuckoo
open CdsVerif.Algo.Cuckoo

inductive SetOp | ins | era | con
deriving DecidableEq, Repr

/-- `insert [k]`, `erase [k]`, `contains [k]`. -/
def decodeSet (op : GOp) : Option (SetOp × Int) :=
  match op.name, op.args with
  | "insert", [k] => some (.ins, k)
  | "erase", [k] => some (.era, k)
  | "contains", [k] => some (.con, k)
  | _, _ => none

def b2i (b : Bool) : GRet := [if b then 1 else 0]

/-- The sequential set (the key part of `Spec.mapStep`): insert fails iff the key is present, erase succeeds iff it
    is present, contains iff it is present. -/
def setStep (m : List Int) (op : GOp) : Option (List Int × GRet) :=
  match decodeSet op with
  | some (.ins, k) => if k ∈ m then some (m, b2i false) else some (k :: m, b2i true)
  | some (.era, k) => if k ∈ m then some (m.filter (fun q => decide (q ≠ k)), b2i true) else some (m, b2i false)
  | some (.con, k) => some (m, b2i (decide (k ∈ m)))
  | none => none

/-- The operations run on the CuckooSet model: the results, and the keys dropped by the resizes of the inserts;
    `none` when an insert does not return within `fuel` rounds (or the operation is not a set operation). -/
def cuckooRun (c : Cfg) (fuel : Nat) : St → List GOp → Option (List GRet × List Int)
  | _, [] => some ([], [])
  | s, op :: ops =>
    match decodeSet op with
    | some (.ins, k) =>
      match insertLoop c fuel s k with
      | none => none
      | some (s', r, lost) => (cuckooRun c fuel s' ops).map (fun p => (b2i r :: p.1, lost ++ p.2))
    | some (.era, k) => (cuckooRun c fuel (erase c s k).1 ops).map (fun p => (b2i (erase c s k).2 :: p.1, p.2))
    | some (.con, k) => (cuckooRun c fuel s ops).map (fun p => (b2i (contains c s k) :: p.1, p.2))
    | none => none

theorem cuckoo_run_spec (c : Cfg) (fuel : Nat) : ∀ (ops : List GOp) (s : St) (m : List Int) (rets : List GRet),
    CInv c s → (∀ q, contains c s q = decide (q ∈ m)) → cuckooRun c fuel s ops = some (rets, []) →
    specRun setStep m ops = some rets := by
  intro ops
  induction ops with
  | nil => intro s m rets _ _ h; simp only [cuckooRun, Option.some.injEq, Prod.mk.injEq] at h; simp [specRun, ← h.1]
  | cons op ops ih =>
    intro s m rets hi hm h
    simp only [cuckooRun] at h
    simp only [specRun, setStep]
    rcases hd : decodeSet op with _ | ⟨kind, k⟩
    · simp [hd] at h
    · cases kind with
      | ins =>
        simp only [hd] at h ⊢
        rcases hl : insertLoop c fuel s k with _ | ⟨s', r, lost⟩
        · simp [hl] at h
        · simp only [hl, Option.map_eq_some_iff, Prod.mk.injEq, Prod.exists] at h
          obtain ⟨rs, lost2, hrun, hrets, hlost⟩ := h
          obtain ⟨hl1, hl2⟩ := List.append_eq_nil_iff.mp hlost
          subst hl1; subst hl2
          obtain ⟨hi', hr, hc', -⟩ := C17_cuckoo_insert_partial c fuel s s' k r hi hl
          have hk := hm k
          by_cases hmem : k ∈ m
          · have hrec := ih s' m rs hi' (fun q => by
              rw [hc', hm q]; by_cases e : q = k
              · subst e; simp [hmem]
              · simp [e]) hrun
            simp only [hmem, if_true, hrec, Option.map_some]
            rw [← hrets, hr, hk]; simp [hmem]
          · have hrec := ih s' (k :: m) rs hi' (fun q => by
              rw [hc', hm q]; by_cases e : q = k
              · subst e; simp
              · simp [e]) hrun
            simp only [hmem, if_false, hrec, Option.map_some]
            rw [← hrets, hr, hk]; simp [hmem]
      | era =>
        simp only [hd, Option.map_eq_some_iff, Prod.mk.injEq, Prod.exists] at h ⊢
        obtain ⟨rs, lost2, hrun, hrets, hlost⟩ := h
        subst hlost
        obtain ⟨hi', hr, hc', -⟩ := C17_cuckoo_erase c s hi k
        have hk := hm k
        have hrec := ih (erase c s k).1 (m.filter (fun q => decide (q ≠ k))) rs hi' (fun q => by
          rw [hc', hm q]; by_cases e : q = k
          · subst e; simp
          · simp [e]) hrun
        by_cases hmem : k ∈ m
        · simp only [hmem, if_true, hrec, Option.map_some]
          rw [← hrets, hr, hk]; simp [hmem]
        · have hf : m.filter (fun q => decide (q ≠ k)) = m := by
            apply List.filter_eq_self.mpr
            intro a ha; simp; intro e; exact hmem (e ▸ ha)
          rw [hf] at hrec
          simp only [hmem, if_false, hrec, Option.map_some]
          rw [← hrets, hr, hk]; simp [hmem]
      | con =>
        simp only [hd, Option.map_eq_some_iff, Prod.mk.injEq, Prod.exists] at h ⊢
        obtain ⟨rs, lost2, hrun, hrets, hlost⟩ := h
        subst hlost
        have hrec := ih s m rs hi hm hrun
        simp only [hrec]
        rw [← hrets, hm k]
        exact ⟨rs, rfl, rfl⟩

/-- **C20 for the sequential CuckooSet model, PARTIAL.**  For every configuration (hash functions, probe-set size,
    threshold), every initial size and every sequence of `insert` / `erase` / `contains` from the empty set:
    IF (1) every insert returns within `fuel` rounds (`cuckooRun … = some …`; CuckooSet::insert may double its tables
    for ever: known finding C17-cuckoo-endless-resize) and (2) the resizes of the inserts dropped no key (`lost = []`;
    known finding C17-cuckoo-resize-drop), THEN the results are exactly those of the sequential set: insert fails iff
    the key is present, erase succeeds iff it is present, contains iff it is present.
    Missing for the full statement: the two hypotheses, which are false for the real container in general
    (`C17_cuckoo_resize_can_drop`, `C17_cuckoo_witness_run`); they hold e.g. whenever every insert finds a probe set
    below the threshold (`C17_cuckoo_insert_below_threshold`). -/
theorem C20_cuckoo_sequential_partial (c : Cfg) (fuel init : Nat) (ops : List GOp) (rets : List GRet)
    (lost : List Int) (hret : cuckooRun c fuel (initSt init) ops = some (rets, lost)) (hlost : lost = []) :
    specRun setStep [] ops = some rets := by
  subst hlost
  refine cuckoo_run_spec c fuel ops (initSt init) [] rets (C17_cuckoo_empty_inv c init) (fun q => ?_) hret
  have h1 := C17_cuckoo_contains_iff c (initSt init) (C17_cuckoo_empty_inv c init) q
  have h2 : (initSt init).elems = [] := by simp [initSt, empty, St.elems]
  rw [h2] at h1
  cases hc : contains c (initSt init) q
  · simp
  · exact absurd (h1.mp hc) (by simp)

def cuckooOps : List GOp :=
  [⟨"insert", [3]⟩, ⟨"insert", [6]⟩, ⟨"insert", [3]⟩, ⟨"contains", [6]⟩, ⟨"erase", [3]⟩, ⟨"erase", [3]⟩, ⟨"contains", [3]⟩,
   ⟨"insert", [1]⟩, ⟨"insert", [9]⟩, ⟨"insert", [12]⟩, ⟨"contains", [9]⟩]

/-- (configuration of the kept witness, 4 buckets) insert 3, insert 6, insert of the present key 3 fails,
    contains 6, erase 3, erase 3 fails, contains 3 → no, insert 1, 9, 12, contains 9: every insert returns, nothing is
    lost, and the results are those of the sequential set. -/
example : cuckooRun witnessCfg 12 (initSt 4) cuckooOps
      = some ([[1], [1], [0], [1], [1], [0], [0], [1], [1], [1], [1]], []) ∧
    specRun setStep [] cuckooOps = some [[1], [1], [0], [1], [1], [0], [0], [1], [1], [1], [1]] := by decide +kernel

/-- The corollary applied to that run. -/
example : specRun setStep [] cuckooOps = some [[1], [1], [0], [1], [1], [0], [0], [1], [1], [1], [1]] :=
  C20_cuckoo_sequential_partial witnessCfg 12 4 cuckooOps _ [] (by decide +kernel) rfl

/-- Hypothesis (2) is not idle: on the kept witness of C17 the inserts do return, but a resize drops a key
    (`lost ≠ []`), and the results differ from the sequential set from then on. -/
example : (cuckooRun witnessCfg 12 (initSt 4)
      (witnessOps.map (fun o => (⟨if o.1 then "insert" else "erase", [o.2]⟩ : GOp)))).map (fun p => p.2 == []) =
    some false := by decide +kernel

end Cuckoo

end CdsVerif.Props.C20Seq2
