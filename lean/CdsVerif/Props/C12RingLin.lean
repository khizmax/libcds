/-
  C12 — history-level statement for the typed single-producer / single-consumer `WeakRingBuffer`
  (cds/container/weak_ringbuffer.h): the values RETURNED to the clients are those of a bounded FIFO queue.
  Property theorems only; the construction lives in `Algo/Ring/Lin.lean` (model `Algo/Ring/Model.lean`,
  invariant `Algo/Ring/Inv.lean`).

  The theorems of `Props/C12.lean` are stated on ghost fields of the machine state (`pushed`, `popped`, buffer
  cells).  Here: for EVERY run of the machine (producer = thread 0, consumer = thread 1, any client program, any
  schedule, any capacity `cap ≥ 1`) the history of calls and results, completed with the pending operations that
  have passed their linearization point, is Herlihy–Wing linearizable
    * to `Ring.ringSpec cap` — the bounded FIFO with all-or-nothing batches — for arbitrary programs
      (`C12_ring_linearizable_batches`), and
    * to `Spec.bfifo cap` for programs of single-element operations, operations renamed to the vocabulary of
      `bfifo` by `Ring.specRec` (`push v ↦ enq v`, `pop` / `pop 1` / `popn 1` / `popf ↦ deq`, `front ↦ front`)
      (`C12_ring_linearizable`): push fails iff the queue is full at its linearization point, pop / front fail
      iff it is empty.
  Linearization points: push = the `back_` store (failing push = the re-load of `front_` that still shows the
  buffer full); pop = the `front_` store (failing pop / front = the re-load of `back_` that still shows it empty);
  successful `front` = the load after which it reads the cell.  `bfifo` has no batch operations, hence the
  hypothesis `SingleOps` in the `bfifo` form; nothing else is assumed, nothing is partial.

  Assumptions of the model (not proved here): counters do not wrap; sequentially consistent interleaving of the
  atomic operations on `front_` / `back_`; exactly one producer and one consumer thread.
-/
import CdsVerif.Algo.Ring.Lin
namespace CdsVerif.Props.C12RingLin
open CdsVerif.Machine CdsVerif.Lin CdsVerif.Spec CdsVerif.Algo CdsVerif.Algo.QueueLin

/-- Linearizability to the bounded FIFO queue (Herlihy–Wing with completion of pending operations).  For every
    capacity `cap ≥ 1` and every run whose program consists of single-element operations, the history of the
    completed operations — extended by response records `extra` for the pending operations that have passed their
    linearization point (at most one per thread; each is an operation pending in `os`, completed with the result
    fixed at its linearization point and the response time "end of run"), all other pending operations being
    dropped — is, after renaming the operations to the vocabulary of `bfifo`, linearizable to `bfifo cap`, failed
    pushes and pops included. -/
theorem C12_ring_linearizable (cap : Nat) (hcap : 0 < cap) (sched : List (Tid × Act)) (s : Ring.St)
    (os : List (Tid × Obs)) (h : Ring.model.run (Ring.init cap) sched = some (s, os)) (hsingle : Ring.SingleOps os) :
    ∃ extra : List (OpRec GOp GRet),
      (∀ e ∈ extra, pendingOf os e.tid = some (e.op, e.inv) ∧ e.res = os.length ∧
          Ring.lpRet s e.tid = some e.ret) ∧
      extra.Pairwise (fun a b => a.tid ≠ b.tid) ∧
      Linearizable (bfifo cap) ((historyOf os ++ extra).map Ring.specRec) :=
  Ring.ring_linearizable_bfifo cap hcap sched s os h hsingle

/-- Runs in which every invoked operation has returned: the history is linearizable as it is. -/
theorem C12_ring_linearizable_complete_runs (cap : Nat) (hcap : 0 < cap) (sched : List (Tid × Act)) (s : Ring.St)
    (os : List (Tid × Obs)) (h : Ring.model.run (Ring.init cap) sched = some (s, os)) (hsingle : Ring.SingleOps os)
    (hp : s.pp = .idle) (hc : s.cp = .idle) :
    Linearizable (bfifo cap) ((historyOf os).map Ring.specRec) :=
  Ring.ring_linearizable_bfifo_complete_runs cap hcap sched s os h hsingle hp hc

/-- More generally: runs at whose end no thread is between its linearization point and its return. -/
theorem C12_ring_linearizable_no_effect_pending (cap : Nat) (hcap : 0 < cap) (sched : List (Tid × Act))
    (s : Ring.St) (os : List (Tid × Obs)) (h : Ring.model.run (Ring.init cap) sched = some (s, os))
    (hsingle : Ring.SingleOps os) (hq : ∀ t, Ring.lpRet s t = none) :
    Linearizable (bfifo cap) ((historyOf os).map Ring.specRec) :=
  Ring.ring_linearizable_bfifo_no_effect_pending cap hcap sched s os h hsingle hq

/-- The general form, batches included, in the machine's own vocabulary: ANY program (`push v1 … vk`, `pushn`,
    `pop k`, `popn k`, `front`, `popf`) is linearizable to `Ring.ringSpec cap`: a push of `k` elements succeeds iff
    `k` cells are free at its linearization point and then appends all `k`; a pop of `k` elements succeeds iff `k`
    elements are present and then removes and returns the `k` oldest. -/
theorem C12_ring_linearizable_batches (cap : Nat) (hcap : 0 < cap) (sched : List (Tid × Act)) (s : Ring.St)
    (os : List (Tid × Obs)) (h : Ring.model.run (Ring.init cap) sched = some (s, os)) :
    ∃ extra : List (OpRec GOp GRet),
      (∀ e ∈ extra, pendingOf os e.tid = some (e.op, e.inv) ∧ e.res = os.length ∧
          Ring.lpRet s e.tid = some e.ret) ∧
      extra.Pairwise (fun a b => a.tid ≠ b.tid) ∧
      Linearizable (Ring.ringSpec cap) (historyOf os ++ extra) :=
  Ring.ring_linearizable cap hcap sched s os h

/-- `historyOf` is faithful: a record's `inv` / `res` are the positions of its call and return observations, its
    result is the value returned to the client. -/
theorem C12_ring_history_sound (os : List (Tid × Obs)) (r : OpRec GOp GRet) (h : r ∈ historyOf os) :
    os[r.inv]? = some (r.tid, .call r.op) ∧ os[r.res]? = some (r.tid, .ret r.ret) ∧ r.inv < r.res :=
  historyOf_sound os r h

/-- The renaming touches only the operation name: thread, result and the two instants are kept. -/
theorem C12_ring_specRec (r : OpRec GOp GRet) :
    (Ring.specRec r).tid = r.tid ∧ (Ring.specRec r).ret = r.ret ∧ (Ring.specRec r).inv = r.inv ∧
    (Ring.specRec r).res = r.res := ⟨rfl, rfl, rfl, rfl⟩

/-- A failing operation fails at its linearization point, for the right reason.  If a completed operation returned
    `[0]`, there is an instant `j` strictly between its call and its return such that in the state `s1` reached by
    the first `j` actions of the run the calling thread is about to perform the load that makes it fail: the
    producer's re-load of `front_`, with fewer than `count` free cells in the abstract queue (`count = 1`: the queue
    holds `cap` elements — full); the consumer's re-load of `back_`, with fewer than the needed elements in the
    abstract queue (`need = 1`: the queue is empty). -/
theorem C12_ring_fail_at_lp (cap : Nat) (hcap : 0 < cap) (sched : List (Tid × Act)) (s : Ring.St)
    (os : List (Tid × Obs)) (h : Ring.model.run (Ring.init cap) sched = some (s, os)) (r : OpRec GOp GRet)
    (hr : r ∈ historyOf os) (hret : r.ret = [0]) :
    ∃ j s1, r.inv < j ∧ j < r.res ∧ Ring.model.run (Ring.init cap) (sched.take j) = some (s1, os.take j) ∧
      ((r.tid = 0 ∧ ∃ vs b, s1.pp = .ldFront vs b ∧ cap < (Ring.absQ s1).length + vs.length) ∨
       (r.tid = 1 ∧ ∃ op f, s1.cp = .ldBack op f ∧ (Ring.absQ s1).length < Ring.need op)) :=
  Ring.ring_fail_hindsight cap hcap sched s os h r hr hret

/-- The abstract queue is the content of the live cells. -/
theorem C12_ring_absQ_cells (cap : Nat) (hcap : 0 < cap) (s : Ring.St)
    (h : Ring.model.Reachable (Ring.init cap) s) :
    Ring.absQ s = Ring.readCells s.buf s.cap s.front (s.back - s.front) := by
  have hi := Ring.inv_reachable cap hcap s h
  rw [Ring.buffer_content s hi, Ring.absQ, hi.front_eq]

/-! ### Non-vacuity: capacity 2, a failing push on the full buffer and a pop racing with a push -/

/-- `push 7`, `push 8` fill the buffer; `push 9` re-loads `front_`, finds the buffer full and fails.  The consumer's
    `pop` starts (loads `front_`, re-loads `back_`); the producer's second `push 9` starts, finds its cached
    `pfront_` stale (`ld back 2`); the pop's `front_` store (its linearization point) lands; the producer's re-load
    of `front_` now sees a free cell and the push succeeds (cell 0: the wrap).  Finally `front` peeks at 8. -/
def raceSched : List (Tid × Act) :=
  [(0, .invoke ⟨"push", [7]⟩), (0, .step), (0, .step), (0, .ret),
   (0, .invoke ⟨"push", [8]⟩), (0, .step), (0, .step), (0, .ret),
   (0, .invoke ⟨"push", [9]⟩), (0, .step), (0, .step), (0, .ret),
   (1, .invoke ⟨"pop", []⟩), (1, .step), (1, .step),
   (0, .invoke ⟨"push", [9]⟩), (0, .step),
   (1, .step),
   (0, .step), (0, .step),
   (0, .ret), (1, .ret),
   (1, .invoke ⟨"front", []⟩), (1, .step), (1, .ret)]

set_option synthInstance.maxSize 2000 in
/-- The observations of the race, and the final state. -/
example : (Ring.model.run (Ring.init 2) raceSched).map
      (fun p => (p.2.drop 8, p.1.pp, p.1.cp, Ring.absQ p.1, [p.1.buf 0, p.1.buf 1]))
    = some ([(0, .call ⟨"push", [9]⟩),
             (0, .ev ⟨"ld", "back", "2", ""⟩),
             (0, .ev ⟨"ld", "front", "0", ""⟩),       -- 0 + 2 - 2 < 1: full, LP of the failing push
             (0, .ret [0]),
             (1, .call ⟨"pop", []⟩),
             (1, .ev ⟨"ld", "front", "0", ""⟩),
             (1, .ev ⟨"ld", "back", "2", ""⟩),
             (0, .call ⟨"push", [9]⟩),
             (0, .ev ⟨"ld", "back", "2", ""⟩),
             (1, .ev ⟨"st", "front", "1", ""⟩),       -- LP of the pop
             (0, .ev ⟨"ld", "front", "1", ""⟩),       -- 1 + 2 - 2 ≥ 1: a cell is free
             (0, .ev ⟨"st", "back", "3", ""⟩),        -- LP of the push
             (0, .ret [1]),
             (1, .ret [1, 7]),
             (1, .call ⟨"front", []⟩),
             (1, .ev ⟨"ld", "front", "1", ""⟩),       -- LP of front
             (1, .ret [1, 8])],
            .idle, .idle, [8, 9], [9, 8]) := by
  decide +kernel

set_option synthInstance.maxSize 2000 in
/-- The history of that run in the vocabulary of `bfifo`. -/
theorem race_history : (Ring.model.run (Ring.init 2) raceSched).map
      (fun p => ((historyOf p.2).map Ring.specRec, p.1.pp, p.1.cp, Ring.singleOpsB p.2))
    = some ([⟨0, ⟨"enq", [7]⟩, [1], 0, 3⟩, ⟨0, ⟨"enq", [8]⟩, [1], 4, 7⟩, ⟨0, ⟨"enq", [9]⟩, [0], 8, 11⟩,
             ⟨0, ⟨"enq", [9]⟩, [1], 15, 20⟩, ⟨1, ⟨"deq", []⟩, [1, 7], 12, 21⟩, ⟨1, ⟨"front", []⟩, [1, 8], 22, 24⟩],
            .idle, .idle, true) := by
  decide +kernel

/-- The theorem applied to that run: its history is linearizable to `bfifo 2`. -/
example : Linearizable (bfifo 2)
    [⟨0, ⟨"enq", [7]⟩, [1], 0, 3⟩, ⟨0, ⟨"enq", [8]⟩, [1], 4, 7⟩, ⟨0, ⟨"enq", [9]⟩, [0], 8, 11⟩,
     ⟨0, ⟨"enq", [9]⟩, [1], 15, 20⟩, ⟨1, ⟨"deq", []⟩, [1, 7], 12, 21⟩, ⟨1, ⟨"front", []⟩, [1, 8], 22, 24⟩] := by
  obtain ⟨⟨s, os⟩, hr, hh⟩ := Option.map_eq_some_iff.mp race_history
  simp only [Prod.mk.injEq] at hh
  obtain ⟨h1, h2, h3, h4⟩ := hh
  rw [← h1]
  exact C12_ring_linearizable_complete_runs 2 (by decide) raceSched s os hr (Ring.singleOps_of_check os h4) h2 h3

/-- Cross-check with the executable checker; and the failing push is essential: the same history with the failing
    `enq 9` answered `[1]` is not linearizable to `bfifo 2`. -/
example : linCheck (bfifo 2)
    [⟨0, ⟨"enq", [7]⟩, [1], 0, 3⟩, ⟨0, ⟨"enq", [8]⟩, [1], 4, 7⟩, ⟨0, ⟨"enq", [9]⟩, [0], 8, 11⟩,
     ⟨0, ⟨"enq", [9]⟩, [1], 15, 20⟩, ⟨1, ⟨"deq", []⟩, [1, 7], 12, 21⟩, ⟨1, ⟨"front", []⟩, [1, 8], 22, 24⟩] = true := by
  decide +kernel

example : linCheck (bfifo 2)
    [⟨0, ⟨"enq", [7]⟩, [1], 0, 3⟩, ⟨0, ⟨"enq", [8]⟩, [1], 4, 7⟩, ⟨0, ⟨"enq", [9]⟩, [1], 8, 11⟩,
     ⟨0, ⟨"enq", [9]⟩, [1], 15, 20⟩, ⟨1, ⟨"deq", []⟩, [1, 7], 12, 21⟩, ⟨1, ⟨"front", []⟩, [1, 8], 22, 24⟩] = false := by
  decide +kernel

end CdsVerif.Props.C12RingLin
