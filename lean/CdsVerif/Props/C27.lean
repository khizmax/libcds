/-
Property C27 — split-ordered list key functions
(`/repo/cds/intrusive/details/split_list_base.h` `regular_hash`, `dummy_hash`;
 `/repo/cds/intrusive/split_list.h` `bucket_no`, `parent_bucket`).

All theorems are about the GENERATED definitions of `CdsVerif.Gen.SplitOrder`, for all three
64-bit bit-reversal implementations (`swar`, `lookup`, `muldiv`).  The reasoning lives in
`CdsVerif.Algo.SplitOrder.Lemmas` over an abstract reversal; here it is instantiated with
the bit-reversal / msb theorems of property C25 (`CdsVerif.Props.C25`), so every theorem
below is unconditional.

DEVIATION FROM THE REQUESTED STATEMENT (not a weakening chosen for convenience — the
requested statement is false):  `C27_parent_dummy_before_X` carries the extra hypothesis
`b.toNat < 2^63`.  For bucket numbers with bit 63 set the parent's dummy key is EQUAL to the
bucket's dummy key (`dummy_hash` clears bit 0 of the reversed value, which is bit 63 of the
bucket number, i.e. exactly the bit `parent_bucket` removed); this is proved as
`C27_parent_dummy_collision_X` and witnessed by an `example` for `b = 2^63`.  A table of
`2^k` buckets with `k ≤ 63` never has such a bucket number.
-/
import CdsVerif.Gen.SplitOrder
import CdsVerif.Algo.SplitOrder.Lemmas
import CdsVerif.Props.C25

namespace CdsVerif.Props.C27

open CdsVerif.Gen.SplitOrder CdsVerif.Gen.BitReversal CdsVerif.Gen.BitopGeneric
open CdsVerif.Algo.SplitOrder

/-! ## Facts imported from property C25 (bit reversal, msb)

This block is the ONLY place that depends on `CdsVerif.Props.C25`. -/

open CdsVerif.Props.C25 in
private theorem swar_rev : ∀ x : BitVec 64, swar64 x = x.reverse := C25_swar64_reverse
open CdsVerif.Props.C25 in
private theorem lookup_rev : ∀ x : BitVec 64, lookup64 x = x.reverse := C25_lookup64_reverse
open CdsVerif.Props.C25 in
private theorem muldiv_rev : ∀ x : BitVec 64, muldiv_op64 x = x.reverse :=
  C25_muldiv_op64_reverse

private theorem msb_spec : ∀ b : BitVec 64, b ≠ 0 → (msb64nz b).toNat = Nat.log2 b.toNat :=
  fun b hb => (CdsVerif.Props.C25.C25_msb64nz_spec b hb).2.2

private theorem msb_ub : ∀ b : BitVec 64, msb64nz_ub b = false :=
  CdsVerif.Props.C25.C25_msb_lsb_no_ub.2.2.2.1

/-! ## The generated functions are the abstract ones (definitional unfolding) -/

example (h) : regular_hash_swar h = regularKey swar64 h := rfl
example (h) : regular_hash_lookup h = regularKey lookup64 h := rfl
example (h) : regular_hash_muldiv h = regularKey muldiv_op64 h := rfl
example (h) : dummy_hash_swar h = dummyKey swar64 h := rfl
example (h) : dummy_hash_lookup h = dummyKey lookup64 h := rfl
example (h) : dummy_hash_muldiv h = dummyKey muldiv_op64 h := rfl
example (b) : parent_bucket b = parentOf msb64nz b := rfl
example (k h) : bucket_no k h = bucketOf k h := rfl

/-! ## Parity: regular keys are odd, dummy keys are even -/

theorem C27_regular_odd_swar : ∀ h, (regular_hash_swar h).getLsbD 0 = true :=
  fun h => regular_odd swar64 h
theorem C27_regular_odd_lookup : ∀ h, (regular_hash_lookup h).getLsbD 0 = true :=
  fun h => regular_odd lookup64 h
theorem C27_regular_odd_muldiv : ∀ h, (regular_hash_muldiv h).getLsbD 0 = true :=
  fun h => regular_odd muldiv_op64 h

theorem C27_dummy_even_swar : ∀ h, (dummy_hash_swar h).getLsbD 0 = false :=
  fun h => dummy_even swar64 h
theorem C27_dummy_even_lookup : ∀ h, (dummy_hash_lookup h).getLsbD 0 = false :=
  fun h => dummy_even lookup64 h
theorem C27_dummy_even_muldiv : ∀ h, (dummy_hash_muldiv h).getLsbD 0 = false :=
  fun h => dummy_even muldiv_op64 h

/-! ## bucket_no / parent_bucket -/

theorem C27_bucket_no : ∀ (k : BitVec 64) h, k.toNat ≤ 63 →
    bucket_no_ub k h = false ∧ (bucket_no k h).toNat = h.toNat % 2 ^ k.toNat := by
  intro k h hk
  refine ⟨?_, bucketOf_spec k h hk⟩
  simp [bucket_no_ub]; omega

theorem C27_parent_bucket : ∀ b, b ≠ 0 →
    parent_bucket_ub b = false ∧
    (parent_bucket b).toNat = b.toNat - 2 ^ (Nat.log2 b.toNat) ∧
    (parent_bucket b).toNat < b.toNat := by
  intro b hb
  refine ⟨?_, parentOf_spec msb64nz msb_spec b hb⟩
  have := msbnz_lt_64 msb64nz msb_spec b hb
  simp [parent_bucket_ub, msb_ub]; omega

/-! ## A bucket's parent dummy sorts strictly before the bucket's dummy -/

theorem C27_parent_dummy_before_swar : ∀ b, b ≠ 0 → b.toNat < 2 ^ 63 →
    BitVec.ult (dummy_hash_swar (parent_bucket b)) (dummy_hash_swar b) = true :=
  fun b hb hlt => parent_dummy_before msb64nz msb_spec swar64 swar_rev b hb hlt
theorem C27_parent_dummy_before_lookup : ∀ b, b ≠ 0 → b.toNat < 2 ^ 63 →
    BitVec.ult (dummy_hash_lookup (parent_bucket b)) (dummy_hash_lookup b) = true :=
  fun b hb hlt => parent_dummy_before msb64nz msb_spec lookup64 lookup_rev b hb hlt
theorem C27_parent_dummy_before_muldiv : ∀ b, b ≠ 0 → b.toNat < 2 ^ 63 →
    BitVec.ult (dummy_hash_muldiv (parent_bucket b)) (dummy_hash_muldiv b) = true :=
  fun b hb hlt => parent_dummy_before msb64nz msb_spec muldiv_op64 muldiv_rev b hb hlt

/-- The hypothesis `b.toNat < 2^63` above cannot be dropped: for every bucket number with
    bit 63 set the parent's dummy key equals the bucket's dummy key. -/
theorem C27_parent_dummy_collision_swar : ∀ b : BitVec 64, 2 ^ 63 ≤ b.toNat →
    dummy_hash_swar (parent_bucket b) = dummy_hash_swar b :=
  fun b h => parent_dummy_collision msb64nz msb_spec swar64 swar_rev b h
theorem C27_parent_dummy_collision_lookup : ∀ b : BitVec 64, 2 ^ 63 ≤ b.toNat →
    dummy_hash_lookup (parent_bucket b) = dummy_hash_lookup b :=
  fun b h => parent_dummy_collision msb64nz msb_spec lookup64 lookup_rev b h
theorem C27_parent_dummy_collision_muldiv : ∀ b : BitVec 64, 2 ^ 63 ≤ b.toNat →
    dummy_hash_muldiv (parent_bucket b) = dummy_hash_muldiv b :=
  fun b h => parent_dummy_collision msb64nz msb_spec muldiv_op64 muldiv_rev b h

/-! ## Every regular key of bucket `b` sorts after `b`'s dummy … -/

theorem C27_dummy_before_regular_swar : ∀ (k : BitVec 64) h, k.toNat ≤ 63 →
    BitVec.ult (dummy_hash_swar (bucket_no k h)) (regular_hash_swar h) = true :=
  fun k h hk => dummy_before_regular swar64 swar_rev k h hk
theorem C27_dummy_before_regular_lookup : ∀ (k : BitVec 64) h, k.toNat ≤ 63 →
    BitVec.ult (dummy_hash_lookup (bucket_no k h)) (regular_hash_lookup h) = true :=
  fun k h hk => dummy_before_regular lookup64 lookup_rev k h hk
theorem C27_dummy_before_regular_muldiv : ∀ (k : BitVec 64) h, k.toNat ≤ 63 →
    BitVec.ult (dummy_hash_muldiv (bucket_no k h)) (regular_hash_muldiv h) = true :=
  fun k h hk => dummy_before_regular muldiv_op64 muldiv_rev k h hk

/-! ## … and before the dummy of any bucket that appears later in split order -/

theorem C27_contiguous_swar : ∀ (k : BitVec 64) h b', k.toNat ≤ 63 → b'.toNat < 2 ^ k.toNat →
    b' ≠ bucket_no k h →
    BitVec.ult (dummy_hash_swar (bucket_no k h)) (dummy_hash_swar b') = true →
    BitVec.ult (regular_hash_swar h) (dummy_hash_swar b') = true :=
  fun k h b' hk hb' _ hlt => contiguous swar64 swar_rev k h b' hk hb' hlt
theorem C27_contiguous_lookup : ∀ (k : BitVec 64) h b', k.toNat ≤ 63 → b'.toNat < 2 ^ k.toNat →
    b' ≠ bucket_no k h →
    BitVec.ult (dummy_hash_lookup (bucket_no k h)) (dummy_hash_lookup b') = true →
    BitVec.ult (regular_hash_lookup h) (dummy_hash_lookup b') = true :=
  fun k h b' hk hb' _ hlt => contiguous lookup64 lookup_rev k h b' hk hb' hlt
theorem C27_contiguous_muldiv : ∀ (k : BitVec 64) h b', k.toNat ≤ 63 → b'.toNat < 2 ^ k.toNat →
    b' ≠ bucket_no k h →
    BitVec.ult (dummy_hash_muldiv (bucket_no k h)) (dummy_hash_muldiv b') = true →
    BitVec.ult (regular_hash_muldiv h) (dummy_hash_muldiv b') = true :=
  fun k h b' hk hb' _ hlt => contiguous muldiv_op64 muldiv_rev k h b' hk hb' hlt

/-! ## Distinct buckets have distinct dummy keys -/

theorem C27_dummy_injective_swar : ∀ (k : BitVec 64) b b', k.toNat ≤ 63 →
    b.toNat < 2 ^ k.toNat → b'.toNat < 2 ^ k.toNat →
    dummy_hash_swar b = dummy_hash_swar b' → b = b' :=
  fun k b b' hk hb hb' h => dummy_injective swar64 swar_rev k b b' hk hb hb' h
theorem C27_dummy_injective_lookup : ∀ (k : BitVec 64) b b', k.toNat ≤ 63 →
    b.toNat < 2 ^ k.toNat → b'.toNat < 2 ^ k.toNat →
    dummy_hash_lookup b = dummy_hash_lookup b' → b = b' :=
  fun k b b' hk hb hb' h => dummy_injective lookup64 lookup_rev k b b' hk hb hb' h
theorem C27_dummy_injective_muldiv : ∀ (k : BitVec 64) b b', k.toNat ≤ 63 →
    b.toNat < 2 ^ k.toNat → b'.toNat < 2 ^ k.toNat →
    dummy_hash_muldiv b = dummy_hash_muldiv b' → b = b' :=
  fun k b b' hk hb hb' h => dummy_injective muldiv_op64 muldiv_rev k b b' hk hb hb' h

/-! ## Growing the table only splits a bucket's key range; no key moves

`C27_split_refines` (independent of the reversal implementation): going from `2^k` to
`2^(k+1)` buckets, the bucket of `h` is either unchanged (`b`) or the new bucket `b + 2^k`,
whose parent is `b`.  `C27_split_refines_X` (X = swar, lookup, muldiv) adds: the dummy of the new bucket `b + 2^k` sorts
strictly between `b`'s dummy and the dummy of every old bucket that follows `b`. -/

theorem C27_split_refines : ∀ (k : BitVec 64) h, k.toNat ≤ 62 →
    (bucket_no (k + 1#64) h = bucket_no k h ∨
      (bucket_no (k + 1#64) h).toNat = (bucket_no k h).toNat + 2 ^ k.toNat) ∧
    parent_bucket (bucket_no k h + (1#64 <<< k.toNat)) = bucket_no k h := by
  intro k h hk
  refine ⟨bucketOf_succ k h hk, ?_⟩
  exact (parentOf_add_two_pow msb64nz msb_spec (bucket_no k h) k.toNat (by omega)
    (bucketOf_lt k h (by omega))).2.2

/-- the same with the side condition stated on an arbitrary bucket number `b < 2^k` -/
theorem C27_split_parent : ∀ (k : BitVec 64) (b : BitVec 64), k.toNat ≤ 63 → b.toNat < 2 ^ k.toNat →
    (b + (1#64 <<< k.toNat)).toNat = b.toNat + 2 ^ k.toNat ∧
    parent_bucket (b + (1#64 <<< k.toNat)) = b := by
  intro k b hk hb
  have := parentOf_add_two_pow msb64nz msb_spec b k.toNat hk hb
  exact ⟨this.1, this.2.2⟩

theorem C27_split_refines_swar : ∀ (k : BitVec 64) h, k.toNat ≤ 62 →
    (bucket_no (k + 1#64) h = bucket_no k h ∨
      (bucket_no (k + 1#64) h).toNat = (bucket_no k h).toNat + 2 ^ k.toNat) ∧
    parent_bucket (bucket_no k h + (1#64 <<< k.toNat)) = bucket_no k h ∧
    (∀ b' : BitVec 64, b'.toNat < 2 ^ k.toNat →
      BitVec.ult (dummy_hash_swar (bucket_no k h)) (dummy_hash_swar b') = true →
      BitVec.ult (dummy_hash_swar (bucket_no k h))
        (dummy_hash_swar (bucket_no k h + (1#64 <<< k.toNat))) = true ∧
      BitVec.ult (dummy_hash_swar (bucket_no k h + (1#64 <<< k.toNat)))
        (dummy_hash_swar b') = true) := by
  intro k h hk
  obtain ⟨h1, h2⟩ := C27_split_refines k h hk
  exact ⟨h1, h2, fun b' hb' hlt => split_between msb64nz msb_spec swar64 swar_rev k.toNat _ b' hk
    (bucketOf_lt k h (by omega)) hb' hlt⟩

theorem C27_split_refines_lookup : ∀ (k : BitVec 64) h, k.toNat ≤ 62 →
    (bucket_no (k + 1#64) h = bucket_no k h ∨
      (bucket_no (k + 1#64) h).toNat = (bucket_no k h).toNat + 2 ^ k.toNat) ∧
    parent_bucket (bucket_no k h + (1#64 <<< k.toNat)) = bucket_no k h ∧
    (∀ b' : BitVec 64, b'.toNat < 2 ^ k.toNat →
      BitVec.ult (dummy_hash_lookup (bucket_no k h)) (dummy_hash_lookup b') = true →
      BitVec.ult (dummy_hash_lookup (bucket_no k h))
        (dummy_hash_lookup (bucket_no k h + (1#64 <<< k.toNat))) = true ∧
      BitVec.ult (dummy_hash_lookup (bucket_no k h + (1#64 <<< k.toNat)))
        (dummy_hash_lookup b') = true) := by
  intro k h hk
  obtain ⟨h1, h2⟩ := C27_split_refines k h hk
  exact ⟨h1, h2, fun b' hb' hlt => split_between msb64nz msb_spec lookup64 lookup_rev k.toNat _ b' hk
    (bucketOf_lt k h (by omega)) hb' hlt⟩

theorem C27_split_refines_muldiv : ∀ (k : BitVec 64) h, k.toNat ≤ 62 →
    (bucket_no (k + 1#64) h = bucket_no k h ∨
      (bucket_no (k + 1#64) h).toNat = (bucket_no k h).toNat + 2 ^ k.toNat) ∧
    parent_bucket (bucket_no k h + (1#64 <<< k.toNat)) = bucket_no k h ∧
    (∀ b' : BitVec 64, b'.toNat < 2 ^ k.toNat →
      BitVec.ult (dummy_hash_muldiv (bucket_no k h)) (dummy_hash_muldiv b') = true →
      BitVec.ult (dummy_hash_muldiv (bucket_no k h))
        (dummy_hash_muldiv (bucket_no k h + (1#64 <<< k.toNat))) = true ∧
      BitVec.ult (dummy_hash_muldiv (bucket_no k h + (1#64 <<< k.toNat)))
        (dummy_hash_muldiv b') = true) := by
  intro k h hk
  obtain ⟨h1, h2⟩ := C27_split_refines k h hk
  exact ⟨h1, h2, fun b' hb' hlt => split_between msb64nz msb_spec muldiv_op64 muldiv_rev k.toNat _ b' hk
    (bucketOf_lt k h (by omega)) hb' hlt⟩

/-! ## Satisfiability of the hypotheses / concrete values (evaluated by the kernel) -/

-- table of 2^2 = 4 buckets, hash 6: bucket 2, parent 0; at 8 buckets: bucket 6 = 2 + 4, parent 2
example : bucket_no 2#64 6#64 = 2#64 := by decide
example : bucket_no_ub 2#64 6#64 = false := by decide
example : parent_bucket 2#64 = 0#64 := by decide
example : parent_bucket_ub 2#64 = false := by decide
example : bucket_no 3#64 6#64 = 6#64 := by decide
example : parent_bucket 6#64 = 2#64 := by decide
example : parent_bucket 7#64 = 3#64 ∧ parent_bucket 3#64 = 1#64 ∧ parent_bucket 1#64 = 0#64 := by decide
-- key values: dummy(0) < dummy(2) < regular(6) < dummy(1) < dummy(3)     (split order 0,2,1,3)
example : dummy_hash_swar 0#64 = 0x0000000000000000#64 := by decide
example : dummy_hash_swar 2#64 = 0x4000000000000000#64 := by decide
example : dummy_hash_swar 6#64 = 0x6000000000000000#64 := by decide
example : regular_hash_swar 6#64 = 0x6000000000000001#64 := by decide
example : dummy_hash_swar 1#64 = 0x8000000000000000#64 := by decide
example : dummy_hash_swar 3#64 = 0xC000000000000000#64 := by decide
example : dummy_hash_lookup 2#64 = 0x4000000000000000#64 := by decide
example : regular_hash_lookup 6#64 = 0x6000000000000001#64 := by decide
example : dummy_hash_muldiv 2#64 = 0x4000000000000000#64 := by decide
example : regular_hash_muldiv 6#64 = 0x6000000000000001#64 := by decide
-- hypotheses of C27_contiguous are satisfiable: k = 2, h = 6 (bucket 2), b' = 1
example : (2#64).toNat ≤ 63 ∧ (1#64).toNat < 2 ^ (2#64).toNat ∧ 1#64 ≠ bucket_no 2#64 6#64 ∧
    BitVec.ult (dummy_hash_swar (bucket_no 2#64 6#64)) (dummy_hash_swar 1#64) = true ∧
    BitVec.ult (regular_hash_swar 6#64) (dummy_hash_swar 1#64) = true := by decide
-- hypotheses of C27_parent_dummy_before are satisfiable
example : (6#64 ≠ 0) ∧ (6#64).toNat < 2 ^ 63 ∧
    BitVec.ult (dummy_hash_swar (parent_bucket 6#64)) (dummy_hash_swar 6#64) = true := by decide
-- … and the counterexample without `b < 2^63`: bucket 2^63, parent 0, both dummy keys are 0
example : parent_bucket 0x8000000000000000#64 = 0#64 ∧
    dummy_hash_swar 0x8000000000000000#64 = 0#64 ∧ dummy_hash_swar 0#64 = 0#64 ∧
    BitVec.ult (dummy_hash_swar (parent_bucket 0x8000000000000000#64))
      (dummy_hash_swar 0x8000000000000000#64) = false := by decide
-- without `k ≤ 63` dummy keys are not injective: buckets 0 and 2^63 collide
example : dummy_hash_swar 0#64 = dummy_hash_swar 0x8000000000000000#64 := by decide
-- split: the new bucket 6 = 2 + 2^2 sits strictly between bucket 2 and its successor 1
example : BitVec.ult (dummy_hash_swar 2#64) (dummy_hash_swar (2#64 + (1#64 <<< 2))) = true ∧
    BitVec.ult (dummy_hash_swar (2#64 + (1#64 <<< 2))) (dummy_hash_swar 1#64) = true := by decide

end CdsVerif.Props.C27
