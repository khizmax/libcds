/-
  C23 — the theorems of Props/C23Kernel.lean, proved again for the REFINED kernel machine `Algo/FC/KernelR.lean`: the
  machine that carries the publication list in its real order and that `cdsdriver replay fckernel` runs against the
  atomic traces of the real `cds::algo::flat_combining::kernel` (harness/clients/fckernel.cpp).

  Why "proved again" and not "carried over by a simulation": `Algo/FC/Kernel.lean` walks the records in INDEX order, the
  real code (and `KernelR`) in LIST order, and the order in which requests are applied is visible (it decides the
  responses).  A run of `KernelR` is therefore in general not a run of `Kernel`; there is no step-by-step simulation
  between the two, and none is claimed.  Instead the invariant was re-established on `KernelR` itself
  (`KInvR`, Algo/FC/KernelRInv.lean … KernelRReach.lean: the 18 protocol clauses of `KInv` plus 9 clauses about the list) and
  every property theorem below is the statement of its `C23Kernel` namesake with `inList r` read as `r ∈ s.list`.
  The tied machine is thus itself the subject of the theorems; `Kernel.lean` remains as the smaller abstract model.

  All theorems: every configuration (N threads, compact-factor mask, pass count), every schedule, every client program,
  from the initial state of the tie (every thread has acquired and published its record: `KernelR.init`).

  NOT covered (unchanged): liveness; thread exit / `removed` / freeing of records (last clause of C23); batch_combine.
-/
import CdsVerif.Algo.FC.KernelRReach

namespace CdsVerif.Props.C23KernelR
open CdsVerif.Machine CdsVerif.Spec CdsVerif.Algo.FC.KernelR
open CdsVerif.Algo.FC.Kernel (Cfg RV RS Cont CS)

/-! ### One combiner at a time -/

theorem C23R_mutex (cfg : Cfg) (s : St) (h : (model cfg).Reachable (init cfg) s) :
    ∀ t1 t2, holds (s.pc t1) = true → holds (s.pc t2) = true → t1 = t2 := by
  have hinv := kinvr_reachable cfg s h
  intro t1 t2 h1 h2
  rw [hinv.hold t1 h1, hinv.hold t2 h2]

theorem C23R_lock_word (cfg : Cfg) (s : St) (h : (model cfg).Reachable (init cfg) s) :
    ∀ t, holds (s.pc t) = true → s.lock = true := by
  have hinv := kinvr_reachable cfg s h
  intro t ht
  cases hl : s.lock with
  | true => rfl
  | false => exact nomatch ht.symm.trans (hinv.lockFree hl t)

/-- `fc_apply` runs (the ghost counter moves, the container `ctr` and the result slot change) and req_Response is stored
    only in steps of the thread that holds the lock; the only other change of `execs` is the owner's reset when it
    stores a new request.  (Property of the transition function.) -/
theorem C23R_apply_by_combiner_only (cfg : Cfg) (s s' : St) (t : Tid) (ev : Ev) (k : Nat)
    (hs : step cfg s t = some (s', ev)) :
    (s'.execs k ≠ s.execs k →
        (s.pc t = .reqSt ∧ k = t ∧ s'.execs k = 0) ∨
        (holds (s.pc t) = true ∧ ∃ c, s.pc t = .cpExec c k ∧ s'.execs k = s.execs k + 1)) ∧
    (s.req k ≠ .resp → s'.req k = .resp → holds (s.pc t) = true ∧ ∃ c, s.pc t = .cpDone c k) ∧
    (s'.ctr ≠ s.ctr → holds (s.pc t) = true ∧ ∃ c j, s.pc t = .cpExec c j ∧ s'.ctr = s.ctr + 1 ∧ s'.res j = s.ctr) := by
  obtain ⟨q, -, -, -, -, hkind⟩ := step_kinds hs
  -- a word of an updated table differs from the old one only at the index written
  have hat : ∀ {α : Type} {f : Nat → α} {i : Nat} {v : α}, upd f i v k ≠ f k → k = i := fun hne =>
    Decidable.byContradiction fun e => hne (upd_other _ _ _ _ e)
  rcases hkind with ⟨hp, -, hr, he, hc⟩ | ⟨c, j, hp, -, hr, he, hc, hres⟩ | ⟨c, j, hp, -, hr, he, hc⟩ |
    ⟨hp, -, hr, he, hc⟩ | ⟨-, -, -, hr, he, hc⟩
  · refine ⟨fun hne => .inl ?_, fun h1 h2 => ?_, fun hne => absurd hc hne⟩
    · have hk : k = t := hat (he ▸ hne)
      exact ⟨hp, hk, by rw [he, hk, upd_same]⟩
    · rw [hr] at h2
      have hk : k = t := hat fun e => h1 (e.symm.trans h2)
      rw [hk, upd_same] at h2
      cases h2
  · refine ⟨fun hne => .inr ⟨by rw [hp]; rfl, c, ?_⟩, fun h1 h2 => absurd (hr ▸ h2) h1,
      fun _ => ⟨by rw [hp]; rfl, c, j, hp, hc, hres⟩⟩
    have hk : k = j := hat (he ▸ hne)
    exact ⟨hk ▸ hp, by rw [he, hk, upd_same]⟩
  · refine ⟨fun hne => absurd (he ▸ rfl) hne, fun h1 h2 => ⟨by rw [hp]; rfl, c, ?_⟩, fun hne => absurd hc hne⟩
    rw [hr] at h2
    have hk : k = j := hat fun e => h1 (e.symm.trans h2)
    exact hk ▸ hp
  · refine ⟨fun hne => absurd (he ▸ rfl) hne, fun h1 h2 => ?_, fun hne => absurd hc hne⟩
    rw [hr] at h2
    have hk : k = t := hat fun e => h1 (e.symm.trans h2)
    rw [hk, upd_same] at h2
    cases h2
  · exact ⟨fun hne => absurd (he ▸ rfl) hne, fun h1 h2 => absurd (hr ▸ h2) h1, fun hne => absurd hc hne⟩

/-! ### Exactly once -/

theorem C23R_exactly_once (cfg : Cfg) (s : St) (h : (model cfg).Reachable (init cfg) s) :
    (∀ r, s.execs r ≤ 1) ∧
    (∀ t, s.pc t = .relSt → s.execs t = 1) ∧
    (∀ t, s.pc t = .done → s.execs t = 1) := by
  have hinv := kinvr_reachable cfg s h
  exact ⟨hinv.le1, fun t ht => hinv.respExec t (hinv.rel t ht), hinv.fin⟩

theorem C23R_pending_not_executed (cfg : Cfg) (s : St) (h : (model cfg).Reachable (init cfg) s) :
    ∀ r, s.req r = .op → (∀ t c, s.pc t ≠ .cpDone c r) → s.execs r = 0 := by
  have hinv := kinvr_reachable cfg s h
  intro r hr hno
  exact hinv.opExec r hr fun hd => (doneIdx_iff.mp hd).elim fun c hc => hno _ c hc

/-! ### The response is observed only after the execution -/

theorem C23R_response_after_exec (cfg : Cfg) (s : St) (h : (model cfg).Reachable (init cfg) s) :
    (∀ r, s.req r = .resp → s.execs r = 1) ∧
    (∀ s' t ev r, step cfg s t = some (s', ev) → s.req r ≠ .resp → s'.req r = .resp →
        holds (s.pc t) = true ∧ (∃ c, s.pc t = .cpDone c r) ∧ s.execs r = 1 ∧ s'.execs r = 1) ∧
    (∀ t, s.pc t = .relSt → s.req t = .resp ∧ s.execs t = 1) ∧
    (∀ s' t ev, step cfg s t = some (s', ev) → (s.pc t = .wtReq ∨ s.pc t = .wtReq2) →
        (s'.pc t = .relSt ∨ s'.pc t = .wtUnlock) → s.req t = .resp) := by
  have hinv := kinvr_reachable cfg s h
  refine ⟨hinv.respExec, ?_, fun t ht => ⟨hinv.rel t ht, hinv.respExec t (hinv.rel t ht)⟩, ?_⟩
  · intro s' t ev r hs h1 h2
    obtain ⟨hh, c, hc⟩ := (C23R_apply_by_combiner_only cfg s s' t ev r hs).2.1 h1 h2
    have he := (hinv.atDone t r (doneIdx_iff.mpr ⟨c, hc⟩)).2
    refine ⟨hh, ⟨c, hc⟩, he, ?_⟩
    simp only [step, hc, Option.some.injEq, Prod.mk.injEq] at hs
    obtain ⟨rfl, -⟩ := hs
    exact he
  · intro s' t ev hs hpc hpc'
    rcases hpc with hpc | hpc <;> simp only [step, hpc, Option.some.injEq, Prod.mk.injEq] at hs <;>
      obtain ⟨rfl, -⟩ := hs <;> by_cases hr : s.req t = .resp <;> simp_all

/-! ### No request is lost -/

/-- The `assert( pRec->op() == req_Response )` after `combining( owner )` in `try_combining`. -/
theorem C23R_combiner_assert (cfg : Cfg) (s : St) (h : (model cfg).Reachable (init cfg) s) :
    ∀ t, postPass (s.pc t) = true → s.req t = .resp ∧ s.execs t = 1 := by
  have hinv := kinvr_reachable cfg s h
  exact fun t ht => ⟨hinv.post t ht, hinv.respExec t (hinv.post t ht)⟩

theorem C23R_no_request_lost (cfg : Cfg) (s : St) (h : (model cfg).Reachable (init cfg) s) :
    (∀ t, s.req t = .op → s.pc t ≠ .relSt ∧ s.pc t ≠ .done ∧ s.pc t ≠ .idle ∧ s.pc t ≠ .wtUnlock ∧
        postPass (s.pc t) = false) ∧
    (∀ t, s.pc t = .done → s.execs t = 1 ∧ s.req t = .empty) := by
  have hinv := kinvr_reachable cfg s h
  refine ⟨fun t ht => ?_, fun t ht => ⟨hinv.fin t ht, hinv.noReq t (by rw [ht]; rfl)⟩⟩
  -- at each of these program counters the invariant makes `s.req t` req_Response or empty
  have hne : s.req t ≠ .resp ∧ s.req t ≠ .empty := by rw [ht]; exact ⟨nofun, nofun⟩
  exact ⟨fun hp => hne.1 (hinv.rel t hp), fun hp => hne.2 (hinv.noReq t (by rw [hp]; rfl)),
    fun hp => hne.2 (hinv.noReq t (by rw [hp]; rfl)), fun hp => hne.1 (hinv.wtUnl t hp),
    Bool.eq_false_iff.mpr fun hp => hne.1 (hinv.post t hp)⟩

theorem C23R_owner_republishes (cfg : Cfg) (s s' : St) (t : Tid) (ev : Ev)
    (hs : step cfg s t = some (s', ev)) (hin : s.state t = .inactive) :
    (s.pc t = .wtState → s'.pc t = .pubCnt .wait) ∧
    (s.pc t = .lkRepub → s'.pc t = .pubCnt .lock) ∧
    (s.pc t = .acqLd → s'.pc t = .pubCnt .acq) := by
  refine ⟨?_, ?_, ?_⟩ <;> intro hpc <;> simp only [step, hpc, Option.some.injEq, Prod.mk.injEq] at hs <;>
    obtain ⟨rfl, -⟩ := hs <;> simp [hin]

/-- The combiner's own record during the walk IN LIST ORDER: while its request is pending it is in the first pass, its
    record is active, and the record is not behind the walk's position (`aheadIncl`: it is the record being treated or
    comes later in the list; `aheadStrict` when the walk is about to move on) — hence it will be visited. -/
theorem C23R_combiner_own_record (cfg : Cfg) (s : St) (h : (model cfg).Reachable (init cfg) s) :
    (∀ t, s.pc t = .cmbCnt → s.req t = .resp ∨ (t ∈ s.list ∧ s.state t = .active)) ∧
    (∀ t c p, cpIdx (s.pc t) = some (c, p) →
        s.req t = .resp ∨ (c.pass = 0 ∧ aheadIncl s.list p t ∧ s.state t = .active)) ∧
    (∀ t c p, cpNextIdx (s.pc t) = some (c, p) →
        s.req t = .resp ∨ (c.pass = 0 ∧ aheadStrict s.list p t ∧ s.state t = .active)) := by
  have hinv := kinvr_reachable cfg s h
  exact ⟨hinv.cmb, hinv.pass, hinv.passN⟩

/-- The publication list is well formed: no duplicates (no cycle), only active records, never the record of a thread
    that is inside `publish()`; an active record outside the list is in one of the two short windows (its owner is
    linking it / the combiner has unlinked it and is about to store `inactive`); the walk's position is in the list. -/
theorem C23R_list_wf (cfg : Cfg) (s : St) (h : (model cfg).Reachable (init cfg) s) :
    s.list.Nodup ∧
    (∀ r, r ∈ s.list → s.state r = .active ∧ inPub (s.pc r) = false) ∧
    (∀ r, s.state r = .active → r ∉ s.list →
        isLink (s.pc r) = true ∨ (∃ t, holds (s.pc t) = true ∧ inactIdx (s.pc t) = some r)) ∧
    (∀ t c k, cpIdx (s.pc t) = some (c, some k) ∨ cpNextIdx (s.pc t) = some (c, some k) → k ∈ s.list) := by
  have hinv := kinvr_reachable cfg s h
  exact ⟨hinv.nodup,
    fun r hr => ⟨Decidable.of_not_not fun hs => hinv.inact r hs hr,
      Bool.eq_false_iff.mpr fun hp => hinv.notIn r hp hr⟩,
    fun r h1 h2 => (hinv.unlinked r h1 h2).imp_right fun h3 => ⟨s.holder, holds_of_inactIdx h3, h3⟩,
    fun t c k hk => hk.elim (hinv.curIn t c k) (hinv.curInN t c k)⟩

/-! ### Runs evaluated by the kernel (`decide`) -/

def anyOp : GOp := ⟨"inc", []⟩

def view (s : St) :=
  (s.lock, s.count, s.ctr, s.list, (s.req 0, s.req 1), (s.state 0, s.state 1), (s.res 0, s.res 1), (s.execs 0, s.execs 1),
   (s.pc 0, s.pc 1))

def runView (cfg : Cfg) (sched : List (Tid × Act)) := ((model cfg).run (init cfg) sched).map (fun r => view r.1)

/-- The last observable of a run. -/
def lastObs (cfg : Cfg) (sched : List (Tid × Act)) : Option (Tid × Obs) :=
  ((model cfg).run (init cfg) sched).bind (fun r => r.2.getLast?)

/-- The schedule of a REAL run (harness case 0 of `fckernel --seed 1 --threads 2 --ops 2`: compact factor mask 0, one pass;
    thread 1 becomes the combiner, walks head -> r1 -> r0, serves both requests, compacts - nothing is old -, walks the
    allocated list, unlocks; thread 0, whose try_lock failed three times, takes the lock, finds req_Response, unlocks).
    The machine accepts it and ends with both requests executed once, results 0 and 1. -/
def realSchedule : List (Tid × Act) :=
  [(1, .invoke anyOp), (1, .step), (1, .step), (0, .invoke anyOp), (1, .step), (1, .step), (1, .step), (1, .step), (0, .step),
   (0, .step), (0, .step), (0, .step), (0, .step), (1, .step), (1, .step), (1, .step), (1, .step), (1, .step), (1, .step),
   (0, .step), (1, .step), (1, .step), (1, .step), (1, .step), (0, .step), (1, .step), (1, .step), (0, .step), (1, .step),
   (1, .step), (1, .step), (1, .step), (1, .step), (1, .step), (1, .step), (1, .step), (1, .step), (1, .step), (1, .step),
   (1, .step), (1, .step), (1, .step), (1, .step), (1, .ret), (0, .step), (0, .step), (0, .step), (0, .step), (0, .ret)]

set_option synthInstance.maxSize 4000 in
example : runView ⟨2, 0, 1⟩ realSchedule =
    some (false, 1, 2, [1, 0], (.empty, .empty), (.active, .active), (1, 0), (1, 1), (.idle, .idle)) := by
  decide +kernel

/-- The 21st line of that real trace is `T 1 A ld r1.next r0` (after the pre-pass): the machine computes the same event
    from its list. -/
example : lastObs ⟨2, 0, 1⟩ (realSchedule.take 21) = some (1, .ev ⟨"ld", "r1.next", "r0", ""⟩) := by decide +kernel

end CdsVerif.Props.C23KernelR
