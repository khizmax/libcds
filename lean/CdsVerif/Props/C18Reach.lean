/-
  Property C18, "reachable ⇒ well-formed" for the containers that have an atomic-step machine.

  `Props/C18.lean` proves what a WELL-FORMED dump of a container means (the abstraction is strictly increasing and
  duplicate-free, the ideal traversal yields exactly the abstraction, levels are sub-lists, split order …); that the
  dumps of the real objects at quiescent points ARE well-formed is checked on the explored schedules only (tie S).
  This file closes that gap on the side of the machines (`Algo/Michael`, `Algo/Lazy`, `Algo/SkipList`,
  `Algo/SplitList`, each proved for every schedule and tied to the real code by trace replay): a machine state is
  rendered in the dump format of `harness/clients/snap.cpp` by an executable `snapOf`, and for EVERY reachable state —
  every schedule, any number of threads, any client program, quiescent or not — the rendering is well-formed in the
  sense of `Base/Snapshot.lean` and its abstraction is the abstract set of the machine (the `absMap` of the
  linearizability theorems C13 / C14 / C15).  The corollaries instantiate `C18_list` / `C18_skiplist` /
  `C18_splitlist`.

  Reachability is stated as in the machines' own property files: `model.run init sched = some (s, os)` for a schedule
  `sched` (`Model.Reachable init s` is `∃ sched os, …`).

  What is proved in full, what in part:
  * MichaelList — full (`C18_michael_reachable_wf`, `C18_michael_traversal`).
  * LazyList — full for the LOGICAL chain in every reachable state (`C18_lazy_reachable_wf`); the words in MEMORY
    (what the real dump reads) spell the logical chain, without any marked node, in every reachable state in which no
    eraser is between its marking store and its unlink store, in particular in every quiescent state
    (`C18_lazy_memory_dump`, `C18_lazy_quiescent`).  Inside such a window the memory words form a cycle (the libcds
    variant writes a marked back-link to the head), see the example.
  * SkipListSet — level 0 only (`C18_skiplist_reachable_wf_partial`): the invariant of the machine does not speak
    about the order of the upper levels.
  * SplitListSet — `splitWf` in full for the dump that tells dummy nodes from items by the kind of the node
    (`C18_splitlist_reachable_wf`); the real dump tells them by the bucket table, which is the same whenever every
    linked dummy is published (`C18_splitlist_table_dump`), and that is so in every reachable state in which no thread
    is between linking a dummy node and publishing it, in particular in every quiescent state
    (`C18_splitlist_publication_invariant`, `C18_splitlist_published`, `C18_splitlist_quiescent_table_dump`).
  * Item counters: the Michael, Lazy and SkipList machines do not model the item counter.  The SplitList machine has
    `m_ItemCounter` (`items`): counting invariant for every reachable state (`C18_splitlist_counter_invariant`) and
    `size() = |abs| mod 2^64` at quiescence (`C18_splitlist_quiescent_size`, `…_exact`).
-/
import CdsVerif.Algo.Michael.Snap
import CdsVerif.Algo.Lazy.Snap
import CdsVerif.Algo.SkipList.Snap
import CdsVerif.Algo.SplitList.Snap
import CdsVerif.Props.C18
namespace CdsVerif.Props.C18Reach
open CdsVerif.Machine CdsVerif.Spec CdsVerif.Snapshot CdsVerif.Algo CdsVerif.Props.C18

def steps (t : Tid) (n : Nat) : List (Tid × Act) := List.replicate n (t, .step)
def ins (k v : Int) : GOp := ⟨"insert", [k, v]⟩
def era (k : Int) : GOp := ⟨"erase", [k]⟩
def fnd (k : Int) : GOp := ⟨"find", [k]⟩

/-- `C18_list` for a well-formed dump whose abstraction is known to be `ks` -/
theorem list_traversal {s : ListSnap} {ks : List Int} (hwf : listWf s = true) (habs : listAbs s = ks) :
    listTraverse s = ks ∧ ks.Pairwise (· < ·) ∧ ks.Nodup := by
  subst habs
  obtain ⟨hp, hn, ht⟩ := C18_list s hwf
  exact ⟨ht, hp, hn⟩

/-! ### MichaelList -/

/-- **C18 for every reachable state of the MichaelList machine.**  The dump `Michael.snapOf s` (raw chain from
    `m_pHead`: key, mark bit, `hasData = 1`) is well-formed; its abstraction is `Michael.absKeys s`, the keys of the
    machine's abstract map `absMap s` in chain order; these keys are strictly increasing; and ALL dumped nodes, the
    logically deleted ones included, have strictly increasing keys. -/
theorem C18_michael_reachable_wf (sched : List (Tid × Act)) (s : Michael.St) (os : List (Tid × Obs))
    (h : Michael.model.run Michael.init sched = some (s, os)) :
    listWf (Michael.snapOf s) = true ∧
    listAbs (Michael.snapOf s) = Michael.absKeys s ∧
    (∀ k, k ∈ Michael.absKeys s ↔ ∃ v, (k, v) ∈ Michael.absMap s) ∧
    (Michael.absKeys s).Pairwise (· < ·) ∧
    ((Michael.snapOf s).map (·.key)).Pairwise (· < ·) := by
  obtain ⟨L, hl⟩ := Michael.sinv_reachable s ⟨sched, os, h⟩
  exact ⟨hl.snap_wf, Michael.listAbs_snapOf s, Michael.mem_absKeys s, hl.absKeys_sorted, hl.snap_all_sorted⟩

/-- Corollary (`C18_list`): in every reachable state — in particular in every quiescent one — the forward traversal
    of the chain that skips logically deleted nodes visits exactly the abstract set, each key once, in strictly
    increasing order. -/
theorem C18_michael_traversal (sched : List (Tid × Act)) (s : Michael.St) (os : List (Tid × Obs))
    (h : Michael.model.run Michael.init sched = some (s, os)) :
    listTraverse (Michael.snapOf s) = Michael.absKeys s ∧
    (Michael.absKeys s).Pairwise (· < ·) ∧ (Michael.absKeys s).Nodup := by
  obtain ⟨hwf, habs, -, -, -⟩ := C18_michael_reachable_wf sched s os h
  exact list_traversal hwf habs

/-- Non-vacuity.  `insert 5`, `insert 7` by thread 0, then thread 1's `erase 5` up to and including its marking CAS:
    the reached (non-quiescent) state has the logically deleted node of key 5 still linked. -/
def michaelSched : List (Tid × Act) :=
  [(0, .invoke (ins 5 10))] ++ steps 0 4 ++ [(0, .ret), (0, .invoke (ins 7 20))] ++ steps 0 7 ++ [(0, .ret),
   (1, .invoke (era 5))] ++ steps 1 6

example : (Michael.model.run Michael.init michaelSched).map
    (fun r => (Michael.snapOf r.1, listWf (Michael.snapOf r.1), listAbs (Michael.snapOf r.1), Michael.absKeys r.1,
      listTraverse (Michael.snapOf r.1))) =
    some ([⟨5, true, true⟩, ⟨7, false, true⟩], true, [7], [7], [7]) := by decide +kernel

/-- A QUIESCENT reachable state with a logically deleted node still linked (the situation of the real dump quoted in
    `Props/C18.lean`): `insert 0` has finished its search in front of node 1, `erase 1` marks node 1, the insert links
    its node in front of it, the eraser's unlink CAS fails (`cas- head n2 n1`) and both return.  The dump is well-formed
    with abstraction `[0]`; a traversal that ignores marks (`michaelIter`) would visit key 1. -/
def michaelQuiescentMarked : List (Tid × Act) :=
  [(0, .invoke (ins 1 10))] ++ steps 0 4 ++ [(0, .ret), (0, .invoke (ins 0 20))] ++ steps 0 6 ++
  [(1, .invoke (era 1))] ++ steps 1 6 ++ steps 0 1 ++ [(0, .ret)] ++ steps 1 1 ++ [(1, .ret)]

set_option synthInstance.maxSize 2000 in
example : (Michael.model.run Michael.init michaelQuiescentMarked).map
    (fun r => (Michael.snapOf r.1, listWf (Michael.snapOf r.1), Michael.absKeys r.1, listTraverse (Michael.snapOf r.1),
      michaelIter (Michael.snapOf r.1), (List.range 4).all (fun t => r.1.pc t == .idle))) =
    some ([⟨0, false, true⟩, ⟨1, true, true⟩], true, [0], [0], [0, 1], true) := by decide +kernel

/-! ### LazyList -/

/-- **C18 for every reachable state of the LazyList machine, logical chain.**  The dump `Lazy.snapOf s` of the
    logical chain (ghost successor; between the sentinels) is well-formed; its abstraction is `Lazy.absKeys s`, the
    keys of the machine's abstract map; these are strictly increasing; and all nodes of the logical chain, the
    logically deleted ones included, have strictly increasing keys. -/
theorem C18_lazy_reachable_wf (sched : List (Tid × Act)) (s : Lazy.St) (os : List (Tid × Obs))
    (h : Lazy.model.run Lazy.init sched = some (s, os)) :
    listWf (Lazy.snapOf s) = true ∧
    listAbs (Lazy.snapOf s) = Lazy.absKeys s ∧
    (Lazy.absKeys s).Pairwise (· < ·) ∧
    ((Lazy.snapOf s).map (·.key)).Pairwise (· < ·) := by
  obtain ⟨L, hl⟩ := Lazy.sinv_reachable s ⟨sched, os, h⟩
  exact ⟨hl.snap_wf, Lazy.listAbs_snapOf s, hl.absKeys_sorted, hl.snap_all_sorted⟩

/-- **The words in memory.**  In every reachable state in which no thread is between the marking store and the
    unlink store of `unlink_node` (`Lazy.NoWindow`), the chain read from memory (`Lazy.memSnapOf`: what
    `LazySnap::dump` prints) is the logical chain, and no node on it is marked. -/
theorem C18_lazy_memory_dump (sched : List (Tid × Act)) (s : Lazy.St) (os : List (Tid × Obs))
    (h : Lazy.model.run Lazy.init sched = some (s, os)) (hn : Lazy.NoWindow s) :
    Lazy.memSnapOf s = Lazy.snapOf s ∧ ∀ n ∈ Lazy.snapOf s, n.marked = false := by
  obtain ⟨L, hl, hw⟩ := Lazy.swin_reachable s ⟨sched, os, h⟩
  exact hl.memSnap_eq hw hn

/-- **C18 for every quiescent reachable state of the LazyList machine, memory dump.**  When no operation is in
    progress the dump read from memory is well-formed, contains no logically deleted node, its abstraction is the
    abstract set, and (`C18_list`) the traversal visits exactly the abstract set in strictly increasing order.
    Because no marked node is linked, the library's own iterator (which does not look at marks: `michaelIter`) agrees
    with the ideal traversal here — unlike MichaelList (see the example in `Props/C18.lean`). -/
theorem C18_lazy_quiescent (sched : List (Tid × Act)) (s : Lazy.St) (os : List (Tid × Obs))
    (h : Lazy.model.run Lazy.init sched = some (s, os)) (hq : ∀ t, s.pc t = .idle) :
    listWf (Lazy.memSnapOf s) = true ∧
    listAbs (Lazy.memSnapOf s) = Lazy.absKeys s ∧
    (∀ n ∈ Lazy.memSnapOf s, n.marked = false) ∧
    listTraverse (Lazy.memSnapOf s) = Lazy.absKeys s ∧
    michaelIter (Lazy.memSnapOf s) = Lazy.absKeys s ∧
    (Lazy.absKeys s).Pairwise (· < ·) ∧ (Lazy.absKeys s).Nodup := by
  obtain ⟨hwf, habs, hso, -⟩ := C18_lazy_reachable_wf sched s os h
  obtain ⟨e, hm⟩ := C18_lazy_memory_dump sched s os h (Lazy.noWindow_of_idle hq)
  rw [e]
  obtain ⟨htrav, -, hnodup⟩ := list_traversal hwf habs
  exact ⟨hwf, habs, hm, htrav, by rw [michaelIter_eq_abs _ hm, habs], hso, hnodup⟩

/-- Corollary for every reachable state (logical chain). -/
theorem C18_lazy_traversal (sched : List (Tid × Act)) (s : Lazy.St) (os : List (Tid × Obs))
    (h : Lazy.model.run Lazy.init sched = some (s, os)) :
    listTraverse (Lazy.snapOf s) = Lazy.absKeys s ∧ (Lazy.absKeys s).Pairwise (· < ·) ∧ (Lazy.absKeys s).Nodup := by
  obtain ⟨hwf, habs, -, -⟩ := C18_lazy_reachable_wf sched s os h
  exact list_traversal hwf habs

/-- Non-vacuity.  `insert 5`, `insert 7` by thread 0, then thread 1's `erase 5`. -/
def lazySched (n : Nat) : List (Tid × Act) :=
  [(0, .invoke (ins 5 10))] ++ steps 0 11 ++ [(0, .ret), (0, .invoke (ins 7 20))] ++ steps 0 13 ++ [(0, .ret),
   (1, .invoke (era 5))] ++ steps 1 n

/-- … up to and including the marking store (9 steps): inside the window.  The logical chain is well-formed with
    abstraction `[7]`; the words in memory are cyclic (node 5 points back to the head), so the walk of the real dump
    meets node 5 again and again (`chain-cycle`) and never sees node 7. -/
example : (Lazy.model.run Lazy.init (lazySched 9)).map
    (fun r => (Lazy.snapOf r.1, listWf (Lazy.snapOf r.1), listAbs (Lazy.snapOf r.1), Lazy.absKeys r.1,
      Lazy.memSnapOf r.1)) =
    some ([⟨5, true, true⟩, ⟨7, false, true⟩], true, [7], [7], [⟨5, true, true⟩, ⟨5, true, true⟩]) := by
  decide +kernel

/-- … to its end (12 steps and the return): quiescent; memory and logical chain agree, no marked node. -/
example : (Lazy.model.run Lazy.init (lazySched 12 ++ [(1, .ret)])).map
    (fun r => (Lazy.memSnapOf r.1, Lazy.snapOf r.1, listWf (Lazy.memSnapOf r.1), Lazy.absKeys r.1,
      (List.range 4).all (fun t => r.1.pc t == .idle))) =
    some ([⟨7, false, true⟩], [⟨7, false, true⟩], true, [7], true) := by decide +kernel

/-! ### SkipListSet -/

/- The statement at full strength (NOT proved):

     theorem C18_skiplist_reachable_wf (c : SkipList.Cfg) (hc : 0 < c.maxH) (hmt : c.markTest = true) sched s os
         (h : (SkipList.model c).run (SkipList.init c) sched = some (s, os)) :
         skipWf (SkipList.snapOf c.maxH s) = true ∧ skipAbs (SkipList.snapOf c.maxH s) = SkipList.absKeys s

   `skipWf` is "level 0 strictly increasing" ∧ `subChain` ("every level is a sub-list of the level below").  The
   invariant of the machine (`SkipList.SInvL`) fixes the level-0 chain and, for the upper levels, only that every
   tower word holds null or a published item with a tall enough tower; the ORDER of the upper levels and the sub-list
   relation are checked on replayed traces (`SkipList.invB`) but not proved.  Missing for the full statement: an
   inductive invariant "the level-`l` chain from the head is a sub-list of the level-`(l-1)` chain" over the towers
   being linked bottom-up and unlinked top-down. -/

/-- **C18 for every reachable state of the SkipListSet machine, level 0** (any configuration with
    `c_nMaxHeight ≥ 1`, repaired fast path).  Level 0 of the dump (`SkipList.snapOf0`: the level-0 chain from the
    head tower; key, mark bit of `next[0]`) is well-formed and its abstraction is `SkipList.absKeys s`, the keys of
    the machine's abstract map.  For the dump of all levels (`SkipList.snapOf c.maxH s`): its level 0 is that chain,
    so the first conjunct of `skipWf` holds and its abstraction is the abstract set.  Marks: a tower marked on level 0
    is marked on every level.  NOT covered: `subChain` of the upper levels. -/
theorem C18_skiplist_reachable_wf_partial (c : SkipList.Cfg) (hc : 0 < c.maxH) (hmt : c.markTest = true)
    (sched : List (Tid × Act)) (s : SkipList.St) (os : List (Tid × Obs))
    (h : (SkipList.model c).run (SkipList.init c) sched = some (s, os)) :
    skipWf (SkipList.snapOf0 s) = true ∧
    skipAbs (SkipList.snapOf0 s) = SkipList.absKeys s ∧
    (SkipList.absKeys s).Pairwise (· < ·) ∧
    (SkipList.snapOf c.maxH s).headD [] = SkipList.snapLevel s 0 ∧
    sortedLt (levelKeys ((SkipList.snapOf c.maxH s).headD [])) = true ∧
    skipAbs (SkipList.snapOf c.maxH s) = SkipList.absKeys s ∧
    (∀ a, s.mark a 0 = true → ∀ l, l < s.ht a → s.mark a l = true) := by
  obtain ⟨L, hl⟩ := SkipList.sinv_run hc hmt sched s os h
  refine ⟨hl.snap0_wf, SkipList.skipAbs_snapOf0 s, hl.absKeys_sorted, SkipList.snapOf_head c.maxH s hc, ?_,
    SkipList.skipAbs_snapOf c.maxH s hc, hl.level0.2.2⟩
  rw [SkipList.snapOf_head c.maxH s hc]
  exact (sortedLt_iff _).2 hl.level0_keys_sorted

/-- Corollary (`C18_skiplist` on level 0): in every reachable state the unmarked keys of level 0 — what a traversal
    of level 0 that skips logically deleted towers visits — are exactly the abstract set, strictly increasing and
    duplicate-free; all keys of level 0, marked ones included, are strictly increasing. -/
theorem C18_skiplist_traversal (c : SkipList.Cfg) (hc : 0 < c.maxH) (hmt : c.markTest = true)
    (sched : List (Tid × Act)) (s : SkipList.St) (os : List (Tid × Obs))
    (h : (SkipList.model c).run (SkipList.init c) sched = some (s, os)) :
    skipAbs (SkipList.snapOf c.maxH s) = SkipList.absKeys s ∧
    (SkipList.absKeys s).Pairwise (· < ·) ∧ (SkipList.absKeys s).Nodup ∧
    (levelKeys (SkipList.snapLevel s 0)).Pairwise (· < ·) := by
  obtain ⟨hwf, habs, -, -, -, hfull, -⟩ := C18_skiplist_reachable_wf_partial c hc hmt sched s os h
  have := C18_skiplist _ hwf
  rw [habs] at this
  exact ⟨hfull, this.2.2.2.1, this.2.2.2.2, by simpa [skipLevels, SkipList.snapOf0] using this.1 0 (by simp [skipLevels, SkipList.snapOf0])⟩

/-- Non-vacuity (the run of `Props/C15SkipList.lean`: towers of height 2 and 3 inserted in a race, then `erase 3` up to
    and including its level-0 marking CAS).  The reached state has the logically deleted tower of key 3 linked on all
    three levels; here the FULL dump is well-formed, upper levels included. -/
def skipCfg : SkipList.Cfg := { maxH := 3, ht := fun j => if j = 1 then 2 else 3 }
def skipSched : List (Tid × Act) :=
  [(0, .invoke (ins 5 10)), (1, .invoke (ins 3 20))] ++ steps 0 6 ++ steps 1 6 ++ steps 0 4 ++ steps 1 21 ++ [(1, .ret)] ++
  steps 0 16 ++ [(0, .ret), (0, .invoke (era 3))] ++ steps 0 18

example : ((SkipList.model skipCfg).run (SkipList.init skipCfg) skipSched).map
    (fun r => (SkipList.snapOf 3 r.1, skipWf (SkipList.snapOf 3 r.1), skipWf (SkipList.snapOf0 r.1),
      skipAbs (SkipList.snapOf 3 r.1), SkipList.absKeys r.1)) =
    some ([[⟨3, true⟩, ⟨5, false⟩], [⟨3, true⟩, ⟨5, false⟩], [⟨3, true⟩]], true, true, [5], [5]) := by decide +kernel

/-! ### SplitListSet -/

/-- **C18 for every reachable state of the SplitListSet machine** (any configuration satisfying the split-order
    hypotheses `SOHyp` whose `regular_hash` / `dummy_hash` produce 64-bit words).  The dump `SplitList.snapOf s` (raw
    chain of the underlying list from the dummy of bucket 0: `m_nHash`, node kind, user key, mark bit) is well-formed
    — starts with the dummy of bucket 0, dummy nodes even and items odd split-order keys below `2^64`, strictly
    increasing in split order —, its abstraction is `SplitList.absKeys s`, the keys of the machine's abstract map in
    split order, and these are pairwise different. -/
theorem C18_splitlist_reachable_wf (c : SplitList.Cfg) (hc : SplitList.SOHyp c) (hw : SplitList.Word64 c)
    (sched : List (Tid × Act)) (s : SplitList.St) (os : List (Tid × Obs))
    (h : (SplitList.model c).run (SplitList.init c) sched = some (s, os)) :
    splitWf (SplitList.snapOf s) = true ∧
    splitAbs (SplitList.snapOf s) = SplitList.absKeys s ∧
    (SplitList.absKeys s).Nodup := by
  obtain ⟨L, hl⟩ := SplitList.sinv_reachable hc s ⟨sched, os, h⟩
  have hk := SplitList.keyOk_reachable s ⟨sched, os, h⟩
  exact ⟨hl.snap_wf hc hk hw, SplitList.splitAbs_snapOf s, SplitList.reachable_no_duplicate_keys hc s ⟨sched, os, h⟩⟩

/-- The configuration of the real code (64-bit bit-reversed keys, any hash functor of the harness, any capacity up to
    `2^63`, any load factor) is an instance. -/
theorem C18_splitlist_reachable_wf_cfg64 (mode cap lf : Nat) (hcap : cap ≤ 2 ^ 63)
    (sched : List (Tid × Act)) (s : SplitList.St) (os : List (Tid × Obs))
    (h : (SplitList.model (SplitList.cfg64 mode cap lf)).run (SplitList.init (SplitList.cfg64 mode cap lf)) sched =
      some (s, os)) :
    splitWf (SplitList.snapOf s) = true ∧ splitAbs (SplitList.snapOf s) = SplitList.absKeys s ∧
      (SplitList.absKeys s).Nodup :=
  C18_splitlist_reachable_wf _ (SplitList.cfg64_hyp mode cap lf hcap) (SplitList.cfg64_word64 mode cap lf) sched s os h

/-- The dump as the real client computes it ("is a dummy" = the bucket table refers to the node) is the dump above
    in every reachable state in which exactly the linked dummy nodes are referred to by the table (`Published`; see
    `C18_splitlist_published` for when that is; between the linking CAS and the publishing store it is false, see the
    example). -/
theorem C18_splitlist_table_dump (c : SplitList.Cfg) (hc : SplitList.SOHyp c) (hw : SplitList.Word64 c)
    (sched : List (Tid × Act)) (s : SplitList.St) (os : List (Tid × Obs))
    (h : (SplitList.model c).run (SplitList.init c) sched = some (s, os)) (hp : SplitList.Published s) :
    SplitList.tabSnapOf s = SplitList.snapOf s ∧ splitWf (SplitList.tabSnapOf s) = true ∧
    splitAbs (SplitList.tabSnapOf s) = SplitList.absKeys s := by
  obtain ⟨h1, h2, -⟩ := C18_splitlist_reachable_wf c hc hw sched s os h
  rw [SplitList.tabSnapOf_eq hp]
  exact ⟨rfl, h1, h2⟩

/-- Corollary (`C18_splitlist`): in every reachable state the chain is strictly increasing in split order, starts
    with the dummy of bucket 0, dummies are exactly the nodes with even split-order keys, every item lies in the
    segment of a dummy before it, and the traversal in split order (items, unmarked) yields exactly the abstract set,
    every key once. -/
theorem C18_splitlist_traversal (c : SplitList.Cfg) (hc : SplitList.SOHyp c) (hw : SplitList.Word64 c)
    (sched : List (Tid × Act)) (s : SplitList.St) (os : List (Tid × Obs))
    (h : (SplitList.model c).run (SplitList.init c) sched = some (s, os)) :
    (SplitList.snapOf s).Pairwise SoLt ∧
    (∃ d t, SplitList.snapOf s = d :: t ∧ d.isDummy = true ∧ d.so = 0) ∧
    (∀ n ∈ SplitList.snapOf s, (n.isDummy = true ↔ n.so % 2 = 0) ∧ n.so < 2 ^ 64) ∧
    (∀ pre r post, SplitList.snapOf s = pre ++ r :: post → r.isDummy = false →
      (∃ d ∈ pre, d.isDummy = true) ∧ (∀ d ∈ pre, d.isDummy = true → d.so < r.so) ∧
      (∀ d ∈ post, d.isDummy = true → r.so < d.so)) ∧
    splitAbs (SplitList.snapOf s) = SplitList.absKeys s ∧ (SplitList.absKeys s).Nodup := by
  obtain ⟨h1, h2, h3⟩ := C18_splitlist_reachable_wf c hc hw sched s os h
  have := C18_splitlist _ h1
  exact ⟨this.1, this.2.1, this.2.2.1, this.2.2.2.1, h2, h3⟩

/-- **Publication invariant, every reachable state.**  A linked dummy node is referred to by the bucket table, by an
    entry below the current bucket count `2 ^ m_nBucketCountLog2`, or some thread is at the store that publishes it
    (`iPub`, just after the CAS that linked it); and every set table entry lies below the bucket count. -/
theorem C18_splitlist_publication_invariant (c : SplitList.Cfg) (hc : SplitList.SOHyp c)
    (sched : List (Tid × Act)) (s : SplitList.St) (os : List (Tid × Obs))
    (h : (SplitList.model c).run (SplitList.init c) sched = some (s, os)) :
    (∀ d, d ∈ SplitList.absNodes s → d % 2 = 0 →
      (∃ b, b < 2 ^ s.cnt2 ∧ s.table b = some d) ∨ ∃ t o stk, s.pc t = .iPub o stk d) ∧
    (∀ b d, s.table b = some d → b < 2 ^ s.cnt2) := by
  obtain ⟨L, hl, hP, -, hT⟩ := SplitList.pbinv_reachable hc s ⟨sched, os, h⟩
  refine ⟨fun d hd hev => ?_, hT⟩
  rw [hl.absNodes_eq] at hd
  rcases hP d hd hev with ⟨b, hb⟩ | ⟨t, ht⟩
  · exact Or.inl ⟨b, hT b d hb, hb⟩
  · obtain ⟨o, stk, e⟩ := SplitList.pcPub_spec ht
    exact Or.inr ⟨t, o, stk, e⟩

/-- In every reachable state in which no thread is at the publishing store (`SplitList.NoPub`), the bucket table
    (below the bucket count) refers to exactly the linked dummy nodes. -/
theorem C18_splitlist_published (c : SplitList.Cfg) (hc : SplitList.SOHyp c)
    (sched : List (Tid × Act)) (s : SplitList.St) (os : List (Tid × Obs))
    (h : (SplitList.model c).run (SplitList.init c) sched = some (s, os)) (hn : SplitList.NoPub s) :
    SplitList.Published s := by
  obtain ⟨L, hl, hP, -, hT⟩ := SplitList.pbinv_reachable hc s ⟨sched, os, h⟩
  exact SplitList.published_of_noPub hl hP hT hn

/-- **C18 for every quiescent reachable state of the SplitListSet machine, the dump as the REAL client computes it**
    (dummy nodes = the nodes the bucket table refers to): it is the kind-based dump, it is well-formed, its abstraction
    is the abstract set, and the present keys are pairwise different. -/
theorem C18_splitlist_quiescent_table_dump (c : SplitList.Cfg) (hc : SplitList.SOHyp c) (hw : SplitList.Word64 c)
    (sched : List (Tid × Act)) (s : SplitList.St) (os : List (Tid × Obs))
    (h : (SplitList.model c).run (SplitList.init c) sched = some (s, os)) (hq : ∀ t, s.pc t = .idle) :
    SplitList.tabSnapOf s = SplitList.snapOf s ∧ splitWf (SplitList.tabSnapOf s) = true ∧
    splitAbs (SplitList.tabSnapOf s) = SplitList.absKeys s ∧ (SplitList.absKeys s).Nodup := by
  have hp := C18_splitlist_published c hc sched s os h (SplitList.noPub_of_idle hq)
  obtain ⟨h1, h2, h3⟩ := C18_splitlist_table_dump c hc hw sched s os h hp
  exact ⟨h1, h2, h3, (C18_splitlist_reachable_wf c hc hw sched s os h).2.2⟩

/-! #### Item counter

  The SplitList machine models `m_ItemCounter` (`St.items`: `add items` after the linking CAS of a successful `insert`,
  `sub items` after the marking CAS of a successful `erase`, `size_t` arithmetic). -/

/-- **Counting invariant, every reachable state.**  For a duplicate-free list `T` of threads outside which every thread
    is idle: the counter plus the number of threads that have linked an item but not yet incremented
    (`SplitList.addP`: at `cLd1` / `cAdd`) equals, modulo `2^64`, the number of present keys plus the number of threads
    that have marked an item but not yet decremented (`SplitList.subP`: at `eUnl` / `cSub`); the counter is a 64-bit
    word. -/
theorem C18_splitlist_counter_invariant (c : SplitList.Cfg) (hc : SplitList.SOHyp c)
    (sched : List (Tid × Act)) (s : SplitList.St) (os : List (Tid × Obs))
    (h : (SplitList.model c).run (SplitList.init c) sched = some (s, os)) :
    ∃ T : List Tid, T.Nodup ∧ (∀ t, t ∉ T → s.pc t = .idle) ∧ s.items < 2 ^ 64 ∧
      (s.items + T.countP (fun t => SplitList.addP (s.pc t))) % 2 ^ 64 =
        ((SplitList.absKeys s).length + T.countP (fun t => SplitList.subP (s.pc t))) % 2 ^ 64 := by
  obtain ⟨L, -, T, h1, h2, h3, h4⟩ := SplitList.scinv_reachable hc s ⟨sched, os, h⟩
  exact ⟨T, h1, h2, h3, by simpa [SplitList.absKeys] using h4⟩

/-- **`size()` at quiescent states.**  When no operation is in progress the item counter is the number of present keys,
    modulo the word size … -/
theorem C18_splitlist_quiescent_size (c : SplitList.Cfg) (hc : SplitList.SOHyp c)
    (sched : List (Tid × Act)) (s : SplitList.St) (os : List (Tid × Obs))
    (h : (SplitList.model c).run (SplitList.init c) sched = some (s, os)) (hq : ∀ t, s.pc t = .idle) :
    s.items = (SplitList.absKeys s).length % 2 ^ 64 := by
  obtain ⟨L, -, T, hT⟩ := SplitList.scinv_reachable hc s ⟨sched, os, h⟩
  simpa [SplitList.absKeys] using hT.quiescent hq

/-- … hence exactly that number while fewer than `2^64` keys are present; `empty()` (= `size() == 0`) agrees as well. -/
theorem C18_splitlist_quiescent_size_exact (c : SplitList.Cfg) (hc : SplitList.SOHyp c)
    (sched : List (Tid × Act)) (s : SplitList.St) (os : List (Tid × Obs))
    (h : (SplitList.model c).run (SplitList.init c) sched = some (s, os)) (hq : ∀ t, s.pc t = .idle)
    (hb : (SplitList.absKeys s).length < 2 ^ 64) :
    s.items = (SplitList.absKeys s).length ∧ (s.items = 0 ↔ SplitList.absKeys s = []) := by
  have := C18_splitlist_quiescent_size c hc sched s os h hq
  rw [Nat.mod_eq_of_lt hb] at this
  exact ⟨this, by rw [this]; exact List.length_eq_zero_iff⟩

/-- Non-vacuity (the run of `Props/C14SplitList.lean`, harness configuration): keys 2, 4, 6 inserted through bucket
    0, the table grows to 4 buckets, `find 2` initialises bucket 2 — its dummy lands between key 4 and key 2. -/
def splitCfg : SplitList.Cfg := SplitList.cfg64 0 64 1
def splitSched : List (Tid × Act) :=
  [(0, .invoke (ins 2 10))] ++ steps 0 8 ++ [(0, .ret), (0, .invoke (ins 4 20))] ++ steps 0 11 ++ [(0, .ret),
   (0, .invoke (ins 6 30))] ++ steps 0 17 ++ [(0, .ret), (1, .invoke (fnd 2))] ++ steps 1 22 ++ [(1, .ret)]

set_option synthInstance.maxSize 2000 in
/-- the quiescent end: kind-based and table-based dump agree, `m_ItemCounter` is 3 = the number of present keys -/
example : ((SplitList.model splitCfg).run (SplitList.init splitCfg) splitSched).map
    (fun r => (SplitList.snapOf r.1, SplitList.tabSnapOf r.1 == SplitList.snapOf r.1, splitWf (SplitList.snapOf r.1),
      splitAbs (SplitList.snapOf r.1), SplitList.absKeys r.1, r.1.items)) =
    some ([⟨0, true, 0, false⟩, ⟨2305843009213693953, false, 4, false⟩, ⟨4611686018427387904, true, 2, false⟩,
           ⟨4611686018427387905, false, 2, false⟩, ⟨6917529027641081857, false, 6, false⟩],
          true, true, [4, 2, 6], [4, 2, 6], 3) := by decide +kernel

/-- just after the CAS that links the dummy of bucket 2 (node id 2), before `st b2 d1`: the kind-based dump is
    well-formed, the table-based dump is not (an even split-order key with `isDummy = 0`); thread 1 is at the publishing
    store with that node (second alternative of `C18_splitlist_publication_invariant`) -/
example : ((SplitList.model splitCfg).run (SplitList.init splitCfg) (splitSched.take 59)).map
    (fun r => (splitWf (SplitList.snapOf r.1), (SplitList.tabSnapOf r.1)[2]?, splitWf (SplitList.tabSnapOf r.1),
      r.1.table 2, SplitList.pcPub (r.1.pc 1))) =
    some (true, some ⟨4611686018427387904, false, 0, false⟩, false, none, some 2) := by decide +kernel

/-- the counting invariant in a non-quiescent state: thread 0's third insert has linked its item (3 present keys) and
    is at `cAdd`, the counter still reads 2 -/
example : ((SplitList.model splitCfg).run (SplitList.init splitCfg) (splitSched.take 36)).map
    (fun r => (r.1.items, (SplitList.absKeys r.1).length, SplitList.addP (r.1.pc 0), SplitList.subP (r.1.pc 0))) =
    some (2, 3, true, false) := by decide +kernel

end CdsVerif.Props.C18Reach
