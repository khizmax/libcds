/-
  C01 — hazard-pointer reclamation never frees an object a guard still protects.
  Property theorems about the reclamation decision (pure part of scan).  The interleaving-level theorems over the
  protocol machine are in Props/C01Protocol.lean.
-/
import CdsVerif.Algo.HP.ScanLemmas

namespace CdsVerif.Props.C01
open CdsVerif.Algo.HP

/-- Classic scan: nothing that equals a collected (non-null) hazard pointer is handed to the disposer. -/
theorem C01_classic_scan_frees_no_hazard (hazards retired : List Ptr) :
    ∀ p ∈ (classicScan hazards retired).2, p ≠ 0 → p ∉ hazards :=
  fun _ hp hne hmem => (mem_classicScan_freed.mp hp).2 ⟨hmem, hne⟩

/-- In-place scan (including the fall-back to the classic path when a retired address is odd). -/
theorem C01_inplace_scan_frees_no_hazard (hazards retired : List Ptr) :
    ∀ p ∈ (inplaceScan hazards retired).2, p ≠ 0 → p ∉ hazards :=
  fun _ hp hne hmem => (mem_inplaceScan_freed.mp hp).2 ⟨hmem, hne⟩

/-- Non-vacuity and the shape of the defect the machinery found in the original source: a scan that tests
    the FIRST retired pointer for every entry frees a guarded object. -/
example : classicScan [184, 104] [120, 184, 152, 24] = ([184], [120, 152, 24]) := by decide
example :
    let buggy (hz rt : List Ptr) := if hz.contains (rt.headD 0) then (rt, ([] : List Ptr)) else (([] : List Ptr), rt)
    184 ∈ (buggy [184, 104] [120, 184, 152, 24]).2 := by decide

end CdsVerif.Props.C01
