/-
  C03 — HP/DHP dispose every retired object exactly once.
  Property theorems about the reclamation decision (pure part of scan).
-/
import CdsVerif.Props.C01
namespace CdsVerif.Props.C03
open CdsVerif.Algo.HP

/-- A scan neither loses nor duplicates a retired entry: what it keeps plus what it frees is exactly
    (a permutation of) the retired array — so an entry is freed at most once per pass and stays retired otherwise. -/
theorem C03_classic_scan_partition (hazards retired : List Ptr) :
    ((classicScan hazards retired).1 ++ (classicScan hazards retired).2).Perm retired := by
  simp only [classicScan]
  exact List.filter_append_perm _ retired

theorem C03_inplace_scan_partition (hazards retired : List Ptr) :
    ((inplaceScan hazards retired).1 ++ (inplaceScan hazards retired).2).Perm retired := by
  unfold inplaceScan
  split
  · exact C03_classic_scan_partition hazards retired
  · exact (List.filter_append_perm _ (sortPtrs retired)).trans (sortPtrs_perm retired)

/-- A pass that runs while no hazard pointer equals a retired object frees it (both strategies). -/
theorem C03_classic_unprotected_freed (hazards retired : List Ptr) (p : Ptr)
    (hp : p ∈ retired) (hn : p ∉ hazards) : p ∈ (classicScan hazards retired).2 :=
  mem_classicScan_freed.mpr ⟨hp, fun h => hn h.1⟩

theorem C03_inplace_unprotected_freed (hazards retired : List Ptr) (p : Ptr)
    (hp : p ∈ retired) (hn : p ∉ hazards) : p ∈ (inplaceScan hazards retired).2 :=
  mem_inplaceScan_freed.mpr ⟨hp, fun h => hn h.1⟩

/-- …and a protected one is kept. -/
theorem C03_classic_protected_kept (hazards retired : List Ptr) (p : Ptr)
    (hp : p ∈ retired) (hh : p ∈ hazards) (hne : p ≠ 0) : p ∈ (classicScan hazards retired).1 :=
  mem_classicScan_kept.mpr ⟨hp, hh, hne⟩

example : inplaceScan [145] [64, 184, 80, 145, 128] = ([145], [64, 184, 80, 128]) := by decide
example : inplaceScan [184, 104] [120, 184, 152, 24] = ([184], [24, 120, 152]) := by decide

end CdsVerif.Props.C03
