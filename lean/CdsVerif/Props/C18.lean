/-
  Property C18.  "When no operation is in progress, traversal of an ordered container (lists, skip
  lists, EllenBinTree, BronsonAVLTreeMap, and split lists in split order) visits each present key
  exactly once in strictly increasing order, and size()/empty() agree with the contents where an
  item counter is enabled.  EllenBinTree and BronsonAVLTreeMap satisfy their consistency checks:
  search-tree order, and AVL balance for Bronson.  Every skip-list level is an ordered sub-list of
  the level below."

  Tie S (snapshot conformance).  At the quiescent end of every harness case the client
  `harness/clients/snap.cpp` dumps the real object through its private members as one `SNAP` line;
  the driver (`cdsdriver snapshot`, `CdsVerif/Driver/Snapshot.lean`) parses the line and evaluates
  the executable well-formedness predicates and abstraction functions of
  `CdsVerif/Base/Snapshot.lean` on it.  This file proves what a `WF` verdict means: well-formedness
  of the dump implies that the abstraction is exactly the sorted, duplicate-free sequence of present
  keys, that the ideal forward traversal of the dumped chain yields exactly that sequence, and the
  structural claims of the property (sub-list levels, search-tree order, AVL balance, split order).
  The comparison of the abstraction with what the container's own iterator / `size()` / `empty()` /
  `check_consistency()` report is done by the client and by the check script (`ITER`, `SIZE`,
  `EMPTY`, `CONSIST`, `X` lines).
-/
import CdsVerif.Base.Snapshot
namespace CdsVerif.Props.C18
open CdsVerif.Snapshot

/-! ### Generic lemmas -/

/-- an adjacent-pairs test with a transitive relation establishes the relation between *all* pairs -/
theorem chainB_pairwise {α : Type} {r : α → α → Bool} {R : α → α → Prop} (hr : ∀ a b, r a b = true → R a b)
    (trans : ∀ a b c, R a b → R b c → R a c) : ∀ (l : List α), chainB r l = true → l.Pairwise R
  | [], _ => List.Pairwise.nil
  | [_], _ => List.pairwise_singleton _ _
  | a :: b :: t, h => by
    simp only [chainB, Bool.and_eq_true] at h
    have ih := chainB_pairwise hr trans (b :: t) h.2
    refine List.pairwise_cons.2 ⟨?_, ih⟩
    intro x hx
    rcases List.mem_cons.1 hx with rfl | hx
    · exact hr a x h.1
    · exact trans a b x (hr a b h.1) ((List.pairwise_cons.1 ih).1 x hx)

theorem chainB_of_pairwise {α : Type} (r : α → α → Bool) :
    ∀ (l : List α), l.Pairwise (fun a b => r a b = true) → chainB r l = true
  | [], _ => rfl
  | [_], _ => rfl
  | a :: b :: t, h => by
    have h' := List.pairwise_cons.1 h
    simp only [chainB, Bool.and_eq_true]
    exact ⟨h'.1 b (List.mem_cons_self ..), chainB_of_pairwise r (b :: t) h'.2⟩

/-- `sortedLt` decides "strictly increasing" -/
theorem sortedLt_iff (l : List Int) : sortedLt l = true ↔ l.Pairwise (· < ·) :=
  ⟨chainB_pairwise (r := fun a b => decide (a < b)) (fun _ _ => of_decide_eq_true) (fun _ _ _ => Int.lt_trans) l,
   fun h => chainB_of_pairwise _ l (h.imp decide_eq_true)⟩

theorem pairwise_lt_nodup {l : List Int} (h : l.Pairwise (· < ·)) : l.Nodup :=
  h.imp (fun hab => Int.ne_of_lt hab)

/-! ### Ordered lists (MichaelList, LazyList, IterableList) -/

/-- the ideal forward traversal of the chain yields exactly the abstraction -/
theorem listTraverse_eq_abs : ∀ s : ListSnap, listTraverse s = listAbs s
  | [] => rfl
  | n :: t => by
    have ih := listTraverse_eq_abs t
    unfold listAbs at ih ⊢
    cases hm : n.marked <;> cases hd : n.hasData <;>
      simp [listTraverse, LNode.live, hm, hd, ih]

/-- **C18, ordered lists.**  A well-formed dump represents a strictly increasing (hence
    duplicate-free) sequence of keys, and a forward traversal that skips marked and empty nodes
    visits exactly these keys, each once, in increasing order. -/
theorem C18_list (s : ListSnap) (h : listWf s = true) :
    (listAbs s).Pairwise (· < ·) ∧ (listAbs s).Nodup ∧ listTraverse s = listAbs s := by
  have hp := (sortedLt_iff _).1 h
  exact ⟨hp, pairwise_lt_nodup hp, listTraverse_eq_abs s⟩

/-- the test is exact: `listWf` is equivalent to the abstraction being strictly increasing -/
theorem listWf_iff (s : ListSnap) : listWf s = true ↔ (listAbs s).Pairwise (· < ·) := sortedLt_iff _

/-- every key the traversal yields belongs to a live node of the chain and vice versa -/
theorem listTraverse_mem (s : ListSnap) (k : Int) :
    k ∈ listTraverse s ↔ ∃ n ∈ s, n.live = true ∧ n.key = k := by
  rw [listTraverse_eq_abs]
  simp [listAbs, List.mem_map, List.mem_filter, and_assoc]

/-! What the forward iterator of `MichaelList` really does (`iterator_type::next()`): it follows
    `m_pNext.ptr()` and never looks at the mark bit, and `empty()` tests the head pointer for null.
    They agree with the ideal traversal only while no logically deleted node is linked. -/

def michaelIter (s : ListSnap) : List Int := (s.filter (·.hasData)).map (·.key)
def michaelEmpty (s : ListSnap) : Bool := s.isEmpty

theorem michaelIter_eq_abs (s : ListSnap) (h : ∀ n ∈ s, n.marked = false) : michaelIter s = listAbs s := by
  unfold michaelIter listAbs
  congr 1
  apply List.filter_congr
  intro n hn
  simp [LNode.live, h n hn]

/-- Dump of a real `MichaelList< HP >` at the quiescent end of a concurrent case (`snap.cpp --variant
    michael_hp --seed 11`, case 13311): `erase( 1 )` has marked the node and lost the CAS that unlinks
    it (a node was inserted in front of it meanwhile), no later operation passed by.  The dump is
    well-formed and represents the empty set; the library's iterator visits key 1 and `empty()` is
    false (`ITER 1`, `EMPTY 0`; the client raises `X iter-differs-from-snapshot`, `X empty-mismatch`). -/
example :
    let s : ListSnap := [⟨1, true, true⟩]
    listWf s = true ∧ listAbs s = [] ∧ listTraverse s = [] ∧ michaelIter s = [1] ∧ michaelEmpty s = false := by
  decide

/-! ### Skip lists -/

theorem subChain_spec : ∀ (ks : List (List Int)), subChain ks = true →
    ∀ i (h : i + 1 < ks.length), (ks[i + 1]).Sublist (ks[i])
  | [], _, i, h => by simp at h
  | [_], _, i, h => by simp at h
  | a :: b :: t, hc, i, h => by
    simp only [subChain, Bool.and_eq_true] at hc
    cases i with
    | zero => exact List.isSublist_iff_sublist.1 hc.1
    | succ j =>
      have := subChain_spec (b :: t) hc.2 j (by simpa using h)
      simpa using this

theorem level_sublist_level0 (ks : List (List Int)) (hc : subChain ks = true) :
    ∀ i (h : i < ks.length), (ks[i]).Sublist (ks[0]'(Nat.lt_of_le_of_lt (Nat.zero_le _) h))
  | 0, _ => List.Sublist.refl _
  | i + 1, h =>
    (subChain_spec ks hc i h).trans (level_sublist_level0 ks hc i (Nat.lt_of_succ_lt h))

theorem skipLevels_head (s : SkipSnap) (h : 0 < (skipLevels s).length) :
    (skipLevels s)[0] = levelKeys (s.headD []) := by
  cases s with
  | nil => simp [skipLevels] at h
  | cons a t => rfl

theorem skipAbs_sublist (s : SkipSnap) : (skipAbs s).Sublist (levelKeys (s.headD [])) := by
  unfold skipAbs levelKeys
  exact List.filter_sublist.map _

/-- **C18, skip lists.**  In a well-formed dump every level is strictly increasing, every level
    `i+1` is a sub-list of level `i` (hence of level 0), and the abstraction (unmarked keys of level
    0) is strictly increasing and duplicate-free. -/
theorem C18_skiplist (s : SkipSnap) (h : skipWf s = true) :
    (∀ i (hi : i < (skipLevels s).length), ((skipLevels s)[i]).Pairwise (· < ·)) ∧
    (∀ i (hi : i + 1 < (skipLevels s).length), ((skipLevels s)[i + 1]).Sublist ((skipLevels s)[i])) ∧
    (∀ i (hi : i < (skipLevels s).length), ((skipLevels s)[i]).Sublist (levelKeys (s.headD []))) ∧
    (skipAbs s).Pairwise (· < ·) ∧ (skipAbs s).Nodup := by
  simp only [skipWf, Bool.and_eq_true] at h
  obtain ⟨h0, hc⟩ := h
  have hp0 := (sortedLt_iff _).1 h0
  have hsub : ∀ i (hi : i < (skipLevels s).length), ((skipLevels s)[i]).Sublist (levelKeys (s.headD [])) := by
    intro i hi
    have := level_sublist_level0 _ hc i hi
    rwa [skipLevels_head s (Nat.lt_of_le_of_lt (Nat.zero_le _) hi)] at this
  have hpa := hp0.sublist (skipAbs_sublist s)
  exact ⟨fun i hi => hp0.sublist (hsub i hi), subChain_spec _ hc, hsub, hpa, pairwise_lt_nodup hpa⟩

/-- all levels of a well-formed dump, by membership -/
theorem C18_skiplist_levels (s : SkipSnap) (h : skipWf s = true) :
    ∀ l ∈ s, (levelKeys l).Pairwise (· < ·) := by
  intro l hl
  have hm : levelKeys l ∈ skipLevels s := List.mem_map.2 ⟨l, hl, rfl⟩
  obtain ⟨i, hi, e⟩ := List.mem_iff_getElem.1 hm
  rw [← e]
  exact (C18_skiplist s h).1 i hi

/-! ### EllenBinTree -/

theorem ETree.allKeys_leaves (p : Int → Bool) : ∀ t : ETree,
    t.allKeys p = true → ∀ x ∈ t.leaves, p x = true
  | .leaf k, h => by simpa [ETree.allKeys, ETree.leaves] using h
  | .node _ _ l r, h => by
    simp only [ETree.allKeys, Bool.and_eq_true] at h
    intro x hx
    rcases List.mem_append.1 hx with hx | hx
    · exact ETree.allKeys_leaves p l h.1.2 x hx
    · exact ETree.allKeys_leaves p r h.2 x hx

theorem ETree.allKeys_key (p : Int → Bool) : ∀ t : ETree, t.allKeys p = true → p t.key = true
  | .leaf _, h => h
  | .node _ _ _ _, h => by
    simp only [ETree.allKeys, Bool.and_eq_true] at h
    exact h.1.1

/-- search-tree order of a leaf-oriented tree makes the in-order leaf sequence strictly increasing -/
theorem ETree.ordered_pairwise : ∀ t : ETree, t.ordered = true → t.leaves.Pairwise (· < ·)
  | .leaf k, _ => by simp [ETree.leaves]
  | .node k _ l r, h => by
    simp only [ETree.ordered, Bool.and_eq_true] at h
    obtain ⟨⟨⟨hl, hr⟩, hol⟩, hor⟩ := h
    refine List.pairwise_append.2 ⟨ETree.ordered_pairwise l hol, ETree.ordered_pairwise r hor, ?_⟩
    intro a ha b hb
    have h1 := ETree.allKeys_leaves _ l hl a ha
    have h2 := ETree.allKeys_leaves _ r hr b hb
    simp only [decide_eq_true_eq] at h1 h2
    exact Int.lt_of_lt_of_le h1 h2

/-- a search tree passes the library's own `check_consistency()` (`ETree.libCheck`) -/
theorem ETree.libCheck_of : ∀ t : ETree, t.ordered = true → t.libCheck = true
  | .leaf _, _ => rfl
  | .node k _ l r, h => by
    simp only [ETree.ordered, Bool.and_eq_true] at h
    obtain ⟨⟨⟨hl, hr⟩, hol⟩, hor⟩ := h
    have h1 := ETree.allKeys_key _ l hl
    have h2 := ETree.allKeys_key _ r hr
    simp only [decide_eq_true_eq] at h1 h2
    simp only [ETree.libCheck, Bool.and_eq_true, decide_eq_true_eq]
    exact ⟨⟨⟨⟨h1, h2⟩, Int.lt_of_lt_of_le h1 h2⟩, ETree.libCheck_of l hol⟩, ETree.libCheck_of r hor⟩

/-- in a strictly increasing list the elements below `b` are exactly those in front of `b` -/
theorem filter_lt_of_pairwise {ys zs : List Int} {b : Int} (h : (ys ++ b :: zs).Pairwise (· < ·)) :
    (ys ++ b :: zs).filter (fun k => decide (k < b)) = ys := by
  obtain ⟨_, hzs, hcross⟩ := List.pairwise_append.1 h
  have hfront : ys.filter (fun k => decide (k < b)) = ys :=
    List.filter_eq_self.2 (fun y hy => decide_eq_true (hcross y hy b (List.mem_cons_self ..)))
  have hback : (b :: zs).filter (fun k => decide (k < b)) = [] := by
    refine List.filter_eq_nil_iff.2 (fun z hz => ?_)
    rcases List.mem_cons.1 hz with rfl | hz
    · simp
    · simpa using Int.le_of_lt ((List.pairwise_cons.1 hzs).1 z hz)
  rw [List.filter_append, hfront, hback, List.append_nil]

/-- the sentinel shape: the in-order leaves are the finite keys followed by ∞₁, ∞₂ -/
theorem ellen_leaves_eq (t : ETree) (ho : t.ordered = true) (hs : t.shape = true) :
    t.leaves = ellenAbs t ++ [inf1, inf2] := by
  cases t with
  | leaf k => simp [ETree.shape] at hs
  | node k u l r =>
    cases r with
    | node => simp [ETree.shape] at hs
    | leaf k2 =>
      simp only [ETree.shape, Bool.and_eq_true, beq_iff_eq] at hs
      obtain ⟨⟨_, rfl⟩, hlast⟩ := hs
      obtain ⟨ys, hys⟩ := List.getLast?_eq_some_iff.1 hlast
      have hl : (ETree.node k u l (.leaf inf2)).leaves = ys ++ inf1 :: [inf2] := by
        simp [ETree.leaves, hys]
      have hp := ETree.ordered_pairwise _ ho
      rw [hl] at hp
      rw [ellenAbs, hl, filter_lt_of_pairwise hp]

/-- **C18, EllenBinTree.**  In a well-formed dump the in-order leaf keys are strictly increasing;
    the finite ones (the abstraction) are strictly increasing and duplicate-free, the leaves are
    exactly these followed by the two sentinels, and no update descriptor is pending. -/
theorem C18_ellen (t : ETree) (h : ellenWf t = true) :
    t.leaves.Pairwise (· < ·) ∧ (ellenAbs t).Pairwise (· < ·) ∧ (ellenAbs t).Nodup ∧
    t.leaves = ellenAbs t ++ [inf1, inf2] ∧ t.clean = true := by
  simp only [ellenWf, Bool.and_eq_true] at h
  obtain ⟨⟨ho, hc⟩, hs⟩ := h
  have hp := ETree.ordered_pairwise t ho
  have hpa : (ellenAbs t).Pairwise (· < ·) := hp.sublist List.filter_sublist
  exact ⟨hp, hpa, pairwise_lt_nodup hpa, ellen_leaves_eq t ho hs, hc⟩

/-- the order part alone (what the property statement literally asks for) -/
theorem C18_ellen_order (t : ETree) (h : t.ordered = true) : t.leaves.Pairwise (· < ·) :=
  ETree.ordered_pairwise t h

/-- a well-formed dump passes the library's own `check_consistency()` … -/
theorem ellenWf_libCheck (t : ETree) (h : ellenWf t = true) : t.libCheck = true := by
  simp only [ellenWf, Bool.and_eq_true] at h
  exact ETree.libCheck_of t h.1.1

/-- … but not conversely: `EllenBinTree::check_consistency()` (`ETree.libCheck`) compares direct
    children only, so it accepts trees that are not search trees (leaf 9 in the left subtree of 5) -/
example :
    let t := ETree.node 5 0 (.node 3 0 (.leaf 1) (.leaf 9)) (.leaf 5)
    t.libCheck = true ∧ t.ordered = false := by decide

/-! ### BronsonAVLTreeMap -/

theorem ATree.allKeys_iff (p : Int → Bool) : ∀ t : ATree,
    t.allKeys p = true ↔ ∀ x ∈ t.keys, p x = true
  | .nil => by simp [ATree.allKeys, ATree.keys]
  | .node k _ _ l r => by
    simp [ATree.allKeys, ATree.keys, ATree.allKeys_iff p l, ATree.allKeys_iff p r,
      List.mem_append, or_imp, forall_and, and_assoc, and_left_comm]

theorem ATree.ordered_pairwise : ∀ t : ATree, t.ordered = true → t.keys.Pairwise (· < ·)
  | .nil, _ => by simp [ATree.keys]
  | .node k _ _ l r, h => by
    simp only [ATree.ordered, Bool.and_eq_true] at h
    obtain ⟨⟨⟨hl, hr⟩, hol⟩, hor⟩ := h
    have hl' := (ATree.allKeys_iff _ l).1 hl
    have hr' := (ATree.allKeys_iff _ r).1 hr
    simp only [decide_eq_true_eq] at hl' hr'
    refine List.pairwise_append.2 ⟨ATree.ordered_pairwise l hol,
      List.pairwise_cons.2 ⟨hr', ATree.ordered_pairwise r hor⟩, ?_⟩
    intro a ha b hb
    rcases List.mem_cons.1 hb with rfl | hb
    · exact hl' a ha
    · exact Int.lt_trans (hl' a ha) (hr' b hb)

theorem ATree.vkeys_sublist : ∀ t : ATree, t.vkeys.Sublist t.keys
  | .nil => List.Sublist.refl _
  | .node k _ v l r => by
    simp only [ATree.vkeys, ATree.keys]
    refine List.Sublist.append (ATree.vkeys_sublist l) ?_
    cases v
    · exact (ATree.vkeys_sublist r).cons _
    · exact (ATree.vkeys_sublist r).cons_cons _

/-- exact stored heights are the structural heights -/
theorem ATree.h_eq_sh : ∀ t : ATree, t.heightsOk = true → t.h = (t.sh : Int)
  | .nil, _ => rfl
  | .node _ ht _ l r, h => by
    simp only [ATree.heightsOk, Bool.and_eq_true, beq_iff_eq] at h
    obtain ⟨⟨hh, hl⟩, hr⟩ := h
    have il := ATree.h_eq_sh l hl
    have ir := ATree.h_eq_sh r hr
    simp only [ATree.h, ATree.sh]
    omega

theorem ATree.balanced_struct : ∀ t : ATree, t.heightsOk = true → t.balanced = true → t.Balanced
  | .nil, _, _ => trivial
  | .node _ ht _ l r, hh, hb => by
    simp only [ATree.heightsOk, Bool.and_eq_true, beq_iff_eq] at hh
    simp only [ATree.balanced, Bool.and_eq_true, decide_eq_true_eq] at hb
    obtain ⟨⟨_, hl⟩, hr⟩ := hh
    obtain ⟨⟨⟨b1, b2⟩, bl⟩, br⟩ := hb
    have il := ATree.h_eq_sh l hl
    have ir := ATree.h_eq_sh r hr
    exact ⟨by omega, by omega, ATree.balanced_struct l hl bl, ATree.balanced_struct r hr br⟩

/-- **C18, BronsonAVLTreeMap, strict form** (what the property says; holds at the quiescent points
    of sequential histories, see `Base/Snapshot.lean` for the concurrent case).  In a strict dump the
    in-order keys of all nodes are strictly increasing, so are those of the nodes with a value (the
    abstraction), which are duplicate-free; every stored height is the structural height of the
    subtree, and the tree is AVL-balanced. -/
theorem C18_avl_strict (t : ATree) (h : avlStrict t = true) :
    t.keys.Pairwise (· < ·) ∧ (avlAbs t).Pairwise (· < ·) ∧ (avlAbs t).Nodup ∧
    t.h = (t.sh : Int) ∧ t.Balanced := by
  simp only [avlStrict, Bool.and_eq_true] at h
  obtain ⟨⟨⟨ho, hh⟩, hb⟩, _⟩ := h
  have hp := ATree.ordered_pairwise t ho
  have hpa : (avlAbs t).Pairwise (· < ·) := hp.sublist (ATree.vkeys_sublist t)
  exact ⟨hp, hpa, pairwise_lt_nodup hpa, ATree.h_eq_sh t hh, ATree.balanced_struct t hh hb⟩

theorem avlStrict_wf (t : ATree) (h : avlStrict t = true) : avlWf t = true := by
  simp only [avlStrict, Bool.and_eq_true] at h
  exact h.1.1.1

/-- what holds of every key of a tree holds of the key of its root -/
theorem ATree.root_ok {p q : Int → Bool} (hpq : ∀ x, p x = true → q x = true) : ∀ t : ATree, t.allKeys p = true →
    (match t with | .node k .. => q k | .nil => true) = true
  | .nil, _ => rfl
  | .node k _ _ _ _, h => by
    simp only [ATree.allKeys, Bool.and_eq_true] at h
    exact hpq k h.1.1

/-- the height computed by `do_check_consistency` is 0 for every tree -/
theorem ATree.libH_eq_zero : ∀ t : ATree, t.libH = 0
  | .nil => rfl
  | .node _ _ _ l r => by simp [ATree.libH, ATree.libH_eq_zero l, ATree.libH_eq_zero r]

/-- hence the balance test of `check_consistency()` is vacuous: the function checks nothing but the
    order of every node with respect to its direct children -/
theorem libCheck_eq_localOrder : ∀ t : ATree, t.libCheck = t.localOrder
  | .nil => rfl
  | .node k _ _ l r => by
    simp [ATree.libCheck, ATree.localOrder, libCheck_eq_localOrder l, libCheck_eq_localOrder r,
      ATree.libH_eq_zero]

theorem ATree.localOrder_of : ∀ t : ATree, t.ordered = true → t.localOrder = true
  | .nil, _ => rfl
  | .node k _ _ l r, ho => by
    simp only [ATree.ordered, Bool.and_eq_true] at ho
    obtain ⟨⟨⟨ol, or_⟩, ool⟩, oor⟩ := ho
    have e1 := ATree.root_ok (q := fun x => decide (x ≤ k))
      (fun x hx => decide_eq_true (Int.le_of_lt (of_decide_eq_true hx))) l ol
    have e2 := ATree.root_ok (q := fun x => decide (k ≤ x))
      (fun x hx => decide_eq_true (Int.le_of_lt (of_decide_eq_true hx))) r or_
    simp only [ATree.localOrder, Bool.and_eq_true]
    exact ⟨⟨⟨e1, e2⟩, ATree.localOrder_of l ool⟩, ATree.localOrder_of r oor⟩

/-- a well-formed dump passes the library's own `check_consistency()` … -/
theorem avlWf_libCheck (t : ATree) (h : avlWf t = true) : t.libCheck = true := by
  rw [libCheck_eq_localOrder]
  exact ATree.localOrder_of t h

/-- **C18, BronsonAVLTreeMap** (every quiescent point).  In a well-formed dump the in-order keys of
    all nodes are strictly increasing, so are those of the nodes with a value (the abstraction),
    which are duplicate-free: an in-order traversal visits every present key once, in increasing
    order.  The dump passes the library's `check_consistency()`. -/
theorem C18_avl (t : ATree) (h : avlWf t = true) :
    t.keys.Pairwise (· < ·) ∧ (avlAbs t).Pairwise (· < ·) ∧ (avlAbs t).Nodup ∧ t.libCheck = true := by
  have hp := ATree.ordered_pairwise t h
  have hpa : (avlAbs t).Pairwise (· < ·) := hp.sublist (ATree.vkeys_sublist t)
  exact ⟨hp, hpa, pairwise_lt_nodup hpa, avlWf_libCheck t h⟩

/-- … but not conversely: `check_consistency()` compares direct children only, so it accepts a tree
    that is not a search tree (9 below 5 on the left), -/
example :
    let t := ATree.node 5 3 true (.node 3 2 true .nil (.node 9 1 true .nil .nil)) (.node 8 1 true .nil .nil)
    t.libCheck = true ∧ avlWf t = false := by decide

/-- and because its height computation always yields 0 it accepts a degenerate (list-shaped) tree:
    dump of a real object built from a copy of the library in which the rebalancing threshold had
    been changed from 1 to 2 (`CONSIST 1` was reported for it). -/
example :
    let t := ATree.node 2 3 true .nil (.node 6 2 true (.node 3 1 true .nil .nil) .nil)
    t.libCheck = true ∧ t.balanced = false ∧ avlStrict t = false := by decide
example :
    let t := ATree.node 1 4 true .nil (.node 2 3 true .nil (.node 3 2 true .nil (.node 4 1 true .nil .nil)))
    t.libCheck = true ∧ t.ordered = true ∧ t.heightsOk = true ∧ t.balanced = false := by decide

/-! Dumps of the real `BronsonAVLTreeMap< general_instant RCU, long, long >` (unmodified library) at
    the quiescent end of *concurrent* cases of `harness/clients/snap.cpp` (seed 12, 3 threads): the
    tree is a search tree with the right contents, and not a strict AVL tree. -/

/-- `--variant bronson_gpi_cnt --seed 12`, case 2196: node 1 has an empty left and a right subtree of
    height 2 (imbalance 2), its stored height 2 is stale -/
example :
    let t := ATree.node 4 3 true
      (.node 1 2 true .nil (.node 2 2 true .nil (.node 3 1 true .nil .nil)))
      (.node 7 2 true (.node 5 1 true .nil .nil) .nil)
    avlWf t = true ∧ avlAbs t = [1, 2, 3, 4, 5, 7] ∧ t.libCheck = true ∧
    avlStrict t = false ∧ t.heightsOk = false ∧ t.balanced = false := by decide

/-- `--variant bronson_gpi --seed 12`, case 1488: the root's subtrees have heights 3 and 1 -/
example :
    let t := ATree.node 6 3 true
      (.node 1 3 false (.node 0 1 true .nil .nil) (.node 3 2 true .nil (.node 4 1 true .nil .nil)))
      (.node 7 1 true .nil .nil)
    avlWf t = true ∧ t.libCheck = true ∧ avlStrict t = false ∧ t.balanced = false ∧
    (match t with | .node _ _ _ l r => (l.sh, r.sh) | .nil => (0, 0)) = (3, 1) := by decide

/-- `--variant bronson_gpi_relaxed --seed 12`, case 7107: a routing node with one child is left behind
    (here as the root; `size()` is 1, the abstraction is `[3]`) -/
example :
    let t := ATree.node 2 2 false .nil (.node 3 1 true .nil .nil)
    avlWf t = true ∧ avlAbs t = [3] ∧ avlStrict t = false ∧ t.routingOk = false := by decide

/-! ### Split-ordered list -/

/-- the order of the underlying list, as a proposition -/
def SoLt (a b : SONode) : Prop :=
  a.so < b.so ∨ (a.so = b.so ∧ a.isDummy = false ∧ b.isDummy = false ∧ a.key < b.key)

theorem soLt_iff (a b : SONode) : soLt a b = true ↔ SoLt a b := by
  simp [soLt, SoLt, and_assoc]

theorem SoLt.trans {a b c : SONode} (h1 : SoLt a b) (h2 : SoLt b c) : SoLt a c := by
  unfold SoLt at *
  rcases h1 with h1 | ⟨e1, da, _, k1⟩ <;> rcases h2 with h2 | ⟨e2, _, dc, k2⟩
  · left; omega
  · left; omega
  · left; omega
  · right; exact ⟨by omega, da, dc, by omega⟩

/-- between a dummy node and any other node the order is decided by the split-order keys alone -/
theorem SoLt.so_lt {a b : SONode} (h : SoLt a b) (hd : a.isDummy = true ∨ b.isDummy = true) : a.so < b.so := by
  rcases h with hlt | ⟨_, ha, hb, _⟩
  · exact hlt
  · rcases hd with hd | hd
    · rw [ha] at hd; cases hd
    · rw [hb] at hd; cases hd

theorem SONode.parityOk_iff (n : SONode) :
    n.parityOk = true ↔ (n.isDummy = true ↔ n.so % 2 = 0) ∧ n.so < 2 ^ 64 := by
  cases hd : n.isDummy <;> simp [SONode.parityOk, hd]

theorem splitWf_pairwise (s : SplitSnap) (h : chainB soLt s = true) : s.Pairwise SoLt :=
  chainB_pairwise (fun a b => (soLt_iff a b).1) (fun _ _ _ => SoLt.trans) s h

/-- **C18, split-ordered list.**  In a well-formed dump
    1. the whole chain is ordered by the split-list order (split-order key; regular nodes with equal
       split-order keys by user key; distinct dummies have distinct split-order keys);
    2. the chain starts with the dummy node of bucket 0;
    3. dummy nodes are exactly the nodes with an even split-order key;
    4. every regular node has a dummy before it, every dummy before it has a smaller and every dummy
       after it a larger split-order key: the node lies in the segment of its bucket's dummy;
    5. the regular nodes have non-decreasing split-order keys, and those with equal split-order
       keys strictly increasing user keys. -/
theorem C18_splitlist (s : SplitSnap) (h : splitWf s = true) :
    s.Pairwise SoLt ∧
    (∃ d t, s = d :: t ∧ d.isDummy = true ∧ d.so = 0) ∧
    (∀ n ∈ s, (n.isDummy = true ↔ n.so % 2 = 0) ∧ n.so < 2 ^ 64) ∧
    (∀ pre r post, s = pre ++ r :: post → r.isDummy = false →
      (∃ d ∈ pre, d.isDummy = true) ∧
      (∀ d ∈ pre, d.isDummy = true → d.so < r.so) ∧
      (∀ d ∈ post, d.isDummy = true → r.so < d.so)) ∧
    (s.filter (fun n => !n.isDummy)).Pairwise (fun a b => a.so ≤ b.so ∧ (a.so = b.so → a.key < b.key)) := by
  simp only [splitWf, Bool.and_eq_true] at h
  obtain ⟨⟨hhead, hpar⟩, hchain⟩ := h
  have hp := splitWf_pairwise s hchain
  have hfirst : ∃ d t, s = d :: t ∧ d.isDummy = true ∧ d.so = 0 := by
    cases s with
    | nil => simp at hhead
    | cons d t =>
      simp only [Bool.and_eq_true, beq_iff_eq] at hhead
      exact ⟨d, t, rfl, hhead.1, hhead.2⟩
  refine ⟨hp, hfirst, fun n hn => (SONode.parityOk_iff n).1 (List.all_eq_true.1 hpar n hn), ?_, ?_⟩
  · intro pre r post hs hr
    subst hs
    obtain ⟨d, t, e, hd, _⟩ := hfirst
    obtain ⟨_, hpost, hcross⟩ := List.pairwise_append.1 hp
    refine ⟨?_, fun x hx hxd => (hcross x hx r (List.mem_cons_self ..)).so_lt (.inl hxd),
      fun x hx hxd => ((List.pairwise_cons.1 hpost).1 x hx).so_lt (.inr hxd)⟩
    -- the first node of the chain is a dummy and `r` is not: it lies in `pre`
    cases pre with
    | nil =>
      obtain ⟨rfl, _⟩ := List.cons.inj e
      rw [hr] at hd
      cases hd
    | cons p pre' =>
      obtain ⟨rfl, _⟩ := List.cons.inj e
      exact ⟨p, List.mem_cons_self .., hd⟩
  · refine (hp.filter _).imp ?_
    intro a b hab
    rcases hab with hlt | ⟨e, _, _, k⟩
    · exact ⟨Nat.le_of_lt hlt, fun e => absurd e (Nat.ne_of_lt hlt)⟩
    · exact ⟨Nat.le_of_eq e, fun _ => k⟩

/-- If the split-order key of a regular node is a function of its key (it is: the bit-reversed hash
    of the key with the lowest bit set), the present keys are pairwise distinct: iteration in split
    order visits every present key once. -/
theorem C18_splitlist_nodup (s : SplitSnap) (h : splitWf s = true)
    (hash : ∀ a ∈ s, ∀ b ∈ s, a.isDummy = false → b.isDummy = false → a.key = b.key → a.so = b.so) :
    (splitAbs s).Nodup := by
  unfold splitAbs
  refine List.pairwise_map.2 (((C18_splitlist s h).1.filter _).imp_of_mem ?_)
  intro a b ha hb hab hk
  obtain ⟨has, ha⟩ := List.mem_filter.1 ha
  obtain ⟨hbs, hb⟩ := List.mem_filter.1 hb
  simp only [Bool.and_eq_true, Bool.not_eq_true'] at ha hb
  -- equal keys have equal split-order keys, and `SoLt` then orders the two nodes by key
  have hso := hash a has b hbs ha.1 hb.1 hk
  rcases hab with hlt | ⟨_, _, _, k⟩
  · omega
  · omega

/-! ### Examples: a well-formed and an ill-formed dump of each kind (kernel-checked by `decide`) -/

-- ordered list: [1, (empty node), 2 marked, 3]
example : listWf [⟨1, false, true⟩, ⟨0, false, false⟩, ⟨2, true, true⟩, ⟨3, false, true⟩] = true := by decide
example : listAbs [⟨1, false, true⟩, ⟨0, false, false⟩, ⟨2, true, true⟩, ⟨3, false, true⟩] = [1, 3] := by decide
-- a logically deleted node may be out of order, a live one may not; duplicates are rejected
example : listWf [⟨3, false, true⟩, ⟨1, true, true⟩, ⟨4, false, true⟩] = true := by decide
example : listWf [⟨3, false, true⟩, ⟨1, false, true⟩] = false := by decide
example : listWf [⟨3, false, true⟩, ⟨3, false, true⟩] = false := by decide

-- skip list
example : skipWf [[⟨1, false⟩, ⟨2, false⟩, ⟨5, false⟩], [⟨1, false⟩, ⟨5, false⟩], [⟨5, false⟩]] = true := by decide
example : skipAbs [[⟨1, false⟩, ⟨2, true⟩, ⟨5, false⟩], [⟨1, false⟩, ⟨5, false⟩]] = [1, 5] := by decide
-- level 1 contains a key that level 0 lacks / in another order; level 0 unsorted
example : skipWf [[⟨1, false⟩, ⟨2, false⟩], [⟨3, false⟩]] = false := by decide
example : skipWf [[⟨1, false⟩, ⟨2, false⟩], [⟨2, false⟩, ⟨1, false⟩]] = false := by decide
example : skipWf [[⟨2, false⟩, ⟨1, false⟩]] = false := by decide

-- Ellen: the empty tree and a tree with keys 1, 2
example : ellenWf (.node inf2 0 (.leaf inf1) (.leaf inf2)) = true := by decide
example : ellenWf (.node inf2 0 (.node inf1 0 (.node 2 0 (.leaf 1) (.leaf 2)) (.leaf inf1)) (.leaf inf2)) = true := by decide
example : ellenAbs (.node inf2 0 (.node inf1 0 (.node 2 0 (.leaf 1) (.leaf 2)) (.leaf inf1)) (.leaf inf2)) = [1, 2] := by decide
-- leaves out of order; routing key equal to a key of the left subtree; pending descriptor; missing sentinel
example : ellenWf (.node inf2 0 (.node inf1 0 (.node 2 0 (.leaf 2) (.leaf 1)) (.leaf inf1)) (.leaf inf2)) = false := by decide
example : ellenWf (.node inf2 0 (.node inf1 0 (.node 1 0 (.leaf 1) (.leaf 2)) (.leaf inf1)) (.leaf inf2)) = false := by decide
example : ellenWf (.node inf2 0 (.node inf1 2 (.node 2 0 (.leaf 1) (.leaf 2)) (.leaf inf1)) (.leaf inf2)) = false := by decide
example : ellenWf (.node inf2 0 (.node 2 0 (.leaf 1) (.leaf 2)) (.leaf inf2)) = false := by decide

-- AVL: routing node 4 with two children
example : avlStrict (.node 4 2 false (.node 1 1 true .nil .nil) (.node 6 1 true .nil .nil)) = true := by decide
example : avlWf (.node 4 2 false (.node 1 1 true .nil .nil) (.node 6 1 true .nil .nil)) = true := by decide
example : avlAbs (.node 4 2 false (.node 1 1 true .nil .nil) (.node 6 1 true .nil .nil)) = [1, 6] := by decide
-- wrong order (direct child; deeper in the tree; duplicate key): not well-formed
example : avlWf (.node 4 2 true (.node 5 1 true .nil .nil) .nil) = false := by decide
example : avlWf (.node 4 3 true (.node 2 2 true .nil (.node 5 1 true .nil .nil)) .nil) = false := by decide
example : avlWf (.node 4 2 true (.node 4 1 true .nil .nil) .nil) = false := by decide
-- stale stored height; unbalanced; dangling routing node: well-formed, not strict
example : avlStrict (.node 4 3 true (.node 1 1 true .nil .nil) .nil) = false := by decide
example : avlStrict (.node 4 3 true (.node 2 2 true (.node 1 1 true .nil .nil) .nil) .nil) = false := by decide
example : avlStrict (.node 4 2 false (.node 1 1 true .nil .nil) .nil) = false := by decide

-- split list: buckets 0 and 1, keys 4, 5 (same split-order key), 3
example : splitWf [⟨0, true, 0, false⟩, ⟨4611686018427387905, false, 4, false⟩, ⟨4611686018427387905, false, 5, false⟩,
    ⟨9223372036854775808, true, 1, false⟩, ⟨9223372036854775809, false, 3, false⟩] = true := by decide
example : splitAbs [⟨0, true, 0, false⟩, ⟨4611686018427387905, false, 4, false⟩, ⟨4611686018427387905, false, 5, false⟩,
    ⟨9223372036854775808, true, 1, false⟩, ⟨9223372036854775809, false, 3, false⟩] = [4, 5, 3] := by decide
-- equal split-order keys in the wrong key order; regular node first; regular node with an even key;
-- a regular node of bucket 1 before that bucket's dummy
example : splitWf [⟨0, true, 0, false⟩, ⟨4611686018427387905, false, 5, false⟩, ⟨4611686018427387905, false, 4, false⟩] = false := by decide
example : splitWf [⟨1, false, 0, false⟩] = false := by decide
example : splitWf [⟨0, true, 0, false⟩, ⟨2, false, 1, false⟩] = false := by decide
example : splitWf [⟨0, true, 0, false⟩, ⟨9223372036854775809, false, 3, false⟩, ⟨9223372036854775808, true, 1, false⟩] = false := by decide

/-- The Boolean balance test the driver evaluates on a dump is exactly AVL balance of the shape. -/
theorem ATree.shapeBalanced_iff : ∀ t : ATree, t.shapeBalanced = true ↔ t.Balanced
  | .nil => by simp [ATree.shapeBalanced, ATree.Balanced]
  | .node _ _ _ l r => by
    simp only [ATree.shapeBalanced, ATree.Balanced, Bool.and_eq_true, decide_eq_true_eq,
      ATree.shapeBalanced_iff l, ATree.shapeBalanced_iff r, and_assoc]

end CdsVerif.Props.C18
