/-
  C07 — Vyukov's bounded MPMC queue (cds::container::VyukovMPMCCycleQueue, enqueue_with / dequeue_with) is a
  linearizable bounded FIFO queue: every concurrent history of the atomic-step model `Algo/Vyukov/Model.lean` with
  capacity `2^k`, `k ≥ 1`, is linearizable to `Spec.bfifo (2^k)`; `enqueue` fails only if exactly `2^k` items are
  in the queue at some instant during the call, `dequeue` fails only if the queue is empty at some instant during
  the call.  Property theorems only; the model, the invariant and the proof live in `Algo/Vyukov/{Model,Inv,Lin}.lean`.

  Proved: FULL linearizability including failing operations.  The failing operations need no hindsight: the load
  that fixes the result `[0]` (`m_posDequeue` for `enq`, `m_posEnqueue` for `deq`) is itself an instant at which the
  queue is full resp. empty (`pos ≤ posEnq ≤ posDeq + capacity = pos`), so all four linearization points are fixed.

  Assumptions of the model (not proved here): positions and sequence numbers do not wrap (fewer than 2^63
  operations); `compare_exchange_weak` does not fail spuriously; sequentially consistent interleaving semantics.
  `k ≥ 1` is necessary: with capacity 1 the queue is broken (known finding).
-/
import CdsVerif.Algo.Vyukov.Lin

namespace CdsVerif.Props.C07Vyukov
open CdsVerif.Machine CdsVerif.Lin CdsVerif.Spec CdsVerif.Algo

/-- Linearizability, general form (Herlihy–Wing with completion of pending operations).  For EVERY capacity `2^k`
    (`k ≥ 1`) and EVERY schedule (any number of threads, any client program of `enq v` / `deq`, any interleaving of
    the atomic steps), the history of the completed operations of the run — extended by response records for the
    pending operations that have already passed their linearization point (at most one per thread; each is an
    operation pending in `os`, completed with the result fixed at its linearization point and the response time
    "end of run"), all other pending operations being dropped — is linearizable to the sequential bounded FIFO
    queue of capacity `2^k`, failed `enq` / `deq` included.

    The literal statement "`historyOf os` is linearizable" is FALSE for runs that stop between the successful CAS
    of an `enq` and its return while another thread has already seen the queue full (see `fullSched`
    below): such an `enq` has to be completed, which is what `extra` does. -/
theorem C07_vyukov_linearizable (k : Nat) (hk : 1 ≤ k) (sched : List (Tid × Act)) (s : Vyukov.St)
    (os : List (Tid × Obs)) (h : Vyukov.model.run (Vyukov.init k) sched = some (s, os)) :
    ∃ extra : List (OpRec GOp GRet),
      (∀ e ∈ extra, Vyukov.pendingOf os e.tid = some (e.op, e.inv) ∧ e.res = os.length ∧
          Vyukov.lpRet (s.pc e.tid) = some e.ret) ∧
      extra.Pairwise (fun a b => a.tid ≠ b.tid) ∧
      Linearizable (bfifo (2 ^ k)) (Vyukov.historyOf os ++ extra) :=
  Vyukov.vyukov_linearizable k hk sched s os h

/-- Runs in which every invoked operation has returned: the history is linearizable as it is. -/
theorem C07_vyukov_linearizable_complete_runs (k : Nat) (hk : 1 ≤ k) (sched : List (Tid × Act)) (s : Vyukov.St)
    (os : List (Tid × Obs)) (h : Vyukov.model.run (Vyukov.init k) sched = some (s, os))
    (hq : ∀ t, s.pc t = .idle) :
    Linearizable (bfifo (2 ^ k)) (Vyukov.historyOf os) :=
  Vyukov.vyukov_linearizable_complete_runs k hk sched s os h hq

/-- More generally: runs at whose end no thread is between its linearization point and its return. -/
theorem C07_vyukov_linearizable_no_effect_pending (k : Nat) (hk : 1 ≤ k) (sched : List (Tid × Act))
    (s : Vyukov.St) (os : List (Tid × Obs)) (h : Vyukov.model.run (Vyukov.init k) sched = some (s, os))
    (hq : ∀ t, Vyukov.lpRet (s.pc t) = none) :
    Linearizable (bfifo (2 ^ k)) (Vyukov.historyOf os) :=
  Vyukov.vyukov_linearizable_no_effect_pending k hk sched s os h hq

/-- `historyOf` is faithful: a record's `inv` / `res` are the positions of its call and return observations. -/
theorem C07_vyukov_history_sound (os : List (Tid × Obs)) (r : OpRec GOp GRet) (h : r ∈ Vyukov.historyOf os) :
    os[r.inv]? = some (r.tid, .call r.op) ∧ os[r.res]? = some (r.tid, .ret r.ret) ∧ r.inv < r.res :=
  Vyukov.historyOf_sound os r h

/-- `enq` fails only on a full queue.  For EVERY run: if a completed `enq v` returned `[0]`, there is an instant `j`
    strictly between its call (observation `r.inv`) and its return (observation `r.res`) such that in the state
    `s1` reached by the first `j` actions of the run the abstract queue holds exactly `2^k` items; more precisely
    (`FullAt`) the calling thread is about to perform the load of `m_posDequeue` that yields
    `pos - posDeq == capacity`, and `m_posEnqueue` is still `pos`. -/
theorem C07_vyukov_full_means_full (k : Nat) (hk : 1 ≤ k) (sched : List (Tid × Act)) (s : Vyukov.St)
    (os : List (Tid × Obs)) (h : Vyukov.model.run (Vyukov.init k) sched = some (s, os)) (r : OpRec GOp GRet)
    (hr : r ∈ Vyukov.historyOf os) (v : Int) (hop : r.op = ⟨"enq", [v]⟩) (hret : r.ret = [0]) :
    ∃ j s1, r.inv < j ∧ j < r.res ∧ Vyukov.model.run (Vyukov.init k) (sched.take j) = some (s1, os.take j) ∧
      Vyukov.FullAt s1 r.tid ∧ (Vyukov.absQueue s1).length = 2 ^ k :=
  Vyukov.vyukov_full_hindsight k hk sched s os h r hr v hop hret

/-- `deq` fails only on an empty queue.  For EVERY run: if a completed `deq` returned `[0]`, there is an instant `j`
    strictly between its call and its return at which the abstract queue is empty; more precisely (`EmptyAt`) the
    calling thread is about to perform the load of `m_posEnqueue` that yields `pos == posEnq`, and `m_posDequeue`
    is still `pos`. -/
theorem C07_vyukov_empty_means_empty (k : Nat) (hk : 1 ≤ k) (sched : List (Tid × Act)) (s : Vyukov.St)
    (os : List (Tid × Obs)) (h : Vyukov.model.run (Vyukov.init k) sched = some (s, os)) (r : OpRec GOp GRet)
    (hr : r ∈ Vyukov.historyOf os) (hop : r.op = ⟨"deq", []⟩) (hret : r.ret = [0]) :
    ∃ j s1, r.inv < j ∧ j < r.res ∧ Vyukov.model.run (Vyukov.init k) (sched.take j) = some (s1, os.take j) ∧
      Vyukov.EmptyAt s1 r.tid ∧ Vyukov.absQueue s1 = [] :=
  Vyukov.vyukov_empty_hindsight k hk sched s os h r hr hop hret

/-- The same, step by step: in a reachable state, the only steps that fix the result `[0]` are the `m_posDequeue`
    load of a producer — the queue is full at that instant — and the `m_posEnqueue` load of a consumer — the queue is
    empty at that instant. -/
theorem C07_vyukov_fail_lp_step (k : Nat) (hk : 1 ≤ k) (s s' : Vyukov.St) (t : Tid) (ev : Ev)
    (hreach : Vyukov.model.Reachable (Vyukov.init k) s) (hs : Vyukov.step s t = some (s', ev))
    (hpre : Vyukov.lpRet (s.pc t) = none) (hpost : Vyukov.lpRet (s'.pc t) = some [0]) :
    (Vyukov.FullAt s t ∧ ev = ⟨"ld", "posDeq", toString s.posDeq, ""⟩) ∨
    (Vyukov.EmptyAt s t ∧ ev = ⟨"ld", "posEnq", toString s.posEnq, ""⟩) :=
  Vyukov.fail_step (Vyukov.vinv_reachable k hk s hreach) hs hpre hpost

/-- Positions: `posDeq ≤ posEnq ≤ posDeq + capacity` in every reachable state, and the abstract queue has
    `posEnq - posDeq` items. -/
theorem C07_vyukov_positions (k : Nat) (hk : 1 ≤ k) (s : Vyukov.St)
    (hreach : Vyukov.model.Reachable (Vyukov.init k) s) :
    s.posDeq ≤ s.posEnq ∧ s.posEnq ≤ s.posDeq + 2 ^ k ∧ (Vyukov.absQueue s).length = s.posEnq - s.posDeq := by
  -- The capacity parameter of a reachable state is `k`; `capOf k` and `cell k p` unfold to `2 ^ k` and `p % 2 ^ k`.
  obtain rfl := Vyukov.k_reachable k s hreach
  have h := Vyukov.vinv_reachable _ hk s hreach
  exact ⟨h.ord, h.bnd, Vyukov.absQueue_length s⟩

/-- No overwrite.  In a reachable state, a step changes the payload array ONLY if it is the successful CAS of a
    producer on `m_posEnqueue` at position `p` (the model performs the thread-private payload write together with
    that CAS), and then only the cell `p mod 2^k` (`= p & mask`) changes.  At that instant: the cell's sequence number
    is `p`; the previous item of that cell (position `p - capacity`), if any, has been claimed by a consumer
    (`p < posDeq + capacity`) and that consumer has already executed its sequence store (no thread is between its
    CAS on `m_posDequeue` and its sequence store on that cell — so it has finished reading the payload); no other
    producer holds the cell; and the cell is not the cell of any item of the abstract queue. -/
theorem C07_vyukov_no_overwrite (k : Nat) (hk : 1 ≤ k) (s s' : Vyukov.St) (t : Tid) (ev : Ev)
    (hreach : Vyukov.model.Reachable (Vyukov.init k) s) (hs : Vyukov.step s t = some (s', ev)) :
    s'.data = s.data ∨
    ∃ v p, s.pc t = .enqCas v p ∧ s.posEnq = p ∧ ev = ⟨"cas+", "posEnq", toString p, toString (p + 1)⟩ ∧
      s'.data = upd s.data (p % 2 ^ k) v ∧ Vyukov.idxOf s.k p = p % 2 ^ k ∧
      s.seq (p % 2 ^ k) = p ∧ p < s.posDeq + 2 ^ k ∧
      (∀ t2 q w, s.pc t2 = .deqSt q w → q % 2 ^ k ≠ p % 2 ^ k) ∧
      (∀ t2 q, s.pc t2 = .enqSt q → q % 2 ^ k ≠ p % 2 ^ k) ∧
      (∀ q, s.posDeq ≤ q → q < s.posEnq → q % 2 ^ k ≠ p % 2 ^ k) := by
  obtain rfl := Vyukov.k_reachable k s hreach
  rcases Vyukov.data_step hs with hd | ⟨v, p, hpc, hwin, -⟩
  · exact Or.inl hd
  · obtain ⟨h1, h2, h3, h4, h5, h6⟩ := Vyukov.no_overwrite (Vyukov.vinv_reachable _ hk s hreach) hpc hs hwin
    exact Or.inr ⟨v, p, hpc, hwin, Vyukov.enqCas_win_event hpc hs hwin, h1, Vyukov.idxOf_eq s.k p, h2, h3, h4, h5, h6⟩

/-- The value a consumer returns.  In a reachable state, at the successful CAS of a consumer on `m_posDequeue` at
    position `p`: the producer of position `p` has already executed its sequence store (the sequence number is
    `p + 1`; no thread is between its CAS on `m_posEnqueue` for that cell and its sequence store), hence the payload
    had been written before the consumer could win; the payload of the cell is the head of the abstract queue; and
    it is the value the consumer returns (`deqSt p v` returns `[1, v]`). -/
theorem C07_vyukov_deq_claims_published (k : Nat) (hk : 1 ≤ k) (s s' : Vyukov.St) (t : Tid) (ev : Ev) (p : Nat)
    (hreach : Vyukov.model.Reachable (Vyukov.init k) s) (hpc : s.pc t = .deqCas p)
    (hs : Vyukov.step s t = some (s', ev)) (hwin : s.posDeq = p) :
    s.seq (p % 2 ^ k) = p + 1 ∧ p < s.posEnq ∧ (∀ t2 q, s.pc t2 = .enqSt q → q % 2 ^ k ≠ p % 2 ^ k) ∧
    Vyukov.absQueue s = s.data (p % 2 ^ k) :: Vyukov.absQueue s' ∧ s'.pc t = .deqSt p (s.data (p % 2 ^ k)) := by
  obtain rfl := Vyukov.k_reachable k s hreach
  exact Vyukov.deq_claims_published (Vyukov.vinv_reachable _ hk s hreach) hpc hs hwin

/-- Exclusive ownership between the position CAS and the sequence store (this is what makes the placement of the
    thread-private payload accesses immaterial).  In a reachable state, a consumer between its CAS at `p` and its
    sequence store (`deqSt p v`) finds the payload of its cell still equal to the value `v` it returns, the cell
    still shows `p + 1` and has not been claimed again (`posEnq ≤ p + capacity`); a producer between its CAS at `p`
    and its sequence store (`enqSt p`) has `posDeq ≤ p < posEnq` and the cell still shows `p`; and at most one
    thread is in either situation for a given position. -/
theorem C07_vyukov_cell_ownership (k : Nat) (hk : 1 ≤ k) (s : Vyukov.St)
    (hreach : Vyukov.model.Reachable (Vyukov.init k) s) :
    (∀ t p v, s.pc t = .deqSt p v →
      p < s.posDeq ∧ s.posEnq ≤ p + 2 ^ k ∧ s.seq (p % 2 ^ k) = p + 1 ∧ s.data (p % 2 ^ k) = v) ∧
    (∀ t p, s.pc t = .enqSt p → s.posDeq ≤ p ∧ p < s.posEnq ∧ s.seq (p % 2 ^ k) = p) ∧
    (∀ t1 t2 p v1 v2, s.pc t1 = .deqSt p v1 → s.pc t2 = .deqSt p v2 → t1 = t2) ∧
    (∀ t1 t2 p, s.pc t1 = .enqSt p → s.pc t2 = .enqSt p → t1 = t2) := by
  obtain rfl := Vyukov.k_reachable k s hreach
  have h := Vyukov.vinv_reachable _ hk s hreach
  exact ⟨h.down, h.eown, h.duniq, h.euniq⟩

/-- Sequence numbers.  In a reachable state, for a position `posDeq ≤ p < posEnq` (an item of the abstract queue)
    the cell `p mod 2^k` shows `p + 1` (published, available to the consumer of `p`) or `p` (the store of the
    producer that claimed `p` is pending); for a position `posEnq ≤ p < posDeq + capacity` (the free cells) it shows
    `p` (free for the producer of `p`) or `p - capacity + 1` (the store of the consumer that claimed `p - capacity`
    is pending).  Every cell is the cell of exactly one position `posDeq ≤ p < posDeq + capacity`. -/
theorem C07_vyukov_sequences (k : Nat) (hk : 1 ≤ k) (s : Vyukov.St)
    (hreach : Vyukov.model.Reachable (Vyukov.init k) s) :
    (∀ p, s.posDeq ≤ p → p < s.posEnq → s.seq (p % 2 ^ k) = p + 1 ∨ s.seq (p % 2 ^ k) = p) ∧
    (∀ p, s.posEnq ≤ p → p < s.posDeq + 2 ^ k → s.seq (p % 2 ^ k) = p ∨ s.seq (p % 2 ^ k) + 2 ^ k = p + 1) := by
  obtain rfl := Vyukov.k_reachable k s hreach
  have h := Vyukov.vinv_reachable _ hk s hreach
  exact ⟨h.full, h.free⟩

/-- Sequence numbers, exactly.  In a reachable state the sequence number of every cell is determined by `posEnq`,
    `posDeq` and the set of in-flight claimers (threads that won a position CAS and have not yet stored the
    sequence).  For an item position `posDeq ≤ p < posEnq`: the cell shows `p` iff a producer is between its CAS at `p`
    and its sequence store (`enqSt p`), and `p + 1` otherwise.  For a free position `posEnq ≤ p < posDeq + capacity`:
    the cell shows `p - capacity + 1` iff a consumer is between its CAS at `p - capacity` and its sequence store,
    and `p` otherwise. -/
theorem C07_vyukov_sequences_exact (k : Nat) (hk : 1 ≤ k) (s : Vyukov.St)
    (hreach : Vyukov.model.Reachable (Vyukov.init k) s) :
    (∀ p, s.posDeq ≤ p → p < s.posEnq →
      ((∃ t, s.pc t = .enqSt p) → s.seq (p % 2 ^ k) = p) ∧
      ((¬ ∃ t, s.pc t = .enqSt p) → s.seq (p % 2 ^ k) = p + 1)) ∧
    (∀ p, s.posEnq ≤ p → p < s.posDeq + 2 ^ k →
      ((∃ t q v, s.pc t = .deqSt q v ∧ q + 2 ^ k = p) → s.seq (p % 2 ^ k) + 2 ^ k = p + 1) ∧
      ((¬ ∃ t q v, s.pc t = .deqSt q v ∧ q + 2 ^ k = p) → s.seq (p % 2 ^ k) = p)) := by
  obtain rfl := Vyukov.k_reachable k s hreach
  obtain ⟨h, ho⟩ := Vyukov.vown_reachable _ hk s hreach
  refine ⟨fun p hp1 hp2 => ⟨?_, ?_⟩, fun p hp1 hp2 => ⟨?_, ?_⟩⟩
  · rintro ⟨t, ht⟩
    exact (h.eown t p ht).2.2
  · intro hn
    exact (h.full p hp1 hp2).resolve_right (fun e => hn (ho.eex p hp1 hp2 e))
  · rintro ⟨t, q, v, ht, rfl⟩
    have hseq : s.seq (q % 2 ^ s.k) = q + 1 := (h.down t q v ht).2.2.1
    rw [Nat.add_mod_right, hseq]
    omega
  · intro hn
    exact (h.free p hp1 hp2).resolve_right (fun e => hn (ho.dex p hp1 hp2 e))

/-- Refinement: in a reachable state, the step at which thread `t` fixes its result `r` (successful CAS on
    `m_posEnqueue` / `m_posDequeue`; the loads that find the queue full / empty) is exactly the `bfifo (2^k)`
    transition of `t`'s operation with result `r` on the abstract queue; every other step leaves the abstract queue
    unchanged. -/
theorem C07_vyukov_lp_refines (k : Nat) (hk : 1 ≤ k) (s s' : Vyukov.St) (t : Tid) (ev : Ev)
    (hreach : Vyukov.model.Reachable (Vyukov.init k) s) (hs : Vyukov.step s t = some (s', ev)) :
    (Vyukov.lpRet (s.pc t) = none → ∀ r, Vyukov.lpRet (s'.pc t) = some r →
      ∃ op, Vyukov.opOf (s.pc t) = some op ∧
        (bfifo (2 ^ k)).next (Vyukov.absQueue s) op r = some (Vyukov.absQueue s')) ∧
    ((Vyukov.lpRet (s.pc t) ≠ none ∨ Vyukov.lpRet (s'.pc t) = none) →
      Vyukov.absQueue s' = Vyukov.absQueue s) := by
  obtain rfl := Vyukov.k_reachable k s hreach
  exact Vyukov.step_refines (Vyukov.vinv_reachable _ hk s hreach) hs

/-! ### Non-vacuity: capacity 2 (`k = 1`) -/

def steps (t : Tid) (n : Nat) : List (Tid × Act) := List.replicate n (t, .step)

/-- Wrap-around.  Two items fill the ring, one is dequeued, a third item re-uses cell 0 on the second lap (position
    2, sequence numbers 2 → 3), the rest is dequeued in FIFO order (the third item at position 2, sequence 3 → 4),
    and a last `deq` finds the queue empty. -/
def wrapSched : List (Tid × Act) :=
  [(0, .invoke ⟨"enq", [7]⟩)] ++ steps 0 4 ++ [(0, .ret), (0, .invoke ⟨"enq", [8]⟩)] ++ steps 0 4 ++ [(0, .ret),
   (1, .invoke ⟨"deq", []⟩)] ++ steps 1 4 ++ [(1, .ret), (0, .invoke ⟨"enq", [9]⟩)] ++ steps 0 4 ++ [(0, .ret),
   (1, .invoke ⟨"deq", []⟩)] ++ steps 1 4 ++ [(1, .ret), (1, .invoke ⟨"deq", []⟩)] ++ steps 1 4 ++ [(1, .ret),
   (1, .invoke ⟨"deq", []⟩)] ++ steps 1 3 ++ [(1, .ret)]

def wrapObs : List (Tid × Obs) :=
  [(0, .call ⟨"enq", [7]⟩),                 -- T 0 C enq [7]
   (0, .ev ⟨"ld", "posEnq", "0", ""⟩),      -- T 0 A ld posEnq 0
   (0, .ev ⟨"ld", "seq0", "0", ""⟩),        -- T 0 A ld seq0 0              (dif == 0)
   (0, .ev ⟨"cas+", "posEnq", "0", "1"⟩),   -- T 0 A cas+ posEnq 0 1        (linearization point of enq 7)
   (0, .ev ⟨"st", "seq0", "1", ""⟩),        -- T 0 A st seq0 1              (publish)
   (0, .ret [1]),                           -- T 0 R [1]
   (0, .call ⟨"enq", [8]⟩),
   (0, .ev ⟨"ld", "posEnq", "1", ""⟩),
   (0, .ev ⟨"ld", "seq1", "1", ""⟩),
   (0, .ev ⟨"cas+", "posEnq", "1", "2"⟩),
   (0, .ev ⟨"st", "seq1", "2", ""⟩),
   (0, .ret [1]),
   (1, .call ⟨"deq", []⟩),
   (1, .ev ⟨"ld", "posDeq", "0", ""⟩),
   (1, .ev ⟨"ld", "seq0", "1", ""⟩),        -- T 1 A ld seq0 1              (dif = 1 - (0 + 1) == 0)
   (1, .ev ⟨"cas+", "posDeq", "0", "1"⟩),   -- T 1 A cas+ posDeq 0 1        (linearization point of deq)
   (1, .ev ⟨"st", "seq0", "2", ""⟩),        -- T 1 A st seq0 2              (pos + mask + 1: free for position 2)
   (1, .ret [1, 7]),
   (0, .call ⟨"enq", [9]⟩),
   (0, .ev ⟨"ld", "posEnq", "2", ""⟩),
   (0, .ev ⟨"ld", "seq0", "2", ""⟩),        -- T 0 A ld seq0 2              (second lap of cell 0)
   (0, .ev ⟨"cas+", "posEnq", "2", "3"⟩),
   (0, .ev ⟨"st", "seq0", "3", ""⟩),
   (0, .ret [1]),
   (1, .call ⟨"deq", []⟩),
   (1, .ev ⟨"ld", "posDeq", "1", ""⟩),
   (1, .ev ⟨"ld", "seq1", "2", ""⟩),
   (1, .ev ⟨"cas+", "posDeq", "1", "2"⟩),
   (1, .ev ⟨"st", "seq1", "3", ""⟩),
   (1, .ret [1, 8]),
   (1, .call ⟨"deq", []⟩),
   (1, .ev ⟨"ld", "posDeq", "2", ""⟩),
   (1, .ev ⟨"ld", "seq0", "3", ""⟩),
   (1, .ev ⟨"cas+", "posDeq", "2", "3"⟩),
   (1, .ev ⟨"st", "seq0", "4", ""⟩),
   (1, .ret [1, 9]),
   (1, .call ⟨"deq", []⟩),
   (1, .ev ⟨"ld", "posDeq", "3", ""⟩),
   (1, .ev ⟨"ld", "seq1", "3", ""⟩),        -- T 1 A ld seq1 3              (dif = 3 - (3 + 1) < 0)
   (1, .ev ⟨"ld", "posEnq", "3", ""⟩),      -- T 1 A ld posEnq 3            (pos - posEnq == 0: empty, LP of deq → [0])
   (1, .ret [0])]

example : (Vyukov.model.run (Vyukov.init 1) wrapSched).map (·.2) = some wrapObs := by decide

example : linCheck (bfifo 2) (Vyukov.historyOf wrapObs) = true := by decide

/-- The abstract queue and the positions at the end of that run. -/
example : (Vyukov.model.run (Vyukov.init 1) wrapSched).map
    (fun r => (Vyukov.absQueue r.1, r.1.posEnq, r.1.posDeq, r.1.seq 0, r.1.seq 1)) = some ([], 3, 3, 4, 3) := by
  decide

/-- A failing enqueue on a full queue — with a pending operation that must be completed.  `enq 7` completes;
    thread 1's `enq 8` wins its CAS on `m_posEnqueue` (position 1) and is delayed before its sequence store;
    thread 2's `enq 9` reads position 2, finds cell 0 still holding the item of position 0 (`seq0 = 1`, `dif < 0`),
    loads `m_posDequeue = 0`: `2 - 0 == capacity`, returns `[0]`.  At the instant of that load the abstract queue is
    `[7, 8]`: the item 8, claimed but not yet published, counts. -/
def fullSched : List (Tid × Act) :=
  [(0, .invoke ⟨"enq", [7]⟩)] ++ steps 0 4 ++ [(0, .ret), (1, .invoke ⟨"enq", [8]⟩)] ++ steps 1 3 ++
  [(2, .invoke ⟨"enq", [9]⟩)] ++ steps 2 3 ++ [(2, .ret)]

example : (Vyukov.model.run (Vyukov.init 1) fullSched).map (fun r => r.2.drop 6) =
    some [(1, .call ⟨"enq", [8]⟩),
          (1, .ev ⟨"ld", "posEnq", "1", ""⟩),
          (1, .ev ⟨"ld", "seq1", "1", ""⟩),
          (1, .ev ⟨"cas+", "posEnq", "1", "2"⟩),   -- T 1 A cas+ posEnq 1 2   (LP of enq 8; store pending)
          (2, .call ⟨"enq", [9]⟩),
          (2, .ev ⟨"ld", "posEnq", "2", ""⟩),      -- T 2 A ld posEnq 2
          (2, .ev ⟨"ld", "seq0", "1", ""⟩),        -- T 2 A ld seq0 1         (dif = 1 - 2 < 0)
          (2, .ev ⟨"ld", "posDeq", "0", ""⟩),      -- T 2 A ld posDeq 0       (2 - 0 == capacity: full, LP of enq 9 → [0])
          (2, .ret [0])] := by decide

/-- The state at the end of that run: two items in the abstract queue, thread 1 between CAS and store, cell 1 not
    yet published. -/
example : (Vyukov.model.run (Vyukov.init 1) fullSched).map
    (fun r => (Vyukov.absQueue r.1, r.1.pc 1, r.1.seq 1, r.1.posEnq, r.1.posDeq)) =
    some ([7, 8], .enqSt 1, 1, 2, 0) := by decide

/-- Why pending operations must be completed: the history of the completed operations of that run alone
    (`enq 7 → ok`, then `enq 9 → full` on a queue of capacity 2) is not linearizable ... -/
example : (Vyukov.model.run (Vyukov.init 1) fullSched).map (fun r => Vyukov.historyOf r.2) =
    some [⟨0, ⟨"enq", [7]⟩, [1], 0, 5⟩, ⟨2, ⟨"enq", [9]⟩, [0], 10, 14⟩] := by decide

example : ¬ Linearizable (bfifo 2) [⟨0, ⟨"enq", [7]⟩, [1], 0, 5⟩, ⟨2, ⟨"enq", [9]⟩, [0], 10, 14⟩] :=
  not_linearizable_of_linCheck_eq_false (bfifo 2) _ (by decide) (by decide)

/-- ... and `extra` of `C07_vyukov_linearizable` repairs it: with the pending `enq 8` completed, it is. -/
example : Linearizable (bfifo 2)
    ([⟨0, ⟨"enq", [7]⟩, [1], 0, 5⟩, ⟨2, ⟨"enq", [9]⟩, [0], 10, 14⟩] ++ [⟨1, ⟨"enq", [8]⟩, [1], 6, 15⟩]) :=
  linCheck_sound (bfifo 2) _ (by decide)

/-- A consumer has to retry because the producer has claimed but not yet published the cell.  Thread 0's `enq 7`
    wins its CAS (the item IS in the abstract queue) and is delayed before `st seq0 1`.  Thread 1's `deq` finds
    `seq0 = 0 < pos + 1`, loads `m_posEnqueue = 1 ≠ pos`: not empty, so it backs off and retries (twice here);
    after the producer's store it wins and returns 7. -/
def retrySched : List (Tid × Act) :=
  [(0, .invoke ⟨"enq", [7]⟩)] ++ steps 0 3 ++ [(1, .invoke ⟨"deq", []⟩)] ++ steps 1 6 ++ steps 0 1 ++ steps 1 4 ++
  [(1, .ret), (0, .ret)]

example : (Vyukov.model.run (Vyukov.init 1) retrySched).map (·.2) =
    some [(0, .call ⟨"enq", [7]⟩),
          (0, .ev ⟨"ld", "posEnq", "0", ""⟩),
          (0, .ev ⟨"ld", "seq0", "0", ""⟩),
          (0, .ev ⟨"cas+", "posEnq", "0", "1"⟩),   -- T 0 A cas+ posEnq 0 1   (LP of enq 7; payload written; store pending)
          (1, .call ⟨"deq", []⟩),
          (1, .ev ⟨"ld", "posDeq", "0", ""⟩),
          (1, .ev ⟨"ld", "seq0", "0", ""⟩),        -- T 1 A ld seq0 0         (dif = 0 - 1 < 0)
          (1, .ev ⟨"ld", "posEnq", "1", ""⟩),      -- T 1 A ld posEnq 1       (0 - 1 != 0: not empty → back off, retry)
          (1, .ev ⟨"ld", "posDeq", "0", ""⟩),
          (1, .ev ⟨"ld", "seq0", "0", ""⟩),
          (1, .ev ⟨"ld", "posEnq", "1", ""⟩),      --                         (retry again)
          (0, .ev ⟨"st", "seq0", "1", ""⟩),        -- T 0 A st seq0 1         (publish)
          (1, .ev ⟨"ld", "posDeq", "0", ""⟩),
          (1, .ev ⟨"ld", "seq0", "1", ""⟩),        -- T 1 A ld seq0 1         (dif == 0)
          (1, .ev ⟨"cas+", "posDeq", "0", "1"⟩),   -- T 1 A cas+ posDeq 0 1   (LP of deq → 7)
          (1, .ev ⟨"st", "seq0", "2", ""⟩),
          (1, .ret [1, 7]),
          (0, .ret [1])] := by decide

/-- While the consumer is retrying, the abstract queue already holds the claimed item. -/
example : (Vyukov.model.run (Vyukov.init 1) (retrySched.take 8)).map
    (fun r => (Vyukov.absQueue r.1, r.1.pc 0, r.1.pc 1, r.1.seq 0)) = some ([7], .enqSt 0, .deqPos, 0) := by decide

example : (Vyukov.model.run (Vyukov.init 1) retrySched).map (fun r => linCheck (bfifo 2) (Vyukov.historyOf r.2)) =
    some true := by decide

/-- The symmetric wait: a producer finds `dif < 0` on a queue that is NOT full, because a consumer has claimed the
    item of the cell but not yet released it.  The ring is full (`[7, 8]`); thread 1's `deq` wins its CAS (position
    0) and is delayed before `st seq0 2`; thread 0's `enq 9` reads position 2, `seq0 = 1` (`dif < 0`), loads
    `m_posDequeue = 1`: `2 - 1 != capacity`, not full, retries; after the consumer's store it succeeds. -/
def waitSched : List (Tid × Act) :=
  [(0, .invoke ⟨"enq", [7]⟩)] ++ steps 0 4 ++ [(0, .ret), (0, .invoke ⟨"enq", [8]⟩)] ++ steps 0 4 ++ [(0, .ret),
   (1, .invoke ⟨"deq", []⟩)] ++ steps 1 3 ++ [(0, .invoke ⟨"enq", [9]⟩)] ++ steps 0 3 ++ steps 1 1 ++ steps 0 4 ++
  [(0, .ret), (1, .ret)]

example : (Vyukov.model.run (Vyukov.init 1) waitSched).map (fun r => r.2.drop 12) =
    some [(1, .call ⟨"deq", []⟩),
          (1, .ev ⟨"ld", "posDeq", "0", ""⟩),
          (1, .ev ⟨"ld", "seq0", "1", ""⟩),
          (1, .ev ⟨"cas+", "posDeq", "0", "1"⟩),   -- T 1 A cas+ posDeq 0 1   (LP of deq → 7; release pending)
          (0, .call ⟨"enq", [9]⟩),
          (0, .ev ⟨"ld", "posEnq", "2", ""⟩),
          (0, .ev ⟨"ld", "seq0", "1", ""⟩),        -- T 0 A ld seq0 1         (dif = 1 - 2 < 0)
          (0, .ev ⟨"ld", "posDeq", "1", ""⟩),      -- T 0 A ld posDeq 1       (2 - 1 != capacity: not full → retry)
          (1, .ev ⟨"st", "seq0", "2", ""⟩),        -- T 1 A st seq0 2         (release the cell)
          (0, .ev ⟨"ld", "posEnq", "2", ""⟩),
          (0, .ev ⟨"ld", "seq0", "2", ""⟩),
          (0, .ev ⟨"cas+", "posEnq", "2", "3"⟩),
          (0, .ev ⟨"st", "seq0", "3", ""⟩),
          (0, .ret [1]),
          (1, .ret [1, 7])] := by decide

example : (Vyukov.model.run (Vyukov.init 1) waitSched).map
    (fun r => (linCheck (bfifo 2) (Vyukov.historyOf r.2), Vyukov.absQueue r.1)) = some (true, [8, 9]) := by decide

/-- A failed CAS.  Two producers read position 0 and see `dif == 0`; thread 0 wins, thread 1's CAS fails
    (`cas- posEnq 1 0`: seen 1, expected 0), takes the value seen as its new position WITHOUT reloading
    `m_posEnqueue`, and claims position 1. -/
def raceSched : List (Tid × Act) :=
  [(0, .invoke ⟨"enq", [5]⟩), (1, .invoke ⟨"enq", [6]⟩)] ++ steps 0 2 ++ steps 1 2 ++ steps 0 1 ++ steps 1 4 ++
  steps 0 1 ++ [(1, .ret), (0, .ret)]

example : (Vyukov.model.run (Vyukov.init 1) raceSched).map (fun r => (r.2, Vyukov.absQueue r.1)) =
    some ([(0, .call ⟨"enq", [5]⟩),
           (1, .call ⟨"enq", [6]⟩),
           (0, .ev ⟨"ld", "posEnq", "0", ""⟩),
           (0, .ev ⟨"ld", "seq0", "0", ""⟩),
           (1, .ev ⟨"ld", "posEnq", "0", ""⟩),
           (1, .ev ⟨"ld", "seq0", "0", ""⟩),
           (0, .ev ⟨"cas+", "posEnq", "0", "1"⟩),
           (1, .ev ⟨"cas-", "posEnq", "1", "0"⟩),   -- T 1 A cas- posEnq 1 0   (seen 1, expected 0)
           (1, .ev ⟨"ld", "seq1", "1", ""⟩),        -- T 1 A ld seq1 1         (no reload of posEnq)
           (1, .ev ⟨"cas+", "posEnq", "1", "2"⟩),
           (1, .ev ⟨"st", "seq1", "2", ""⟩),
           (0, .ev ⟨"st", "seq0", "1", ""⟩),
           (1, .ret [1]),
           (0, .ret [1])], [5, 6]) := by decide

end CdsVerif.Props.C07Vyukov
