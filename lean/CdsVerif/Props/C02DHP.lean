/-
  C02 at the level of the PROTOCOL: safety of libcds's DYNAMIC hazard pointers (cds::gc::DHP: Guard construction /
  destruction on guard storage that grows by extension blocks, Guard::protect / clear, DHP::retire on retired storage
  that grows by blocks, smr::scan), proved over ALL interleavings of the atomic-step machine `Algo/DHP/Model.lean`,
  for every number of threads `T`, every size `init` of the initial guard array, every size `B >= 1` of an extension
  block (16 in libcds), every number of Guard objects per thread, every size `RB` of a retired block, every schedule
  and every client program made of galloc / gfree / protect / clear / swap / take / scan / deref.

    C02  "Under the Dynamic Hazard Pointer scheme, an object passed to retire() is never given to its disposer while a
          guard that already protected it when the reclamation pass began still protects it.  This includes guards in
          blocks added once a thread exhausts its initial guards, retired lists that grew past one block, and thread
          records that were detached and reused."

  Covered here: guards in the initial array and in extension blocks alike (a slot is (record, block, index)), the exact
  instant at which a pass fixes the set of extension blocks it reads (the load of `extended_list_`, after the record's
  initial array has been read), retired chains of any number of blocks.  NOT covered by this machine (stated at the top
  of `Algo/DHP/Model.lean`): detach / re-attach of thread records and `help_scan` - thread records are static.

  Property theorems and examples only; the inductive invariant and its preservation are in `Algo/DHP/Inv.lean`,
  the derived invariants and step facts in `Algo/DHP/Facts.lean`.  The machine is tied to the real code by trace replay
  (`Algo/DHP/Replay.lean`, tools/dhp_pre.py, harness/clients/smr.cpp --static 1).
-/
import CdsVerif.Algo.DHP.Facts

namespace CdsVerif.Props.C02DHP
open CdsVerif.Machine CdsVerif.Spec CdsVerif.Algo.HP CdsVerif.Algo.DHP

/-! ### Safety -/

/-- THE safety theorem.  In every reachable state, the object that a completed `protect` returned through the Guard
    linked to slot (u,b,i) - in the initial array (b = 0) or in ANY extension block (b >= 1) - and that the guard has not
    released since, has not been handed to its disposer, whatever the other threads did in between: unlink it, retire
    it, run any number of reclamation passes, extend their own guard storage. -/
theorem C02_guarded_never_disposed (cfg : Cfg) (hB : 0 < cfg.B) (s : St) (hr : (model cfg).Reachable (init cfg) s) :
    ∀ u b i p, s.guard u b i = some p → s.obj p ≠ .disposed := by
  intro u b i p hg
  rcases (pinv_reachable cfg hB s hr).guard_ok u b i p hg with e | e <;> simp [e]

/-- Sharper form: a guarded object is allocated and is either still in use or retired-and-waiting. -/
theorem C02_guarded_live_or_retired (cfg : Cfg) (hB : 0 < cfg.B) (s : St) (hr : (model cfg).Reachable (init cfg) s) :
    ∀ u b i p, s.guard u b i = some p → s.obj p = .live ∨ s.obj p = .retired :=
  (pinv_reachable cfg hB s hr).guard_ok

/-- A validated guard's hazard slot still publishes the pointer, and the slot lies in the initial array or in an
    extension block that is linked to the record's `extended_list_` (what every pass relies on). -/
theorem C02_guard_published (cfg : Cfg) (hB : 0 < cfg.B) (s : St) (hr : (model cfg).Reachable (init cfg) s) :
    ∀ u b i p, s.guard u b i = some p →
      s.slots u b i = some p ∧ u < cfg.T ∧ b ≤ s.nblk u ∧ i < bsize cfg b := by
  intro u b i p hg
  have h := pinv_reachable cfg hB s hr
  exact ⟨h.guard_slot u b i p hg, h.guard_rng u b i p hg⟩

/-- Every slot a Guard object is linked to, and every slot on a free list, lies in the initial array or in a LINKED
    extension block: `alloc()` never hands out a guard that a pass cannot reach. -/
theorem C02_guard_storage_linked (cfg : Cfg) (hB : 0 < cfg.B) (s : St) (hr : (model cfg).Reachable (init cfg) s) :
    (∀ t h b i, s.hslot t h = some (b, i) → b ≤ s.nblk t ∧ i < bsize cfg b) ∧
    (∀ t b i, (b, i) ∈ s.flist t → b ≤ s.nblk t ∧ i < bsize cfg b) :=
  ⟨(pinv_reachable cfg hB s hr).hslot_rng, (pinv_reachable cfg hB s hr).flist_rng⟩

/-- Guard objects never share a slot: the free lists are duplicate-free, two Guard objects of a thread are never
    linked to the same slot, a slot on the free list is linked to no Guard object (so `guard u b i` IS the protection
    of one Guard object of the client). -/
theorem C02_guards_exclusive (cfg : Cfg) (hB : 0 < cfg.B) (s : St) (hr : (model cfg).Reachable (init cfg) s) :
    (∀ t, (s.flist t).Nodup) ∧
    (∀ t h1 h2 b i, s.hslot t h1 = some (b, i) → s.hslot t h2 = some (b, i) → h1 = h2) ∧
    (∀ t h b i, s.hslot t h = some (b, i) → (b, i) ∉ s.flist t) :=
  let h := palias_reachable cfg hB s hr
  ⟨h.flist_nodup, h.hslot_inj, h.free_unlinked⟩

/-- `deref [h]` never observes a disposed object: the step of a `deref` reads the object its guard holds, and
    that object is live or retired; the operation returns the corresponding code (1 or 2, never 3 = disposed).
    A `deref` that has been invoked is never stuck. -/
theorem C02_deref_safe (cfg : Cfg) (hB : 0 < cfg.B) (s : St) (hr : (model cfg).Reachable (init cfg) s) (t : Tid)
    (b i : Nat) (hpc : s.pc t = .derefRd b i) :
    ∃ p s', s.guard t b i = some p ∧ s.obj p ≠ .disposed ∧
      step cfg s t = some (s', evUse p (s.obj p)) ∧ s'.pc t = .done [objCode (s.obj p)] ∧
      objCode (s.obj p) ≠ 3 := by
  have h := pinv_reachable cfg hB s hr
  obtain ⟨p, hp⟩ := h.deref_ok t b i hpc
  have hok := h.guard_ok t b i p hp
  refine ⟨p, _, hp, by rcases hok with e | e <;> simp [e], by simp [step, stepW, hpc, hp]; rfl, by simp, ?_⟩
  rcases hok with e | e <;> simp [e, objCode]

/-- Trace form: no run of the machine contains a `use` event that observes a disposed object. -/
theorem C02_deref_safe_trace (cfg : Cfg) (hB : 0 < cfg.B) (sched : List (Tid × Act)) (s : St) (os : List (Tid × Obs))
    (hrun : (model cfg).run (init cfg) sched = some (s, os)) :
    ∀ t e, (t, Obs.ev e) ∈ os → e.kind = "use" → e.a ≠ "disposed" := by
  intro t e hmem hk
  exact ev_of_inductive (model cfg) (PInv cfg) (fun _ e => e.kind = "use" → e.a ≠ "disposed") (pinv_apply cfg)
    (fun _ _ _ _ hI hs => use_not_disposed hI hs) sched (init cfg) s os (pinv_init cfg hB) hrun t e hmem hk

/-- Step-level form.  At the decision step of a pass (stage 2 of `smr::scan`, applied to the plist the thread has
    collected one hazard slot at a time - initial arrays and extension blocks - while all other threads kept running),
    every object the step hands to the disposer is one that NO validated guard of any thread holds. -/
theorem C02_dispose_only_unguarded (cfg : Cfg) (hB : 0 < cfg.B) (s : St) (hr : (model cfg).Reachable (init cfg) s)
    (t : Tid) (acc : List Ptr) (r : GRet) (hpc : s.pc t = .scanDecide acc r) :
    ∀ p ∈ (classicScan acc (s.retired t)).2, ∀ u b i, s.guard u b i ≠ some p :=
  decide_unguarded (pinv_reachable cfg hB s hr) hpc

/-- ... and that step is the only way an object becomes disposed: whenever an action of any thread turns an object
    `disposed`, the action is the decision step of a pass of that thread, the object was in that thread's retired
    chain and outside its plist, and no validated guard holds it, before or after. -/
theorem C02_disposal_is_an_unguarded_scan_decision (cfg : Cfg) (hB : 0 < cfg.B) (s s' : St)
    (hr : (model cfg).Reachable (init cfg) s)
    (t : Tid) (ev : Ev) (hs : step cfg s t = some (s', ev)) (p : Ptr)
    (h0 : s.obj p ≠ .disposed) (h1 : s'.obj p = .disposed) :
    ∃ acc r, s.pc t = .scanDecide acc r ∧ p ∈ s.retired t ∧ p ∉ acc ∧
      (∀ u b i, s.guard u b i ≠ some p) ∧ (∀ u b i, s'.guard u b i ≠ some p) := by
  have h := pinv_reachable cfg hB s hr
  obtain ⟨acc, r, hpc, hp⟩ := disposed_step hs h0 h1
  obtain ⟨hret, hacc⟩ := h.places.freed_spec states hp
  have hg := decide_unguarded h hpc p hp
  refine ⟨acc, r, hpc, hret, hacc, hg, ?_⟩
  rw [(decide_step hpc hs).2.2.2.2.1]; exact hg

/-! ### What a pass reads: the extension blocks -/

/-- C02_extension_visible.  When the pass of thread `sc` is about to load `extended_list_` of record `u`, every slot
    (u,b,i) of every extension block `b` that is linked AT THAT INSTANT (1 <= b <= nblk u; all `B` slots, i < B) is read
    by that pass: in every continuation of the run that brings `sc` to the decision step, `sc` has performed the load
    `ld hp<u>.<b>.<i>`.  (A block linked after that instant is not read; a guard in it was validated after the pass
    began, on an object that was then still linked, hence not in the pass's retired chain - `C02_guarded_never_disposed`
    covers it.) -/
theorem C02_extension_visible (cfg : Cfg) (hB : 0 < cfg.B) (s : St) (hr : (model cfg).Reachable (init cfg) s)
    (sc : Tid) (u : Nat) (acc : List Ptr) (r : GRet) (hpc : s.pc sc = .scanExt u acc r)
    (b i : Nat) (hb1 : 1 ≤ b) (hb : b ≤ s.nblk u) (hi : i < cfg.B)
    (sched : List (Tid × Act)) (s' : St) (os : List (Tid × Obs)) (hrun : (model cfg).run s sched = some (s', os))
    (acc' : List Ptr) (r' : GRet) (hend : s'.pc sc = .scanDecide acc' r') :
    ∃ v, (sc, Obs.ev (evLd (slotLoc u b i) v)) ∈ os := by
  have hu := (pinv_reachable cfg hB s hr).scanExt_rng sc u acc r hpc
  have hi' : i < bsize cfg b := by
    have hb0 : b ≠ 0 := by omega
    simp [bsize, hb0, hi]
  have ha : aheadPC (s.pc sc) u b i := by
    rw [hpc]; show AheadExt u u b; exact Or.inr ⟨rfl, hb1⟩
  exact ahead_loaded cfg sc u b i hu hi' sched s s' os ha hb hrun hend

/-- More generally: every slot of every block that is linked to record `u` when a pass BEGINS - initial array or
    extension block - is read by that pass. -/
theorem C02_pass_reads_every_linked_slot (cfg : Cfg) (s : St) (sc : Tid) (r : GRet)
    (hpc : s.pc sc = scanStart cfg r)
    (u b i : Nat) (hu : u < cfg.T) (hb : b ≤ s.nblk u) (hi : i < bsize cfg b)
    (sched : List (Tid × Act)) (s' : St) (os : List (Tid × Obs)) (hrun : (model cfg).run s sched = some (s', os))
    (acc' : List Ptr) (r' : GRet) (hend : s'.pc sc = .scanDecide acc' r') :
    ∃ v, (sc, Obs.ev (evLd (slotLoc u b i) v)) ∈ os := by
  have ha : aheadPC (s.pc sc) u b i := by
    rw [hpc]; exact ahead_scanRec cfg 0 [] r u b i hu (Nat.zero_le _) hi
  exact ahead_loaded cfg sc u b i hu hi sched s s' os ha hb hrun hend

/-- The number of extension blocks linked to a record never decreases (records are static: a block is never unlinked). -/
theorem C02_extension_blocks_stay_linked (cfg : Cfg) (s s' : St) (t : Tid) (a : Act) (o : Obs)
    (hap : (model cfg).apply s t a = some (s', o)) (u : Nat) : s.nblk u ≤ s'.nblk u :=
  (apply_frame hap).2 u

/-! ### Disposed at most once, only after retire -/

/-- The life cycle of an object only moves forward, one stage at a time:
    fresh → live → retired → disposed.  In particular only a RETIRED object is ever disposed, `retired → disposed`
    happens at most once per object and is never undone. -/
theorem C02_life_cycle_forward (cfg : Cfg) (hB : 0 < cfg.B) (s s' : St) (hr : (model cfg).Reachable (init cfg) s)
    (t : Tid) (a : Act) (o : Obs) (hap : (model cfg).apply s t a = some (s', o)) (p : Ptr) :
    s'.obj p = s.obj p ∨ ObjSt.Succ (s.obj p) (s'.obj p) :=
  obj_apply (pinv_reachable cfg hB s hr) hap p

/-- Disposed at most once, part 1: once disposed, always disposed (along every continuation of every run). -/
theorem C02_disposed_once (cfg : Cfg) (hB : 0 < cfg.B) (s : St) (hr : (model cfg).Reachable (init cfg) s)
    (sched : List (Tid × Act)) (s' : St) (os : List (Tid × Obs))
    (hrun : (model cfg).run s sched = some (s', os)) (p : Ptr) (hd : s.obj p = .disposed) :
    s'.obj p = .disposed :=
  (model cfg).stable_of_inductive (PInv cfg) (fun x => x.obj p = .disposed) (pinv_apply cfg)
    (fun _ _ _ _ _ hI hd hap => disposed_apply hI hd hap) sched s s' os (pinv_reachable cfg hB s hr) hd hrun

/-- Disposed at most once, part 2: a disposed object is nowhere any more - in no retired chain (so no later pass
    can hand it to the disposer again), in no cell, in flight in no `swap`/`take`, held by no validated guard. -/
theorem C02_disposed_is_nowhere (cfg : Cfg) (hB : 0 < cfg.B) (s : St) (hr : (model cfg).Reachable (init cfg) s) (p : Ptr)
    (hd : s.obj p = .disposed) :
    (∀ t, p ∉ s.retired t) ∧ (∀ c, s.cells c ≠ some p) ∧ (∀ t r, s.pc t ≠ .swapRet p r) ∧
    (∀ u b i, s.guard u b i ≠ some p) := by
  have h := pinv_reachable cfg hB s hr
  refine ⟨?_, ?_, ?_, ?_⟩
  · intro t hm; have := h.ret_st t p hm; simp [hd] at this
  · intro c hc; have := h.cell_live c p hc; simp [hd] at this
  · intro t r hc; have := h.flight_live t p r hc; simp [hd] at this
  · intro u b i hg; rcases h.guard_ok u b i p hg with e | e <;> simp [hd] at e

/-- Disposed at most once, literally: the sequence of all disposer calls made so far (ghost `log`, extended by
    the freed list of every decision step) contains no object twice, and it is exactly the set of disposed objects. -/
theorem C02_dispose_log_nodup (cfg : Cfg) (hB : 0 < cfg.B) (s : St) (hr : (model cfg).Reachable (init cfg) s) :
    s.log.Nodup ∧ ∀ p, p ∈ s.log ↔ s.obj p = .disposed :=
  ⟨(pinv_reachable cfg hB s hr).log_nodup, (pinv_reachable cfg hB s hr).log_st⟩

/-- Retired-only: the retired chains hold no object twice, no object is in two chains, every entry is in state
    `retired` (unlinked, not yet disposed); and only entries of a retired chain are ever disposed
    (`C02_disposal_is_an_unguarded_scan_decision`). -/
theorem C02_retired_chains (cfg : Cfg) (hB : 0 < cfg.B) (s : St) (hr : (model cfg).Reachable (init cfg) s) :
    (∀ t, (s.retired t).Nodup) ∧ (∀ t1 t2 p, p ∈ s.retired t1 → p ∈ s.retired t2 → t1 = t2) ∧
    (∀ t p, p ∈ s.retired t → s.obj p = .retired ∧ ∀ c, s.cells c ≠ some p) := by
  have h := pinv_reachable cfg hB s hr
  refine ⟨h.ret_nodup, h.ret_disj, ?_⟩
  intro t p hm
  refine ⟨h.ret_st t p hm, ?_⟩
  intro c hc; have h1 := h.cell_live c p hc; have h2 := h.ret_st t p hm; rw [h1] at h2; cases h2

/-- Nothing is lost: every `live` object is in a cell or in flight in the `swap`/`take` that unlinked it; every
    `retired` object is in some thread's retired chain, where that thread's passes find it. -/
theorem C02_no_object_lost (cfg : Cfg) (hB : 0 < cfg.B) (s : St) (hr : (model cfg).Reachable (init cfg) s) (p : Ptr) :
    (s.obj p = .live → (∃ c, s.cells c = some p) ∨ (∃ t r, s.pc t = .swapRet p r)) ∧
    (s.obj p = .retired → ∃ t, p ∈ s.retired t) :=
  ⟨(pplace_reachable cfg hB s hr).live_ex p, (pplace_reachable cfg hB s hr).ret_ex p⟩

/-- A pass neither loses nor duplicates: after the decision step the retired chain is what the decision kept, every
    entry is either kept or disposed, and the other threads' chains are untouched. -/
theorem C02_scan_partition (cfg : Cfg) (hB : 0 < cfg.B) (s s' : St) (hr : (model cfg).Reachable (init cfg) s)
    (t : Tid) (acc : List Ptr) (r : GRet) (ev : Ev) (hpc : s.pc t = .scanDecide acc r)
    (hs : step cfg s t = some (s', ev)) :
    (∀ p, p ∈ s.retired t → (p ∈ s'.retired t ∧ s'.obj p = .retired) ∨ (p ∉ s'.retired t ∧ s'.obj p = .disposed)) ∧
    (∀ u, u ≠ t → s'.retired u = s.retired u) := by
  obtain ⟨hobj, hret, hoth, -⟩ := decide_step hpc hs
  refine ⟨fun p hp => ?_, hoth⟩
  rw [hret, hobj p]
  rcases classicScan_split acc hp with ⟨hk, hnf⟩ | ⟨hnk, hf⟩
  · rw [if_neg hnf]; exact Or.inl ⟨hk, (pinv_reachable cfg hB s hr).ret_st t p hp⟩
  · rw [if_pos hf]; exact Or.inr ⟨hnk, rfl⟩

/-- A pass during which no slot ever held `p` frees it. -/
theorem C02_unprotected_freed_by_quiet_scan (cfg : Cfg) (s s' : St) (t : Tid) (acc : List Ptr) (r : GRet) (ev : Ev)
    (hpc : s.pc t = .scanDecide acc r) (hs : step cfg s t = some (s', ev)) (p : Ptr)
    (hret : p ∈ s.retired t) (hquiet : p ∉ acc) :
    s'.obj p = .disposed ∧ p ∉ s'.retired t ∧ p ∈ s'.log := by
  obtain ⟨hobj, hretd, -, hlog, -⟩ := decide_step hpc hs
  have hf := CdsVerif.Props.C03.C03_classic_unprotected_freed acc (s.retired t) p hret hquiet
  refine ⟨by rw [hobj p, if_pos hf], ?_, by rw [hlog]; exact List.mem_append_right _ hf⟩
  rw [hretd]
  rcases classicScan_split acc hret with ⟨-, hnf⟩ | ⟨hnk, -⟩
  · exact absurd hf hnf
  · exact hnk

/-- "No slot holds `p`" is STABLE for a retired object: once no hazard slot (of any block of any record) holds it and no
    `protect` is about to store it, this remains true along every run. -/
theorem C02_quiet_stable (cfg : Cfg) (hB : 0 < cfg.B) (s : St) (hr : (model cfg).Reachable (init cfg) s) (sc : Tid) (p : Ptr)
    (hq : Quiet s sc p) (sched : List (Tid × Act)) (s' : St) (os : List (Tid × Obs))
    (hrun : (model cfg).run s sched = some (s', os)) : Quiet s' sc p :=
  (model cfg).stable_of_inductive (PInv cfg) (fun x => Quiet x sc p) (pinv_apply cfg)
    (fun _ _ _ _ _ hI hq hap => quiet_apply hI hq hap) sched s s' os (pinv_reachable cfg hB s hr) hq hrun

/-- Hence: from a state in which retired `p` is quiet, whenever (after any further run) thread `sc` takes the
    decision step of a pass with `p` still in its retired chain, that step disposes `p`. -/
theorem C02_quiet_retired_object_is_freed_by_next_scan (cfg : Cfg) (hB : 0 < cfg.B) (s : St)
    (hr : (model cfg).Reachable (init cfg) s)
    (sc : Tid) (p : Ptr) (hq : Quiet s sc p) (sched : List (Tid × Act)) (s1 s2 : St) (os : List (Tid × Obs))
    (hrun : (model cfg).run s sched = some (s1, os))
    (acc : List Ptr) (r : GRet) (ev : Ev) (hpc : s1.pc sc = .scanDecide acc r)
    (hs : step cfg s1 sc = some (s2, ev)) (hret : p ∈ s1.retired sc) :
    s2.obj p = .disposed := by
  have hq1 := C02_quiet_stable cfg hB s hr sc p hq sched s1 os hrun
  have hna : p ∉ acc := by have := hq1.noacc; rw [hpc] at this; exact this
  exact (C02_unprotected_freed_by_quiet_scan cfg s1 s2 sc acc r ev hpc hs p hret hna).1

/-! ### Retired chains of several blocks -/

/-- With retired blocks of at least 4 entries (256 in libcds) the chain always has room for the next push: its content
    never exceeds `rblk * RB`, and whenever a thread is not inside a pass - in particular when `retire` is about to
    push - there is a free entry.  (A push that fills the last block starts a pass, and the pass frees an entry or
    adds a block: `rblkAfter`.  With RB < 4 the rule `free_count < retired_count / 4` of smr::scan never extends a
    one-block chain.) -/
theorem C02_retired_chain_has_room (cfg : Cfg) (hRB : 4 ≤ cfg.RB) (s : St) (hr : (model cfg).Reachable (init cfg) s) :
    (∀ t, 1 ≤ s.rblk t) ∧ (∀ t, (s.retired t).length ≤ s.rblk t * cfg.RB) ∧
    (∀ t p r, s.pc t = .swapRet p r → (s.retired t).length < s.rblk t * cfg.RB) := by
  have h := proom_reachable cfg hRB s hr
  exact ⟨h.rblk_pos, h.cap, fun t p r hpc => h.room t (by simp [hpc, inScan])⟩

/-! ### Examples: init = 4 guards in the initial array (smaller than an extension block: B = 16), T = 2, RB = 8

  Checked by `decide +kernel` on the final state and on the values the operations return. -/

def cfg4 : Cfg := ⟨4, 16, 2, 8⟩
def call (name : String) (args : List Int) : Act := .invoke ⟨name, args⟩
/-- one operation of thread `t` that takes `n` steps -/
def op (t : Tid) (name : String) (args : List Int) (n : Nat) : List (Tid × Act) :=
  (t, call name args) :: (List.replicate n (t, Act.step) ++ [(t, Act.ret)])
/-- the values returned, in order -/
def rets (os : List (Tid × Obs)) : List (Tid × GRet) :=
  os.filterMap fun (t, o) => match o with
    | .ret r => some (t, r)
    | _ => none

/-- thread 1 constructs nine Guard objects: four from the initial array, then `extend()` links block 1 and the guards
    come from it; the ninth is slot 4 of block 1 - an index an initial array of 4 does not have -/
def nine : List (Tid × Act) := (List.range 9).flatMap fun (h : Nat) => op 1 "galloc" [(h : Int)] 1

/-- Thread 0 publishes o1; thread 1 takes nine guards and protects o1 through the ninth; thread 0 replaces o1, retires
    it and scans (27 steps: 4 slots + list of record 0; 4 slots + list + 16 slots of record 1; decision):
      ... T 0 A ld hp1.0.3 null | T 0 A ld ext1 gb1.1 | T 0 A ld hp1.1.0 null .. T 0 A ld hp1.1.4 o1 .. T 0 A ld hp1.1.15 null
          T 0 A free T0 [] 1 -/
def guardedSurvives : List (Tid × Act) :=
  op 0 "swap" [0] 1 ++ nine ++ op 1 "protect" [8, 0] 3 ++ op 0 "swap" [0] 2 ++ op 0 "scan" [] 27

/-- ... then thread 1 clears the guard and the next pass of thread 0 frees o1 -/
def thenFreed : List (Tid × Act) := op 1 "clear" [8] 1 ++ op 0 "scan" [] 27

example : ((model cfg4).run (init cfg4) guardedSurvives).map (fun x => rets x.2) =
    some [(0, [1, 0]), (1, [0, 0]), (1, [0, 1]), (1, [0, 2]), (1, [0, 3]), (1, [1, 0]), (1, [1, 1]), (1, [1, 2]),
          (1, [1, 3]), (1, [1, 4]), (1, [1, 1]), (0, [2, 1]), (0, [])] := by decide +kernel

set_option synthInstance.maxSize 2000 in
/-- after the first pass: o1 still retired, still in thread 0's chain, still guarded through slot (1,1,4), nothing disposed -/
example : ((model cfg4).run (init cfg4) guardedSurvives).map
      (fun x => (x.1.obj 1, x.1.retired 0, x.1.guard 1 1 4, x.1.hslot 1 8, x.1.nblk 1, x.1.log)) =
    some (.retired, [1], some 1, some (1, 4), 1, []) := by decide +kernel

/-- at the decision step of that pass the plist is [o1] -/
example : ((model cfg4).run (init cfg4) (guardedSurvives.take (guardedSurvives.length - 2))).map (fun x => x.1.pc 0) =
    some (.scanDecide [1] []) := by decide +kernel

/-- after `clear` and the second pass: o1 disposed, exactly once -/
example : ((model cfg4).run (init cfg4) (guardedSurvives ++ thenFreed)).map
      (fun x => (x.1.obj 1, x.1.retired 0, x.1.guard 1 1 4, x.1.log)) =
    some (.disposed, [], none, [1]) := by decide +kernel

/-- THE SEEDED DEFECT (seeded/C02-dhp-scan-extension-block-size: a pass copies only `initial_capacity_` guards of every
    extension block).  On the machine `modelSeeded` (= `stepW init false` instead of `stepW B false`) the same program, with the
    pass now 15 steps long (4 + list, 4 + list + FOUR slots of block 1, decision), disposes o1 while slot (1,1,4) still
    guards it: the statement of `C02_guarded_never_disposed` is FALSE for that machine, and the lemma that breaks is
    `pinv_scanLd_next_blk` / `pinv_scanLd_last` (Algo/DHP/Inv.lean), whose hypothesis `¬ i + 1 < B` is what the real
    code provides. -/
def seededRun : List (Tid × Act) :=
  op 0 "swap" [0] 1 ++ nine ++ op 1 "protect" [8, 0] 3 ++ op 0 "swap" [0] 2 ++ op 0 "scan" [] 15

example : ((modelSeeded cfg4).run (init cfg4) seededRun).map
      (fun x => (x.1.obj 1, x.1.retired 0, x.1.guard 1 1 4, x.1.log)) =
    some (.disposed, [], some 1, [1]) := by decide +kernel

/-- ... i.e. `modelSeeded` reaches a state in which a guarded object is disposed -/
example : ∃ s, (modelSeeded cfg4).Reachable (init cfg4) s ∧ ∃ u b i p, s.guard u b i = some p ∧ s.obj p = .disposed := by
  have h : ((modelSeeded cfg4).run (init cfg4) seededRun).map (fun x => (x.1.guard 1 1 4, x.1.obj 1)) =
      some (some 1, .disposed) := by decide +kernel
  cases hr : (modelSeeded cfg4).run (init cfg4) seededRun with
  | none => rw [hr] at h; cases h
  | some x =>
    rw [hr] at h
    simp only [Option.map_some, Option.some.injEq, Prod.mk.injEq] at h
    exact ⟨x.1, ⟨seededRun, x.2, hr⟩, 1, 1, 4, 1, h.1, h.2⟩

/-- An extension block linked AFTER the pass has loaded the record's list is not read - and need not be: thread 0's pass
    has gone by record 1 (`ld ext1 null`) when thread 1 takes its fifth guard (block 1) and protects o2 through it.
    o2 is in the cell, so it is in nobody's retired chain; the pass ends without reading block 1, keeps nothing of
    thread 1 and frees o1. -/
def lateBlock : List (Tid × Act) :=
  op 0 "swap" [0] 1 ++ ((List.range 4).flatMap fun (h : Nat) => op 1 "galloc" [(h : Int)] 1) ++
  op 0 "swap" [0] 2 ++ (0, call "scan" []) :: List.replicate 10 (0, Act.step) ++
  op 1 "galloc" [4] 1 ++ op 1 "protect" [4, 0] 3 ++ [(0, Act.step), (0, Act.ret)]

set_option synthInstance.maxSize 2000 in
example : ((model cfg4).run (init cfg4) lateBlock).map
      (fun x => (x.1.nblk 1, x.1.hslot 1 4, x.1.guard 1 1 0, x.1.obj 2, x.1.obj 1, x.1.log)) =
    some (1, some (1, 0), some 2, .live, .disposed, [1]) := by decide +kernel

/-! ### Example: a retired chain that grows past one block (RB = 4, T = 1)

  Thread 0 protects four objects through four guards and retires each of them; the fourth push fills the only block, so
  `retire` runs a pass: all four entries are guarded, nothing is freed (0 < 4/4), the chain gets a second block.  A
  fifth, unguarded object is retired into the second block; the next pass frees it and keeps the four. -/

def cfgG : Cfg := ⟨4, 16, 1, 4⟩
def grow : List (Tid × Act) :=
  op 0 "swap" [0] 1 ++ ((List.range 4).flatMap fun (h : Nat) => op 0 "galloc" [(h : Int)] 1) ++
  ((List.range 3).flatMap fun (h : Nat) => op 0 "protect" [(h : Int), 0] 3 ++ op 0 "swap" [0] 2) ++
  op 0 "protect" [3, 0] 3 ++ op 0 "swap" [0] 8 ++ op 0 "swap" [0] 2

example : ((model cfgG).run (init cfgG) grow).map (fun x => (x.1.retired 0, x.1.rblk 0, x.1.log)) =
    some ([1, 2, 3, 4, 5], 2, []) := by decide +kernel

example : ((model cfgG).run (init cfgG) (grow ++ op 0 "scan" [] 6)).map (fun x => (x.1.retired 0, x.1.rblk 0, x.1.log)) =
    some ([1, 2, 3, 4], 2, [5]) := by decide +kernel

/-! ### The finding: `retired_array::extend()` before its repair (RB = 8, init = 8, T = 1)

  Seven objects are retired while guarded, an eighth unguarded one fills the only block: `retire` runs a pass, which
  keeps seven and frees o8 - fewer than a quarter (1 < 8/4) of a chain that was completely full, so the chain is
  extended.  The repaired code leaves the write position behind the seven kept entries.  The code as it stood (machine
  `modelUnrepaired`) moved it to the new block: the entry of o8 stays in the chain, and the next pass hands o8 to the
  disposer a second time.  (Real code, unchanged tree at the time: harness/probes/dhp_retired_extend_double_dispose.cpp; the
  trace tie reported it as `retire T<t> o260 257` against the machine's 201, client option `--grow 200`.) -/

def cfgU : Cfg := ⟨8, 16, 1, 8⟩
def fillAndPass : List (Tid × Act) :=
  op 0 "swap" [0] 1 ++ ((List.range 7).flatMap fun (h : Nat) => op 0 "galloc" [(h : Int)] 1) ++
  ((List.range 7).flatMap fun (h : Nat) => op 0 "protect" [(h : Int), 0] 3 ++ op 0 "swap" [0] 2) ++
  op 0 "swap" [0] 12

/-- repaired: the chain holds the seven kept entries, o8 has been disposed once - also after one more pass -/
example : ((model cfgU).run (init cfgU) fillAndPass).map (fun x => (x.1.retired 0, x.1.rblk 0, x.1.log)) =
    some ([1, 2, 3, 4, 5, 6, 7], 2, [8]) := by decide +kernel
example : ((model cfgU).run (init cfgU) (fillAndPass ++ op 0 "scan" [] 10)).map (fun x => (x.1.retired 0, x.1.log)) =
    some ([1, 2, 3, 4, 5, 6, 7], [8]) := by decide +kernel

/-- unrepaired: the stale entry of o8 is still in the chain after the extending pass ... -/
example : ((modelUnrepaired cfgU).run (init cfgU) fillAndPass).map (fun x => (x.1.retired 0, x.1.rblk 0, x.1.log)) =
    some ([1, 2, 3, 4, 5, 6, 7, 8], 2, [8]) := by decide +kernel
/-- ... and the next pass disposes o8 again -/
example : ((modelUnrepaired cfgU).run (init cfgU) (fillAndPass ++ op 0 "scan" [] 10)).map (fun x => x.1.log) =
    some [8, 8] := by decide +kernel

end CdsVerif.Props.C02DHP
