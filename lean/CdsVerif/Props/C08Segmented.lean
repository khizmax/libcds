/-
  C08 — SegmentedQueue (cds::intrusive::SegmentedQueue; Afek, Korland, Yanovsky) conserves items and bounds
  reordering by the quasi factor.  Theorems about the atomic-step machine `Algo/Segmented/Model.lean` for EVERY
  schedule, any number of threads, any quasi factor K, any permutation input (the scan order of every operation is
  an argument of the operation: the theorems hold for every permutation generator).
  Property theorems only; the machine, the invariant and its proof live in `Algo/Segmented/*.lean`.

  The machine is tied to the real code by trace conformance (harness client `segmented`, variant `i_hp_named`,
  tools/segq_pre.py, `cdsdriver replay segq`).

  Assumptions of the machine (not proved here): sequentially consistent interleavings; a segment is not reused while
  a thread may hold a pointer to it (what the hazard pointers provide: C01/C02); an item is handed to `enqueue` at most
  once (contract of an intrusive container); the generator delivers permutations of [0, K).

  Reading the ghost history.  `now` ticks at every action (invocation, atomic step, return).  `tInv x` = time of the
  invocation of `enqueue(x)`; `tCas x = some c` = time of the successful CAS null → x; `tMark x = some m` = time of
  the successful CAS x → x|1 (the dequeue that returns x); `tCall t` = time of the invocation of thread t's current
  operation; `enqCnt x` / `deqCnt x` count those CASes blindly.  Every ghost field is written in `Model.lean` next to
  the event it records.  In a run: "enqueue(y) responded before enqueue(x) was invoked" implies `tCas y < tInv x`;
  "the dequeue that returns y was invoked after the dequeue that returns x responded" implies that y is not yet marked
  at `tMark x`.  Hence the harness oracle's count (harness/clients/segmented.cpp, rule (b)) is bounded by the number
  of `Overtaken` items, and its rule (c) is `C08_empty_means_taken`.

  WHAT IS NOT TRUE, with evaluated counterexample below: "dequeue returns empty only if the queue was empty at some
  instant during the call".  A scan reads the cells one after the other; a cell seen null may be filled and another
  cell's item taken before the scan ends, so that the queue holds an item at every instant of the call.  The code
  (and the machine) answer EMPTY there.  What holds is the statement of C08 in properties.jsonl: every item stored
  before the call began has been taken when the call returns (`C08_empty_means_taken`), and the instant form for the
  two other ways to answer EMPTY (`C08_empty_list_instant`).
-/
import CdsVerif.Algo.Segmented.Final

namespace CdsVerif.Props.C08Segmented
open CdsVerif.Machine CdsVerif.Spec CdsVerif.Algo CdsVerif.Algo.Segmented

/-! ### A. Structure -/

/-- The segment list `m_List` is the interval `[lo, nseg)` of the allocation order.  `m_pTail`, when not null, is the
    last allocated segment; `m_pHead`, when not null, is an allocated segment not ahead of the front of the list
    (`h ≤ lo`: it may lag inside `remove_head`); `m_pHead` is null only when the list is empty, and then `m_pTail` is
    null too. -/
theorem C08_list_structure (K : Nat) (s : Segmented.St) (h : Segmented.model.Reachable (Segmented.init K) s) :
    s.lo ≤ s.nseg ∧
    (∀ hd, s.head = some hd → hd ≤ s.lo ∧ hd < s.nseg) ∧
    (s.head = none → s.lo = s.nseg) ∧
    (∀ p, s.tail = some p → p + 1 = s.nseg) ∧
    (s.lo = s.nseg → s.tail = none) :=
  let G := (Segmented.inv_reachable K s h).1
  ⟨G.lo_le, G.head_some, G.head_none, G.tail_some, G.tail_none⟩

/-- The published pointers are exact whenever the lock of the segment list is free (nobody inside `create_tail` /
    `remove_head`): `m_pHead` is the first and `m_pTail` the last segment of the list; both are null when the list
    is empty.  (The same holds at the first and at the last step of each critical section: `Loc.qcs`.) -/
theorem C08_pointers_exact (K : Nat) (s : Segmented.St) (h : Segmented.model.Reachable (Segmented.init K) s)
    (hfree : s.lock = false) :
    (s.lo < s.nseg → s.head = some s.lo ∧ s.tail = some (s.nseg - 1)) ∧
    (s.lo = s.nseg → s.head = none ∧ s.tail = none) := by
  have I := Segmented.inv_reachable K s h
  have Q := I.1.quiet (Segmented.holder_none_of_free I.1 hfree)
  exact ⟨Q.1, fun he => ⟨Q.2 he, I.1.tail_none he⟩⟩

/-- Cells: a segment not yet allocated and a cell index outside [0, K) are never written; a segment that has been
    UNLINKED (`g < lo`) has only deleted cells; every segment but the last one is full (no null cell): a new tail
    is created only when the current one is full. -/
theorem C08_segments (K : Nat) (s : Segmented.St) (h : Segmented.model.Reachable (Segmented.init K) s) :
    (∀ g i, s.nseg ≤ g → s.cell g i = .null) ∧
    (∀ g i, s.K ≤ i → s.cell g i = .null) ∧
    (∀ g i, g < s.lo → i < s.K → (s.cell g i).isDel = true) ∧
    (∀ g i, g + 1 < s.nseg → i < s.K → s.cell g i ≠ .null) :=
  let G := (Segmented.inv_reachable K s h).1
  ⟨G.fresh, G.wide, G.dead, G.full⟩

/-- Cells are write-once, delete-once: one transition leaves a cell as it is, or stores an item into a null cell,
    or sets the deleted bit of the item it holds (true of every transition, reachable or not). -/
theorem C08_cells_write_once (s s' : Segmented.St) (t : Tid) (a : Act) (o : Obs)
    (hap : Segmented.model.apply s t a = some (s', o)) (g i : Nat) :
    s'.cell g i = s.cell g i ∨ (s.cell g i = .null ∧ ∃ x, s'.cell g i = .item x) ∨
    (∃ x, s.cell g i = .item x ∧ s'.cell g i = .del x) :=
  Segmented.cell_step_of_apply hap g i

/-- The lock of the segment list is a lock: a thread inside a critical section of `create_tail` / `remove_head` is
    THE holder, and the lock word is set. -/
theorem C08_lock (K : Nat) (s : Segmented.St) (h : Segmented.model.Reachable (Segmented.init K) s) (t1 t2 : Tid)
    (h1 : (s.pc t1).inCS = true) (h2 : (s.pc t2).inCS = true) : t1 = t2 ∧ s.lock = true := by
  have I := Segmented.inv_reachable K s h
  have e1 := (I.2 t1).cs h1
  have e2 := (I.2 t2).cs h2
  rw [e1] at e2
  exact ⟨by injection e2, I.1.holder_lock t1 e1⟩

/-! ### B. Conservation -/

/-- Every item is stored at most once, in one cell; it is taken at most once, and only after it was stored; an
    item that was stored and not taken sits, unmarked, in a cell of a segment that is STILL IN THE LIST (no loss);
    an item that was taken sits, marked, in its cell. -/
theorem C08_conservation (K : Nat) (s : Segmented.St) (h : Segmented.model.Reachable (Segmented.init K) s) (x : Nat) :
    (s.enqCnt x = 0 ∨ s.enqCnt x = 1) ∧ s.deqCnt x ≤ s.enqCnt x ∧
    (∀ g i, (s.cell g i = .item x ∨ s.cell g i = .del x) → s.enqCnt x = 1 ∧ g = s.posS x ∧ i = s.posI x) ∧
    (s.enqCnt x = 1 → s.used x = true ∧
      ((s.deqCnt x = 0 ∧ s.cell (s.posS x) (s.posI x) = .item x ∧
          s.lo ≤ s.posS x ∧ s.posS x < s.nseg ∧ s.posI x < s.K) ∨
       (s.deqCnt x = 1 ∧ s.cell (s.posS x) (s.posI x) = .del x))) := by
  have G := (Segmented.inv_reachable K s h).1
  refine ⟨G.enq_le x, G.deq_le_enq x, ?_, ?_⟩
  · rintro g i (hc | hc)
    · obtain ⟨h1, hg, hi, -⟩ := G.item_pos g i x hc
      exact ⟨h1, hg.symm, hi.symm⟩
    · obtain ⟨h1, hg, hi, -⟩ := G.del_pos g i x hc
      exact ⟨h1, hg.symm, hi.symm⟩
  · intro h1
    refine ⟨G.enq_used x h1, ?_⟩
    rcases G.enq_cell x h1 with hc | hc
    · exact Or.inl ⟨(G.item_pos _ _ x hc).2.2.2, hc, G.item_in_list hc⟩
    · exact Or.inr ⟨(G.del_pos _ _ x hc).2.2.2, hc⟩

/-- The content of the queue, at every instant (in particular at quiescence): the items in unmarked cells of the
    segments of the list are exactly the items stored and not taken. -/
theorem C08_content (K : Nat) (s : Segmented.St) (h : Segmented.model.Reachable (Segmented.init K) s) (x : Nat) :
    (∃ g i, s.lo ≤ g ∧ g < s.nseg ∧ i < s.K ∧ s.cell g i = .item x) ↔ (s.enqCnt x = 1 ∧ s.deqCnt x = 0) := by
  have G := (Segmented.inv_reachable K s h).1
  constructor
  · rintro ⟨g, i, _, _, _, hcell⟩
    obtain ⟨h1, -, -, h0⟩ := G.item_pos g i x hcell
    exact ⟨h1, h0⟩
  · rintro ⟨h1, h0⟩
    rcases G.enq_cell x h1 with hc | hc
    · obtain ⟨hlo, hn, hi⟩ := G.item_in_list hc
      exact ⟨_, _, hlo, hn, hi, hc⟩
    · have := (G.del_pos _ _ x hc).2.2.2
      omega

/-- `enqueue` returns true only after its CAS has stored the item (which by `C08_conservation` is then in a segment
    of the list, or already taken); `dequeue` returns an item only after its CAS has marked it, and no other dequeue
    does (`deqCnt x ≤ 1` counts the dequeues that return x). -/
theorem C08_results (K : Nat) (s : Segmented.St) (h : Segmented.model.Reachable (Segmented.init K) s) (t : Tid) (x : Nat) :
    (s.pc t = .enqDone x → s.enqCnt x = 1) ∧
    (s.pc t = .deqDone (some x) → s.deqCnt x = 1 ∧ s.enqCnt x = 1 ∧ s.cell (s.posS x) (s.posI x) = .del x) := by
  have I := Segmented.inv_reachable K s h
  refine ⟨(I.2 t).enqDone x, fun hp => ?_⟩
  have hd := (I.2 t).deqDone x hp
  have h1 : s.enqCnt x = 1 := by
    have := I.1.deq_le_enq x
    have := I.1.enq_le x
    omega
  rcases I.1.enq_cell x h1 with hc | hc
  · have := (I.1.item_pos _ _ x hc).2.2.2
    omega
  · exact ⟨hd, h1, hc⟩

/-- The effect of an operation lies inside its call: the enqueue CAS of x happened after the invocation of the
    enqueue that is about to return, the marking CAS of x after the invocation of the dequeue that is about to
    return x (and both before now). -/
theorem C08_effect_inside_call (K : Nat) (s : Segmented.St) (h : Segmented.model.Reachable (Segmented.init K) s) (t : Tid)
    (x : Nat) :
    (s.pc t = .enqDone x → ∃ c, s.tCas x = some c ∧ s.tCall t < c ∧ c < s.now) ∧
    (s.pc t = .deqDone (some x) → ∃ m, s.tMark x = some m ∧ s.tCall t < m ∧ m < s.now) := by
  have I := Segmented.inv_reachable K s h
  constructor
  · intro hp
    obtain ⟨c, hc, hlt⟩ := (I.2 t).casIn x hp
    exact ⟨c, hc, hlt, (I.1.cas_t x c hc).2.1⟩
  · intro hp
    obtain ⟨m, hm, hlt⟩ := (I.2 t).markIn x hp
    exact ⟨m, hm, hlt, (I.1.mark_t x m hm).1⟩

/-- Causality of the ghost history: an item is stored after its enqueue was invoked and taken after it was stored. -/
theorem C08_history (K : Nat) (s : Segmented.St) (h : Segmented.model.Reachable (Segmented.init K) s) (x : Nat) :
    (∀ c, s.tCas x = some c → s.tInv x < c ∧ c < s.now ∧ s.enqCnt x = 1) ∧
    (s.enqCnt x = 1 → s.tCas x ≠ none) ∧
    (∀ m, s.tMark x = some m → m < s.now ∧ s.deqCnt x = 1 ∧ ∀ c, s.tCas x = some c → c < m) ∧
    (s.deqCnt x = 1 → s.tMark x ≠ none) :=
  let G := (Segmented.inv_reachable K s h).1
  ⟨G.cas_t x, G.cas_some x, fun m hm => ⟨(G.mark_t x m hm).1, (G.mark_t x m hm).2, fun c hc => G.mark_cas x m c hm hc⟩,
   G.mark_some x⟩

/-! ### C. The meaning of EMPTY -/

/-- A dequeue answers EMPTY only if every item stored before the dequeue was invoked has been taken by then
    (the statement of C08; rule (c) of the harness oracle). -/
theorem C08_empty_means_taken (K : Nat) (s : Segmented.St) (h : Segmented.model.Reachable (Segmented.init K) s) (t : Tid)
    (hp : s.pc t = .deqDone none) (y c : Nat) (hc : s.tCas y = some c) (hlt : c < s.tCall t) :
    s.cell (s.posS y) (s.posI y) = .del y ∧ ∃ m, s.tMark y = some m ∧ m < s.now := by
  have I := Segmented.inv_reachable K s h
  have hd := (I.2 t).e3 (by rw [hp]; rfl) y c hc hlt
  have hst := Segmented.stored_facts I.1 hc
  have hcell : s.cell (s.posS y) (s.posI y) = .del y := by
    rcases hst.1 with h1 | h1
    · rw [h1] at hd; cases hd
    · exact h1
  refine ⟨hcell, ?_⟩
  have h1 := (I.1.del_pos _ _ y hcell).2.2.2
  cases hm : s.tMark y with
  | none => exact absurd hm (I.1.mark_some y h1)
  | some m => exact ⟨m, rfl, (I.1.mark_t y m hm).1⟩

/-- Whenever the segment list is empty no item is present anywhere; `m_pHead` is null only then.  A dequeue that
    answers EMPTY because it read `m_pHead == null`, or because `remove_head` found or left the list empty, has
    therefore seen the queue empty AT AN INSTANT of its call (the load resp. the store inside the critical section). -/
theorem C08_empty_list_instant (K : Nat) (s : Segmented.St) (h : Segmented.model.Reachable (Segmented.init K) s)
    (he : s.lo = s.nseg ∨ s.head = none) (g i x : Nat) : s.cell g i ≠ .item x := by
  have G := (Segmented.inv_reachable K s h).1
  have hlo : s.lo = s.nseg := he.elim id G.head_none
  intro hc
  have := G.item_in_list hc
  omega

/-- The third way: a dequeue that answers EMPTY at the end of a scan has seen a null cell in its segment, which was
    therefore the LAST segment at that instant, and every cell of that segment it visited was null or deleted when
    visited (`Loc.dRd`, `Loc.e1Rd`, `Loc.e2Rd` of the invariant); it has NOT seen the queue empty at one instant: see
    the evaluated run `emptySched` below. -/
theorem C08_null_cell_is_in_last_segment (K : Nat) (s : Segmented.St) (h : Segmented.model.Reachable (Segmented.init K) s)
    (g i : Nat) (hg : g < s.nseg) (hi : i < s.K) (hc : s.cell g i = .null) : g + 1 = s.nseg := by
  have G := (Segmented.inv_reachable K s h).1
  by_cases hh : g + 1 < s.nseg
  · exact absurd hc (G.full g i hh hi)
  · omega

/-! ### D. The reordering bound -/

/-- Segment form.  If y was stored before the enqueue of x was invoked, y is not in a later segment than x. -/
theorem C08_enqueue_order (K : Nat) (s : Segmented.St) (h : Segmented.model.Reachable (Segmented.init K) s) (x y c : Nat)
    (hx : s.enqCnt x = 1) (hy : s.tCas y = some c) (hlt : c < s.tInv x) : s.posS y ≤ s.posS x :=
  (Segmented.inv_reachable K s h).1.order x y c hx hy hlt

/-- Dequeues take items from the FIRST segment of the list only: a thread about to execute a marking CAS that will
    succeed works on a segment `g ≤ lo`, hence `g = lo`, and all cells of all older segments are deleted. -/
theorem C08_dequeue_from_first_segment (K : Nat) (s : Segmented.St) (h : Segmented.model.Reachable (Segmented.init K) s)
    (t : Tid) (ps : List Nat) (g i x : Nat) (rest : List Nat) (hn : Bool)
    (hp : s.pc t = .deqCas ps g i x rest hn) (hc : s.cell g i = .item x) :
    g = s.lo ∧ ∀ g' i', g' < g → i' < s.K → (s.cell g' i').isDel = true := by
  have I := Segmented.inv_reachable K s h
  have hd := (I.2 t).dptr g (by rw [hp]; rfl)
  have hlo := (I.1.item_in_list hc).1
  exact ⟨by omega, fun g' i' hg' hi' => I.1.dead g' i' (by omega) hi'⟩

/-- An item x overtakes only items of its own segment: if y was stored before the enqueue of x was invoked and y
    is still in the queue at the instant x is taken, then x and y are in the same segment. -/
theorem C08_quasi_segment (K : Nat) (s : Segmented.St) (h : Segmented.model.Reachable (Segmented.init K) s) (x y m c : Nat)
    (hx : s.tMark x = some m) (hy : s.tCas y = some c) (hlt : c < s.tInv x)
    (hstill : ∀ m', s.tMark y = some m' → m < m') : s.posS y = s.posS x :=
  (Segmented.inv_reachable K s h).1.quasi x y m c hx hy hlt hstill

/-- The bound of C08: when x is taken, FEWER THAN K (at most K − 1) items that were stored before the enqueue of x
    was invoked are still in the queue.  (`ys`: any duplicate-free list of such items.) -/
theorem C08_quasi_bound (K : Nat) (s : Segmented.St) (h : Segmented.model.Reachable (Segmented.init K) s) (x : Nat)
    (ys : List Nat) (hnd : ys.Nodup) (hys : ∀ y, y ∈ ys → Segmented.Overtaken s x y) : ys.length ≤ s.K - 1 :=
  Segmented.overtaken_count (Segmented.inv_reachable K s h).1 x ys hnd hys

/-- The quasi factor of a run is the one the queue was built with. -/
theorem C08_K_const (K : Nat) (s : Segmented.St) (h : Segmented.model.Reachable (Segmented.init K) s) : s.K = K :=
  Segmented.K_reachable K s h

/-! ### E. Evaluated runs (K = 2): the machine does what the theorems talk about, in the vocabulary of the harness trace -/

def enq (v : Int) (ps : List Int) : Act := .invoke ⟨"enq", v :: ps⟩
def deq (ps : List Int) : Act := .invoke ⟨"deq", ps⟩
def steps (t : Tid) (n : Nat) : List (Tid × Act) := List.replicate n (t, .step)
/-- One operation run alone: call, n atomic steps, return. -/
def runT (t : Tid) (a : Act) (n : Nat) : List (Tid × Act) := [(t, a)] ++ steps t n ++ [(t, .ret)]
def traceOf (K : Nat) (sched : List (Tid × Act)) : Option (List String) :=
  (Segmented.model.run (Segmented.init K) sched).map (fun r => Segmented.renderT r.2)

/-- Enqueue 1 creates the first segment (tail was null).  Then enqueues 2 and 3 race for the last free cell c1 of s0:
    3 loses the CAS, finds the segment full, creates the new tail s1 under the lock and stores there. -/
def raceSched : List (Tid × Act) :=
  runT 0 (enq 1 [0, 1]) 8 ++
  [(0, enq 2 [1, 0, 0, 1]), (1, enq 3 [1, 0, 0, 1])] ++ steps 0 3 ++ steps 1 3 ++ [(0, .step), (0, .ret)] ++
  steps 1 7 ++ [(1, .ret)]

example : traceOf 2 raceSched = some
    ["T 0 C enq [1, 0, 1]", "T 0 A ld segTail null", "T 0 A ld segTail null", "T 0 A xchg segLock 0 1",
     "T 0 A st segHead s0", "T 0 A st segTail s0", "T 0 A st segLock 0", "T 0 A ld s0.c0 null",
     "T 0 A cas+ s0.c0 null i1", "T 0 R [1]",
     "T 0 C enq [2, 1, 0, 0, 1]", "T 1 C enq [3, 1, 0, 0, 1]",
     "T 0 A ld segTail s0", "T 0 A ld segTail s0", "T 0 A ld s0.c1 null",
     "T 1 A ld segTail s0", "T 1 A ld segTail s0", "T 1 A ld s0.c1 null",
     "T 0 A cas+ s0.c1 null i2", "T 0 R [1]",
     "T 1 A cas- s0.c1 i2 null", "T 1 A ld s0.c0 i1", "T 1 A xchg segLock 0 1", "T 1 A st segTail s1",
     "T 1 A st segLock 0", "T 1 A ld s1.c0 null", "T 1 A cas+ s1.c0 null i3", "T 1 R [1]"] := by
  decide +kernel

/-- THE COUNTEREXAMPLE to "empty at some instant".  s0 = [null, 7].  Thread 0's dequeue reads c0 = null; thread 1
    enqueues 8 into c0; thread 2 dequeues 7 from c1; thread 0 reads c1 = 7|1 and answers EMPTY. -/
def emptySched : List (Tid × Act) :=
  runT 0 (enq 7 [1, 0]) 8 ++
  [(0, deq [0, 1])] ++ steps 0 3 ++ runT 1 (enq 8 [0, 1]) 4 ++ runT 2 (deq [1, 0]) 4 ++ steps 0 1 ++ [(0, .ret)]

example : (traceOf 2 emptySched).map (·.drop 10) = some
    ["T 0 C deq [0, 1]", "T 0 A ld segHead s0", "T 0 A ld segHead s0", "T 0 A ld s0.c0 null",
     "T 1 C enq [8, 0, 1]", "T 1 A ld segTail s0", "T 1 A ld segTail s0", "T 1 A ld s0.c0 null",
     "T 1 A cas+ s0.c0 null i8", "T 1 R [1]",
     "T 2 C deq [1, 0]", "T 2 A ld segHead s0", "T 2 A ld segHead s0", "T 2 A ld s0.c1 i7",
     "T 2 A cas+ s0.c1 i7 i7|1", "T 2 R [1, 7]",
     "T 0 A ld s0.c1 i7|1", "T 0 R [0]"] := by
  decide +kernel

/-- … and the number of items present after each action, from just before thread 0's call (index 10) to just after
    its return: never 0.  The queue was not empty at any instant of the call that answered EMPTY.  (The weak form
    holds: item 7, the only one stored before the call, has been taken.) -/
example : (Segmented.unmarkedTrace (Segmented.init 2) emptySched).drop 10 =
    [1, 1, 1, 1, 1, 1, 1, 1, 1, 2, 2, 2, 2, 2, 2, 1, 1, 1, 1] := by
  decide +kernel

/-- Two dequeues race for one item: one marking CAS succeeds, the other fails, goes on, sees a null cell and answers
    EMPTY. -/
def deqRaceSched : List (Tid × Act) :=
  runT 0 (enq 5 [0, 1]) 8 ++
  [(0, deq [0, 1]), (1, deq [0, 1])] ++ steps 0 3 ++ steps 1 3 ++ steps 0 1 ++ steps 1 2 ++ [(1, .ret), (0, .ret)]

example : (traceOf 2 deqRaceSched).map (·.drop 10) = some
    ["T 0 C deq [0, 1]", "T 1 C deq [0, 1]",
     "T 0 A ld segHead s0", "T 0 A ld segHead s0", "T 0 A ld s0.c0 i5",
     "T 1 A ld segHead s0", "T 1 A ld segHead s0", "T 1 A ld s0.c0 i5",
     "T 0 A cas+ s0.c0 i5 i5|1", "T 1 A cas- s0.c0 i5|1 i5", "T 1 A ld s0.c1 null",
     "T 1 R [0]", "T 0 R [1, 5]"] := by
  decide +kernel

/-- Head segment removal.  s0 = [1|1, 2|1] (exhausted), s1 = [3, null].  Threads 1 and 2 both scan s0 and find it
    exhausted.  Thread 1 removes it (head := s1) and takes 3 from s1; thread 2, whose pointer is stale, only
    re-publishes the front of the list, scans s1, finds 3 taken and a null cell: EMPTY. -/
def removeSched : List (Tid × Act) :=
  runT 0 (enq 1 [0, 1]) 8 ++ runT 0 (enq 2 [0, 1]) 5 ++ runT 0 (enq 3 [0, 1, 0, 1]) 9 ++
  runT 0 (deq [0, 1]) 4 ++ runT 0 (deq [0, 1]) 5 ++
  [(1, deq [0, 1, 0, 1]), (2, deq [0, 1, 0, 1])] ++ steps 1 4 ++ steps 2 4 ++ steps 1 5 ++ [(1, .ret)] ++
  steps 2 5 ++ [(2, .ret)]

example : (traceOf 2 removeSched).map (·.drop 41) = some
    ["T 1 C deq [0, 1, 0, 1]", "T 2 C deq [0, 1, 0, 1]",
     "T 1 A ld segHead s0", "T 1 A ld segHead s0", "T 1 A ld s0.c0 i1|1", "T 1 A ld s0.c1 i2|1",
     "T 2 A ld segHead s0", "T 2 A ld segHead s0", "T 2 A ld s0.c0 i1|1", "T 2 A ld s0.c1 i2|1",
     "T 1 A xchg segLock 0 1", "T 1 A st segHead s1", "T 1 A st segLock 0", "T 1 A ld s1.c0 i3",
     "T 1 A cas+ s1.c0 i3 i3|1", "T 1 R [1, 3]",
     "T 2 A xchg segLock 0 1", "T 2 A st segHead s1", "T 2 A st segLock 0", "T 2 A ld s1.c0 i3|1",
     "T 2 A ld s1.c1 null", "T 2 R [0]"] := by
  decide +kernel

/-- The last dequeue of a queue with one exhausted segment empties the list: tail := null, head := null, EMPTY;
    the next enqueue starts a new list. -/
def drainSched : List (Tid × Act) :=
  runT 0 (enq 1 [0, 1]) 8 ++ runT 0 (enq 2 [0, 1]) 5 ++ runT 0 (deq [0, 1]) 4 ++ runT 0 (deq [0, 1]) 5 ++
  runT 1 (deq [0, 1]) 8 ++ runT 1 (deq [0, 1]) 2 ++ runT 0 (enq 3 [1, 0]) 8

example : (traceOf 2 drainSched).map (·.drop 30) = some
    ["T 1 C deq [0, 1]", "T 1 A ld segHead s0", "T 1 A ld segHead s0", "T 1 A ld s0.c0 i1|1", "T 1 A ld s0.c1 i2|1",
     "T 1 A xchg segLock 0 1", "T 1 A st segTail null", "T 1 A st segHead null", "T 1 A st segLock 0", "T 1 R [0]",
     "T 1 C deq [0, 1]", "T 1 A ld segHead null", "T 1 A ld segHead null", "T 1 R [0]",
     "T 0 C enq [3, 1, 0]", "T 0 A ld segTail null", "T 0 A ld segTail null", "T 0 A xchg segLock 0 1",
     "T 0 A st segHead s1", "T 0 A st segTail s1", "T 0 A st segLock 0", "T 0 A ld s1.c1 null",
     "T 0 A cas+ s1.c1 null i3", "T 0 R [1]"] := by
  decide +kernel

end CdsVerif.Props.C08Segmented
