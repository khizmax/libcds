/-
  C06 — OptimisticQueue (cds::intrusive::OptimisticQueue, Ladan-Mozes & Shavit: doubly linked, `m_pPrev` written
  optimistically and repaired by `fix_list`) is a linearizable FIFO queue: every concurrent history of the
  atomic-step model `Algo/Optimistic/Model.lean` is linearizable to `Spec.fifo`; `dequeue` reports "empty" only if
  the queue was empty at some instant during the call; `fix_list` never dereferences a null pointer.
  Property theorems only; the model, the invariant and the proof live in
  `Algo/Optimistic/{Model,Inv,Thread,Steps,Lin}.lean` and in the generic ghost-log construction
  `Algo/QueueLin/{Chain,History,Ghost}.lean`.

  The `m_pPrev` links are hints only: the invariant requires nothing of them but that they point to published
  nodes.  Safety rests on the dequeuer's own check `pFirstNodePrev->m_pNext == pHead` and on the fact that exactly
  one published node has `m_pNext == pHead`.

  Assumption of the model (not proved here): a node is not reused while any thread may still hold a pointer to it
  (garbage-collected heap; the disposer's `clear_links` is not modelled).  This is what the hazard pointers taken
  by `guards.protect` provide.
-/
import CdsVerif.Algo.Optimistic.Lin
namespace CdsVerif.Props.C06Optimistic
open CdsVerif.Machine CdsVerif.Lin CdsVerif.Spec CdsVerif.Algo CdsVerif.Algo.QueueLin

/-- Linearizability, general form (Herlihy–Wing with completion of pending operations).  For EVERY schedule (any
    number of threads, any client program of `enq v` / `deq`, any interleaving of the atomic steps, `fix_list`
    included), the history of the completed operations of the run — extended by response records for the pending
    operations that have passed their linearization point definitively (at most one per thread; each is an
    operation pending in `os`, completed with the result fixed at its linearization point and the response time
    "end of run"), all other pending operations being dropped — is linearizable to the sequential FIFO queue. -/
theorem C06_optimistic_linearizable (sched : List (Tid × Act)) (s : Optimistic.St) (os : List (Tid × Obs))
    (h : Optimistic.model.run Optimistic.init sched = some (s, os)) :
    ∃ extra : List (OpRec GOp GRet),
      (∀ e ∈ extra, pendingOf os e.tid = some (e.op, e.inv) ∧ e.res = os.length ∧
          Optimistic.postRet (s.pc e.tid) = some e.ret) ∧
      extra.Pairwise (fun a b => a.tid ≠ b.tid) ∧
      Linearizable fifo (historyOf os ++ extra) :=
  Optimistic.optimistic_linearizable sched s os h

/-- Runs in which every invoked operation has returned: the history is linearizable as it is. -/
theorem C06_optimistic_linearizable_complete_runs (sched : List (Tid × Act)) (s : Optimistic.St)
    (os : List (Tid × Obs)) (h : Optimistic.model.run Optimistic.init sched = some (s, os))
    (hq : ∀ t, s.pc t = .idle) :
    Linearizable fifo (historyOf os) :=
  Optimistic.optimistic_linearizable_complete_runs sched s os h hq

/-- More generally: runs at whose end no thread is between its definitive linearization point and its return. -/
theorem C06_optimistic_linearizable_no_effect_pending (sched : List (Tid × Act)) (s : Optimistic.St)
    (os : List (Tid × Obs)) (h : Optimistic.model.run Optimistic.init sched = some (s, os))
    (hq : ∀ t, Optimistic.postRet (s.pc t) = none) :
    Linearizable fifo (historyOf os) :=
  Optimistic.optimistic_linearizable_no_effect_pending sched s os h hq

/-- Conservation, part 1 — no invention: every value returned by a `deq` is the argument of an `enq` that was
    invoked before the `deq` returned. -/
theorem C06_optimistic_no_invention (sched : List (Tid × Act)) (s : Optimistic.St) (os : List (Tid × Obs))
    (h : Optimistic.model.run Optimistic.init sched = some (s, os)) (r : OpRec GOp GRet)
    (hr : r ∈ historyOf os) (hop : r.op = ⟨"deq", []⟩) (v : Int) (hret : r.ret = [1, v]) :
    ∃ i t', i < r.res ∧ os[i]? = some (t', .call ⟨"enq", [v]⟩) :=
  Optimistic.optimistic_no_invention sched s os h r hr hop v hret

/-- Conservation, part 2 — no duplication: for every value `v` the completed dequeues that returned `v` are at most
    as many as the `enq v` operations of the run (the completed ones plus the pending ones in `extra`).  (No loss:
    linearizability itself — a `deq` on a queue that is not empty in the linearization order cannot answer
    "empty", and it returns the oldest value.) -/
theorem C06_optimistic_no_duplication (sched : List (Tid × Act)) (s : Optimistic.St) (os : List (Tid × Obs))
    (h : Optimistic.model.run Optimistic.init sched = some (s, os)) :
    ∃ extra : List (OpRec GOp GRet),
      (∀ e ∈ extra, pendingOf os e.tid = some (e.op, e.inv) ∧ e.res = os.length ∧
          Optimistic.postRet (s.pc e.tid) = some e.ret) ∧
      extra.Pairwise (fun a b => a.tid ≠ b.tid) ∧
      ∀ v, (historyOf os).countP (isDeqOf v) ≤ (historyOf os ++ extra).countP (isEnq v) :=
  Optimistic.optimistic_no_duplication sched s os h

/-- `deq` answers "empty" only if the queue was empty at some instant during the call (hindsight).  For EVERY run: if
    a completed `deq` returned `[0]`, there is an instant `j` strictly between its call and its return such that in
    the state `s1` reached by the first `j` actions of the run (`EmptyAt`) the caller is about to perform the
    validating load of `m_pTail`, and the node `h` it has read from `m_pHead` is both `m_pHead` and `m_pTail`: the
    abstract queue is empty.  (At the later re-validation of `m_pHead`, where the result becomes definitive, the
    queue need not be empty any more: example `hindSched`.) -/
theorem C06_optimistic_empty_means_empty (sched : List (Tid × Act)) (s : Optimistic.St) (os : List (Tid × Obs))
    (h : Optimistic.model.run Optimistic.init sched = some (s, os)) (r : OpRec GOp GRet)
    (hr : r ∈ historyOf os) (hret : r.ret = [0]) :
    ∃ j s1, r.inv < j ∧ j < r.res ∧ Optimistic.model.run Optimistic.init (sched.take j) = some (s1, os.take j) ∧
      Optimistic.EmptyAt s1 r.tid ∧ Optimistic.absQueue s1 = [] :=
  Optimistic.optimistic_empty_hindsight sched s os h r hr hret

/-- Refinement: in a reachable state, the step at which thread `t` fixes its result `r` — tentatively for the empty
    dequeue — (successful CAS on `m_pTail` of `enq`, successful CAS on `m_pHead` of `deq`, validating load of
    `m_pTail` returning `pHead` of `deq`) is exactly the `fifo` transition of `t`'s operation with result `r` on the
    abstract queue; every other step — all of `fix_list`, every store to `m_pPrev` — leaves the abstract queue
    unchanged. -/
theorem C06_optimistic_lp_refines (s s' : Optimistic.St) (t : Tid) (ev : Ev)
    (hreach : Optimistic.model.Reachable Optimistic.init s) (hs : Optimistic.step s t = some (s', ev)) :
    (Optimistic.lpRet (s.pc t) = none → ∀ r, Optimistic.lpRet (s'.pc t) = some r →
      ∃ op, Optimistic.opOf s.val (s.pc t) = some op ∧
        fifo.next (Optimistic.absQueue s) op r = some (Optimistic.absQueue s')) ∧
    ((Optimistic.lpRet (s.pc t) ≠ none ∨ Optimistic.lpRet (s'.pc t) = none) →
      Optimistic.absQueue s' = Optimistic.absQueue s) :=
  Optimistic.step_refines (Optimistic.sinv_reachable s hreach) hs

/-- `fix_list` never dereferences a null pointer: the walk from `pTail` along `m_pNext` reaches `pHead` while
    `pHead` is still `m_pHead` (and stops at the first check after `m_pHead` has moved). -/
theorem C06_optimistic_no_crash (s : Optimistic.St) (hreach : Optimistic.model.Reachable Optimistic.init s)
    (t : Tid) : s.pc t ≠ .crash :=
  Optimistic.no_crash s hreach t

/-- Structure of the reachable states: following `m_pNext` from `m_pTail` one reaches `m_pHead`; the nodes on the
    way (`absNodes`: `tail` first, `head` last) are distinct; `tail == head` means that the queue is empty. -/
theorem C06_optimistic_segment (s : Optimistic.St) (hreach : Optimistic.model.Reachable Optimistic.init s) :
    (Optimistic.absNodes s).Nodup ∧ (∃ r, Optimistic.absNodes s = s.tail :: r) ∧
    (Optimistic.absNodes s).getLast? = some s.head ∧ (s.tail = s.head → Optimistic.absQueue s = []) :=
  Optimistic.reachable_segment s hreach

/-! ### Non-vacuity -/

def steps (t : Tid) (n : Nat) : List (Tid × Act) := List.replicate n (t, .step)

/-- `fix_list` at work.  Thread 0 has swung `m_pTail` to its node `n1` but is delayed before the optimistic store
    `n0.prev = n1`.  Thread 1 dequeues: it finds `tail != head` but `head->prev == null`, walks from the tail
    (`ld n1 n0`), re-validates `head` and repairs `n0.prev` itself (`st p0 n1`). -/
def fixSched : List (Tid × Act) :=
  [(0, .invoke ⟨"enq", [7]⟩)] ++ steps 0 4 ++ [(1, .invoke ⟨"deq", []⟩)] ++ steps 1 11

example : (Optimistic.model.run Optimistic.init fixSched).map (·.2) = some
    [(0, .call ⟨"enq", [7]⟩),                 -- T 0 C enq [7]
     (0, .ev ⟨"ld", "tail", "n0", ""⟩),       -- T 0 A ld tail n0
     (0, .ev ⟨"ld", "tail", "n0", ""⟩),       -- T 0 A ld tail n0
     (0, .ev ⟨"st", "n1", "n0", ""⟩),         -- T 0 A st n1 n0              (pNew->m_pNext = pTail)
     (0, .ev ⟨"cas+", "tail", "n0", "n1"⟩),   -- T 0 A cas+ tail n0 n1       (linearization point of enq 7)
     (1, .call ⟨"deq", []⟩),                  -- T 1 C deq []
     (1, .ev ⟨"ld", "head", "n0", ""⟩),
     (1, .ev ⟨"ld", "head", "n0", ""⟩),
     (1, .ev ⟨"ld", "tail", "n1", ""⟩),
     (1, .ev ⟨"ld", "tail", "n1", ""⟩),
     (1, .ev ⟨"ld", "p0", "null", ""⟩),       -- T 1 A ld p0 null            (head->prev not yet written)
     (1, .ev ⟨"ld", "p0", "null", ""⟩),
     (1, .ev ⟨"ld", "head", "n0", ""⟩),       --                             (head unchanged: fix_list)
     (1, .ev ⟨"ld", "n1", "n0", ""⟩),         -- T 1 A ld n1 n0              (fix_list: pCurNode->m_pNext)
     (1, .ev ⟨"ld", "n1", "n0", ""⟩),
     (1, .ev ⟨"ld", "head", "n0", ""⟩),
     (1, .ev ⟨"st", "p0", "n1", ""⟩)]         -- T 1 A st p0 n1              (repair)
    := by decide

example : (Optimistic.model.run Optimistic.init fixSched).map
    (fun r => (Optimistic.absQueue r.1, Optimistic.absNodes r.1, r.1.head, r.1.tail, r.1.prev 0)) =
    some ([7], [1, 0], 0, 1, some 1) := by decide

example : (Optimistic.model.run Optimistic.init fixSched).map (fun r => r.1.pc 1) = some .deqLdH1 := by decide

/-- ... then thread 1 restarts, finds `n0.prev = n1`, checks `n1.next == n0` and dequeues; thread 0's late store
    `n0.prev = n1` hits a node that is no longer in the queue. -/
def fixRest : List (Tid × Act) := steps 1 9 ++ [(1, .ret)] ++ steps 0 1 ++ [(0, .ret)]

example : (Optimistic.model.run Optimistic.init (fixSched ++ fixRest)).map (fun r => r.2.drop 17) = some
    [(1, .ev ⟨"ld", "head", "n0", ""⟩),
     (1, .ev ⟨"ld", "head", "n0", ""⟩),
     (1, .ev ⟨"ld", "tail", "n1", ""⟩),
     (1, .ev ⟨"ld", "tail", "n1", ""⟩),
     (1, .ev ⟨"ld", "p0", "n1", ""⟩),
     (1, .ev ⟨"ld", "p0", "n1", ""⟩),
     (1, .ev ⟨"ld", "head", "n0", ""⟩),
     (1, .ev ⟨"ld", "n1", "n0", ""⟩),         -- pFirstNodePrev->m_pNext == pHead
     (1, .ev ⟨"cas+", "head", "n0", "n1"⟩),   -- linearization point of deq
     (1, .ret [1, 7]),
     (0, .ev ⟨"st", "p0", "n1", ""⟩),         -- the delayed optimistic store
     (0, .ret [1])] := by decide

example : (Optimistic.model.run Optimistic.init (fixSched ++ fixRest)).map
    (fun r => (historyOf r.2, linCheck fifo (historyOf r.2), Optimistic.absQueue r.1, r.1.head, r.1.tail)) =
    some ([⟨1, ⟨"deq", []⟩, [1, 7], 5, 26⟩, ⟨0, ⟨"enq", [7]⟩, [1], 0, 28⟩], true, [], 1, 1) := by decide

/-- Hindsight.  Thread 0's `deq` reads `head = n0` and `tail = n0` (tentative linearization point: the queue IS
    empty); then thread 1 enqueues 3 completely; then thread 0 reads `n0.prev`, re-validates `head == n0`
    successfully and answers "empty" — at that step the abstract queue is `[3]`. -/
def hindSched : List (Tid × Act) :=
  [(0, .invoke ⟨"deq", []⟩)] ++ steps 0 4 ++ [(1, .invoke ⟨"enq", [3]⟩)] ++ steps 1 5 ++ [(1, .ret)]

example : (Optimistic.model.run Optimistic.init hindSched).map (fun r => (Optimistic.absQueue r.1, r.1.pc 0)) =
    some ([3], .deqPv1 0 0) := by decide

example : (Optimistic.model.run Optimistic.init (hindSched ++ steps 0 3 ++ [(0, .ret)])).map
    (fun r => (r.2.drop 12, historyOf r.2)) = some
    ([(0, .ev ⟨"ld", "p0", "n1", ""⟩),
      (0, .ev ⟨"ld", "p0", "n1", ""⟩),
      (0, .ev ⟨"ld", "head", "n0", ""⟩),      -- re-validation succeeds: "empty" is definitive
      (0, .ret [0])],
     [⟨1, ⟨"enq", [3]⟩, [1], 5, 11⟩, ⟨0, ⟨"deq", []⟩, [0], 0, 15⟩]) := by decide

example : linCheck fifo [⟨1, ⟨"enq", [3]⟩, [1], 5, 11⟩, ⟨0, ⟨"deq", []⟩, [0], 0, 15⟩] = true := by decide

/-- A tentative linearization that is withdrawn.  As above, but thread 2 also dequeues the 3 before thread 0
    re-validates: `head` has moved to `n1`, the re-validation fails (`ld head n1`), thread 0 restarts, finds
    `head == tail == n1` and answers "empty" with a new linearization point. -/
def withdrawSched : List (Tid × Act) :=
  hindSched ++ [(2, .invoke ⟨"deq", []⟩)] ++ steps 2 9 ++ [(2, .ret)] ++ steps 0 10 ++ [(0, .ret)]

example : (Optimistic.model.run Optimistic.init withdrawSched).map (fun r => r.2.filter (fun x => x.1 == 0)) = some
    [(0, .call ⟨"deq", []⟩),
     (0, .ev ⟨"ld", "head", "n0", ""⟩),
     (0, .ev ⟨"ld", "head", "n0", ""⟩),
     (0, .ev ⟨"ld", "tail", "n0", ""⟩),
     (0, .ev ⟨"ld", "tail", "n0", ""⟩),       -- tentative linearization point (queue empty)
     (0, .ev ⟨"ld", "p0", "n1", ""⟩),
     (0, .ev ⟨"ld", "p0", "n1", ""⟩),
     (0, .ev ⟨"ld", "head", "n1", ""⟩),       -- re-validation fails: withdrawn, restart
     (0, .ev ⟨"ld", "head", "n1", ""⟩),
     (0, .ev ⟨"ld", "head", "n1", ""⟩),
     (0, .ev ⟨"ld", "tail", "n1", ""⟩),
     (0, .ev ⟨"ld", "tail", "n1", ""⟩),       -- linearization point of the empty deq
     (0, .ev ⟨"ld", "p1", "null", ""⟩),
     (0, .ev ⟨"ld", "p1", "null", ""⟩),
     (0, .ev ⟨"ld", "head", "n1", ""⟩),       -- re-validation succeeds
     (0, .ret [0])] := by decide

example : (Optimistic.model.run Optimistic.init withdrawSched).map (fun r => linCheck fifo (historyOf r.2)) =
    some true := by decide

end CdsVerif.Props.C06Optimistic
