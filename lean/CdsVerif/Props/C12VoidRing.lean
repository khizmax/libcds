/-
  C12 — `WeakRingBuffer<void>` (variable-size byte records) is an exact SPSC FIFO, ALL interleavings.
  Property theorems only.  Model: Algo/VoidRing/Model.lean (one step per atomic operation on `front_` /
  `back_` with the plain-memory work of the thread attached: header and tail-marker writes, the copy of the
  payload, the consumer's header reads; caches `pfront_` / `cback_`; one producer and one consumer running
  arbitrary client programs of `back( size )`+`push_back()` / `front()`+`pop_front()` / `front()`);
  invariant: Algo/VoidRing/Inv.lean; transition lemmas: Algo/VoidRing/Trans.lean.
  Capacity: any positive multiple of 8 (what the constructor produces since the fix: commit; power of two or
  not — `mod` is `% capacity()`, which is what the `Exp2` mask computes, `C12_void_ring_exp2_mod`);
  record sizes: any size satisfying the library's asserted precondition `0 < size`,
  `calc_real_size( size ) < capacity()`.  The typed ring is Props/C12.lean; the sequential byte-level
  model of the void form (real `BitVec 64` helpers, byte arrays) is Algo/Ring/Void.lean.
-/
import CdsVerif.Algo.VoidRing.Trans
namespace CdsVerif.Props.C12VoidRing
open CdsVerif.Machine CdsVerif.Spec CdsVerif.Algo

/-! ### (1) Invariant -/

/-- In every reachable state: the capacity is constant; `front_ ≤ back_` and at most `capacity` bytes are in
    flight; both caches are conservative (`pfront_ ≤ front_`, `front ≤ cback_ ≤ back_`) and the producer's
    free-space expression does not underflow (`back_ ≤ pfront_ + capacity`); both counters are 8-aligned;
    and the live region `[front_, back_)` parses as exactly the published, not yet released segments
    `live` — records with their size header and every payload byte, and tail markers reaching exactly to
    the end of the buffer — none of them straddling the buffer end (`VoidRing.SegAt`). -/
theorem C12_void_ring_invariant (cap : Nat) (h8 : cap % 8 = 0) (hpos : 0 < cap) (s : VoidRing.St)
    (h : VoidRing.model.Reachable (VoidRing.init cap) s) :
    s.cap = cap ∧ s.front ≤ s.back ∧ s.back - s.front ≤ s.cap ∧
    s.pfront ≤ s.front ∧ s.front ≤ s.cback ∧ s.cback ≤ s.back ∧ s.back ≤ s.pfront + s.cap ∧
    s.front % 8 = 0 ∧ s.back % 8 = 0 ∧
    VoidRing.Parses s.mem s.cap s.front s.back s.live := by
  have hinv := VoidRing.inv_reachable cap h8 hpos s h
  have hfl := VoidRing.in_flight_le_cap s hinv
  exact ⟨VoidRing.cap_reachable cap h8 hpos s h, hfl.1, hfl.2, hinv.pfront_le, hinv.front_le, hinv.cback_le,
    hinv.back_le, hinv.front8, hinv.back8, hinv.parses⟩

/-- The producer never writes into `[front_, back_)`: no transition of any thread changes a cell of the
    live region (this is what both seeded wrap-path bugs break: they grant the producer space at the start of
    the buffer that still holds unread records).  The consumer reads only cells of the live region, and
    that region loses cells only by the consumer's own `front_.store`; hence no data race on the buffer and
    the position of the plain accesses between two atomic operations is immaterial. -/
theorem C12_void_ring_never_overwrites_unconsumed (cap : Nat) (h8 : cap % 8 = 0) (hpos : 0 < cap) (s : VoidRing.St)
    (h : VoidRing.model.Reachable (VoidRing.init cap) s) :
    ∀ t a s' o, VoidRing.model.apply s t a = some (s', o) →
      ∀ j, s.front ≤ j → j < s.back → s'.mem (j % s.cap) = s.mem (j % s.cap) := by
  intro t a s' o hap
  exact (VoidRing.apply_mem_live s t a s' o (VoidRing.inv_reachable cap h8 hpos s h) hap).2

/-- The word behind the live region is inside the buffer: `mod( back_ ) + 8 ≤ capacity` (the header /
    marker write of back() cannot run over the end — the defect repaired by rounding the capacity up to a
    multiple of 8), and a pending record or marker never straddles the end (`SegAt`, above). -/
theorem C12_void_ring_header_fits (cap : Nat) (h8 : cap % 8 = 0) (hpos : 0 < cap) (s : VoidRing.St)
    (h : VoidRing.model.Reachable (VoidRing.init cap) s) : s.back % s.cap + 8 ≤ s.cap :=
  VoidRing.header_fits s (VoidRing.inv_reachable cap h8 hpos s h)

/-- `Exp2` buffers: the mask `back & (capacity - 1)` is `back % capacity` for a power-of-two capacity. -/
theorem C12_void_ring_exp2_mod (b k : Nat) : b &&& (2 ^ k - 1) = b % 2 ^ k :=
  Nat.and_two_pow_sub_one_eq_mod b k

/-! ### (2) Exact FIFO -/

/-- In every reachable state the sequence of (size, payload) records delivered to and released by the
    consumer is a prefix of the sequence of records published: every record at most once, in push order,
    with its exact size and payload, nothing invented. -/
theorem C12_void_ring_fifo (cap : Nat) (h8 : cap % 8 = 0) (hpos : 0 < cap) (s : VoidRing.St)
    (h : VoidRing.model.Reachable (VoidRing.init cap) s) :
    ∃ rest, s.pushed = s.popped ++ rest :=
  ⟨_, (VoidRing.inv_reachable cap h8 hpos s h).fifo⟩

/-- Nothing is lost: the rest is still in the buffer — the records among the segments of the live region
    (`C12_void_ring_invariant`: laid out byte-exact between `front_` and `back_`) are exactly the published,
    not yet released records. -/
theorem C12_void_ring_buffer_content (cap : Nat) (h8 : cap % 8 = 0) (hpos : 0 < cap) (s : VoidRing.St)
    (h : VoidRing.model.Reachable (VoidRing.init cap) s) :
    s.pushed = s.popped ++ VoidRing.recsOf s.live ∧ VoidRing.Parses s.mem s.cap s.front s.back s.live :=
  ⟨(VoidRing.inv_reachable cap h8 hpos s h).fifo, (VoidRing.inv_reachable cap h8 hpos s h).parses⟩

/-- What the consumer is about to return is "empty" or `(size, payload)` of exactly the next record in push
    order: the oldest unreleased record for `front()`, the record just released for `front()`+`pop_front()`
    (then it is the last element of `popped`, a prefix of `pushed`).  The payload id is read from the
    buffer cells byte by byte (`VoidRing.payId`), so this is byte-exactness. -/
theorem C12_void_ring_result_exact (cap : Nat) (h8 : cap % 8 = 0) (hpos : 0 < cap) (s : VoidRing.St)
    (h : VoidRing.model.Reachable (VoidRing.init cap) s) (r : GRet) (hcp : s.cp = .done r) :
    r = [0] ∨ ∃ (sz : Nat) (id : Int), r = [1, (sz : Int), id] ∧
      (s.pushed[s.popped.length]? = some (sz, id) ∨ s.popped.getLast? = some (sz, id)) := by
  have hinv := VoidRing.inv_reachable cap h8 hpos s h
  rcases hinv.c_done r hcp with h0 | ⟨sz, id, hr, hhd | hlast⟩
  · exact .inl h0
  · obtain ⟨rest, hrest⟩ := VoidRing.recsOf_head hhd
    refine .inr ⟨sz, id, hr, .inl ?_⟩
    rw [hinv.fifo, hrest]
    simp
  · exact .inr ⟨sz, id, hr, .inr hlast⟩

/-- What the client receives is what the program counter `done` / `zdone` holds, and nothing else. -/
theorem C12_void_ring_push_result (s s' : VoidRing.St) (r : GRet)
    (h : VoidRing.model.result s 0 = some (s', r)) :
    s.pp = .done r ∨ ∃ e a b, s.pp = .zdone e a b ∧ r = VoidRing.sizeRet e a b := by
  rcases VoidRing.result_done (t := 0) h with ⟨-, hpp⟩ | ⟨h01, -⟩
  · exact hpp
  · cases h01

theorem C12_void_ring_pop_result (s s' : VoidRing.St) (r : GRet)
    (h : VoidRing.model.result s 1 = some (s', r)) :
    s.cp = .done r ∨ ∃ e a b, s.cp = .zdone e a b ∧ r = VoidRing.sizeRet e a b := by
  rcases VoidRing.result_done (t := 1) h with ⟨h10, -⟩ | ⟨-, hcp⟩
  · cases h10
  · exact hcp

/-- `back( size )` returns nullptr only if the record did not fit at the instant of a (re)load of `front_`:
    whatever transition brings the producer into the state "about to return nullptr" is one of the
    producer's two loads of `front_` — the event `ld front <front_>` — and at that instant either
    (first check) `capacity - (back_ - front_) < real_size`, or (wrap path: the tail `capacity - mod( back_ )`
    is too short for the record, the marker is written but not published) the free space is smaller than
    tail + real_size.  In both cases `free < need`, the number of bytes the record needs at this position. -/
theorem C12_void_ring_back_fails_only_if_no_room (cap : Nat) (h8 : cap % 8 = 0) (hpos : 0 < cap) (s : VoidRing.St)
    (h : VoidRing.model.Reachable (VoidRing.init cap) s) (t : Tid) (a : Act) (s' : VoidRing.St) (o : Obs)
    (hap : VoidRing.model.apply s t a = some (s', o))
    (hold : s.pp ≠ .done [0]) (hnew : s'.pp = .done [0]) :
    t = 0 ∧ a = .step ∧ o = .ev ⟨"ld", "front", toString s.front, ""⟩ ∧
    ∃ sz id,
      ((s.pp = .bLdFront sz id s.back ∧ s.cap - (s.back - s.front) < VoidRing.realSize sz) ∨
       (s.pp = .wLdFront sz id (s.back + (s.cap - s.back % s.cap)) ∧
          s.cap - s.back % s.cap < VoidRing.realSize sz ∧
          s.cap - (s.back - s.front) < s.cap - s.back % s.cap + VoidRing.realSize sz)) ∧
      s.cap - (s.back - s.front) < VoidRing.need s sz := by
  have hinv := VoidRing.inv_reachable cap h8 hpos s h
  obtain ⟨ht, ha, ho, sz, id, b, hpp, hlt⟩ := VoidRing.apply_push_fail s t a s' o hap hold hnew
  have hfl := VoidRing.in_flight_le_cap s hinv
  have hneed := VoidRing.realSize_le_need s sz
  refine ⟨ht, ha, ho, sz, id, ?_⟩
  rcases hpp with hpp | hpp
  · obtain ⟨rfl, -, -⟩ := hinv.p_bLdFront sz id b hpp
    exact ⟨.inl ⟨hpp, by omega⟩, by omega⟩
  · obtain ⟨-, rfl, htl, -, -, -⟩ := hinv.p_wLdFront sz id b hpp
    refine ⟨.inr ⟨hpp, htl, by omega⟩, ?_⟩
    unfold VoidRing.need
    rw [if_pos htl]
    omega

/-- Conversely both tests are exact at the instant of the load: at the first reload back() gives up iff the
    free space is smaller than real_size (otherwise it goes on to place the record or the marker); at the
    reload of the wrap path iff the free space is smaller than tail + real_size (otherwise it publishes the
    marker). -/
theorem C12_void_ring_back_fails_iff_no_room (cap : Nat) (h8 : cap % 8 = 0) (hpos : 0 < cap) (s : VoidRing.St)
    (h : VoidRing.model.Reachable (VoidRing.init cap) s) (sz : Nat) (id : Int) (b : Nat)
    (s' : VoidRing.St) (e : Ev) (hst : VoidRing.model.step s 0 = some (s', e)) :
    (s.pp = .bLdFront sz id b →
      (s'.pp = .done [0] ↔ s.cap - (s.back - s.front) < VoidRing.realSize sz)) ∧
    (s.pp = .wLdFront sz id b →
      (s'.pp = .done [0] ↔ s.cap - (s.back - s.front) < s.cap - s.back % s.cap + VoidRing.realSize sz) ∧
      (s'.pp ≠ .done [0] → s'.pp = .wStBack sz id b)) := by
  have hinv := VoidRing.inv_reachable cap h8 hpos s h
  have hfl := VoidRing.in_flight_le_cap s hinv
  -- the machine tests `front_ + cap - back < real_size` with its local `back`; no subtraction underflows
  constructor
  · intro hpp
    obtain ⟨rfl, -, -⟩ := hinv.p_bLdFront sz id b hpp
    rw [VoidRing.step_bLdFront hpp hst]
    omega
  · intro hpp
    obtain ⟨-, rfl, htl, hble, -, -⟩ := hinv.p_wLdFront sz id b hpp
    have := hinv.pfront_le
    obtain ⟨hfail, hgo⟩ := VoidRing.step_wLdFront hpp hst
    refine ⟨?_, hgo⟩
    rw [hfail]
    omega

/-- `front()` returns nullptr only if the ring was empty at the instant of a (re)load of `back_`: whatever
    transition brings the consumer into the state "about to return nullptr" is one of the two reloads of
    `back_` in front() — the event `ld back <back_>` — and at that instant `back_ = front_`. -/
theorem C12_void_ring_front_fails_only_if_empty (cap : Nat) (h8 : cap % 8 = 0) (hpos : 0 < cap) (s : VoidRing.St)
    (h : VoidRing.model.Reachable (VoidRing.init cap) s) (t : Tid) (a : Act) (s' : VoidRing.St) (o : Obs)
    (hap : VoidRing.model.apply s t a = some (s', o))
    (hold : s.cp ≠ .done [0]) (hnew : s'.cp = .done [0]) :
    t = 1 ∧ a = .step ∧ o = .ev ⟨"ld", "back", toString s.back, ""⟩ ∧
    (∃ op, s.cp = .fLdBack op s.front ∨ s.cp = .gLdBack op s.front) ∧ s.back = s.front := by
  have hinv := VoidRing.inv_reachable cap h8 hpos s h
  obtain ⟨ht, ha, ho, op, f, hcp, hlt⟩ := VoidRing.apply_pop_fail s t a s' o hap hold hnew
  have hfl := VoidRing.in_flight_le_cap s hinv
  have hf8 := hinv.front8
  have hb8 := hinv.back8
  have hf : f = s.front := by
    rcases hcp with hcp | hcp
    · exact hinv.c_fLdBack op f hcp
    · exact (hinv.c_gLdBack op f hcp).1
  subst hf
  exact ⟨ht, ha, ho, ⟨op, hcp⟩, by omega⟩

/-- `pop_front()` never fails where the library relies on it: neither the call inside front() that skips a
    tail marker (`CDS_VERIFY`) nor the client's call right after front() returned a record ever reaches its
    reload of `back_`. -/
theorem C12_void_ring_pop_front_never_fails (cap : Nat) (h8 : cap % 8 = 0) (hpos : 0 < cap) (s : VoidRing.St)
    (h : VoidRing.model.Reachable (VoidRing.init cap) s) :
    (∀ op f, s.cp ≠ .tLdBack op f) ∧ (∀ sz id f, s.cp ≠ .pLdBack sz id f) :=
  ⟨fun op f hc => (VoidRing.inv_reachable cap h8 hpos s h).c_tLdBack op f hc,
   fun sz id f hc => (VoidRing.inv_reachable cap h8 hpos s h).c_pLdBack sz id f hc⟩

/-- `size()` / `empty()` (two relaxed loads; `sizeRet e a b` is the value returned for the loaded `front_ = a`,
    `back_ = b`): the subtraction never underflows and the result is at most the capacity.  Called by the
    PRODUCER, `back_` is exact and `front_` conservative: size() is an upper bound of the bytes in flight, and
    empty() = true means the ring IS empty (and stays so until the producer publishes).  Called by the
    CONSUMER, `front_` is exact and `back_` conservative: size() is a lower bound of the bytes in flight, and
    empty() = false means the ring is NOT empty (and stays so until the consumer releases). -/
theorem C12_void_ring_size_empty (cap : Nat) (h8 : cap % 8 = 0) (hpos : 0 < cap) (s : VoidRing.St)
    (h : VoidRing.model.Reachable (VoidRing.init cap) s) :
    (∀ e a b, s.pp = .zdone e a b →
      a ≤ b ∧ b - a ≤ s.cap ∧ s.back - s.front ≤ b - a ∧ (a = b → s.front = s.back)) ∧
    (∀ e a b, s.cp = .zdone e a b →
      a ≤ b ∧ b - a ≤ s.cap ∧ b - a ≤ s.back - s.front ∧ (a ≠ b → s.front < s.back)) := by
  have hinv := VoidRing.inv_reachable cap h8 hpos s h
  have hfl := VoidRing.in_flight_le_cap s hinv
  constructor
  · intro e a b hpp
    obtain ⟨h1, h2, h3⟩ := hinv.p_zdone e a b hpp
    omega
  · intro e a b hcp
    obtain ⟨h1, h2, h3⟩ := hinv.c_zdone e a b hcp
    omega

/-! ### (3) Non-vacuity: runs on a 64-byte buffer -/

set_option synthInstance.maxSize 2000 in
/-- Wrap with a tail marker while the consumer lags.  Records 1 (24 bytes, real 32) and 2 (8 bytes, real 16)
    are published (`back_` = 48), record 1 is consumed (`front_` = 32).  Record 3 (17 bytes, real 32) does not
    fit into the 16-byte tail: the marker `make_tail( 8 )` goes to offset 48, `back_` = 64 is published and the
    record is written to offsets 0 … 31 — directly below the still unread record 2 at 32 … 47, which the
    consumer pops concurrently.  The last pop skips the marker (`st front 64`) and delivers (17, 3). -/
example : (VoidRing.model.run (VoidRing.init 64)
    [(0, .invoke ⟨"push", [24, 1]⟩), (0, .step), (0, .step), (0, .step), (0, .ret),
     (0, .invoke ⟨"push", [8, 2]⟩), (0, .step), (0, .step), (0, .step), (0, .ret),
     (1, .invoke ⟨"pop", []⟩), (1, .step), (1, .step), (1, .step), (1, .step), (1, .ret),
     (0, .invoke ⟨"push", [17, 3]⟩), (0, .step), (0, .step),
     (1, .invoke ⟨"pop", []⟩), (1, .step),
     (0, .step), (0, .step),
     (1, .step), (1, .step), (1, .ret),
     (0, .step), (0, .ret),
     (1, .invoke ⟨"pop", []⟩), (1, .step), (1, .step), (1, .step), (1, .step), (1, .step), (1, .step), (1, .step),
     (1, .ret)]).map
      (fun p => (p.1.popped, p.1.pushed, [p.1.front, p.1.back, p.1.pfront, p.1.cback], p.1.live,
        [p.1.mem 48, p.1.mem 0, p.1.mem 8, p.1.mem 24], p.2.drop 28))
    = some ([(24, 1), (8, 2), (17, 3)], [(24, 1), (8, 2), (17, 3)], [96, 96, 32, 96], [],
        [.tail 8, .size 17, .pay 3 0, .pay 3 16],
        [(1, .call ⟨"pop", []⟩), (1, .ev ⟨"ld", "front", "48", ""⟩), (1, .ev ⟨"ld", "back", "96", ""⟩),
         (1, .ev ⟨"ld", "front", "48", ""⟩), (1, .ev ⟨"st", "front", "64", ""⟩),
         (1, .ev ⟨"ld", "front", "64", ""⟩), (1, .ev ⟨"ld", "front", "64", ""⟩),
         (1, .ev ⟨"st", "front", "96", ""⟩), (1, .ret [1, 17, 3])]) := by
  decide +kernel

set_option synthInstance.maxSize 2000 in
/-- The configuration of both seeded wrap-path bugs (C12-void-ring-wrap-recheck-payload-size and
    C12-void-back-wrap-check): `back_` = 56 (an 8-byte tail), `front_` = 24 (24 free bytes at the start), two
    unread records at 24 … 55.  A 17-byte record (real size 32) passes the first check after the reload
    (32 bytes are free in total) but needs 8 + 32 bytes: the marker is written at offset 56, the second
    check fails again after its reload of `front_` (24 < 32) and back() returns nullptr — `back_` is still
    56, the unread header at offset 24 is intact and nothing was written at offset 0 (it still holds the
    stale header of record 1).  The seeded versions accept the reservation (24 ≥ 17, resp. the check is made
    before `back` is advanced) and overwrite offsets 0 … 31. -/
example : (VoidRing.model.run (VoidRing.init 64)
    [(0, .invoke ⟨"push", [16, 1]⟩), (0, .step), (0, .step), (0, .step), (0, .ret),
     (0, .invoke ⟨"push", [8, 2]⟩), (0, .step), (0, .step), (0, .step), (0, .ret),
     (0, .invoke ⟨"push", [8, 3]⟩), (0, .step), (0, .step), (0, .step), (0, .ret),
     (1, .invoke ⟨"pop", []⟩), (1, .step), (1, .step), (1, .step), (1, .step), (1, .ret),
     (0, .invoke ⟨"push", [17, 4]⟩), (0, .step), (0, .step), (0, .step)]).map
      (fun p => (p.1.pp, p.1.popped, p.1.pushed, [p.1.front, p.1.back, p.1.pfront], p.1.live,
        [p.1.mem 24, p.1.mem 32, p.1.mem 40, p.1.mem 56, p.1.mem 0], p.2.drop 21))
    = some (.done [0], [(16, 1)], [(16, 1), (8, 2), (8, 3)], [24, 56, 24], [.data 8 2, .data 8 3],
        [.size 8, .pay 2 0, .size 8, .tail 0, .size 16],
        [(0, .call ⟨"push", [17, 4]⟩), (0, .ev ⟨"ld", "back", "56", ""⟩),
         (0, .ev ⟨"ld", "front", "24", ""⟩), (0, .ev ⟨"ld", "front", "24", ""⟩)]) := by
  decide +kernel

set_option synthInstance.maxSize 2000 in
/-- The same run continued: once record 2 is consumed (`front_` = 40) the retried reservation succeeds
    through the wrap path (marker published by `st back 64`, record at offset 0, `st back 96`); the consumer
    then receives record 3 and, skipping the marker, sees (17, 4) with `front()`. -/
example : (VoidRing.model.run (VoidRing.init 64)
    [(0, .invoke ⟨"push", [16, 1]⟩), (0, .step), (0, .step), (0, .step), (0, .ret),
     (0, .invoke ⟨"push", [8, 2]⟩), (0, .step), (0, .step), (0, .step), (0, .ret),
     (0, .invoke ⟨"push", [8, 3]⟩), (0, .step), (0, .step), (0, .step), (0, .ret),
     (1, .invoke ⟨"pop", []⟩), (1, .step), (1, .step), (1, .step), (1, .step), (1, .ret),
     (0, .invoke ⟨"push", [17, 4]⟩), (0, .step), (0, .step), (0, .step), (0, .ret),
     (1, .invoke ⟨"pop", []⟩), (1, .step), (1, .step), (1, .step), (1, .ret),
     (0, .invoke ⟨"push", [17, 4]⟩), (0, .step), (0, .step), (0, .step), (0, .step), (0, .step), (0, .ret),
     (1, .invoke ⟨"pop", []⟩), (1, .step), (1, .step), (1, .step), (1, .ret),
     (1, .invoke ⟨"front", []⟩), (1, .step), (1, .step), (1, .step), (1, .step), (1, .step), (1, .ret)]).map
      (fun p => (p.1.popped, p.1.pushed, [p.1.front, p.1.back, p.1.pfront], p.1.live, p.2.drop 43))
    = some ([(16, 1), (8, 2), (8, 3)], [(16, 1), (8, 2), (8, 3), (17, 4)], [64, 96, 40], [.data 17 4],
        [(1, .call ⟨"front", []⟩), (1, .ev ⟨"ld", "front", "56", ""⟩), (1, .ev ⟨"ld", "back", "96", ""⟩),
         (1, .ev ⟨"ld", "front", "56", ""⟩), (1, .ev ⟨"st", "front", "64", ""⟩),
         (1, .ev ⟨"ld", "front", "64", ""⟩), (1, .ret [1, 17, 4])]) := by
  decide +kernel

/-- size() of the producer overlapping a pop: 32 bytes in flight when `front_` is loaded (exact at that
    instant, an upper bound afterwards); empty() of the consumer on the drained ring. -/
example : (VoidRing.model.run (VoidRing.init 64)
    [(0, .invoke ⟨"push", [24, 1]⟩), (0, .step), (0, .step), (0, .step), (0, .ret),
     (1, .invoke ⟨"pop", []⟩), (1, .step), (1, .step), (1, .step),
     (0, .invoke ⟨"size", []⟩), (0, .step), (0, .step),
     (1, .step), (1, .ret),
     (0, .ret),
     (1, .invoke ⟨"empty", []⟩), (1, .step), (1, .step), (1, .ret)]).map
      (fun p => ([p.1.front, p.1.back], p.2.drop 9))
    = some ([32, 32],
        [(0, .call ⟨"size", []⟩), (0, .ev ⟨"ld", "back", "32", ""⟩), (0, .ev ⟨"ld", "front", "0", ""⟩),
         (1, .ev ⟨"st", "front", "32", ""⟩), (1, .ret [1, 24, 1]), (0, .ret [32]),
         (1, .call ⟨"empty", []⟩), (1, .ev ⟨"ld", "front", "32", ""⟩), (1, .ev ⟨"ld", "back", "32", ""⟩),
         (1, .ret [1])]) := by
  decide +kernel

/-- The hypotheses of the two failure theorems are satisfiable: a `front()` on the empty buffer fails at its
    reload of `back_`. -/
example : (VoidRing.model.run (VoidRing.init 64)
    [(1, .invoke ⟨"front", []⟩), (1, .step), (1, .step)]).map (fun p => (p.1.cp, p.2.getLast?))
    = some (.done [0], some (1, .ev ⟨"ld", "back", "0", ""⟩)) := by
  decide +kernel

end CdsVerif.Props.C12VoidRing
