/-
  C11 (MSPriorityQueue part) — "MSPriorityQueue never loses or duplicates an item, push fails only when capacity
  items are present, and every history in which no push overlaps a pop is linearizable to a bounded max-priority
  queue."  PROVED here: lock discipline, conservation of the multiset, push fails only when full, heap order and
  shape at quiescence.  NOT proved: the history-level clause (linearizability of overlap-free histories): only
  `C11_mspq_sequential_linearizable_partial`, a state-level statement; that clause is decided by judged histories.

  Theorems about the atomic-step machine `Algo/MSPQ` of `cds::intrusive::MSPriorityQueue` (one step = one atomic
  operation on a lock word of `cds::sync::spin` followed by the plain code up to the next one), for EVERY schedule,
  any number of threads `nthr`, every capacity `2^k - 1` (`k ≥ 1`), with the closed form `bslot` of the slot function
  of `cds::bitop::bit_reverse_counter` (`bslot_is_the_counter`: it is the value returned by the n-th `inc()`, C26).
  The machine is tied to the real code by trace conformance (`cdsdriver replay mspq`, harness variant `imspq_named`).

  Facts about the counter used by the proofs (`Algo.MSPQ.SlotOK`, proved in `Algo/MSPQ/Slot.lean` from the lemmas
  of `Algo/Counter`): slots are in `1 .. cap`; `bslot` is an involution (so it is its own inverse `rank`);
  `bslot 1 = 1`; a parent is handed out before its children; a left child before its right sibling.

  The invariant is in `Algo/MSPQ/{Steps,Inv,Effect,Shape,ShapeStep,Cons,G,GStep}`; the file opens with the progress lemmas
  of `step` that `C11_mspq_no_null_deref` rests on.
-/
import CdsVerif.Algo.MSPQ.Facts
import CdsVerif.Algo.MSPQ.Slot
import CdsVerif.Algo.MSPQ.Run
import CdsVerif.Algo.MSPQ.NoOverlap
namespace CdsVerif.Props.C11MSPQ
open CdsVerif.Machine CdsVerif.Spec CdsVerif.Algo.MSPQ

/-- The real queue with `capacity() = 2^k - 1` used by at most `nthr` threads. -/
abbrev qcfg (k nthr : Nat) : Cfg := cfg (2 ^ k - 1) nthr

/-- `bslot n` is the value returned by the `n`-th `inc()` of the real counter (model of C26). -/
theorem bslot_is_the_counter (n : Nat) (h1 : 1 ≤ n) (hn : n < 2 ^ 64) : bslot n = CdsVerif.Algo.Counter.slot n :=
  bslot_eq_slot n h1 hn

/-- The four-layer invariant holds in every reachable state. -/
theorem mspq_invariant (k nthr : Nat) (hk : 1 ≤ k) (s : St) (h : (model (qcfg k nthr)).Reachable init s) :
    MInv (qcfg k nthr) bslot s :=
  minv_reachable (slotOK_cfg k nthr hk) s h

/-! ## A. Lock discipline -/

/-- **Mutual exclusion** for the size lock (`l = 0`) and every node lock (`l = i`): the locks a thread holds are a
    function of its program counter (`holds`), and two threads never hold the same lock. -/
theorem C11_mspq_mutex (k nthr : Nat) (hk : 1 ≤ k) (s : St) (h : (model (qcfg k nthr)).Reachable init s)
    (l : Nat) (t1 t2 : Tid) (h1 : holds (s.pc t1) l) (h2 : holds (s.pc t2) l) : t1 = t2 := by
  have hl := (mspq_invariant k nthr hk s h).l
  have a := hl.ow2 l t1 h1
  have b := hl.ow2 l t2 h2
  rw [a] at b; injection b

/-- The lock word is set exactly when some thread holds the lock; the ghost owner is that thread. -/
theorem C11_mspq_lock_word (k nthr : Nat) (hk : 1 ≤ k) (s : St) (h : (model (qcfg k nthr)).Reachable init s)
    (l : Nat) : (s.lk l = true ↔ ∃ t, holds (s.pc t) l) ∧ (∀ t, s.own l = some t ↔ holds (s.pc t) l) := by
  have hl := (mspq_invariant k nthr hk s h).l
  refine ⟨⟨?_, ?_⟩, fun t => ⟨hl.ow1 l t, hl.ow2 l t⟩⟩
  · intro hlk
    cases ho : s.own l with
    | none => have := hl.lk1 l ho; rw [hlk] at this; cases this
    | some t => exact ⟨t, hl.ow1 l t ho⟩
  · rintro ⟨t, ht⟩
    cases hlk : s.lk l with
    | true => rfl
    | false => have := hl.lk0 l hlk; rw [hl.ow2 l t ht] at this; cases this

/-- **Writes happen under the lock.**  A step of thread `t` that changes the value or the tag of node `j` ends with
    `t` holding the lock of `j`, and before the step nobody else held it (either `t` held it already, or the step is
    the acquisition).  The item counter changes only in the step in which `t` acquires the size lock.  The program
    counters of the other threads are not touched. -/
theorem C11_mspq_writes_locked (k nthr : Nat) (hk : 1 ≤ k) (s s' : St) (h : (model (qcfg k nthr)).Reachable init s)
    (t : Tid) (ev : Ev) (hs : step (qcfg k nthr) s t = some (s', ev)) :
    (∀ j, s'.tag j ≠ s.tag j ∨ s'.val j ≠ s.val j → s'.own j = some t ∧ (s.own j = some t ∨ s.own j = none)) ∧
    (s'.cnt ≠ s.cnt → s'.own 0 = some t ∧ s.own 0 = none) ∧
    (∀ t', t' ≠ t → s'.pc t' = s.pc t') := by
  have he := step_effect (mspq_invariant k nthr hk s h).l hs
  exact ⟨he.node, he.cnt, he.pcs⟩

/-! ## B. Conservation: no item is lost or duplicated -/

/-- **C11_mspq_conservation.**  In every reachable state the items in the heap array, plus the items that in-flight
    pops have taken out of the array and not yet returned, plus the items already returned by pops, are - as a
    MULTISET - exactly the items stored by pushes (`ins`: appended by the step of `push` that writes `m_pVal`;
    `outs`: appended when `pop` returns a non-null pointer).  No assumption that the values are distinct. -/
theorem C11_mspq_conservation (k nthr : Nat) (hk : 1 ≤ k) (s : St) (h : (model (qcfg k nthr)).Reachable init s) :
    (arrayItems (qcfg k nthr) s ++ heldItems (qcfg k nthr) s ++ s.outs).Perm s.ins :=
  conservation_perm (mspq_invariant k nthr hk s h).co

/-- At quiescence the heap holds exactly pushed minus popped. -/
theorem C11_mspq_conservation_quiescent (k nthr : Nat) (hk : 1 ≤ k) (s : St)
    (h : (model (qcfg k nthr)).Reachable init s) (hq : Quiescent s) :
    (arrayItems (qcfg k nthr) s ++ s.outs).Perm s.ins := by
  have := C11_mspq_conservation k nthr hk s h
  rwa [heldItems_quiescent hq, List.append_nil] at this

/-- If the client pushes distinct values (then `ins` has no duplicates), no item is in two slots, no item is both in
    the array and carried by a pop, and no item is returned twice. -/
theorem C11_mspq_no_duplicates (k nthr : Nat) (hk : 1 ≤ k) (s : St) (h : (model (qcfg k nthr)).Reachable init s)
    (hd : s.ins.Nodup) : (arrayItems (qcfg k nthr) s ++ heldItems (qcfg k nthr) s ++ s.outs).Nodup :=
  (C11_mspq_conservation k nthr hk s h).nodup_iff.mpr hd

/-- A slot a push is about to fill is empty (nothing is overwritten), in every reachable state. -/
theorem C11_mspq_push_slot_empty (k nthr : Nat) (hk : 1 ≤ k) (s : St) (h : (model (qcfg k nthr)).Reachable init s)
    (t : Tid) (v : Int) (i : Nat) (hpc : s.pc t = .pUnlSz v i) : s.val i = none ∧ s.tag i = .empty := by
  have hi := mspq_invariant k nthr hk s h
  have hv := fresh_slot_empty (slotOK_cfg k nthr hk) hi.l hi.sh hpc
  exact ⟨hv, hi.sh.te2 i hv⟩

/-- A pop that has decremented the counter returns an item: the pointer it carries is never null. -/
theorem C11_mspq_pop_returns_item (k nthr : Nat) (hk : 1 ≤ k) (s : St) (h : (model (qcfg k nthr)).Reachable init s)
    (t : Tid) (pv : Option Int) (hpc : s.pc t = .oDone pv) : pv ≠ none := by
  have := ((mspq_invariant k nthr hk s h).sh.loc t).hv
  simpa [hpc, carries, heldOf] using this

/-! ## C. `push` fails only when the heap is full -/

/-- The counter is exact: slot `i` is occupied iff it is one of the first `cnt` slots of the bit-reversed order
    (`bslot i ≤ cnt`; `bslot` is its own inverse), when nobody is inside the size-lock section … -/
theorem C11_mspq_counter_exact (k nthr : Nat) (hk : 1 ≤ k) (s : St) (h : (model (qcfg k nthr)).Reachable init s)
    (ho : s.own 0 = none) (i : Nat) (h1 : 1 ≤ i) (h2 : i ≤ 2 ^ k - 1) : s.val i ≠ none ↔ bslot i ≤ s.cnt := by
  have hi := mspq_invariant k nthr hk s h
  rw [← hi.sh.shN i ho h1 h2]
  exact ⟨fun hv ht => hv (hi.sh.te1 i ht), fun ht hv => ht (hi.sh.te2 i hv)⟩

/-- … and with the correction for the holder `t` of the size lock: `+1` on the left while `t` has incremented the
    counter and not yet stored its item (`pinc`), `+1` on the right while it has decremented the counter and not yet
    removed the bottom item (`pdec`).  So `cnt` = number of occupied slots + pushes inside the section - pops inside it. -/
theorem C11_mspq_counter_exact_locked (k nthr : Nat) (hk : 1 ≤ k) (s : St)
    (h : (model (qcfg k nthr)).Reachable init s) (t : Tid) (ho : s.own 0 = some t) (i : Nat) (h1 : 1 ≤ i)
    (h2 : i ≤ 2 ^ k - 1) : s.val i ≠ none ↔ bslot i + pinc (s.pc t) ≤ s.cnt + pdec (s.pc t) := by
  have hi := mspq_invariant k nthr hk s h
  rw [← hi.sh.shO i t ho h1 h2]
  exact ⟨fun hv ht => hv (hi.sh.te1 i ht), fun ht hv => ht (hi.sh.te2 i hv)⟩

/-- **C11_mspq_push_fails_only_when_full.**  A push that is going to return false (program counter `pFullUnl`: it has
    read the counter and still holds the size lock) holds the size lock, the item counter equals the capacity, and
    every one of the `capacity()` slots holds an item (items still being sifted up included). -/
theorem C11_mspq_push_fails_only_when_full (k nthr : Nat) (hk : 1 ≤ k) (s : St)
    (h : (model (qcfg k nthr)).Reachable init s) (t : Tid) (hpc : s.pc t = .pFullUnl) :
    s.own 0 = some t ∧ s.cnt = 2 ^ k - 1 ∧ ∀ i, 1 ≤ i → i ≤ 2 ^ k - 1 → s.val i ≠ none := by
  have hi := mspq_invariant k nthr hk s h
  have ho : s.own 0 = some t := hi.l.ow2 0 t (by simp [hpc, holds])
  have hcnt : s.cnt = 2 ^ k - 1 := Nat.le_antisymm hi.l.cntle ((hi.sh.loc t).pfull hpc)
  refine ⟨ho, hcnt, fun i hi1 hi2 => ?_⟩
  -- at `pFullUnl` the counter needs no correction, and every slot has `bslot i ≤ 2 ^ k - 1 = cnt`
  have hr : bslot i ≤ 2 ^ k - 1 := ((slotOK_cfg k nthr hk).rank_range i hi1 hi2).2
  rw [C11_mspq_counter_exact_locked k nthr hk s h t ho i hi1 hi2, hpc]
  show bslot i + 0 ≤ s.cnt + 0
  omega

/-- `false` is returned by a push only along that path: the only step into `pFail` starts in `pFullUnl`, and the
    result `[0]` of a push is produced only in `pFail`. -/
theorem C11_mspq_push_false_path (k nthr : Nat) (s s' : St) (t : Tid) (ev : Ev)
    (hs : step (qcfg k nthr) s t = some (s', ev)) (hpc' : s'.pc t = .pFail) : s.pc t = .pFullUnl := by
  cases hpc : s.pc t with
  | pFullUnl => rfl
  | acq k' =>
    rcases step_acq hpc hs with ⟨-, rfl⟩ | ⟨-, ha⟩
    · simp [St.setPc, upd] at hpc'
    · exfalso
      cases k' <;> simp only [after, dCompare] at ha <;> (repeat' split at ha) <;>
        simp at ha <;> subst ha <;> simp [St.setPc, upd] at hpc'
  | spin k' =>
    simp only [step, hpc] at hs; simp at hs; obtain ⟨rfl, -⟩ := hs
    exfalso; simp only [St.setPc, upd, if_true] at hpc'; split at hpc' <;> cases hpc'
  | dUnlLeft par ch pv =>
    simp only [step, hpc, Option.map_eq_some_iff, Prod.mk.injEq] at hs
    obtain ⟨s1, h1, rfl, -⟩ := hs
    exfalso; unfold dCompare at h1; (repeat' split at h1) <;> simp at h1 <;> subst h1 <;> simp [St.setPc, upd] at hpc'
  | dUnlRight par ch pv =>
    simp only [step, hpc, Option.map_eq_some_iff, Prod.mk.injEq] at hs
    obtain ⟨s1, h1, rfl, -⟩ := hs
    exfalso; unfold dCompare at h1; (repeat' split at h1) <;> simp at h1 <;> subst h1 <;> simp [St.setPc, upd] at hpc'
  | oUnlBot b pv =>
    simp only [step, hpc] at hs
    exfalso; split at hs <;> simp at hs <;> obtain ⟨rfl, -⟩ := hs <;> simp [rel, upd, popLoop] at hpc' <;>
      (try split at hpc') <;> simp at hpc'
  | idle => simp [step, hpc] at hs
  | pFail => simp [step, hpc] at hs
  | pOk => simp [step, hpc] at hs
  | oFail => simp [step, hpc] at hs
  | oDone pv => simp [step, hpc] at hs
  | _ =>
    simp only [step, hpc] at hs; simp at hs; obtain ⟨rfl, -⟩ := hs
    exfalso; simp [rel, upd, pushLoop, popLoop] at hpc' <;> (repeat' split at hpc') <;> simp at hpc'

/-- `pop` returns nullptr only when the counter is 0 while it holds the size lock, and then the array is empty. -/
theorem C11_mspq_pop_fails_only_when_empty (k nthr : Nat) (hk : 1 ≤ k) (s : St)
    (h : (model (qcfg k nthr)).Reachable init s) (t : Tid) (hpc : s.pc t = .oEmptyUnl) :
    s.own 0 = some t ∧ s.cnt = 0 ∧ ∀ i, 1 ≤ i → i ≤ 2 ^ k - 1 → s.val i = none := by
  have hi := mspq_invariant k nthr hk s h
  have ho : s.own 0 = some t := hi.l.ow2 0 t (by simp [hpc, holds])
  have h0 : s.cnt = 0 := (hi.sh.loc t).pempty hpc
  refine ⟨ho, h0, fun i hi1 hi2 => ?_⟩
  -- at `oEmptyUnl` the counter needs no correction, and no slot has `bslot i ≤ 0 = cnt`
  have hr : 1 ≤ bslot i := ((slotOK_cfg k nthr hk).rank_range i hi1 hi2).1
  apply Classical.byContradiction
  intro hne
  have hle := (C11_mspq_counter_exact_locked k nthr hk s h t ho i hi1 hi2).mp hne
  rw [hpc] at hle
  have hle' : bslot i + 0 ≤ s.cnt + 0 := hle
  omega

/-! ## No undefined behaviour: comparisons never dereference a null `m_pVal` -/

/-- **C11_mspq_no_null_deref.**  In every reachable state every thread that is inside an operation and not yet at its
    return has a step: the model has no step exactly where the source would dereference a null `m_pVal`. -/
theorem C11_mspq_no_null_deref (k nthr : Nat) (hk : 1 ≤ k) (s : St) (h : (model (qcfg k nthr)).Reachable init s)
    (t : Tid) (hpc : s.pc t ≠ .idle ∧ s.pc t ≠ .pFail ∧ s.pc t ≠ .pOk ∧ s.pc t ≠ .oFail ∧ ∀ pv, s.pc t ≠ .oDone pv) :
    (step (qcfg k nthr) s t).isSome = true := by
  have hi := mspq_invariant k nthr hk s h
  exact step_isSome hi.sh.te2 (hi.sh.loc t).ne hpc

/-! ## D. Heap order -/

/-- **Heap order during concurrent operation.**  In every reachable state: if node `i` is Available (not tagged with
    an owner id, i.e. not an inserted item still on its way up) and neither `i` nor its parent is the node whose item a
    pop is sifting down, then the priority of `i` is at most the priority of its parent.  (The ghost-priority
    invariant behind it is `GOk`: `Algo/MSPQ/G.lean`.) -/
theorem C11_mspq_heap_order (k nthr : Nat) (hk : 1 ≤ k) (s : St) (h : (model (qcfg k nthr)).Reachable init s)
    (i : Nat) (h2 : 2 ≤ i) (hcap : i ≤ 2 ^ k - 1) (hav : s.tag i = .avail) (vi vp : Int) (hvi : s.val i = some vi)
    (hvp : s.val (i / 2) = some vp) (hns : ∀ t, sift (s.pc t) ≠ some i) (hnp : ∀ t, sift (s.pc t) ≠ some (i / 2)) :
    prio vi ≤ prio vp := by
  have hi := mspq_invariant k nthr hk s h
  obtain ⟨g, hg⟩ := hi.go
  exact edge_ordered hi.sh hg i h2 hcap hav vi vp hvi hvp hns hnp

/-- The parent of an occupied slot is occupied (the tree has no holes), in every reachable state. -/
theorem C11_mspq_no_holes (k nthr : Nat) (hk : 1 ≤ k) (s : St) (h : (model (qcfg k nthr)).Reachable init s)
    (i : Nat) (h2 : 2 ≤ i) (hcap : i ≤ 2 ^ k - 1) (hne : s.val i ≠ none) : s.val (i / 2) ≠ none := by
  have hi := mspq_invariant k nthr hk s h
  have := parent_nonempty (slotOK_cfg k nthr hk) hi.sh i h2 hcap (fun ht => hne (hi.sh.te1 i ht))
  exact fun hv => this (hi.sh.te2 _ hv)

/-- **Heap shape at quiescence** (every schedule).  When all threads are idle: no lock is held; the occupied slots are
    exactly the first `cnt` slots of the bit-reversed order; every occupied slot is tagged Available or with an owner
    id; and every edge whose child is Available is ordered.  (That ALL tags are Available is false in general:
    `C11_mspq_stale_tag_witness`; it holds when no push overlaps a pop: `C11_mspq_quiescent_tags_available`.) -/
theorem C11_mspq_quiescent_heap (k nthr : Nat) (hk : 1 ≤ k) (s : St) (h : (model (qcfg k nthr)).Reachable init s)
    (hq : Quiescent s) :
    (∀ l, s.lk l = false) ∧
    (∀ i, 1 ≤ i → i ≤ 2 ^ k - 1 → (s.val i ≠ none ↔ bslot i ≤ s.cnt)) ∧
    (∀ i, s.val i = none ↔ s.tag i = .empty) ∧
    (∀ i vi vp, 2 ≤ i → i ≤ 2 ^ k - 1 → s.tag i = .avail → s.val i = some vi → s.val (i / 2) = some vp →
      prio vi ≤ prio vp) := by
  have hi := mspq_invariant k nthr hk s h
  have hown : ∀ l, s.own l = none := by
    intro l
    cases ho : s.own l with
    | none => rfl
    | some t => have := hi.l.ow1 l t ho; rw [hq t] at this; simp [holds] at this
  refine ⟨fun l => hi.l.lk1 l (hown l), ?_, fun i => ⟨hi.sh.te2 i, hi.sh.te1 i⟩, ?_⟩
  · intro i h1 h2
    exact C11_mspq_counter_exact k nthr hk s h (hown 0) i h1 h2
  · intro i vi vp h2 hcap hav hvi hvp
    exact C11_mspq_heap_order k nthr hk s h i h2 hcap hav vi vp hvi hvp
      (fun t => by rw [hq t]; simp [sift]) (fun t => by rw [hq t]; simp [sift])

/-! ## F. Non-vacuity: concrete runs of the machine (evaluated by the kernel) -/

/-- Capacity 3: pop on the empty heap fails; three pushes by three threads succeed; the fourth push, on the full
    heap, fails; the pops return the items in priority order, the last pop fails. -/
example : rets (qcfg 2 3)
    (whole 0 pop 2 ++ whole 0 (push 2001) 6 ++ whole 1 (push 3002) 10 ++ whole 2 (push 1003) 8 ++
     whole 1 (push 4004) 2 ++ whole 0 pop 10 ++ whole 0 pop 8 ++ whole 0 pop 4 ++ whole 0 pop 2)
    = some [(0, [0]), (0, [1]), (1, [1]), (2, [1]), (1, [0]), (0, [1, 3002]), (0, [1, 2001]), (0, [1, 1003]), (0, [0])] := by
  decide +kernel

/-- A schedule that asks for a disabled action is not a run: `ret` before the operation has finished. -/
example : rets (qcfg 2 3) ([(0, push 2001)] ++ steps 0 5 ++ [(0, .ret)]) = none := by decide +kernel

/-- Capacity 7, two concurrent pushes whose sift-ups interleave step by step (thread 1 inserts 3004 under node 2,
    thread 2 inserts 2005 under node 3; both climb to level 1, thread 1 goes on to the root). -/
def twoPushes : List (Tid × Act) :=
  whole 0 (push 1001) 6 ++ whole 0 (push 1002) 8 ++ whole 0 (push 1003) 8 ++ [(1, push 3004), (2, push 2005)] ++
  [(1, .step), (2, .step), (1, .step), (2, .step), (1, .step), (2, .step), (1, .step), (2, .step), (1, .step), (2, .step),
   (1, .step), (2, .step), (1, .step), (2, .step), (1, .step), (2, .step), (1, .step), (2, .step), (1, .step), (2, .step),
   (1, .step), (2, .step)]

example : pcsAfter (qcfg 3 3) twoPushes = some [.idle, .hUnlPar 2 1, .acq (.hPar 3)] := by decide +kernel

example : heapAfter (qcfg 3 3) (twoPushes ++ steps 1 3 ++ [(1, .ret)] ++ steps 2 4 ++ [(2, .ret)])
    = some [(some 3004, .avail), (some 1001, .avail), (some 2005, .avail), (some 1002, .avail), (none, .empty),
            (some 1003, .avail), (none, .empty)] := by decide +kernel

/-- Capacity 7, a pop moves an item that a push is still sifting.  Thread 1 stores 4504 in slot 4 (tag = own 1) and
    is preempted; thread 0 pushes 1005 (slot 6); thread 2 pops: the bottom item 1005 goes to the root and sifts down
    1 → 2 → 4, which moves 4504 WITH ITS OWNER TAG up to slot 2 … -/
def popMovesPushed : List (Tid × Act) :=
  whole 0 (push 5001) 6 ++ whole 0 (push 4002) 8 ++ whole 0 (push 3003) 8 ++ [(1, push 4504)] ++ steps 1 4 ++
  whole 0 (push 1005) 8 ++ whole 2 pop 14

example : heapAfter (qcfg 3 3) popMovesPushed
    = some [(some 4002, .avail), (some 4504, .own 1), (some 3003, .avail), (some 1005, .avail), (none, .empty),
            (none, .empty), (none, .empty)] := by decide +kernel

/-- … then thread 1 goes on: at slot 4 the tag is not its own (`item.tag != curId`: the item was moved), it follows
    the item to slot 2, finds its tag there, compares with the root and makes the item Available. -/
example : (trace (qcfg 3 3) (popMovesPushed ++ steps 1 8 ++ [(1, .ret)])).map (·.drop 48)
    = some [(1, ⟨"xchg", "lk2", "0", "1"⟩), (1, ⟨"xchg", "lk4", "0", "1"⟩), (1, ⟨"st", "lk4", "0", ""⟩),
            (1, ⟨"st", "lk2", "0", ""⟩), (1, ⟨"xchg", "lk1", "0", "1"⟩), (1, ⟨"xchg", "lk2", "0", "1"⟩),
            (1, ⟨"st", "lk2", "0", ""⟩), (1, ⟨"st", "lk1", "0", ""⟩)] := by decide +kernel

example : heapAfter (qcfg 3 3) (popMovesPushed ++ steps 1 8 ++ [(1, .ret)])
    = some [(some 4002, .avail), (some 4504, .avail), (some 3003, .avail), (some 1005, .avail), (none, .empty),
            (none, .empty), (none, .empty)] := by decide +kernel

/-- A spin lock that is busy: thread 2 asks for the size lock while thread 1 holds it (`xchg szlock 1 1`, then the
    wait loop `ld szlock 1`), as the harness prints it. -/
example : trace (qcfg 2 3) [(1, push 2001), (1, .step), (2, pop), (2, .step), (2, .step), (1, .step), (1, .step), (2, .step), (2, .step)]
    = some [(1, ⟨"xchg", "szlock", "0", "1"⟩), (2, ⟨"xchg", "szlock", "1", "1"⟩), (2, ⟨"ld", "szlock", "1", ""⟩),
            (1, ⟨"xchg", "lk1", "0", "1"⟩), (1, ⟨"st", "szlock", "0", ""⟩), (2, ⟨"ld", "szlock", "0", ""⟩),
            (2, ⟨"xchg", "szlock", "0", "1"⟩)] := by decide +kernel

/-! ## A leaked owner tag: "all tags are Available at quiescence" is FALSE when a push overlaps pops

  Capacity 15.  The heap holds 100001 90002 50003 80004 30005 15006 50007.  Thread 1 stores 20008 in slot 8 (tag =
  own 1) and is preempted before `heapify_after_push`.  Thread 2 pushes 10009 and pops six times: the first two pops
  move 20008, still tagged own 1, from slot 8 to slot 4 to slot 2; the next pops empty slots 7, 5, 6, 4 (so slot 8
  and its parent 4 are Empty) and the last one moves 20008 to the root.  Thread 1 resumes: the parent of slot 8 is
  Empty, `heapify_after_push` takes this for "the item was moved to the top and deleted", and `push` returns true.
  All threads are idle, and the root is still tagged with the id of thread 1.  A later push whose item climbs to a
  child of that node loops for ever in the "no progress" branch, even when it runs completely alone.
  The same run on the real code: harness variant `imspq_stale` (see DESIGN.md); the real trace is
  replayed by this machine. -/
def staleRun : List (Tid × Act) :=
  whole 0 (push 100001) 6 ++ whole 0 (push 90002) 8 ++ whole 0 (push 50003) 8 ++ whole 0 (push 80004) 8 ++
  whole 0 (push 30005) 8 ++ whole 0 (push 15006) 8 ++ whole 0 (push 50007) 8 ++
  [(1, push 20008)] ++ steps 1 4 ++
  whole 2 (push 10009) 8 ++ whole 2 pop 18 ++ whole 2 pop 16 ++ whole 2 pop 10 ++ whole 2 pop 16 ++ whole 2 pop 12 ++
  whole 2 pop 12 ++
  steps 1 4 ++ [(1, .ret)]

example : rets (qcfg 4 3) staleRun
    = some [(0, [1]), (0, [1]), (0, [1]), (0, [1]), (0, [1]), (0, [1]), (0, [1]), (2, [1]), (2, [1, 100001]),
            (2, [1, 90002]), (2, [1, 80004]), (2, [1, 50007]), (2, [1, 50003]), (2, [1, 30005]), (1, [1])] := by
  decide +kernel

example : pcsAfter (qcfg 4 3) staleRun = some [.idle, .idle, .idle] := by decide +kernel

example : (heapAfter (qcfg 4 3) staleRun).map (·.take 4)
    = some [(some 20008, .own 1), (some 10009, .avail), (some 15006, .avail), (none, .empty)] := by decide +kernel

/-- A push by thread 2, running alone after that, is still in the loop of `heapify_after_push` after 400 steps
    (its item 25010 is in slot 2, tagged own 2, under the root tagged own 1). -/
example : pcsAfter (qcfg 4 3) (staleRun ++ [(2, push 25010)] ++ steps 2 400) = some [.idle, .idle, .acq (.hPar 2)] := by
  decide +kernel

/-- **The literal claim fails**: there is a reachable quiescent state with a node tagged by an owner id. -/
theorem C11_mspq_stale_tag_witness :
    ∃ s, (model (qcfg 4 3)).Reachable init s ∧ Quiescent s ∧ s.tag 1 = .own 1 := by
  have hend : ((model (qcfg 4 3)).run init staleRun).map (fun r => (r.1.pc 0, r.1.pc 1, r.1.pc 2, r.1.tag 1))
      = some (.idle, .idle, .idle, .own 1) := by decide +kernel
  obtain ⟨⟨s, os⟩, hrun, hend⟩ := Option.map_eq_some_iff.mp hend
  simp only [Prod.mk.injEq] at hend
  obtain ⟨h0, h1, h2, htag⟩ := hend
  have hreach : (model (qcfg 4 3)).Reachable init s := ⟨staleRun, os, hrun⟩
  refine ⟨s, hreach, fun (t : Nat) => ?_, htag⟩
  -- threads 0, 1, 2 are idle by evaluation; no other thread has ever left `idle`
  apply Classical.byContradiction
  intro hne
  have ht : t < 3 := (mspq_invariant 4 3 (by decide) s hreach).l.thr t hne
  have htc : t = 0 ∨ t = 1 ∨ t = 2 := by omega
  rcases htc with rfl | rfl | rfl
  · exact hne h0
  · exact hne h1
  · exact hne h2

/-! ## D/E. Runs in which no push overlaps a pop

  `modelNO` is the machine whose clients invoke `push` only while no `pop` is in flight and `pop` only while no
  `push` is in flight (pushes may overlap pushes, pops may overlap pops; every schedule of the steps).  Every such
  run is a run of the unrestricted machine (`C11_mspq_no_overlap_is_a_run`), so A - D above hold of it. -/

theorem C11_mspq_no_overlap_is_a_run (k nthr : Nat) (sched : List (Tid × Act)) (s : St) (os : List (Tid × Obs))
    (h : (modelNO (qcfg k nthr)).run init sched = some (s, os)) :
    (model (qcfg k nthr)).run init sched = some (s, os) :=
  runNO_sub _ sched init s os h

/-- **Owner tags do not leak when no push overlaps a pop**: in every reachable state a node tagged with the id of
    thread `t` is the node at which `t`'s `heapify_after_push` currently is; while a pop is in flight no node carries
    an owner tag. -/
theorem C11_mspq_no_overlap_tags (k nthr : Nat) (hk : 1 ≤ k) (s : St)
    (h : (modelNO (qcfg k nthr)).Reachable init s) :
    (∀ j t, s.tag j = .own t → pushIdx (s.pc t) = some j) ∧
    (∀ t, isPop (s.pc t) = true → ∀ j t', s.tag j ≠ .own t') := by
  have hn := ninv_reachable (slotOK_cfg k nthr hk) s h
  exact ⟨hn.tg.tc, fun t hp j t' => no_own_while_pop hn.tg t hp j t'⟩

/-- **C11_mspq_quiescent_tags_available** (heap shape at quiescence, as the property states it).  At every quiescent
    point of a run in which no push overlaps a pop: all locks are free, the occupied slots are exactly the first `cnt`
    slots of the bit-reversed order, ALL their tags are Available, every non-root occupied slot carries at most the
    priority of its parent, and the root carries a maximal priority. -/
theorem C11_mspq_quiescent_tags_available (k nthr : Nat) (hk : 1 ≤ k) (s : St)
    (h : (modelNO (qcfg k nthr)).Reachable init s) (hq : Quiescent s) :
    (∀ l, s.lk l = false) ∧
    (∀ i, 1 ≤ i → i ≤ 2 ^ k - 1 → (s.val i ≠ none ↔ bslot i ≤ s.cnt)) ∧
    (∀ i, s.val i ≠ none → s.tag i = .avail) ∧
    (∀ i vi vp, 2 ≤ i → i ≤ 2 ^ k - 1 → s.val i = some vi → s.val (i / 2) = some vp → prio vi ≤ prio vp) ∧
    (∀ i vi, 1 ≤ i → i ≤ 2 ^ k - 1 → s.val i = some vi → ∃ v1, s.val 1 = some v1 ∧ prio vi ≤ prio v1) := by
  have hn := ninv_reachable (slotOK_cfg k nthr hk) s h
  obtain ⟨h1, h2, -, h4⟩ := C11_mspq_quiescent_heap k nthr hk s (reachableNO_sub h) hq
  have hav : ∀ i, s.val i ≠ none → s.tag i = .avail := by
    intro i hv
    cases ht : s.tag i with
    | empty => exact absurd (hn.m.sh.te1 i ht) hv
    | avail => rfl
    | own t => exact absurd ht (quiescent_tags_available hn.tg hq i t)
  refine ⟨h1, h2, hav, ?_, ?_⟩
  · intro i vi vp hi2 hcap hvi hvp
    exact h4 i vi vp hi2 hcap (hav i (by rw [hvi]; simp)) hvi hvp
  · intro i vi hi1 hcap hvi
    exact root_is_max (slotOK_cfg k nthr hk) hn hq i vi hi1 hcap hvi

/-- **C11_mspq_sequential_linearizable, PARTIAL**: the representation invariant behind the "no push overlaps a pop"
    clause.  At every quiescent point of such a run the array is a max-heap (previous theorem) whose content is, as
    a multiset, exactly the pushed items minus the popped ones.

    NOT proved here (the full statement):

      theorem C11_mspq_sequential_linearizable (sched) (s) (os)
          (h : (modelNO (qcfg k nthr)).run init sched = some (s, os)) (hq : Quiescent s) :
          Linearizable (Spec.maxpq (2 ^ k - 1)) (historyOf os)

    Missing: the history bookkeeping (a ghost log with one entry per operation, appended while the operation holds
    the size lock - `push` when it reads the counter, `pop` when it has locked the root, which is when its return
    value is fixed), the proof that the log is a legal run of `Spec.maxpq` (for `pop`: the value taken from the root
    is maximal among the array items, which follows from `C11_mspq_heap_order` in a state without owner tags,
    `C11_mspq_no_overlap_tags`), and that the order of the log respects real time.  The three facts such a proof rests
    on are theorems of this file: conservation, "push fails only when full" / "pop fails only when empty", and the
    max-heap shape without owner tags.  The verdict on real histories of this kind comes from tie H (the verified
    checker `C11_history_oracle_exact` run on the harness variants `*_pops` / `*_pushes`). -/
theorem C11_mspq_sequential_linearizable_partial (k nthr : Nat) (hk : 1 ≤ k) (s : St)
    (h : (modelNO (qcfg k nthr)).Reachable init s) (hq : Quiescent s) :
    (arrayItems (qcfg k nthr) s ++ s.outs).Perm s.ins ∧
    (∀ i vi, 1 ≤ i → i ≤ 2 ^ k - 1 → s.val i = some vi → ∃ v1, s.val 1 = some v1 ∧ prio vi ≤ prio v1) := by
  exact ⟨C11_mspq_conservation_quiescent k nthr hk s (reachableNO_sub h) hq,
    (C11_mspq_quiescent_tags_available k nthr hk s h hq).2.2.2.2⟩

/-- The no-overlap machine is not vacuous: the capacity-3 run of section F is a run of it, and the run with the
    leaked tag is NOT (its pops are invoked while the push of thread 1 is in flight). -/
example : ((modelNO (qcfg 2 3)).run init
    (whole 0 pop 2 ++ whole 0 (push 2001) 6 ++ whole 1 (push 3002) 10 ++ whole 2 (push 1003) 8 ++
     whole 1 (push 4004) 2 ++ whole 0 pop 10 ++ whole 0 pop 8 ++ whole 0 pop 4 ++ whole 0 pop 2)).isSome = true := by
  decide +kernel

example : ((modelNO (qcfg 3 3)).run init twoPushes).isSome = true := by decide +kernel

example : ((modelNO (qcfg 4 3)).run init staleRun).isSome = false := by decide +kernel

end CdsVerif.Props.C11MSPQ
