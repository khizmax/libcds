/-
  C13 — the lazy list (cds::intrusive::LazyList<HP>, and through it the container forms cds::container::LazyList /
  LazyKVList: insert, update, erase with functor, extract, find with functor, contains) is a linearizable set / map:
  every concurrent history of the atomic-step model `Algo/Lazy/Model.lean` is linearizable to `Spec.map`; no key is
  ever present twice; a marked node is frozen; a node is marked by exactly one erase; the lock discipline holds.
  Property theorems only; the model, the invariant and the proofs live in
  `Algo/Lazy/{Model,Inv,Thread,Steps,StepWrite,Reach,Hist,Lin}.lean`.

  Route completed: FULL linearizability for all schedules, any number of threads and any keys, including the
  hindsight linearization points of the unlocked `contains` / `find`: a reader whose `search` has stopped at the node
  with its key and which later sees that node marked is linearized by the ERASER's marking store (helping: the ghost
  log receives the reader's entry directly behind the erase), or at the end of its `search` if the node was marked
  already.  No `…_partial` fallback was needed.

  What the code does differently from the textbook algorithm (modelled as it is, see `Algo/Lazy/Model.lean`):
  the marking store of `unlink_node` overwrites the link of the deleted node with a MARKED BACK-LINK TO THE HEAD, and
  `search` starts again from the head whenever it reads a marked pointer.  Hence (1) between the marking store and the
  unlink store the words in memory form a cycle through a marked pointer and the rest of the list is known to the
  eraser only — "the chain from the head is finite and ends in the tail" holds for the LOGICAL successor (`succ`, a
  ghost field that no transition reads), which agrees with memory on every unmarked node; (2) `contains` and `find`
  are NOT wait-free: they start over as long as they run into a marked node whose eraser (which holds two locks) has
  not executed its unlink store yet (see `spinSched` below).  Linearizability is not affected.

  Assumption of the model (not proved here): a node is not reused while any thread may still hold a pointer to it
  (garbage-collected heap).  This is what the hazard pointers taken by `guards.protect` provide (C01/C02).
  Tie to the real code: traces of the harness client `list`, variant `ilazy_hp_named`, are replayed step by step
  by `cdsdriver replay lazy` (atomic events — loads, stores, every lock acquisition attempt and release — and results).
-/
import CdsVerif.Algo.Lazy.Lin
namespace CdsVerif.Props.C13Lazy
open CdsVerif.Machine CdsVerif.Lin CdsVerif.Spec CdsVerif.Algo

/-- Linearizability, general form (Herlihy–Wing with completion of pending operations).  For EVERY schedule (any
    number of threads, any client program of `insert k v` / `update k v allow` (key-value forms: the payload of an
    existing item is replaced) / `upsert_keep k v allow` (intrusive form: the existing item stays) / `erase k` /
    `extract k` / `find k` / `contains k`, any keys, any interleaving of the atomic steps), the history of the
    completed operations of the run — extended by response records for the pending operations whose result is already
    fixed (`lpRet`: they have passed their linearization point; at most one per thread; each is an operation pending
    in `os`, completed with that result and the response time "end of run"), all other pending operations being
    dropped — is linearizable to the sequential map: `insert → [1] | [0]`, `update / upsert_keep → [1, 1] | [1, 0] |
    [0, 0]`, `erase / extract → [1, v] | [0]`, `find → [1, v] | [0]`, `contains → [1] | [0]`.

    The literal statement "`historyOf os` is linearizable" is FALSE for runs that stop between the linking store of an
    `insert` and its return while another thread has already found the key (see the `example`s below): such an
    `insert` has to be completed, which is what `extra` does. -/
theorem C13_lazy_linearizable (sched : List (Tid × Act)) (s : Lazy.St) (os : List (Tid × Obs))
    (h : Lazy.model.run Lazy.init sched = some (s, os)) :
    ∃ extra : List (OpRec GOp GRet),
      (∀ e ∈ extra, Lazy.pendingOf os e.tid = some (e.op, e.inv) ∧ e.res = os.length ∧
          Lazy.lpRet s.mark s.key (s.pc e.tid) = some e.ret) ∧
      extra.Pairwise (fun a b => a.tid ≠ b.tid) ∧
      Linearizable map (Lazy.historyOf os ++ extra) :=
  Lazy.lazy_linearizable sched s os h

/-- Runs in which every invoked operation has returned: the history is linearizable as it is. -/
theorem C13_lazy_linearizable_complete_runs (sched : List (Tid × Act)) (s : Lazy.St) (os : List (Tid × Obs))
    (h : Lazy.model.run Lazy.init sched = some (s, os)) (hq : ∀ t, s.pc t = .idle) :
    Linearizable map (Lazy.historyOf os) :=
  Lazy.lazy_linearizable_complete_runs sched s os h hq

/-- More generally: runs at whose end no pending operation has its result fixed (threads may be in the middle of
    operations that have not taken effect; these are dropped). -/
theorem C13_lazy_linearizable_no_effect_pending (sched : List (Tid × Act)) (s : Lazy.St)
    (os : List (Tid × Obs)) (h : Lazy.model.run Lazy.init sched = some (s, os))
    (hq : ∀ t, Lazy.lpRet s.mark s.key (s.pc t) = none) :
    Linearizable map (Lazy.historyOf os) :=
  Lazy.lazy_linearizable_no_effect_pending sched s os h hq

/-- `historyOf` is faithful: a record's `inv` / `res` are the positions of its call and return observations. -/
theorem C13_lazy_history_sound (os : List (Tid × Obs)) (r : OpRec GOp GRet) (h : r ∈ Lazy.historyOf os) :
    os[r.inv]? = some (r.tid, .call r.op) ∧ os[r.res]? = some (r.tid, .ret r.ret) ∧ r.inv < r.res :=
  Lazy.historyOf_sound os r h

/-- Every completed operation takes effect at an instant inside its interval: there is `j` with
    `call < j ≤ return` such that in the state reached by the first `j` actions of the run the abstract map (the
    `(key, payload)` pairs of the unmarked linked items) answers the operation with the returned result according to
    the sequential specification. -/
theorem C13_lazy_effect_instant (sched : List (Tid × Act)) (s : Lazy.St) (os : List (Tid × Obs))
    (h : Lazy.model.run Lazy.init sched = some (s, os)) (r : OpRec GOp GRet) (hr : r ∈ Lazy.historyOf os) :
    ∃ j s1, r.inv < j ∧ j ≤ r.res ∧ Lazy.model.run Lazy.init (sched.take j) = some (s1, os.take j) ∧
      ∃ m', map.next (Lazy.absMap s1) r.op r.ret = some m' :=
  Lazy.lazy_effect_instant sched s os h r hr

/-- Hindsight, "absent" (the classic argument for the unlocked `contains`): an `erase k` / `extract k` / `find k` /
    `contains k` that answered `[0]` has an instant between its call and its return at which no unmarked linked item
    carried the key `k`. -/
theorem C13_lazy_absent_hindsight (sched : List (Tid × Act)) (s : Lazy.St) (os : List (Tid × Obs))
    (h : Lazy.model.run Lazy.init sched = some (s, os)) (r : OpRec GOp GRet) (hr : r ∈ Lazy.historyOf os)
    (k : Int)
    (hop : r.op = ⟨"erase", [k]⟩ ∨ r.op = ⟨"extract", [k]⟩ ∨ r.op = ⟨"find", [k]⟩ ∨ r.op = ⟨"contains", [k]⟩)
    (hret : r.ret = [0]) :
    ∃ j s1, r.inv < j ∧ j ≤ r.res ∧ Lazy.model.run Lazy.init (sched.take j) = some (s1, os.take j) ∧
      ∀ v, (k, v) ∉ Lazy.absMap s1 :=
  Lazy.lazy_absent_hindsight sched s os h r hr k hop hret

/-- Hindsight, "present": a failing `insert k _`, a `find k → [1, v]`, a `contains k → [1]`, an `erase k` /
    `extract k → [1, v]` has an instant between its call and its return at which an unmarked linked item carried the
    key `k`, with the payload that is reported (if one is reported). -/
theorem C13_lazy_present_hindsight (sched : List (Tid × Act)) (s : Lazy.St) (os : List (Tid × Obs))
    (h : Lazy.model.run Lazy.init sched = some (s, os)) (r : OpRec GOp GRet) (hr : r ∈ Lazy.historyOf os)
    (k : Int)
    (hop : (∃ v, r.op = ⟨"insert", [k, v]⟩ ∧ r.ret = [0]) ∨ (∃ v, r.op = ⟨"find", [k]⟩ ∧ r.ret = [1, v]) ∨
      (r.op = ⟨"contains", [k]⟩ ∧ r.ret = [1]) ∨ (∃ v, r.op = ⟨"erase", [k]⟩ ∧ r.ret = [1, v]) ∨
      (∃ v, r.op = ⟨"extract", [k]⟩ ∧ r.ret = [1, v])) :
    ∃ j s1 v, r.inv < j ∧ j ≤ r.res ∧ Lazy.model.run Lazy.init (sched.take j) = some (s1, os.take j) ∧
      (k, v) ∈ Lazy.absMap s1 ∧ ∀ w, r.ret = [1, w] → w = v :=
  Lazy.lazy_present_hindsight sched s os h r hr k hop

/-- Refinement: in a reachable state, the step at which thread `t` fixes its result `r` (the linking store, the
    marking store, the last load of a successful `validate` that finds / misses the key, the load that ends `search`
    of a `find` / `contains` in a gap or at a node that is marked already, the load `is_marked()` that reads an
    unmarked word) is exactly the `Spec.map` transition of `t`'s operation with result `r` on the abstract map; every
    other step (in particular every physical unlink and every lock operation) leaves the abstract map unchanged; and a
    step that fixes the result of ANOTHER thread's operation (the marking store, for the `find` / `contains` waiting
    at the node: hindsight) does so with a `Spec.map` transition on the abstract map after the step. -/
theorem C13_lazy_lp_refines (s s' : Lazy.St) (t : Tid) (ev : Ev)
    (hreach : Lazy.model.Reachable Lazy.init s) (hs : Lazy.step s t = some (s', ev)) :
    (Lazy.lpRet s.mark s.key (s.pc t) = none → ∀ r, Lazy.lpRet s'.mark s'.key (s'.pc t) = some r →
      ∃ op m', Lazy.opOf (s.pc t) = some op ∧ map.next (Lazy.absMap s) op r = some m' ∧
        ∀ k v, mfind m' k = some v ↔ (k, v) ∈ Lazy.absMap s') ∧
    ((Lazy.lpRet s.mark s.key (s.pc t) ≠ none ∨ Lazy.lpRet s'.mark s'.key (s'.pc t) = none) →
      ∀ k v, (k, v) ∈ Lazy.absMap s' ↔ (k, v) ∈ Lazy.absMap s) ∧
    (∀ t2, t2 ≠ t → Lazy.lpRet s.mark s.key (s.pc t2) = none →
      ∀ r, Lazy.lpRet s'.mark s'.key (s'.pc t2) = some r →
      ∃ op m', Lazy.opOf (s.pc t2) = some op ∧ map.next (Lazy.absMap s') op r = some m' ∧
        ∀ k v, mfind m' k = some v ↔ (k, v) ∈ Lazy.absMap s') :=
  Lazy.step_refines hreach hs

/-- Structure of the reachable states: the logical chain `chainOf s` (follow `succ` from the head) is finite, starts
    with the head (node 0) and ends with the tail (node 1); ALL linked nodes, marked or not, are strictly sorted by key
    (`LLt`: the head below, the tail above every item), hence pairwise different; they are allocated nodes; the
    sentinels are never marked; and memory agrees with the logical chain: an unmarked node's `m_pNext` is its logical
    successor, a marked node's `m_pNext` is the marked back-link to the head. -/
theorem C13_lazy_chain_sorted (s : Lazy.St) (hreach : Lazy.model.Reachable Lazy.init s) :
    Michael.Chain s.succ (some 0) (Lazy.chainOf s) ∧ (∃ l, Lazy.chainOf s = 0 :: (l ++ [1])) ∧
      (Lazy.chainOf s).Pairwise (Lazy.LLt s.key) ∧ (Lazy.absNodes s).Pairwise (fun a b => s.key a < s.key b) ∧
      (Lazy.chainOf s).Nodup ∧ (∀ a, a ∈ Lazy.chainOf s → a < s.cnt) ∧ s.mark 0 = false ∧ s.mark 1 = false ∧
      (∀ a, s.mark a = false → s.next a = s.succ a) ∧ (∀ a, s.mark a = true → s.next a = some 0) :=
  Lazy.reachable_structure s hreach

/-- Memory versus logical chain: the only nodes whose `m_pNext` word is not their logical successor are the marked
    ones, and a marked node that is still on the chain has been marked by a thread that is between the two stores of
    `unlink_node`: it holds the locks of the node and of the node's unmarked predecessor `p` (whose word still points
    to the node) and keeps the node's successor in its registers.  During exactly these windows the words in memory
    form the cycle head → … → p → node → head, and `search` of any other thread spins. -/
theorem C13_lazy_window (s : Lazy.St) (hreach : Lazy.model.Reachable Lazy.init s) (a : Nat)
    (ha : a ∈ Lazy.chainOf s) (hm : s.mark a = true) :
    ∃ t o p nx r, s.pc t = .eUn o p a nx r ∧ s.next p = some a ∧ s.mark p = false ∧ s.succ a = nx :=
  Lazy.window s hreach a ha hm

/-- Under the two locks the two `is_marked()` tests of `validate` are implied by its pointer comparison
    `pPred->m_pNext == pCur` (mark bit and pointer share one word): a thread that holds both locks and sees the
    unmarked pointer to `pCur` in `pPred` has an unmarked `pCur`.  Dropping these tests from `validate_link` therefore
    does not change any history; trace conformance still notices it (the loads disappear). -/
theorem C13_lazy_validate_marks_redundant (s : Lazy.St) (hreach : Lazy.model.Reachable Lazy.init s) (t : Tid)
    (o : Lazy.OpK) (p c : Nat) (hpc : s.pc t = .v1 o p c) (h1 : s.next p = some c) (h2 : s.mark p = false) :
    s.mark c = false :=
  Lazy.validate_marks_redundant s hreach t o p c hpc h1 h2

/-- No key is ever present twice: in every reachable state the keys of the abstract map (= of the unmarked linked
    items) are strictly increasing, in particular duplicate-free. -/
theorem C13_lazy_no_duplicate_keys (s : Lazy.St) (hreach : Lazy.model.Reachable Lazy.init s) :
    (Lazy.absMap s).Pairwise (fun p q => p.1 < q.1) ∧ ((Lazy.absMap s).map (·.1)).Nodup :=
  Lazy.reachable_no_duplicate_keys s hreach

/-- A marked (logically deleted) node is frozen: no action of any thread changes its word or removes its mark. -/
theorem C13_lazy_marked_frozen (s s' : Lazy.St) (t : Tid) (a : Act) (o : Obs)
    (hreach : Lazy.model.Reachable Lazy.init s) (hap : Lazy.model.apply s t a = some (s', o))
    (x : Nat) (hx : s.mark x = true) : s'.mark x = true ∧ s'.next x = s.next x :=
  Lazy.marked_frozen hreach hap x hx

/-- A node is unlinked only after it was marked, and every node ever linked and not marked is on the chain:
    (1) a node that is linked or marked stays linked or marked under every action;
    (2) a node that leaves the chain is marked;
    (3) the linking store puts the new node on the chain, unmarked (`C13_lazy_insert_links`). -/
theorem C13_lazy_linked_or_marked_forever (s s' : Lazy.St) (t : Tid) (a : Act) (o : Obs)
    (hreach : Lazy.model.Reachable Lazy.init s) (hap : Lazy.model.apply s t a = some (s', o)) (x : Nat) :
    ((x ∈ Lazy.chainOf s ∨ s.mark x = true) → (x ∈ Lazy.chainOf s' ∨ s'.mark x = true)) ∧
    (x ∈ Lazy.chainOf s → x ∉ Lazy.chainOf s' → s.mark x = true) :=
  Lazy.linked_or_marked_forever hreach hap x

theorem C13_lazy_insert_links (s s' : Lazy.St) (t : Tid) (ev : Ev)
    (hreach : Lazy.model.Reachable Lazy.init s) (hs : Lazy.step s t = some (s', ev))
    (o : Lazy.OpK) (n p c : Nat) (hpc : s.pc t = .iLk o n p c) : n ∈ Lazy.absNodes s' ∧ s'.mark n = false :=
  Lazy.insert_links hreach hs o n p c hpc

/-- A node is marked by exactly one `erase` / `extract`, the one that returns success for it.
    (1) The only step that sets the mark of a node `a` is the marking store of a thread erasing `key a`, applied under
        the node's lock to a linked item; after it that thread is going to return `[1, val a]`.
    (2) No two threads are between marking store and unlink store for the same node.
    Together with `C13_lazy_marked_frozen` (a mark is never removed, so the precondition "unmarked" of (1) can hold at
    most once per node) every node is marked at most once. -/
theorem C13_lazy_erase_once (s s' : Lazy.St) (t : Tid) (ev : Ev)
    (hreach : Lazy.model.Reachable Lazy.init s) (hs : Lazy.step s t = some (s', ev)) :
    (∀ a, s.mark a = false → s'.mark a = true →
      ∃ o p nx, s.pc t = .eMk o p a nx ∧ s'.pc t = .eUn o p a nx [1, s.val a] ∧ s.key a = Lazy.okey o ∧
        a ∈ Lazy.absNodes s ∧ Lazy.heldC (s.pc t) = some a ∧
        Lazy.lpRet s'.mark s'.key (s'.pc t) = some [1, s.val a]) ∧
    (∀ t1 t2 o1 p1 a x1 r1 o2 p2 x2 r2, s'.pc t1 = .eUn o1 p1 a x1 r1 → s'.pc t2 = .eUn o2 p2 a x2 r2 → t1 = t2) :=
  Lazy.erase_once hreach hs

/-- Lock discipline.  `heldP pc` / `heldC pc` are the nodes whose locks a thread at `pc` holds (as `pPred->m_Lock`,
    `pCur->m_Lock`: from its successful `exchange` to its releasing store).  In every reachable state
    (1) per-node mutual exclusion: a lock is held by at most one thread; (2) the word of a held lock is set;
    (3) the two locks a thread holds are different; and for every action of a thread `t`:
    (4) a `m_pNext` word (pointer or mark; also the ghost successor) changes only if `t` holds the lock of that node
        or the node is `t`'s own node, not yet linked;
    (5) the payload of an existing node changes only if `t` holds its lock, and the node is linked and unmarked;
    (6) a lock word changes only by `t` acquiring the free lock or releasing a lock it holds. -/
theorem C13_lazy_lock_discipline (s : Lazy.St) (hreach : Lazy.model.Reachable Lazy.init s) :
    (∀ t1 t2 a, (Lazy.heldP (s.pc t1) = some a ∨ Lazy.heldC (s.pc t1) = some a) →
      (Lazy.heldP (s.pc t2) = some a ∨ Lazy.heldC (s.pc t2) = some a) → t1 = t2) ∧
    (∀ t a, (Lazy.heldP (s.pc t) = some a ∨ Lazy.heldC (s.pc t) = some a) → s.lock a = true) ∧
    (∀ t p c, Lazy.heldP (s.pc t) = some p → Lazy.heldC (s.pc t) = some c → p ≠ c) ∧
    (∀ t a s' o, Lazy.model.apply s t a = some (s', o) →
      (∀ x, (s'.next x ≠ s.next x ∨ s'.mark x ≠ s.mark x ∨ s'.succ x ≠ s.succ x) →
        Lazy.heldP (s.pc t) = some x ∨ Lazy.heldC (s.pc t) = some x ∨ Lazy.insNode (s.pc t) = some x) ∧
      (∀ x, x < s.cnt → s'.val x ≠ s.val x →
        Lazy.heldC (s.pc t) = some x ∧ s.mark x = false ∧ x ∈ Lazy.chainOf s) ∧
      (∀ x, s'.lock x ≠ s.lock x →
        (s.lock x = false ∧ (Lazy.heldP (s'.pc t) = some x ∨ Lazy.heldC (s'.pc t) = some x)) ∨
        (s.lock x = true ∧ (Lazy.heldP (s.pc t) = some x ∨ Lazy.heldC (s.pc t) = some x)))) :=
  Lazy.lock_discipline s hreach

/-! ### Non-vacuity -/

def steps (t : Tid) (n : Nat) : List (Tid × Act) := List.replicate n (t, .step)
def ins (k v : Int) : GOp := ⟨"insert", [k, v]⟩
def era (k : Int) : GOp := ⟨"erase", [k]⟩
def fnd (k : Int) : GOp := ⟨"find", [k]⟩
def con (k : Int) : GOp := ⟨"contains", [k]⟩

/-- `insert 5 10` alone, on the empty list: observations 0 … 12. -/
def ins5 : List (Tid × Act) := [(0, .invoke (ins 5 10))] ++ steps 0 11 ++ [(0, .ret)]

example : (Lazy.model.run Lazy.init ins5).map (·.2) =
    some [(0, .call (ins 5 10)),                    -- T 0 C insert [5, 10]
          (0, .ev ⟨"ld", "h", "t", ""⟩),            -- T 0 A ld h t                 (protect: load)
          (0, .ev ⟨"ld", "h", "t", ""⟩),            --                              (validating load; search returns ( h, t ))
          (0, .ev ⟨"xchg", "h.lock", "0", "1"⟩),    -- T 0 A xchg h.lock 0 1        (pPred->m_Lock.lock())
          (0, .ev ⟨"xchg", "t.lock", "0", "1"⟩),    -- T 0 A xchg t.lock 0 1        (pCur->m_Lock.lock())
          (0, .ev ⟨"ld", "h", "t", ""⟩),            -- validate: !pPred->is_marked()
          (0, .ev ⟨"ld", "t", "null", ""⟩),         --           !pCur->is_marked()
          (0, .ev ⟨"ld", "h", "t", ""⟩),            --           pPred->m_pNext == pCur
          (0, .ev ⟨"st", "n1", "t", ""⟩),           -- link_node: pNode->m_pNext = pCur
          (0, .ev ⟨"st", "h", "n1", ""⟩),           --            pPred->m_pNext = pNode      (linearization point)
          (0, .ev ⟨"st", "t.lock", "0", ""⟩),       -- pCur->m_Lock.unlock()
          (0, .ev ⟨"st", "h.lock", "0", ""⟩),       -- pPred->m_Lock.unlock()
          (0, .ret [1])] := by decide +kernel

/-- All operations of the model, one after the other: `update` of the key-value forms replaces the payload of an
    existing item (under the item's lock), the intrusive `update` (`upsert_keep`) keeps the old item, `find` reads the
    payload under the item's lock, `extract` removes it, a refused `update` answers `[0, 0]`. -/
def seqSched : List (Tid × Act) :=
  ins5 ++ [(0, .invoke ⟨"update", [5, 11, 1]⟩)] ++ steps 0 9 ++ [(0, .ret), (0, .invoke (fnd 5))] ++ steps 0 5 ++
  [(0, .ret), (0, .invoke ⟨"upsert_keep", [5, 12, 1]⟩)] ++ steps 0 9 ++ [(0, .ret), (0, .invoke (fnd 5))] ++ steps 0 5 ++
  [(0, .ret), (0, .invoke ⟨"extract", [5]⟩)] ++ steps 0 12 ++ [(0, .ret), (0, .invoke ⟨"update", [5, 13, 0]⟩)] ++
  steps 0 9 ++ [(0, .ret), (0, .invoke ⟨"upsert_keep", [7, 14, 1]⟩)] ++ steps 0 11 ++ [(0, .ret)]

set_option synthInstance.maxSize 4000 in
example : (Lazy.model.run Lazy.init seqSched).map
    (fun r => ((Lazy.historyOf r.2).map (fun x => (x.op.name, x.op.args, x.ret)), Lazy.absMap r.1,
      linCheck map (Lazy.historyOf r.2))) =
    some ([("insert", [5, 10], [1]), ("update", [5, 11, 1], [1, 0]), ("find", [5], [1, 11]),
           ("upsert_keep", [5, 12, 1], [1, 0]), ("find", [5], [1, 11]), ("extract", [5], [1, 11]),
           ("update", [5, 13, 0], [0, 0]), ("upsert_keep", [7, 14, 1], [1, 1])], [(7, 14)], true) := by
  decide +kernel

/-- An insert races with the erase of its predecessor: the validation fails because `pPred` was marked meanwhile, and
    the insert retries.  Thread 1 (`insert 7`) finishes `search` with `pos = ( n1, t )`; thread 0 erases key 5 (node
    n1) completely; thread 1 locks n1 and t, reads `n1.m_pNext = h|1` in `validate` — marked —, unlocks, searches again
    (now `pos = ( h, t )`) and links n2 behind the head. -/
def retrySched : List (Tid × Act) :=
  ins5 ++ [(1, .invoke (ins 7 20))] ++ steps 1 4 ++ [(0, .invoke (era 5))] ++ steps 0 12 ++ [(0, .ret)] ++
  steps 1 16 ++ [(1, .ret)]

example : (Lazy.model.run Lazy.init retrySched).map (fun r => r.2.drop 13) =
    some [(1, .call (ins 7 20)),
          (1, .ev ⟨"ld", "h", "n1", ""⟩),
          (1, .ev ⟨"ld", "h", "n1", ""⟩),
          (1, .ev ⟨"ld", "n1", "t", ""⟩),
          (1, .ev ⟨"ld", "n1", "t", ""⟩),           -- search returns ( n1, t )
          (0, .call (era 5)),
          (0, .ev ⟨"ld", "h", "n1", ""⟩),
          (0, .ev ⟨"ld", "h", "n1", ""⟩),
          (0, .ev ⟨"xchg", "h.lock", "0", "1"⟩),
          (0, .ev ⟨"xchg", "n1.lock", "0", "1"⟩),
          (0, .ev ⟨"ld", "h", "n1", ""⟩),
          (0, .ev ⟨"ld", "n1", "t", ""⟩),
          (0, .ev ⟨"ld", "h", "n1", ""⟩),
          (0, .ev ⟨"ld", "n1", "t", ""⟩),           -- unlink_node: pNext = pCur->m_pNext
          (0, .ev ⟨"st", "n1", "h|1", ""⟩),         -- T 0 A st n1 h|1              (marking store: linearization point)
          (0, .ev ⟨"st", "h", "t", ""⟩),            -- T 0 A st h t                 (physical unlink)
          (0, .ev ⟨"st", "n1.lock", "0", ""⟩),
          (0, .ev ⟨"st", "h.lock", "0", ""⟩),
          (0, .ret [1, 10]),
          (1, .ev ⟨"xchg", "n1.lock", "0", "1"⟩),   -- thread 1 locks the deleted node and the tail
          (1, .ev ⟨"xchg", "t.lock", "0", "1"⟩),
          (1, .ev ⟨"ld", "n1", "h|1", ""⟩),         -- validate: pPred is marked: FAILS
          (1, .ev ⟨"st", "t.lock", "0", ""⟩),
          (1, .ev ⟨"st", "n1.lock", "0", ""⟩),
          (1, .ev ⟨"ld", "h", "t", ""⟩),            -- retry: search again
          (1, .ev ⟨"ld", "h", "t", ""⟩),
          (1, .ev ⟨"xchg", "h.lock", "0", "1"⟩),
          (1, .ev ⟨"xchg", "t.lock", "0", "1"⟩),
          (1, .ev ⟨"ld", "h", "t", ""⟩),
          (1, .ev ⟨"ld", "t", "null", ""⟩),
          (1, .ev ⟨"ld", "h", "t", ""⟩),
          (1, .ev ⟨"st", "n2", "t", ""⟩),
          (1, .ev ⟨"st", "h", "n2", ""⟩),           -- linearization point of insert 7
          (1, .ev ⟨"st", "t.lock", "0", ""⟩),
          (1, .ev ⟨"st", "h.lock", "0", ""⟩),
          (1, .ret [1])] := by decide +kernel

example : (Lazy.model.run Lazy.init retrySched).map
    (fun r => (Lazy.chainOf r.1, Lazy.absMap r.1, r.1.mark 2, linCheck map (Lazy.historyOf r.2))) =
    some ([0, 3, 1], [(7, 20)], true, true) := by decide +kernel

/-- `contains` running through a node that is being deleted, and hindsight by helping.
    Thread 0's `contains 5` ends its `search` at n1 (unmarked, with the key): nothing is fixed yet.  Thread 1 marks
    n1 (`st n1 h|1`): at this very step the answer of thread 0 becomes `[0]` (the eraser's step linearizes the reader).
    Thread 2's `contains 7` now walks into the deleted node: it reads `n1.m_pNext = h|1` and STARTS AGAIN FROM THE HEAD,
    again and again (not wait-free), until thread 1 has executed its unlink store.  Then thread 0 loads `n1.m_pNext`,
    sees the mark and answers `[0]`. -/
def spinSched : List (Tid × Act) :=
  ins5 ++ [(0, .invoke (con 5))] ++ steps 0 2 ++ [(1, .invoke (era 5))] ++ steps 1 9 ++ [(2, .invoke (con 7))] ++
  steps 2 8 ++ steps 1 1 ++ steps 2 2 ++ [(2, .ret)] ++ steps 0 1 ++ [(0, .ret)] ++ steps 1 2 ++ [(1, .ret)]

example : (Lazy.model.run Lazy.init spinSched).map (fun r => r.2.drop 13) =
    some [(0, .call (con 5)),
          (0, .ev ⟨"ld", "h", "n1", ""⟩),
          (0, .ev ⟨"ld", "h", "n1", ""⟩),           -- search of contains 5 returns ( h, n1 )
          (1, .call (era 5)),
          (1, .ev ⟨"ld", "h", "n1", ""⟩),
          (1, .ev ⟨"ld", "h", "n1", ""⟩),
          (1, .ev ⟨"xchg", "h.lock", "0", "1"⟩),
          (1, .ev ⟨"xchg", "n1.lock", "0", "1"⟩),
          (1, .ev ⟨"ld", "h", "n1", ""⟩),
          (1, .ev ⟨"ld", "n1", "t", ""⟩),
          (1, .ev ⟨"ld", "h", "n1", ""⟩),
          (1, .ev ⟨"ld", "n1", "t", ""⟩),
          (1, .ev ⟨"st", "n1", "h|1", ""⟩),         -- marking store: erase 5 AND contains 5 (→ 0) take effect
          (2, .call (con 7)),
          (2, .ev ⟨"ld", "h", "n1", ""⟩),
          (2, .ev ⟨"ld", "h", "n1", ""⟩),
          (2, .ev ⟨"ld", "n1", "h|1", ""⟩),         -- T 2 A ld n1 h|1              (marked back-link)
          (2, .ev ⟨"ld", "n1", "h|1", ""⟩),         --                              → pPrev = pCur = pHead
          (2, .ev ⟨"ld", "h", "n1", ""⟩),           -- second round
          (2, .ev ⟨"ld", "h", "n1", ""⟩),
          (2, .ev ⟨"ld", "n1", "h|1", ""⟩),
          (2, .ev ⟨"ld", "n1", "h|1", ""⟩),
          (1, .ev ⟨"st", "h", "t", ""⟩),            -- the eraser unlinks n1
          (2, .ev ⟨"ld", "h", "t", ""⟩),
          (2, .ev ⟨"ld", "h", "t", ""⟩),            -- linearization point of contains 7 (→ 0)
          (2, .ret [0]),
          (0, .ev ⟨"ld", "n1", "h|1", ""⟩),         -- contains 5: pCur->is_marked()
          (0, .ret [0]),
          (1, .ev ⟨"st", "n1.lock", "0", ""⟩),
          (1, .ev ⟨"st", "h.lock", "0", ""⟩),
          (1, .ret [1, 10])] := by decide +kernel

set_option synthInstance.maxSize 2000 in
/-- The state before and after the marking store (observation 25): the result of thread 0's `contains 5` is not
    fixed / fixed to `[0]` although thread 0 does not move; in memory n1 points back to the head with the mark set
    while the logical chain still contains it; the abstract map is `[(5, 10)]` / empty. -/
example : (Lazy.model.run Lazy.init (spinSched.take 25)).map
    (fun r => (Lazy.lpRet r.1.mark r.1.key (r.1.pc 0), Lazy.absMap r.1, Lazy.chainOf r.1, r.1.next 2, r.1.mark 2)) =
    some (none, [(5, 10)], [0, 2, 1], some 1, false) := by decide +kernel

set_option synthInstance.maxSize 2000 in
example : (Lazy.model.run Lazy.init (spinSched.take 26)).map
    (fun r => (Lazy.lpRet r.1.mark r.1.key (r.1.pc 0), Lazy.absMap r.1, Lazy.chainOf r.1, r.1.next 2, r.1.mark 2)) =
    some (some [0], [], [0, 2, 1], some 0, true) := by decide +kernel

example : (Lazy.model.run Lazy.init spinSched).map (fun r => Lazy.historyOf r.2) =
    some [⟨0, ins 5 10, [1], 0, 12⟩, ⟨2, con 7, [0], 26, 38⟩, ⟨0, con 5, [0], 13, 40⟩, ⟨1, era 5, [1, 10], 16, 43⟩] := by
  decide +kernel

example : linCheck map [⟨0, ins 5 10, [1], 0, 12⟩, ⟨2, con 7, [0], 26, 38⟩, ⟨0, con 5, [0], 13, 40⟩,
    ⟨1, era 5, [1, 10], 16, 43⟩] = true := by decide +kernel

/-- Two erases of one key.  Both threads finish `search` with `pos = ( h, n1 )`; thread 0 takes the head's lock,
    thread 1 spins on it (`xchg h.lock 1 1`, `ld h.lock 1`); thread 0 erases; thread 1 gets the locks, sees `pCur`
    marked in `validate`, retries and answers 0. -/
def eraseRace : List (Tid × Act) :=
  ins5 ++ [(0, .invoke (era 5)), (1, .invoke (era 5))] ++ steps 0 2 ++ steps 1 2 ++ steps 0 1 ++ steps 1 3 ++
  steps 0 9 ++ [(0, .ret)] ++ steps 1 16 ++ [(1, .ret)]

example : (Lazy.model.run Lazy.init eraseRace).map (fun r => r.2.drop 19) =
    some [(0, .ev ⟨"xchg", "h.lock", "0", "1"⟩),
          (1, .ev ⟨"xchg", "h.lock", "1", "1"⟩),    -- T 1 A xchg h.lock 1 1        (lock taken: a step that stays)
          (1, .ev ⟨"ld", "h.lock", "1", ""⟩),       -- T 1 A ld h.lock 1            (wait loop)
          (1, .ev ⟨"ld", "h.lock", "1", ""⟩),
          (0, .ev ⟨"xchg", "n1.lock", "0", "1"⟩),
          (0, .ev ⟨"ld", "h", "n1", ""⟩),
          (0, .ev ⟨"ld", "n1", "t", ""⟩),
          (0, .ev ⟨"ld", "h", "n1", ""⟩),
          (0, .ev ⟨"ld", "n1", "t", ""⟩),
          (0, .ev ⟨"st", "n1", "h|1", ""⟩),
          (0, .ev ⟨"st", "h", "t", ""⟩),
          (0, .ev ⟨"st", "n1.lock", "0", ""⟩),
          (0, .ev ⟨"st", "h.lock", "0", ""⟩),
          (0, .ret [1, 10]),
          (1, .ev ⟨"ld", "h.lock", "0", ""⟩),
          (1, .ev ⟨"xchg", "h.lock", "0", "1"⟩),
          (1, .ev ⟨"xchg", "n1.lock", "0", "1"⟩),
          (1, .ev ⟨"ld", "h", "t", ""⟩),            -- validate: pPred unmarked
          (1, .ev ⟨"ld", "n1", "h|1", ""⟩),         --           pCur marked: FAILS
          (1, .ev ⟨"st", "n1.lock", "0", ""⟩),
          (1, .ev ⟨"st", "h.lock", "0", ""⟩),
          (1, .ev ⟨"ld", "h", "t", ""⟩),
          (1, .ev ⟨"ld", "h", "t", ""⟩),
          (1, .ev ⟨"xchg", "h.lock", "0", "1"⟩),
          (1, .ev ⟨"xchg", "t.lock", "0", "1"⟩),
          (1, .ev ⟨"ld", "h", "t", ""⟩),
          (1, .ev ⟨"ld", "t", "null", ""⟩),
          (1, .ev ⟨"ld", "h", "t", ""⟩),            -- linearization point of the failing erase
          (1, .ev ⟨"st", "t.lock", "0", ""⟩),
          (1, .ev ⟨"st", "h.lock", "0", ""⟩),
          (1, .ret [0])] := by decide +kernel

example : (Lazy.model.run Lazy.init eraseRace).map (fun r => Lazy.historyOf r.2) =
    some [⟨0, ins 5 10, [1], 0, 12⟩, ⟨0, era 5, [1, 10], 13, 32⟩, ⟨1, era 5, [0], 14, 49⟩] := by decide +kernel

example : linCheck map [⟨0, ins 5 10, [1], 0, 12⟩, ⟨0, era 5, [1, 10], 13, 32⟩, ⟨1, era 5, [0], 14, 49⟩] = true := by
  decide +kernel

/-- Why pending operations must be completed: thread 0 has linked n1 (its insert has taken effect) but not yet
    returned; thread 1's `contains 5` answers `[1]`.  The history of completed operations alone is not
    linearizable ... -/
def pendingSched : List (Tid × Act) :=
  [(0, .invoke (ins 5 10))] ++ steps 0 9 ++ [(1, .invoke (con 5))] ++ steps 1 3 ++ [(1, .ret)]

example : (Lazy.model.run Lazy.init pendingSched).map (fun r => Lazy.historyOf r.2) =
    some [⟨1, con 5, [1], 10, 14⟩] := by decide +kernel

example : ¬ Linearizable map [⟨1, con 5, [1], 10, 14⟩] :=
  not_linearizable_of_linCheck_eq_false map _ (by decide) (by decide +kernel)

/-- ... and `extra` of `C13_lazy_linearizable` repairs it: with the pending insert completed, it is. -/
example : Linearizable map ([⟨1, con 5, [1], 10, 14⟩] ++ [⟨0, ins 5 10, [1], 0, 15⟩]) :=
  linCheck_sound map _ (by decide +kernel)

end CdsVerif.Props.C13Lazy
