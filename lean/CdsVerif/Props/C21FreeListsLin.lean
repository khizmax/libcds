/-
  C21, history level — the lock-free free lists against the BAG specification (`Spec.bag`: `put n` adds `n`, `get`
  removes and returns a node that is present, `get` answers "empty" only when the bag is empty).

  The operations of the machines carry the calling thread as first argument (`put [t, n]`, `get [t]`); `BagLin.bagT` is
  `Spec.bag []` on these operations (the thread argument is dropped: `BagLin.stripOp`), and
  `C21_tagged_bag_linearizable_stripped` states the result against `Spec.bag []` itself.

  PROVED, for every run (any number of threads, any client program in which a thread only puts a node it owns, any
  schedule):
    * `C21_tagged_bag_linearizable` : TaggedFreeList — the history of the completed operations, completed with the
      pending operations that have passed their linearization point, is Herlihy–Wing linearizable to the bag.
      Linearization points: `put` — the successful CAS on `m_Head` that links the node; `get → n` — the successful CAS
      on `m_Head` that unlinks it; `get → empty` — the load of `m_Head` that reads null (or the failed CAS that sees
      null).  The abstract bag is the chain from `m_Head`.
    * `C21_tagged_bag_linearizable_stripped` (against `Spec.bag []`), `C21_tagged_bag_linearizable_no_effect_pending`,
      `C21_tagged_empty_means_empty` : corollaries (as for C06).
    * `C21_freelist_not_bag_linearizable` : FreeList (the reference-counted list) is NOT linearizable to the bag: a
      run of the machine is exhibited in which thread 0 completes `put( n1 )` and then its own `get()` answers
      "empty" although no other `get` takes n1.  The `put` returned from its `fetch_add( SHOULD_BE_ON_FREELIST )`
      because a getter (thread 1) held a reference to n1; n1 is then neither owned nor on the list until thread 1
      drops its reference and links the node itself (the hand-over).
    * `C21_freelist_bag_linearizable_partial` : what does hold for FreeList — linearizability to the WEAK bag
      `FreeList.bagWR` (`put n` adds `n`; `get → n` removes a node that is in the bag; `get → empty` is allowed at any
      time): no invention, no duplication, no loss.  Linearization points: `put` — its FIRST step, the
      `fetch_add( SHOULD_BE_ON_FREELIST )`, after which the node is guaranteed to become available (the put links it
      itself, or the flag makes the last reference holder link it); `get → n` — the successful CAS on `m_Head`;
      `get → empty` — the step that makes the loop test fail.  Stated on the observations with the result `[0]`
      relabelled `[2]` (`BagLin.mapOs FreeList.relab os`: the toolkit reserves `[0]` for "the abstract state is
      empty"); NOT proved: the same statement transferred back to the unrelabelled history (a permutation-of-a-map
      lemma is missing), and "empty only if `m_Head` was null at an instant inside the call".
-/
import CdsVerif.Props.C21FreeLists
import CdsVerif.Algo.TaggedFreeList.Lin
import CdsVerif.Algo.FreeList.Lin
namespace CdsVerif.Props.C21FreeListsLin
open CdsVerif.Machine CdsVerif.Lin CdsVerif.Spec CdsVerif.Algo CdsVerif.Algo.QueueLin CdsVerif.Algo.BagLin
open CdsVerif.Props.C21FreeLists

/-! ### TaggedFreeList -/

/-- **TaggedFreeList is linearizable to the bag** (Herlihy–Wing, with completion of pending operations).  For EVERY run
    of the machine, from any initial distribution `own0` of the nodes among the threads: the history of the completed
    operations, extended by response records for the pending operations that have passed their linearization point (at
    most one per thread, with the result fixed there: `lpRet`), has a sequential order that respects real time and in
    which every `put n` adds a node that is not in the bag, every `get → n` removes a node `n` that is in the bag, and
    `get → empty` happens only when the bag is empty. -/
theorem C21_tagged_bag_linearizable (own0 : Nat → Tid) (sched : List (Tid × Act)) (s : TaggedFreeList.St)
    (os : List (Tid × Obs)) (h : TaggedFreeList.model.run (TaggedFreeList.init own0) sched = some (s, os)) :
    ∃ extra : List (OpRec GOp GRet),
      (∀ e ∈ extra, pendingOf os e.tid = some (e.op, e.inv) ∧ e.res = os.length ∧
          TaggedFreeList.lpRet (s.pc e.tid) = some e.ret) ∧
      extra.Pairwise (fun a b => a.tid ≠ b.tid) ∧
      Linearizable bagT (historyOf os ++ extra) :=
  TaggedFreeList.tagged_bag_linearizable own0 sched s os h

/-- The same against `Spec.bag []` itself: the history with the thread argument of every operation dropped
    (`put [n]`, `get []`). -/
theorem C21_tagged_bag_linearizable_stripped (own0 : Nat → Tid) (sched : List (Tid × Act)) (s : TaggedFreeList.St)
    (os : List (Tid × Obs)) (h : TaggedFreeList.model.run (TaggedFreeList.init own0) sched = some (s, os)) :
    ∃ extra : List (OpRec GOp GRet),
      (∀ e ∈ extra, pendingOf os e.tid = some (e.op, e.inv) ∧ e.res = os.length ∧
          TaggedFreeList.lpRet (s.pc e.tid) = some e.ret) ∧
      extra.Pairwise (fun a b => a.tid ≠ b.tid) ∧
      Linearizable (bag []) ((historyOf os ++ extra).map stripRec) := by
  obtain ⟨extra, h1, h2, h3⟩ := C21_tagged_bag_linearizable own0 sched s os h
  exact ⟨extra, h1, h2, linearizable_bag_of_bagT h3⟩

/-- Runs at whose end no thread is between its linearization point and its return (in particular: complete runs). -/
theorem C21_tagged_bag_linearizable_no_effect_pending (own0 : Nat → Tid) (sched : List (Tid × Act))
    (s : TaggedFreeList.St) (os : List (Tid × Obs))
    (h : TaggedFreeList.model.run (TaggedFreeList.init own0) sched = some (s, os))
    (hq : ∀ t, TaggedFreeList.lpRet (s.pc t) = none) : Linearizable bagT (historyOf os) :=
  TaggedFreeList.tagged_bag_linearizable_no_effect_pending own0 sched s os h hq

/-- `get` answers "empty" only if the list was empty at an instant inside the call: `m_Head` was null when the `get`
    loaded it (or when its CAS failed). -/
theorem C21_tagged_empty_means_empty (own0 : Nat → Tid) (sched : List (Tid × Act)) (s : TaggedFreeList.St)
    (os : List (Tid × Obs)) (h : TaggedFreeList.model.run (TaggedFreeList.init own0) sched = some (s, os))
    (r : OpRec GOp GRet) (hr : r ∈ historyOf os) (hret : r.ret = [0]) :
    ∃ j, r.inv < j ∧ j < r.res ∧
      ∃ s1, (TaggedFreeList.model.run (TaggedFreeList.init own0) (sched.take j)).map (·.1) = some s1 ∧
        s1.head.1 = none ∧ TaggedFreeList.Chain s1.next s1.head.1 [] :=
  TaggedFreeList.tagged_empty_hindsight own0 sched s os h r hr hret

/-! ### Non-vacuity: the theorem on the race of `C21FreeLists.taggedRaceSched` -/

/-- The theorem applied to `taggedRaceSched` (a `get` of thread 1 races with `put( n2 )` of thread 0 and takes the node
    that was put while it was running): the run exists, no hypothesis is left. -/
example : ∃ s os, TaggedFreeList.model.run (TaggedFreeList.init (fun _ => 0)) taggedRaceSched = some (s, os) ∧
    ∃ extra : List (OpRec GOp GRet),
      (∀ e ∈ extra, pendingOf os e.tid = some (e.op, e.inv) ∧ e.res = os.length ∧
          TaggedFreeList.lpRet (s.pc e.tid) = some e.ret) ∧
      extra.Pairwise (fun a b => a.tid ≠ b.tid) ∧
      Linearizable bagT (historyOf os ++ extra) := by
  have h : (TaggedFreeList.model.run (TaggedFreeList.init (fun _ => 0)) taggedRaceSched).isSome = true := by
    decide +kernel
  obtain ⟨⟨s, os⟩, hr⟩ := Option.isSome_iff_exists.mp h
  exact ⟨s, os, hr, C21_tagged_bag_linearizable (fun _ => 0) taggedRaceSched s os hr⟩

/-- The same run cut after the put's successful CAS (12 actions): the `put( n2 )` of thread 0 is pending PAST its
    linearization point, the `get` of thread 1 is pending before its own. -/
example : ∃ s os, TaggedFreeList.model.run (TaggedFreeList.init (fun _ => 0)) (taggedRaceSched.take 12) = some (s, os) ∧
    ∃ extra : List (OpRec GOp GRet),
      (∀ e ∈ extra, pendingOf os e.tid = some (e.op, e.inv) ∧ e.res = os.length ∧
          TaggedFreeList.lpRet (s.pc e.tid) = some e.ret) ∧
      extra.Pairwise (fun a b => a.tid ≠ b.tid) ∧
      Linearizable bagT (historyOf os ++ extra) := by
  have h : (TaggedFreeList.model.run (TaggedFreeList.init (fun _ => 0)) (taggedRaceSched.take 12)).isSome = true := by
    decide +kernel
  obtain ⟨⟨s, os⟩, hr⟩ := Option.isSome_iff_exists.mp h
  exact ⟨s, os, hr, C21_tagged_bag_linearizable (fun _ => 0) _ s os hr⟩

set_option synthInstance.maxSize 4000 in
/-- What the theorem talks about there: one completed operation, thread 0 past its linearization point (`lpRet` = its
    future result), thread 1 not. -/
example : (TaggedFreeList.model.run (TaggedFreeList.init (fun _ => 0)) (taggedRaceSched.take 12)).map
    (fun r => (historyOf r.2, TaggedFreeList.lpRet (r.1.pc 0), TaggedFreeList.lpRet (r.1.pc 1),
      pendingOf r.2 0, pendingOf r.2 1)) =
    some ([⟨0, ⟨"put", [0, 1]⟩, [1], 0, 4⟩], some [1], none, some (⟨"put", [0, 2]⟩, 6), some (⟨"get", [1]⟩, 5)) := by
  decide +kernel

/-- The history of the complete race, and the verified checker on it: accepted against the bag; the same history with
    the `get` answering "empty" (n1 and n2 are in the bag), or returning n1 twice, is rejected. -/
example : (TaggedFreeList.model.run (TaggedFreeList.init (fun _ => 0)) taggedRaceSched).map (fun r => historyOf r.2) =
    some [⟨0, ⟨"put", [0, 1]⟩, [1], 0, 4⟩, ⟨0, ⟨"put", [0, 2]⟩, [1], 6, 12⟩, ⟨1, ⟨"get", [1]⟩, [1, 2], 5, 16⟩] ∧
    linCheck bagT
      [⟨0, ⟨"put", [0, 1]⟩, [1], 0, 4⟩, ⟨0, ⟨"put", [0, 2]⟩, [1], 6, 12⟩, ⟨1, ⟨"get", [1]⟩, [1, 2], 5, 16⟩] = true ∧
    linCheck bagT
      [⟨0, ⟨"put", [0, 1]⟩, [1], 0, 4⟩, ⟨0, ⟨"put", [0, 2]⟩, [1], 6, 12⟩, ⟨1, ⟨"get", [1]⟩, [0], 5, 16⟩] = false ∧
    linCheck bagT
      [⟨0, ⟨"put", [0, 1]⟩, [1], 0, 4⟩, ⟨1, ⟨"get", [1]⟩, [1, 1], 5, 16⟩, ⟨1, ⟨"get", [1]⟩, [1, 1], 17, 20⟩] = false := by
  decide +kernel

/-! ### FreeList: NOT linearizable to the bag -/

def steps (t : Tid) (n : Nat) : List (Tid × Act) := List.replicate n (t, .step)

/-- The hand-over.  Thread 0 owns all nodes and puts n1.  Thread 1 calls `get`, loads head = n1 and takes a reference
    (word 2).  Thread 0 calls `get`, takes n1 (word 3, head := null, word 1) and returns it; calls `put( n1 )`: the
    `fetch_add( SHOULD_BE_ON_FREELIST )` returns 1, not 0, so `put` RETURNS without linking the node (word
    0x80000001); calls `get`: head is null, the answer is "empty".  Then thread 1 goes on: its CAS on the head fails,
    it drops its reference (`fetch_sub( 1 )` returns 0x80000001), so IT links n1 (`add_knowing_refcount_is_zero`), and,
    the head value its failed CAS saw being null, its own `get` answers "empty" as well. -/
def handoverSched : List (Tid × Act) :=
  [(0, .invoke ⟨"put", [0, 1]⟩)] ++ steps 0 5 ++ [(0, .ret)] ++
  [(1, .invoke ⟨"get", [1]⟩)] ++ steps 1 3 ++
  [(0, .invoke ⟨"get", [0]⟩)] ++ steps 0 6 ++ [(0, .ret)] ++
  [(0, .invoke ⟨"put", [0, 1]⟩)] ++ steps 0 1 ++ [(0, .ret)] ++
  [(0, .invoke ⟨"get", [0]⟩)] ++ steps 0 1 ++ [(0, .ret)] ++
  steps 1 7 ++ [(1, .ret)]

example : (FreeList.model.run (FreeList.init (fun _ => 0)) handoverSched).map (fun r => r.2.drop 19) = some
    [(0, .call ⟨"put", [0, 1]⟩),
     (0, .ev ⟨"add", "n1", "1", "2147483648"⟩),        -- old word 1, not 0: put does not link the node
     (0, .ret [1]),
     (0, .call ⟨"get", [0]⟩),
     (0, .ev ⟨"ld", "head", "null", ""⟩),
     (0, .ret [0]),                                     -- "empty", after the thread's own completed put
     (1, .ev ⟨"ld", "n1.next", "null", ""⟩),
     (1, .ev ⟨"cas-", "head", "null", "n1"⟩),
     (1, .ev ⟨"sub", "n1", "2147483649", "1"⟩),        -- the last reference: thread 1 has to link n1
     (1, .ev ⟨"ld", "head", "null", ""⟩),
     (1, .ev ⟨"st", "n1.next", "null", ""⟩),
     (1, .ev ⟨"st", "n1", "1", ""⟩),
     (1, .ev ⟨"cas+", "head", "null", "n1"⟩),
     (1, .ret [0])] := by decide +kernel

example : (FreeList.model.run (FreeList.init (fun _ => 0)) handoverSched).map (fun r => historyOf r.2) = some
    [⟨0, ⟨"put", [0, 1]⟩, [1], 0, 6⟩, ⟨0, ⟨"get", [0]⟩, [1, 1], 11, 18⟩, ⟨0, ⟨"put", [0, 1]⟩, [1], 19, 21⟩,
     ⟨0, ⟨"get", [0]⟩, [0], 22, 24⟩, ⟨1, ⟨"get", [1]⟩, [0], 7, 32⟩] := by decide +kernel

/-- **FreeList is not linearizable to the bag.**  There is a complete run of the machine (every operation has returned,
    every thread is idle) whose history has no linearization to the bag. -/
theorem C21_freelist_not_bag_linearizable :
    ∃ sched s os, FreeList.model.run (FreeList.init (fun _ => 0)) sched = some (s, os) ∧
      s.pc 0 = .idle ∧ s.pc 1 = .idle ∧ ¬ Linearizable bagT (historyOf os) := by
  have h : (FreeList.model.run (FreeList.init (fun _ => 0)) handoverSched).map
      (fun r => (decide (r.1.pc 0 = .idle ∧ r.1.pc 1 = .idle), linCheck bagT (historyOf r.2),
        (historyOf r.2).all (fun o => decide (o.inv ≤ o.res)))) = some (true, false, true) := by decide +kernel
  obtain ⟨⟨s, os⟩, hr, hp⟩ := Option.map_eq_some_iff.mp h
  simp only [Prod.mk.injEq, decide_eq_true_eq, List.all_eq_true] at hp
  obtain ⟨hidle, hrej, hwf⟩ := hp
  exact ⟨handoverSched, s, os, hr, hidle.1, hidle.2, not_linearizable_of_linCheck_eq_false bagT _ hwf hrej⟩

/-! ### FreeList: the weak bag -/

/-- **FreeList is linearizable to the weak bag** (PARTIAL: `get → empty` is allowed at any time; results relabelled
    `[0] ↦ [2]`).  For EVERY run of the machine the history of the completed operations, extended by the pending
    operations that have passed their linearization point (for `put`: its first step), has a sequential order that
    respects real time and in which every `get → n` removes a node that some earlier `put n` added and no later
    `get` has removed. -/
theorem C21_freelist_bag_linearizable_partial (own0 : Nat → Tid) (sched : List (Tid × Act)) (s : FreeList.St)
    (os : List (Tid × Obs)) (h : FreeList.model.run (FreeList.init own0) sched = some (s, os)) :
    ∃ extra : List (OpRec GOp GRet),
      (∀ e ∈ extra, pendingOf (mapOs FreeList.relab os) e.tid = some (e.op, e.inv) ∧
          e.res = (mapOs FreeList.relab os).length ∧ FreeList.lpRetF (s.pc e.tid) = some e.ret) ∧
      extra.Pairwise (fun a b => a.tid ≠ b.tid) ∧
      Linearizable FreeList.bagWR (historyOf (mapOs FreeList.relab os) ++ extra) :=
  FreeList.freelist_bag_linearizable_partial own0 sched s os h

/-- The theorem on the race `freelistRaceSched` (a `get` races with a `put`) and on the hand-over run. -/
example : ∃ s os, FreeList.model.run (FreeList.init (fun _ => 0)) freelistRaceSched = some (s, os) ∧
    ∃ extra : List (OpRec GOp GRet),
      (∀ e ∈ extra, pendingOf (mapOs FreeList.relab os) e.tid = some (e.op, e.inv) ∧
          e.res = (mapOs FreeList.relab os).length ∧ FreeList.lpRetF (s.pc e.tid) = some e.ret) ∧
      extra.Pairwise (fun a b => a.tid ≠ b.tid) ∧
      Linearizable FreeList.bagWR (historyOf (mapOs FreeList.relab os) ++ extra) := by
  have h : (FreeList.model.run (FreeList.init (fun _ => 0)) freelistRaceSched).isSome = true := by decide +kernel
  obtain ⟨⟨s, os⟩, hr⟩ := Option.isSome_iff_exists.mp h
  exact ⟨s, os, hr, C21_freelist_bag_linearizable_partial (fun _ => 0) freelistRaceSched s os hr⟩

example : ∃ s os, FreeList.model.run (FreeList.init (fun _ => 0)) handoverSched = some (s, os) ∧
    ∃ extra : List (OpRec GOp GRet),
      (∀ e ∈ extra, pendingOf (mapOs FreeList.relab os) e.tid = some (e.op, e.inv) ∧
          e.res = (mapOs FreeList.relab os).length ∧ FreeList.lpRetF (s.pc e.tid) = some e.ret) ∧
      extra.Pairwise (fun a b => a.tid ≠ b.tid) ∧
      Linearizable FreeList.bagWR (historyOf (mapOs FreeList.relab os) ++ extra) := by
  have h : (FreeList.model.run (FreeList.init (fun _ => 0)) handoverSched).isSome = true := by decide +kernel
  obtain ⟨⟨s, os⟩, hr⟩ := Option.isSome_iff_exists.mp h
  exact ⟨s, os, hr, C21_freelist_bag_linearizable_partial (fun _ => 0) handoverSched s os hr⟩

/-- The relabelled history of the hand-over run is accepted by the checker against the weak bag (and rejected, as
    shown above, against the bag); a history that hands n1 out twice is rejected by the weak bag too. -/
example : (FreeList.model.run (FreeList.init (fun _ => 0)) handoverSched).map
      (fun r => linCheck FreeList.bagWR (historyOf (mapOs FreeList.relab r.2))) = some true ∧
    linCheck FreeList.bagWR
      [⟨0, ⟨"put", [0, 1]⟩, [1], 0, 6⟩, ⟨0, ⟨"get", [0]⟩, [1, 1], 11, 18⟩, ⟨1, ⟨"get", [1]⟩, [1, 1], 7, 32⟩] = false := by
  decide +kernel

end CdsVerif.Props.C21FreeListsLin

