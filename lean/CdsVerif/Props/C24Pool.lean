/-
  C24 — Object pools never hand one object to two holders; deallocated objects become available again.

  Theorems about the pool machine `Algo/Pool` (vyukov_queue_pool, lazy_vyukov_queue_pool,
  bounded_vyukov_queue_pool; pool_allocator only forwards), for every schedule, any number of threads, any
  capacity.  The free queue is an abstract bounded FIFO whose operations are atomic: that is what C07 proves of
  the real Vyukov queue (linearizability) and ties to the code by trace conformance.
-/
import CdsVerif.Algo.Pool.Inv
import CdsVerif.Algo.Pool.Step
namespace CdsVerif.Props.C24Pool
open CdsVerif.Machine CdsVerif.Spec CdsVerif.Algo.Pool

theorem pinv_reachable (kind : Kind) (cap : Nat) (s : St) (h : model.Reachable (init kind cap) s) : PInv s := by
  refine model.inv_reachable PInv (init kind cap) (pinv_init kind cap) ?_ s h
  intro s t a s' o hinv happ
  rcases Model.apply_cases happ with ⟨op, -, hi, -⟩ | ⟨e, -, hs, -⟩ | ⟨r, -, hr, -⟩
  · exact pinv_invoke s s' t op hinv hi
  · exact pinv_step s s' t e hinv hs
  · exact pinv_result s s' t r hinv hr

/-- **No object has two holders**, in any reachable state of any of the three pools. -/
theorem C24_no_two_holders (kind : Kind) (cap : Nat) (s : St) (h : model.Reachable (init kind cap) s)
    (t1 t2 : Tid) (o : Nat) (h1 : s.holds t1 o = true) (h2 : s.holds t2 o = true) : t1 = t2 :=
  (pinv_reachable kind cap s h).one t1 t2 o h1 h2

/-- **What `allocate` returns is allocated to nobody.**  At the step that fixes the result `[1, o]` of an
    `allocate`, no thread holds `o`, `o` has not been given back to the heap, and no `deallocate( o )` is still
    in progress. -/
theorem C24_alloc_returns_unheld (kind : Kind) (cap : Nat) (s s' : St) (h : model.Reachable (init kind cap) s)
    (t : Tid) (e : Ev) (o : Nat) (hs : step s t = some (s', e)) (hpc : s.pc t = .allocDeq)
    (hres : s'.pc t = .done [1, (o : Int)]) :
    (∀ t', s.holds t' o = false) ∧ s.freed o = false ∧ (∀ t', s.pc t' ≠ .freeEnq o) ∧ s'.holds t o = true := by
  have hinv := pinv_reachable kind cap s h
  rcases step_allocDeq hs hpc with ⟨o', rest, hq, rfl⟩ | ⟨-, -, rfl⟩ | ⟨-, -, rfl⟩
  · -- the oldest free object: the invariant says where the objects of the queue are not
    have ho : o' = o := by
      simp [upd] at hres
      omega
    subst ho
    have hfree := hinv.inq o' (hq ▸ List.mem_cons_self)
    exact ⟨hfree.2.2.2.1, hfree.2.2.1, hfree.2.2.2.2, by simp [upd2]⟩
  · -- the bounded pool fails: the result is `[0]`
    simp [upd] at hres
  · -- a fresh heap object: everything held, freed or being deallocated is below `fresh`
    have ho : s.fresh = o := by
      simp [upd] at hres
      omega
    subst ho
    refine ⟨fun t' => ?_, ?_, fun t' hh => ?_, by simp [upd2]⟩
    · exact Bool.eq_false_iff.mpr (fun hh => Nat.lt_irrefl _ (hinv.held t' _ hh).2.1)
    · exact Bool.eq_false_iff.mpr (fun hh => Nat.lt_irrefl _ (hinv.freedOld _ hh))
    · exact Nat.lt_irrefl _ (hinv.enq t' _ hh).2.1

/-- **Deallocated objects become available again.**  The step that completes `deallocate( p )` either puts `p`
    into the free queue, or gives it back to the heap; the latter happens only to an object outside the
    preallocated block (vyukov pool) or when the queue is full (lazy pool), never in the bounded pool. -/
theorem C24_dealloc_makes_available (kind : Kind) (cap : Nat) (s s' : St) (h : model.Reachable (init kind cap) s)
    (t : Tid) (e : Ev) (p : Nat) (hs : step s t = some (s', e)) (hpc : s.pc t = .freeEnq p)
    (hdone : s'.pc t = .done [2, (p : Int)]) :
    (p ∈ s'.q ∧ s'.freed p = false) ∨
    (s'.freed p = true ∧ ((s.kind = .vyukov ∧ cap < p) ∨ (s.kind = .lazy ∧ s.cap ≤ s.q.length))) := by
  have hcap : s.cap = cap := (reachable_cap_kind h).1
  have hp := (pinv_reachable kind cap s h).enq t p hpc
  rcases step_freeEnq hs hpc with ⟨hk, hheap, rfl⟩ | ⟨-, -, rfl⟩ | ⟨-, hfull, hlazy, rfl⟩ | ⟨-, -, -, rfl⟩
  · -- `Delete` of a heap object of the vyukov pool
    have hout := fromPool_eq_false.mp hheap
    have hpos := hp.1
    exact .inr ⟨upd_same s.freed p true, .inl ⟨hk, by omega⟩⟩
  · -- `push` succeeded
    exact .inl ⟨List.mem_append_right _ List.mem_cons_self, hp.2.2⟩
  · -- the queue is full and the lazy pool deletes the object
    exact .inr ⟨upd_same s.freed p true, .inr ⟨hlazy, by omega⟩⟩
  · -- `push` failed and is repeated: the operation is not complete
    rw [hpc] at hdone
    cases hdone

/-- Objects of the preallocated block are never given back to the heap (vyukov and bounded pools). -/
theorem C24_block_objects_kept (kind : Kind) (cap : Nat) (hk : kind ≠ .lazy) (s : St)
    (h : model.Reachable (init kind cap) s) (hkind : s.kind = kind) (o : Nat) (ho : o ≤ s.cap) : s.freed o = false :=
  Bool.eq_false_iff.mpr fun hf => Nat.not_lt.mpr ho ((pinv_reachable kind cap s h).poolKept (hkind ▸ hk) o hf)

/-! ### The machine refines the sequential pool that the histories of the real pools are judged against -/

def kindCode : Kind → Nat
  | .vyukov => 0 | .lazy => 1 | .bounded => 2

theorem kindCode_eq_zero {k : Kind} : kindCode k = 0 ↔ k = .vyukov := by cases k <;> decide
theorem kindCode_eq_one {k : Kind} : kindCode k = 1 ↔ k = .lazy := by cases k <;> decide
theorem kindCode_eq_two {k : Kind} : kindCode k = 2 ↔ k = .bounded := by cases k <;> decide

def absQ (s : St) : List Int := s.q.map Int.ofNat

/-- A step that completes the operation with result `r0`: only `r0` has to be considered. -/
private theorem completes {s' : St} {t : Tid} {r0 : GRet} {P : GRet → Prop} {Q : Prop} (hpc : s'.pc t = .done r0)
    (h : P r0) : (∀ r, s'.pc t = .done r → P r) ∧ ((∀ r, s'.pc t ≠ .done r) → Q) :=
  ⟨fun _ hr => PC.done.inj (hpc.symm.trans hr) ▸ h, fun hne => absurd hpc (hne r0)⟩

/-- Every step of the machine that completes an operation is a legal step of `Spec.pool` (the specification used
    by the verified linearizability checker on the histories of the real pools) on the free queue; a step that
    does not complete the operation (a `push` that found the queue full and is repeated) leaves the queue alone.
    The operation argument of `poolNext` is irrelevant (`op`). -/
theorem C24_machine_refines_spec (kind : Kind) (cap : Nat) (s s' : St) (h : model.Reachable (init kind cap) s)
    (t : Tid) (e : Ev) (op : GOp) (hs : step s t = some (s', e)) :
    (∀ r, s'.pc t = .done r → poolNext (kindCode s.kind) s.cap (absQ s) op r = some (absQ s')) ∧
    ((∀ r, s'.pc t ≠ .done r) → absQ s' = absQ s) := by
  have hinv := pinv_reachable kind cap s h
  rcases step_pc hs with hpc | ⟨p, hpc⟩
  · rcases step_allocDeq hs hpc with ⟨o, rest, hq, rfl⟩ | ⟨hq, hb, rfl⟩ | ⟨hq, hb, rfl⟩
    · -- the oldest free object
      exact completes (upd_same s.pc t _) (by simp [poolNext, absQ, hq])
    · -- empty queue, bounded pool: the allocation fails
      exact completes (upd_same s.pc t _) (by simp [poolNext, absQ, hq, kindCode_eq_two.mpr hb])
    · -- empty queue: a fresh heap object, which lies beyond the preallocated block
      refine completes (upd_same s.pc t _) ?_
      have hcf := hinv.capfresh
      simp only [poolNext, absQ, hq, List.map_nil]
      rw [if_pos ⟨fun hk => hb (kindCode_eq_two.mp hk), by omega⟩]
  · have hpos := (hinv.enq t p hpc).1
    rcases step_freeEnq hs hpc with ⟨hk, hheap, rfl⟩ | ⟨hk, hlen, rfl⟩ | ⟨hk, hlen, hlazy, rfl⟩ | ⟨-, -, -, rfl⟩
    · -- `Delete` of a heap object of the vyukov pool
      refine completes (upd_same s.pc t _) ?_
      have hout := fromPool_eq_false.mp hheap
      simp only [poolNext, absQ]
      rw [if_pos ⟨kindCode_eq_zero.mpr hk, by omega⟩]
    · -- `push` succeeds
      refine completes (upd_same s.pc t _) ?_
      have hin : ¬ (kindCode s.kind = 0 ∧ (s.cap : Int) < (p : Int)) :=
        fun ⟨hk0, hlt⟩ => hk ⟨kindCode_eq_zero.mp hk0, fromPool_eq_false.mpr (by omega)⟩
      simp only [poolNext, absQ, List.length_map]
      rw [if_neg hin, if_pos hlen]
      simp
    · -- the queue is full and the lazy pool deletes the object
      refine completes (upd_same s.pc t _) ?_
      have hk0 : ¬ (kindCode s.kind = 0 ∧ (s.cap : Int) < (p : Int)) :=
        fun hv => Kind.noConfusion ((kindCode_eq_zero.mp hv.1).symm.trans hlazy)
      simp only [poolNext, absQ, List.length_map]
      rw [if_neg hk0, if_neg hlen, if_pos (kindCode_eq_one.mpr hlazy)]
    · -- `push` failed and is repeated: the state is unchanged and the thread is still at `freeEnq p`
      refine ⟨fun r hr => ?_, fun _ => rfl⟩
      rw [hpc] at hr
      cases hr

/-! ### Non-vacuity: concrete runs (capacity 2) -/

private def rets (kind : Kind) (cap : Nat) (sched : List (Tid × Act)) : Option (List (Tid × GRet)) :=
  (model.run (init kind cap) sched).map fun r => r.2.filterMap fun (t, o) => match o with
    | .ret v => some (t, v)
    | _ => none

private def alloc : Act := .invoke ⟨"alloc", []⟩
private def free (p : Int) : Act := .invoke ⟨"free", [p]⟩

/-- vyukov pool past its capacity: the third allocation comes from the heap (object 3); freeing object 1 makes
    it available again (the next allocation returns it); freeing the heap object deletes it. -/
example : rets .vyukov 2
    [(0, alloc), (0, .step), (0, .ret), (1, alloc), (1, .step), (1, .ret), (2, alloc), (2, .step), (2, .ret),
     (0, free 1), (0, .step), (0, .ret), (2, free 3), (2, .step), (2, .ret), (2, alloc), (2, .step), (2, .ret)]
    = some [(0, [1, 1]), (1, [1, 2]), (2, [1, 3]), (0, [2, 1]), (2, [2, 3]), (2, [1, 1])] := by decide +kernel

/-- bounded pool: the third allocation fails (std::bad_alloc), and succeeds after a deallocation. -/
example : rets .bounded 2
    [(0, alloc), (0, .step), (0, .ret), (1, alloc), (1, .step), (1, .ret), (2, alloc), (2, .step), (2, .ret),
     (1, free 2), (1, .step), (1, .ret), (2, alloc), (2, .step), (2, .ret)]
    = some [(0, [1, 1]), (1, [1, 2]), (2, [0]), (1, [2, 2]), (2, [1, 2])] := by decide +kernel

/-- lazy pool: starts empty, objects come from the heap and are reused in FIFO order. -/
example : rets .lazy 2
    [(0, alloc), (0, .step), (0, .ret), (1, alloc), (1, .step), (1, .ret), (0, free 3), (0, .step), (0, .ret),
     (1, free 4), (1, .step), (1, .ret), (2, alloc), (2, .step), (2, .ret)]
    = some [(0, [1, 3]), (1, [1, 4]), (0, [2, 3]), (1, [2, 4]), (2, [1, 3])] := by decide +kernel

/-- the client discipline is enforced: a thread cannot free an object it does not hold -/
example : rets .vyukov 2 [(0, alloc), (0, .step), (0, .ret), (1, free 1)] = none := by decide +kernel

/-! ### An `allocate` racing with a `deallocate`, and `C24_machine_refines_spec` on that run -/

/-- bounded pool of capacity 1.  Thread 0 allocates the only object o1; then thread 1 calls `allocate` and thread 0 calls
    `deallocate( o1 )`: both operations are pending, their queue steps can be taken in either order. -/
private def racePrefix : List (Tid × Act) := [(0, alloc), (0, .step), (0, .ret), (1, alloc), (0, free 1)]

/-- `push` first: the racing `allocate` gets o1 back.  `pop` first: it fails (`std::bad_alloc`), o1 becomes available
    only afterwards. -/
example : rets .bounded 1 (racePrefix ++ [(0, .step), (1, .step), (0, .ret), (1, .ret)])
      = some [(0, [1, 1]), (0, [2, 1]), (1, [1, 1])] ∧
    rets .bounded 1 (racePrefix ++ [(1, .step), (0, .step), (0, .ret), (1, .ret)])
      = some [(0, [1, 1]), (0, [2, 1]), (1, [0])] := by decide +kernel

set_option synthInstance.maxSize 4000 in
/-- The state after thread 0's `push` (free queue [o1]) and the `pop` step of thread 1 from it: the step completes the
    `allocate` with result `[1, 1]` and empties the queue; `Spec.pool` (kind code 2 = bounded, capacity 1) takes the same
    step. -/
example : ((model.run (init .bounded 1) (racePrefix ++ [(0, .step)])).bind
      (fun r => (step r.1 1).map (fun p => (kindCode r.1.kind, r.1.cap, absQ r.1, p.1.pc 1, absQ p.1, p.2)))) =
      some (2, 1, [1], .done [1, 1], [], ⟨"pop", "queue", "o1", "1"⟩) ∧
    poolNext 2 1 [1] ⟨"alloc", []⟩ [1, 1] = some [] := by decide +kernel

/-- `C24_machine_refines_spec` applied to that state and that step: the run and the step exist, no hypothesis is left. -/
example : ∃ s os s' e, model.run (init .bounded 1) (racePrefix ++ [(0, .step)]) = some (s, os) ∧
    step s 1 = some (s', e) ∧
    (∀ r, s'.pc 1 = .done r → poolNext (kindCode s.kind) s.cap (absQ s) ⟨"alloc", []⟩ r = some (absQ s')) ∧
    ((∀ r, s'.pc 1 ≠ .done r) → absQ s' = absQ s) := by
  have h : ((model.run (init .bounded 1) (racePrefix ++ [(0, .step)])).bind (fun r => step r.1 1)).isSome = true := by
    decide +kernel
  obtain ⟨⟨s', e⟩, hb⟩ := Option.isSome_iff_exists.mp h
  obtain ⟨⟨s, os⟩, hr, hs⟩ := Option.bind_eq_some_iff.mp hb
  exact ⟨s, os, s', e, hr, hs, C24_machine_refines_spec .bounded 1 s s' ⟨_, os, hr⟩ 1 e ⟨"alloc", []⟩ hs⟩

/-- The other order: thread 1's `pop` on the empty queue fails (`[0]`) and leaves the queue alone, then thread 0's `push`
    puts o1 back — both are steps of `Spec.pool`. -/
example : ∃ s os s' e, model.run (init .bounded 1) (racePrefix ++ [(1, .step)]) = some (s, os) ∧
    step s 0 = some (s', e) ∧
    (∀ r, s'.pc 0 = .done r → poolNext (kindCode s.kind) s.cap (absQ s) ⟨"free", [1]⟩ r = some (absQ s')) ∧
    ((∀ r, s'.pc 0 ≠ .done r) → absQ s' = absQ s) := by
  have h : ((model.run (init .bounded 1) (racePrefix ++ [(1, .step)])).bind (fun r => step r.1 0)).isSome = true := by
    decide +kernel
  obtain ⟨⟨s', e⟩, hb⟩ := Option.isSome_iff_exists.mp h
  obtain ⟨⟨s, os⟩, hr, hs⟩ := Option.bind_eq_some_iff.mp hb
  exact ⟨s, os, s', e, hr, hs, C24_machine_refines_spec .bounded 1 s s' ⟨_, os, hr⟩ 0 e ⟨"free", [1]⟩ hs⟩

set_option synthInstance.maxSize 4000 in
example : ((model.run (init .bounded 1) (racePrefix ++ [(1, .step)])).bind
      (fun r => (step r.1 0).map (fun p => (absQ r.1, r.1.pc 1, p.1.pc 0, absQ p.1, p.2)))) =
      some ([], .done [0], .done [2, 1], [1], ⟨"push", "queue", "o1", "1"⟩) ∧
    poolNext 2 1 [] ⟨"free", [1]⟩ [2, 1] = some [1] := by decide +kernel

end CdsVerif.Props.C24Pool
