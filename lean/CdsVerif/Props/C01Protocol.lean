/-
  C01 / C03 at the level of the PROTOCOL: safety of Michael's hazard pointers as libcds implements them
  (Guard::protect / clear, HP::retire, basic_smr::classic_scan), proved over ALL interleavings of the
  atomic-step machine `Algo/HP/Protocol.lean`, for every number of threads `T`, every number of hazard slots
  per thread `H`, every retired-array capacity `R`, every schedule and every client program made of
  protect / clear / swap / take / scan / deref.

    C01  "an object passed to retire() is never given to its disposer while a guard that already protected
          it still protects it; a guard obtained by protect() always refers to an object that has not been
          disposed, until the guard is released"
    C03  "every retired object is disposed at most once; a pass that runs while no guard protects a retired
          object frees it"

  Property theorems and examples only; the inductive invariant and its preservation are in
  `Algo/HP/ProtocolInv.lean`.  What the machine does not cover (dynamic thread records / help_scan,
  inplace_scan, weak memory ordering, unvalidated `assign`, objects reachable from several cells) is listed at
  the top of `Algo/HP/Protocol.lean`.  The decision taken at the last step of a scan is the pure function
  `classicScan` (Props/C01.lean, Props/C03.lean; tied to src/hp.cpp by differential runs).
-/
import CdsVerif.Algo.HP.ProtocolInv

namespace CdsVerif.Props.C01Protocol
open CdsVerif.Machine CdsVerif.Spec CdsVerif.Algo.HP CdsVerif.Algo.HP.Protocol

/-! ### C01 -/

/-- THE safety theorem.  In every reachable state, the object that a completed `protect` returned, and that the
    guard has not released since (`guard t g = some p`), has not been handed to its disposer - whatever the other
    threads did in between: unlink it, retire it, run any number of scans. -/
theorem C01_guarded_never_disposed (cfg : Cfg) (s : St) (hr : (model cfg).Reachable init s) :
    ∀ t g p, s.guard t g = some p → s.obj p ≠ .disposed := by
  intro t g p hg
  rcases (pinv_reachable cfg s hr).guard_ok t g p hg with e | e <;> simp [e]

/-- Sharper form: a guarded object is allocated and is either still in use or retired-and-waiting. -/
theorem C01_guarded_live_or_retired (cfg : Cfg) (s : St) (hr : (model cfg).Reachable init s) :
    ∀ t g p, s.guard t g = some p → s.obj p = .live ∨ s.obj p = .retired :=
  (pinv_reachable cfg s hr).guard_ok

/-- A validated guard's hazard slot still publishes the pointer (what every scanner relies on). -/
theorem C01_guard_published (cfg : Cfg) (s : St) (hr : (model cfg).Reachable init s) :
    ∀ t g p, s.guard t g = some p → s.slots t g = some p ∧ t < cfg.T ∧ g < cfg.H := by
  intro t g p hg
  have h := pinv_reachable cfg s hr
  exact ⟨h.guard_slot t g p hg, h.guard_rng t g p hg⟩

/-- `deref [g]` never observes a disposed object: the step of a `deref` reads the object its guard holds, and
    that object is live or retired; the operation returns the corresponding code (1 or 2, never 3 = disposed).
    A `deref` that has been invoked is never stuck. -/
theorem C01_deref_safe (cfg : Cfg) (s : St) (hr : (model cfg).Reachable init s) (t : Tid) (g : Nat)
    (hpc : s.pc t = .derefRd g) :
    ∃ p s', s.guard t g = some p ∧ s.obj p ≠ .disposed ∧
      step cfg s t = some (s', evUse p (s.obj p)) ∧ s'.pc t = .done [objCode (s.obj p)] ∧
      objCode (s.obj p) ≠ 3 := by
  have h := pinv_reachable cfg s hr
  obtain ⟨p, hp⟩ := h.deref_ok t g hpc
  have hok := h.guard_ok t g p hp
  refine ⟨p, _, hp, by rcases hok with e | e <;> simp [e], by simp [step, hpc, hp]; rfl, by simp, ?_⟩
  rcases hok with e | e <;> simp [e, objCode]

/-- Trace form: no run of the machine contains a `use` event that observes a disposed object. -/
theorem C01_deref_safe_trace (cfg : Cfg) (sched : List (Tid × Act)) (s : St) (os : List (Tid × Obs))
    (hrun : (model cfg).run init sched = some (s, os)) :
    ∀ t e, (t, Obs.ev e) ∈ os → e.kind = "use" → e.a ≠ "disposed" := by
  intro t e hmem hk
  exact ev_of_inductive (model cfg) (PInv cfg) (fun _ e => e.kind = "use" → e.a ≠ "disposed") (pinv_apply cfg)
    (fun _ _ _ _ hI hs => use_not_disposed hI hs) sched init s os (pinv_init cfg) hrun t e hmem hk

/-- Step-level form.  At the decision step of a scan (stage 2 of `classic_scan`, applied to the plist the thread
    has collected one hazard slot at a time while all other threads kept running), every object the step hands to
    the disposer is one that NO validated guard of any thread holds. -/
theorem C01_dispose_only_unguarded (cfg : Cfg) (s : St) (hr : (model cfg).Reachable init s)
    (t : Tid) (acc : List Ptr) (r : GRet) (hpc : s.pc t = .scanDecide acc r) :
    ∀ p ∈ (classicScan acc (s.retired t)).2, ∀ u g, s.guard u g ≠ some p :=
  decide_unguarded (pinv_reachable cfg s hr) hpc

/-- ... and that step is the only way an object becomes disposed: whenever an action of any thread turns an object
    `disposed`, the action is the decision step of a scan of that thread, the object was in that thread's retired
    array and outside its plist, and no validated guard holds it, before or after. -/
theorem C01_disposal_is_an_unguarded_scan_decision (cfg : Cfg) (s s' : St) (hr : (model cfg).Reachable init s)
    (t : Tid) (ev : Ev) (hs : step cfg s t = some (s', ev)) (p : Ptr)
    (h0 : s.obj p ≠ .disposed) (h1 : s'.obj p = .disposed) :
    ∃ acc r, s.pc t = .scanDecide acc r ∧ p ∈ s.retired t ∧ p ∉ acc ∧
      (∀ u g, s.guard u g ≠ some p) ∧ (∀ u g, s'.guard u g ≠ some p) := by
  have h := pinv_reachable cfg s hr
  obtain ⟨acc, r, hpc, hp⟩ := disposed_step hs h0 h1
  obtain ⟨hret, hacc⟩ := h.places.freed_spec states hp
  have hg := decide_unguarded h hpc p hp
  refine ⟨acc, r, hpc, hret, hacc, hg, ?_⟩
  rw [(decide_step hpc hs).2.2.2.2.1]; exact hg

/-! ### C03 -/

/-- The life cycle of an object only moves forward, one stage at a time:
    fresh → live → retired → disposed.  In particular `retired → disposed` happens at most once per object and is
    never undone (an address is never reused in the model). -/
theorem C03_life_cycle_forward (cfg : Cfg) (s s' : St) (hr : (model cfg).Reachable init s)
    (t : Tid) (a : Act) (o : Obs) (hap : (model cfg).apply s t a = some (s', o)) (p : Ptr) :
    s'.obj p = s.obj p ∨ ObjSt.Succ (s.obj p) (s'.obj p) :=
  obj_apply (pinv_reachable cfg s hr) hap p

/-- Disposed at most once, part 1: once disposed, always disposed (along every continuation of every run). -/
theorem C03_disposed_at_most_once (cfg : Cfg) (s : St) (hr : (model cfg).Reachable init s)
    (sched : List (Tid × Act)) (s' : St) (os : List (Tid × Obs))
    (hrun : (model cfg).run s sched = some (s', os)) (p : Ptr) (hd : s.obj p = .disposed) :
    s'.obj p = .disposed :=
  (model cfg).stable_of_inductive (PInv cfg) (fun x => x.obj p = .disposed) (pinv_apply cfg)
    (fun _ _ _ _ _ hI hd hap => disposed_apply hI hd hap) sched s s' os (pinv_reachable cfg s hr) hd hrun

/-- Disposed at most once, part 2: a disposed object is nowhere any more - in no retired array (so no later scan
    can hand it to the disposer again), in no cell, in flight in no `swap`/`take`, held by no validated guard. -/
theorem C03_disposed_is_nowhere (cfg : Cfg) (s : St) (hr : (model cfg).Reachable init s) (p : Ptr)
    (hd : s.obj p = .disposed) :
    (∀ t, p ∉ s.retired t) ∧ (∀ c, s.cells c ≠ some p) ∧ (∀ t r, s.pc t ≠ .swapRet p r) ∧
    (∀ t g, s.guard t g ≠ some p) := by
  have h := pinv_reachable cfg s hr
  refine ⟨?_, ?_, ?_, ?_⟩
  · intro t hm; have := h.ret_st t p hm; simp [hd] at this
  · intro c hc; have := h.cell_live c p hc; simp [hd] at this
  · intro t r hc; have := h.flight_live t p r hc; simp [hd] at this
  · intro t g hg; rcases h.guard_ok t g p hg with e | e <;> simp [hd] at e

/-- Disposed at most once, literally: the sequence of all disposer calls made so far (ghost `log`, extended by
    the freed list of every scan decision) contains no object twice, and it is exactly the set of disposed
    objects. -/
theorem C03_dispose_log_nodup (cfg : Cfg) (s : St) (hr : (model cfg).Reachable init s) :
    s.log.Nodup ∧ ∀ p, p ∈ s.log ↔ s.obj p = .disposed :=
  ⟨(pinv_reachable cfg s hr).log_nodup, (pinv_reachable cfg s hr).log_st⟩

/-- The retired arrays: no object twice in one array, no object in two arrays, every entry is in state
    `retired` (not in a cell, not yet disposed). -/
theorem C03_retired_arrays (cfg : Cfg) (s : St) (hr : (model cfg).Reachable init s) :
    (∀ t, (s.retired t).Nodup) ∧ (∀ t1 t2 p, p ∈ s.retired t1 → p ∈ s.retired t2 → t1 = t2) ∧
    (∀ t p, p ∈ s.retired t → s.obj p = .retired ∧ ∀ c, s.cells c ≠ some p) := by
  have h := pinv_reachable cfg s hr
  refine ⟨h.ret_nodup, h.ret_disj, ?_⟩
  intro t p hm
  refine ⟨h.ret_st t p hm, ?_⟩
  intro c hc; have h1 := h.cell_live c p hc; have h2 := h.ret_st t p hm; rw [h1] at h2; cases h2

/-- Nothing is lost: every `live` object is in a cell or in flight in the `swap`/`take` that unlinked it (and will
    retire it at its next step); every `retired` object is in some thread's retired array, where that thread's
    scans find it. -/
theorem C03_no_object_lost (cfg : Cfg) (s : St) (hr : (model cfg).Reachable init s) (p : Ptr) :
    (s.obj p = .live → (∃ c, s.cells c = some p) ∨ (∃ t r, s.pc t = .swapRet p r)) ∧
    (s.obj p = .retired → ∃ t, p ∈ s.retired t) :=
  ⟨(pplace_reachable cfg s hr).live_ex p, (pplace_reachable cfg s hr).ret_ex p⟩

/-- A scan neither loses nor duplicates: after the decision step the scanner's retired array is what the
    decision kept, every retired entry is either kept or disposed, and the other threads' arrays are untouched. -/
theorem C03_scan_partition (cfg : Cfg) (s s' : St) (hr : (model cfg).Reachable init s)
    (t : Tid) (acc : List Ptr) (r : GRet) (ev : Ev) (hpc : s.pc t = .scanDecide acc r)
    (hs : step cfg s t = some (s', ev)) :
    (∀ p, p ∈ s.retired t → (p ∈ s'.retired t ∧ s'.obj p = .retired) ∨ (p ∉ s'.retired t ∧ s'.obj p = .disposed)) ∧
    (∀ u, u ≠ t → s'.retired u = s.retired u) := by
  obtain ⟨hobj, hret, hoth, -⟩ := decide_step hpc hs
  refine ⟨fun p hp => ?_, hoth⟩
  rw [hret, hobj p]
  rcases classicScan_split acc hp with ⟨hk, hnf⟩ | ⟨hnk, hf⟩
  · rw [if_neg hnf]; exact Or.inl ⟨hk, (pinv_reachable cfg s hr).ret_st t p hp⟩
  · rw [if_pos hf]; exact Or.inr ⟨hnk, rfl⟩

/-- A pass during which no slot ever held `p` frees it: if at the decision step of thread `t`'s scan `p` is in
    `t`'s retired array and not in the collected plist, then `p` is disposed after the step. -/
theorem C03_unprotected_freed_by_quiet_scan (cfg : Cfg) (s s' : St) (t : Tid) (acc : List Ptr) (r : GRet) (ev : Ev)
    (hpc : s.pc t = .scanDecide acc r) (hs : step cfg s t = some (s', ev)) (p : Ptr)
    (hret : p ∈ s.retired t) (hquiet : p ∉ acc) :
    s'.obj p = .disposed ∧ p ∉ s'.retired t ∧ p ∈ s'.log := by
  obtain ⟨hobj, hretd, -, hlog, -⟩ := decide_step hpc hs
  have hf := CdsVerif.Props.C03.C03_classic_unprotected_freed acc (s.retired t) p hret hquiet
  refine ⟨by rw [hobj p, if_pos hf], ?_, by rw [hlog]; exact List.mem_append_right _ hf⟩
  rw [hretd]
  rcases classicScan_split acc hret with ⟨-, hnf⟩ | ⟨hnk, -⟩
  · exact absurd hf hnf
  · exact hnk

/-- "No slot ever holds `p`" made precise and shown to be STABLE: once a retired object is referred to by no hazard
    slot and by no `protect` that is about to store it (and scanner `sc` has not collected it), this remains true
    along every run - a retired object is in no cell, so no `protect` can pick it up again. -/
theorem C03_quiet_stable (cfg : Cfg) (s : St) (hr : (model cfg).Reachable init s) (sc : Tid) (p : Ptr)
    (hq : Quiet s sc p) (sched : List (Tid × Act)) (s' : St) (os : List (Tid × Obs))
    (hrun : (model cfg).run s sched = some (s', os)) : Quiet s' sc p :=
  (model cfg).stable_of_inductive (PInv cfg) (fun x => Quiet x sc p) (pinv_apply cfg)
    (fun _ _ _ _ _ hI hq hap => quiet_apply hI hq hap) sched s s' os (pinv_reachable cfg s hr) hq hrun

/-- Hence: from a state in which retired `p` is quiet, whenever (after any further run) thread `sc` takes the
    decision step of a scan with `p` still in its retired array, that step disposes `p`. -/
theorem C03_quiet_retired_object_is_freed_by_next_scan (cfg : Cfg) (s : St) (hr : (model cfg).Reachable init s)
    (sc : Tid) (p : Ptr) (hq : Quiet s sc p) (sched : List (Tid × Act)) (s1 s2 : St) (os : List (Tid × Obs))
    (hrun : (model cfg).run s sched = some (s1, os))
    (acc : List Ptr) (r : GRet) (ev : Ev) (hpc : s1.pc sc = .scanDecide acc r)
    (hs : step cfg s1 sc = some (s2, ev)) (hret : p ∈ s1.retired sc) :
    s2.obj p = .disposed := by
  have hq1 := C03_quiet_stable cfg s hr sc p hq sched s1 os hrun
  have hna : p ∉ acc := by have := hq1.noacc; rw [hpc] at this; exact this
  exact (C03_unprotected_freed_by_quiet_scan cfg s1 s2 sc acc r ev hpc hs p hret hna).1

/-! ### Examples (H = 1 slot per thread, T = 2 threads; R = 8: no automatic scan)

  Checked by `decide` on the final state and on the values the operations return.  (The rendered traces quoted in
  the comments are the output of `#eval ((model cfg).run init sched).map (fun x => render x.2)`; the kernel
  cannot evaluate the string rendering, so they are not part of the checked statements.) -/

def cfg12 : Cfg := ⟨1, 2, 8⟩
def call (name : String) (args : List Int) : Act := .invoke ⟨name, args⟩
/-- the values returned, in order -/
def rets (os : List (Tid × Obs)) : List (Tid × GRet) :=
  os.filterMap fun (t, o) => match o with
    | .ret r => some (t, r)
    | _ => none

/-- Thread 0 publishes o1 in cell 0; thread 1 protects it; thread 0 replaces it by o2, retires o1 and scans:
    the scan reads hp0.0 = null, hp1.0 = o1 and keeps o1; thread 1 can still use o1 (`deref` returns 2 = retired).
      T 0 C swap [0] | T 0 A xchg cell0 null o1 | T 0 R [1, 0]
      T 1 C protect [0, 0] | T 1 A ld cell0 o1 | T 1 A st hp1.0 o1 | T 1 A ld cell0 o1 | T 1 R [1, 1]
      T 0 C swap [0] | T 0 A xchg cell0 o1 o2 | T 0 A retire T0 o1 | T 0 R [2, 1]
      T 0 C scan [] | T 0 A ld hp0.0 null | T 0 A ld hp1.0 o1 | T 0 A free T0 [] | T 0 R []
      T 1 C deref [0] | T 1 A use o1 retired | T 1 R [2] -/
def guardedSurvives : List (Tid × Act) := [
  (0, call "swap" [0]), (0, .step), (0, .ret),
  (1, call "protect" [0, 0]), (1, .step), (1, .step), (1, .step), (1, .ret),
  (0, call "swap" [0]), (0, .step), (0, .step), (0, .ret),
  (0, call "scan" []), (0, .step), (0, .step), (0, .step), (0, .ret),
  (1, call "deref" [0]), (1, .step), (1, .ret)]

/-- ... then thread 1 clears its guard and the next scan of thread 0 frees o1.
      T 1 C clear [0] | T 1 A st hp1.0 null | T 1 R []
      T 0 C scan [] | T 0 A ld hp0.0 null | T 0 A ld hp1.0 null | T 0 A free T0 [1] | T 0 R [] -/
def thenFreed : List (Tid × Act) := [
  (1, call "clear" [0]), (1, .step), (1, .ret),
  (0, call "scan" []), (0, .step), (0, .step), (0, .step), (0, .ret)]

example : ((model cfg12).run init guardedSurvives).map (fun x => rets x.2) =
    some [(0, [1, 0]), (1, [1, 1]), (0, [2, 1]), (0, []), (1, [2])] := by decide

/-- after the first scan: o1 still retired, still in thread 0's array, still guarded, nothing disposed -/
example : ((model cfg12).run init guardedSurvives).map
      (fun x => (x.1.obj 1, x.1.retired 0, x.1.guard 1 0, x.1.log)) =
    some (.retired, [1], some 1, []) := by decide

/-- at the decision step of that scan the plist is [o1] -/
example : ((model cfg12).run init (guardedSurvives.take 15)).map (fun x => x.1.pc 0) =
    some (.scanDecide [1] []) := by decide

/-- after `clear` and the second scan: o1 disposed, exactly once -/
example : ((model cfg12).run init (guardedSurvives ++ thenFreed)).map
      (fun x => (x.1.obj 1, x.1.retired 0, x.1.guard 1 0, x.1.log)) =
    some (.disposed, [], none, [1]) := by decide

/-- `protect`'s validation fails once: between thread 1's hazard store of o1 and its re-load, thread 0 replaces
    o1 by o2; thread 1 re-publishes o2, validates, and returns o2.  o1 was only speculatively published: the
    guard never covers it.
      T 0 C swap [0] | T 0 A xchg cell0 null o1 | T 0 R [1, 0]
      T 1 C protect [0, 0] | T 1 A ld cell0 o1 | T 1 A st hp1.0 o1
      T 0 C swap [0] | T 0 A xchg cell0 o1 o2 | T 0 A retire T0 o1 | T 0 R [2, 1]
      T 1 A ld cell0 o2 | T 1 A st hp1.0 o2 | T 1 A ld cell0 o2 | T 1 R [1, 2] -/
def validationFails : List (Tid × Act) := [
  (0, call "swap" [0]), (0, .step), (0, .ret),
  (1, call "protect" [0, 0]), (1, .step), (1, .step),
  (0, call "swap" [0]), (0, .step), (0, .step), (0, .ret),
  (1, .step), (1, .step), (1, .step), (1, .ret)]

/-- before the re-load: slot holds o1, no guard yet -/
example : ((model cfg12).run init (validationFails.take 10)).map
      (fun x => (x.1.pc 1, x.1.slots 1 0, x.1.guard 1 0, x.1.cells 0)) =
    some (.protChk 0 0 (some 1), some 1, none, some 2) := by decide

/-- the re-load sees o2 ≠ o1: back to the store, with the new candidate -/
example : ((model cfg12).run init (validationFails.take 11)).map (fun x => (x.1.pc 1, x.1.guard 1 0)) =
    some (.protSt 0 0 (some 2), none) := by decide

example : ((model cfg12).run init validationFails).map (fun x => rets x.2) =
    some [(0, [1, 0]), (0, [2, 1]), (1, [1, 2])] := by decide

example : ((model cfg12).run init validationFails).map (fun x => (x.1.guard 1 0, x.1.slots 1 0, x.1.obj 1)) =
    some (some 2, some 2, .retired) := by decide

/-- Why the validating re-load is needed: thread 1 loads o1 from the cell, then thread 0 unlinks, retires and (the
    slot being still empty) frees o1; only then does thread 1 publish o1.  Its hazard slot now holds a DISPOSED
    object - but no guard does: the re-load sees o2, and `protect` starts over with o2.
      T 0 C swap [0] | T 0 A xchg cell0 null o1 | T 0 R [1, 0]
      T 1 C protect [0, 0] | T 1 A ld cell0 o1
      T 0 C swap [0] | T 0 A xchg cell0 o1 o2 | T 0 A retire T0 o1 | T 0 R [2, 1]
      T 0 C scan [] | T 0 A ld hp0.0 null | T 0 A ld hp1.0 null | T 0 A free T0 [1] | T 0 R []
      T 1 A st hp1.0 o1 | T 1 A ld cell0 o2 | T 1 A st hp1.0 o2 | T 1 A ld cell0 o2 | T 1 R [1, 2] -/
def lateStore : List (Tid × Act) := [
  (0, call "swap" [0]), (0, .step), (0, .ret),
  (1, call "protect" [0, 0]), (1, .step),
  (0, call "swap" [0]), (0, .step), (0, .step), (0, .ret),
  (0, call "scan" []), (0, .step), (0, .step), (0, .step), (0, .ret),
  (1, .step), (1, .step), (1, .step), (1, .step), (1, .ret)]

/-- right after the late store: slot = o1, o1 disposed, guard empty -/
example : ((model cfg12).run init (lateStore.take 15)).map
      (fun x => (x.1.slots 1 0, x.1.obj 1, x.1.guard 1 0, x.1.pc 1)) =
    some (some 1, .disposed, none, .protChk 0 0 (some 1)) := by decide

example : ((model cfg12).run init lateStore).map (fun x => (rets x.2, x.1.guard 1 0, x.1.obj 2)) =
    some ([(0, [1, 0]), (0, [2, 1]), (0, []), (1, [1, 2])], some 2, .live) := by decide

/-- A scan started by `retire` itself when the retired array has become full (R = 1), object unguarded:
      T 0 C take [0] | T 0 A xchg cell0 o1 null | T 0 A retire T0 o1
      T 0 A ld hp0.0 null | T 0 A ld hp1.0 null | T 0 A free T0 [1] | T 0 R [1] -/
example : ((model ⟨1, 2, 1⟩).run init [
      (0, call "swap" [0]), (0, .step), (0, .ret),
      (0, call "take" [0]), (0, .step), (0, .step), (0, .step), (0, .step), (0, .step), (0, .ret)]).map
      (fun x => (rets x.2, x.1.obj 1, x.1.log)) = some ([(0, [1, 0]), (0, [1])], .disposed, [1]) := by decide

end CdsVerif.Props.C01Protocol
