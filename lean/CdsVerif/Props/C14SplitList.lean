/-
  C14 — the split-ordered list (cds::intrusive::SplitListSet<HP> over MichaelList<HP>, DYNAMIC bucket table — the
  configuration underneath the harness variant `sset_michael_hp`: insert, erase with functor, find with functor,
  contains) is a linearizable set / map, for every hash function:
    * the single shared list stays sorted by split order, dummy nodes are never erased, every published bucket
      pointer points to the linked unmarked dummy of its bucket, and a bucket's dummy precedes every key of the
      bucket — so a search from the dummy finds exactly what a search from the head would;
    * every concurrent history of the atomic-step model `Algo/SplitList/Model.lean` is linearizable to `Spec.map`
      (full proof, hindsight linearization points of the failing operations included);
    * growing the table changes no operation's result, and a lazily initialised child bucket sees every key of its
      range.
  Property theorems only; the model, the invariant and the proofs live in
  `Algo/SplitList/{Model,Lemmas,Inv,Mono,Thread,Search,StepInit,StepCount,StepSearch,StepCas,Reach,Lin,Cfg64}.lean`.

  Hypotheses.  The theorems hold for every configuration `c : Cfg` (hash functor, `regular_hash`, `dummy_hash`,
  capacity, load factor) that satisfies `SOHyp c`, i.e. the split-order facts of `Props/C27.lean` in the form used:
  `C27_regular_odd_*` / `C27_dummy_even_*` (parity), `C27_dummy_before_regular_*` (the dummy of `hash mod 2^k` sorts
  before the regular key, every `k ≤ 63`), `C27_parent_dummy_before_*` with `C27_parent_bucket` (parent's dummy before
  the bucket's dummy, bucket numbers `< 2^63`), `dummy_hash( 0 ) = 0`, and `capacity ≤ 2^63`.  The contiguity
  (`C27_contiguous_*`) and injectivity facts are NOT needed for correctness.  `C14_cfg64_hyp` discharges `SOHyp` for
  the 64-bit bit-reversal keys of the real code (`cfg64`, any hash functor into `size_t`).
  Assumptions of the model (not proved here): garbage-collected heap (no node reuse while a thread may still hold a
  pointer: hazard pointers, C01/C02); the first aux-node segment is never exhausted (see `Model.lean`).
  Tie to the real code: traces of the harness client `hashset`, variant `isset_michael_hp_named`, are replayed step by
  step by `cdsdriver replay splitlist`.
-/
import CdsVerif.Algo.SplitList.Lin
import CdsVerif.Algo.SplitList.Cfg64
namespace CdsVerif.Props.C14SplitList
open CdsVerif.Machine CdsVerif.Lin CdsVerif.Spec CdsVerif.Algo

/-! ### (2) Linearizability -/

/-- Linearizability, general form (Herlihy–Wing with completion of pending operations), for EVERY configuration
    satisfying the split-order hypotheses, every schedule, any number of threads, any client program of
    `insert k v` / `erase k` / `find k` / `contains k`, any keys.  The history of the completed operations of the run —
    extended by response records for pending operations that have passed their linearization point definitively (at
    most one per thread; result fixed at the linearization point, response time "end of run"), all other pending
    operations being dropped — is linearizable to the sequential map. -/
theorem C14_splitlist_linearizable (c : SplitList.Cfg) (hc : SplitList.SOHyp c) (sched : List (Tid × Act))
    (s : SplitList.St) (os : List (Tid × Obs))
    (h : (SplitList.model c).run (SplitList.init c) sched = some (s, os)) :
    ∃ extra : List (OpRec GOp GRet),
      (∀ e ∈ extra, SplitList.pendingOf os e.tid = some (e.op, e.inv) ∧ e.res = os.length ∧
          SplitList.postRet s.val (s.pc e.tid) = some e.ret) ∧
      extra.Pairwise (fun a b => a.tid ≠ b.tid) ∧
      Linearizable map (SplitList.historyOf os ++ extra) :=
  SplitList.splitlist_linearizable hc sched s os h

/-- Runs in which every invoked operation has returned: the history is linearizable as it is. -/
theorem C14_splitlist_linearizable_complete_runs (c : SplitList.Cfg) (hc : SplitList.SOHyp c)
    (sched : List (Tid × Act)) (s : SplitList.St) (os : List (Tid × Obs))
    (h : (SplitList.model c).run (SplitList.init c) sched = some (s, os)) (hq : ∀ t, s.pc t = .idle) :
    Linearizable map (SplitList.historyOf os) :=
  SplitList.splitlist_linearizable_complete_runs hc sched s os h hq

/-- Runs at whose end no thread is between its definitive linearization point and its return. -/
theorem C14_splitlist_linearizable_no_effect_pending (c : SplitList.Cfg) (hc : SplitList.SOHyp c)
    (sched : List (Tid × Act)) (s : SplitList.St) (os : List (Tid × Obs))
    (h : (SplitList.model c).run (SplitList.init c) sched = some (s, os))
    (hq : ∀ t, SplitList.postRet s.val (s.pc t) = none) :
    Linearizable map (SplitList.historyOf os) :=
  SplitList.splitlist_linearizable_no_effect_pending hc sched s os h hq

theorem C14_splitlist_history_sound (os : List (Tid × Obs)) (r : OpRec GOp GRet) (h : r ∈ SplitList.historyOf os) :
    os[r.inv]? = some (r.tid, .call r.op) ∧ os[r.res]? = some (r.tid, .ret r.ret) ∧ r.inv < r.res :=
  SplitList.historyOf_sound os r h

/-- Every completed operation takes effect at an instant strictly inside its interval (in particular: a key reported
    absent was absent, a key reported present was present, at some instant during the operation). -/
theorem C14_splitlist_effect_instant (c : SplitList.Cfg) (hc : SplitList.SOHyp c) (sched : List (Tid × Act))
    (s : SplitList.St) (os : List (Tid × Obs))
    (h : (SplitList.model c).run (SplitList.init c) sched = some (s, os)) (r : OpRec GOp GRet)
    (hr : r ∈ SplitList.historyOf os) :
    ∃ j s1, r.inv < j ∧ j < r.res ∧
      (SplitList.model c).run (SplitList.init c) (sched.take j) = some (s1, os.take j) ∧
      ∃ m', map.next (SplitList.absMap s1) r.op r.ret = some m' :=
  SplitList.splitlist_effect_instant hc sched s os h r hr

theorem C14_splitlist_absent_hindsight (c : SplitList.Cfg) (hc : SplitList.SOHyp c) (sched : List (Tid × Act))
    (s : SplitList.St) (os : List (Tid × Obs))
    (h : (SplitList.model c).run (SplitList.init c) sched = some (s, os)) (r : OpRec GOp GRet)
    (hr : r ∈ SplitList.historyOf os) (k : Int)
    (hop : r.op = ⟨"erase", [k]⟩ ∨ r.op = ⟨"find", [k]⟩ ∨ r.op = ⟨"contains", [k]⟩) (hret : r.ret = [0]) :
    ∃ j s1, r.inv < j ∧ j < r.res ∧
      (SplitList.model c).run (SplitList.init c) (sched.take j) = some (s1, os.take j) ∧
      ∀ v, (k, v) ∉ SplitList.absMap s1 :=
  SplitList.splitlist_absent_hindsight hc sched s os h r hr k hop hret

theorem C14_splitlist_present_hindsight (c : SplitList.Cfg) (hc : SplitList.SOHyp c) (sched : List (Tid × Act))
    (s : SplitList.St) (os : List (Tid × Obs))
    (h : (SplitList.model c).run (SplitList.init c) sched = some (s, os)) (r : OpRec GOp GRet)
    (hr : r ∈ SplitList.historyOf os) (k : Int)
    (hop : (∃ v, r.op = ⟨"insert", [k, v]⟩ ∧ r.ret = [0]) ∨ (∃ v, r.op = ⟨"find", [k]⟩ ∧ r.ret = [1, v]) ∨
      (r.op = ⟨"contains", [k]⟩ ∧ r.ret = [1]) ∨ (∃ v, r.op = ⟨"erase", [k]⟩ ∧ r.ret = [1, v])) :
    ∃ j s1 v, r.inv < j ∧ j < r.res ∧
      (SplitList.model c).run (SplitList.init c) (sched.take j) = some (s1, os.take j) ∧
      (k, v) ∈ SplitList.absMap s1 ∧ ∀ w, r.ret = [1, w] → w = v :=
  SplitList.splitlist_present_hindsight hc sched s os h r hr k hop

/-- Refinement: the step at which a thread fixes its result (tentatively for the hindsight points) is exactly the
    `Spec.map` transition of its operation on the abstract map; every other step — all of `get_bucket`, `init_bucket`
    (linking a dummy node, publishing a bucket pointer), `inc_item_count` (growing the table) and every physical
    unlink — leaves the abstract map unchanged. -/
theorem C14_splitlist_lp_refines (c : SplitList.Cfg) (hc : SplitList.SOHyp c) (s s' : SplitList.St) (t : Tid) (ev : Ev)
    (hreach : (SplitList.model c).Reachable (SplitList.init c) s) (hs : SplitList.step c s t = some (s', ev)) :
    (SplitList.lpRet c s.so s.uk s.val (s.pc t) = none →
      ∀ r, SplitList.lpRet c s'.so s'.uk s'.val (s'.pc t) = some r →
      ∃ op m', SplitList.opOf s.uk s.val (s.pc t) = some op ∧ map.next (SplitList.absMap s) op r = some m' ∧
        ∀ k v, mfind m' k = some v ↔ (k, v) ∈ SplitList.absMap s') ∧
    ((SplitList.lpRet c s.so s.uk s.val (s.pc t) ≠ none ∨ SplitList.lpRet c s'.so s'.uk s'.val (s'.pc t) = none) →
      ∀ k v, (k, v) ∈ SplitList.absMap s' ↔ (k, v) ∈ SplitList.absMap s) :=
  SplitList.step_refines hc hreach hs

/-! ### (1) Structure: split order, dummies, bucket table -/

/-- The list stays sorted by split order, dummies are never erased.  In every reachable state: following the
    pointers from the dummy of bucket 0 visits the finite list `absNodes s` and ends in null; ALL linked nodes (dummy
    nodes and items, marked or not) are strictly sorted by ( split-order hash, user key ), hence pairwise different;
    no dummy node (even id) is ever marked; linked dummy nodes carry an even key, linked items carry
    `regular_hash( hash( key ))`. -/
theorem C14_splitlist_sorted (c : SplitList.Cfg) (hc : SplitList.SOHyp c) (s : SplitList.St)
    (hreach : (SplitList.model c).Reachable (SplitList.init c) s) :
    Michael.Chain s.next (some 0) (SplitList.absNodes s) ∧
      (SplitList.absNodes s).Pairwise (SplitList.KLt s.so s.uk) ∧ (SplitList.absNodes s).Nodup ∧
      (∀ a, a % 2 = 0 → s.mark a = false) ∧
      (∀ a, a ∈ SplitList.absNodes s →
        (a % 2 = 0 → s.so a % 2 = 0) ∧ (a % 2 = 1 → s.so a = c.reg (c.hash (s.uk a)))) :=
  SplitList.reachable_structure hc s hreach

/-- Every published bucket pointer points to the linked, unmarked dummy node of that bucket (the node carries
    `dummy_hash( bucket )`); bucket 0 is always published; the bucket count stays within the word. -/
theorem C14_splitlist_bucket_table (c : SplitList.Cfg) (hc : SplitList.SOHyp c) (s : SplitList.St)
    (hreach : (SplitList.model c).Reachable (SplitList.init c) s) :
    s.table 0 = some 0 ∧ s.cnt2 ≤ c.maxLog ∧
    ∀ b d, s.table b = some d →
      d ∈ SplitList.absNodes s ∧ d % 2 = 0 ∧ s.mark d = false ∧ s.so d = c.dum b ∧ s.uk d = 0 :=
  SplitList.reachable_table hc s hreach

/-- A key's bucket dummy precedes the key's position — for every table size `2^j`, `j ≤ maxLog`: if bucket
    `b = hash( key a ) mod 2^j` is published, its dummy `d` sorts before the linked item `a` and `a` lies on the part
    of the list behind `d`.  Hence a search from the dummy finds what a search from the head would, and (growth, 3b)
    a child bucket initialised lazily after the table has grown sees every key of its range that was inserted through
    its parent. -/
theorem C14_splitlist_bucket_sees (c : SplitList.Cfg) (hc : SplitList.SOHyp c) (s : SplitList.St)
    (hreach : (SplitList.model c).Reachable (SplitList.init c) s) (b d a j : Nat) (hb : s.table b = some d)
    (ha : a ∈ SplitList.absNodes s) (hodd : a % 2 = 1) (hj : j ≤ c.maxLog) (hab : c.hash (s.uk a) % 2 ^ j = b) :
    SplitList.KLt s.so s.uk d a ∧ ∃ l1 l2, SplitList.absNodes s = l1 ++ d :: l2 ∧ a ∈ l2 :=
  SplitList.reachable_bucket_sees hc s hreach b d a j hb ha hodd hj hab

/-- The dummy a MichaelList operation starts from (`refHead`) is linked, unmarked and sorts before the key the
    operation searches for. -/
theorem C14_splitlist_start_dummy (c : SplitList.Cfg) (hc : SplitList.SOHyp c) (s : SplitList.St)
    (hreach : (SplitList.model c).Reachable (SplitList.init c) s) (t : Tid) (d : Nat)
    (hd : SplitList.pcStart (s.pc t) = some d) :
    d ∈ SplitList.absNodes s ∧ d % 2 = 0 ∧ s.mark d = false ∧
      SplitList.klt (s.so d) (s.uk d) (SplitList.skeyS c s.so (s.pc t)) (SplitList.skeyU s.uk (s.pc t)) :=
  SplitList.reachable_start hc s hreach t d hd

/-- No key is ever present twice. -/
theorem C14_splitlist_no_duplicate_keys (c : SplitList.Cfg) (hc : SplitList.SOHyp c) (s : SplitList.St)
    (hreach : (SplitList.model c).Reachable (SplitList.init c) s) : ((SplitList.absMap s).map (·.1)).Nodup :=
  SplitList.reachable_no_duplicate_keys hc s hreach

/-- A marked node is frozen; keys and payloads of linked nodes never change; a published bucket pointer never
    changes; only marked nodes ever leave the list. -/
theorem C14_splitlist_frozen_and_immutable (c : SplitList.Cfg) (hc : SplitList.SOHyp c) (s s' : SplitList.St) (t : Tid)
    (a : Act) (o : Obs) (hreach : (SplitList.model c).Reachable (SplitList.init c) s)
    (hap : (SplitList.model c).apply s t a = some (s', o)) :
    (∀ x, s.mark x = true → s'.mark x = true ∧ s'.next x = s.next x) ∧
    (∀ x, x ∈ SplitList.absNodes s → s'.so x = s.so x ∧ s'.uk x = s.uk x ∧ s'.val x = s.val x) ∧
    (∀ b d, s.table b = some d → s'.table b = some d) ∧
    (∀ x, (x ∈ SplitList.absNodes s ∨ s.mark x = true) → (x ∈ SplitList.absNodes s' ∨ s'.mark x = true)) :=
  SplitList.frozen_and_immutable hc hreach hap

/-- A node is marked by exactly one erase (the one that returns success for it), and only items are marked. -/
theorem C14_splitlist_erase_once (c : SplitList.Cfg) (hc : SplitList.SOHyp c) (s s' : SplitList.St) (t : Tid) (ev : Ev)
    (hreach : (SplitList.model c).Reachable (SplitList.init c) s) (hs : SplitList.step c s t = some (s', ev)) :
    (∀ a, s.mark a = false → s'.mark a = true →
      ∃ k d p x, s.pc t = .eMark k d p a x ∧ s'.pc t = .eUnl k p a x ∧ s.uk a = k ∧ a ∈ SplitList.absNodes s ∧
        a % 2 = 1 ∧ SplitList.postRet s'.val (s'.pc t) = some [1, s.val a]) ∧
    (∀ t1 t2 k1 p1 a x1 k2 p2 x2, s'.pc t1 = .eUnl k1 p1 a x1 → s'.pc t2 = .eUnl k2 p2 a x2 → t1 = t2) :=
  SplitList.erase_once hc hreach hs

/-! ### (3) Growth -/

/-- Doubling the bucket count changes no operation's result.  The only step that changes `m_nBucketCountLog2`
    increments it, touches neither the list nor the marks nor the bucket table, leaves `absNodes` and `absMap`
    literally unchanged, is performed by a thread whose result `[1]` is already definitive and stays so, and changes
    no other thread's tentative or definitive result.  (No rehash: nothing but the count word changes.) -/
theorem C14_splitlist_growth (c : SplitList.Cfg) (hc : SplitList.SOHyp c) (s s' : SplitList.St) (t : Tid) (ev : Ev)
    (hreach : (SplitList.model c).Reachable (SplitList.init c) s) (hs : SplitList.step c s t = some (s', ev))
    (hg : s'.cnt2 ≠ s.cnt2) :
    s'.cnt2 = s.cnt2 + 1 ∧ s'.next = s.next ∧ s'.mark = s.mark ∧ s'.table = s.table ∧
      SplitList.absNodes s' = SplitList.absNodes s ∧ SplitList.absMap s' = SplitList.absMap s ∧
      SplitList.postRet s.val (s.pc t) = some [1] ∧ SplitList.postRet s'.val (s'.pc t) = some [1] ∧
      (∀ t2, t2 ≠ t → SplitList.lpRet c s'.so s'.uk s'.val (s'.pc t2) = SplitList.lpRet c s.so s.uk s.val (s.pc t2)) :=
  SplitList.growth_step hc hreach hs hg

/-- Publishing a bucket pointer is not a linearization point of anything and leaves the list and the abstract map
    alone (linking the dummy node: `C14_splitlist_lp_refines`, second part). -/
theorem C14_splitlist_publish (c : SplitList.Cfg) (hc : SplitList.SOHyp c) (s s' : SplitList.St) (t : Tid) (ev : Ev)
    (hreach : (SplitList.model c).Reachable (SplitList.init c) s) (hs : SplitList.step c s t = some (s', ev))
    (b : Nat) (hb : s'.table b ≠ s.table b) :
    s'.next = s.next ∧ s'.mark = s.mark ∧ s'.cnt2 = s.cnt2 ∧ SplitList.absNodes s' = SplitList.absNodes s ∧
      SplitList.lpRet c s.so s.uk s.val (s.pc t) = none ∧ SplitList.lpRet c s'.so s'.uk s'.val (s'.pc t) = none ∧
      (∀ k v, (k, v) ∈ SplitList.absMap s' ↔ (k, v) ∈ SplitList.absMap s) :=
  SplitList.publish_step hc hreach hs b hb

/-! ### The hypotheses hold for the real key functions -/

/-- `SOHyp` for 64-bit `size_t` keys: `regular_hash( h ) = reverse64( h ) | 1`, `dummy_hash( b ) = reverse64( b ) & ~1`,
    ANY hash functor (`mode` selects the three used by the harness), any capacity up to `2^63`, any load factor. -/
theorem C14_cfg64_hyp (mode : Nat) (cap lf : Nat) (hcap : cap ≤ 2 ^ 63) :
    SplitList.SOHyp (SplitList.cfg64 mode cap lf) :=
  SplitList.cfg64_hyp mode cap lf hcap

/-! ### Non-vacuity (the 64-bit configuration of the harness: capacity 64, load factor 1, hash = key) -/

def cfg : SplitList.Cfg := SplitList.cfg64 0 64 1
def steps (t : Tid) (n : Nat) : List (Tid × Act) := List.replicate n (t, .step)
def ins (k v : Int) : GOp := ⟨"insert", [k, v]⟩
def era (k : Int) : GOp := ⟨"erase", [k]⟩
def fnd (k : Int) : GOp := ⟨"find", [k]⟩
def con (k : Int) : GOp := ⟨"contains", [k]⟩

/-- Two buckets; keys 2, 4, 6 are inserted through bucket 0 (`hash mod 2 = 0`); the third insert exceeds the load
    factor and doubles the table (`cas+ cnt2 1 2`).  Then `find 2` computes bucket `2 mod 4 = 2`, which is not
    initialised: `init_bucket( 2 )` allocates the dummy `d1`, links it from the parent's dummy `d0` — it lands
    between `n2` (key 4) and `n1` (key 2) — publishes it (`st b2 d1`), and the search from `d1` finds key 2, which was
    inserted BEFORE the child bucket existed. -/
def growSched : List (Tid × Act) :=
  [(0, .invoke (ins 2 10))] ++ steps 0 8 ++ [(0, .ret), (0, .invoke (ins 4 20))] ++ steps 0 11 ++ [(0, .ret),
   (0, .invoke (ins 6 30))] ++ steps 0 17 ++ [(0, .ret), (1, .invoke (fnd 2))] ++ steps 1 22 ++ [(1, .ret)]

example : ((SplitList.model cfg).run (SplitList.init cfg) growSched).map (fun r => r.2.drop 36) =
    some [(0, .ev ⟨"ld", "maxc", "2", ""⟩),           -- T 0 A ld maxc 2            (inc_item_count of insert 6)
          (0, .ev ⟨"add", "items", "2", "1"⟩),        -- T 0 A add items 2 1        (3 > 2: grow)
          (0, .ev ⟨"ld", "cnt2", "1", ""⟩),
          (0, .ev ⟨"cas+", "maxc", "2", "4"⟩),
          (0, .ev ⟨"cas+", "cnt2", "1", "2"⟩),        -- T 0 A cas+ cnt2 1 2        (2 -> 4 buckets; nothing else changes)
          (0, .ret [1]),
          (1, .call (fnd 2)),
          (1, .ev ⟨"ld", "cnt2", "2", ""⟩),           -- bucket 2 mod 4 = 2
          (1, .ev ⟨"ld", "b2", "null", ""⟩),          -- T 1 A ld b2 null           (not initialised)
          (1, .ev ⟨"ld", "b0", "d0", ""⟩),            -- parent bucket 0
          (1, .ev ⟨"ld", "b2", "null", ""⟩),
          (1, .ev ⟨"ld", "acnt", "1", ""⟩),
          (1, .ev ⟨"add", "acnt", "1", "1"⟩),         -- alloc_aux_node: d1
          (1, .ev ⟨"ld", "d0", "n2", ""⟩),            -- insert_aux_node: MichaelList insert from d0
          (1, .ev ⟨"ld", "d0", "n2", ""⟩),
          (1, .ev ⟨"ld", "n2", "n1", ""⟩),
          (1, .ev ⟨"ld", "n2", "n1", ""⟩),
          (1, .ev ⟨"ld", "d0", "n2", ""⟩),
          (1, .ev ⟨"ld", "n1", "n3", ""⟩),
          (1, .ev ⟨"ld", "n1", "n3", ""⟩),
          (1, .ev ⟨"ld", "n2", "n1", ""⟩),
          (1, .ev ⟨"st", "d1", "n1", ""⟩),
          (1, .ev ⟨"cas+", "n2", "n1", "d1"⟩),        -- T 1 A cas+ n2 n1 d1        (dummy linked between key 4 and key 2)
          (1, .ev ⟨"st", "b2", "d1", ""⟩),            -- T 1 A st b2 d1             (bucket pointer published)
          (1, .ev ⟨"ld", "d1", "n1", ""⟩),            -- search from the child bucket's dummy
          (1, .ev ⟨"ld", "d1", "n1", ""⟩),
          (1, .ev ⟨"ld", "n1", "n3", ""⟩),
          (1, .ev ⟨"ld", "n1", "n3", ""⟩),
          (1, .ev ⟨"ld", "d1", "n1", ""⟩),
          (1, .ret [1, 10])] := by decide +kernel

set_option synthInstance.maxSize 2000 in
/-- The state at the end: list order d0, n2 (key 4), d1, n1 (key 2), n3 (key 6) — node ids 0, 3, 2, 1, 5;
    4 buckets, buckets 0 and 2 published; the history is linearizable. -/
example : ((SplitList.model cfg).run (SplitList.init cfg) growSched).map
    (fun r => (SplitList.absNodes r.1, SplitList.absMap r.1, r.1.cnt2, r.1.table 0, r.1.table 1, r.1.table 2,
      linCheck map (SplitList.historyOf r.2))) =
    some ([0, 3, 2, 1, 5], [(4, 20), (2, 10), (6, 30)], 2, some 0, none, some 2, true) := by decide +kernel

/-- A race on the initialisation of one bucket.  After the growth above, `find 2` (thread 1) and `contains 6`
    (thread 2) both find bucket 2 uninitialised and both allocate a dummy; thread 1 links `d1`; thread 2's
    `insert_aux_node` meets a node with the same key and fails, thread 2 waits (`ld b2 null`) until thread 1 has
    published `b2`, then searches from `d1`. -/
def raceSched : List (Tid × Act) :=
  [(0, .invoke (ins 2 10))] ++ steps 0 8 ++ [(0, .ret), (0, .invoke (ins 4 20))] ++ steps 0 11 ++ [(0, .ret),
   (0, .invoke (ins 6 30))] ++ steps 0 17 ++ [(0, .ret), (1, .invoke (fnd 2)), (2, .invoke (con 6))] ++
   steps 1 4 ++ steps 2 4 ++ steps 1 12 ++ steps 2 11 ++ steps 1 1 ++ steps 2 9 ++ [(2, .ret)] ++ steps 1 5 ++ [(1, .ret)]

set_option synthInstance.maxSize 2000 in
example : ((SplitList.model cfg).run (SplitList.init cfg) raceSched).map
    (fun r => ((r.2.drop 64).filter (fun x => x.1 == 2), SplitList.absNodes r.1, r.1.table 2, r.1.acnt,
      linCheck map (SplitList.historyOf r.2))) =
    some ([(2, .ev ⟨"ld", "acnt", "2", ""⟩),
           (2, .ev ⟨"add", "acnt", "2", "1"⟩),        -- thread 2 allocates d2 for the same bucket
           (2, .ev ⟨"ld", "d0", "n2", ""⟩),
           (2, .ev ⟨"ld", "d0", "n2", ""⟩),
           (2, .ev ⟨"ld", "n2", "d1", ""⟩),           -- thread 1's dummy is already linked
           (2, .ev ⟨"ld", "n2", "d1", ""⟩),
           (2, .ev ⟨"ld", "d0", "n2", ""⟩),
           (2, .ev ⟨"ld", "d1", "n1", ""⟩),
           (2, .ev ⟨"ld", "d1", "n1", ""⟩),
           (2, .ev ⟨"ld", "n2", "d1", ""⟩),           -- same key: insert_aux_node fails
           (2, .ev ⟨"ld", "b2", "null", ""⟩),         -- T 2 A ld b2 null           (waiting for the publication)
           (2, .ev ⟨"ld", "b2", "d1", ""⟩),           -- published by thread 1 in between
           (2, .ev ⟨"ld", "d1", "n1", ""⟩),
           (2, .ev ⟨"ld", "d1", "n1", ""⟩),
           (2, .ev ⟨"ld", "n1", "n3", ""⟩),
           (2, .ev ⟨"ld", "n1", "n3", ""⟩),
           (2, .ev ⟨"ld", "d1", "n1", ""⟩),
           (2, .ev ⟨"ld", "n3", "null", ""⟩),
           (2, .ev ⟨"ld", "n3", "null", ""⟩),
           (2, .ev ⟨"ld", "n1", "n3", ""⟩),
           (2, .ret [1])],
          [0, 3, 2, 1, 5], some 2, 3, true) := by decide +kernel

/-- An erase through a child bucket, and a find that misses afterwards (hindsight "absent" through a bucket dummy):
    with 4 buckets, `erase 2` goes through bucket 2 and `contains 2` then answers 0. -/
def eraseSched : List (Tid × Act) :=
  growSched ++ [(0, .invoke (era 2))] ++ steps 0 10 ++ [(0, .ret), (1, .invoke (con 2))] ++ steps 1 7 ++ [(1, .ret)]

set_option synthInstance.maxSize 2000 in
example : ((SplitList.model cfg).run (SplitList.init cfg) eraseSched).map
    (fun r => (r.2.drop 66, SplitList.absNodes r.1, SplitList.absMap r.1, linCheck map (SplitList.historyOf r.2))) =
    some ([(0, .call (era 2)),
           (0, .ev ⟨"ld", "cnt2", "2", ""⟩),
           (0, .ev ⟨"ld", "b2", "d1", ""⟩),
           (0, .ev ⟨"ld", "d1", "n1", ""⟩),
           (0, .ev ⟨"ld", "d1", "n1", ""⟩),
           (0, .ev ⟨"ld", "n1", "n3", ""⟩),
           (0, .ev ⟨"ld", "n1", "n3", ""⟩),
           (0, .ev ⟨"ld", "d1", "n1", ""⟩),
           (0, .ev ⟨"cas+", "n1", "n3", "n3|1"⟩),     -- linearization point of erase 2
           (0, .ev ⟨"cas+", "d1", "n1", "n3"⟩),
           (0, .ev ⟨"sub", "items", "3", "1"⟩),
           (0, .ret [1, 10]),
           (1, .call (con 2)),
           (1, .ev ⟨"ld", "cnt2", "2", ""⟩),
           (1, .ev ⟨"ld", "b2", "d1", ""⟩),
           (1, .ev ⟨"ld", "d1", "n3", ""⟩),
           (1, .ev ⟨"ld", "d1", "n3", ""⟩),
           (1, .ev ⟨"ld", "n3", "null", ""⟩),
           (1, .ev ⟨"ld", "n3", "null", ""⟩),
           (1, .ev ⟨"ld", "d1", "n3", ""⟩),           -- key 6 > key 2: absent
           (1, .ret [0])],
          [0, 3, 2, 5], [(4, 20), (6, 30)], true) := by decide +kernel

end CdsVerif.Props.C14SplitList
