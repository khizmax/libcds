/-
  Sequential histories (property C20, derived from the interleaving theorems).

  1. `Sequential h`: the operations of the complete history `h` do not overlap — the list is ordered by
     invocation time and every operation returns before the next one is invoked.  A sequential history has exactly
     one order compatible with real time (`perm_eq_of_sequential`), hence
        `Linearizable spec h ↔ Legal spec spec.init h`                         (`linearizable_iff_legal`)
     and for the deterministic specifications `detSpec init step`
        `Linearizable (detSpec init step) h ↔ specRun step init (ops of h) = some (results of h)`
                                                                                (`linearizable_iff_specRun`).
  2. The history `historyOf os` of an observation list all of whose entries belong to ONE thread is sequential
     (`historyOf_sequential`), and the observation list of a run has the thread ids of its schedule (`run_tids`).
     If moreover the machine follows the call protocol (`Protocol`: `invoke` only on an idle thread, which becomes
     busy; `step` does not change the status; `result` only on a busy thread, which becomes idle; nobody changes another
     thread's status), the observations of a single-threaded run that ends idle are `call, ev*, ret, call, …, ret`
     (`run_bracketed`), `historyOf os` has one record per `call`, in order (`historyOf_ops`, `historyOf_rets`), and
     all threads are idle at the end (`run_all_idle`).
  3. `sequential_run_spec`: the glue used by the corollaries of `Props/C20Seq.lean`.
-/
import CdsVerif.Base.Machine
namespace CdsVerif.SeqHistory
open CdsVerif.Lin CdsVerif.Spec CdsVerif.Machine

/-! ### 1. Sequential histories have one linearization -/

section Lin
variable {σ Op Ret : Type}

/-- The history is written in the order of invocation, operations do not overlap (`a` returns before the next
    operation `b` is invoked), and every record is well formed (`inv ≤ res`). -/
def Sequential (l : List (OpRec Op Ret)) : Prop :=
  l.Pairwise (fun a b => a.res < b.inv) ∧ ∀ o ∈ l, o.inv ≤ o.res

instance (l : List (OpRec Op Ret)) : Decidable (Sequential l) := by
  unfold Sequential; exact inferInstance

theorem sequential_nil : Sequential ([] : List (OpRec Op Ret)) := ⟨List.Pairwise.nil, by simp⟩

theorem Sequential.tail {o : OpRec Op Ret} {l : List (OpRec Op Ret)} (h : Sequential (o :: l)) : Sequential l :=
  ⟨(List.pairwise_cons.mp h.1).2, fun x hx => h.2 x (List.mem_cons_of_mem _ hx)⟩

/-- A sequential history respects its own real-time order. -/
theorem Sequential.respectsRT {l : List (OpRec Op Ret)} (h : Sequential l) : RespectsRT l :=
  h.1.imp_of_mem fun {a b} ha hb hab => by
    have := h.2 a ha
    have := h.2 b hb
    omega

/-- **Uniqueness of the linearization order**: the only arrangement of a sequential history that never places an
    operation before one that really preceded it is the history itself. -/
theorem perm_eq_of_sequential : ∀ (l perm : List (OpRec Op Ret)), Sequential l → perm.Perm l → RespectsRT perm →
    perm = l := by
  intro l
  induction l with
  | nil => intro perm _ hp _; exact hp.eq_nil
  | cons o l ih =>
    intro perm hs hp hrt
    cases perm with
    | nil => exact absurd hp.symm.eq_nil (by simp)
    | cons p rest =>
      have hc := List.pairwise_cons.mp hs.1
      have hrt' := List.pairwise_cons.mp hrt
      have hpo : p = o := by
        rcases List.mem_cons.mp (hp.mem_iff.mp List.mem_cons_self) with h | h
        · exact h
        · exfalso
          have h1 : o.res < p.inv := hc.1 p h
          rcases List.mem_cons.mp (hp.mem_iff.mpr List.mem_cons_self) with h2 | h2
          · have h3 := hs.2 o List.mem_cons_self
            rw [h2] at h1 h3; omega
          · exact hrt'.1 o h2 h1
      subst hpo
      rw [ih rest hs.tail (List.Perm.cons_inv hp) hrt'.2]

/-- A sequential history is linearizable iff it is itself a legal sequential execution. -/
theorem linearizableFrom_iff_legal (spec : Lin.Spec σ Op Ret) (s : σ) (l : List (OpRec Op Ret))
    (hs : Sequential l) : LinearizableFrom spec s l ↔ Legal spec s l := by
  constructor
  · rintro ⟨perm, hp, hrt, hl⟩
    rw [perm_eq_of_sequential l perm hs hp hrt] at hl
    exact hl
  · intro hl
    exact ⟨l, List.Perm.refl _, hs.respectsRT, hl⟩

theorem linearizable_iff_legal (spec : Lin.Spec σ Op Ret) (l : List (OpRec Op Ret)) (hs : Sequential l) :
    Linearizable spec l ↔ Legal spec spec.init l :=
  linearizableFrom_iff_legal spec spec.init l hs

end Lin

/-! ### Running a deterministic specification -/

section Run
variable {σ : Type}

/-- Run the step function of a sequential object over a list of operations: the list of results, `none` when
    some operation is not an operation of the object. -/
def specRun (step : σ → GOp → Option (σ × GRet)) : σ → List GOp → Option (List GRet)
  | _, [] => some []
  | s, op :: ops =>
    match step s op with
    | none => none
    | some (s', r) => (specRun step s' ops).map (fun rs => r :: rs)

theorem detSpec_next_iff (init : σ) (step : σ → GOp → Option (σ × GRet)) (s s' : σ) (op : GOp) (r : GRet) :
    (detSpec init step).next s op r = some s' ↔ step s op = some (s', r) := by
  simp only [detSpec]
  split
  · next s1 r1 h => rw [h]; by_cases hr : r = r1 <;> simp [hr, eq_comm]
  · next h => simp [h]

/-- For `detSpec`, legality of a record list is "the results are those computed by the step function". -/
theorem legal_detSpec_iff (init : σ) (step : σ → GOp → Option (σ × GRet)) :
    ∀ (l : List (OpRec GOp GRet)) (s : σ),
      Legal (detSpec init step) s l ↔ specRun step s (l.map (·.op)) = some (l.map (·.ret)) := by
  intro l
  induction l with
  | nil => intro s; simp [Legal, specRun]
  | cons o l ih =>
    intro s
    simp only [Legal, List.map_cons, specRun, detSpec_next_iff, ih]
    cases hst : step s o.op with
    | none => simp
    | some p =>
      obtain ⟨s1, r1⟩ := p
      simp only [Option.some.injEq, Prod.mk.injEq, Option.map_eq_some_iff, List.cons.injEq]
      constructor
      · rintro ⟨s', ⟨rfl, rfl⟩, h⟩; exact ⟨_, h, rfl, rfl⟩
      · rintro ⟨rs, h, rfl, rfl⟩; exact ⟨_, ⟨rfl, rfl⟩, h⟩

/-- **Sequential histories**: linearizable iff running the specification over the operations, in the order of
    the history, produces exactly the recorded results. -/
theorem linearizable_iff_specRun (init : σ) (step : σ → GOp → Option (σ × GRet)) (l : List (OpRec GOp GRet))
    (hs : Sequential l) :
    Linearizable (detSpec init step) l ↔ specRun step init (l.map (·.op)) = some (l.map (·.ret)) := by
  rw [linearizable_iff_legal _ l hs]
  exact legal_detSpec_iff init step l init

end Run

/-! ### 2. Histories of single-threaded observation lists -/

/-- Per thread: the operation in progress and the index of its `call` observation. -/
abbrev Pend := Tid → Option (GOp × Nat)

/-- The history scan: stamps each operation with the positions of its `call` and `ret` observations.  The machines'
    own `histAux` are this function (`<Machine>.historyOf_eq`). -/
def histAux : Nat → Pend → List (Tid × Obs) → List (OpRec GOp GRet)
  | _, _, [] => []
  | i, pend, (t, .call op) :: os => histAux (i + 1) (upd pend t (some (op, i))) os
  | i, pend, (_, .ev _) :: os => histAux (i + 1) pend os
  | i, pend, (t, .ret r) :: os =>
    match pend t with
    | some (op, k) => ⟨t, op, r, k, i⟩ :: histAux (i + 1) (upd pend t none) os
    | none => histAux (i + 1) pend os

def historyOf (os : List (Tid × Obs)) : List (OpRec GOp GRet) := histAux 0 (fun _ => none) os

/-- The operations called / the results returned, in the order of the observations. -/
def callsOf : List (Tid × Obs) → List GOp
  | [] => []
  | (_, .call op) :: os => op :: callsOf os
  | (_, .ev _) :: os => callsOf os
  | (_, .ret _) :: os => callsOf os

def retsOf : List (Tid × Obs) → List GRet
  | [] => []
  | (_, .call _) :: os => retsOf os
  | (_, .ev _) :: os => retsOf os
  | (_, .ret r) :: os => r :: retsOf os

/-- Scan of the observations of one thread `t0`, from index `i`, with a pending `call` (if any) at an index in
    `[lo, i)` and `lo ≤ i`: the records do not overlap, and none is invoked before `lo`. -/
theorem histAux_sequential (t0 : Tid) : ∀ (os : List (Tid × Obs)) (i : Nat) (pend : Pend) (lo : Nat),
    (∀ x ∈ os, x.1 = t0) → lo ≤ i → (∀ op k, pend t0 = some (op, k) → lo ≤ k ∧ k < i) →
    Sequential (histAux i pend os) ∧ ∀ r ∈ histAux i pend os, lo ≤ r.inv := by
  intro os
  induction os with
  | nil => intro i pend lo _ _ _; exact ⟨sequential_nil, by simp [histAux]⟩
  | cons x os ih =>
    intro i pend lo hall hlo hpend
    obtain ⟨t, o⟩ := x
    obtain rfl : t = t0 := hall (t, o) List.mem_cons_self
    have hall' : ∀ x ∈ os, x.1 = t := fun x hx => hall x (List.mem_cons_of_mem _ hx)
    have hpend' : ∀ op k, pend t = some (op, k) → lo ≤ k ∧ k < i + 1 :=
      fun op k hk => ⟨(hpend op k hk).1, Nat.lt_succ_of_lt (hpend op k hk).2⟩
    cases o with
    | call op =>
      refine ih (i + 1) _ lo hall' (Nat.le_succ_of_le hlo) fun op' k hk => ?_
      simp only [upd_same, Option.some.injEq, Prod.mk.injEq] at hk
      omega
    | ev e => exact ih (i + 1) pend lo hall' (Nat.le_succ_of_le hlo) hpend'
    | ret rv =>
      simp only [histAux]
      cases hp : pend t with
      | none => exact ih (i + 1) pend lo hall' (Nat.le_succ_of_le hlo) hpend'
      | some q =>
        obtain ⟨op, k⟩ := q
        -- the record `[k, i]` is closed; nothing is pending, so the later records are invoked after `i`
        obtain ⟨hrest, hinv⟩ := ih (i + 1) (upd pend t none) (i + 1) hall' (Nat.le_refl _)
          (fun op' k' hk => by simp at hk)
        obtain ⟨hk1, hk2⟩ := hpend op k hp
        refine ⟨⟨List.Pairwise.cons (fun b hb => hinv b hb) hrest.1, ?_⟩, ?_⟩
        · intro o ho
          rcases List.mem_cons.mp ho with rfl | ho
          · exact Nat.le_of_lt hk2
          · exact hrest.2 o ho
        · intro r hr
          rcases List.mem_cons.mp hr with rfl | hr
          · exact hk1
          · exact Nat.le_trans (Nat.le_succ_of_le hlo) (hinv r hr)

/-- **Single-threaded observations give a sequential history.** -/
theorem historyOf_sequential (os : List (Tid × Obs)) (t0 : Tid) (h : ∀ x ∈ os, x.1 = t0) :
    Sequential (historyOf os) :=
  (histAux_sequential t0 os 0 _ 0 h (Nat.le_refl 0) (fun op k hk => by simp at hk)).1

/-! ### Runs of a machine under a single-threaded schedule -/

section Machine
variable {σ : Type}

/-- The observations of a run carry the thread ids of the schedule. -/
theorem run_tids (m : Model σ) (sched : List (Tid × Act)) (s s' : σ) (os : List (Tid × Obs))
    (h : m.run s sched = some (s', os)) : os.map (·.1) = sched.map (·.1) := by
  induction s, sched, s', os, h using Model.run_induction with
  | nil => rfl
  | cons _ _ _ _ _ _ _ _ _ _ ih => simp [ih]

theorem run_single_thread (m : Model σ) (sched : List (Tid × Act)) (s s' : σ) (os : List (Tid × Obs))
    (h : m.run s sched = some (s', os)) (t0 : Tid) (hst : ∀ x ∈ sched, x.1 = t0) : ∀ x ∈ os, x.1 = t0 := by
  intro x hx
  have h1 : x.1 ∈ os.map (·.1) := List.mem_map_of_mem hx
  rw [run_tids m sched s s' os h] at h1
  obtain ⟨y, hy, hy2⟩ := List.mem_map.mp h1
  rw [← hy2]; exact hst y hy

/-- **A single-threaded run yields a sequential history** (whatever the machine). -/
theorem run_history_sequential (m : Model σ) (sched : List (Tid × Act)) (s s' : σ) (os : List (Tid × Obs))
    (h : m.run s sched = some (s', os)) (t0 : Tid) (hst : ∀ x ∈ sched, x.1 = t0) :
    Sequential (historyOf os) :=
  historyOf_sequential os t0 (run_single_thread m sched s s' os h t0 hst)

/-- The call protocol of a machine, in terms of a predicate "thread `t` is idle in state `s`". -/
structure Protocol (m : Model σ) (idle : σ → Tid → Prop) : Prop where
  invoke : ∀ s t op s', m.invoke s t op = some s' → idle s t ∧ ¬ idle s' t
  step : ∀ s t s' e, m.step s t = some (s', e) → (idle s' t ↔ idle s t)
  result : ∀ s t s' r, m.result s t = some (s', r) → ¬ idle s t ∧ idle s' t
  frame : ∀ s t a s' o u, m.apply s t a = some (s', o) → u ≠ t → (idle s' u ↔ idle s u)

/-- The usual way to establish the protocol: the machine state has a program counter per thread, `idl` is the
    counter of an idle thread, and an action of `t` changes the counter of `t` only.  For the machines of `Algo/`
    the three hypotheses are read off the transition tables: every arm of `invoke`, `step` and `result` is
    `some ({ s with …, pc := upd s.pc t p }, …)`, so each proof unfolds the function, splits it into its arms,
    substitutes the successor state and checks `p` against `idl`. -/
theorem Protocol.ofPC {PC : Type} (m : Model σ) (pc : σ → Tid → PC) (idl : PC)
    (hinv : ∀ {s t op s'}, m.invoke s t op = some s' →
      pc s t = idl ∧ pc s' t ≠ idl ∧ ∀ u, u ≠ t → pc s' u = pc s u)
    (hstep : ∀ {s t s' e}, m.step s t = some (s', e) →
      pc s t ≠ idl ∧ pc s' t ≠ idl ∧ ∀ u, u ≠ t → pc s' u = pc s u)
    (hres : ∀ {s t s' r}, m.result s t = some (s', r) →
      pc s t ≠ idl ∧ pc s' t = idl ∧ ∀ u, u ≠ t → pc s' u = pc s u) :
    Protocol m (fun s t => pc s t = idl) where
  invoke := fun _ _ _ _ h => ⟨(hinv h).1, (hinv h).2.1⟩
  step := fun _ _ _ _ h => ⟨fun h1 => absurd h1 (hstep h).2.1, fun h1 => absurd h1 (hstep h).1⟩
  result := fun _ _ _ _ h => ⟨(hres h).1, (hres h).2.1⟩
  frame := by
    intro s t a s' o u h hu
    show pc s' u = idl ↔ pc s u = idl
    rcases Model.apply_cases h with ⟨op, -, hi, -⟩ | ⟨e, -, hs, -⟩ | ⟨r, -, hr, -⟩
    · rw [(hinv hi).2.2 u hu]
    · rw [(hstep hs).2.2 u hu]
    · rw [(hres hr).2.2 u hu]

/-- `call, ev*, ret, call, ev*, ret, …`; `busy` says whether an operation is in progress at the start; the list
    ends with no operation in progress. -/
def Bracketed : Prop → List (Tid × Obs) → Prop
  | busy, [] => ¬ busy
  | busy, (_, .call _) :: os => ¬ busy ∧ Bracketed True os
  | busy, (_, .ev _) :: os => Bracketed busy os
  | busy, (_, .ret _) :: os => busy ∧ Bracketed False os

theorem Bracketed.congr {p q : Prop} (hpq : p ↔ q) {os : List (Tid × Obs)} (h : Bracketed p os) : Bracketed q os := by
  have : p = q := propext hpq
  subst this; exact h

variable {m : Model σ} {idle : σ → Tid → Prop} {sched : List (Tid × Act)} {s s' : σ} {os : List (Tid × Obs)}

/-- A single-threaded run that ends with its thread idle is well bracketed. -/
theorem run_bracketed (P : Protocol m idle) (t0 : Tid) (h : m.run s sched = some (s', os))
    (hst : ∀ x ∈ sched, x.1 = t0) (hid : idle s' t0) : Bracketed (¬ idle s t0) os := by
  induction s, sched, s', os, h using Model.run_induction with
  | nil => exact fun hn => hn hid
  | cons s t a s1 o rest s' os hap _ ih =>
    obtain rfl : t = t0 := hst (t, a) List.mem_cons_self
    have hrec := ih (fun x hx => hst x (List.mem_cons_of_mem _ hx)) hid
    rcases Model.apply_cases hap with ⟨op, rfl, hi, rfl⟩ | ⟨e, rfl, hs, rfl⟩ | ⟨r, rfl, hr, rfl⟩
    · obtain ⟨p1, p2⟩ := P.invoke s t op s1 hi
      exact ⟨fun hn => hn p1, hrec.congr ⟨fun _ => trivial, fun _ => p2⟩⟩
    · exact hrec.congr (not_congr (P.step s t s1 e hs))
    · obtain ⟨p1, p2⟩ := P.result s t s1 r hr
      exact ⟨p1, hrec.congr ⟨fun hn => hn p2, fun hf => hf.elim⟩⟩

/-- Threads that are never scheduled keep their status. -/
theorem run_frame (P : Protocol m idle) {t0 u : Tid} (hu : u ≠ t0) (h : m.run s sched = some (s', os))
    (hst : ∀ x ∈ sched, x.1 = t0) : idle s' u ↔ idle s u := by
  induction s, sched, s', os, h using Model.run_induction with
  | nil => exact Iff.rfl
  | cons s t a s1 o rest s' os hap _ ih =>
    obtain rfl : t = t0 := hst (t, a) List.mem_cons_self
    exact (ih fun x hx => hst x (List.mem_cons_of_mem _ hx)).trans (P.frame s t a s1 o u hap hu)

/-- All threads are idle at the end of a single-threaded run from an all-idle state that ends with its thread
    idle. -/
theorem run_all_idle (P : Protocol m idle) (t0 : Tid) (h : m.run s sched = some (s', os))
    (hst : ∀ x ∈ sched, x.1 = t0) (h0 : ∀ u, idle s u) (hid : idle s' t0) : ∀ u, idle s' u := by
  intro u
  by_cases hu : u = t0
  · subst hu; exact hid
  · exact (run_frame P hu h hst).mpr (h0 u)

/-- The observations of a single-threaded run that starts and ends with its thread idle: all of that thread, and
    `call, ev*, ret, …, call, ev*, ret`. -/
theorem run_complete (P : Protocol m idle) (t0 : Tid) (h : m.run s sched = some (s', os))
    (hst : ∀ x ∈ sched, x.1 = t0) (h0 : idle s t0) (hid : idle s' t0) :
    (∀ x ∈ os, x.1 = t0) ∧ Bracketed False os :=
  ⟨run_single_thread m sched s s' os h t0 hst,
    (run_bracketed P t0 h hst hid).congr ⟨fun hn => hn h0, fun hf => hf.elim⟩⟩

end Machine

/-- The history of a well-bracketed single-threaded observation list has one record per `ret`, carrying the
    operations of the `call`s and the results of the `ret`s, in order. -/
theorem histAux_bracketed (t0 : Tid) : ∀ (os : List (Tid × Obs)) (i : Nat) (pend : Pend),
    (∀ x ∈ os, x.1 = t0) → Bracketed ((pend t0).isSome = true) os →
    (histAux i pend os).map (·.op) = ((pend t0).map (·.1)).toList ++ callsOf os ∧
    (histAux i pend os).map (·.ret) = retsOf os := by
  intro os
  induction os with
  | nil =>
    intro i pend _ hb
    have hp : pend t0 = none := by simpa [Bracketed] using hb
    simp [histAux, callsOf, retsOf, hp]
  | cons x os ih =>
    intro i pend hall hb
    obtain ⟨t, o⟩ := x
    obtain rfl : t = t0 := hall (t, o) List.mem_cons_self
    have hall' : ∀ x ∈ os, x.1 = t := fun x hx => hall x (List.mem_cons_of_mem _ hx)
    cases o with
    | call op =>
      obtain ⟨hb1, hb2⟩ := hb
      have hp : pend t = none := by simpa using hb1
      have := ih (i + 1) (upd pend t (some (op, i))) hall' (hb2.congr (by simp))
      simpa [histAux, callsOf, retsOf, hp] using this
    | ev e => exact ih (i + 1) pend hall' hb
    | ret rv =>
      obtain ⟨hb1, hb2⟩ := hb
      obtain ⟨⟨op, k⟩, hp⟩ := Option.isSome_iff_exists.mp hb1
      have := ih (i + 1) (upd pend t none) hall' (hb2.congr (by simp))
      simpa [histAux, callsOf, retsOf, hp] using this

theorem historyOf_ops (os : List (Tid × Obs)) (t0 : Tid) (h : ∀ x ∈ os, x.1 = t0) (hb : Bracketed False os) :
    (historyOf os).map (·.op) = callsOf os := by
  have := (histAux_bracketed t0 os 0 (fun _ => none) h (hb.congr (by simp))).1
  simpa [historyOf] using this

theorem historyOf_rets (os : List (Tid × Obs)) (t0 : Tid) (h : ∀ x ∈ os, x.1 = t0) (hb : Bracketed False os) :
    (historyOf os).map (·.ret) = retsOf os :=
  (histAux_bracketed t0 os 0 (fun _ => none) h (hb.congr (by simp))).2

/-! ### 3. The glue -/

/-- For the observations of one thread, well bracketed: if the history is linearizable to the deterministic object
    `(init, step)`, the results returned are those of the object run over the operations called. -/
theorem specRun_of_linearizable {τ : Type} (init : τ) (step : τ → GOp → Option (τ × GRet)) (os : List (Tid × Obs))
    (t0 : Tid) (hall : ∀ x ∈ os, x.1 = t0) (hb : Bracketed False os)
    (hlin : Linearizable (detSpec init step) (historyOf os)) :
    specRun step init (callsOf os) = some (retsOf os) := by
  have := (linearizable_iff_specRun init step _ (historyOf_sequential os t0 hall)).mp hlin
  rwa [historyOf_ops os t0 hall hb, historyOf_rets os t0 hall hb] at this

/-- **From linearizability to sequential semantics.**  Let a machine follow the call protocol, and let its
    complete runs from `s0` be linearizable to the deterministic object `(init, step)`, the history being computed
    by `hist`, the machine's own copy of `historyOf`.  Then in every single-threaded run from `s0` (all threads
    idle) at whose end the thread is idle, the results returned are exactly the results of the sequential object run
    over the operations called. -/
theorem sequential_run_spec {σ τ : Type} {m : Model σ} {idle : σ → Tid → Prop} (P : Protocol m idle)
    {init : τ} {step : τ → GOp → Option (τ × GRet)} {s0 : σ}
    {hist : List (Tid × Obs) → List (OpRec GOp GRet)} (hhist : ∀ os, hist os = historyOf os)
    (hlin : ∀ sched s os, m.run s0 sched = some (s, os) → (∀ u, idle s u) →
      Linearizable (detSpec init step) (hist os))
    (h0 : ∀ u, idle s0 u) {t0 : Tid} {sched : List (Tid × Act)} {s : σ} {os : List (Tid × Obs)}
    (h : m.run s0 sched = some (s, os)) (hst : ∀ x ∈ sched, x.1 = t0) (hid : idle s t0) :
    specRun step init (callsOf os) = some (retsOf os) := by
  obtain ⟨hall, hb⟩ := run_complete P t0 h hst (h0 t0) hid
  have hlin := hlin sched s os h (run_all_idle P t0 h hst h0 hid)
  rw [hhist] at hlin
  exact specRun_of_linearizable init step os t0 hall hb hlin

/-- Renaming of the operations of the `call` observations (machines whose client operations carry inputs that are
    not part of the abstract operation, e.g. the back-off schedule of the elimination stack). -/
def mapCall (f : GOp → GOp) : Tid × Obs → Tid × Obs
  | (t, .call op) => (t, .call (f op))
  | (t, .ev e) => (t, .ev e)
  | (t, .ret r) => (t, .ret r)

theorem mapCall_tid (f : GOp → GOp) (x : Tid × Obs) : (mapCall f x).1 = x.1 := by
  obtain ⟨t, o⟩ := x; cases o <;> rfl

theorem callsOf_mapCall (f : GOp → GOp) : ∀ os : List (Tid × Obs), callsOf (os.map (mapCall f)) = (callsOf os).map f := by
  intro os
  induction os with
  | nil => rfl
  | cons x os ih =>
    obtain ⟨t, o⟩ := x
    cases o <;> simp [mapCall, callsOf, ih]

theorem retsOf_mapCall (f : GOp → GOp) : ∀ os : List (Tid × Obs), retsOf (os.map (mapCall f)) = retsOf os := by
  intro os
  induction os with
  | nil => rfl
  | cons x os ih =>
    obtain ⟨t, o⟩ := x
    cases o <;> simp [mapCall, retsOf, ih]

theorem Bracketed.mapCall (f : GOp → GOp) : ∀ (os : List (Tid × Obs)) (p : Prop), Bracketed p os →
    Bracketed p (os.map (SeqHistory.mapCall f)) := by
  intro os
  induction os with
  | nil => intro p h; exact h
  | cons x os ih =>
    intro p h
    obtain ⟨t, o⟩ := x
    cases o with
    | call op => exact ⟨h.1, ih _ h.2⟩
    | ev e => exact ih _ h
    | ret r => exact ⟨h.1, ih _ h.2⟩

/-- `sequential_run_spec` for machines whose history renames the operations by `f`. -/
theorem sequential_run_spec_map {σ τ : Type} {m : Model σ} {idle : σ → Tid → Prop} (P : Protocol m idle)
    {init : τ} {step : τ → GOp → Option (τ × GRet)} {f : GOp → GOp} {s0 : σ}
    {hist : List (Tid × Obs) → List (OpRec GOp GRet)} (hhist : ∀ os, hist os = historyOf (os.map (mapCall f)))
    (hlin : ∀ sched s os, m.run s0 sched = some (s, os) → (∀ u, idle s u) →
      Linearizable (detSpec init step) (hist os))
    (h0 : ∀ u, idle s0 u) {t0 : Tid} {sched : List (Tid × Act)} {s : σ} {os : List (Tid × Obs)}
    (h : m.run s0 sched = some (s, os)) (hst : ∀ x ∈ sched, x.1 = t0) (hid : idle s t0) :
    specRun step init ((callsOf os).map f) = some (retsOf os) := by
  obtain ⟨hall, hb⟩ := run_complete P t0 h hst (h0 t0) hid
  have hall' : ∀ x ∈ os.map (mapCall f), x.1 = t0 := by
    intro x hx
    obtain ⟨y, hy, rfl⟩ := List.mem_map.mp hx
    rw [mapCall_tid]; exact hall y hy
  have hlin := hlin sched s os h (run_all_idle P t0 h hst h0 hid)
  rw [hhist] at hlin
  have := specRun_of_linearizable init step _ t0 hall' (hb.mapCall f os _) hlin
  rwa [callsOf_mapCall, retsOf_mapCall] at this

/-- The weaker, protocol-free form: the records of the history carry the results of the specification. -/
theorem sequential_run_spec_hist {σ τ : Type} (m : Model σ) (init : τ) (step : τ → GOp → Option (τ × GRet))
    (s0 : σ) (t0 : Tid) (sched : List (Tid × Act)) (s : σ) (os : List (Tid × Obs))
    (h : m.run s0 sched = some (s, os)) (hst : ∀ x ∈ sched, x.1 = t0)
    (hlin : Linearizable (detSpec init step) (historyOf os)) :
    Sequential (historyOf os) ∧
      specRun step init ((historyOf os).map (·.op)) = some ((historyOf os).map (·.ret)) := by
  have hseq := run_history_sequential m sched s0 s os h t0 hst
  exact ⟨hseq, (linearizable_iff_specRun init step _ hseq).mp hlin⟩

/-! ### Helpers for the concrete examples: a single-threaded schedule generated by the machine itself -/

section Drive
variable {σ : Type}

/-- Thread `t` invokes `op`, steps until `result` is enabled (at most `fuel` steps), and returns. -/
def driveSteps (m : Model σ) (t : Tid) : Nat → σ → Option (σ × List (Tid × Act))
  | 0, s => (m.result s t).map (fun r => (r.1, [(t, Act.ret)]))
  | fuel + 1, s =>
    match m.result s t with
    | some r => some (r.1, [(t, Act.ret)])
    | none =>
      match m.step s t with
      | none => none
      | some r => (driveSteps m t fuel r.1).map (fun q => (q.1, (t, Act.step) :: q.2))

/-- The single-threaded schedule that executes `ops` one after the other on thread `t`. -/
def seqSched (m : Model σ) (t : Tid) (fuel : Nat) : σ → List GOp → List (Tid × Act)
  | _, [] => []
  | s, op :: ops =>
    match m.invoke s t op with
    | none => []
    | some s1 =>
      match driveSteps m t fuel s1 with
      | none => []
      | some (s2, acts) => (t, Act.invoke op) :: acts ++ seqSched m t fuel s2 ops

/-- What the examples look at: is the thread idle at the end, the operations called, the results returned. -/
def seqDemo (m : Model σ) (isIdle : σ → Bool) (s0 : σ) (sched : List (Tid × Act)) :
    Option (Bool × List GOp × List GRet) :=
  (m.run s0 sched).map (fun r => (isIdle r.1, callsOf r.2, retsOf r.2))

end Drive

end CdsVerif.SeqHistory
