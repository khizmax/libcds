/-
  Linearizability of complete finite histories, and an executable checker
  that is proved sound and complete against the definition.

  A history is given as a list of operation records.  Every record carries
  the operation, the observed result and the positions (`inv`, `res`) of its
  invocation and response events in the real-time order of the execution.
  `a` precedes `b` in real time iff `a.res < b.inv`.

  Specifications are *result-determined* automata: `next s op ret` is
  `some s'` iff the sequential object in state `s` may answer `op` with `ret`,
  moving to `s'`.  Deterministic objects (queue, stack, set, map) and
  relaxed ones (bag, quasi-queue) both fit.
-/
namespace CdsVerif.Lin

structure Spec (σ Op Ret : Type) where
  init : σ
  next : σ → Op → Ret → Option σ

structure OpRec (Op Ret : Type) where
  tid : Nat
  op  : Op
  ret : Ret
  inv : Nat
  res : Nat
deriving DecidableEq, Repr

variable {σ Op Ret : Type}

/-- `perm` is a legal sequential execution of `spec` from state `s`. -/
def Legal (spec : Spec σ Op Ret) : σ → List (OpRec Op Ret) → Prop
  | _, [] => True
  | s, o :: os => ∃ s', spec.next s o.op o.ret = some s' ∧ Legal spec s' os

/-- The order never places an operation before one that really preceded it. -/
def RespectsRT (l : List (OpRec Op Ret)) : Prop :=
  l.Pairwise (fun a b => ¬ b.res < a.inv)

/-- Herlihy–Wing linearizability of a complete history starting in state `s`. -/
def LinearizableFrom (spec : Spec σ Op Ret) (s : σ) (ops : List (OpRec Op Ret)) : Prop :=
  ∃ perm : List (OpRec Op Ret), perm.Perm ops ∧ RespectsRT perm ∧ Legal spec s perm

def Linearizable (spec : Spec σ Op Ret) (ops : List (OpRec Op Ret)) : Prop :=
  LinearizableFrom spec spec.init ops

theorem LinearizableFrom.nil (spec : Spec σ Op Ret) (s : σ) : LinearizableFrom spec s [] :=
  ⟨[], List.Perm.refl _, List.Pairwise.nil, trivial⟩

/-! ### Monotonicity in the specification -/

theorem legal_mono {A B : Spec σ Op Ret} (hAB : ∀ s op r s', A.next s op r = some s' → B.next s op r = some s') :
    ∀ (l : List (OpRec Op Ret)) (s : σ), Legal A s l → Legal B s l
  | [], _, _ => trivial
  | _ :: l, _, ⟨s', h1, h2⟩ => ⟨s', hAB _ _ _ _ h1, legal_mono hAB l s' h2⟩

/-- A history linearizable to `A` is linearizable to every specification that allows the transitions of `A`. -/
theorem linearizable_mono {A B : Spec σ Op Ret} (hi : A.init = B.init)
    (hAB : ∀ s op r s', A.next s op r = some s' → B.next s op r = some s') (ops : List (OpRec Op Ret))
    (h : Linearizable A ops) : Linearizable B ops := by
  obtain ⟨perm, hp, hrt, hl⟩ := h
  exact ⟨perm, hp, hrt, hi ▸ legal_mono hAB perm _ hl⟩

/-! ### The checker -/

def minimalIn (o : OpRec Op Ret) (rem : List (OpRec Op Ret)) : Bool :=
  rem.all (fun p => !(p.res < o.inv))

theorem minimalIn_iff (o : OpRec Op Ret) (rem : List (OpRec Op Ret)) :
    minimalIn o rem = true ↔ ∀ p ∈ rem, ¬ p.res < o.inv := by
  simp [minimalIn, List.all_eq_true]

variable [DecidableEq Op] [DecidableEq Ret]

/-- Depth-first search over all real-time-respecting orders. -/
def search (spec : Spec σ Op Ret) : Nat → σ → List (OpRec Op Ret) → Bool
  | 0, _, rem => rem.isEmpty
  | fuel + 1, s, rem =>
    rem.isEmpty ||
    rem.any (fun o =>
      minimalIn o rem &&
      match spec.next s o.op o.ret with
      | some s' => search spec fuel s' (rem.erase o)
      | none => false)

def linCheck (spec : Spec σ Op Ret) (ops : List (OpRec Op Ret)) : Bool :=
  search spec ops.length spec.init ops

/-! ### Soundness -/

/-- An operation that no operation of the history precedes in real time may be linearized first. -/
theorem LinearizableFrom.cons {spec : Spec σ Op Ret} {s s' : σ} {ops : List (OpRec Op Ret)} {o : OpRec Op Ret}
    (hmem : o ∈ ops) (hmin : ∀ p ∈ ops, ¬ p.res < o.inv) (hn : spec.next s o.op o.ret = some s')
    (h : LinearizableFrom spec s' (ops.erase o)) : LinearizableFrom spec s ops := by
  obtain ⟨perm, hperm, hrt, hlegal⟩ := h
  refine ⟨o :: perm, (hperm.cons o).trans (List.perm_cons_erase hmem).symm, List.Pairwise.cons ?_ hrt, s', hn, hlegal⟩
  intro b hb
  exact hmin b (List.mem_of_mem_erase (hperm.mem_iff.mp hb))

theorem search_sound (spec : Spec σ Op Ret) :
    ∀ (fuel : Nat) (s : σ) (rem : List (OpRec Op Ret)),
      search spec fuel s rem = true → LinearizableFrom spec s rem := by
  intro fuel
  induction fuel with
  | zero =>
    intro s rem h
    rw [search, List.isEmpty_iff] at h
    subst h
    exact .nil spec s
  | succ n ih =>
    intro s rem h
    simp only [search, Bool.or_eq_true, List.any_eq_true, Bool.and_eq_true] at h
    rcases h with h | ⟨o, hmem, hmin, hnext⟩
    · rw [List.isEmpty_iff] at h
      subst h
      exact .nil spec s
    · cases hn : spec.next s o.op o.ret with
      | none => simp [hn] at hnext
      | some s' =>
        simp only [hn] at hnext
        exact .cons hmem ((minimalIn_iff o rem).mp hmin) hn (ih s' (rem.erase o) hnext)

/-! ### Completeness -/

theorem search_complete (spec : Spec σ Op Ret) :
    ∀ (fuel : Nat) (s : σ) (rem : List (OpRec Op Ret)),
      rem.length ≤ fuel → (∀ o ∈ rem, o.inv ≤ o.res) →
      LinearizableFrom spec s rem → search spec fuel s rem = true := by
  intro fuel
  induction fuel with
  | zero =>
    intro s rem hlen _ _
    have : rem = [] := List.eq_nil_of_length_eq_zero (Nat.le_zero.mp hlen)
    simp [search, this]
  | succ n ih =>
    intro s rem hlen hwf ⟨perm, hperm, hrt, hlegal⟩
    cases perm with
    | nil =>
      have : rem = [] := List.Perm.eq_nil (hperm.symm)
      simp [search, this]
    | cons o rest =>
      obtain ⟨s', hn, hlegal'⟩ := hlegal
      have hmem : o ∈ rem := hperm.mem_iff.mp (List.mem_cons_self)
      have hrest : rest.Perm (rem.erase o) := (hperm.trans (List.perm_cons_erase hmem)).cons_inv
      have hrt' := List.pairwise_cons.mp hrt
      have hmin : minimalIn o rem = true := by
        rw [minimalIn_iff]
        intro p hp
        rcases List.mem_cons.mp (hperm.mem_iff.mpr hp) with h | h
        · subst h
          have := hwf p hp
          omega
        · exact hrt'.1 p h
      have hlen' : (rem.erase o).length ≤ n := by
        rw [List.length_erase_of_mem hmem]; omega
      have hwf' : ∀ q ∈ rem.erase o, q.inv ≤ q.res :=
        fun q hq => hwf q (List.mem_of_mem_erase hq)
      have hrec := ih s' (rem.erase o) hlen' hwf' ⟨rest, hrest, hrt'.2, hlegal'⟩
      simp only [search, Bool.or_eq_true, List.any_eq_true, Bool.and_eq_true]
      right
      exact ⟨o, hmem, hmin, by simp [hn, hrec]⟩

/-- The checker decides linearizability of well-formed complete histories. -/
theorem linCheck_iff (spec : Spec σ Op Ret) (ops : List (OpRec Op Ret))
    (hwf : ∀ o ∈ ops, o.inv ≤ o.res) :
    linCheck spec ops = true ↔ Linearizable spec ops :=
  ⟨search_sound spec _ _ _, search_complete spec _ _ _ (Nat.le_refl _) hwf⟩

theorem linCheck_sound (spec : Spec σ Op Ret) (ops : List (OpRec Op Ret)) :
    linCheck spec ops = true → Linearizable spec ops :=
  search_sound spec _ _ _

/-- A well-formed history that the checker rejects is not linearizable. -/
theorem not_linearizable_of_linCheck_eq_false (spec : Spec σ Op Ret) (ops : List (OpRec Op Ret))
    (hwf : ∀ o ∈ ops, o.inv ≤ o.res) (h : linCheck spec ops = false) : ¬ Linearizable spec ops :=
  fun hlin => Bool.false_ne_true (h.symm.trans ((linCheck_iff spec ops hwf).mpr hlin))

end CdsVerif.Lin
