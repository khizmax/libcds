/-
  Locality of linearizability (Herlihy–Wing, Theorem 1), for the definition of `Base/Lin`.

  A composite object is a family of independent component objects (all with the same sequential
  specification, possibly different states); every operation is routed to exactly one component
  (`route op`).  A complete history of the composite object is linearizable as soon as, for every
  component, the sub-history of the operations routed to it is linearizable.

  This is what lets a hash table built from per-bucket containers (MichaelHashSet over ordered lists,
  the striped sets over their buckets between two resizes) inherit linearizability from the bucket
  container: see `Spec.hashed_map_linearizable` in `Base/LocalityMap.lean`.
-/
import CdsVerif.Base.Lin
namespace CdsVerif.Lin

variable {σ Op Ret : Type}

/-- The composite object: component `i` is in state `s i`; an operation acts on component `route op` only. -/
def prodSpec (spec : Spec σ Op Ret) (route : Op → Nat) (init : Nat → σ) : Spec (Nat → σ) Op Ret where
  init := init
  next s op r := (spec.next (s (route op)) op r).map (fun s' => fun i => if i = route op then s' else s i)

/-- operations routed to component `i` -/
def sub (route : Op → Nat) (i : Nat) (ops : List (OpRec Op Ret)) : List (OpRec Op Ret) :=
  ops.filter (fun o => route o.op == i)

theorem prodSpec_next_eq_some {spec : Spec σ Op Ret} {route : Op → Nat} {init s s' : Nat → σ} {op : Op} {r : Ret} :
    (prodSpec spec route init).next s op r = some s' ↔
      ∃ s1, spec.next (s (route op)) op r = some s1 ∧ (fun i => if i = route op then s1 else s i) = s' :=
  Option.map_eq_some_iff

theorem mem_sub {route : Op → Nat} {i : Nat} {ops : List (OpRec Op Ret)} {o : OpRec Op Ret} :
    o ∈ sub route i ops ↔ o ∈ ops ∧ route o.op = i := by
  simp [sub]

theorem sub_cons_of_eq {route : Op → Nat} {i : Nat} {a : OpRec Op Ret} (l : List (OpRec Op Ret)) (h : route a.op = i) :
    sub route i (a :: l) = a :: sub route i l :=
  List.filter_cons_of_pos (by simpa using h)

theorem sub_cons_of_ne {route : Op → Nat} {i : Nat} {a : OpRec Op Ret} (l : List (OpRec Op Ret)) (h : route a.op ≠ i) :
    sub route i (a :: l) = sub route i l :=
  List.filter_cons_of_neg (by simpa using h)

theorem exists_min_inv : ∀ (l : List (OpRec Op Ret)), l ≠ [] → ∃ m ∈ l, ∀ x ∈ l, m.inv ≤ x.inv
  | [], h => absurd rfl h
  | [a], _ => ⟨a, List.mem_cons_self, by intro x hx; simp at hx; subst hx; exact Nat.le_refl _⟩
  | a :: b :: t, _ => by
    obtain ⟨m, hm, hmin⟩ := exists_min_inv (b :: t) (by simp)
    by_cases h : a.inv ≤ m.inv
    · refine ⟨a, List.mem_cons_self, ?_⟩
      intro x hx
      rcases List.mem_cons.mp hx with rfl | hx
      · exact Nat.le_refl _
      · exact Nat.le_trans h (hmin x hx)
    · refine ⟨m, List.mem_cons_of_mem _ hm, ?_⟩
      intro x hx
      rcases List.mem_cons.mp hx with rfl | hx
      · omega
      · exact hmin x hx

variable [DecidableEq Op] [DecidableEq Ret]

/-- Locality, with the per-component linearizations given as a function.  The `init` field of the composite specification
    plays no part in `LinearizableFrom`, so it is left arbitrary and stays the same through the induction. -/
theorem locality_aux (spec : Spec σ Op Ret) (route : Op → Nat) (init : Nat → σ) :
    ∀ (n : Nat) (ops : List (OpRec Op Ret)) (s : Nat → σ) (perm : Nat → List (OpRec Op Ret)),
      ops.length = n → (∀ o ∈ ops, o.inv ≤ o.res) →
      (∀ i, (perm i).Perm (sub route i ops) ∧ RespectsRT (perm i) ∧ Legal spec (s i) (perm i)) →
      LinearizableFrom (prodSpec spec route init) s ops := by
  intro n
  induction n with
  | zero =>
    intro ops s perm hlen _ _
    rw [List.eq_nil_of_length_eq_zero hlen]
    exact .nil _ s
  | succ n ih =>
    intro ops s perm hlen hwf h
    -- the operations that come first in the linearization of their own component
    let heads := ops.filter fun o => (perm (route o.op)).head? == some o
    -- the linearization of the component of `o` begins with such an operation
    have head_of : ∀ o ∈ ops, ∃ a tl, perm (route o.op) = a :: tl ∧ a ∈ heads ∧ o ∈ a :: tl := by
      intro o ho
      have hmem : o ∈ perm (route o.op) := (h _).1.mem_iff.mpr (mem_sub.mpr ⟨ho, rfl⟩)
      cases hp : perm (route o.op) with
      | nil =>
        rw [hp] at hmem
        cases hmem
      | cons a tl =>
        obtain ⟨ha_ops, ha_route⟩ := mem_sub.mp ((h _).1.mem_iff.mp (hp ▸ List.mem_cons_self))
        refine ⟨a, tl, rfl, List.mem_filter.mpr ⟨ha_ops, ?_⟩, hp ▸ hmem⟩
        rw [ha_route, hp, List.head?_cons, beq_self_eq_true]
    obtain ⟨o, ho⟩ := List.exists_mem_of_ne_nil ops (by intro h0; rw [h0] at hlen; cases hlen)
    obtain ⟨a0, -, -, ha0, -⟩ := head_of o ho
    -- `m` is invoked first among them
    obtain ⟨m, hm, hmin⟩ := exists_min_inv heads (List.ne_nil_of_mem ha0)
    obtain ⟨hm_ops, hm_head⟩ := List.mem_filter.mp hm
    obtain ⟨tl, hperm_m⟩ : ∃ tl, perm (route m.op) = m :: tl := by
      cases hp : perm (route m.op) with
      | nil =>
        rw [hp] at hm_head
        cases hm_head
      | cons a t =>
        rw [hp, List.head?_cons, beq_iff_eq, Option.some.injEq] at hm_head
        exact ⟨t, by rw [hm_head]⟩
    -- so no operation precedes `m` in real time
    have hminimal : ∀ p ∈ ops, ¬ p.res < m.inv := by
      intro p hp
      obtain ⟨a, t, hpa, ha, hpin⟩ := head_of p hp
      have h1 : m.inv ≤ a.inv := hmin a ha
      have hrt := (h (route p.op)).2.1
      rw [hpa] at hrt
      rcases List.mem_cons.mp hpin with rfl | hpt
      · have := hwf p hp
        omega
      · have := (List.pairwise_cons.mp hrt).1 p hpt
        omega
    -- `m` is linearized first; the rest of its component's linearization serves for the remaining operations
    obtain ⟨hp_m, hrt_m, hleg_m⟩ := h (route m.op)
    rw [hperm_m] at hp_m hrt_m hleg_m
    obtain ⟨s1, hnext, hlegtl⟩ := hleg_m
    refine .cons hm_ops hminimal (prodSpec_next_eq_some.mpr ⟨s1, hnext, rfl⟩) ?_
    refine ih (ops.erase m) _ (fun i => if i = route m.op then tl else perm i) ?_ ?_ ?_
    · rw [List.length_erase_of_mem hm_ops, hlen]
      rfl
    · intro o ho
      exact hwf o (List.mem_of_mem_erase ho)
    · intro i
      have hfilt : (sub route i ops).Perm (sub route i (m :: ops.erase m)) := (List.perm_cons_erase hm_ops).filter _
      by_cases hi : i = route m.op
      · subst hi
        rw [sub_cons_of_eq _ rfl] at hfilt
        simp only [↓reduceIte]
        exact ⟨(hp_m.trans hfilt).cons_inv, (List.pairwise_cons.mp hrt_m).2, hlegtl⟩
      · rw [sub_cons_of_ne _ (Ne.symm hi)] at hfilt
        simp only [if_neg hi]
        exact ⟨(h i).1.trans hfilt, (h i).2.1, (h i).2.2⟩

/-- Locality from any state of the components, whatever the composite specification's initial state. -/
theorem locality_from (spec : Spec σ Op Ret) (route : Op → Nat) (init s : Nat → σ) (ops : List (OpRec Op Ret))
    (hwf : ∀ o ∈ ops, o.inv ≤ o.res)
    (h : ∀ i, LinearizableFrom spec (s i) (sub route i ops)) :
    LinearizableFrom (prodSpec spec route init) s ops := by
  obtain ⟨perm, hperm⟩ := Classical.axiomOfChoice h
  exact locality_aux spec route init ops.length ops s perm rfl hwf hperm

/-- **Locality.**  If, for every component, the operations routed to it form a linearizable history of the
    component specification (from that component's state), the whole history is linearizable for the
    composite object. -/
theorem locality (spec : Spec σ Op Ret) (route : Op → Nat) (s : Nat → σ) (ops : List (OpRec Op Ret))
    (hwf : ∀ o ∈ ops, o.inv ≤ o.res)
    (h : ∀ i, LinearizableFrom spec (s i) (sub route i ops)) :
    LinearizableFrom (prodSpec spec route s) s ops :=
  locality_from spec route s s ops hwf h

/-- Converse direction (projection): a linearization of the composite history restricts to every component. -/
theorem locality_proj (spec : Spec σ Op Ret) (route : Op → Nat) (init : Nat → σ) :
    ∀ (perm : List (OpRec Op Ret)) (s : Nat → σ) (i : Nat),
      Legal (prodSpec spec route init) s perm → Legal spec (s i) (sub route i perm) := by
  intro perm
  induction perm with
  | nil => intro _ _ _; trivial
  | cons a l ih =>
    intro s i ⟨s', hn, hl⟩
    obtain ⟨s1, hs, rfl⟩ := prodSpec_next_eq_some.mp hn
    have hrest := ih _ i hl
    by_cases hi : route a.op = i
    · subst hi
      rw [sub_cons_of_eq _ rfl]
      rw [if_pos rfl] at hrest
      exact ⟨s1, hs, hrest⟩
    · rw [sub_cons_of_ne _ hi]
      rw [if_neg (Ne.symm hi)] at hrest
      exact hrest

end CdsVerif.Lin
