/-
  Run histories and ghost logs: the part of a linearizability proof that does not depend on the machine.

  The history of a run is `SeqHistory.historyOf` of its observations, `SeqHistory.pendingOf` the operations still in
  progress at the end; both point at the right observations (`historyOf_sound`, `pendingOf_sound`).

  A ghost log (`List LE`) holds the operations that have passed their linearization point, in that order.  An entry is
  open (`res = none`) until its thread returns (`LE.close`); `runSpec spec` replays a log against a sequential
  specification, and a log that replays is a legal sequential history (`legal_of_runSpec`).  An entry may be tentative:
  its thread withdraws it later (`dropOpen`), which is sound when the entry does not change the specification state
  (`runSpec_dropOpen`).
-/
import CdsVerif.Base.SeqHistory

/-! ### The history of a run -/

namespace CdsVerif.SeqHistory
open CdsVerif.Machine CdsVerif.Spec CdsVerif.Lin

/-- The operations still in progress after the observations (the head has index `i`). -/
def pendAux : Nat → Pend → List (Tid × Obs) → Pend
  | _, pend, [] => pend
  | i, pend, (t, .call op) :: os => pendAux (i + 1) (upd pend t (some (op, i))) os
  | i, pend, (_, .ev _) :: os => pendAux (i + 1) pend os
  | i, pend, (t, .ret _) :: os =>
    match pend t with
    | some _ => pendAux (i + 1) (upd pend t none) os
    | none => pendAux (i + 1) pend os

/-- The operations pending at the end of a run: thread ↦ (operation, index of its `call`). -/
def pendingOf (os : List (Tid × Obs)) : Pend := pendAux 0 (fun _ => none) os

theorem histAux_mem : ∀ (os : List (Tid × Obs)) (i : Nat) (pend : Pend) (r : OpRec GOp GRet),
    r ∈ histAux i pend os →
    ∃ j, r.res = i + j ∧ os[j]? = some (r.tid, .ret r.ret) ∧
      (pend r.tid = some (r.op, r.inv) ∨
        ∃ j0, j0 < j ∧ r.inv = i + j0 ∧ os[j0]? = some (r.tid, .call r.op)) := by
  intro os
  induction os with
  | nil => intro i pend r h; simp [histAux] at h
  | cons x os ih =>
    intro i pend r h
    obtain ⟨t, o⟩ := x
    cases o with
    | call op =>
      simp only [histAux] at h
      obtain ⟨j, h1, h2, h3⟩ := ih _ _ r h
      refine ⟨j + 1, by omega, by simpa using h2, ?_⟩
      rcases h3 with h3 | ⟨j0, h4, h5, h6⟩
      · by_cases ht : r.tid = t
        · rw [ht] at h3; simp [upd] at h3
          right; exact ⟨0, by omega, by omega, by simp [ht, h3.1]⟩
        · left; simpa [upd, ht] using h3
      · right; exact ⟨j0 + 1, by omega, by omega, by simpa using h6⟩
    | ev e =>
      simp only [histAux] at h
      obtain ⟨j, h1, h2, h3⟩ := ih _ _ r h
      refine ⟨j + 1, by omega, by simpa using h2, ?_⟩
      rcases h3 with h3 | ⟨j0, h4, h5, h6⟩
      · left; exact h3
      · right; exact ⟨j0 + 1, by omega, by omega, by simpa using h6⟩
    | ret rv =>
      simp only [histAux] at h
      cases hp : pend t with
      | none =>
        simp only [hp] at h
        obtain ⟨j, h1, h2, h3⟩ := ih _ _ r h
        refine ⟨j + 1, by omega, by simpa using h2, ?_⟩
        rcases h3 with h3 | ⟨j0, h4, h5, h6⟩
        · left; exact h3
        · right; exact ⟨j0 + 1, by omega, by omega, by simpa using h6⟩
      | some p =>
        obtain ⟨op, k⟩ := p
        simp only [hp, List.mem_cons] at h
        rcases h with h | h
        · subst h
          exact ⟨0, by simp, by simp, Or.inl hp⟩
        · obtain ⟨j, h1, h2, h3⟩ := ih _ _ r h
          refine ⟨j + 1, by omega, by simpa using h2, ?_⟩
          rcases h3 with h3 | ⟨j0, h4, h5, h6⟩
          · by_cases ht : r.tid = t
            · rw [ht] at h3; simp [upd] at h3
            · left; simpa [upd, ht] using h3
          · right; exact ⟨j0 + 1, by omega, by omega, by simpa using h6⟩

/-- Every record of `historyOf os` is an operation of `os`: `inv` is the index of its call, `res` the index of its
    return, and the call precedes the return. -/
theorem historyOf_sound (os : List (Tid × Obs)) (r : OpRec GOp GRet) (h : r ∈ historyOf os) :
    os[r.inv]? = some (r.tid, .call r.op) ∧ os[r.res]? = some (r.tid, .ret r.ret) ∧ r.inv < r.res := by
  obtain ⟨j, h1, h2, h3⟩ := histAux_mem os 0 (fun _ => none) r h
  rcases h3 with h3 | ⟨j0, h4, h5, h6⟩
  · simp at h3
  · have e1 : r.res = j := by omega
    have e2 : r.inv = j0 := by omega
    rw [e1, e2]; exact ⟨h6, h2, h4⟩

theorem historyOf_wf (os : List (Tid × Obs)) : ∀ r ∈ historyOf os, r.inv ≤ r.res :=
  fun r hr => Nat.le_of_lt (historyOf_sound os r hr).2.2

theorem pendAux_some : ∀ (os : List (Tid × Obs)) (i : Nat) (pend : Pend) (t : Tid) (op : GOp) (k : Nat),
    pendAux i pend os t = some (op, k) →
    pend t = some (op, k) ∨ ∃ j0, k = i + j0 ∧ os[j0]? = some (t, .call op) := by
  intro os
  induction os with
  | nil => intro i pend t op k h; left; simpa [pendAux] using h
  | cons x os ih =>
    intro i pend t op k h
    obtain ⟨t1, o⟩ := x
    have shift : (∃ j0, k = i + 1 + j0 ∧ os[j0]? = some (t, .call op)) →
        ∃ j0, k = i + j0 ∧ ((t1, o) :: os)[j0]? = some (t, .call op) := by
      rintro ⟨j0, h1, h2⟩; exact ⟨j0 + 1, by omega, by simpa using h2⟩
    cases o with
    | call op1 =>
      simp only [pendAux] at h
      rcases ih _ _ t op k h with h3 | h3
      · by_cases ht : t = t1
        · subst ht; simp [upd] at h3
          right; exact ⟨0, by omega, by simp [h3.1]⟩
        · left; simpa [upd, ht] using h3
      · right; exact shift h3
    | ev e =>
      simp only [pendAux] at h
      rcases ih _ _ t op k h with h3 | h3
      · left; exact h3
      · right; exact shift h3
    | ret rv =>
      simp only [pendAux] at h
      cases hp : pend t1 with
      | none =>
        simp only [hp] at h
        rcases ih _ _ t op k h with h3 | h3
        · left; exact h3
        · right; exact shift h3
      | some p =>
        simp only [hp] at h
        rcases ih _ _ t op k h with h3 | h3
        · by_cases ht : t = t1
          · subst ht; simp [upd] at h3
          · left; simpa [upd, ht] using h3
        · right; exact shift h3

/-- A pending operation of `pendingOf os` is an operation of `os`: its `call` observation is at the recorded index. -/
theorem pendingOf_sound (os : List (Tid × Obs)) (t : Tid) (op : GOp) (k : Nat)
    (h : pendingOf os t = some (op, k)) : os[k]? = some (t, .call op) := by
  rcases pendAux_some os 0 (fun _ => none) t op k h with h3 | ⟨j0, h1, h2⟩
  · simp at h3
  · have : k = j0 := by omega
    rw [this]; exact h2

end CdsVerif.SeqHistory

namespace CdsVerif.GhostLog
open CdsVerif.Machine CdsVerif.Spec CdsVerif.Lin

/-! ### Ghost log -/

/-- A log entry: an operation that has passed its linearization point; `res = none` while it has not returned. -/
structure LE where
  tid : Nat
  op : GOp
  ret : GRet
  inv : Nat
  res : Option Nat
deriving DecidableEq, Repr

/-- Thread `t` returns at time `c`. -/
def LE.close (t c : Nat) (e : LE) : LE := if e.tid = t ∧ e.res = none then { e with res := some c } else e
/-- The history record of an entry; an entry that has not returned gets the response time `c`. -/
def LE.fin (c : Nat) (e : LE) : OpRec GOp GRet := ⟨e.tid, e.op, e.ret, e.inv, e.res.getD c⟩
def LE.done? (e : LE) : Option (OpRec GOp GRet) := e.res.map (fun r => ⟨e.tid, e.op, e.ret, e.inv, r⟩)

def completed (log : List LE) : List (OpRec GOp GRet) := log.filterMap LE.done?
def openOf (t : Nat) (log : List LE) : List LE := log.filter (fun e => decide (e.tid = t ∧ e.res = none))

section Replay
variable {σ : Type} (spec : Lin.Spec σ GOp GRet)

/-- Sequential replay of the logged operations and results. -/
def runSpec : σ → List LE → Option σ
  | st, [] => some st
  | st, e :: l => (spec.next st e.op e.ret).bind (fun st' => runSpec st' l)

theorem runSpec_append (l1 l2 : List LE) :
    ∀ st, runSpec spec st (l1 ++ l2) = (runSpec spec st l1).bind (fun st' => runSpec spec st' l2) := by
  induction l1 with
  | nil => intro st; simp [runSpec]
  | cons e l ih =>
    intro st
    simp only [List.cons_append, runSpec]
    cases spec.next st e.op e.ret with
    | none => simp
    | some st1 => simp [ih]

theorem runSpec_close (t c : Nat) (l : List LE) :
    ∀ st, runSpec spec st (l.map (LE.close t c)) = runSpec spec st l := by
  induction l with
  | nil => intro st; rfl
  | cons e l ih =>
    intro st
    have h1 : (LE.close t c e).op = e.op := by unfold LE.close; split <;> rfl
    have h2 : (LE.close t c e).ret = e.ret := by unfold LE.close; split <;> rfl
    simp only [List.map_cons, runSpec, h1, h2, ih]

theorem legal_of_runSpec (c : Nat) (l : List LE) :
    ∀ st st', runSpec spec st l = some st' → Legal spec st (l.map (LE.fin c)) := by
  induction l with
  | nil => intro st st' _; trivial
  | cons e l ih =>
    intro st st' h
    simp only [runSpec] at h
    cases hn : spec.next st e.op e.ret with
    | none => simp [hn] at h
    | some st1 =>
      simp only [hn, Option.bind_some] at h
      exact ⟨st1, hn, ih st1 st' h⟩

/-- The entry's operation, answering the logged result, leaves every state of the specification as it is. -/
def LE.ReadOnly (e : LE) : Prop := ∀ st st', spec.next st e.op e.ret = some st' → st' = st

/-- Read-only entries may be removed from a legal log. -/
theorem runSpec_filter (P : LE → Bool) (l : List LE) :
    ∀ st st', (∀ e ∈ l, P e = false → e.ReadOnly spec) → runSpec spec st l = some st' →
      runSpec spec st (l.filter P) = some st' := by
  induction l with
  | nil => intro st st' _ h; simpa [runSpec] using h
  | cons e l ih =>
    intro st st' hP h
    simp only [runSpec] at h
    cases hn : spec.next st e.op e.ret with
    | none => simp [hn] at h
    | some st1 =>
      simp only [hn, Option.bind_some] at h
      have hP' : ∀ e' ∈ l, P e' = false → e'.ReadOnly spec := fun e' he' => hP e' (List.mem_cons_of_mem _ he')
      simp only [List.filter_cons]
      cases hp : P e with
      | true =>
        simp only [if_true, runSpec, hn, Option.bind_some]
        exact ih st1 st' hP' h
      | false =>
        have := hP e (by simp) hp st st1 hn
        subst this
        simpa using ih st1 st' hP' h

end Replay

theorem openOf_append (t : Nat) (l1 l2 : List LE) : openOf t (l1 ++ l2) = openOf t l1 ++ openOf t l2 := by
  simp [openOf]

theorem openOf_close_same (t c : Nat) (l : List LE) : openOf t (l.map (LE.close t c)) = [] := by
  induction l with
  | nil => rfl
  | cons e l ih =>
    simp only [openOf, List.map_cons, List.filter_cons] at ih ⊢
    rw [ih]
    unfold LE.close
    split <;> simp_all

theorem openOf_close_other (t t2 c : Nat) (h : t2 ≠ t) (l : List LE) :
    openOf t2 (l.map (LE.close t c)) = openOf t2 l := by
  induction l with
  | nil => rfl
  | cons e l ih =>
    simp only [openOf, List.map_cons, List.filter_cons] at ih ⊢
    rw [ih]
    unfold LE.close
    split
    next hc => have : e.tid ≠ t2 := by omega
               simp [this]
    next => rfl

theorem completed_close (t c : Nat) (l : List LE) :
    (completed (l.map (LE.close t c))).Perm (completed l ++ (openOf t l).map (LE.fin c)) := by
  induction l with
  | nil => exact List.Perm.refl _
  | cons e l ih =>
    simp only [completed, openOf, List.map_cons, List.filterMap_cons, List.filter_cons] at ih ⊢
    by_cases hc : e.tid = t ∧ e.res = none
    · have h1 : (LE.close t c e).done? = some (LE.fin c e) := by
        simp [LE.close, hc, LE.done?, LE.fin]
      have h2 : e.done? = none := by simp [LE.done?, hc.2]
      simp only [h1, h2, hc, and_self, decide_true, if_true, List.map_cons]
      exact (List.Perm.cons _ ih).trans List.perm_middle.symm
    · have h1 : LE.close t c e = e := by simp [LE.close, hc]
      simp only [h1, hc, decide_false, Bool.false_eq_true, if_false]
      cases e.done? with
      | none => exact ih
      | some r => exact List.Perm.cons _ ih

/-! ### Withdrawing tentative entries -/

/-- Remove the entries of thread `t` that have not returned (its tentative entry). -/
def dropOpen (t : Nat) (log : List LE) : List LE := log.filter (fun e => !decide (e.tid = t ∧ e.res = none))

theorem dropOpen_sublist (t : Nat) (log : List LE) : (dropOpen t log).Sublist log := List.filter_sublist

theorem mem_dropOpen {t : Nat} {log : List LE} {e : LE} (h : e ∈ dropOpen t log) : e ∈ log :=
  (dropOpen_sublist t log).subset h

theorem openOf_dropOpen_same (t : Nat) (l : List LE) : openOf t (dropOpen t l) = [] := by
  simp only [openOf, dropOpen, List.filter_filter]
  apply List.filter_eq_nil_iff.mpr
  intro e _
  by_cases hc : e.tid = t ∧ e.res = none <;> simp [hc]

theorem openOf_dropOpen_other (t t2 : Nat) (h : t2 ≠ t) (l : List LE) : openOf t2 (dropOpen t l) = openOf t2 l := by
  simp only [openOf, dropOpen, List.filter_filter]
  apply List.filter_congr
  intro e _
  by_cases hc : e.tid = t2 ∧ e.res = none
  · simp [hc, h]
  · simp [hc]

theorem completed_filter_open (P : LE → Bool) (l : List LE) (hP : ∀ e ∈ l, P e = false → e.res = none) :
    completed (l.filter P) = completed l := by
  induction l with
  | nil => rfl
  | cons e l ih =>
    have hP' : ∀ e' ∈ l, P e' = false → e'.res = none := fun e' he' => hP e' (List.mem_cons_of_mem _ he')
    simp only [completed, List.filter_cons] at ih ⊢
    cases hp : P e with
    | true => simp only [if_true, List.filterMap_cons]; rw [ih hP']
    | false =>
      have hr := hP e (by simp) hp
      simp only [Bool.false_eq_true, if_false, List.filterMap_cons, LE.done?, hr, Option.map_none]
      exact ih hP'

theorem completed_dropOpen (t : Nat) (l : List LE) : completed (dropOpen t l) = completed l := by
  apply completed_filter_open
  intro e _ h
  by_cases hc : e.tid = t ∧ e.res = none
  · exact hc.2
  · simp [hc] at h

theorem runSpec_dropOpen {σ : Type} (spec : Lin.Spec σ GOp GRet) (t : Nat) (l : List LE) (st st' : σ)
    (h0 : ∀ e ∈ openOf t l, e.ReadOnly spec) (h : runSpec spec st l = some st') :
    runSpec spec st (dropOpen t l) = some st' := by
  apply runSpec_filter spec _ _ _ _ _ h
  intro e he hp
  apply h0
  simp only [openOf, List.mem_filter]
  refine ⟨he, ?_⟩
  by_cases hc : e.tid = t ∧ e.res = none
  · simp [hc]
  · simp [hc] at hp

/-! ### From the ghost log to a linearization -/

/-- Logged operations that have not returned. -/
def openAll (log : List LE) : List LE := log.filter (fun e => !e.res.isSome)

theorem completed_openAll_perm (c : Nat) (l : List LE) :
    (completed l ++ (openAll l).map (LE.fin c)).Perm (l.map (LE.fin c)) := by
  induction l with
  | nil => exact List.Perm.refl _
  | cons e l ih =>
    simp only [completed, openAll, List.filterMap_cons, List.filter_cons, List.map_cons] at ih ⊢
    cases hr : e.res with
    | none =>
      simp only [LE.done?, hr, Option.map_none, Option.isSome_none, Bool.not_false, if_true, List.map_cons]
      exact List.perm_middle.trans (List.Perm.cons _ ih)
    | some r =>
      have : LE.fin c e = ⟨e.tid, e.op, e.ret, e.inv, r⟩ := by simp [LE.fin, hr]
      simp only [LE.done?, hr, Option.map_some, Option.isSome_some, Bool.not_true, Bool.false_eq_true, if_false,
        List.cons_append, this]
      exact List.Perm.cons _ ih

theorem openAll_pairwise (l : List LE) (h : ∀ t, (openOf t l).length ≤ 1) :
    (openAll l).Pairwise (fun a b => a.tid ≠ b.tid) := by
  induction l with
  | nil => exact List.Pairwise.nil
  | cons e l ih =>
    have hl : ∀ t, (openOf t l).length ≤ 1 := by
      intro t
      have h1 := h t
      have h2 : (openOf t l).length ≤ (openOf t (e :: l)).length := by
        simp only [openOf, List.filter_cons]; split <;> simp
      omega
    simp only [openAll, List.filter_cons]
    split
    next hr =>
      refine List.Pairwise.cons ?_ (ih hl)
      intro b hb hne
      have hb' := List.mem_filter.mp hb
      have hr' : e.res = none := by cases h : e.res <;> simp_all
      have hbr : b.res = none := by cases h : b.res <;> simp_all
      have hmem : b ∈ openOf e.tid l := by
        simp only [openOf, List.mem_filter]
        exact ⟨hb'.1, by simp [hne, hbr]⟩
      have := h e.tid
      simp only [openOf, List.filter_cons, hr', and_self, decide_true, if_true, List.length_cons] at this
      have hpos : 0 < (openOf e.tid l).length := List.length_pos_of_mem hmem
      simp only [openOf] at hpos
      omega
    next => exact ih hl

/-- Ghost runs keep the list of states passed so far; appending a state does not disturb the earlier ones. -/
theorem getElem?_snoc_of_some {α : Type} {l : List α} {j : Nat} {x y : α} (h : l[j]? = some x) :
    (l ++ [y])[j]? = some x := by
  have hj : j < l.length := by
    cases hlt : decide (j < l.length) with
    | true => simpa using hlt
    | false => simp at hlt; rw [List.getElem?_eq_none hlt] at h; simp at h
  rw [List.getElem?_append_left hj]; exact h

end CdsVerif.GhostLog
