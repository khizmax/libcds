/-
  Small-step machines for the protocol models (tie A and the interleaving theorems).

  A model is a deterministic-per-thread transition system: what a thread does next is a
  function of the global state; the *schedule* (which thread moves, which operation a
  client invokes) is the only source of non-determinism, and every theorem quantifies
  over all schedules, all thread counts and all client programs.

  One `step` of thread `t` is "everything `t` does up to and including its next atomic
  operation on shared memory", and yields the event that the instrumented real code
  writes to the trace (`T <tid> A <kind> <loc> <a> [<b>]`).
-/
import CdsVerif.Base.Spec
namespace CdsVerif.Machine
open CdsVerif.Spec

abbrev Tid := Nat

/-- An atomic event in the rendering of the harness trace. -/
structure Ev where
  kind : String          -- ld st xchg cas+ cas- add sub and or xor fence
  loc : String
  a : String := ""       -- ld: value read; st: value written; xchg/cas+/rmw: old value; cas-: value seen
  b : String := ""       -- xchg/cas+: new value; cas-: expected value; rmw: argument
deriving DecidableEq, Repr

instance : ToString Ev where
  toString e := s!"{e.kind} {e.loc} {e.a} {e.b}".trimAscii.toString

/-- What a scheduler may ask of a thread. -/
inductive Act
  | invoke (op : GOp)    -- the client calls an operation (thread must be idle)
  | step                 -- the thread performs its next atomic operation
  | ret                  -- the operation returns to the client
deriving DecidableEq, Repr

/-- Observable outcome of an action. -/
inductive Obs
  | call (op : GOp)
  | ev (e : Ev)
  | ret (r : GRet)
deriving DecidableEq, Repr

structure Model (σ : Type) where
  invoke : σ → Tid → GOp → Option σ
  step : σ → Tid → Option (σ × Ev)
  result : σ → Tid → Option (σ × GRet)

variable {σ : Type}

def Model.apply (m : Model σ) (s : σ) (t : Tid) : Act → Option (σ × Obs)
  | .invoke op => (m.invoke s t op).map (fun s' => (s', .call op))
  | .step => (m.step s t).map (fun r => (r.1, .ev r.2))
  | .ret => (m.result s t).map (fun r => (r.1, .ret r.2))

/-- Run a schedule; a schedule that asks for a disabled action is not a run. -/
def Model.run (m : Model σ) : σ → List (Tid × Act) → Option (σ × List (Tid × Obs))
  | s, [] => some (s, [])
  | s, (t, a) :: rest =>
    match m.apply s t a with
    | none => none
    | some (s', o) =>
      match m.run s' rest with
      | none => none
      | some (s'', os) => some (s'', (t, o) :: os)

def Model.Reachable (m : Model σ) (init s : σ) : Prop :=
  ∃ sched os, m.run init sched = some (s, os)

/-- An enabled action is an enabled `invoke`, `step` or `result` of the model, with the matching observation. -/
theorem Model.apply_cases {m : Model σ} {s s' : σ} {t : Tid} {a : Act} {o : Obs} (h : m.apply s t a = some (s', o)) :
    (∃ op, a = .invoke op ∧ m.invoke s t op = some s' ∧ o = .call op) ∨
    (∃ e, a = .step ∧ m.step s t = some (s', e) ∧ o = .ev e) ∨
    (∃ r, a = .ret ∧ m.result s t = some (s', r) ∧ o = .ret r) := by
  cases a <;> simp only [Model.apply, Option.map_eq_some_iff, Prod.mk.injEq] at h
  · obtain ⟨_, hi, rfl, rfl⟩ := h
    exact .inl ⟨_, rfl, hi, rfl⟩
  · obtain ⟨⟨_, e⟩, hs, rfl, rfl⟩ := h
    exact .inr (.inl ⟨e, rfl, hs, rfl⟩)
  · obtain ⟨⟨_, r⟩, hr, rfl, rfl⟩ := h
    exact .inr (.inr ⟨r, rfl, hr, rfl⟩)

theorem Model.run_nil {m : Model σ} {s s' : σ} {os : List (Tid × Obs)} :
    m.run s [] = some (s', os) ↔ s' = s ∧ os = [] := by
  simp [Model.run, eq_comm]

theorem Model.run_cons {m : Model σ} {s s' : σ} {t : Tid} {a : Act} {rest : List (Tid × Act)}
    {os : List (Tid × Obs)} :
    m.run s ((t, a) :: rest) = some (s', os) ↔
      ∃ s1 o os1, m.apply s t a = some (s1, o) ∧ m.run s1 rest = some (s', os1) ∧ os = (t, o) :: os1 := by
  constructor
  · intro h
    simp only [Model.run] at h
    split at h
    · cases h
    · next s1 o hap =>
      split at h
      · cases h
      · next os1 hr => cases h; exact ⟨s1, o, os1, hap, hr, rfl⟩
  · rintro ⟨s1, o, os1, hap, hr, rfl⟩
    simp only [Model.run, hap, hr]

/-- Induction on a run: `induction s, sched, s', os, h using Model.run_induction`. -/
theorem Model.run_induction {m : Model σ}
    {motive : (s : σ) → (sched : List (Tid × Act)) → (s' : σ) → (os : List (Tid × Obs)) →
      m.run s sched = some (s', os) → Prop}
    (nil : ∀ s, motive s [] s [] rfl)
    (cons : ∀ s t a s1 o rest s' os (hap : m.apply s t a = some (s1, o)) (hr : m.run s1 rest = some (s', os)),
      motive s1 rest s' os hr →
        motive s ((t, a) :: rest) s' ((t, o) :: os) (Model.run_cons.mpr ⟨s1, o, os, hap, hr, rfl⟩))
    (s : σ) (sched : List (Tid × Act)) (s' : σ) (os : List (Tid × Obs)) (h : m.run s sched = some (s', os)) :
    motive s sched s' os h := by
  induction sched generalizing s os with
  | nil =>
    obtain ⟨rfl, rfl⟩ := Model.run_nil.mp h
    exact nil s'
  | cons x rest ih =>
    obtain ⟨t, a⟩ := x
    obtain ⟨s1, o, os1, hap, hr, rfl⟩ := Model.run_cons.mp h
    exact cons s t a s1 o rest s' os1 hap hr (ih s1 os1 hr)

/-- An invariant preserved by every enabled action holds in every reachable state. -/
theorem Model.inv_of_inductive (m : Model σ) (Inv : σ → Prop)
    (hstep : ∀ s t a s' o, Inv s → m.apply s t a = some (s', o) → Inv s') :
    ∀ (sched : List (Tid × Act)) (s s' : σ) os, Inv s → m.run s sched = some (s', os) → Inv s' := by
  intro sched s s' os h hr
  induction s, sched, s', os, hr using Model.run_induction with
  | nil => exact h
  | cons s t a s1 o _ _ _ hap _ ih => exact ih (hstep s t a s1 o h hap)

theorem Model.inv_reachable (m : Model σ) (Inv : σ → Prop) (init : σ) (h0 : Inv init)
    (hstep : ∀ s t a s' o, Inv s → m.apply s t a = some (s', o) → Inv s') :
    ∀ s, m.Reachable init s → Inv s := by
  intro s ⟨sched, os, hr⟩
  exact m.inv_of_inductive Inv hstep sched init s os h0 hr

/-- Runs compose. -/
theorem Model.run_append {m : Model σ} {a b c : σ} {l1 l2 : List (Tid × Act)} {o1 o2 : List (Tid × Obs)}
    (h1 : m.run a l1 = some (b, o1)) (h2 : m.run b l2 = some (c, o2)) :
    m.run a (l1 ++ l2) = some (c, o1 ++ o2) := by
  induction a, l1, b, o1, h1 using Model.run_induction with
  | nil => exact h2
  | cons s t x s1 o rest _ os hap _ ih => exact Model.run_cons.mpr ⟨s1, o, os ++ o2, hap, ih h2, rfl⟩

/-- A property of every action taken from a state that satisfies an inductive invariant holds of every entry of the
    observation list of every run. -/
theorem Model.obs_of_inductive (m : Model σ) (I : σ → Prop) (P : Tid → Obs → Prop)
    (hstep : ∀ s t a s' o, I s → m.apply s t a = some (s', o) → I s')
    (hobs : ∀ s t a s' o, I s → m.apply s t a = some (s', o) → P t o) :
    ∀ (sched : List (Tid × Act)) (s s' : σ) os, I s → m.run s sched = some (s', os) →
      ∀ x ∈ os, P x.1 x.2 := by
  intro sched s s' os h hr
  induction s, sched, s', os, hr using Model.run_induction with
  | nil => nofun
  | cons s t a s1 o _ _ _ hap _ ih =>
    intro y hy
    rcases List.mem_cons.mp hy with e | e
    · exact e ▸ hobs s t a s1 o h hap
    · exact ih (hstep s t a s1 o h hap) y e

/-- A property that every enabled action preserves in the states of an inductive invariant is stable along every run
    that starts in such a state. -/
theorem Model.stable_of_inductive (m : Model σ) (Inv Q : σ → Prop)
    (hstep : ∀ s t a s' o, Inv s → m.apply s t a = some (s', o) → Inv s')
    (hQ : ∀ s t a s' o, Inv s → Q s → m.apply s t a = some (s', o) → Q s') :
    ∀ (sched : List (Tid × Act)) (s s' : σ) os, Inv s → Q s → m.run s sched = some (s', os) → Q s' :=
  fun sched s s' os h hq hr =>
    (m.inv_of_inductive (fun x => Inv x ∧ Q x)
      (fun x t a x' o hx hap => ⟨hstep x t a x' o hx.1 hap, hQ x t a x' o hx.1 hx.2 hap⟩)
      sched s s' os ⟨h, hq⟩ hr).2

/-- A model `mR` whose states carry a parameter `key s` beside a state `st s` of the model `m (key s)`, and whose
    actions are actions of that model which keep the parameter: its runs are runs of that model. -/
theorem Model.run_lift {ρ κ : Type} (mR : Model ρ) (m : κ → Model σ) (key : ρ → κ) (st : ρ → σ)
    (h : ∀ s t a s1 o, mR.apply s t a = some (s1, o) →
      key s1 = key s ∧ ∃ o', (m (key s)).apply (st s) t a = some (st s1, o')) (sched : List (Tid × Act))
    (s s' : ρ) (os : List (Tid × Obs)) (hr : mR.run s sched = some (s', os)) :
    key s' = key s ∧ ∃ os', (m (key s)).run (st s) sched = some (st s', os') := by
  induction s, sched, s', os, hr using Model.run_induction with
  | nil => exact ⟨rfl, [], rfl⟩
  | cons s t a s1 o _ _ _ hap _ ih =>
    obtain ⟨hc, o', ho⟩ := h s t a s1 o hap
    obtain ⟨hc2, os', hr'⟩ := ih
    exact ⟨hc2.trans hc, (t, o') :: os', Model.run_cons.mpr ⟨_, o', os', ho, hc ▸ hr', rfl⟩⟩

/-- Functional update of a per-thread or per-object table. -/
def upd {α : Type} (f : Nat → α) (i : Nat) (v : α) : Nat → α := fun j => if j = i then v else f j

@[simp] theorem upd_same {α : Type} (f : Nat → α) (i : Nat) (v : α) : upd f i v i = v := by simp [upd]
@[simp] theorem upd_other {α : Type} (f : Nat → α) (i j : Nat) (v : α) (h : j ≠ i) : upd f i v j = f j := by simp [upd, h]

/-- Functional update of a two-index table. -/
def upd2 {α : Type} (f : Nat → Nat → α) (i j : Nat) (v : α) : Nat → Nat → α :=
  fun i' j' => if i' = i ∧ j' = j then v else f i' j'

variable {α β : Type}

theorem upd_upd (f : Nat → α) (i : Nat) (v w : α) : upd (upd f i v) i w = upd f i w :=
  funext fun j => by
    by_cases e : j = i
    · rw [e, upd_same, upd_same]
    · rw [upd_other _ _ _ _ e, upd_other _ _ _ _ e, upd_other _ _ _ _ e]

theorem upd_eq_self {f : Nat → α} {i : Nat} {v : α} (h : f i = v) : upd f i v = f :=
  funext fun j => by
    by_cases e : j = i
    · rw [e, upd_same, h]
    · exact upd_other _ _ _ _ e

theorem eq_of_upd_ne {f : Nat → α} {i j : Nat} {v : α} (h : upd f i v j ≠ f j) : j = i :=
  Classical.byContradiction fun e => h (upd_other _ _ _ _ e)

theorem upd_true {f : Nat → Bool} {i j : Nat} (h : f j = true) : upd f i true j = true := by
  by_cases e : j = i
  · rw [e, upd_same]
  · rw [upd_other _ _ _ _ e, h]

theorem comp_upd (g : α → β) (f : Nat → α) (i : Nat) (v : α) :
    (fun j => g (upd f i v j)) = upd (fun j => g (f j)) i (g v) :=
  funext fun j => by
    by_cases e : j = i
    · rw [e, upd_same, upd_same]
    · rw [upd_other _ _ _ _ e, upd_other _ _ _ _ e]

theorem upd2_same (f : Nat → Nat → α) (i j : Nat) (v : α) : upd2 f i j v i j = v := by simp [upd2]

theorem upd2_other (f : Nat → Nat → α) (i j i' j' : Nat) (v : α) (h : ¬ (i' = i ∧ j' = j)) :
    upd2 f i j v i' j' = f i' j' := by simp [upd2, h]

/-- A write to entry `(i, j)` changes row `i` at `j`, no other row, and no other column. -/
theorem upd2_row_eq (f : Nat → Nat → α) (i j : Nat) (v : α) : upd2 f i j v i = upd (f i) j v :=
  funext fun j' => by simp [upd2, upd]

theorem upd2_row_ne (f : Nat → Nat → α) (i j : Nat) (v : α) (i' : Nat) (h : i' ≠ i) : upd2 f i j v i' = f i' :=
  funext fun _ => if_neg fun e => h e.1

theorem upd2_col_ne (f : Nat → Nat → α) (i : Nat) {j j' : Nat} (v : α) (i' : Nat) (h : j' ≠ j) :
    upd2 f i j v i' j' = f i' j' :=
  if_neg fun e => h e.2

/-! ### One entry of a table changes

  A step of thread `t` rewrites entry `t` of the table of program counters.  A clause about every thread, or about
  every two threads, then has to be shown for the new entry, against the old entries of the others. -/

section
variable {f f' : Nat → α} {t : Nat} {w : α} {T : Nat → α → Prop} {E : α → α → Prop} {g : α → Option β}

/-- A clause about each thread. -/
theorem frame_each (hf : ∀ u, u ≠ t → f' u = f u) (hT : T t (f' t)) (hO : ∀ u, u ≠ t → T u (f u)) (u : Nat) :
    T u (f' u) := by
  by_cases hu : u = t
  · rw [hu]
    exact hT
  · rw [hf u hu]
    exact hO u hu

/-- A symmetric clause about every two threads. -/
theorem frame_pairs (hsymm : ∀ {p q}, E p q → E q p) (hf : ∀ u, u ≠ t → f' u = f u)
    (hE : ∀ u v, u ≠ v → E (f u) (f v)) (hN : ∀ u, u ≠ t → E (f' t) (f u)) {u v : Nat} (huv : u ≠ v) :
    E (f' u) (f' v) := by
  by_cases hu : u = t
  · have hv : v ≠ t := fun e => huv (hu.trans e.symm)
    rw [hu, hf v hv]
    exact hN v hv
  · rw [hf u hu]
    by_cases hv : v = t
    · rw [hv]
      exact hsymm (hN u hu)
    · rw [hf v hv]
      exact hE u v huv

/-- No two threads own the same thing. -/
theorem frame_own (hf : ∀ u, u ≠ t → f' u = f u) (hown : ∀ u v n, g (f u) = some n → g (f v) = some n → u = v)
    (hN : ∀ u, u ≠ t → ∀ n, g (f' t) = some n → g (f u) ≠ some n) (u v : Nat) (n : β) (eu : g (f' u) = some n)
    (ev : g (f' v) = some n) : u = v :=
  Classical.byContradiction fun huv =>
    frame_pairs (E := fun p q => ∀ n, g p = some n → g q ≠ some n) (fun h n eq ep => h n ep eq) hf
      (fun u v huv n eu ev => huv (hown u v n eu ev)) hN huv n eu ev

theorem forall_upd (hT : T t w) (hO : ∀ u, u ≠ t → T u (f u)) : ∀ u, T u (upd f t w u) :=
  frame_each (fun u => upd_other f t u w) ((upd_same f t w).symm ▸ hT) hO

theorem forall_upd_iff : (∀ u, T u (upd f t w u)) ↔ T t w ∧ ∀ u, u ≠ t → T u (f u) :=
  ⟨fun h => ⟨upd_same f t w ▸ h t, fun u hu => upd_other f t u w hu ▸ h u⟩, fun h => forall_upd h.1 h.2⟩

theorem pairs_upd (hsymm : ∀ {p q}, E p q → E q p) (hE : ∀ u v, u ≠ v → E (f u) (f v))
    (hN : ∀ u, u ≠ t → E w (f u)) {u v : Nat} (huv : u ≠ v) : E (upd f t w u) (upd f t w v) :=
  frame_pairs (E := E) (f := f) (f' := upd f t w) hsymm (fun u => upd_other f t u w) hE
    ((upd_same f t w).symm ▸ hN) huv

theorem own_upd (hown : ∀ u v n, g (f u) = some n → g (f v) = some n → u = v)
    (hN : ∀ u, u ≠ t → ∀ n, g w = some n → g (f u) ≠ some n) :
    ∀ u v n, g (upd f t w u) = some n → g (upd f t w v) = some n → u = v :=
  frame_own (g := g) (f := f) (f' := upd f t w) (fun u => upd_other f t u w) hown
    ((upd_same f t w).symm ▸ hN)

/-- A classification on which the old and the new entry of `t` agree is the same for every thread. -/
theorem upd_view {γ : Type} {c : α → γ} (h : c w = c (f t)) (u : Nat) : c (upd f t w u) = c (f u) :=
  forall_upd (T := fun u x => c x = c (f u)) h (fun _ _ => rfl) u

end

end CdsVerif.Machine
