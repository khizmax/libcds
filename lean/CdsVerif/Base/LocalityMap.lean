/-
  A hash table built from independent per-bucket maps is a map.

  `hashed_map_linearizable`: let every keyed operation (insert / update / upsert_keep / erase / extract / find /
  contains) be routed to bucket `h key`.  If, for every bucket, the operations routed to it form a linearizable
  history of `Spec.map`, then the whole history is a linearizable history of `Spec.map`.  It combines locality
  (`Base/Locality.lean`) with the observation that the one-table map and the family of bucket maps agree on
  every key (`Agree`), which every keyed operation preserves.

  Operations that look at the whole table (extract_min / extract_max / size / empty / clear) are outside the
  statement: `keyOf` gives them no key.
-/
import CdsVerif.Base.Locality
import CdsVerif.Base.SeqHistory
namespace CdsVerif.Spec
open CdsVerif.Lin

/-- the key a keyed operation works on -/
def keyOf (op : GOp) : Option Int :=
  match op.name, op.args with
  | "insert", [k, _] => some k
  | "update", [k, _, _] => some k
  | "upsert_keep", [k, _, _] => some k
  | "erase", [k] => some k
  | "extract", [k] => some k
  | "find", [k] => some k
  | "contains", [k] => some k
  | _, _ => none

def routeBy (h : Int → Nat) (op : GOp) : Nat :=
  match keyOf op with
  | some k => h k
  | none => 0

/-- what a keyed operation does to the entry of its key -/
inductive Eff
  | keep
  | put (v : Int)
  | del
deriving DecidableEq, Repr

def applyEff (e : Eff) (m : MapSt) (k : Int) : MapSt :=
  match e with
  | .keep => m
  | .put v => (k, v) :: merase m k
  | .del => merase m k

/-- effect and result of a keyed operation as a function of the current entry of its key -/
def effect (op : GOp) (cur : Option Int) : Option (Eff × GRet) :=
  match op.name, op.args with
  | "insert", [_, v] => match cur with
    | some _ => some (.keep, [0])
    | none => some (.put v, [1])
  | "update", [_, v, allow] => match cur with
    | some _ => some (.put v, [1, 0])
    | none => if allow ≠ 0 then some (.put v, [1, 1]) else some (.keep, [0, 0])
  | "upsert_keep", [_, v, allow] => match cur with
    | some _ => some (.keep, [1, 0])
    | none => if allow ≠ 0 then some (.put v, [1, 1]) else some (.keep, [0, 0])
  | "erase", [_] => match cur with
    | some v => some (.del, [1, v])
    | none => some (.keep, [0])
  | "extract", [_] => match cur with
    | some v => some (.del, [1, v])
    | none => some (.keep, [0])
  | "find", [_] => match cur with
    | some v => some (.keep, [1, v])
    | none => some (.keep, [0])
  | "contains", [_] => some (.keep, [if cur.isSome then 1 else 0])
  | _, _ => none

theorem mfind_cons (m : MapSt) (k v k' : Int) :
    mfind ((k, v) :: m) k' = if k = k' then some v else mfind m k' := by
  unfold mfind
  by_cases h : k = k'
  · subst h; simp
  · have : (k == k') = false := by simpa using h
    simp [this, h]

theorem mfind_merase (m : MapSt) (k k' : Int) :
    mfind (merase m k) k' = if k = k' then none else mfind m k' := by
  unfold mfind merase
  induction m with
  | nil => simp
  | cons e t ih =>
    simp only [List.filter_cons, List.find?_cons]
    grind

/-- the entry of key `k'` after a keyed operation on `k` -/
theorem mfind_applyEff (e : Eff) (m : MapSt) (k k' : Int) :
    mfind (applyEff e m k) k' =
      if k = k' then (match e with | .keep => mfind m k | .put v => some v | .del => none) else mfind m k' := by
  cases e with
  | keep => by_cases h : k = k' <;> simp [applyEff, h]
  | put v =>
    simp only [applyEff, mfind_cons, mfind_merase]
    by_cases h : k = k' <;> simp [h]
  | del => simp only [applyEff, mfind_merase]

def effFind (e : Eff) (cur : Option Int) : Option Int :=
  match e with
  | .keep => cur
  | .put v => some v
  | .del => none

theorem mfind_applyEff_effFind (e : Eff) (m : MapSt) (k k' : Int) :
    mfind (applyEff e m k) k' = if k = k' then effFind e (mfind m k) else mfind m k' := by
  rw [mfind_applyEff]
  cases e <;> rfl

theorem merase_of_mfind_none {m : MapSt} {k : Int} (h : mfind m k = none) : merase m k = m := by
  rw [mfind, Option.map_eq_none_iff, List.find?_eq_none] at h
  exact List.filter_eq_self.mpr fun e he => by simpa using h e he

/-- A keyed step of the map specification is decided by the current entry of its key: `effect` gives the result and what
    happens to that entry. -/
theorem mapStep_keyed (m : MapSt) (op : GOp) (k : Int) (hk : keyOf op = some k) :
    mapStep m op = (effect op (mfind m k)).map fun er => (applyEff er.1 m k, er.2) := by
  unfold keyOf at hk
  split at hk <;> cases hk
  all_goals
    rename_i hn ha
    simp only [mapStep, effect, hn, ha]
    cases hf : mfind m k
    · -- where the key has no entry `mapStep` conses onto `m` itself, `applyEff` onto `merase m k`
      have hm : merase m k = m := merase_of_mfind_none hf
      simp only [applyEff, hm, apply_ite (Option.map _), Option.map_some]
    · rfl

/-- A keyed step seen through the entry of its key: the result and the entries of the new state are determined by
    `effect op (mfind m k)`. -/
theorem mapStep_effect (m m' : MapSt) (op : GOp) (r : GRet) (k : Int) (hk : keyOf op = some k)
    (hs : mapStep m op = some (m', r)) :
    ∃ e, effect op (mfind m k) = some (e, r) ∧
      ∀ k', mfind m' k' = if k = k' then effFind e (mfind m k) else mfind m k' := by
  rw [mapStep_keyed m op k hk] at hs
  obtain ⟨⟨e, r'⟩, he, heq⟩ := Option.map_eq_some_iff.mp hs
  cases heq
  exact ⟨e, he, mfind_applyEff_effFind e m k⟩

/-- Conversely, the effect being defined means the step is. -/
theorem effect_mapStep (m : MapSt) (op : GOp) (e : Eff) (r : GRet) (k : Int) (hk : keyOf op = some k)
    (he : effect op (mfind m k) = some (e, r)) : ∃ m', mapStep m op = some (m', r) :=
  ⟨applyEff e m k, by rw [mapStep_keyed m op k hk, he]; rfl⟩

/-- A keyed step changes the entry of its own key only. -/
theorem mapStep_frame {m m' : MapSt} {op : GOp} {r : GRet} {k : Int} (hk : keyOf op = some k)
    (hs : mapStep m op = some (m', r)) (k' : Int) (hne : k ≠ k') : mfind m' k' = mfind m k' := by
  obtain ⟨e, -, hfind⟩ := mapStep_effect m m' op r k hk hs
  rw [hfind k', if_neg hne]

/-- Two maps with the same entry for the key of a keyed operation answer it alike, and have the same entry afterwards. -/
theorem mapStep_transfer {m b b' : MapSt} {op : GOp} {r : GRet} {k : Int} (hk : keyOf op = some k)
    (hag : mfind m k = mfind b k) (hs : mapStep b op = some (b', r)) :
    ∃ m', mapStep m op = some (m', r) ∧ mfind m' k = mfind b' k := by
  obtain ⟨e, he, hfind_b⟩ := mapStep_effect b b' op r k hk hs
  refine ⟨applyEff e m k, by rw [mapStep_keyed m op k hk, hag, he]; rfl, ?_⟩
  rw [mfind_applyEff_effFind, hfind_b k, if_pos rfl, if_pos rfl, hag]

/-- The one-table map `m` and the family of bucket maps `s` hold the same entry for every key. -/
def Agree (h : Int → Nat) (m : MapSt) (s : Nat → MapSt) : Prop := ∀ k, mfind m k = mfind (s (h k)) k

theorem map_next_iff (m m' : MapSt) (op : GOp) (r : GRet) :
    map.next m op r = some m' ↔ mapStep m op = some (m', r) :=
  SeqHistory.detSpec_next_iff [] mapStep m m' op r

theorem routeBy_of_key (h : Int → Nat) (op : GOp) (k : Int) (hk : keyOf op = some k) : routeBy h op = h k := by
  simp [routeBy, hk]

/-- A legal execution of the family of bucket maps is a legal execution of the one-table map. -/
theorem legal_transfer (h : Int → Nat) (init : Nat → MapSt) :
    ∀ (perm : List (OpRec GOp GRet)) (m : MapSt) (s : Nat → MapSt),
      (∀ o ∈ perm, (keyOf o.op).isSome = true) → Agree h m s →
      Legal (prodSpec map (routeBy h) init) s perm → Legal map m perm := by
  intro perm
  induction perm with
  | nil => intro _ _ _ _ _; trivial
  | cons a l ih =>
    intro m s hkeyed hag ⟨s', hn, hl⟩
    obtain ⟨k, hk⟩ : ∃ k, keyOf a.op = some k := Option.isSome_iff_exists.mp (hkeyed a List.mem_cons_self)
    obtain ⟨b', hb, rfl⟩ := prodSpec_next_eq_some.mp hn
    rw [routeBy_of_key h a.op k hk] at hb hl
    have hstepb := (map_next_iff _ _ _ _).mp hb
    obtain ⟨m', hstepm, hmk'⟩ := mapStep_transfer hk (hag k) hstepb
    refine ⟨m', (map_next_iff _ _ _ _).mpr hstepm, ?_⟩
    refine ih m' _ (fun o ho => hkeyed o (List.mem_cons_of_mem _ ho)) (fun k' => ?_) hl
    -- the step changed the entry of `k` only, in the table and in the bucket of `k`
    show mfind m' k' = mfind (if h k' = h k then b' else s (h k')) k'
    by_cases hkk : k = k'
    · subst hkk
      rw [if_pos rfl, hmk']
    · rw [mapStep_frame hk hstepm k' hkk, hag k']
      by_cases hh : h k' = h k
      · rw [if_pos hh, mapStep_frame hk hstepb k' hkk, hh]
      · rw [if_neg hh]

/-- **A hash table of linearizable bucket maps is a linearizable map.**  `h` is the bucket function; every
    operation of the history is keyed; for every bucket the operations on keys of that bucket form a
    linearizable history of `Spec.map`. -/
theorem hashed_map_linearizable (h : Int → Nat) (ops : List (OpRec GOp GRet))
    (hwf : ∀ o ∈ ops, o.inv ≤ o.res)
    (hkeyed : ∀ o ∈ ops, (keyOf o.op).isSome = true)
    (hb : ∀ i, Linearizable map (sub (routeBy h) i ops)) :
    Linearizable map ops := by
  obtain ⟨perm, hperm, hrt, hlegal⟩ :=
    locality map (routeBy h) (fun _ => map.init) ops hwf (fun i => hb i)
  refine ⟨perm, hperm, hrt, ?_⟩
  apply legal_transfer h (fun _ => map.init) perm map.init (fun _ => map.init)
  · intro o ho; exact hkeyed o (hperm.mem_iff.mp ho)
  · intro k; rfl
  · exact hlegal

end CdsVerif.Spec
