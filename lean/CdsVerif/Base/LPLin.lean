/-
  From linearization points to linearizability, for any machine and any sequential specification.

  `Sys σ α` packages a machine (`Machine.Model σ`) with a specification `spec` on states `α`, a structural invariant
  `Inv`, a relation `Abs a s` ("the specification state `a` represents the machine state `s`": equality with an
  abstraction function, equality up to permutation, a simulation relation, …) and the linearization-point
  bookkeeping of its threads:
    * `lpRet s t = some r`   : thread `t` has passed a linearization point of its current operation, with result `r`,
                               possibly TENTATIVELY: the linearization may still be withdrawn, which is allowed only
                               for operations and results marked `inert` (they never change the specification state);
    * `postRet s t = some r` : the result `r` is definitive;
    * `opOf s t = some op`   : `t` is executing `op` and its result is not definitive.
  `Sys.HelpOK` lists what has to be proved about the machine, one action at a time.  A step of thread `t` may pass
  the linearization points of the operations of several threads (`HelpStepOK`): those of a list `us` of threads (`t`
  among them or not), which in this order are transitions of `spec` from a state that represents the old machine state
  to one that represents the new, and behind them any number of operations that the new state answers without
  changing what represents it (readers helped by a writer).  Every other action preserves `Abs`.  `Sys.OK` is the case
  in which a thread passes no linearization point but its own (`StepOK`, `Sys.OK.help`).

  The proof instruments a run with a ghost log.  An entry is appended at every linearization point and removed again
  if the linearization is withdrawn; so the log is a legal sequential execution ending in a state that represents
  the machine state, an entry is appended between the call and the return of its operation (the log order respects
  real time), and the entries whose operation has returned are, up to permutation, the history of the run.  Conclusions:
    * `linearizable`   Herlihy–Wing linearizability with completion of pending operations,
    * `lp_hindsight`   every completed operation has an instant strictly inside its interval at which a step (of some
                       thread: `HelpAt`; of its own thread under `Sys.OK`: `LPAt`) fixed the returned result.
-/
import CdsVerif.Base.GhostLog
namespace CdsVerif.LPLin
open CdsVerif.Machine CdsVerif.Spec CdsVerif.Lin CdsVerif.GhostLog
open CdsVerif.SeqHistory (Pend histAux pendAux historyOf pendingOf)

variable {σ α : Type}

/-! ### The log against the clock and the history -/

/-- Every entry was invoked in the past, the log order respects real time, and the entries that have returned are
    the history. -/
structure LogOK (log : List LE) (clock : Nat) (hist : List (OpRec GOp GRet)) : Prop where
  invlt : ∀ e ∈ log, e.inv < clock
  rt : log.Pairwise (fun a b => ∀ r, b.res = some r → a.inv ≤ r)
  comp : (completed log).Perm hist

theorem LogOK.mono {log : List LE} {c c' : Nat} {hist : List (OpRec GOp GRet)} (h : LogOK log c hist) (hc : c ≤ c') :
    LogOK log c' hist :=
  ⟨fun e he => Nat.lt_of_lt_of_le (h.invlt e he) hc, h.rt, h.comp⟩

theorem LogOK.sublist {log log' : List LE} {c : Nat} {hist : List (OpRec GOp GRet)} (h : LogOK log c hist)
    (hs : log'.Sublist log) (hc : completed log' = completed log) : LogOK log' c hist :=
  ⟨fun e he => h.invlt e (hs.subset he), h.rt.sublist hs, hc ▸ h.comp⟩

/-- Linearization points: the new entries have not returned, so they constrain nothing before them. -/
theorem LogOK.append {log l : List LE} {c : Nat} {hist : List (OpRec GOp GRet)} (h : LogOK log c hist)
    (hl : ∀ e ∈ l, e.res = none ∧ e.inv < c) : LogOK (log ++ l) c hist := by
  have hopen : ∀ a : LE, ∀ b ∈ l, ∀ r, b.res = some r → a.inv ≤ r := by
    intro a b hb r hr
    rw [(hl b hb).1] at hr; cases hr
  refine ⟨?_, ?_, ?_⟩
  · intro e he
    rcases List.mem_append.mp he with he | he
    · exact h.invlt e he
    · exact (hl e he).2
  · rw [List.pairwise_append]
    exact ⟨h.rt, List.Pairwise.imp_of_mem (fun _ hb _ => hopen _ _ hb) (List.pairwise_of_forall (R := fun _ _ => True)
      (fun _ _ => trivial)), fun a _ b hb => hopen a b hb⟩
  · have : completed l = [] := List.filterMap_eq_nil_iff.mpr (fun e he => by simp [LE.done?, (hl e he).1])
    simp only [completed, List.filterMap_append] at this ⊢
    rw [this, List.append_nil]; exact h.comp

/-- Thread `t` returns at time `c`: its open entry is closed, every entry was invoked before `c`. -/
theorem LogOK.close {log : List LE} {c : Nat} {hist : List (OpRec GOp GRet)} (h : LogOK log c hist)
    {t : Tid} {op : GOp} {r : GRet} {k : Nat} (hopen : openOf t log = [⟨t, op, r, k, none⟩]) :
    LogOK (log.map (LE.close t c)) (c + 1) (hist ++ [⟨t, op, r, k, c⟩]) := by
  have hcl : ∀ e, (LE.close t c e).inv = e.inv := by intro e; unfold LE.close; split <;> rfl
  refine ⟨?_, ?_, ?_⟩
  · intro e he
    obtain ⟨e0, he0, rfl⟩ := List.mem_map.mp he
    rw [hcl]; exact Nat.lt_succ_of_lt (h.invlt e0 he0)
  · rw [List.pairwise_map]
    refine List.Pairwise.imp_of_mem ?_ h.rt
    intro a b ha _ hab r' hr'
    rw [hcl]
    unfold LE.close at hr'
    split at hr'
    · simp at hr'; have := h.invlt a ha; omega
    · exact hab r' hr'
  · refine (completed_close t c log).trans ?_
    rw [hopen]
    exact List.Perm.append_right _ h.comp

/-- Open entries made from a duplicate-free list of threads, at most one per thread. -/
theorem openOf_filterMap (f : Tid → Option LE) (hf : ∀ t e, f t = some e → e.tid = t ∧ e.res = none) (t2 : Tid) :
    ∀ (ts : List Tid), ts.Nodup → openOf t2 (ts.filterMap f) = if t2 ∈ ts then (f t2).toList else []
  | [], _ => by simp [openOf]
  | a :: ts, hnd => by
    have hnd' := List.nodup_cons.mp hnd
    have ih := openOf_filterMap f hf t2 ts hnd'.2
    simp only [List.filterMap_cons]
    cases hfa : f a with
    | none =>
      simp only [ih, List.mem_cons]
      by_cases e : t2 = a
      · subst e; simp [hfa, hnd'.1]
      · simp [e]
    | some b =>
      obtain ⟨hb1, hb2⟩ := hf a b hfa
      simp only [openOf, List.filter_cons] at ih ⊢
      by_cases e : t2 = a
      · subst e
        simp only [hb1, hb2, and_self, decide_true, if_true, List.mem_cons, true_or, hfa, Option.toList_some]
        rw [ih]; simp [hnd'.1]
      · have : ¬ (b.tid = t2 ∧ b.res = none) := fun h => e (h.1.symm.trans hb1)
        simp only [this, decide_false, Bool.false_eq_true, if_false, ih, List.mem_cons, e, false_or]

/-! ### Systems and their obligations -/

structure Sys (σ α : Type) where
  spec : Spec α GOp GRet
  model : Model σ
  init : σ
  Inv : σ → Prop
  Abs : α → σ → Prop
  lpRet : σ → Tid → Option GRet
  postRet : σ → Tid → Option GRet
  opOf : σ → Tid → Option GOp
  inert : GOp → GRet → Bool

/-- The result `r` is marked inert for the operation of `t`, whichever operation that is as far as the machine
    state tells. -/
def Sys.InertAt (Q : Sys σ α) (s : σ) (t : Tid) (r : GRet) : Prop :=
  ∀ op, (∀ op', Q.opOf s t = some op' → op' = op) → Q.inert op r = true

theorem Sys.InertAt.of_op {Q : Sys σ α} {s : σ} {t : Tid} {r : GRet} {op : GOp} (ho : Q.opOf s t = some op)
    (hi : Q.inert op r = true) : Q.InertAt s t r :=
  fun _ h => h op ho ▸ hi

theorem Sys.InertAt.of_all {Q : Sys σ α} {s : σ} {t : Tid} {r : GRet} (hi : ∀ op, Q.inert op r = true) :
    Q.InertAt s t r :=
  fun op _ => hi op

/-- The bookkeeping of the threads other than `t` is not touched by an action of `t`. -/
structure Frame (Q : Sys σ α) (s s' : σ) (t : Tid) : Prop where
  lp : ∀ t2, t2 ≠ t → Q.lpRet s' t2 = Q.lpRet s t2
  op : ∀ t2, t2 ≠ t → Q.opOf s' t2 = Q.opOf s t2

structure InvokeOK (Q : Sys σ α) (s : σ) (t : Tid) (op : GOp) (s' : σ) : Prop where
  inv : Q.Inv s'
  frame : Frame Q s s' t
  was : Q.lpRet s t = none
  nowop : Q.opOf s' t = some op
  nowlp : Q.lpRet s' t = none
  abs : ∀ a, Q.Abs a s → Q.Abs a s'

structure ResultOK (Q : Sys σ α) (s : σ) (t : Tid) (r : GRet) (s' : σ) : Prop where
  inv : Q.Inv s'
  frame : Frame Q s s' t
  was : Q.lpRet s t = some r
  nowlp : Q.lpRet s' t = none
  nowop : Q.opOf s' t = none
  abs : ∀ a, Q.Abs a s → Q.Abs a s'

/-- The operations of the threads `us`, in this order and each with the result it has in `s'`, lead from the
    specification state `a` to `a'`. -/
def LinPath (Q : Sys σ α) (s s' : σ) : α → List Tid → α → Prop
  | a, [], a' => a' = a
  | a, u :: us, a' => ∃ op r a1, Q.opOf s u = some op ∧ Q.lpRet s' u = some r ∧ Q.spec.next a op r = some a1 ∧
      LinPath Q s s' a1 us a'

theorem LinPath.op_of_mem {Q : Sys σ α} {s s' : σ} {u : Tid} : ∀ {us : List Tid} {a a' : α},
    LinPath Q s s' a us a' → u ∈ us → ∃ op, Q.opOf s u = some op
  | v :: us, _, _, ⟨op, _, _, ho, _, _, hp⟩, hu => by
    rcases List.mem_cons.mp hu with rfl | hu
    · exact ⟨op, ho⟩
    · exact hp.op_of_mem hu

/-- A step of `t` that passes the linearization points of the operations of the threads `us` (its own among them
    or not), in this order, and may fix the results of further operations behind them (`late`).  The log gets the
    entries of `us` first: they carry the change of the specification state.  The late ones follow in any order: each
    is answered by every state that represents `s'` and leaves it representing `s'`, so their order does not matter —
    this is what lets a machine whose invariant does not bound the set of waiting readers (LazyList: the readers
    answered by a marking store) be an instance without listing them. -/
structure HelpStepOK (Q : Sys σ α) (s : σ) (t : Tid) (s' : σ) (us : List Tid) : Prop where
  inv : Q.Inv s'
  nodup : us.Nodup
  fresh : ∀ u ∈ us, Q.lpRet s u = none
  /-- the linearization points = transitions of `spec` along `Abs`, with the results fixed there -/
  path : ∀ a, Q.Abs a s → ∃ a', LinPath Q s s' a us a' ∧ Q.Abs a' s'
  /-- any other operation whose result the step fixes is answered so by whatever represents the new state -/
  late : ∀ u, u ∉ us → Q.lpRet s u = none → ∀ r, Q.lpRet s' u = some r →
        ∃ op, Q.opOf s u = some op ∧ ∀ a, Q.Abs a s' → ∃ a', Q.spec.next a op r = some a' ∧ Q.Abs a' s'
  /-- results stay; only the stepping thread can withdraw one, and only an inert one -/
  keep : ∀ u r, Q.lpRet s u = some r → Q.lpRet s' u = some r ∨ (u = t ∧ Q.InertAt s t r ∧ Q.lpRet s' t = none)
  op : ∀ u op, Q.opOf s' u = some op → Q.opOf s u = some op

/-- A step that fixes the results of the threads `us` only. -/
theorem HelpStepOK.of_frame {Q : Sys σ α} {s s' : σ} {t : Tid} {us : List Tid} (inv : Q.Inv s') (nodup : us.Nodup)
    (fresh : ∀ u ∈ us, Q.lpRet s u = none) (path : ∀ a, Q.Abs a s → ∃ a', LinPath Q s s' a us a' ∧ Q.Abs a' s')
    (frame : ∀ u, u ∉ us → Q.lpRet s' u = Q.lpRet s u) (op : ∀ u op, Q.opOf s' u = some op → Q.opOf s u = some op) :
    HelpStepOK Q s t s' us := by
  refine ⟨inv, nodup, fresh, path, ?_, ?_, op⟩
  · intro u hu h0 r hr
    rw [frame u hu, h0] at hr; cases hr
  · intro u r hr
    by_cases hu : u ∈ us
    · rw [fresh u hu] at hr; cases hr
    · exact .inl ((frame u hu).trans hr)

/-- A step of `t` that passes its own linearization point, if any, and may fix the results of operations of other
    threads behind it. -/
theorem HelpStepOK.of_own {Q : Sys σ α} {s s' : σ} {t : Tid} (inv : Q.Inv s')
    (lp : Q.lpRet s t = none → ∀ r, Q.lpRet s' t = some r →
      ∃ op, Q.opOf s t = some op ∧ ∀ a, Q.Abs a s → ∃ a', Q.spec.next a op r = some a' ∧ Q.Abs a' s')
    (nolp : (Q.lpRet s t ≠ none ∨ Q.lpRet s' t = none) → ∀ a, Q.Abs a s → Q.Abs a s')
    (keep : ∀ r, Q.lpRet s t = some r → Q.lpRet s' t = some r ∨ (Q.InertAt s t r ∧ Q.lpRet s' t = none))
    (keepo : ∀ u, u ≠ t → ∀ r, Q.lpRet s u = some r → Q.lpRet s' u = some r)
    (late : ∀ u, u ≠ t → Q.lpRet s u = none → ∀ r, Q.lpRet s' u = some r →
      ∃ op, Q.opOf s u = some op ∧ ∀ a, Q.Abs a s' → ∃ a', Q.spec.next a op r = some a' ∧ Q.Abs a' s')
    (op : ∀ u op, Q.opOf s' u = some op → Q.opOf s u = some op) : ∃ us, HelpStepOK Q s t s' us := by
  have hkeep : ∀ u r, Q.lpRet s u = some r →
      Q.lpRet s' u = some r ∨ (u = t ∧ Q.InertAt s t r ∧ Q.lpRet s' t = none) := by
    intro u r hr
    by_cases hu : u = t
    · subst hu; exact (keep r hr).imp id (fun x => ⟨rfl, x⟩)
    · exact .inl (keepo u hu r hr)
  by_cases hlp : Q.lpRet s t = none ∧ ∃ r, Q.lpRet s' t = some r
  · obtain ⟨h1, r, h2⟩ := hlp
    obtain ⟨o, ho, hn⟩ := lp h1 r h2
    refine ⟨[t], inv, List.nodup_cons.mpr ⟨List.not_mem_nil, List.nodup_nil⟩, ?_, ?_, ?_, hkeep, op⟩
    · intro u hu; rw [List.mem_singleton.mp hu]; exact h1
    · intro a ha
      obtain ⟨a', hn', ha'⟩ := hn a ha
      exact ⟨a', ⟨o, r, a', ho, h2, hn', rfl⟩, ha'⟩
    · intro u hu
      exact late u (fun e => hu (List.mem_singleton.mpr e))
  · refine ⟨[], inv, List.nodup_nil, nofun, ?_, ?_, hkeep, op⟩
    · intro a ha
      refine ⟨a, rfl, nolp ?_ a ha⟩
      cases h1 : Q.lpRet s t with
      | some r => exact .inl nofun
      | none =>
        cases h2 : Q.lpRet s' t with
        | none => exact .inr rfl
        | some r => exact absurd ⟨h1, r, h2⟩ hlp
    · intro u _ h0 r hr
      by_cases hu : u = t
      · subst hu; exact absurd ⟨h0, r, hr⟩ hlp
      · exact late u hu h0 r hr

/-- A step of `t` that passes no linearization point but its own. -/
structure StepOK (Q : Sys σ α) (s : σ) (t : Tid) (s' : σ) : Prop where
  inv : Q.Inv s'
  frame : Frame Q s s' t
  /-- passing a linearization point = a transition of `spec` along `Abs`, with the result fixed there -/
  lp : Q.lpRet s t = none → ∀ r, Q.lpRet s' t = some r →
        ∃ op, Q.opOf s t = some op ∧ ∀ a, Q.Abs a s → ∃ a', Q.spec.next a op r = some a' ∧ Q.Abs a' s'
  nolp : (Q.lpRet s t ≠ none ∨ Q.lpRet s' t = none) → ∀ a, Q.Abs a s → Q.Abs a s'
  /-- only an inert linearization can be withdrawn -/
  keep : ∀ r, Q.lpRet s t = some r → Q.lpRet s' t = some r ∨ (Q.InertAt s t r ∧ Q.lpRet s' t = none)
  op : Q.postRet s' t = none → Q.opOf s' t = Q.opOf s t

theorem StepOK.help {Q : Sys σ α} {s s' : σ} {t : Tid} (h : StepOK Q s t s')
    (hpost : ∀ r, Q.postRet s' t = some r → Q.opOf s' t = none) : ∃ us, HelpStepOK Q s t s' us := by
  refine HelpStepOK.of_own h.inv h.lp h.nolp h.keep (fun u hu r hr => (h.frame.lp u hu).trans hr) ?_ ?_
  · intro u hu h0 r hr
    rw [h.frame.lp u hu, h0] at hr; cases hr
  · intro u op ho
    by_cases hu : u = t
    · subst hu
      cases hp : Q.postRet s' u with
      | some r => rw [hpost r hp] at ho; cases ho
      | none => exact h.op hp ▸ ho
    · exact h.frame.op u hu ▸ ho

/-- What is asked of the initial state, of invocations and of returns. -/
structure Sys.BaseOK (Q : Sys σ α) : Prop where
  inert_ok : ∀ op r, Q.inert op r = true → ∀ a a', Q.spec.next a op r = some a' → a' = a
  inv_init : Q.Inv Q.init
  abs_init : Q.Abs Q.spec.init Q.init
  lp_init : ∀ t, Q.lpRet Q.init t = none
  op_init : ∀ t, Q.opOf Q.init t = none
  /-- a result that is not definitive is inert -/
  lp_post : ∀ s t r, Q.Inv s → Q.lpRet s t = some r → Q.postRet s t = some r ∨ Q.InertAt s t r
  invoke : ∀ s t op s', Q.Inv s → Q.model.invoke s t op = some s' → InvokeOK Q s t op s'
  result : ∀ s t s' r, Q.Inv s → Q.model.result s t = some (s', r) → ResultOK Q s t r s'

structure Sys.HelpOK (Q : Sys σ α) : Prop extends Q.BaseOK where
  step : ∀ s t s' ev, Q.Inv s → Q.model.step s t = some (s', ev) → ∃ us, HelpStepOK Q s t s' us

structure Sys.OK (Q : Sys σ α) : Prop extends Q.BaseOK where
  post_op : ∀ s t r, Q.Inv s → Q.postRet s t = some r → Q.opOf s t = none
  step : ∀ s t s' ev, Q.Inv s → Q.model.step s t = some (s', ev) → StepOK Q s t s'

theorem Sys.OK.help {Q : Sys σ α} (hQ : Q.OK) : Q.HelpOK where
  toBaseOK := hQ.toBaseOK
  step := fun s t s' ev hi hs =>
    have h := hQ.step s t s' ev hi hs
    h.help (fun r => hQ.post_op s' t r h.inv)

/-- The step of thread `u` from `s1` to `s2` is the linearization point of the operation `op` of thread `t`, with
    result `r`. -/
def HelpAt (Q : Sys σ α) (s1 : σ) (u : Tid) (s2 : σ) (t : Tid) (op : GOp) (r : GRet) : Prop :=
  Q.Inv s1 ∧ Q.opOf s1 t = some op ∧ Q.lpRet s1 t = none ∧ (∃ ev, Q.model.step s1 u = some (s2, ev)) ∧
    Q.lpRet s2 t = some r

/-- In state `s1` the next step of thread `t` is the linearization point of its operation `op`, with result `r`. -/
def LPAt (Q : Sys σ α) (s1 : σ) (t : Tid) (op : GOp) (r : GRet) : Prop :=
  Q.Inv s1 ∧ Q.opOf s1 t = some op ∧ Q.lpRet s1 t = none ∧
    ∃ s2 ev, Q.model.step s1 t = some (s2, ev) ∧ Q.lpRet s2 t = some r

/-- `states[j]` and `states[j + 1]` are such states for some instant `j` strictly between `lo` and `hi`. -/
def LPIn (Q : Sys σ α) (states : List σ) (t : Tid) (op : GOp) (r : GRet) (lo hi : Nat) : Prop :=
  ∃ j s1 u s2, lo < j ∧ j < hi ∧ states[j]? = some s1 ∧ states[j + 1]? = some s2 ∧ HelpAt Q s1 u s2 t op r

theorem LPIn.snoc {Q : Sys σ α} {states : List σ} {t : Tid} {op : GOp} {r : GRet} {lo hi hi' : Nat}
    (h : LPIn Q states t op r lo hi) (hle : hi ≤ hi') (s : σ) : LPIn Q (states ++ [s]) t op r lo hi' := by
  obtain ⟨j, s1, u, s2, h1, h2, h3, h4, h5⟩ := h
  exact ⟨j, s1, u, s2, h1, Nat.lt_of_lt_of_le h2 hle, getElem?_snoc_of_some h3, getElem?_snoc_of_some h4, h5⟩

/-! ### Instrumented runs -/

structure GSt (σ : Type) where
  s : σ
  clock : Nat                          -- number of actions so far = index of the next observation
  pend : Pend
  hist : List (OpRec GOp GRet)         -- records of the operations that have returned, in order of return
  log : List LE                        -- operations that have passed their linearization point, in that order
  active : List Tid                    -- the threads that have invoked an operation so far (no duplicates)
  trace : List σ                       -- the model states before each action so far (`trace[j]` = state before action `j`)

def ginit (s : σ) : GSt σ := ⟨s, 0, fun _ => none, [], [], [], []⟩

/-- The log entry of thread `u`, if the step to `s'` fixes the result of its operation. -/
def entryOf (Q : Sys σ α) (g : GSt σ) (s' : σ) (u : Tid) : Option LE :=
  match Q.lpRet g.s u, Q.lpRet s' u, g.pend u with
  | none, some r, some (op, k) => some ⟨u, op, r, k, none⟩
  | _, _, _ => none

/-- The threads named by the step, in its order, then all others that have ever invoked an operation. -/
def stepThreads (g : GSt σ) (us : List Tid) : List Tid := us ++ g.active.filter (fun u => decide (u ∉ us))

/-- The log of a step of thread `t` that takes its linearization status from the first to the second
    `Option GRet`, before the new entries: a tentative linearization may be withdrawn. -/
def keptLog (t : Tid) (log : List LE) : Option GRet → Option GRet → List LE
  | some _, none => dropOpen t log
  | _, _ => log

/-- Ghost update for the action of thread `t` that leads to model state `s'` with observation `o`; a step names the
    threads `us` whose linearization points it passes. -/
def gnext (Q : Sys σ α) (g : GSt σ) (t : Tid) (s' : σ) (us : List Tid) (o : Obs) : GSt σ where
  s := s'
  clock := g.clock + 1
  trace := g.trace ++ [g.s]
  pend := match o with
    | .call op => upd g.pend t (some (op, g.clock))
    | .ev _ => g.pend
    | .ret _ =>
      match g.pend t with
      | some _ => upd g.pend t none
      | none => g.pend
  hist := match o with
    | .ret r =>
      match g.pend t with
      | some (op, k) => g.hist ++ [⟨t, op, r, k, g.clock⟩]
      | none => g.hist
    | _ => g.hist
  log := match o with
    | .call _ => g.log
    | .ev _ => keptLog t g.log (Q.lpRet g.s t) (Q.lpRet s' t) ++ (stepThreads g us).filterMap (entryOf Q g s')
    | .ret _ => g.log.map (LE.close t g.clock)
  active := match o with
    | .call _ => if t ∈ g.active then g.active else t :: g.active
    | _ => g.active

theorem gnext_hist (Q : Sys σ α) (g : GSt σ) (t : Tid) (s' : σ) (us : List Tid) (o : Obs) (os : List (Tid × Obs)) :
    (gnext Q g t s' us o).hist ++ histAux (g.clock + 1) (gnext Q g t s' us o).pend os
      = g.hist ++ histAux g.clock g.pend ((t, o) :: os) := by
  cases o with
  | call op => simp only [gnext, histAux]
  | ev e => simp only [gnext, histAux]
  | ret r =>
    simp only [gnext, histAux]
    cases hp : g.pend t with
    | none => simp only
    | some p => obtain ⟨op, k⟩ := p; simp only [List.append_assoc, List.singleton_append]

theorem gnext_pend (Q : Sys σ α) (g : GSt σ) (t : Tid) (s' : σ) (us : List Tid) (o : Obs) (os : List (Tid × Obs)) :
    pendAux (g.clock + 1) (gnext Q g t s' us o).pend os = pendAux g.clock g.pend ((t, o) :: os) := by
  cases o with
  | call op => simp only [gnext, pendAux]
  | ev e => simp only [gnext, pendAux]
  | ret r =>
    simp only [gnext, pendAux]
    cases hp : g.pend t <;> simp only

theorem gnext_pend_other (Q : Sys σ α) (g : GSt σ) {t t2 : Tid} (s' : σ) (us : List Tid) (o : Obs) (ht : t2 ≠ t) :
    (gnext Q g t s' us o).pend t2 = g.pend t2 := by
  cases o with
  | call op => simp [gnext, upd, ht]
  | ev e => rfl
  | ret r =>
    simp only [gnext]
    cases g.pend t <;> simp [upd, ht]

theorem gnext_active (Q : Sys σ α) (g : GSt σ) {t u : Tid} (s' : σ) (us : List Tid) (o : Obs) (h : u ∈ g.active) :
    u ∈ (gnext Q g t s' us o).active := by
  cases o with
  | call op => simp only [gnext]; split; exact h; exact List.mem_cons_of_mem _ h
  | ev e => exact h
  | ret r => exact h

/-- What the ghost state records about thread `t`. -/
structure TI (Q : Sys σ α) (g : GSt σ) (t : Tid) : Prop where
  pendlt : ∀ op k, g.pend t = some (op, k) → k < g.clock
  act : g.pend t ≠ none → t ∈ g.active
  pre : ∀ op, Q.opOf g.s t = some op → ∃ k, g.pend t = some (op, k)
  preopen : Q.lpRet g.s t = none → openOf t g.log = []
  post : ∀ r, Q.lpRet g.s t = some r → ∃ op k, g.pend t = some (op, k) ∧
    openOf t g.log = [⟨t, op, r, k, none⟩] ∧ LPIn Q (g.trace ++ [g.s]) t op r k g.clock

structure GI (Q : Sys σ α) (g : GSt σ) : Prop where
  inv : Q.Inv g.s
  spec : ∃ a, runSpec Q.spec Q.spec.init g.log = some a ∧ Q.Abs a g.s
  log : LogOK g.log g.clock g.hist
  tlen : g.trace.length = g.clock
  actnd : g.active.Nodup
  histlp : ∀ r ∈ g.hist, LPIn Q (g.trace ++ [g.s]) r.tid r.op r.ret r.inv r.res
  thread : ∀ t, TI Q g t

/-- The operation the ghost state holds for `t` is the one `InertAt` speaks of. -/
theorem TI.inert {Q : Sys σ α} {g : GSt σ} {t : Tid} {op : GOp} {k : Nat} {r : GRet} (h : TI Q g t)
    (hp : g.pend t = some (op, k)) (hi : Q.InertAt g.s t r) : Q.inert op r = true := by
  apply hi
  intro op' hop'
  obtain ⟨k', hk'⟩ := h.pre op' hop'
  rw [hp] at hk'; cases hk'; rfl

/-- An invocation or a return of `t` leaves what is recorded about the other threads as it is. -/
theorem TI.other {Q : Sys σ α} {g : GSt σ} {t t2 : Tid} {s' : σ} (h : TI Q g t2) {o : Obs} (hev : ∀ e, o ≠ .ev e)
    (ht : t2 ≠ t) (hf : Frame Q g.s s' t) : TI Q (gnext Q g t s' [] o) t2 := by
  have hp := gnext_pend_other Q g s' [] o ht
  have ho : openOf t2 (gnext Q g t s' [] o).log = openOf t2 g.log := by
    cases o with
    | call op => rfl
    | ev e => exact absurd rfl (hev e)
    | ret r => exact openOf_close_other _ _ _ ht _
  refine ⟨?_, ?_, ?_, ?_, ?_⟩
  · intro op k hk
    rw [hp] at hk
    exact Nat.lt_succ_of_lt (h.pendlt op k hk)
  · intro hk
    rw [hp] at hk
    exact gnext_active Q g s' [] o (h.act hk)
  · intro op (hop : Q.opOf s' t2 = some op)
    rw [hf.op t2 ht] at hop
    rw [hp]; exact h.pre op hop
  · intro (hl : Q.lpRet s' t2 = none)
    rw [hf.lp t2 ht] at hl
    rw [ho]; exact h.preopen hl
  · intro r (hl : Q.lpRet s' t2 = some r)
    rw [hf.lp t2 ht] at hl
    obtain ⟨op, k, h1, h2, h3⟩ := h.post r hl
    exact ⟨op, k, hp ▸ h1, ho ▸ h2, h3.snoc (Nat.le_succ _) s'⟩

theorem gi_init {Q : Sys σ α} (hQ : Q.BaseOK) : GI Q (ginit Q.init) := by
  refine ⟨hQ.inv_init, ⟨_, rfl, hQ.abs_init⟩, ⟨?_, ?_, ?_⟩, rfl, List.nodup_nil, ?_, fun t => ⟨?_, ?_, ?_, ?_, ?_⟩⟩ <;>
    simp [ginit, completed, openOf, hQ.lp_init, hQ.op_init]

theorem gi_invoke {Q : Sys σ α} (hQ : Q.BaseOK) {g : GSt σ} {t : Tid} {op : GOp} {s' : σ} (h : GI Q g)
    (hs : Q.model.invoke g.s t op = some s') : GI Q (gnext Q g t s' [] (.call op)) := by
  obtain ⟨hinv, hf, hwas, hnowop, hnowlp, habs⟩ := hQ.invoke _ _ _ _ h.inv hs
  obtain ⟨a, ha, hab⟩ := h.spec
  refine ⟨hinv, ⟨a, ha, habs a hab⟩, h.log.mono (Nat.le_succ _), ?_, ?_, ?_, ?_⟩
  · simp only [gnext, List.length_append, List.length_singleton, h.tlen]
  · simp only [gnext]
    split
    · exact h.actnd
    · next hn => exact List.nodup_cons.mpr ⟨hn, h.actnd⟩
  · intro r hr; exact (h.histlp r hr).snoc (Nat.le_refl _) s'
  · intro t2
    by_cases ht : t2 = t
    · subst ht
      have hp : (gnext Q g t2 s' [] (.call op)).pend t2 = some (op, g.clock) := by simp [gnext, upd]
      refine ⟨?_, ?_, ?_, ?_, ?_⟩
      · intro op2 k hk
        rw [hp] at hk; simp only [Option.some.injEq, Prod.mk.injEq] at hk
        simp only [gnext]; omega
      · intro _
        simp only [gnext]
        split
        · assumption
        · exact List.mem_cons_self
      · intro op2 (hop : Q.opOf s' t2 = some op2)
        rw [hnowop] at hop; cases hop
        exact ⟨g.clock, hp⟩
      · intro _; exact (h.thread t2).preopen hwas
      · intro r (hl : Q.lpRet s' t2 = some r)
        rw [hnowlp] at hl; cases hl
    · exact (h.thread t2).other nofun ht hf

theorem gi_result {Q : Sys σ α} (hQ : Q.BaseOK) {g : GSt σ} {t : Tid} {r : GRet} {s' : σ} (h : GI Q g)
    (hs : Q.model.result g.s t = some (s', r)) : GI Q (gnext Q g t s' [] (.ret r)) := by
  obtain ⟨hinv, hf, hwas, hnowlp, hnowop, habs⟩ := hQ.result _ _ _ _ h.inv hs
  obtain ⟨a, ha, hab⟩ := h.spec
  obtain ⟨op, k, hp, hopen, hlp⟩ := (h.thread t).post r hwas
  have hhist : (gnext Q g t s' [] (.ret r)).hist = g.hist ++ [⟨t, op, r, k, g.clock⟩] := by simp only [gnext, hp]
  have hpend : (gnext Q g t s' [] (.ret r)).pend t = none := by simp [gnext, hp, upd]
  refine ⟨hinv, ⟨a, by rw [← ha]; exact runSpec_close _ _ _ _ _, habs a hab⟩, ?_, ?_, h.actnd, ?_, ?_⟩
  · rw [hhist]; exact h.log.close hopen
  · simp only [gnext, List.length_append, List.length_singleton, h.tlen]
  · intro r0 hr0
    rw [hhist] at hr0
    rcases List.mem_append.mp hr0 with hr0 | hr0
    · exact (h.histlp r0 hr0).snoc (Nat.le_refl _) s'
    · rw [List.mem_singleton.mp hr0]; exact hlp.snoc (Nat.le_refl _) s'
  · intro t2
    by_cases ht : t2 = t
    · subst ht
      refine ⟨?_, fun hk => absurd hpend hk, ?_, ?_, ?_⟩
      · intro op2 k2 hk; rw [hpend] at hk; cases hk
      · intro op2 (hop : Q.opOf s' t2 = some op2)
        rw [hnowop] at hop; cases hop
      · intro _; exact openOf_close_same _ _ _
      · intro r2 (hl : Q.lpRet s' t2 = some r2)
        rw [hnowlp] at hl; cases hl
    · exact (h.thread t2).other nofun ht hf

/-! ### Steps -/

theorem entryOf_some {Q : Sys σ α} {g : GSt σ} {s' : σ} {u : Tid} {e : LE} (h : entryOf Q g s' u = some e) :
    ∃ op k r, Q.lpRet g.s u = none ∧ Q.lpRet s' u = some r ∧ g.pend u = some (op, k) ∧ e = ⟨u, op, r, k, none⟩ := by
  unfold entryOf at h
  split at h
  next r op k h1 h2 h3 => cases h; exact ⟨op, k, r, h1, h2, h3, rfl⟩
  next => cases h

theorem entryOf_eq {Q : Sys σ α} {g : GSt σ} {s' : σ} {u : Tid} {op : GOp} {k : Nat} {r : GRet}
    (h1 : Q.lpRet g.s u = none) (h2 : Q.lpRet s' u = some r) (h3 : g.pend u = some (op, k)) :
    entryOf Q g s' u = some ⟨u, op, r, k, none⟩ := by
  simp only [entryOf, h1, h2, h3]

theorem entryOf_none {Q : Sys σ α} {g : GSt σ} {s' : σ} {u : Tid}
    (h : Q.lpRet g.s u ≠ none ∨ Q.lpRet s' u = none) : entryOf Q g s' u = none := by
  unfold entryOf
  split
  next h1 h2 _ =>
    rcases h with h | h
    · exact absurd h1 h
    · rw [h2] at h; cases h
  next => rfl

/-- The entries of the threads named by the step replay along the path the step promises. -/
theorem runSpec_path {Q : Sys σ α} {g : GSt σ} {s' : σ} (h : GI Q g) : ∀ (us : List Tid) (a a' : α),
    (∀ u ∈ us, Q.lpRet g.s u = none) → LinPath Q g.s s' a us a' →
    runSpec Q.spec a (us.filterMap (entryOf Q g s')) = some a'
  | [], a, a', _, hp => by cases hp; rfl
  | u :: us, a, a', hf, hp => by
    obtain ⟨op, r, a1, ho, hr, hn, hp⟩ := hp
    obtain ⟨k, hk⟩ := (h.thread u).pre op ho
    rw [List.filterMap_cons, entryOf_eq (hf u List.mem_cons_self) hr hk]
    simp only [runSpec, hn, Option.bind_some]
    exact runSpec_path h us a1 a' (fun v hv => hf v (List.mem_cons_of_mem _ hv)) hp

/-- The entries of the other threads replay, one after the other, in what represents the new state. -/
theorem runSpec_late {Q : Sys σ α} {g : GSt σ} {t : Tid} {s' : σ} {us : List Tid} (h : GI Q g)
    (hs : HelpStepOK Q g.s t s' us) : ∀ (l : List Tid), (∀ u ∈ l, u ∉ us) → ∀ a, Q.Abs a s' →
    ∃ a', runSpec Q.spec a (l.filterMap (entryOf Q g s')) = some a' ∧ Q.Abs a' s'
  | [], _, a, ha => ⟨a, rfl, ha⟩
  | u :: l, hl, a, ha => by
    have ih := runSpec_late h hs l (fun v hv => hl v (List.mem_cons_of_mem _ hv))
    rw [List.filterMap_cons]
    cases he : entryOf Q g s' u with
    | none => exact ih a ha
    | some e =>
      obtain ⟨op, k, r, h1, h2, h3, rfl⟩ := entryOf_some he
      obtain ⟨op', ho, hn⟩ := hs.late u (hl u List.mem_cons_self) h1 r h2
      obtain ⟨k', hk'⟩ := (h.thread u).pre op' ho
      rw [h3] at hk'; cases hk'
      obtain ⟨a1, hn1, ha1⟩ := hn a ha
      obtain ⟨a', hr, ha'⟩ := ih a1 ha1
      exact ⟨a', by simp only [runSpec, hn1, Option.bind_some, hr], ha'⟩

theorem gi_step {Q : Sys σ α} (hQ : Q.HelpOK) {g : GSt σ} {t : Tid} {ev : Ev} {s' : σ} (h : GI Q g)
    (hs : Q.model.step g.s t = some (s', ev)) : ∃ us, GI Q (gnext Q g t s' us (.ev ev)) := by
  obtain ⟨us, hus⟩ := hQ.step _ _ _ _ h.inv hs
  refine ⟨us, ?_⟩
  obtain ⟨a, ha, hab⟩ := h.spec
  obtain ⟨a1, hpath, hab1⟩ := hus.path a hab
  have hnone : ∀ u, Q.lpRet s' u = none → Q.lpRet g.s u = none ∨ (u = t ∧ ∃ r, Q.lpRet g.s t = some r) := by
    intro u hn
    cases h1 : Q.lpRet g.s u with
    | none => exact .inl rfl
    | some r =>
      rcases hus.keep u r h1 with h2 | ⟨rfl, -, -⟩
      · rw [hn] at h2; cases h2
      · exact .inr ⟨rfl, r, h1⟩
  -- the log before the new entries
  have hkept : (keptLog t g.log (Q.lpRet g.s t) (Q.lpRet s' t) = g.log ∧
        ∀ r, Q.lpRet g.s t = some r → Q.lpRet s' t ≠ none) ∨
      (keptLog t g.log (Q.lpRet g.s t) (Q.lpRet s' t) = dropOpen t g.log ∧
        (∃ r, Q.lpRet g.s t = some r) ∧ Q.lpRet s' t = none) := by
    cases h1 : Q.lpRet g.s t with
    | none => exact .inl ⟨rfl, nofun⟩
    | some r =>
      cases h2 : Q.lpRet s' t with
      | none => exact .inr ⟨rfl, ⟨r, rfl⟩, rfl⟩
      | some r' => exact .inl ⟨rfl, fun _ _ => nofun⟩
  have hlog : (gnext Q g t s' us (.ev ev)).log = keptLog t g.log (Q.lpRet g.s t) (Q.lpRet s' t) ++
      (stepThreads g us).filterMap (entryOf Q g s') := rfl
  generalize keptLog t g.log (Q.lpRet g.s t) (Q.lpRet s' t) = kept at hkept hlog
  have hkspec : runSpec Q.spec Q.spec.init kept = some a := by
    rcases hkept with ⟨rfl, -⟩ | ⟨rfl, ⟨r, h1⟩, h2⟩
    · exact ha
    · -- a tentative linearization is withdrawn: the entry is inert and leaves the log
      obtain ⟨op, k, hk, hopen, -⟩ := (h.thread t).post r h1
      have hin : Q.InertAt g.s t r := by
        rcases hus.keep t r h1 with h3 | ⟨-, hin, -⟩
        · rw [h2] at h3; cases h3
        · exact hin
      apply runSpec_dropOpen _ _ _ _ _ _ ha
      intro e he
      rw [hopen, List.mem_singleton] at he
      rw [he]
      exact hQ.inert_ok _ _ ((h.thread t).inert hk hin)
  have hklog : LogOK kept g.clock g.hist := by
    rcases hkept with ⟨rfl, -⟩ | ⟨rfl, -⟩
    · exact h.log
    · exact h.log.sublist (dropOpen_sublist t g.log) (completed_dropOpen t g.log)
  have hkopen_none : ∀ u, Q.lpRet s' u = none → openOf u kept = [] := by
    intro u hn
    rcases hkept with ⟨rfl, hk⟩ | ⟨rfl, -⟩
    · rcases hnone u hn with h1 | ⟨rfl, r, h1⟩
      · exact (h.thread u).preopen h1
      · exact absurd hn (hk r h1)
    · by_cases hu : u = t
      · subst hu; exact openOf_dropOpen_same _ _
      · rw [openOf_dropOpen_other _ _ hu]
        exact (h.thread u).preopen ((hnone u hn).resolve_right (fun x => hu x.1))
  have hkopen_some : ∀ u r, Q.lpRet s' u = some r → openOf u kept = openOf u g.log := by
    intro u r hr
    rcases hkept with ⟨rfl, -⟩ | ⟨rfl, -, h2⟩
    · rfl
    · exact openOf_dropOpen_other _ _ (fun e => by rw [e, h2] at hr; cases hr) _
  -- the new entries
  have hnd : (stepThreads g us).Nodup := by
    refine List.nodup_append.mpr ⟨hus.nodup, h.actnd.filter _, ?_⟩
    intro u hu v hv huv
    have := (List.mem_filter.mp hv).2
    rw [← huv] at this
    exact of_decide_eq_true this hu
  have hmem : ∀ u, g.pend u ≠ none → u ∈ stepThreads g us := by
    intro u hu
    by_cases hin : u ∈ us
    · exact List.mem_append_left _ hin
    · exact List.mem_append_right _ (List.mem_filter.mpr ⟨(h.thread u).act hu, decide_eq_true hin⟩)
  have heopen : ∀ u, openOf u ((stepThreads g us).filterMap (entryOf Q g s')) =
      if u ∈ stepThreads g us then (entryOf Q g s' u).toList else [] := by
    intro u
    refine openOf_filterMap _ ?_ u _ hnd
    intro v e he
    obtain ⟨op, k, r, -, -, -, rfl⟩ := entryOf_some he
    exact ⟨rfl, rfl⟩
  have hfix : ∀ u r, Q.lpRet g.s u = none → Q.lpRet s' u = some r → ∃ op k, Q.opOf g.s u = some op ∧
      g.pend u = some (op, k) ∧
      openOf u ((stepThreads g us).filterMap (entryOf Q g s')) = [⟨u, op, r, k, none⟩] := by
    intro u r h1 h2
    have hop : ∃ op, Q.opOf g.s u = some op := by
      by_cases hin : u ∈ us
      · exact hpath.op_of_mem hin
      · obtain ⟨op, ho, -⟩ := hus.late u hin h1 r h2
        exact ⟨op, ho⟩
    obtain ⟨op, ho⟩ := hop
    obtain ⟨k, hk⟩ := (h.thread u).pre op ho
    refine ⟨op, k, ho, hk, ?_⟩
    rw [heopen, if_pos (hmem u (by rw [hk]; nofun)), entryOf_eq h1 h2 hk]
    rfl
  refine ⟨hus.inv, ?_, ?_, ?_, h.actnd, ?_, ?_⟩
  · obtain ⟨a2, hr2, hab2⟩ := runSpec_late h hus (g.active.filter (fun u => decide (u ∉ us)))
      (fun u hu => of_decide_eq_true (List.mem_filter.mp hu).2) a1 hab1
    refine ⟨a2, ?_, hab2⟩
    rw [hlog, runSpec_append, hkspec, stepThreads, List.filterMap_append, Option.bind_some, runSpec_append,
      runSpec_path h us a a1 hus.fresh hpath, Option.bind_some, hr2]
  · rw [hlog]
    refine (hklog.append ?_).mono (Nat.le_succ _)
    intro e he
    obtain ⟨u, -, hu⟩ := List.mem_filterMap.mp he
    obtain ⟨op, k, r, -, -, hk, rfl⟩ := entryOf_some hu
    exact ⟨rfl, (h.thread u).pendlt op k hk⟩
  · simp only [gnext, List.length_append, List.length_singleton, h.tlen]
  · intro r hr; exact (h.histlp r hr).snoc (Nat.le_refl _) s'
  · intro u
    refine ⟨fun op k hk => Nat.lt_succ_of_lt ((h.thread u).pendlt op k hk), (h.thread u).act,
      fun op ho => (h.thread u).pre op (hus.op u op ho), ?_, ?_⟩
    · intro (hn : Q.lpRet s' u = none)
      rw [hlog, openOf_append, hkopen_none u hn, heopen, entryOf_none (.inr hn)]
      split <;> rfl
    · intro r (hr : Q.lpRet s' u = some r)
      rw [hlog, openOf_append, hkopen_some u r hr]
      cases h1 : Q.lpRet g.s u with
      | some r0 =>
        have : r0 = r := by
          rcases hus.keep u r0 h1 with h2 | ⟨rfl, -, h2⟩
          · exact Option.some.inj (h2.symm.trans hr)
          · rw [h2] at hr; cases hr
        subst this
        obtain ⟨op, k, hk, hopen, hlp⟩ := (h.thread u).post r0 h1
        refine ⟨op, k, hk, ?_, hlp.snoc (Nat.le_succ _) s'⟩
        rw [hopen, heopen, entryOf_none (.inl (by rw [h1]; nofun))]
        split <;> rfl
      | none =>
        obtain ⟨op, k, ho, hk, hopen⟩ := hfix u r h1 hr
        have hlen : (g.trace ++ [g.s]).length = g.clock + 1 := by simp [h.tlen]
        refine ⟨op, k, hk, by rw [(h.thread u).preopen h1, hopen]; rfl, g.clock, g.s, t, s',
          (h.thread u).pendlt op k hk, Nat.lt_succ_self _, ?_, ?_, h.inv, ho, h1, ⟨ev, hs⟩, hr⟩
        · exact getElem?_snoc_of_some (h.tlen ▸ List.getElem?_concat_length)
        · exact hlen ▸ List.getElem?_concat_length

theorem gi_apply {Q : Sys σ α} (hQ : Q.HelpOK) {g : GSt σ} {t : Tid} {a : Act} {s' : σ} {o : Obs} (h : GI Q g)
    (hap : Q.model.apply g.s t a = some (s', o)) : ∃ us, GI Q (gnext Q g t s' us o) := by
  cases a with
  | invoke op =>
    obtain ⟨s1, hs1, heq⟩ := Option.map_eq_some_iff.mp hap
    cases heq
    exact ⟨[], gi_invoke hQ.toBaseOK h hs1⟩
  | step =>
    obtain ⟨⟨s1, e⟩, hs1, heq⟩ := Option.map_eq_some_iff.mp hap
    cases heq
    exact gi_step hQ h hs1
  | ret =>
    obtain ⟨⟨s1, r⟩, hs1, heq⟩ := Option.map_eq_some_iff.mp hap
    cases heq
    exact ⟨[], gi_result hQ.toBaseOK h hs1⟩

/-- The states a run passes through: `(statesOf m s sched)[j]` is the state before action `j`. -/
def statesOf (m : Model σ) : σ → List (Tid × Act) → List σ
  | _, [] => []
  | s, (t, a) :: rest =>
    s :: (match m.apply s t a with
      | some (s', _) => statesOf m s' rest
      | none => [])

/-- `(statesOf m s sched ++ [s'])[j]` is the state reached by the first `j` actions of the run, which produce the
    first `j` observations. -/
theorem statesOf_prefix (m : Model σ) : ∀ (sched : List (Tid × Act)) (s s' : σ) (os : List (Tid × Obs)) (j : Nat) (s1 : σ),
    m.run s sched = some (s', os) → (statesOf m s sched ++ [s'])[j]? = some s1 →
    m.run s (sched.take j) = some (s1, os.take j) := by
  intro sched
  induction sched with
  | nil =>
    intro s s' os j s1 hr h
    obtain ⟨rfl, rfl⟩ := Model.run_nil.mp hr
    cases j with
    | zero => simp [statesOf] at h; subst h; simp [Model.run]
    | succ j => simp [statesOf] at h
  | cons x rest ih =>
    intro s s' os j s1 hr h
    obtain ⟨t, a⟩ := x
    obtain ⟨s2, o, os2, hap, hrr, rfl⟩ := Model.run_cons.mp hr
    cases j with
    | zero =>
      simp [statesOf] at h
      subst h
      simp [Model.run]
    | succ j =>
      simp only [statesOf, hap, List.cons_append, List.getElem?_cons_succ] at h
      have := ih s2 s' os2 j s1 hrr h
      simp only [List.take_succ_cons, Model.run, hap, this]

/-- Every run of the model lifts to an instrumented run: the ghost state at the end satisfies the invariant, and
    its `hist` / `pend` / `trace` are the history / pending table / state sequence of the run. -/
theorem run_ghost {Q : Sys σ α} (hQ : Q.HelpOK) : ∀ (sched : List (Tid × Act)) (g : GSt σ) (s' : σ) (os : List (Tid × Obs)),
    GI Q g → Q.model.run g.s sched = some (s', os) →
    ∃ g', GI Q g' ∧ g'.s = s' ∧ g'.hist = g.hist ++ histAux g.clock g.pend os ∧
      g'.pend = pendAux g.clock g.pend os ∧ g'.clock = g.clock + os.length ∧
      g'.trace = g.trace ++ statesOf Q.model g.s sched := by
  intro sched
  induction sched with
  | nil =>
    intro g s' os hg hr
    simp [Model.run] at hr
    obtain ⟨rfl, rfl⟩ := hr
    exact ⟨g, hg, rfl, by simp [histAux], by simp [pendAux], by simp, by simp [statesOf]⟩
  | cons x rest ih =>
    intro g s' os hg hr
    obtain ⟨t, a⟩ := x
    obtain ⟨s1, o, os2, hap, hrr, rfl⟩ := Model.run_cons.mp hr
    obtain ⟨us, hg1⟩ := gi_apply hQ hg hap
    obtain ⟨g', hg', hs', hh, hp, hc, htr⟩ := ih (gnext Q g t s1 us o) s' os2 hg1 hrr
    refine ⟨g', hg', hs', ?_, ?_, ?_, ?_⟩
    · rw [hh]; exact gnext_hist Q g t s1 us o os2
    · rw [hp]; exact gnext_pend Q g t s1 us o os2
    · rw [hc]; simp only [gnext, List.length_cons]; omega
    · rw [htr]; simp [gnext, statesOf, hap]

theorem run_ghost_init {Q : Sys σ α} (hQ : Q.HelpOK) {sched : List (Tid × Act)} {s : σ} {os : List (Tid × Obs)}
    (h : Q.model.run Q.init sched = some (s, os)) :
    ∃ g, GI Q g ∧ g.s = s ∧ g.hist = historyOf os ∧ g.pend = pendingOf os ∧ g.clock = os.length ∧
      g.trace = statesOf Q.model Q.init sched := by
  obtain ⟨g, hg, h1, h2, h3, h4, h5⟩ := run_ghost hQ sched (ginit Q.init) s os (gi_init hQ.toBaseOK) h
  exact ⟨g, hg, h1, by simpa [ginit, historyOf] using h2, by simpa [ginit, pendingOf] using h3,
    by simpa [ginit] using h4, by simpa [ginit] using h5⟩

/-! ### From the ghost invariant to linearizability -/

/-- The log without the open inert entries (tentative, or definitive but not yet returned): these are pending
    operations, and the final linearization simply drops them. -/
def finalLog (Q : Sys σ α) (log : List LE) : List LE := log.filter (fun e => !(e.res.isNone && Q.inert e.op e.ret))

/-- The linearization extracted from the ghost log. -/
theorem gi_linearizable {Q : Sys σ α} (hQ : Q.BaseOK) {g : GSt σ} (h : GI Q g) :
    Linearizable Q.spec (g.hist ++ (openAll (finalLog Q g.log)).map (LE.fin g.clock)) ∧
    (∀ e ∈ (openAll (finalLog Q g.log)).map (LE.fin g.clock),
        g.pend e.tid = some (e.op, e.inv) ∧ e.res = g.clock ∧ Q.postRet g.s e.tid = some e.ret) ∧
    ((openAll (finalLog Q g.log)).map (LE.fin g.clock)).Pairwise (fun a b => a.tid ≠ b.tid) := by
  obtain ⟨hinv, ⟨a, ha, -⟩, ⟨hinvlt, hrt, hcomp⟩, -, -, -, hth⟩ := h
  have hsub : (finalLog Q g.log).Sublist g.log := List.filter_sublist
  have hdrop : ∀ e ∈ g.log, (!(e.res.isNone && Q.inert e.op e.ret)) = false → e.res = none ∧ Q.inert e.op e.ret = true := by
    intro e _ hk
    simpa using hk
  have hcompl : completed (finalLog Q g.log) = completed g.log :=
    completed_filter_open _ g.log (fun e he hk => (hdrop e he hk).1)
  refine ⟨⟨(finalLog Q g.log).map (LE.fin g.clock), ?_, ?_, ?_⟩, ?_, ?_⟩
  · refine (completed_openAll_perm g.clock (finalLog Q g.log)).symm.trans (List.Perm.append_right _ ?_)
    rw [hcompl]; exact hcomp
  · unfold RespectsRT
    rw [List.pairwise_map]
    refine List.Pairwise.imp_of_mem ?_ (hrt.sublist hsub)
    intro a b ha _ hab
    simp only [LE.fin]
    cases hr : b.res with
    | none => have := hinvlt a (hsub.subset ha); simp; omega
    | some r => have := hab r hr; simp; omega
  · exact legal_of_runSpec Q.spec g.clock (finalLog Q g.log) _ _
      (runSpec_filter Q.spec _ g.log _ _ (fun e he hk => hQ.inert_ok _ _ (hdrop e he hk).2) ha)
  · intro e' he'
    obtain ⟨e, he, rfl⟩ := List.mem_map.mp he'
    have he2 := List.mem_filter.mp he
    have he3 := List.mem_filter.mp he2.1
    have hr : e.res = none := by cases h : e.res <;> simp_all
    have hni : Q.inert e.op e.ret = false := by simpa [hr] using he3.2
    have hmem : e ∈ openOf e.tid g.log := by
      simp only [openOf, List.mem_filter]; exact ⟨he3.1, by simp [hr]⟩
    cases hp : Q.lpRet g.s e.tid with
    | none => rw [(hth e.tid).preopen hp] at hmem; simp at hmem
    | some r =>
      obtain ⟨op, k, h1, h2, -⟩ := (hth e.tid).post r hp
      rw [h2, List.mem_singleton] at hmem
      have e1 : e.op = op := by rw [hmem]
      have e2 : e.inv = k := by rw [hmem]
      have e3 : e.ret = r := by rw [hmem]
      have hpr : Q.postRet g.s e.tid = some r := by
        rcases hQ.lp_post _ _ _ hinv hp with hpr | hin
        · exact hpr
        · have := (hth e.tid).inert h1 hin
          rw [← e1, ← e3, hni] at this; cases this
      simp [LE.fin, hr, h1, e1, e2, e3, hpr]
  · rw [List.pairwise_map]
    refine (openAll_pairwise g.log ?_).sublist (List.Sublist.filter _ hsub)
    intro t
    cases hp : Q.lpRet g.s t with
    | none => rw [(hth t).preopen hp]; simp
    | some r => obtain ⟨op, k, -, h2, -⟩ := (hth t).post r hp; rw [h2]; simp

/-! ### Main theorems -/

/-- The structural invariant holds in every reachable state. -/
theorem Sys.HelpOK.inv_reachable {Q : Sys σ α} (hQ : Q.HelpOK) (s : σ) (h : Q.model.Reachable Q.init s) : Q.Inv s := by
  obtain ⟨sched, os, hr⟩ := h
  obtain ⟨g, hg, rfl, -⟩ := run_ghost_init hQ hr
  exact hg.inv

/-- **Linearizability** (Herlihy–Wing, with completion of pending operations).  For every run of the machine, the
    history of the completed operations, extended by response records `extra` for SOME of the operations still
    pending at the end (operations that have passed their linearization point definitively — `postRet` — they get
    the result fixed there and the response time "end of the run"; at most one per thread), is linearizable to
    `Q.spec`.  All other pending operations are dropped. -/
theorem Sys.HelpOK.linearizable {Q : Sys σ α} (hQ : Q.HelpOK) (sched : List (Tid × Act)) (s : σ)
    (os : List (Tid × Obs)) (h : Q.model.run Q.init sched = some (s, os)) :
    ∃ extra : List (OpRec GOp GRet),
      (∀ e ∈ extra, pendingOf os e.tid = some (e.op, e.inv) ∧ e.res = os.length ∧
          Q.postRet s e.tid = some e.ret) ∧
      extra.Pairwise (fun a b => a.tid ≠ b.tid) ∧
      Linearizable Q.spec (historyOf os ++ extra) := by
  obtain ⟨g, hg, rfl, h2, h3, h4, -⟩ := run_ghost_init hQ h
  obtain ⟨hlin, hex, hpw⟩ := gi_linearizable hQ.toBaseOK hg
  rw [h2, h3, h4] at *
  exact ⟨_, hex, hpw, hlin⟩

/-- If no pending operation has passed its linearization point definitively, the history of the completed
    operations is linearizable as it is. -/
theorem Sys.HelpOK.linearizable_no_effect_pending {Q : Sys σ α} (hQ : Q.HelpOK) (sched : List (Tid × Act)) (s : σ)
    (os : List (Tid × Obs)) (h : Q.model.run Q.init sched = some (s, os)) (hq : ∀ t, Q.postRet s t = none) :
    Linearizable Q.spec (historyOf os) := by
  obtain ⟨extra, hex, -, hlin⟩ := hQ.linearizable sched s os h
  have : extra = [] := by
    apply List.eq_nil_iff_forall_not_mem.mpr
    intro e he
    have := (hex e he).2.2
    rw [hq] at this; cases this
  simpa [this] using hlin

/-- **Hindsight, on runs.**  Every completed operation of a run has an instant `j` strictly between its call
    (observation `r.inv`) and its return (observation `r.res`) such that action `j` of the run, which leads from
    the state `s1` reached by the first `j` actions to `s2`, is the step of some thread that fixed the returned
    result. -/
theorem Sys.HelpOK.lp_hindsight {Q : Sys σ α} (hQ : Q.HelpOK) (sched : List (Tid × Act)) (s : σ)
    (os : List (Tid × Obs)) (h : Q.model.run Q.init sched = some (s, os)) (r : OpRec GOp GRet)
    (hr : r ∈ historyOf os) :
    ∃ j s1 u s2, r.inv < j ∧ j < r.res ∧ Q.model.run Q.init (sched.take j) = some (s1, os.take j) ∧
      Q.model.run Q.init (sched.take (j + 1)) = some (s2, os.take (j + 1)) ∧ HelpAt Q s1 u s2 r.tid r.op r.ret := by
  obtain ⟨g, hg, rfl, h2, -, -, h5⟩ := run_ghost_init hQ h
  obtain ⟨j, s1, u, s2, e1, e2, e3, e4, e5⟩ := hg.histlp r (h2 ▸ hr)
  rw [h5] at e3 e4
  exact ⟨j, s1, u, s2, e1, e2, statesOf_prefix Q.model sched Q.init _ os j s1 h e3,
    statesOf_prefix Q.model sched Q.init _ os (j + 1) s2 h e4, e5⟩

/-! The same for machines whose threads pass no linearization points but their own. -/

theorem inv_reachable {Q : Sys σ α} (hQ : Q.OK) (s : σ) (h : Q.model.Reachable Q.init s) : Q.Inv s :=
  hQ.help.inv_reachable s h

theorem linearizable {Q : Sys σ α} (hQ : Q.OK) (sched : List (Tid × Act)) (s : σ) (os : List (Tid × Obs))
    (h : Q.model.run Q.init sched = some (s, os)) :
    ∃ extra : List (OpRec GOp GRet),
      (∀ e ∈ extra, pendingOf os e.tid = some (e.op, e.inv) ∧ e.res = os.length ∧
          Q.postRet s e.tid = some e.ret) ∧
      extra.Pairwise (fun a b => a.tid ≠ b.tid) ∧
      Linearizable Q.spec (historyOf os ++ extra) :=
  hQ.help.linearizable sched s os h

theorem linearizable_no_effect_pending {Q : Sys σ α} (hQ : Q.OK) (sched : List (Tid × Act)) (s : σ)
    (os : List (Tid × Obs)) (h : Q.model.run Q.init sched = some (s, os)) (hq : ∀ t, Q.postRet s t = none) :
    Linearizable Q.spec (historyOf os) :=
  hQ.help.linearizable_no_effect_pending sched s os h hq

/-- In the state `s1` reached by the first `j` actions of the run, the next step of the operation's own thread is
    the linearization point that fixed the returned result. -/
theorem lp_hindsight {Q : Sys σ α} (hQ : Q.OK) (sched : List (Tid × Act)) (s : σ) (os : List (Tid × Obs))
    (h : Q.model.run Q.init sched = some (s, os)) (r : OpRec GOp GRet) (hr : r ∈ historyOf os) :
    ∃ j s1, r.inv < j ∧ j < r.res ∧ Q.model.run Q.init (sched.take j) = some (s1, os.take j) ∧
      LPAt Q s1 r.tid r.op r.ret := by
  obtain ⟨j, s1, u, s2, e1, e2, e3, -, hinv, hop, h1, ⟨ev, hs⟩, h2⟩ := hQ.help.lp_hindsight sched s os h r hr
  have hu : r.tid = u := by
    apply Classical.byContradiction
    intro hne
    rw [(hQ.step s1 u s2 ev hinv hs).frame.lp r.tid hne, h1] at h2; cases h2
  subst hu
  exact ⟨j, s1, e1, e2, e3, hinv, hop, h1, s2, ev, hs, h2⟩

end CdsVerif.LPLin
